import SqlgrepModel.Lemmas.LexRun
/-
The tokenizer on a concatenation `A ++ B` when `A` ends cleanly behind a `;`.

`tokenize` is a fold over the characters with a state; after `A` the state holds `A`'s tokens, a position, and the flags
"inside a string / a comment / behind a backslash / inside a word or number / directly behind an operator character".
If all flags are off and the last token is `;` (`CleanEnd`), what the fold does on the characters of `B` is what it does
on `B` alone, except for (a) the locations stamped on tokens and errors and (b) `A`'s tokens staying below `B`'s: a last
token `;` takes part in none of the token fusions (`IS NOT`, `NOT IN`, `::`, two-character operators, `--`).
So `tokenize (A ++ B)` = the tokens of `A` (without `End`) followed by the tokens of `B` up to locations, and an error of
`B` is an error of `A ++ B` of the same kind (`tokenize_append`).

Without `CleanEnd` the statement is false: a text that ends inside a comment or a string swallows the beginning of `B`
(examples in `Props/C18Defs.lean`).
-/
namespace Sqlgrep.Lex.Concat
open Sqlgrep.Lex

/-- two states of the fold over the same characters: `a` started behind the tokens `… ;` (`base`, last first, below the
`;`) of an earlier text, `b` started from scratch; they agree on everything but positions -/
structure Rel (base : List Tok) (a b : St) : Prop where
  toks : a.toks.map (·.tok) = b.toks.map (·.tok) ++ .semi :: base
  cur : a.cur = b.cur
  esc : a.esc = b.esc
  com : a.com = b.com
  prevOp : a.prevOp = b.prevOp
  pend : a.pend = b.pend

/-- the same for results: both go on (related), or both stop with the same error kind / the same missing fact -/
def RRel (base : List Tok) : R → R → Prop
  | .run a, .run b => Rel base a b
  | .fail _ e, .fail _ e' => e = e'
  | .missing w, .missing w' => w = w'
  | _, _ => False

variable {base : List Tok} {a b : St}

theorem Rel.sameLast (h : Rel base a b) : SameLast a b := by
  have ht := h.toks
  rw [SameLast, lastTok_eq, lastTok_eq, ht]
  cases b.toks with
  | nil => exact .inr ⟨rfl, rfl⟩
  | cons q s => exact .inl rfl

theorem Rel.tail_toks (h : Rel base a b) (hne : b.toks ≠ []) :
    a.toks.tail.map (·.tok) = b.toks.tail.map (·.tok) ++ .semi :: base := by
  have ht := h.toks
  cases hb : b.toks with
  | nil => exact absurd hb hne
  | cons q s => rw [List.map_tail, ht, hb]; rfl

theorem Rel.add (h : Rel base a b) (t : Tok) : Rel base (a.add t) (b.add t) :=
  ⟨congrArg (t :: ·) h.toks, h.cur, h.esc, h.com, h.prevOp, h.pend⟩

theorem Rel.tokOp {a' b' : St} (h : Rel base a b) (ht : TokOp a b a' b') : Rel base a' b' := by
  cases ht with
  | add t _ => exact h.add t
  | addOp c => exact ⟨congrArg (_ :: ·) h.toks, h.cur, h.esc, h.com, rfl, h.pend⟩
  | setLast t _ hne =>
    have ht := h.tail_toks hne
    unfold St.setLast
    cases hb : b.toks with
    | nil => exact absurd hb hne
    | cons q s =>
      cases ha : a.toks with
      | nil => have := h.toks; rw [ha, hb] at this; cases this
      | cons p r =>
        rw [ha, hb] at ht
        exact ⟨congrArg (t :: ·) ht, h.cur, h.esc, h.com, h.prevOp, h.pend⟩

theorem Rel.flushNumber (o : Oracles) (h : Rel base a b) (w : List Char) (d : Bool) :
    RRel base (flushNumber o a w d) (flushNumber o b w d) := by
  unfold Lex.flushNumber
  cases d with
  | true =>
    simp only [if_true]
    cases o.fparse w with
    | bits x => exact h.tokOp (.add _ nofun)
    | err => rfl
    | missing =>
      simp only []
      cases DecFloat.parseF64 w with
      | some x => exact h.tokOp (.add _ nofun)
      | none => rfl
  | false =>
    simp only [Bool.false_eq_true, if_false]
    cases Lit.parseI64 (w.map Char.toNat) with
    | some i => exact h.tokOp (.add _ nofun)
    | none => rfl

theorem Rel.flush (o : Oracles) (h : Rel base a b) : RRel base (flush o a) (flush o b) := by
  have h0 : Rel base { a with pend := .none } { b with pend := .none } := ⟨h.toks, h.cur, h.esc, h.com, h.prevOp, rfl⟩
  unfold Lex.flush
  rw [h.pend]
  cases b.pend with
  | none => exact h
  | ident r => exact h0.tokOp (flushIdent_tokOp o h0.sameLast _)
  | number r d => exact h0.flushNumber o _ d

theorem Rel.operator (h : Rel base a b) (adj : Bool) (c : Char) : Rel base (operator a adj c) (operator b adj c) :=
  h.tokOp (operator_tokOp h.sameLast adj c)

theorem Rel.lastTok_dash (h : Rel base a b) : a.lastTok = some dashDash ↔ b.lastTok = some dashDash := by
  rcases h.sameLast with e | ⟨ea, eb⟩
  · rw [e]
  · rw [ea, eb]; exact ⟨nofun, nofun⟩

theorem Rel.dashCheck (h : Rel base a b) : Rel base a.dashCheck b.dashCheck := by
  unfold St.dashCheck
  simp only [h.lastTok_dash]
  exact ite_ite (fun hl => ⟨h.tail_toks (toks_ne_nil_of_lastTok hl), h.cur, h.esc, rfl, h.prevOp, h.pend⟩) fun _ => h

theorem Rel.bodyCore (o : Oracles) (h : Rel base a b) (adj : Bool) (c : Char) :
    Rel base (bodyCore o adj a c) (bodyCore o adj b c) := by
  have flags (cur : Option (List Char)) (esc com : Bool) : Rel base { a with cur, esc, com } { b with cur, esc, com } :=
    ⟨h.toks, rfl, rfl, rfl, h.prevOp, h.pend⟩
  unfold Lex.bodyCore Lex.quote
  rw [h.com, h.esc, h.cur]
  refine ite_ite (fun _ => ite_ite (fun _ => flags ..) fun _ => ?_) fun _ => ite_ite (fun _ => flags ..) fun _ =>
    ite_ite (fun _ => ?_) fun _ => ?_
  · exact h
  · cases b.cur with
    | some s => exact (flags none _ _).tokOp (.add _ nofun)
    | none => exact flags ..
  · cases b.cur with
    | some s => exact flags ..
    | none =>
      rcases classify_cases o (flags none false b.com).sameLast adj c with ⟨ea, eb⟩ | ⟨p, ea, eb⟩ | ht
      · rw [ea, eb]; exact flags ..
      · rw [ea, eb]; exact ⟨h.toks, rfl, rfl, rfl, h.prevOp, rfl⟩
      · exact (flags ..).tokOp ht

theorem Rel.body (o : Oracles) (h : Rel base a b) (c : Char) : Rel base (body o a c) (body o b c) := by
  have ha : Rel base (a.advance c) (b.advance c) := by
    unfold St.advance
    exact ite_ite (fun _ => ⟨h.toks, h.cur, h.esc, h.com, rfl, h.pend⟩) fun _ => ⟨h.toks, h.cur, h.esc, h.com, rfl, h.pend⟩
  rw [body_eq, body_eq, h.prevOp]
  exact ha.dashCheck.bodyCore o _ c

theorem RRel.bind {x y : R} {f g : St → R} (h : RRel base x y) (hf : ∀ a b, Rel base a b → RRel base (f a) (g b)) :
    RRel base (x.bind f) (y.bind g) := by
  cases x with
  | run a =>
    cases y with
    | run b => exact hf a b h
    | _ => exact h.elim
  | fail l e =>
    cases y with
    | fail l' e' => exact h
    | _ => exact h.elim
  | missing w =>
    cases y with
    | missing w' => exact h
    | _ => exact h.elim

theorem Rel.step (o : Oracles) (h : Rel base a b) (c : Char) : RRel base (step o a c) (step o b c) := by
  have cont (p : Pending) : Rel base { a with pend := p, col := a.col + 1 } { b with pend := p, col := b.col + 1 } :=
    ⟨h.toks, h.cur, h.esc, h.com, h.prevOp, rfl⟩
  have fl : RRel base ((Lex.flush o a).bind fun st => .run (Lex.body o st c)) ((Lex.flush o b).bind fun st => .run (Lex.body o st c)) :=
    (h.flush o).bind fun _ _ h' => h'.body o c
  unfold Lex.step
  rw [h.pend]
  cases b.pend with
  | none => exact h.body o c
  | ident r => exact ite_ite (fun _ => cont _) fun _ => fl
  | number r d =>
    refine ite_ite (fun _ => cont _) fun _ => ite_ite (fun _ => ?_) fun _ => fl
    cases d
    · exact cont _
    · rfl

theorem RRel.foldl (o : Oracles) : ∀ (text : List Char) {x y : R}, RRel base x y →
    RRel base (text.foldl (Lex.stepR o) x) (text.foldl (Lex.stepR o) y) := by
  intro text
  induction text with
  | nil => intro x y h; exact h
  | cons c cs ih => intro x y h; exact ih (h.bind fun _ _ h' => h'.step o c)

theorem Rel.close (h : Rel base a b) : Rel base a.close b.close := by
  unfold St.close
  simp only [h.lastTok_dash]
  by_cases hl : b.lastTok = some dashDash
  · rw [if_pos hl, if_pos hl]
    have ht : Rel base { a with toks := a.toks.tail } { b with toks := b.toks.tail } :=
      ⟨h.tail_toks (toks_ne_nil_of_lastTok hl), h.cur, h.esc, h.com, h.prevOp, h.pend⟩
    exact ht.add _
  · rw [if_neg hl, if_neg hl]; exact h.add _

theorem RRel.finish (o : Oracles) {x y : R} (h : RRel base x y) : RRel base (x.bind (finish o)) (y.bind (finish o)) :=
  h.bind fun _ _ h' => (h'.flush o).bind fun _ _ h'' => h''.close

/-- **the text `A` ends cleanly behind a `;`**: the fold over `A` ends outside strings, comments and escapes, with no
word or number under way, not directly behind an operator character, and the last token is `;`. `toks` are the tokens
of `A` (last first, without `End`). Decidable by running the tokenizer on `A`. -/
def CleanEnd (o : Oracles) (A : List Char) (st : St) : Prop :=
  run o {} A = .run st ∧ st.cur = none ∧ st.esc = false ∧ st.com = false ∧ st.prevOp = false ∧ st.pend = .none ∧
  st.lastTok = some .semi

theorem CleanEnd.rel {o : Oracles} {A : List Char} {st : St} (h : CleanEnd o A st) :
    ∃ base, st.toks.map (·.tok) = .semi :: base ∧ Rel base st {} := by
  obtain ⟨_, hcur, hesc, hcom, hprev, hpend, hlast⟩ := h
  rw [lastTok_eq] at hlast
  cases ht : st.toks.map (·.tok) with
  | nil => rw [ht] at hlast; cases hlast
  | cons t r =>
    rw [ht] at hlast
    cases hlast
    exact ⟨r, rfl, ht, hcur, hesc, hcom, hprev, hpend⟩

/-- **tokens of a concatenation.** `A` ends cleanly behind a `;` in the state `st` (its tokens, last first, without `End`).
Then for every text `B`:
* `B` tokenizes to `tsB` ⇒ `A ++ B` tokenizes to the tokens of `A` followed by the tokens of `B` (up to locations: the
  positions of `B`'s tokens are counted from the beginning of `A`);
* `B` has a tokenizer error ⇒ `A ++ B` has a tokenizer error of the same kind;
* `B` needs a fact that was not shipped ⇒ so does `A ++ B`. -/
theorem tokenize_append (o : Oracles) (A B : List Char) (st : St) (h : CleanEnd o A st) :
    match tokenize o B with
    | .ok tsB => ∃ ts, tokenize o (A ++ B) = .ok ts ∧ ts.map (·.tok) = st.toks.reverse.map (·.tok) ++ tsB.map (·.tok)
    | .error _ e => ∃ loc, tokenize o (A ++ B) = .error loc e
    | .missing w => tokenize o (A ++ B) = .missing w := by
  obtain ⟨base, hbase, hrel⟩ := h.rel
  have hfin : RRel base ((run o {} (A ++ B)).bind (finish o)) ((run o {} B).bind (finish o)) := by
    rw [run_append, h.1]
    exact (RRel.foldl o B (x := .run st) (y := .run {}) hrel).finish o
  unfold tokenize
  cases hx : (run o {} (A ++ B)).bind (finish o) <;> cases hy : (run o {} B).bind (finish o) <;>
    rw [hx, hy] at hfin <;> simp only [RRel] at hfin <;> try exact hfin.elim
  · rename_i sa sb
    simp only []
    refine ⟨sa.toks.reverse, rfl, ?_⟩
    have ht := hfin.toks
    rw [← hbase] at ht
    rw [List.map_reverse, ht, List.reverse_append, List.map_reverse, List.map_reverse]
  · subst hfin; exact ⟨_, rfl⟩
  · subst hfin; rfl

end Sqlgrep.Lex.Concat
