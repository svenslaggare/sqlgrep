import SqlgrepModel.Lemmas.AggPermTable
/-
C15: the known deviation classes of C04 (`Spec.Agg.deviationClass`: D15 "ARRAY_AGG whose first value in a group is NULL",
D10 "a group in which no aggregate creates an entry") as a function of the MULTISET of the input rows.

* D15 looks at the FIRST argument value of ARRAY_AGG in a group — the arrival order. For a statement without ARRAY_AGG
  (in particular for the statements of C15: every aggregate order-insensitive) it is constantly false
  (`arrayAggFirstNull_false`).
* D10 asks, per group, whether some aggregate has an argument value at all / a non-NULL one: a property of the multiset
  of the group's rows (`groupVisible_perm`); and "some group is invisible" is a statement about the rows, not about the
  order in which the groups are listed (`groups_any_eq`, `Lemmas/AggKeys.lean`) — no exactness of keys is needed.

Hence `deviationClass_perm`: for statements whose aggregates are order-insensitive the class of an input and of any
permutation of it are the same. With ARRAY_AGG it is false (`Props/C15.lean` has the kernel-evaluated witness).
-/
set_option linter.unusedSimpArgs false
namespace Sqlgrep
open Value Spec.Agg

theorem firstNull_false_of_orderInsensitive {k : AggKind} (hk : orderInsensitive k = true) (vs : List Value) :
    firstNull k vs = false := by
  cases k <;> cases vs <;> first | rfl | simp [orderInsensitive] at hk

/-- **D15 cannot arise without ARRAY_AGG** -/
theorem arrayAggFirstNull_false {O : Oracles} {q : AggStmt} (hOI : ∀ kind ∈ slotKinds q, orderInsensitive kind = true)
    (g : List Env) : arrayAggFirstNull O q g = false := by
  unfold arrayAggFirstNull
  apply List.any_eq_false.mpr
  intro k hk
  cases arguments O q k g with
  | none => simp
  | some vs => simp [firstNull_false_of_orderInsensitive (hOI k hk)]

theorem createsEntry_perm (k : AggKind) {v1 v2 : List Value} (h : v1.Perm v2) : createsEntry k v1 = createsEntry k v2 := by
  have h1 := h.isEmpty_eq
  have h2 := (h.filter (fun v => !v.isNull)).isEmpty_eq
  cases k <;> simp only [createsEntry, nonNull, h1, h2]

/-- **D10 is a property of the multiset of a group's rows** -/
theorem groupVisible_perm (O : Oracles) (q : AggStmt) {g1 g2 : List Env} (h : g1.Perm g2) :
    groupVisible O q g1 = groupVisible O q g2 := by
  unfold groupVisible
  congr 1
  funext k
  have ha := arguments_perm O q k h
  cases h1 : arguments O q k g1 <;> cases h2 : arguments O q k g2 <;> rw [h1, h2] at ha <;> simp only [OptPerm] at ha
  · exact createsEntry_perm k ha

/-- **the deviation class (D10 / D15) of an input is the deviation class of every permutation of it**, for statements
whose aggregates are all order-insensitive (no ARRAY_AGG, whose D15 looks at the first value) — no hypothesis on keys,
values or sums -/
theorem deviationClass_perm {O : Oracles} {q : AggStmt} (hOI : ∀ kind ∈ slotKinds q, orderInsensitive kind = true)
    {e1 e2 : List Env} (h : e1.Perm e2) : deviationClass O q e1 = deviationClass O q e2 := by
  unfold deviationClass
  have hk := keyedRows_perm O q h
  cases h1 : keyedRows O q e1 with
  | none => rw [h1] at hk; rw [optPerm_none_left hk]
  | some r1 =>
    obtain ⟨r2, hr2, hp⟩ := optPerm_some_left (h1 ▸ hk)
    simp only [hr2]
    have hA : ∀ rows : List (List Value × Env),
        (groups rows).any (fun (x : List Value × List Env) => match x with | (_, g) => arrayAggFirstNull O q g) = false := by
      intro rows
      apply List.any_eq_false.mpr
      intro kg _
      simp [arrayAggFirstNull_false hOI]
    have hV : (groups r1).any (fun (x : List Value × List Env) => match x with | (_, g) => !groupVisible O q g) =
        (groups r2).any (fun (x : List Value × List Env) => match x with | (_, g) => !groupVisible O q g) :=
      groups_any_perm (P := fun g => !groupVisible O q g) (fun g1 g2 hg => by simp only [groupVisible_perm O q hg]) hp
    rw [hA, hA, hV]

end Sqlgrep
