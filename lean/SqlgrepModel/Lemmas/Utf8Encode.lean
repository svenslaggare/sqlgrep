import SqlgrepModel.Model.Text
/-
`Utf8.encodeChar` by ranges: the encoding of a code point is decided by which of the four ranges
(below 0x80, 0x800, 0x10000, or above) it falls in; within a range the bytes are the base-64 digits of the code point,
the first one tagged with the length. Everything else about `encode` is derived from these equations: what `decode`
reads is written back, and Lean's own encoder (`String.toUTF8`) writes the same bytes.
-/
namespace Sqlgrep

theorem char_toNat_lt (c : Char) : c.toNat < 0x110000 := by
  have h : c.toNat < 0xD800 ∨ (0xDFFF < c.toNat ∧ c.toNat < 0x110000) := c.valid
  omega

namespace Utf8

theorem toNat_ofNat_valid {n : Nat} (h : n < 0xD800 ∨ (0xE000 ≤ n ∧ n < 0x110000)) : (Char.ofNat n).toNat = n := by
  have hv : n.isValidChar := h.imp id fun h => ⟨h.1, h.2⟩
  unfold Char.ofNat
  rw [dif_pos hv]
  rfl

theorem toNat_ofNat_small {n : Nat} (h : n < 0xD800) : (Char.ofNat n).toNat = n := toNat_ofNat_valid (Or.inl h)

/-- `encodeChar` as a function of the code point number -/
def encodeNat (n : Nat) : List Nat :=
  if n < 0x80 then [n]
  else if n < 0x800 then [0xC0 + n / 64, 0x80 + n % 64]
  else if n < 0x10000 then [0xE0 + n / 4096, 0x80 + n / 64 % 64, 0x80 + n % 64]
  else [0xF0 + n / 262144, 0x80 + n / 4096 % 64, 0x80 + n / 64 % 64, 0x80 + n % 64]

theorem encodeChar_eq (c : Char) : encodeChar c = encodeNat c.toNat := rfl

theorem encodeNat_of_lt_80 {n : Nat} (h : n < 0x80) : encodeNat n = [n] := if_pos h

theorem encodeNat_of_lt_800 {n : Nat} (h1 : 0x80 ≤ n) (h2 : n < 0x800) :
    encodeNat n = [0xC0 + n / 64, 0x80 + n % 64] := by
  rw [encodeNat, if_neg (Nat.not_lt.2 h1), if_pos h2]

theorem encodeNat_of_lt_10000 {n : Nat} (h1 : 0x800 ≤ n) (h2 : n < 0x10000) :
    encodeNat n = [0xE0 + n / 4096, 0x80 + n / 64 % 64, 0x80 + n % 64] := by
  rw [encodeNat, if_neg (by omega), if_neg (Nat.not_lt.2 h1), if_pos h2]

theorem encodeNat_of_ge_10000 {n : Nat} (h : 0x10000 ≤ n) :
    encodeNat n = [0xF0 + n / 262144, 0x80 + n / 4096 % 64, 0x80 + n / 64 % 64, 0x80 + n % 64] := by
  rw [encodeNat, if_neg (by omega), if_neg (by omega), if_neg (Nat.not_lt.2 h)]

theorem encodeNat_cases (n : Nat) :
    (n < 0x80 ∧ encodeNat n = [n]) ∨
    (0x80 ≤ n ∧ n < 0x800 ∧ encodeNat n = [0xC0 + n / 64, 0x80 + n % 64]) ∨
    (0x800 ≤ n ∧ n < 0x10000 ∧ encodeNat n = [0xE0 + n / 4096, 0x80 + n / 64 % 64, 0x80 + n % 64]) ∨
    (0x10000 ≤ n ∧
      encodeNat n = [0xF0 + n / 262144, 0x80 + n / 4096 % 64, 0x80 + n / 64 % 64, 0x80 + n % 64]) := by
  by_cases h1 : n < 0x80
  · exact .inl ⟨h1, encodeNat_of_lt_80 h1⟩
  by_cases h2 : n < 0x800
  · exact .inr (.inl ⟨Nat.not_lt.1 h1, h2, encodeNat_of_lt_800 (Nat.not_lt.1 h1) h2⟩)
  by_cases h3 : n < 0x10000
  · exact .inr (.inr (.inl ⟨Nat.not_lt.1 h2, h3, encodeNat_of_lt_10000 (Nat.not_lt.1 h2) h3⟩))
  · exact .inr (.inr (.inr ⟨Nat.not_lt.1 h3, encodeNat_of_ge_10000 (Nat.not_lt.1 h3)⟩))

/-! The other direction: the number `decode` reads from a lead byte and continuation bytes is written back as these
bytes. With the payloads `x` of the bytes (`b = tag + x`) it is `((x0 * 64 + x1) * 64 + x2) * 64 + x3`, and the bytes
`encodeNat` writes are its base-64 digits. -/

theorem div_4096 (n : Nat) : n / 4096 = n / 64 / 64 := (Nat.div_div_eq_div_mul n 64 64).symm

theorem div_262144 (n : Nat) : n / 262144 = n / 64 / 64 / 64 := by
  rw [Nat.div_div_eq_div_mul, Nat.div_div_eq_div_mul]

theorem mul64_add_div {a b : Nat} (h : b < 64) : (a * 64 + b) / 64 = a := by
  rw [Nat.mul_comm, Nat.mul_add_div (by decide), Nat.div_eq_of_lt h]; rfl

theorem mul64_add_mod {a b : Nat} (h : b < 64) : (a * 64 + b) % 64 = b := by
  rw [Nat.mul_comm, Nat.mul_add_mod, Nat.mod_eq_of_lt h]

theorem mul64_add_lt {a b k : Nat} (ha : a < k) (hb : b < 64) : a * 64 + b < k * 64 := by
  have h := Nat.mul_le_mul_right 64 (Nat.succ_le_of_lt ha)
  rw [Nat.succ_mul] at h
  exact Nat.lt_of_lt_of_le (Nat.add_lt_add_left hb _) h

theorem isCont_iff {b : Nat} : isCont b = true ↔ 0x80 ≤ b ∧ b < 0xC0 := by
  simp only [isCont, Bool.and_eq_true, decide_eq_true_eq]

theorem isCont_payload {b : Nat} (h : isCont b = true) : ∃ x, b = 0x80 + x ∧ x < 64 :=
  ⟨b - 0x80, by have := isCont_iff.1 h; omega, by have := isCont_iff.1 h; omega⟩

theorem encodeNat_two {b0 b1 n : Nat} (hn : n = (b0 - 0xC0) * 64 + (b1 - 0x80)) (h0 : 0xC2 ≤ b0) (h0' : b0 < 0xE0)
    (h1 : isCont b1 = true) : n < 0x800 ∧ encodeNat n = [b0, b1] := by
  rw [hn] at *
  obtain ⟨x0, rfl⟩ := Nat.exists_eq_add_of_le (Nat.le_trans (by decide : 0xC0 ≤ 0xC2) h0)
  obtain ⟨x1, rfl, hx1⟩ := isCont_payload h1
  rw [Nat.add_sub_cancel_left, Nat.add_sub_cancel_left]
  have hlt := mul64_add_lt (Nat.lt_of_add_lt_add_left (n := 0xC0) (k := x0) (m := 32) h0') hx1
  exact ⟨hlt, by rw [encodeNat_of_lt_800 (by omega) hlt, mul64_add_div hx1, mul64_add_mod hx1]⟩

theorem encodeNat_three {b0 b1 b2 n : Nat} (hn : n = (b0 - 0xE0) * 4096 + (b1 - 0x80) * 64 + (b2 - 0x80))
    (h0 : 0xE0 ≤ b0) (h0' : b0 < 0xF0) (h1 : isCont b1 = true) (h2 : isCont b2 = true) (h : 0x800 ≤ n) :
    n < 0x10000 ∧ encodeNat n = [b0, b1, b2] := by
  rw [hn] at *
  obtain ⟨x0, rfl⟩ := Nat.exists_eq_add_of_le h0
  obtain ⟨x1, rfl, hx1⟩ := isCont_payload h1
  obtain ⟨x2, rfl, hx2⟩ := isCont_payload h2
  rw [Nat.add_sub_cancel_left, Nat.add_sub_cancel_left, Nat.add_sub_cancel_left] at h ⊢
  have e : x0 * 4096 + x1 * 64 + x2 = (x0 * 64 + x1) * 64 + x2 := by simp only [Nat.add_mul, Nat.mul_assoc]
  rw [e] at h ⊢
  have hlt := mul64_add_lt (mul64_add_lt (Nat.lt_of_add_lt_add_left (n := 0xE0) (k := x0) (m := 16) h0') hx1) hx2
  exact ⟨hlt, by rw [encodeNat_of_lt_10000 h hlt, div_4096, mul64_add_div hx2, mul64_add_mod hx2, mul64_add_div hx1,
    mul64_add_mod hx1]⟩

theorem encodeNat_four {b0 b1 b2 b3 n : Nat}
    (hn : n = (b0 - 0xF0) * 262144 + (b1 - 0x80) * 4096 + (b2 - 0x80) * 64 + (b3 - 0x80)) (h0 : 0xF0 ≤ b0)
    (h1 : isCont b1 = true) (h2 : isCont b2 = true) (h3 : isCont b3 = true) (h : 0x10000 ≤ n) :
    encodeNat n = [b0, b1, b2, b3] := by
  rw [hn] at *
  obtain ⟨x0, rfl⟩ := Nat.exists_eq_add_of_le h0
  obtain ⟨x1, rfl, hx1⟩ := isCont_payload h1
  obtain ⟨x2, rfl, hx2⟩ := isCont_payload h2
  obtain ⟨x3, rfl, hx3⟩ := isCont_payload h3
  rw [Nat.add_sub_cancel_left, Nat.add_sub_cancel_left, Nat.add_sub_cancel_left, Nat.add_sub_cancel_left] at h ⊢
  have e : x0 * 262144 + x1 * 4096 + x2 * 64 + x3 = ((x0 * 64 + x1) * 64 + x2) * 64 + x3 := by
    simp only [Nat.add_mul, Nat.mul_assoc]
  rw [e] at h ⊢
  rw [encodeNat_of_ge_10000 h, div_262144, div_4096, mul64_add_div hx3, mul64_add_mod hx3, mul64_add_div hx2,
    mul64_add_mod hx2, mul64_add_div hx1, mul64_add_mod hx1]

theorem encodeNat_high {n : Nat} (h : 0x80 ≤ n) : ∀ b ∈ encodeNat n, 0x80 ≤ b := by
  have c : ∀ x, 0x80 ≤ 0x80 + x := fun x => Nat.le_add_right _ x
  have l : ∀ {t} x, 0x80 ≤ t → 0x80 ≤ t + x := fun x ht => Nat.le_trans ht (Nat.le_add_right _ x)
  rcases encodeNat_cases n with ⟨h1, _⟩ | ⟨_, _, e⟩ | ⟨_, _, e⟩ | ⟨_, e⟩ <;> try rw [e]
  · exact absurd h1 (Nat.not_lt.2 h)
  · exact List.forall_mem_cons.2 ⟨l _ (by decide), List.forall_mem_cons.2 ⟨c _, nofun⟩⟩
  · exact List.forall_mem_cons.2 ⟨l _ (by decide), List.forall_mem_cons.2 ⟨c _, List.forall_mem_cons.2 ⟨c _, nofun⟩⟩⟩
  · exact List.forall_mem_cons.2 ⟨l _ (by decide), List.forall_mem_cons.2 ⟨c _, List.forall_mem_cons.2 ⟨c _,
      List.forall_mem_cons.2 ⟨c _, nofun⟩⟩⟩⟩

theorem encode_nil : encode [] = [] := rfl

theorem encode_cons (c : Char) (cs : List Char) : encode (c :: cs) = encodeChar c ++ encode cs := rfl

theorem encode_append (a b : List Char) : encode (a ++ b) = encode a ++ encode b := List.flatMap_append

theorem encodeChar_ascii {b : Nat} (h : b < 128) : encodeChar (Char.ofNat b) = [b] := by
  rw [encodeChar_eq, toNat_ofNat_small (by omega), encodeNat_of_lt_80 h]

end Utf8

theorem encode_ascii (cs : List Char) (h : ∀ c ∈ cs, c.toNat < 128) : Utf8.encode cs = cs.map Char.toNat := by
  induction cs with
  | nil => rfl
  | cons c cs ih =>
    rw [Utf8.encode_cons, Utf8.encodeChar_eq, Utf8.encodeNat_of_lt_80 (h c List.mem_cons_self),
      ih fun c' hc' => h c' (List.mem_cons_of_mem _ hc')]
    rfl

theorem byteArray_get!_eq (bs : ByteArray) (i : Nat) (hi : i < bs.data.toList.length) :
    bs.get! i = bs.data.toList[i] := by
  cases bs with
  | mk a =>
    show a[i]! = a.toList[i]
    rw [Array.getElem_toList, getElem!_pos a i hi]

theorem byteArray_toList_loop (bs : ByteArray) (i : Nat) (r : List UInt8) :
    ByteArray.toList.loop bs i r = r.reverse ++ bs.data.toList.drop i := by
  fun_induction ByteArray.toList.loop bs i r with
  | case1 i r hi ih =>
    have hi' : i < bs.data.toList.length := hi
    rw [ih, List.reverse_cons, List.append_assoc, List.drop_eq_getElem_cons hi', byteArray_get!_eq bs i hi']
    rfl
  | case2 i r hi => rw [List.drop_eq_nil_of_le (Nat.not_lt.1 hi), List.append_nil]

theorem byteArray_toList_eq (bs : ByteArray) : bs.toList = bs.data.toList := byteArray_toList_loop bs 0 []

theorem toByteArray_toList (l : List UInt8) : l.toByteArray.toList = l := by
  rw [byteArray_toList_eq, List.data_toByteArray]

theorem toNat_ofNat_add (a t : Nat) (h : a + t < 256) : (UInt8.ofNat (a + t)).toNat = t + a := by
  rw [UInt8.toNat_ofNat', Nat.mod_eq_of_lt h, Nat.add_comm]

theorem toNat_contByte (x : Nat) : (UInt8.ofNat (x % 64 + 128)).toNat = 0x80 + x % 64 :=
  toNat_ofNat_add _ _ (Nat.lt_of_lt_of_le (Nat.add_lt_add_right (Nat.mod_lt x (by decide)) 128) (by decide))

/-- core masks the payload of a lead byte to the bits it has room for; in the range of its length it fits -/
theorem toNat_leadByte {q k : Nat} (t : Nat) (hq : q < k) (ht : k + t ≤ 256) :
    (UInt8.ofNat (q % k + t)).toNat = t + q := by
  rw [Nat.mod_eq_of_lt hq]
  exact toNat_ofNat_add _ _ (Nat.lt_of_lt_of_le (Nat.add_lt_add_right hq t) ht)

theorem utf8EncodeChar_eq (c : Char) : (String.utf8EncodeChar c).map UInt8.toNat = Utf8.encodeChar c := by
  have hlt : c.val.toNat < 0x110000 := char_toNat_lt c
  rw [Utf8.encodeChar_eq]
  unfold String.utf8EncodeChar
  show List.map UInt8.toNat _ = Utf8.encodeNat c.val.toNat
  dsimp only
  generalize c.val.toNat = n at *
  rcases Utf8.encodeNat_cases n with ⟨h1, e⟩ | ⟨h1, h2, e⟩ | ⟨h2, h3, e⟩ | ⟨h3, e⟩ <;> rw [e]
  · rw [if_pos (Nat.le_of_lt_succ h1)]
    exact congrArg (· :: []) (Nat.mod_eq_of_lt (Nat.lt_trans h1 (by decide)))
  · rw [if_neg (Nat.not_le.2 h1), if_pos (Nat.le_of_lt_succ h2)]
    simp only [List.map_cons, List.map_nil, toNat_contByte,
      toNat_leadByte (q := n / 64) (k := 32) 192 (Nat.div_lt_of_lt_mul h2) (by decide)]
  · rw [if_neg (Nat.not_le.2 (Nat.lt_of_lt_of_le (by decide) h2)), if_neg (Nat.not_le.2 h2),
      if_pos (Nat.le_of_lt_succ h3)]
    simp only [List.map_cons, List.map_nil, toNat_contByte,
      toNat_leadByte (q := n / 4096) (k := 16) 224 (Nat.div_lt_of_lt_mul h3) (by decide)]
  · rw [if_neg (Nat.not_le.2 (Nat.lt_of_lt_of_le (by decide) h3)),
      if_neg (Nat.not_le.2 (Nat.lt_of_lt_of_le (by decide) h3)), if_neg (Nat.not_le.2 h3)]
    simp only [List.map_cons, List.map_nil, toNat_contByte,
      toNat_leadByte (q := n / 262144) (k := 8) 240 (Nat.div_lt_of_lt_mul (Nat.lt_trans hlt (by decide))) (by decide)]

theorem toUTF8_ofList (cs : List Char) : (String.ofList cs).toUTF8.toList.map (·.toNat) = Utf8.encode cs := by
  unfold String.toUTF8
  rw [String.toByteArray_ofList]
  unfold List.utf8Encode
  rw [toByteArray_toList]
  induction cs with
  | nil => rfl
  | cons c cs ih => rw [List.flatMap_cons, List.map_append, ih]; exact congrArg (· ++ _) (utf8EncodeChar_eq c)

theorem decode_ascii (cs : List Char) (h : ∀ c ∈ cs, c.toNat < 128) : Utf8.decode (cs.map Char.toNat) = some cs := by
  induction cs with
  | nil => rfl
  | cons c cs ih =>
    rw [List.map_cons, Utf8.decode.eq_def]
    simp only []
    rw [if_pos (h c List.mem_cons_self), ih fun c' hc' => h c' (List.mem_cons_of_mem _ hc'), Char.ofNat_toNat]; rfl

/-- The bytes of an ASCII string literal decode to its characters. The kernel reads a literal as `String.ofList` of its
characters at no cost, whereas evaluating `String.toUTF8` on it takes time quadratic in its length: the examples on
byte lines rewrite with this before they evaluate. -/
theorem decode_lit (cs : List Char) (h : ∀ c ∈ cs, c.toNat < 128) :
    Utf8.decode ((String.ofList cs).toUTF8.toList.map (·.toNat)) = some cs := by
  rw [toUTF8_ofList, encode_ascii cs h, decode_ascii cs h]

end Sqlgrep
