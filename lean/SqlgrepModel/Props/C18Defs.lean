import SqlgrepModel.Props.C18Text
import SqlgrepModel.Lemmas.DefsConcat
/-
C18, "irrespective of which other tables are defined", for definition TEXTS that are sequences of statements (audit item
M14; audited with `Props/C18.lean` and `Props/C18Text.lean` by `./check C18`).

A definition text is a sequence of `CREATE TABLE … ;` statements; `parsing::parse` turns it into the list of the lowered
statements (`stmtsOf`), `Tables::add_tables` inserts them into a `HashMap` in that order. This file states, over the whole
program `Pipeline.runText`:

* **statements under other names, anywhere** (`unrelated_statements_irrelevant`, `unrelated_definitions_irrelevant`): two
  accepted definition texts whose statements *that define the queried table's name or the joined table's name* are the
  same, in the same order — whatever other statements stand before, between or after them, in whatever order — give the
  same answer for every query text, format and input. (`Props/C18Text.other_definitions_irrelevant` is the special case
  "the second text has further statements before and after".) In particular the order of the definitions of DIFFERENT
  names is immaterial (example below: `exB` before and after `exDefs`).
* **a name defined twice: the last definition wins** (`earlier_definition_of_same_name_irrelevant`,
  `redefinition_replaces`): a statement whose name is defined again later in the text might as well not be there; so a
  text that defines `t` twice answers like the text with the second definition only. (`HashMap::insert`; the sentence of
  C18 does not speak about this case, the model mirrors the code and the `e2e` cases of `harness/src/c18.rs` compare them.)
* **honest limits** (`rejected_definitions_never_run`, `not_create_table_never_run`): a definition text of which ANY part
  is not accepted — a statement that does not parse, a pattern `Regex::new` rejects, an unknown type, a statement that is
  not a CREATE TABLE — is rejected as a whole: the answer is `rejected` / `notCreateTable`, never a run, so never a run over
  a different set of tables. Adding a broken definition is therefore NOT harmless, and is not claimed to be.
* **concatenating texts** (section "texts", below): what `parsing::parse` makes of `A ++ B` when `A` ends cleanly after a
  `;` (`Lex.CleanEnd`: not inside a string, a comment, an escape, a word or a number) — the statements of `A` followed by
  the statements of `B` — and what it makes of it otherwise (examples: an unterminated comment or string at the end of
  `A` swallows the beginning of `B`; then the tables of `B` are NOT defined and a query over them fails with
  `TableNotFound` — the answer changes, which is why the hypothesis is there).

`\d` and tab completion of the interactive shell list `Tables::tables()` in hash order; they are outside `runText` and
outside the property, which is about query output.
-/
namespace Sqlgrep.Props.C18Defs
open Sqlgrep Sqlgrep.Pipeline Sqlgrep.Pipeline.Concat
open Sqlgrep.Props.Pipeline (exFacts exDefs recordsOf exFacts_eq)

/-- the statements of a lowered definition text (`Lower.stmtsOf`: the list of a `multiple`, else the statement itself) -/
abbrev stmtsOf : LStmt → List LStmt := Lower.Concat.stmtsOf

/-- the name a CREATE TABLE statement defines -/
def definedName : LStmt → Option String
  | .createTable n _ _ => some n
  | _ => none

/-- the statement defines the queried table's name or the joined table's name -/
def relevant (fromTable : String) (join : Option LJoin) (s : LStmt) : Bool :=
  match definedName s with
  | some n => n == fromTable || (match join with
    | some j => n == j.joinedTable
    | none => false)
  | none => false

/-- `Tables::add_tables`: every statement must be a CREATE TABLE; the tables in statement order -/
theorem addTables_eq (defs : LStmt) : addTables defs = (stmtsOf defs).mapM Pipeline.tableOf := by
  cases defs <;> simp [addTables, stmtsOf, Lower.Concat.stmtsOf, Option.map] <;> cases Pipeline.tableOf _ <;> rfl

theorem tableOf_name (s : LStmt) (t : Table) (h : Pipeline.tableOf s = some t) : definedName s = some t.name := by
  cases s <;> simp [Pipeline.tableOf] at h
  subst h; rfl

theorem tables_named (n : String) : ∀ (ss : List LStmt) (ts : List Table), ss.mapM Pipeline.tableOf = some ts →
    ts.filter (fun t => t.name == n) = (ss.filter (fun s => definedName s == some n)).filterMap Pipeline.tableOf := by
  intro ss ts h
  replace h := mapM_eq_some_iff.1 h
  induction ss generalizing ts with
  | nil => cases ts with
    | nil => rfl
    | cons _ _ => cases h
  | cons s ss ih =>
    cases ts with
    | nil => cases h
    | cons t tr =>
      obtain ⟨hs, hr⟩ := List.cons.inj h
      have e : (definedName s == some n) = (t.name == n) := by rw [tableOf_name s t hs, Option.some_beq_some]
      rw [List.filter_cons, List.filter_cons, e]
      cases t.name == n
      · exact ih tr hr
      · rw [if_pos rfl, if_pos rfl, List.filterMap_cons, hs]
        exact congrArg _ (ih tr hr)

theorem filter_named_of_relevant (fromTable : String) (join : Option LJoin) (n : String)
    (hn : n = fromTable ∨ ∃ j, join = some j ∧ n = j.joinedTable) (ss : List LStmt) :
    ss.filter (fun s => definedName s == some n) =
      (ss.filter (relevant fromTable join)).filter (fun s => definedName s == some n) := by
  rw [List.filter_filter]
  congr 1
  funext s
  by_cases h : (definedName s == some n) = true
  · have hd : definedName s = some n := by simpa using h
    have : relevant fromTable join s = true := by
      unfold relevant
      rw [hd]
      rcases hn with rfl | ⟨j, rfl, rfl⟩ <;> simp
    simp [h, this]
  · have : (definedName s == some n) = false := by simpa using h
    simp [this]

/-- **statements under other names are irrelevant, wherever they stand.** Two lists of CREATE TABLE statements whose
sub-lists of the statements defining the queried name or the joined name coincide: the run of the statement is the same -/
theorem unrelated_statements_irrelevant (F : Facts) (ss ss' : List LStmt) (ts ts' : List Table)
    (stmt : Stmt) (fromTable : String) (join : Option LJoin) (files : List (List Nat))
    (ht : ss.mapM Pipeline.tableOf = some ts) (ht' : ss'.mapM Pipeline.tableOf = some ts')
    (hrel : ss.filter (relevant fromTable join) = ss'.filter (relevant fromTable join)) :
    runStatement F ts stmt fromTable join files = runStatement F ts' stmt fromTable join files := by
  apply Props.C18.other_tables_irrelevant
  · rw [tables_named fromTable ss ts ht, tables_named fromTable ss' ts' ht',
      filter_named_of_relevant fromTable join fromTable (Or.inl rfl) ss,
      filter_named_of_relevant fromTable join fromTable (Or.inl rfl) ss', hrel]
  · intro j hj
    rw [tables_named j.joinedTable ss ts ht, tables_named j.joinedTable ss' ts' ht',
      filter_named_of_relevant fromTable join j.joinedTable (Or.inr ⟨j, hj, rfl⟩) ss,
      filter_named_of_relevant fromTable join j.joinedTable (Or.inr ⟨j, hj, rfl⟩) ss', hrel]

/-- a definition text is accepted by the program (and the case ships `Regex::new` for its patterns): it lowers to `defs`,
whose statements are all CREATE TABLE -/
structure Accepted (F : Facts) (defsText : List Char) (defs : LStmt) (tables : List Table) : Prop where
  classes : classesCover F defsText = true
  parsed : parseText (lexOracles F) (regexValidFn F) defsText = .stmt defs
  shipped : (createPatterns defs).all (fun re => ((Utf8.decode re).bind (regexValidOf F)).isSome) = true
  tables : addTables defs = some tables

theorem Accepted.front_eq {F : Facts} {defsText queryText : List Char} {defs query : LStmt} {tables : List Table} {stmt : Stmt}
    {fromTable : String} {join : Option LJoin} (ha : Accepted F defsText defs tables) (hcq : classesCover F queryText = true)
    (hq : parseText (lexOracles F) (regexValidFn F) queryText = .stmt query) (hs : stmtOf query = some (stmt, fromTable, join)) :
    front F defsText queryText = .run tables stmt fromTable join :=
  front_eq_run_iff.2 ⟨defs, query, ⟨ha.classes, hcq⟩, ha.parsed, ha.shipped, hq, ha.tables, hs⟩

/-- **C18 at text level, statements interleaved.** Two accepted definition texts whose statements defining the queried
table's name / the joined table's name are the same and in the same order — further CREATE TABLE statements under other
names before, between, after them, in any order — : for every query text, output format and input the program answers
the same (printed lines, error, line count). -/
theorem unrelated_definitions_irrelevant (F : Facts) (defsText defsText' queryText : List Char) (fmt : Print.Format)
    (single : Bool) (files : List (List Nat)) (defs defs' query : LStmt) (tables tables' : List Table)
    (stmt : Stmt) (fromTable : String) (join : Option LJoin)
    (ha : Accepted F defsText defs tables) (ha' : Accepted F defsText' defs' tables')
    (hcq : classesCover F queryText = true)
    (hq : parseText (lexOracles F) (regexValidFn F) queryText = .stmt query)
    (hs : stmtOf query = some (stmt, fromTable, join))
    (hrel : (stmtsOf defs).filter (relevant fromTable join) = (stmtsOf defs').filter (relevant fromTable join)) :
    runText F defsText' queryText fmt single files = runText F defsText queryText fmt single files := by
  have ht := ha.tables; have ht' := ha'.tables
  rw [runText_of_front (ha'.front_eq hcq hq hs), runText_of_front (ha.front_eq hcq hq hs)]
  rw [addTables_eq] at ht ht'
  rw [unrelated_statements_irrelevant F (stmtsOf defs') (stmtsOf defs) tables' tables stmt fromTable join files ht' ht hrel.symm]

theorem getTable_drop_shadowed (pre post : List Table) (t : Table) (h : ∃ u ∈ post, u.name = t.name) (n : String) :
    getTable (pre ++ t :: post) n = getTable (pre ++ post) n := by
  rw [Props.C18.lookup_depends_on_same_named_tables (pre ++ t :: post), Props.C18.lookup_depends_on_same_named_tables (pre ++ post)]
  simp only [List.filter_append, List.filter_cons]
  by_cases hn : (t.name == n) = true
  · -- the shadowed definition is of the name looked up: a later one of that name is found instead
    simp only [hn, if_true]
    obtain ⟨u, hu, hname⟩ := h
    have hun : (u.name == n) = true := by rw [hname]; exact hn
    have hmem : u ∈ post.filter (fun t => t.name == n) := List.mem_filter.2 ⟨hu, hun⟩
    unfold getTable
    simp only [List.reverse_append, List.reverse_cons, List.append_assoc]
    -- the reversed list starts with the (non-empty) reversed later definitions, all of that name
    have hall : ∀ x ∈ (post.filter (fun t => t.name == n)).reverse, (x.name == n) = true := by
      intro x hx; exact (List.mem_filter.1 (List.mem_reverse.1 hx)).2
    have hne : (post.filter (fun t => t.name == n)).reverse ≠ [] := by
      intro he; rw [List.reverse_eq_nil_iff] at he; rw [he] at hmem; simp at hmem
    cases hr : (post.filter (fun t => t.name == n)).reverse with
    | nil => exact absurd hr hne
    | cons x xs =>
      have hx : (x.name == n) = true := hall x (by rw [hr]; exact List.mem_cons_self)
      simp [hx]
  · have hn' : (t.name == n) = false := by simpa using hn
    simp [hn']

/-- **the last definition of a name wins**: a table whose name is defined again later in the list does not matter to any
statement -/
theorem earlier_definition_of_same_name_irrelevant (F : Facts) (pre post : List Table) (t : Table)
    (h : ∃ u ∈ post, u.name = t.name) (stmt : Stmt) (fromTable : String) (join : Option LJoin) (files : List (List Nat)) :
    runStatement F (pre ++ t :: post) stmt fromTable join files = runStatement F (pre ++ post) stmt fromTable join files := by
  have e := getTable_drop_shadowed pre post t h
  unfold runStatement
  rw [e fromTable]
  cases join with
  | none => cases getTable (pre ++ post) fromTable <;> rfl
  | some j =>
    cases getTable (pre ++ post) fromTable with
    | none => rfl
    | some t1 => simp only [e j.joinedTable]

/-- … at text level: a definition text with a statement whose name a LATER statement defines again answers like the text
without that statement. (`defs'` = `defs` with the earlier statement removed; both texts accepted.) -/
theorem redefinition_replaces (F : Facts) (defsText defsText' queryText : List Char) (fmt : Print.Format)
    (single : Bool) (files : List (List Nat)) (defs defs' query : LStmt) (tables tables' : List Table)
    (stmt : Stmt) (fromTable : String) (join : Option LJoin)
    (ha : Accepted F defsText defs tables) (ha' : Accepted F defsText' defs' tables')
    (hcq : classesCover F queryText = true)
    (hq : parseText (lexOracles F) (regexValidFn F) queryText = .stmt query)
    (hs : stmtOf query = some (stmt, fromTable, join))
    (pre post : List LStmt) (c : LStmt) (hd : stmtsOf defs = pre ++ c :: post) (hd' : stmtsOf defs' = pre ++ post)
    (hlater : ∃ c' ∈ post, definedName c' = definedName c) :
    runText F defsText queryText fmt single files = runText F defsText' queryText fmt single files := by
  have ht := ha.tables; have ht' := ha'.tables
  rw [runText_of_front (ha'.front_eq hcq hq hs), runText_of_front (ha.front_eq hcq hq hs)]
  rw [addTables_eq, hd] at ht
  rw [addTables_eq, hd'] at ht'
  obtain ⟨tp, _, hp, h2, rfl⟩ := mapM_append_eq_some.1 ht
  obtain ⟨tc, tpo, hc, hpo, rfl⟩ := mapM_cons_eq_some.1 h2
  obtain ⟨tp', tpo', hp', hpo', rfl⟩ := mapM_append_eq_some.1 ht'
  cases hp.symm.trans hp'
  cases hpo.symm.trans hpo'
  obtain ⟨c', hc'm, hc'n⟩ := hlater
  obtain ⟨u, hu, hus⟩ := mapM_mem_left hpo hc'm
  have hname : some u.name = some tc.name := by rw [← tableOf_name c' u hus, hc'n, tableOf_name c tc hc]
  rw [earlier_definition_of_same_name_irrelevant F tp tpo tc ⟨u, hu, Option.some.inj hname⟩ stmt fromTable join files]

/-- a definition text that `parsing::parse` does not turn into a statement (a tokenizer, parser or conversion error
anywhere in it — one broken CREATE TABLE among good ones is enough) never leads to a run: no records, no run-time error
kind, for any query, format and input. So a broken extra definition cannot make the program read "a different table" — it
makes it refuse to start. -/
theorem rejected_definitions_never_run (F : Facts) (defsText queryText : List Char) (fmt : Print.Format) (single : Bool)
    (files : List (List Nat)) (h : ∀ d, parseText (lexOracles F) (regexValidFn F) defsText ≠ .stmt d) :
    recordsOf (runText F defsText queryText fmt single files) = none := by
  unfold runText
  split
  · rfl
  · cases hp : parseText (lexOracles F) (regexValidFn F) defsText with
    | stmt d => exact absurd hp (h d)
    | _ => rfl

/-- … and when it is rejected for a definite reason the answer says so: `rejected definitions` with the error -/
theorem rejected_definitions_reported (F : Facts) (defsText queryText : List Char) (fmt : Print.Format) (single : Bool)
    (files : List (List Nat)) (hc : classesCover F defsText = true ∧ classesCover F queryText = true) (p : Parsed)
    (hp : parseText (lexOracles F) (regexValidFn F) defsText = p)
    (herr : (∃ l e, p = .lexError l e) ∨ (∃ e, p = .parseError e) ∨ (∃ e, p = .convertError e)) :
    runText F defsText queryText fmt single files = .rejected .definitions p := by
  unfold runText
  simp only [hc.1, hc.2, Bool.not_true, Bool.or_self, Bool.false_eq_true, if_false, hp]
  rcases herr with ⟨l, e, rfl⟩ | ⟨e, rfl⟩ | ⟨e, rfl⟩ <;> rfl

/-- a definition text that parses but holds a statement that is not a CREATE TABLE (`Tables::add_tables` answers false) -/
theorem not_create_table_never_run (F : Facts) (defs query : LStmt) (fmt : Print.Format) (single : Bool)
    (files : List (List Nat)) (h : addTables defs = none) : runLowered F defs query fmt single files = .notCreateTable := by
  unfold runLowered; rw [h]

/-! ### texts: concatenating definition texts

`Lemmas/DefsConcat.lean` `parseText_append`: for a text `A` that is accepted and ends behind the `) ;` of its last
statement (`EndsStatement`: outside strings, comments, escapes; decidable by running the tokenizer on `A`) and a text `B`
whose first token is `CREATE` (`FirstCreate`), `parsing::parse (A ++ B)` is the statements of `A` followed by those of
`B`, or `B`'s rejection. Both hypotheses are needed — see the examples at the end. -/

theorem creates_of_tables (defs : LStmt) (tables : List Table) (h : addTables defs = some tables) :
    ∀ s ∈ stmtsOf defs, ∃ n t cols, s = LStmt.createTable n t cols := by
  rw [addTables_eq] at h
  intro s hs
  obtain ⟨u, -, hu⟩ := mapM_mem_left h hs
  cases s <;> simp [Pipeline.tableOf] at hu
  exact ⟨_, _, _, rfl⟩

theorem createPatterns_stmts (defs : LStmt) (h : ∀ s ∈ stmtsOf defs, ∃ n t cols, s = LStmt.createTable n t cols) :
    createPatterns defs = createPatternsList (stmtsOf defs) := by
  cases defs with
  | multiple ss => rfl
  | createTable n t cols => simp [stmtsOf, Lower.Concat.stmtsOf, createPatterns, createPatternsList]
  | select a b c d => obtain ⟨n, t, cols, h'⟩ := h (LStmt.select a b c d) (by simp [stmtsOf, Lower.Concat.stmtsOf]); cases h'
  | aggregate a b c d => obtain ⟨n, t, cols, h'⟩ := h (LStmt.aggregate a b c d) (by simp [stmtsOf, Lower.Concat.stmtsOf]); cases h'

theorem createPatternsList_append (a b : List LStmt) :
    createPatternsList (a ++ b) = createPatternsList a ++ createPatternsList b := by
  induction a with
  | nil => rfl
  | cons x xs ih => simp [createPatternsList, ih]

theorem classesCover_append (F : Facts) (a b : List Char) :
    classesCover F (a ++ b) = (classesCover F a && classesCover F b) := by
  simp [classesCover, List.all_append]

theorem stmt_of_stripLoc {p : Parsed} {d : LStmt} (h : p.stripLoc = .stmt d) : p = .stmt d := by
  cases p <;> simp [Parsed.stripLoc] at h
  rw [h]

/-- **two accepted definition texts, concatenated, are an accepted definition text with the statements of the first
followed by the statements of the second** — when the first ends behind the `) ;` of its last statement and the second
starts with `CREATE`. -/
theorem accepted_append (F : Facts) (A B : List Char) (dA dB : LStmt) (tA tB : List Table)
    (hA : Accepted F A dA tA) (hB : Accepted F B dB tB)
    (hend : EndsStatement (lexOracles F) A) (hfirst : FirstCreate (lexOracles F) B) :
    Accepted F (A ++ B) (.multiple (stmtsOf dA ++ stmtsOf dB)) (tA ++ tB) := by
  have hcA := creates_of_tables dA tA hA.tables
  have hcB := creates_of_tables dB tB hB.tables
  refine ⟨?_, ?_, ?_, ?_⟩
  · rw [classesCover_append, hA.classes, hB.classes]; rfl
  · have := parseText_append (lexOracles F) (regexValidFn F) A B dA hend hA.parsed hcA hfirst
    rw [hB.parsed] at this
    exact stmt_of_stripLoc this
  · have h1 := hA.shipped
    have h2 := hB.shipped
    rw [createPatterns_stmts dA hcA] at h1
    rw [createPatterns_stmts dB hcB] at h2
    show (createPatternsList (stmtsOf dA ++ stmtsOf dB)).all _ = true
    rw [createPatternsList_append, List.all_append, h1, h2]; rfl
  · have h1 := hA.tables
    have h2 := hB.tables
    rw [addTables_eq] at h1 h2
    show (stmtsOf dA ++ stmtsOf dB).mapM Pipeline.tableOf = some (tA ++ tB)
    rw [List.mapM_append, h1, h2]; rfl

/-- the first token of `B ++ A2` is the first token of `B` -/
theorem firstCreate_append (o : Lex.Oracles) (B A2 : List Char) (hend : EndsStatement o B) (hfirst : FirstCreate o B) :
    FirstCreate o (B ++ A2) := by
  obtain ⟨st, hclean, q, p, rest, htoks, hp⟩ := hend
  obtain ⟨eB, htokB⟩ := tokenize_of_cleanEnd o B st hclean
  have happ := Lex.Concat.tokenize_append o B A2 st hclean
  unfold FirstCreate at hfirst ⊢
  rw [htokB] at hfirst
  have hrev : st.toks.reverse = rest.reverse ++ [p, q] := by simp [htoks]
  cases hA2 : Lex.tokenize o A2 with
  | error loc e => rw [hA2] at happ; obtain ⟨l, hl⟩ := happ; rw [hl]; trivial
  | missing w => rw [hA2] at happ; simp only [] at happ; rw [happ]; trivial
  | ok ts2 =>
    rw [hA2] at happ
    obtain ⟨ts, hts, hmap⟩ := happ
    rw [hts]
    rw [hrev] at hfirst hmap
    cases hr : rest.reverse with
    | nil =>
      rw [hr] at hfirst hmap
      simp only [List.nil_append, List.cons_append] at hfirst hmap
      cases ts with
      | nil => simp at hmap
      | cons t ts' => simp only [List.map_cons, List.cons_append, List.cons.injEq] at hmap; simp only []; rw [hmap.1]; exact hfirst
    | cons r0 rs =>
      rw [hr] at hfirst hmap
      simp only [List.cons_append] at hfirst hmap
      cases ts with
      | nil => simp at hmap
      | cons t ts' => simp only [List.map_cons, List.cons_append, List.cons.injEq] at hmap; simp only []; rw [hmap.1]; exact hfirst

/-- the statements of a text none of which defines a name the query reads -/
def Unrelated (fromTable : String) (join : Option LJoin) (defs : LStmt) : Prop :=
  (stmtsOf defs).filter (relevant fromTable join) = []

/-- **C18 on concatenated texts: further definitions appended.** `A` and `B` accepted, `A` ending behind `) ;`, `B`
starting with `CREATE` and defining only tables under names the query does not read: the program answers on `A ++ B`
what it answers on `A`. -/
theorem unrelated_text_appended (F : Facts) (A B queryText : List Char) (fmt : Print.Format) (single : Bool)
    (files : List (List Nat)) (dA dB query : LStmt) (tA tB : List Table) (stmt : Stmt) (fromTable : String)
    (join : Option LJoin) (hA : Accepted F A dA tA) (hB : Accepted F B dB tB)
    (hend : EndsStatement (lexOracles F) A) (hfirst : FirstCreate (lexOracles F) B)
    (hcq : classesCover F queryText = true) (hq : parseText (lexOracles F) (regexValidFn F) queryText = .stmt query)
    (hs : stmtOf query = some (stmt, fromTable, join)) (hun : Unrelated fromTable join dB) :
    runText F (A ++ B) queryText fmt single files = runText F A queryText fmt single files :=
  unrelated_definitions_irrelevant F A (A ++ B) queryText fmt single files dA _ query tA (tA ++ tB) stmt fromTable join
    hA (accepted_append F A B dA dB tA tB hA hB hend hfirst) hcq hq hs
    (by show _ = List.filter _ (stmtsOf dA ++ stmtsOf dB); rw [List.filter_append, hun, List.append_nil])

/-- **… prepended**: the same with the further definitions FIRST (now `B` has to end behind `) ;` and `A` to start with
`CREATE`) -/
theorem unrelated_text_prepended (F : Facts) (A B queryText : List Char) (fmt : Print.Format) (single : Bool)
    (files : List (List Nat)) (dA dB query : LStmt) (tA tB : List Table) (stmt : Stmt) (fromTable : String)
    (join : Option LJoin) (hA : Accepted F A dA tA) (hB : Accepted F B dB tB)
    (hend : EndsStatement (lexOracles F) B) (hfirst : FirstCreate (lexOracles F) A)
    (hcq : classesCover F queryText = true) (hq : parseText (lexOracles F) (regexValidFn F) queryText = .stmt query)
    (hs : stmtOf query = some (stmt, fromTable, join)) (hun : Unrelated fromTable join dB) :
    runText F (B ++ A) queryText fmt single files = runText F A queryText fmt single files :=
  unrelated_definitions_irrelevant F A (B ++ A) queryText fmt single files dA _ query tA (tB ++ tA) stmt fromTable join
    hA (accepted_append F B A dB dA tB tA hB hA hend hfirst) hcq hq hs
    (by show _ = List.filter _ (stmtsOf dB ++ stmtsOf dA); rw [List.filter_append, hun, List.nil_append])

/-- **… in between**: `A1 ++ B ++ A2` answers as `A1 ++ A2` -/
theorem unrelated_text_between (F : Facts) (A1 A2 B queryText : List Char) (fmt : Print.Format) (single : Bool)
    (files : List (List Nat)) (d1 d2 dB query : LStmt) (t1 t2 tB : List Table) (stmt : Stmt) (fromTable : String)
    (join : Option LJoin) (h1 : Accepted F A1 d1 t1) (h2 : Accepted F A2 d2 t2) (hB : Accepted F B dB tB)
    (hend1 : EndsStatement (lexOracles F) A1) (hendB : EndsStatement (lexOracles F) B)
    (hfirstB : FirstCreate (lexOracles F) B) (hfirst2 : FirstCreate (lexOracles F) A2)
    (hcq : classesCover F queryText = true) (hq : parseText (lexOracles F) (regexValidFn F) queryText = .stmt query)
    (hs : stmtOf query = some (stmt, fromTable, join)) (hun : Unrelated fromTable join dB) :
    runText F (A1 ++ (B ++ A2)) queryText fmt single files = runText F (A1 ++ A2) queryText fmt single files := by
  have hBA2 := accepted_append F B A2 dB d2 tB t2 hB h2 hendB hfirst2
  have hall := accepted_append F A1 (B ++ A2) d1 _ t1 _ h1 hBA2 hend1 (firstCreate_append _ B A2 hendB hfirstB)
  have h12 := accepted_append F A1 A2 d1 d2 t1 t2 h1 h2 hend1 hfirst2
  refine unrelated_definitions_irrelevant F (A1 ++ A2) (A1 ++ (B ++ A2)) queryText fmt single files _ _ query _ _ stmt
    fromTable join h12 hall hcq hq hs ?_
  show List.filter _ (stmtsOf d1 ++ stmtsOf d2) = List.filter _ (stmtsOf d1 ++ (stmtsOf dB ++ stmtsOf d2))
  rw [List.filter_append, List.filter_append, List.filter_append, hun, List.nil_append]

/-- **a broken definition text appended: the whole is rejected, with the same kind of error.** `A` accepted and ending
behind `) ;`, `B` starting with `CREATE` and NOT accepted by `parsing::parse` (a tokenizer, parser or conversion error —
an unparsable statement, a pattern `Regex::new` rejects, an unknown type): then `A ++ B` is rejected with an error of the
same kind (only its location differs: it is counted from the beginning of `A`), and no query runs. -/
theorem broken_text_appended_is_rejected (F : Facts) (A B queryText : List Char) (fmt : Print.Format) (single : Bool)
    (files : List (List Nat)) (dA : LStmt) (tA : List Table) (hA : Accepted F A dA tA)
    (hend : EndsStatement (lexOracles F) A) (hfirst : FirstCreate (lexOracles F) B)
    (hcB : classesCover F B = true) (hcq : classesCover F queryText = true) (p : Parsed)
    (hp : parseText (lexOracles F) (regexValidFn F) B = p)
    (herr : (∃ l e, p = .lexError l e) ∨ (∃ e, p = .parseError e) ∨ (∃ e, p = .convertError e)) :
    ∃ p', runText F (A ++ B) queryText fmt single files = .rejected .definitions p' ∧ p'.stripLoc = p.stripLoc := by
  have hcat := parseText_append (lexOracles F) (regexValidFn F) A B dA hend hA.parsed (creates_of_tables dA tA hA.tables) hfirst
  rw [hp] at hcat
  have hcc : classesCover F (A ++ B) = true ∧ classesCover F queryText = true := by
    rw [classesCover_append, hA.classes, hcB]; exact ⟨rfl, hcq⟩
  refine ⟨parseText (lexOracles F) (regexValidFn F) (A ++ B), ?_, ?_⟩
  · apply rejected_definitions_reported F (A ++ B) queryText fmt single files hcc _ rfl
    rcases herr with ⟨l, e, rfl⟩ | ⟨e, rfl⟩ | ⟨e, rfl⟩
    · left
      cases hx : parseText (lexOracles F) (regexValidFn F) (A ++ B) <;> rw [hx] at hcat <;>
        simp [Parsed.stripLoc, concatParsed] at hcat
      exact ⟨_, _, rfl⟩
    · right; left
      cases hx : parseText (lexOracles F) (regexValidFn F) (A ++ B) <;> rw [hx] at hcat <;>
        simp [Parsed.stripLoc, concatParsed] at hcat
      exact ⟨_, rfl⟩
    · right; right
      cases hx : parseText (lexOracles F) (regexValidFn F) (A ++ B) <;> rw [hx] at hcat <;>
        simp [Parsed.stripLoc, concatParsed] at hcat
      exact ⟨_, rfl⟩
  · rw [hcat]
    rcases herr with ⟨l, e, rfl⟩ | ⟨e, rfl⟩ | ⟨e, rfl⟩ <;> rfl

/-! ### examples: the hypotheses checked by evaluation, and why they are there -/

/-- `EndsStatement`, decided by running the tokenizer -/
def endsStatementB (o : Lex.Oracles) (A : List Char) : Bool :=
  match Lex.run o {} A with
  | .run st =>
    st.cur.isNone && !st.esc && !st.com && !st.prevOp && (st.pend == .none) &&
    (match st.toks with
     | q :: p :: _ => (q.tok == .semi) && (p.tok == .rp)
     | _ => false)
  | _ => false

theorem endsStatement_of_check (o : Lex.Oracles) (A : List Char) (h : endsStatementB o A = true) : EndsStatement o A := by
  unfold endsStatementB at h
  cases hr : Lex.run o {} A with
  | fail l e => rw [hr] at h; cases h
  | missing w => rw [hr] at h; cases h
  | run st =>
    rw [hr] at h
    simp only [Bool.and_eq_true, Bool.not_eq_eq_eq_not, Bool.not_true, beq_iff_eq, Option.isNone_iff_eq_none] at h
    obtain ⟨⟨⟨⟨⟨hcur, hesc⟩, hcom⟩, hprev⟩, hpend⟩, htoks⟩ := h
    cases ht : st.toks with
    | nil => rw [ht] at htoks; cases htoks
    | cons q r =>
      cases r with
      | nil => rw [ht] at htoks; cases htoks
      | cons p rest =>
        rw [ht] at htoks
        simp only [Bool.and_eq_true, beq_iff_eq] at htoks
        exact ⟨st, ⟨hr, hcur, hesc, hcom, hprev, hpend, by simp [Lex.St.lastTok, ht, htoks.1]⟩, q, p, rest, ht, htoks.2⟩

/-- `FirstCreate`, decided by running the tokenizer -/
def firstCreateB (o : Lex.Oracles) (B : List Char) : Bool :=
  match Lex.tokenize o B with
  | .ok (t :: _) => t.tok == .kw .create
  | .ok [] => false
  | _ => true

theorem firstCreate_of_check (o : Lex.Oracles) (B : List Char) (h : firstCreateB o B = true) : FirstCreate o B := by
  unfold firstCreateB at h
  unfold FirstCreate
  cases ht : Lex.tokenize o B with
  | ok ts => rw [ht] at h; cases ts with
    | nil => cases h
    | cons t r => simpa using h
  | error l e => trivial
  | missing w => trivial

/-- `Accepted`, decided by running the program's front end -/
def acceptedB (F : Facts) (D : List Char) : Bool :=
  classesCover F D &&
  match parseText (lexOracles F) (regexValidFn F) D with
  | .stmt defs =>
    (createPatterns defs).all (fun re => ((Utf8.decode re).bind (regexValidOf F)).isSome) && (addTables defs).isSome
  | _ => false

theorem accepted_of_check (F : Facts) (D : List Char) (h : acceptedB F D = true) : ∃ defs tables, Accepted F D defs tables := by
  unfold acceptedB at h
  simp only [Bool.and_eq_true] at h
  obtain ⟨hc, h⟩ := h
  cases hp : parseText (lexOracles F) (regexValidFn F) D with
  | stmt defs =>
    rw [hp] at h
    simp only [Bool.and_eq_true] at h
    obtain ⟨hs, ht⟩ := h
    obtain ⟨tables, htab⟩ := Option.isSome_iff_exists.1 ht
    exact ⟨defs, tables, hc, hp, hs, htab⟩
  | _ => rw [hp] at h; cases h

def exB : List Char := " CREATE TABLE other(line = '^([a-z]+);([0-9]+)$', line[1] => x TEXT);".toList
def exU : List Char := "\nCREATE TABLE u(line = '^([a-z]+);([0-9]+)$', line[2] => w INT);".toList

/-- the hypotheses of `accepted_append` / `unrelated_text_appended` / `unrelated_text_prepended` /
`unrelated_text_between` hold for these texts (each decided by evaluation) -/
theorem exTexts_checked : acceptedB exFacts exDefs = true ∧ acceptedB exFacts exB = true ∧ acceptedB exFacts exU = true ∧
    endsStatementB (lexOracles exFacts) exDefs = true ∧ endsStatementB (lexOracles exFacts) exB = true ∧
    firstCreateB (lexOracles exFacts) exB = true ∧ firstCreateB (lexOracles exFacts) exDefs = true ∧
    firstCreateB (lexOracles exFacts) exU = true := by
  unfold exDefs exB exU; rw [String.toList_ofList, String.toList_ofList, String.toList_ofList, exFacts_eq]
  rw [endsStatementB, endsStatementB, firstCreateB, firstCreateB, firstCreateB]
  simp only [acceptedB, parseText_eq_K, Lex.run_eq_K, Lex.tokenize_eq_K]
  decide +kernel

example : acceptedB exFacts exDefs = true ∧ acceptedB exFacts exB = true ∧ acceptedB exFacts exU = true ∧
    endsStatementB (lexOracles exFacts) exDefs = true ∧ endsStatementB (lexOracles exFacts) exB = true ∧
    firstCreateB (lexOracles exFacts) exB = true ∧ firstCreateB (lexOracles exFacts) exDefs = true ∧
    firstCreateB (lexOracles exFacts) exU = true := exTexts_checked

/-- … and the program's answers: `other` appended, prepended, and between `t` and `u` — the same records -/
example :
    recordsOf (runText exFacts (exDefs ++ exB) "select k, v from t".toList .text false [strBytes "a;1\nb;2\n"]) =
      some (none, 2, [strBytes "k: 'a', v: 1", strBytes "k: 'b', v: 2"]) ∧
    recordsOf (runText exFacts (exB ++ exDefs) "select k, v from t".toList .text false [strBytes "a;1\nb;2\n"]) =
      some (none, 2, [strBytes "k: 'a', v: 1", strBytes "k: 'b', v: 2"]) ∧
    recordsOf (runText exFacts (exDefs ++ (exB ++ exU)) "select k, v from t".toList .text false [strBytes "a;1\nb;2\n"]) =
      recordsOf (runText exFacts (exDefs ++ exU) "select k, v from t".toList .text false [strBytes "a;1\nb;2\n"]) := by
  unfold exDefs exB exU; rw [String.toList_ofList, String.toList_ofList, String.toList_ofList, String.toList_ofList, exFacts_eq]
  simp only [runText_eq_K]; decide +kernel

section
-- else the elaborator, handed `FirstCreate … exB` as an expected type, unfolds it and runs the tokenizer
attribute [local irreducible] FirstCreate
/-- `unrelated_text_appended` applied: the checks above discharge its hypotheses -/
example (queryText : List Char) (fmt : Print.Format) (single : Bool) (files : List (List Nat)) (query : LStmt) (stmt : Stmt)
    (join : Option LJoin) (dA dB : LStmt) (tA tB : List Table) (hA : Accepted exFacts exDefs dA tA)
    (hB : Accepted exFacts exB dB tB) (hcq : classesCover exFacts queryText = true)
    (hq : parseText (lexOracles exFacts) (regexValidFn exFacts) queryText = .stmt query)
    (hs : stmtOf query = some (stmt, "t", join)) (hun : Unrelated "t" join dB) :
    runText exFacts (exDefs ++ exB) queryText fmt single files = runText exFacts exDefs queryText fmt single files :=
  unrelated_text_appended exFacts exDefs exB queryText fmt single files dA dB query tA tB stmt "t" join hA hB
    (endsStatement_of_check (lexOracles exFacts) exDefs exTexts_checked.2.2.2.1)
    (firstCreate_of_check (lexOracles exFacts) exB exTexts_checked.2.2.2.2.2.1) hcq hq hs hun
end

/-- **why `EndsStatement` is a hypothesis (1): a text that ends inside a comment.** `exDefs ++ " -- the tables"` is accepted
on its own and does NOT end a statement in the sense above (the comment is still open); appending `exB` to it puts the
beginning of `exB` — here all of it — into the comment: table `other` is not defined, and a query over it fails with
`TableNotFound`, whereas with a line break after the comment it answers. -/
example :
    acceptedB exFacts (exDefs ++ " -- the tables".toList) = true ∧
    endsStatementB (lexOracles exFacts) (exDefs ++ " -- the tables".toList) = false ∧
    recordsOf (runText exFacts (exDefs ++ " -- the tables".toList ++ exB) "select x from other".toList .text false [strBytes "a;1\n"]) =
      some (some .tableNotFound, 1, []) ∧
    recordsOf (runText exFacts (exDefs ++ " -- the tables\n".toList ++ exB) "select x from other".toList .text false [strBytes "a;1\n"]) =
      some (none, 1, [strBytes "x: 'a'"]) := by
  unfold exDefs exB
  rw [String.toList_ofList, String.toList_ofList, String.toList_ofList, String.toList_ofList, String.toList_ofList, exFacts_eq]
  rw [endsStatementB]; simp only [acceptedB, parseText_eq_K, Lex.run_eq_K, runText_eq_K]
  decide +kernel

/-- **(2): a text that ends inside a string literal, (3): a text that ends in `;;`.** Each is accepted on its own (an
unterminated string is dropped at the end of a text; `Parser::parse` tolerates one extra `;` at the very end), and
each followed by `exB` is REJECTED (the string swallows the beginning of `exB`; the second `;` ends the statement list
and `CREATE` is one token too many) — the answer is an error for every query, not the answer over `exDefs` -/
example :
    acceptedB exFacts (exDefs ++ " '".toList) = true ∧ endsStatementB (lexOracles exFacts) (exDefs ++ " '".toList) = false ∧
    acceptedB exFacts (exDefs ++ ";".toList) = true ∧ endsStatementB (lexOracles exFacts) (exDefs ++ ";".toList) = false ∧
    recordsOf (runText exFacts (exDefs ++ " '".toList ++ exB) "select k from t".toList .text false [strBytes "a;1\n"]) = none ∧
    recordsOf (runText exFacts (exDefs ++ ";".toList ++ exB) "select k from t".toList .text false [strBytes "a;1\n"]) = none ∧
    (match runText exFacts (exDefs ++ ";".toList ++ exB) "select k from t".toList .text false [strBytes "a;1\n"] with
     | .rejected .definitions (.parseError e) => e.kind == .tooManyTokens
     | _ => false) = true := by
  generalize h : runText exFacts (exDefs ++ ";".toList ++ exB) _ _ _ _ = r
  unfold exDefs exB at h ⊢
  rw [String.toList_ofList, String.toList_ofList, String.toList_ofList, String.toList_ofList, exFacts_eq, runText_eq_K] at h
  rw [String.toList_ofList, String.toList_ofList, String.toList_ofList, String.toList_ofList, exFacts_eq]
  rw [endsStatementB, endsStatementB]; simp only [acceptedB, parseText_eq_K, Lex.run_eq_K, runText_eq_K]
  subst h; decide +kernel

/-- **why `FirstCreate` is a hypothesis of `broken_text_appended_is_rejected`**: the empty text and a lone `;` are rejected
on their own (no statement) but appended to `exDefs` they change nothing — `exDefs ++ ""` and `exDefs ++ ";"` are accepted -/
example :
    acceptedB exFacts [] = false ∧ acceptedB exFacts ";".toList = false ∧
    firstCreateB (lexOracles exFacts) [] = false ∧ firstCreateB (lexOracles exFacts) ";".toList = false ∧
    acceptedB exFacts (exDefs ++ []) = true ∧ acceptedB exFacts (exDefs ++ ";".toList) = true := by
  unfold exDefs; rw [String.toList_ofList, String.toList_ofList, exFacts_eq]
  rw [firstCreateB, firstCreateB]; simp only [acceptedB, parseText_eq_K, Lex.tokenize_eq_K]
  decide +kernel

/-- a broken statement appended (`broken_text_appended_is_rejected`): an unparsable one, one with an unknown type — the
whole text is rejected with the error the broken text has on its own (kinds compared) -/
example :
    (match runText exFacts (exDefs ++ " CREATE TABLE u(".toList) "select k from t".toList .text false [strBytes "a;1\n"],
           parseText (lexOracles exFacts) (regexValidFn exFacts) " CREATE TABLE u(".toList with
     | .rejected .definitions (.parseError e), .parseError e' => e.kind == e'.kind
     | _, _ => false) = true ∧
    (match runText exFacts (exDefs ++ " CREATE TABLE u(line = 'x', line[1] => a NOSUCH);".toList) "select k from t".toList .text false [strBytes "a;1\n"],
           parseText (lexOracles exFacts) (regexValidFn exFacts) " CREATE TABLE u(line = 'x', line[1] => a NOSUCH);".toList with
     | .rejected .definitions (.parseError e), .parseError e' => e.kind == e'.kind
     | _, _ => false) = true := by
  generalize h₁ : runText _ _ _ _ _ _ = r₁
  generalize h₁' : parseText _ _ _ = p₁
  generalize h₂ : runText _ _ _ _ _ _ = r₂
  generalize h₂' : parseText _ _ _ = p₂
  unfold exDefs at h₁ h₂
  rw [String.toList_ofList, String.toList_ofList, String.toList_ofList, exFacts_eq, runText_eq_K] at h₁ h₂
  rw [String.toList_ofList, exFacts_eq, parseText_eq_K] at h₁' h₂'
  subst h₁ h₁' h₂ h₂'; decide +kernel

/-- the last definition of a name wins (`redefinition_replaces`): `t` defined twice answers like the second definition alone -/
example :
    recordsOf (runText exFacts (exDefs ++ " CREATE TABLE t(line = '^([a-z]+);([0-9]+)$', line[2] => only INT);".toList)
      "select * from t".toList .text false [strBytes "a;1\nb;2\n"]) =
    recordsOf (runText exFacts "CREATE TABLE t(line = '^([a-z]+);([0-9]+)$', line[2] => only INT);".toList
      "select * from t".toList .text false [strBytes "a;1\nb;2\n"]) := by
  unfold exDefs; rw [String.toList_ofList, String.toList_ofList, String.toList_ofList, String.toList_ofList, exFacts_eq]
  simp only [runText_eq_K]; decide +kernel

end Sqlgrep.Props.C18Defs
