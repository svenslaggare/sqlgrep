import SqlgrepModel.Spec.Grammar
import SqlgrepModel.Lemmas.ParseRename
/-
Parsing does not depend on token locations: running the expression parser on the token vector with every location
replaced by the default one gives the same answer with every location erased (tree, error, remaining state).
This is `relabel_all` of `Lemmas/ParseRename.lean` with every location sent to the default one and no identifier
respelled.
-/
namespace Sqlgrep.Parse

def _root_.Sqlgrep.PTok.strip (t : PTok) : PTok := ⟨default, t.tok⟩
def _root_.Sqlgrep.PSt.strip (s : PSt) : PSt := ⟨s.cur.strip, s.rest.map PTok.strip⟩
def _root_.Sqlgrep.PErr.strip (e : PErr) : PErr := ⟨default, e.kind⟩
def _root_.Sqlgrep.PRes.strip {α : Type} (f : α → α) : PRes α → PRes α
  | .ok a s => .ok (f a) s.strip
  | .err e s => .err e.strip s.strip
  | .fuel => .fuel

def stripExc : Except PErr PExpr → Except PErr PExpr
  | .ok t => .ok t.eraseLoc
  | .error e => .error e.strip

theorem strip_ok {α} (f : α → α) (a : α) (s : PSt) : (PRes.ok a s).strip f = .ok (f a) s.strip := rfl
theorem strip_err {α} (f : α → α) (e : PErr) (s : PSt) : (PRes.err e s : PRes α).strip f = .err e.strip s.strip := rfl
theorem strip_fuel {α} (f : α → α) : (PRes.fuel : PRes α).strip f = .fuel := rfl
theorem stripExc_ok (t : PExpr) : stripExc (.ok t) = .ok t.eraseLoc := rfl
theorem stripExc_error (e : PErr) : stripExc (.error e) = .error e.strip := rfl

@[simp] theorem strip_cur_tok (s : PSt) : s.strip.cur.tok = s.cur.tok := rfl
@[simp] theorem strip_cur_loc (s : PSt) : s.strip.cur.loc = default := rfl

theorem mkErr_strip {α} (s : PSt) (k : PErrKind) (f : α → α) : (mkErr s.strip k : PRes α) = (mkErr s k).strip f := rfl

theorem relabel_strip_tok : PTok.relabelAll (fun _ => default) id = PTok.strip :=
  funext fun t => congrArg (PTok.mk default) t.tok.ren_id

theorem relabel_strip_st (s : PSt) : s.relabelAll (fun _ => default) id = s.strip := by
  simp only [PSt.relabelAll, relabel_strip_tok]; rfl

theorem relabel_strip_err : PErr.relabelAll (fun _ => default) id = PErr.strip :=
  funext fun e => congrArg (PErr.mk default) e.kind.ren_id

theorem relabel_strip {α : Type} (f : α → α) (x : PRes α) : x.relabelAll (fun _ => default) id f = x.strip f := by
  cases x <;> simp only [PRes.map, relabel_strip_st, relabel_strip_err] <;> rfl

theorem _root_.Sqlgrep.PExpr.eraseLoc_eq_mapAll :
    (∀ e : PExpr, e.eraseLoc = e.mapAll (fun _ => default) id id) ∧
    (∀ es, PExpr.eraseLoc.eraseLocs es = PExpr.mapAllList (fun _ => default) id id es) ∧
    (∀ cs, PExpr.eraseLoc.eraseLocClauses cs = PExpr.mapAllClauses (fun _ => default) id id cs) := by
  apply PExpr.induct3
  all_goals intros
  all_goals simp only [PExpr.mapAll, PExpr.mapAllList, PExpr.mapAllClauses, PExpr.eraseLoc, PExpr.eraseLoc.eraseLocs,
    PExpr.eraseLoc.eraseLocClauses, id, *]

theorem strip_of_relabel {α : Type} {F : PSt → PRes α} {x : PRes α} {f : α → α} {s : PSt}
    (h : x.relabelAll (fun _ => default) id f = F (s.relabelAll (fun _ => default) id)) : F s.strip = x.strip f := by
  rw [← relabel_strip_st, ← relabel_strip]; exact h.symm

abbrev Morph.strip (T : PrecTables) : Morph T := Morph.relabel (fun _ => default) nameMap_id (fun _ => rfl)

theorem tokenPrecedence_strip (T : PrecTables) (s : PSt) : tokenPrecedence T s.strip = (tokenPrecedence T s).strip id :=
  strip_of_relabel ((Morph.strip T).tokenPrecedence s)

theorem eraseLocs_append (a b : List PExpr) :
    PExpr.eraseLoc.eraseLocs (a ++ b) = PExpr.eraseLoc.eraseLocs a ++ PExpr.eraseLoc.eraseLocs b := by
  induction a with
  | nil => rfl
  | cons x xs ih => simp [PExpr.eraseLoc.eraseLocs, ih]

variable (T : PrecTables)

theorem strip_all (n : Nat) :
    (∀ s, parseExpr T n s.strip = (parseExpr T n s).strip PExpr.eraseLoc) ∧
    (∀ p l s, parseRhs T n p l.eraseLoc s.strip = (parseRhs T n p l s).strip PExpr.eraseLoc) ∧
    (∀ s, parseUnary T n s.strip = (parseUnary T n s).strip PExpr.eraseLoc) ∧
    (∀ s, parsePrimary T n s.strip = (parsePrimary T n s).strip PExpr.eraseLoc) ∧
    (∀ loc cl s, parseCase T n default (PExpr.eraseLoc.eraseLocClauses cl) s.strip =
      (parseCase T n loc cl s).strip PExpr.eraseLoc) ∧
    (∀ c acc s, parseList T n c (PExpr.eraseLoc.eraseLocs acc) s.strip =
      (parseList T n c acc s).strip PExpr.eraseLoc.eraseLocs) := by
  obtain ⟨he, hr, hu, hp, hc, hl⟩ : RelabelIH (fun _ => default) id T n := relabel_all nameMap_id (fun _ => rfl) n
  rw [← funext PExpr.eraseLoc_eq_mapAll.1] at he hr hu hp hc
  rw [← funext PExpr.eraseLoc_eq_mapAll.2.2] at hc
  rw [← funext PExpr.eraseLoc_eq_mapAll.2.1] at hl
  exact ⟨fun s => strip_of_relabel (he s), fun p l s => strip_of_relabel (hr p l s), fun s => strip_of_relabel (hu s),
    fun s => strip_of_relabel (hp s), fun loc cl s => strip_of_relabel (hc loc cl s),
    fun c acc s => strip_of_relabel (hl c acc s fun t => by rw [Tok.ren_id])⟩

theorem parseExpr_strip (n : Nat) (s : PSt) :
    parseExpr T n s.strip = (parseExpr T n s).strip PExpr.eraseLoc := (strip_all T n).1 s

end Sqlgrep.Parse
