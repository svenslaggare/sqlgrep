import SqlgrepModel.Lemmas.NoSkipPipeline
import SqlgrepModel.Lemmas.PipelineFollow
/-
A run reads its oracle in two ways only: literals are parsed (`parseLit`: a TEXT compared with a TIMESTAMP, a cast from
TEXT) and functions are called (`callFunction`). So two oracles that answer alike there — on every literal, and on the
calls of the functions `ok` allows (`Oracles.AgreeOn ok O O'`) — give every expression, statement and run whose function
symbols all satisfy `ok` the same outcome: `eval_congr` (mutual over `Expr`) → the engines (`selectOne_congr` …
`executeLine_congr`) → the executors (`runFiles_congr`, `runBatch_congr`, `runBatchI_congr`, `runFollowAll_congr`, the
traced `runBatchT_congr`, `runFollowAllT_congr`) → `Pipeline.runStatement_congr`, `followStatement_congr`, and over
`front` `runText_congr` / `followLines_congr` (facts that differ in their field `eval` only).

The instance: "Only now() may differ between runs" (last sentence of C18). The model has no clock: `now()` is answered
by the field `nowF` of the total oracle (`Model/Eval.lean` `TotalOracles`, read at exactly one place:
`callFunction … .now []`). Replace the reading by any other value (`Oracles.withNow`): the two oracles agree on every
function but `now` (`Oracles.agreeOn_withNow`), so every expression, statement and run that contains no call of `now`
gives the same outcome (`eval_withNow` … `runText_withNow`, `followText_withNow`).

* `notNow`, `Expr.nowFree`, `Stmt.nowFree`, `LStmt.nowFree`: the decidable syntactic predicate (instances of
  `Expr.allFuncs` / `Stmt.allFuncs` of `Lemmas/Faults.lean`);
* `Oracles.withNow`, `Oracles.SameButNow` (same tables, same `upperF lowerF regexF`) and
  `SameButNow.eq_withNow`: two oracles that differ at most in the clock are `O` and `O.withNow v`.
-/
namespace Sqlgrep

def notNow (f : Func) : Bool :=
  match f with
  | .now => false
  | _ => true

/-- no call of `now` anywhere in the expression (operands, function arguments, IN lists, CASE branches, at any depth) -/
abbrev Expr.nowFree (e : Expr) : Bool := e.allFuncs notNow

/-- no call of `now` anywhere in the statement: select list, WHERE, GROUP BY parts, aggregate arguments, the
expressions around aggregates, HAVING and the aggregates inside HAVING (`Stmt.allFuncs`, `Lemmas/Faults.lean`) -/
abbrev Stmt.nowFree (s : Stmt) : Bool := s.allFuncs notNow

/-- a lowered statement (`parsing::parse`'s answer): a query is `nowFree` when its statement is — a JOIN clause holds two
column NAMES, a table name and a file name, no expression —; CREATE TABLE statements contain no expression at all -/
def LStmt.nowFree : LStmt → Bool
  | .select s _ _ _ => (Stmt.select s).nowFree
  | .aggregate a _ _ _ => (Stmt.aggregate a).nowFree
  | .createTable _ _ _ => true
  | .multiple _ => true

def TotalOracles.withNow (T : TotalOracles) (v : Value) : TotalOracles := { T with nowF := v }

/-- the same tables and library functions, another clock reading (an oracle without total functions has no clock:
`now()` is `oracleMissing` there, before and after) -/
def Oracles.withNow (O : Oracles) (v : Value) : Oracles := { O with total := O.total.map (·.withNow v) }

/-- **two oracles differ at most in `nowF`**: every shipped table is the same, both have total functions behind the
tables or neither has, and `upperF`, `lowerF`, `regexF` are the same functions. Nothing is said about `nowF`. -/
structure Oracles.SameButNow (O₁ O₂ : Oracles) : Prop where
  fparse : O₁.fparse = O₂.fparse
  tsparse : O₁.tsparse = O₂.tsparse
  regex : O₁.regex = O₂.regex
  upper : O₁.upper = O₂.upper
  lower : O₁.lower = O₂.lower
  total : match O₁.total, O₂.total with
    | none, none => True
    | some T₁, some T₂ => T₁.upperF = T₂.upperF ∧ T₁.lowerF = T₂.lowerF ∧ T₁.regexF = T₂.regexF
    | _, _ => False

theorem Oracles.sameButNow_withNow (O : Oracles) (v : Value) : O.SameButNow (O.withNow v) := by
  refine ⟨rfl, rfl, rfl, rfl, rfl, ?_⟩
  obtain ⟨fp, tp, rg, up, lo, tot⟩ := O
  cases tot with
  | none => trivial
  | some T => exact ⟨rfl, rfl, rfl⟩

theorem Oracles.SameButNow.refl (O : Oracles) : O.SameButNow O := by
  refine ⟨rfl, rfl, rfl, rfl, rfl, ?_⟩
  cases O.total with
  | none => trivial
  | some T => exact ⟨rfl, rfl, rfl⟩

theorem Oracles.SameButNow.eq_withNow {O₁ O₂ : Oracles} (h : O₁.SameButNow O₂) : ∃ v, O₂ = O₁.withNow v := by
  obtain ⟨fp, tp, rg, up, lo, tot⟩ := O₁
  obtain ⟨fp', tp', rg', up', lo', tot'⟩ := O₂
  obtain ⟨h1, h2, h3, h4, h5, h6⟩ := h
  simp only at h1 h2 h3 h4 h5 h6
  subst h1 h2 h3 h4 h5
  cases tot with
  | none =>
    cases tot' with
    | none => exact ⟨.null, rfl⟩
    | some T' => exact h6.elim
  | some T =>
    cases tot' with
    | none => exact h6.elim
    | some T' =>
      obtain ⟨uF, lF, rF, nF⟩ := T
      obtain ⟨uF', lF', rF', nF'⟩ := T'
      obtain ⟨e1, e2, e3⟩ := h6
      simp only at e1 e2 e3
      subst e1 e2 e3
      exact ⟨nF', rfl⟩

theorem Oracles.withNow_of_none (O : Oracles) (v : Value) (h : O.total = none) : O.withNow v = O := by
  obtain ⟨fp, tp, rg, up, lo, tot⟩ := O
  simp only at h
  subst h
  rfl

theorem callFunction_withNow (O : Oracles) (v : Value) (f : Func) (hf : notNow f = true) (args : List Value) :
    callFunction (O.withNow v) f args = callFunction O f args := by
  obtain ⟨fp, tp, rg, up, lo, tot⟩ := O
  cases tot with
  | none => rfl
  | some T =>
    unfold callFunction
    split <;> (try rfl)
    exact absurd hf (by decide)

/-! ### the other places where the evaluator reads its oracle: tables only -/

theorem parseLit_withNow (O : Oracles) (v : Value) (t : VType) (s : Bytes) : parseLit (O.withNow v) t s = parseLit O t s := rfl

theorem tsOfText_withNow (O : Oracles) (v : Value) (s : Bytes) : tsOfText (O.withNow v) s = tsOfText O s := rfl

/-! ### oracles that answer alike where a run asks -/

/-- `O'` answers like `O` wherever a run whose function symbols satisfy `ok` asks: every literal is read alike, every
call of a function in `ok` has the same outcome -/
structure Oracles.AgreeOn (ok : Func → Bool) (O O' : Oracles) : Prop where
  lit : ∀ t s, parseLit O' t s = parseLit O t s
  call : ∀ f, ok f = true → ∀ args, callFunction O' f args = callFunction O f args

/-- the clock reading is asked for by `now` only -/
theorem Oracles.agreeOn_withNow (O : Oracles) (v : Value) : O.AgreeOn notNow (O.withNow v) :=
  ⟨parseLit_withNow O v, callFunction_withNow O v⟩

section
variable {ok : Func → Bool} {O O' : Oracles} (h : O.AgreeOn ok O')
include h

theorem Oracles.AgreeOn.prepCompare (l r : Value) : prepCompare O' l r = prepCompare O l r := by
  unfold Sqlgrep.prepCompare coerceTs tsOfText; simp only [h.lit]

theorem Oracles.AgreeOn.castValue (x : Value) (t : VType) : castValue O' x t = castValue O x t := by
  unfold Sqlgrep.castValue; simp only [h.lit]

/-! ### the evaluator -/

set_option linter.unusedSectionVars false   -- (the four theorems are mutual: each of them needs `h` through `eval_congr`)

mutual
theorem eval_congr (env : Env) : ∀ (e : Expr), e.allFuncs ok = true → eval O' env e = eval O env e
  | .value _, _ => by simp only [eval]
  | .column _, _ => by simp only [eval]
  | .scoped _ _, _ => by simp only [eval]
  | .wildcard, _ => by simp only [eval]
  | .compare _ l r, he => by
    simp only [Expr.allFuncs, Bool.and_eq_true] at he
    simp only [eval, eval_congr env l he.1, eval_congr env r he.2, h.prepCompare]
  | .nullCmp _ l r, he => by
    simp only [Expr.allFuncs, Bool.and_eq_true] at he
    simp only [eval, eval_congr env l he.1, eval_congr env r he.2]
  | .arith _ l r, he => by
    simp only [Expr.allFuncs, Bool.and_eq_true] at he
    simp only [eval, eval_congr env l he.1, eval_congr env r he.2]
  | .boolOp _ l r, he => by
    simp only [Expr.allFuncs, Bool.and_eq_true] at he
    simp only [eval, eval_congr env l he.1, eval_congr env r he.2]
  | .neg e, he => by
    simp only [Expr.allFuncs] at he
    simp only [eval, eval_congr env e he]
  | .not e, he => by
    simp only [Expr.allFuncs] at he
    simp only [eval, eval_congr env e he]
  | .inList _ e vs, he => by
    simp only [Expr.allFuncs, Bool.and_eq_true] at he
    simp only [eval, eval_congr env e he.1, evalIn_congr env vs he.2]
  | .call f args, he => by
    simp only [Expr.allFuncs, Bool.and_eq_true] at he
    simp only [eval, evalList_congr env args he.2, h.call f he.1]
  | .index a i, he => by
    simp only [Expr.allFuncs, Bool.and_eq_true] at he
    simp only [eval, eval_congr env a he.1, eval_congr env i he.2]
  | .cast e _, he => by
    simp only [Expr.allFuncs] at he
    simp only [eval, eval_congr env e he, h.castValue]
  | .case clauses els, he => by
    simp only [Expr.allFuncs, Bool.and_eq_true] at he
    simp only [eval, evalCase_congr env clauses he.1, eval_congr env els he.2]
  | .groupKeyRef _, _ => by simp only [eval]
  | .groupValueRef _, _ => by simp only [eval]
theorem evalList_congr (env : Env) : ∀ (es : List Expr), Expr.allFuncsList ok es = true →
    evalList O' env es = evalList O env es
  | [], _ => by simp only [evalList]
  | e :: es, he => by
    simp only [Expr.allFuncsList, Bool.and_eq_true] at he
    simp only [evalList, eval_congr env e he.1, evalList_congr env es he.2]
theorem evalIn_congr (env : Env) : ∀ (es : List Expr), Expr.allFuncsList ok es = true →
    ∀ (isNot : Bool) (x : Value) (anyNull : Bool), evalIn O' env isNot x anyNull es = evalIn O env isNot x anyNull es
  | [], _, _, _, _ => by simp only [evalIn]
  | e :: es, he, isNot, x, a => by
    simp only [Expr.allFuncsList, Bool.and_eq_true] at he
    simp only [evalIn, eval_congr env e he.1, evalIn_congr env es he.2, h.prepCompare]
theorem evalCase_congr (env : Env) : ∀ (cs : List (Expr × Expr)), Expr.allFuncsCases ok cs = true →
    evalCase O' env cs = evalCase O env cs
  | [], _ => by simp only [evalCase]
  | (c, r) :: rest, he => by
    simp only [Expr.allFuncsCases, Bool.and_eq_true] at he
    simp only [evalCase, eval_congr env c he.1.1, eval_congr env r he.1.2, evalCase_congr env rest he.2]
end

end

section
variable (O : Oracles) (v : Value)

theorem eval_withNow (env : Env) : ∀ (e : Expr), e.nowFree = true → eval (O.withNow v) env e = eval O env e :=
  eval_congr (O.agreeOn_withNow v) env

theorem evalList_withNow (env : Env) : ∀ (es : List Expr), Expr.allFuncsList notNow es = true →
    evalList (O.withNow v) env es = evalList O env es :=
  evalList_congr (O.agreeOn_withNow v) env

theorem evalIn_withNow (env : Env) : ∀ (es : List Expr), Expr.allFuncsList notNow es = true →
    ∀ (isNot : Bool) (x : Value) (anyNull : Bool), evalIn (O.withNow v) env isNot x anyNull es = evalIn O env isNot x anyNull es :=
  evalIn_congr (O.agreeOn_withNow v) env

theorem evalCase_withNow (env : Env) : ∀ (cs : List (Expr × Expr)), Expr.allFuncsCases notNow cs = true →
    evalCase (O.withNow v) env cs = evalCase O env cs :=
  evalCase_congr (O.agreeOn_withNow v) env

end

namespace NowFree
open Sqlgrep.NoPanicEngine Sqlgrep.NoSkipEngine

section
variable {ok : Func → Bool} {O O' : Oracles} (h : O.AgreeOn ok O')
include h

/-! ### the engines -/

theorem selectOne_congr (q : SelectStmt) (seen : List (List Value)) (env : Env) (keys : List String)
    (hq : q.allFuncs ok = true) : selectOne O' q seen env keys = selectOne O q seen env keys := by
  simp only [SelectStmt.allFuncs, Bool.and_eq_true] at hq
  obtain ⟨hproj, hfilter⟩ := hq
  have hcols := evalList_congr h env _ (allFuncsList_columns ok keys)
  have hprojs := evalList_congr h env _ (allFuncsList_map ok (·.2) q.projections hproj)
  have hfil : ∀ e, q.filter = some e → eval O' env e = eval O env e :=
    fun e he => eval_congr h env e (by rw [he] at hfilter; exact hfilter)
  unfold selectOne
  cases hw : q.wildcard <;> cases hf : q.filter <;>
    first
      | simp only [hcols, hprojs, Bool.false_eq_true, if_false, if_true, hfil _ hf]
      | simp only [hcols, hprojs, Bool.false_eq_true, if_false, if_true]

theorem selectEnvs_congr (q : SelectStmt) (envs : List (Env × List String)) (seen : List (List Value)) (acc : Option RowOut)
    (hq : q.allFuncs ok = true) : selectEnvs O' q envs seen acc = selectEnvs O q envs seen acc := by
  rw [selectEnvs_eq_foldlM, selectEnvs_eq_foldlM]
  exact Outcome.foldlM_congr (fun e _ p => by rw [selectOne_congr h q _ _ _ hq]) _

theorem cellStep_congr (q : AggStmt) (env : Env) (k : AggKind) (c : Cell) (hk : k.allFuncs ok = true) :
    cellStep O' q env k c = cellStep O q env k c := by
  unfold cellStep
  split <;> simp only [AggKind.allFuncs] at hk <;> first | rfl | simp only [eval_congr h env _ hk]

theorem updateAggregate_congr (q : AggStmt) (env : Env) (key : List Value) (idx : Nat) (k : AggKind) (st : AggState)
    (hk : k.allFuncs ok = true) : updateAggregate O' q env key idx k st = updateAggregate O q env key idx k st := by
  unfold updateAggregate
  rw [cellStep_congr h _ _ _ _ hk]

theorem updateAggregates_congr (q : AggStmt) (env : Env) (key : List Value) (l : List (Nat × AggKind)) (st : AggState)
    (hl : ∀ p ∈ l, p.2.allFuncs ok = true) :
    updateAggregates O' q env key l st = updateAggregates O q env key l st := by
  rw [updateAggregates_eq_foldlM, updateAggregates_eq_foldlM]
  exact Outcome.foldlM_congr (fun p hp s => updateAggregate_congr h _ _ _ _ _ _ (hl p hp)) _

theorem havingUpdates_congr (q : AggStmt) (env : Env) (key : List Value) (l : List HavingRef) (j : Nat) (st : AggState)
    (hl : l.all (·.allFuncs ok) = true) :
    havingUpdates O' q env key l j st = havingUpdates O q env key l j st := by
  induction l generalizing st j with
  | nil => rfl
  | cons r rest ih =>
    simp only [List.all_cons, Bool.and_eq_true] at hl
    have ih' := fun j st => ih j st hl.2
    cases r with
    | key canon => simp only [havingUpdates, ih']
    | agg id kind => simp only [havingUpdates, updateAggregate_congr h _ _ _ _ _ _ hl.1, ih']

theorem aggUpdateRow_congr (q : AggStmt) (st : AggState) (env : Env) (hq : q.allFuncs ok = true) :
    aggUpdateRow O' q st env = aggUpdateRow O q st env := by
  simp only [AggStmt.allFuncs, Bool.and_eq_true] at hq
  obtain ⟨⟨⟨⟨⟨hitems, hfilter⟩, hgroup⟩, _⟩, hvisit⟩, _⟩ := hq
  have h1 : ∀ key st, updateAggregates O' q env key (enumFrom 0 (q.items.map (·.kind))) st =
      updateAggregates O q env key (enumFrom 0 (q.items.map (·.kind))) st :=
    fun key st => updateAggregates_congr h q env key _ st (kinds_ok ok q hitems)
  have h2 : ∀ key st, havingUpdates O' q env key q.havingVisit 0 st = havingUpdates O q env key q.havingVisit 0 st :=
    fun key st => havingUpdates_congr h q env key _ 0 st hvisit
  have hfil : ∀ e, q.filter = some e → eval O' env e = eval O env e :=
    fun e he => eval_congr h env e (by rw [he] at hfilter; exact hfilter)
  have hgrp : ∀ parts, q.groupBy = some parts →
      evalList O' env (parts.map (·.1)) = evalList O env (parts.map (·.1)) :=
    fun parts hp => evalList_congr h env _ (allFuncsList_map ok (·.1) parts (by rw [hp] at hgroup; exact hgroup))
  unfold aggUpdateRow
  simp only [h1, h2]
  cases hf : q.filter <;> cases hg : q.groupBy <;>
    first
      | rfl
      | simp only [hfil _ hf, hgrp _ hg]
      | simp only [hfil _ hf]
      | simp only [hgrp _ hg]

theorem aggEnvs_congr (q : AggStmt) (envs : List (Env × List String)) (st : AggState) (any : Bool)
    (hq : q.allFuncs ok = true) : aggEnvs O' q envs st any = aggEnvs O q envs st any := by
  rw [aggEnvs_eq_foldlM, aggEnvs_eq_foldlM]
  exact Outcome.foldlM_congr (fun e _ p => by rw [aggUpdateRow_congr h q _ _ hq]) _

theorem cellOf_congr (q : AggStmt) (idx : Nat) (item : AggItem) (key : List Value) (subs : List (Nat × Value))
    (hi : item.allFuncs ok = true) : cellOf O' q idx item key subs = cellOf O q idx item key subs := by
  simp only [AggItem.allFuncs, Bool.and_eq_true] at hi
  unfold cellOf applyTransform
  cases ht : item.transform with
  | none => rfl
  | some e =>
    have := hi.2
    rw [ht] at this
    simp only [eval_congr h _ e this]

theorem rowOf_congr (q : AggStmt) (key : List Value) (subs : List (Nat × Value)) (items : List (Nat × AggItem))
    (hi : ∀ p ∈ items, p.2.allFuncs ok = true) : rowOf O' q key subs items = rowOf O q key subs items := by
  rw [rowOf_eq_seq, rowOf_eq_seq, List.map_congr_left fun p hp => cellOf_congr h q p.1 p.2 key subs (hi p hp)]

theorem acceptGroup_congr (q : AggStmt) (having : Expr) (key : List Value) (subs : List (Nat × Value))
    (hh : having.allFuncs ok = true) : acceptGroup O' q having key subs = acceptGroup O q having key subs := by
  unfold acceptGroup
  simp only [eval_congr h _ having hh]

theorem resultRows_congr (q : AggStmt) (groups : GroupMap Value) (seen : List (List Value))
    (hitems : q.items.all (·.allFuncs ok) = true) (hhaving : optAllFuncs ok q.having = true) :
    resultRows O' q groups seen = resultRows O q groups seen := by
  rw [resultRows_eq_seq, resultRows_eq_seq]
  refine congrArg (fun l => (Outcome.seq l).bind _) (List.map_congr_left fun g _ => ?_)
  unfold shownRow havingOk
  rw [rowOf_congr h q g.1 g.2 _ (items_ok' ok q hitems)]
  cases hh : q.having with
  | none => rfl
  | some e => simp only [acceptGroup_congr h q e g.1 g.2 (by rw [hh] at hhaving; exact hhaving)]

theorem aggColumns_congr (q : AggStmt) (groups : List (List Value × List (Nat × Value))) (items : List (Nat × AggItem))
    (hi : ∀ p ∈ items, p.2.allFuncs ok = true) :
    aggColumns O' q groups items = aggColumns O q groups items := by
  rw [aggColumns_eq_seq, aggColumns_eq_seq, List.map_congr_left fun p hp => ?_]
  rw [aggColumn_eq_seq, aggColumn_eq_seq, List.map_congr_left fun g _ => cellOf_congr h q p.1 p.2 g.1 g.2 (hi p hp)]

theorem aggResult_congr (q : AggStmt) (st : AggState) (hq : q.allFuncs ok = true) :
    aggResult O' q st = aggResult O q st := by
  simp only [AggStmt.allFuncs, Bool.and_eq_true] at hq
  obtain ⟨⟨⟨⟨⟨hitems, _⟩, _⟩, hhaving⟩, _⟩, _⟩ := hq
  simp only [aggResult, aggColumns_congr h q _ _ (items_ok' ok q hitems), resultRows_congr h q _ _ hitems hhaving]

theorem finalResult_congr (q : AggStmt) (es : EngineState) (hq : q.allFuncs ok = true) :
    finalResult O' q es = finalResult O q es := by
  unfold finalResult
  rw [aggResult_congr h q _ hq]

/-- one line through the engine (batch mode and follow mode) -/
theorem executeLine_congr (qy : Query) (idx : JoinIndex) (w : Bool) (es : EngineState) (l : Line)
    (hq : qy.stmt.allFuncs ok = true) : executeLine O' qy idx w es l = executeLine O qy idx w es l := by
  unfold executeLine
  cases hs : qy.stmt with
  | select q =>
    rw [hs] at hq
    have h1 := fun envs seen acc => selectEnvs_congr h q envs seen acc hq
    simp only [h1]
  | aggregate q =>
    rw [hs] at hq
    have h1 := fun envs st any => aggEnvs_congr h q envs st any hq
    have h2 := fun st => aggResult_congr h q st hq
    simp only [h1, h2]

/-! ### the executors: the oracle reaches a loop through the engine only -/

theorem machine_congr (qy : Query) (idx : JoinIndex) (w : Bool) (hq : qy.stmt.allFuncs ok = true) :
    executeLine O' qy idx w = executeLine O qy idx w :=
  funext fun es => funext fun l => executeLine_congr h qy idx w es l hq

theorem runFiles_congr (qy : Query) (idx : JoinIndex) (w : Bool) (stopAt : Option Nat) (fs : List (List FileLine))
    (ls : LoopState) (hq : qy.stmt.allFuncs ok = true) :
    runFiles O' qy idx w stopAt fs ls = runFiles O qy idx w stopAt fs ls := by
  rw [runFiles_eq_drive, runFiles_eq_drive, machine_congr h qy idx w hq]

theorem runFilesT_congr (qy : Query) (idx : JoinIndex) (w : Bool) (fs : List (List FileLine)) (s : TraceState)
    (hq : qy.stmt.allFuncs ok = true) : runFilesT O' qy idx w fs s = runFilesT O qy idx w fs s := by
  rw [runFilesT_eq_drive, runFilesT_eq_drive, machine_congr h qy idx w hq]

theorem endRun_congr (qy : Query) (s : TraceState) (hq : qy.stmt.allFuncs ok = true) :
    endRun O' qy s = endRun O qy s := by
  unfold endRun
  cases hs : qy.stmt with
  | select q => rfl
  | aggregate q =>
    rw [hs] at hq
    simp only [finalResult_congr h q _ hq]

theorem runWithIndex_congr (qy : Query) (idxO : Outcome JoinIndex) (files : List (List FileLine)) (stopAt : Option Nat)
    (hq : qy.stmt.allFuncs ok = true) : runWithIndex O' qy idxO files stopAt = runWithIndex O qy idxO files stopAt := by
  cases idxO with
  | ok idx => rw [runWithIndex_ok, runWithIndex_ok, runFiles_congr h qy idx _ stopAt files _ hq, endRun_congr h qy _ hq]
  | _ => rfl

/-- `FileExecutor::execute` over extracted lines -/
theorem runBatch_congr (qy : Query) (joined : List FileLine) (files : List (List FileLine)) (stopAt : Option Nat)
    (hq : qy.stmt.allFuncs ok = true) : runBatch O' qy joined files stopAt = runBatch O qy joined files stopAt :=
  runWithIndex_congr h qy _ files stopAt hq

/-- … with a joined file that may be missing and both interrupt points -/
theorem runBatchI_congr (qy : Query) (joined : Option (List FileLine)) (files : List (List FileLine))
    (clearAt stopAt : Option Nat) (hq : qy.stmt.allFuncs ok = true) :
    runBatchI O' qy joined files clearAt stopAt = runBatchI O qy joined files clearAt stopAt := by
  unfold runBatchI
  simp only [fun idxO sa => runWithIndex_congr h qy idxO files sa hq]

/-- `FollowFileExecutor::execute` over delivered lines -/
theorem runFollowAll_congr (qy : Query) (stopAt : Option Nat) (lines : List Line) (hq : qy.stmt.allFuncs ok = true) :
    runFollowAll O' qy stopAt lines = runFollowAll O qy stopAt lines := by
  unfold runFollowAll
  rw [runFollow_eq_drive _ _ _ _ _ rfl, runFollow_eq_drive _ _ _ _ _ rfl, machine_congr h qy [] true hq]

/-! the traced runs (`Model/ExecT.lean`: what the end-to-end model executes) -/

theorem runWithIndexT_congr (qy : Query) (idxO : Outcome JoinIndex) (files : List (List FileLine))
    (hq : qy.stmt.allFuncs ok = true) : runWithIndexT O' qy idxO files = runWithIndexT O qy idxO files := by
  cases idxO with
  | ok idx => rw [runWithIndexT_ok, runWithIndexT_ok, runFilesT_congr h qy idx _ files _ hq, endRun_congr h qy _ hq]
  | _ => rfl

theorem runBatchT_congr (qy : Query) (joined : Option (List FileLine)) (files : List (List FileLine))
    (hq : qy.stmt.allFuncs ok = true) : runBatchT O' qy joined files = runBatchT O qy joined files := by
  unfold runBatchT
  exact runWithIndexT_congr h qy _ files hq

theorem runFollowAllT_congr (qy : Query) (stopAt : Option Nat) (lines : List Line) (hq : qy.stmt.allFuncs ok = true) :
    runFollowAllT O' qy stopAt lines = runFollowAllT O qy stopAt lines := by
  unfold runFollowAllT
  rw [runFollowT_eq_drive _ _ _ _ _ rfl, runFollowT_eq_drive _ _ _ _ _ rfl, machine_congr h qy [] true hq]

end

/-! ### the clock -/

section
variable (O : Oracles) (v : Value)

theorem executeLine_withNow (qy : Query) (idx : JoinIndex) (w : Bool) (es : EngineState) (l : Line)
    (h : qy.stmt.nowFree = true) : executeLine (O.withNow v) qy idx w es l = executeLine O qy idx w es l :=
  executeLine_congr (O.agreeOn_withNow v) qy idx w es l h

theorem runBatch_withNow (qy : Query) (joined : List FileLine) (files : List (List FileLine)) (stopAt : Option Nat)
    (h : qy.stmt.nowFree = true) : runBatch (O.withNow v) qy joined files stopAt = runBatch O qy joined files stopAt :=
  runBatch_congr (O.agreeOn_withNow v) qy joined files stopAt h

theorem runBatchI_withNow (qy : Query) (joined : Option (List FileLine)) (files : List (List FileLine))
    (clearAt stopAt : Option Nat) (h : qy.stmt.nowFree = true) :
    runBatchI (O.withNow v) qy joined files clearAt stopAt = runBatchI O qy joined files clearAt stopAt :=
  runBatchI_congr (O.agreeOn_withNow v) qy joined files clearAt stopAt h

theorem runFollowAll_withNow (qy : Query) (stopAt : Option Nat) (lines : List Line) (h : qy.stmt.nowFree = true) :
    runFollowAll (O.withNow v) qy stopAt lines = runFollowAll O qy stopAt lines :=
  runFollowAll_congr (O.agreeOn_withNow v) qy stopAt lines h

end
end NowFree

/-! ### the end-to-end model (`Model/Pipeline.lean`, `Model/PipelineFollow.lean`)

`Facts` — everything the end-to-end model is told about the outside world — holds the evaluator's oracle in its field
`eval`; every other stage reads the other fields. -/

namespace Pipeline
open Sqlgrep.NowFree

theorem runNoTable_congr {ok : Func → Bool} {O O' : Oracles} (h : O.AgreeOn ok O') (stmt : Stmt) (fromTable : String)
    (files : List (List Nat)) (hs : stmt.allFuncs ok = true) :
    runNoTable O' stmt fromTable files = runNoTable O stmt fromTable files := by
  unfold runNoTable
  simp only [fun qy j fs (hq : qy.stmt.allFuncs ok = true) => runBatchT_congr h qy j fs hq, hs]

section
variable {ok : Func → Bool} (F : Facts) {O' : Oracles} (h : F.eval.AgreeOn ok O')
include h

/-- `FileExecutor::execute` for a lowered statement over the defined tables and the raw bytes of the files -/
theorem runStatement_congr (tables : List Table) (stmt : Stmt) (fromTable : String) (join : Option LJoin)
    (files : List (List Nat)) (hs : stmt.allFuncs ok = true) :
    runStatement { F with eval := O' } tables stmt fromTable join files = runStatement F tables stmt fromTable join files := by
  have h1 : ∀ (t : TableInfo) (j : Option JoinInfo) jl fs,
      runBatchT O' { stmt := stmt, table := t, join := j } jl fs = runBatchT F.eval { stmt := stmt, table := t, join := j } jl fs :=
    fun t j jl fs => runBatchT_congr h _ jl fs hs
  have h2 : ∀ (t : TableInfo) (j : Option JoinInfo) idxO fs,
      runWithIndexT O' { stmt := stmt, table := t, join := j } idxO fs =
        runWithIndexT F.eval { stmt := stmt, table := t, join := j } idxO fs :=
    fun t j idxO fs => runWithIndexT_congr h _ idxO fs hs
  have e1 : fileLines { F with eval := O' } = fileLines F := rfl
  have e2 : openJoined { F with eval := O' } = openJoined F := rfl
  unfold runStatement
  simp only [e1, e2, runNoTable_congr h stmt fromTable files hs, h1, h2]

theorem followStatement_congr (tables : List Table) (stmt : Stmt) (fromTable : String) (join : Option LJoin)
    (delivered : List (List Nat)) (stopAt : Option Nat) (hs : stmt.allFuncs ok = true) :
    followStatement { F with eval := O' } tables stmt fromTable join delivered stopAt =
      followStatement F tables stmt fromTable join delivered stopAt := by
  have h1 : ∀ (t : TableInfo) sa ls,
      runFollowAllT O' { stmt := stmt, table := t, join := none } sa ls =
        runFollowAllT F.eval { stmt := stmt, table := t, join := none } sa ls :=
    fun t sa ls => runFollowAllT_congr h _ sa ls hs
  have e1 : mkFollowLine { F with eval := O' } = mkFollowLine F := rfl
  unfold followStatement
  simp only [e1, h1]

/-- **the whole program, batch mode**: the text front does not look at the evaluator's oracle -/
theorem runText_congr (defsText queryText : List Char) (fmt : Print.Format) (single : Bool) (files : List (List Nat))
    (hs : ∀ ts s f j, front F defsText queryText = .run ts s f j → s.allFuncs ok = true) :
    runText { F with eval := O' } defsText queryText fmt single files = runText F defsText queryText fmt single files := by
  rw [runText_eq_front, runText_eq_front, show front { F with eval := O' } defsText queryText = front F defsText queryText from rfl]
  refine Front.answer_rel (· = ·) (fun _ => rfl) _ fun ts s f j hf => ?_
  rw [runStatement_congr F h ts s f j files (hs ts s f j hf)]
  cases runStatement F ts s f j files <;> rfl

/-- **the whole program, follow mode** -/
theorem followLines_congr (defsText queryText : List Char) (fmt : Print.Format) (delivered : List (List Nat))
    (stopAt : Option Nat) (hs : ∀ ts s f j, front F defsText queryText = .run ts s f j → s.allFuncs ok = true) :
    followLines { F with eval := O' } defsText queryText fmt delivered stopAt =
      followLines F defsText queryText fmt delivered stopAt := by
  rw [followLines_eq_front, followLines_eq_front,
    show front { F with eval := O' } defsText queryText = front F defsText queryText from rfl]
  refine Front.answer_rel (· = ·) (fun _ => rfl) _ fun ts s f j hf => ?_
  rw [followStatement_congr F h ts s f j delivered stopAt (hs ts s f j hf)]
  rfl

end

/-! ### the clock -/

def Facts.withNow (F : Facts) (v : Value) : Facts := { F with eval := F.eval.withNow v }

/-- **two sets of facts differ at most in the clock reading**: every field other than `eval` is the same, and the
evaluator's oracles differ at most in `nowF` -/
structure Facts.SameButNow (F₁ F₂ : Facts) : Prop where
  classes : F₁.classes = F₂.classes
  numbers : F₁.numbers = F₂.numbers
  regexValid : F₁.regexValid = F₂.regexValid
  lines : F₁.lines = F₂.lines
  f64 : F₁.f64 = F₂.f64
  reals : F₁.reals = F₂.reals
  fs : F₁.fs = F₂.fs
  lossy : F₁.lossy = F₂.lossy
  eval : F₁.eval.SameButNow F₂.eval

theorem Facts.sameButNow_withNow (F : Facts) (v : Value) : F.SameButNow (F.withNow v) :=
  ⟨rfl, rfl, rfl, rfl, rfl, rfl, rfl, rfl, Oracles.sameButNow_withNow F.eval v⟩

theorem Facts.SameButNow.eq_withNow {F₁ F₂ : Facts} (h : F₁.SameButNow F₂) : ∃ v, F₂ = F₁.withNow v := by
  obtain ⟨c, n, r, l, f, re, fs, lo, ev⟩ := F₁
  obtain ⟨c', n', r', l', f', re', fs', lo', ev'⟩ := F₂
  obtain ⟨h1, h2, h3, h4, h5, h6, h7, h8, h9⟩ := h
  simp only at h1 h2 h3 h4 h5 h6 h7 h8 h9
  subst h1 h2 h3 h4 h5 h6 h7 h8
  obtain ⟨v, hv⟩ := h9.eq_withNow
  exact ⟨v, by rw [hv]; rfl⟩

section
variable (F : Facts) (v : Value)

/-! everything but the engine reads fields of `Facts` other than `eval` -/
theorem withNow_eval : (F.withNow v).eval = F.eval.withNow v := rfl
theorem classesCover_withNow : classesCover (F.withNow v) = classesCover F := rfl
theorem lexOracles_withNow : lexOracles (F.withNow v) = lexOracles F := rfl
theorem regexValidOf_withNow : regexValidOf (F.withNow v) = regexValidOf F := rfl
theorem regexValidFn_withNow : regexValidFn (F.withNow v) = regexValidFn F := rfl
theorem fileLines_withNow : fileLines (F.withNow v) = fileLines F := rfl
theorem openJoined_withNow : openJoined (F.withNow v) = openJoined F := rfl
theorem realsCover_withNow : realsCover (F.withNow v) = realsCover F := rfl
theorem realOracle_withNow : realOracle (F.withNow v) = realOracle F := rfl
theorem mkFollowLine_withNow : mkFollowLine (F.withNow v) = mkFollowLine F := rfl

/-- `FileExecutor::execute` for a lowered statement over the defined tables and the raw bytes of the files -/
theorem runStatement_withNow (tables : List Table) (stmt : Stmt) (fromTable : String) (join : Option LJoin)
    (files : List (List Nat)) (h : stmt.nowFree = true) :
    runStatement (F.withNow v) tables stmt fromTable join files = runStatement F tables stmt fromTable join files :=
  runStatement_congr F (F.eval.agreeOn_withNow v) tables stmt fromTable join files h

/-- the query text is rejected, or the statement it is read as calls `now` nowhere. Decidable: run the tokenizer, the
parser and the lowering (none of which looks at the evaluator's oracle). -/
def textNowFree (F : Facts) (queryText : List Char) : Bool :=
  match parseText (lexOracles F) (regexValidFn F) queryText with
  | .stmt q => q.nowFree
  | _ => true

theorem textNowFree_withNow (queryText : List Char) : textNowFree (F.withNow v) queryText = textNowFree F queryText := rfl

theorem front_run_nowFree {defsText queryText : List Char} {ts : List Table} {s : Stmt} {f : String} {j : Option LJoin}
    (hf : front F defsText queryText = .run ts s f j) (h : textNowFree F queryText = true) : s.nowFree = true := by
  obtain ⟨defs, query, -, -, -, hq, -, hs⟩ := front_eq_run_iff.1 hf
  unfold textNowFree at h
  rw [hq] at h
  cases query <;> cases hs <;> exact h

/-- **the whole program, batch mode** -/
theorem runText_withNow (defsText queryText : List Char) (fmt : Print.Format) (single : Bool) (files : List (List Nat))
    (h : textNowFree F queryText = true) :
    runText (F.withNow v) defsText queryText fmt single files = runText F defsText queryText fmt single files :=
  runText_congr F (F.eval.agreeOn_withNow v) defsText queryText fmt single files fun _ _ _ _ hf => front_run_nowFree F hf h

/-- **the whole program, follow mode** -/
theorem followText_withNow (defsText queryText : List Char) (fmt : Print.Format) (head : Bool) (initial : List Nat)
    (ops : List FollowOp) (h : textNowFree F queryText = true) :
    followText (F.withNow v) defsText queryText fmt head initial ops = followText F defsText queryText fmt head initial ops := by
  unfold followText
  exact followLines_congr F (F.eval.agreeOn_withNow v) defsText queryText fmt _ _ fun _ _ _ _ hf => front_run_nowFree F hf h

end
end Pipeline

end Sqlgrep
