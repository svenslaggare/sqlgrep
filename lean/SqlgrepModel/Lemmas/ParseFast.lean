import SqlgrepModel.Lemmas.LexFast
import SqlgrepModel.Model.Pipeline
/-
`parsing::parse` for kernel evaluation: `parseText` over the tokenizer with written-out word tables (`Lemmas/LexFast.lean`).
-/
namespace Sqlgrep.Pipeline
open Sqlgrep

def parseTextK (lo : Lex.Oracles) (rv : List Char → Bool) (text : List Char) : Parsed :=
  match Lex.tokenizeK (Generated.keywords.lookup ·) lo text with
  | .ok ts => parseToks rv ts
  | .error loc e => .lexError loc e
  | .missing w => .missing ("f64::from_str " ++ String.ofList w)

theorem parseText_eq_K (lo : Lex.Oracles) (rv : List Char → Bool) (text : List Char) :
    parseText lo rv text = parseTextK lo rv text := by
  unfold parseText parseTextK; rw [Lex.tokenize_eq_K]; rfl

end Sqlgrep.Pipeline
