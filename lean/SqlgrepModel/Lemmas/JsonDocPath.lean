import SqlgrepModel.Lemmas.JsonNumLit
/-
Following a JSON path through the TEXT's tree (`JsonDoc.LVal`: the RFC 8259 parse of the line with the number literals
kept; `LVal.erase` is the grammar's denotation) and through the document (`Json`, what `serde_json::from_str` hands to
`get_value`) is the same walk:

* `followL` / `followV`: a field step takes the LAST member of that name (serde_json's `Map::insert` lets a repeated key
  keep its first position and take the last value: `lookup_dedupe`), an index step the element at that position;
* `followPath_iff_followL`: the document has `v` at a path exactly when the text's tree has a sub-tree there whose
  document is `v`;
* `followPath_num`: a number found at a path is serde_json's reading of THE number literal the path addresses in the text;
* `followL_erase`: the walk commutes with forgetting the lexemes (so it can be read on the grammar's denotation).
-/
namespace Sqlgrep.JsonDoc
open Sqlgrep.JsonGrammar

/-- the member a name addresses in an object text: the last member whose name (as UTF-8 bytes) is `name` -/
def lastMember (name : List Nat) : List (List Char × LVal) → Option LVal
  | [] => none
  | (k, x) :: ms =>
    match lastMember name ms with
    | some y => some y
    | none => if Utf8.encode k = name then some x else none

def LVal.step : LVal → JsonStep → Option LVal
  | .obj ms, .field name => lastMember name ms
  | .arr xs, .index i => xs[i]?
  | _, _ => none

def followL : List JsonStep → LVal → Option LVal
  | [], l => some l
  | s :: rest, l =>
    match l.step s with
    | some v => followL rest v
    | none => none

def lastMemberV (name : List Nat) : List (List Char × JVal) → Option JVal
  | [] => none
  | (k, x) :: ms =>
    match lastMemberV name ms with
    | some y => some y
    | none => if Utf8.encode k = name then some x else none

def stepV : JVal → JsonStep → Option JVal
  | .obj ms, .field name => lastMemberV name ms
  | .arr xs, .index i => xs[i]?
  | _, _ => none

def followV : List JsonStep → JVal → Option JVal
  | [], l => some l
  | s :: rest, l =>
    match stepV l s with
    | some v => followV rest v
    | none => none

theorem lookup_cons_eq {α : Type} (k name : List Nat) (v : α) (m : List (List Nat × α)) :
    ((k, v) :: m).lookup name = if k = name then some v else m.lookup name := by
  rw [List.lookup_cons]
  by_cases h : k = name
  · rw [if_pos h, beq_iff_eq.2 h.symm]
  · rw [if_neg h, beq_eq_false_iff_ne.2 (Ne.symm h)]

theorem lookup_insertMember (m : List (List Nat × Json)) (k name : List Nat) (v : Json) :
    (insertMember m k v).lookup name = if k = name then some v else m.lookup name := by
  induction m with
  | nil => rw [insertMember, lookup_cons_eq]
  | cons kv m ih =>
    obtain ⟨k', v'⟩ := kv
    rw [insertMember]
    by_cases hk : k' = k
    · subst hk
      rw [if_pos rfl, lookup_cons_eq, lookup_cons_eq]
      split <;> rfl
    · rw [if_neg hk, lookup_cons_eq, lookup_cons_eq, ih]
      by_cases h : k = name
      · subst h; simp only [hk, if_false, if_true]
      · simp only [h, if_false]

def lastKV (name : List Nat) : List (List Nat × Json) → Option Json
  | [] => none
  | (k, v) :: kvs =>
    match lastKV name kvs with
    | some y => some y
    | none => if k = name then some v else none

theorem lookup_dedupe (kvs : List (List Nat × Json)) (acc : List (List Nat × Json)) (name : List Nat) :
    (kvs.foldl (fun m kv => insertMember m kv.1 kv.2) acc).lookup name =
      match lastKV name kvs with
      | some y => some y
      | none => acc.lookup name := by
  induction kvs generalizing acc with
  | nil => rfl
  | cons kv kvs ih =>
    obtain ⟨k, v⟩ := kv
    rw [List.foldl_cons, ih, lastKV, lookup_insertMember]
    cases lastKV name kvs with
    | some y => rfl
    | none => by_cases h : k = name <;> simp [h]

theorem toJsonList_get : ∀ (xs : List LVal) (vs : List Json), toJsonList xs = some vs → ∀ i : Nat,
    (xs[i]?).map toJson = (vs[i]?).map some
  | [], vs, h, i => by cases h; rfl
  | x :: xs, vs, h, i => by
    rw [toJsonList_cons] at h
    obtain ⟨v, h1, h⟩ := Option.bind_eq_some_iff.1 h
    obtain ⟨vs', h2, rfl⟩ := Option.map_eq_some_iff.1 h
    cases i with
    | zero => exact congrArg some h1
    | succ i => exact toJsonList_get xs vs' h2 i

theorem toJsonMembers_last : ∀ (ms : List (List Char × LVal)) (kvs : List (List Nat × Json)),
    toJsonMembers ms = some kvs → ∀ name, (lastMember name ms).map toJson = (lastKV name kvs).map some
  | [], kvs, h, name => by cases h; rfl
  | (k, x) :: ms, kvs, h, name => by
    rw [toJsonMembers_cons] at h
    obtain ⟨v, h1, h⟩ := Option.bind_eq_some_iff.1 h
    obtain ⟨kvs', h2, rfl⟩ := Option.map_eq_some_iff.1 h
    have ih := toJsonMembers_last ms kvs' h2 name
    rw [lastMember, lastKV]
    cases hl : lastMember name ms <;> cases hk : lastKV name kvs' <;> simp [hl, hk] at ih ⊢
    · by_cases hn : Utf8.encode k = name <;> simp [hn, h1]
    · exact ih

theorem step_toJson (l : LVal) (j : Json) (h : toJson l = some j) (s : JsonStep) :
    (l.step s).map toJson = (JsonAccess.step j s).map some := by
  cases l with
  | arr xs =>
    rw [toJson] at h
    obtain ⟨vs, hx, rfl⟩ := Option.map_eq_some_iff.1 h
    cases s with
    | field name => rfl
    | index i => exact toJsonList_get xs vs hx i
  | obj ms =>
    rw [toJson] at h
    obtain ⟨kvs, hx, rfl⟩ := Option.map_eq_some_iff.1 h
    cases s with
    | index i => rfl
    | field name =>
      simp only [JsonAccess.step, Json.getField, LVal.step, lookup_dedupe kvs [] name]
      rw [toJsonMembers_last ms kvs hx name]
      cases lastKV name kvs <;> rfl
  | num lex =>
    rw [toJson] at h
    obtain ⟨n, _, rfl⟩ := Option.map_eq_some_iff.1 h
    cases s <;> rfl
  | _ => cases h; cases s <;> rfl

theorem follow_toJson : ∀ (steps : List JsonStep) (l : LVal) (j : Json), toJson l = some j →
    (followL steps l).map toJson = (followPath steps j).map some
  | [], l, j, h => by simp [followL, followPath, h]
  | s :: rest, l, j, h => by
    have hs := step_toJson l j h s
    rw [followL, followPath]
    cases hl : l.step s <;> cases hj : JsonAccess.step j s <;> simp [hl, hj] at hs ⊢
    exact follow_toJson rest _ _ hs

theorem followPath_iff_followL (steps : List JsonStep) (l : LVal) (j : Json) (h : toJson l = some j) (v : Json) :
    followPath steps j = some v ↔ ∃ l', followL steps l = some l' ∧ toJson l' = some v := by
  have hf := follow_toJson steps l j h
  cases hl : followL steps l <;> cases hp : followPath steps j <;> simp [hl, hp] at hf ⊢
  simp [hf]

/-- **a number found at a path is the reading of THE literal the path addresses in the text** -/
theorem followPath_num (steps : List JsonStep) (l : LVal) (j : Json) (h : toJson l = some j) (n : JNum) :
    followPath steps j = some (.num n) ↔ ∃ lex, followL steps l = some (.num lex) ∧ serdeNumber lex = some n := by
  rw [followPath_iff_followL steps l j h]
  constructor
  · rintro ⟨l', hl, hv⟩
    cases l' with
    | num lex =>
      rw [toJson] at hv
      obtain ⟨m, hs, hm⟩ := Option.map_eq_some_iff.1 hv
      cases hm
      exact ⟨lex, hl, hs⟩
    | arr xs => rw [toJson] at hv; obtain ⟨_, _, hm⟩ := Option.map_eq_some_iff.1 hv; cases hm
    | obj ms => rw [toJson] at hv; obtain ⟨_, _, hm⟩ := Option.map_eq_some_iff.1 hv; cases hm
    | _ => cases hv
  · rintro ⟨lex, hl, hs⟩
    exact ⟨.num lex, hl, by rw [toJson, hs]; rfl⟩

theorem lexemes_lastMember (name : List Nat) : ∀ (ms : List (List Char × LVal)) (x : LVal),
    lastMember name ms = some x → ∀ lex ∈ x.lexemes, lex ∈ LVal.lexemesMembers ms
  | [], x, h => by simp [lastMember] at h
  | (k, y) :: ms, x, h => by
    rw [lastMember] at h
    intro lex hlex
    rw [LVal.lexemesMembers]
    cases hl : lastMember name ms with
    | some z =>
      rw [hl] at h; cases h
      exact List.mem_append_right _ (lexemes_lastMember name ms x hl lex hlex)
    | none =>
      rw [hl] at h
      by_cases hk : Utf8.encode k = name
      · simp only [hk, if_true, Option.some.injEq] at h; subst h
        exact List.mem_append_left _ hlex
      · simp [hk] at h

theorem lexemes_getElem : ∀ (xs : List LVal) (i : Nat) (x : LVal), xs[i]? = some x →
    ∀ lex ∈ x.lexemes, lex ∈ LVal.lexemesList xs
  | [], i, x, h => by simp at h
  | y :: xs, 0, x, h => by
    simp only [List.getElem?_cons_zero, Option.some.injEq] at h; subst h
    intro lex hlex; rw [LVal.lexemesList]; exact List.mem_append_left _ hlex
  | y :: xs, i + 1, x, h => by
    simp only [List.getElem?_cons_succ] at h
    intro lex hlex; rw [LVal.lexemesList]
    exact List.mem_append_right _ (lexemes_getElem xs i x h lex hlex)

theorem lexemes_step (l l' : LVal) (s : JsonStep) (h : l.step s = some l') : ∀ lex ∈ l'.lexemes, lex ∈ l.lexemes := by
  cases l with
  | obj ms =>
    cases s with
    | field name => rw [LVal.lexemes]; exact lexemes_lastMember name ms l' h
    | index i => cases h
  | arr xs =>
    cases s with
    | field name => cases h
    | index i => rw [LVal.lexemes]; exact lexemes_getElem xs i l' h
  | null => cases s <;> cases h
  | bool b => cases s <;> cases h
  | str t => cases s <;> cases h
  | num lex => cases s <;> cases h

theorem lexemes_followL : ∀ (steps : List JsonStep) (l l' : LVal), followL steps l = some l' →
    ∀ lex ∈ l'.lexemes, lex ∈ l.lexemes
  | [], l, l', h => by cases h; exact fun _ hx => hx
  | s :: rest, l, l', h => by
    rw [followL] at h
    cases hs : l.step s with
    | none => rw [hs] at h; cases h
    | some l1 =>
      rw [hs] at h
      intro lex hlex
      exact lexemes_step l l1 s hs lex (lexemes_followL rest l1 l' h lex hlex)

theorem followL_lexeme (steps : List JsonStep) (l : LVal) (lex : List Char) (h : followL steps l = some (.num lex)) :
    lex ∈ l.lexemes :=
  lexemes_followL steps l _ h lex (by simp [LVal.lexemes])

theorem lastMember_erase (name : List Nat) : ∀ ms : List (List Char × LVal),
    (lastMember name ms).map LVal.erase = lastMemberV name (LVal.eraseMembers ms)
  | [] => rfl
  | (k, x) :: ms => by
    rw [lastMember, LVal.eraseMembers, lastMemberV, ← lastMember_erase name ms]
    cases lastMember name ms with
    | some y => rfl
    | none =>
      simp only [Option.map_none]
      by_cases hk : Utf8.encode k = name
      · simp [hk]
      · simp [hk]

theorem getElem?_eraseList : ∀ (xs : List LVal) (i : Nat), (xs[i]?).map LVal.erase = (LVal.eraseList xs)[i]?
  | [], i => by simp [LVal.eraseList]
  | x :: xs, 0 => by simp [LVal.eraseList]
  | x :: xs, i + 1 => by simp only [LVal.eraseList, List.getElem?_cons_succ]; exact getElem?_eraseList xs i

theorem step_erase (l : LVal) (s : JsonStep) : (l.step s).map LVal.erase = stepV l.erase s := by
  cases l with
  | obj ms =>
    cases s with
    | field name => simp only [LVal.step, LVal.erase, stepV]; exact lastMember_erase name ms
    | index i => rfl
  | arr xs =>
    cases s with
    | field name => rfl
    | index i => simp only [LVal.step, LVal.erase, stepV]; exact getElem?_eraseList xs i
  | null => cases s <;> rfl
  | bool b => cases s <;> rfl
  | str t => cases s <;> rfl
  | num lex => cases s <;> rfl

theorem followL_erase : ∀ (steps : List JsonStep) (l : LVal), (followL steps l).map LVal.erase = followV steps l.erase
  | [], l => rfl
  | s :: rest, l => by
    rw [followL, followV, ← step_erase]
    cases l.step s with
    | none => rfl
    | some l1 => exact followL_erase rest l1

end Sqlgrep.JsonDoc
