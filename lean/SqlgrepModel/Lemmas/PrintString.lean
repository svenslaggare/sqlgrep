import SqlgrepModel.Model.Print
import SqlgrepModel.Lemmas.ParseLit
/- Readers for the string and integer tokens the printer emits, and their round trips. `escapeByte_elim` is the one case
analysis of `escapeByte` (two-character escape, `\u00XX`, plain byte) through which every fact about escaped text goes. -/
namespace Sqlgrep.Print

def unhex (c : Nat) : Option Nat :=
  if 48 ≤ c ∧ c ≤ 57 then some (c - 48)
  else if 97 ≤ c ∧ c ≤ 102 then some (c - 87)
  else if 65 ≤ c ∧ c ≤ 70 then some (c - 55)
  else none

/-- the two-character escapes of RFC 8259 -/
def simpleEscape (e : Nat) : Option Nat :=
  if e = 34 then some 34 else if e = 92 then some 92 else if e = 47 then some 47
  else if e = 98 then some 8 else if e = 102 then some 12 else if e = 110 then some 10
  else if e = 114 then some 13 else if e = 116 then some 9 else none

def code4 (a b c d : Nat) : Nat := ((a * 16 + b) * 16 + c) * 16 + d

/-- one element of a JSON string body: an unescaped byte (no raw `"` and no control character),
a two-character escape, or `\u00XX` below 0x80 (the only `\u` escapes serde_json writes; larger code
points would need UTF-8 encoding and are rejected by this reader) -/
def readChar : Bytes → Option (Nat × Bytes)
  | [] => none
  | b :: rest =>
    if b = 92 then
      match rest with
      | [] => none
      | e :: rest' =>
        if e = 117 then
          match rest' with
          | h1 :: h2 :: h3 :: h4 :: r =>
            match unhex h1, unhex h2, unhex h3, unhex h4 with
            | some a, some b, some c, some d =>
              if code4 a b c d < 128 then some (code4 a b c d, r) else none
            | _, _, _, _ => none
          | _ => none
        else (simpleEscape e).map (·, rest')
    else if b = 34 ∨ b < 32 then none
    else some (b, rest)

theorem readChar_length {l : Bytes} {c : Nat} {rest : Bytes} (h : readChar l = some (c, rest)) :
    rest.length < l.length := by
  revert h
  -- trap: the cases are named by number and bind positionally; an edit of `readChar` renumbers them silently
  fun_cases readChar l
  case case3 => intro h; cases h; exact Nat.lt_add_of_pos_right (k := 6) (by decide)
  case case7 e t _ =>
    cases simpleEscape e with
    | none => nofun
    | some x => intro h; cases h; exact Nat.lt_add_of_pos_right (k := 2) (by decide)
  case case9 => intro h; cases h; exact Nat.lt_succ_self _
  all_goals nofun

/-- inverse of `jsonEscape`: decode a JSON string body (without the surrounding quotes) -/
def jsonUnescape (l : Bytes) : Option Bytes :=
  match l with
  | [] => some []
  | b :: t =>
    match h : readChar (b :: t) with
    | none => none
    | some (c, rest) => (jsonUnescape rest).map (c :: ·)
termination_by l.length
decreasing_by exact readChar_length h

/-- read a string body up to and including the closing quote; returns the decoded bytes and the rest -/
def readStr (l : Bytes) : Option (Bytes × Bytes) :=
  match l with
  | [] => none
  | b :: t =>
    if b = 34 then some ([], t)
    else
      match h : readChar (b :: t) with
      | none => none
      | some (c, rest) => (readStr rest).map (fun sr => (c :: sr.1, sr.2))
termination_by l.length
decreasing_by exact readChar_length h

theorem unhex_hexDigit (n : Nat) (h : n < 16) : unhex (hexDigit n) = some n := by
  unfold hexDigit unhex
  by_cases h10 : n < 10
  · rw [if_pos h10, if_pos (by omega), Nat.add_sub_cancel_left]
  · rw [if_neg h10, if_neg (by omega), if_pos (by omega), Nat.add_sub_cancel_left]

/-- the two-character escapes: the byte and the letter written after the backslash -/
def escapePairs : List (Nat × Nat) := [(34, 34), (92, 92), (8, 98), (9, 116), (10, 110), (12, 102), (13, 114)]

theorem escapeByte_elim {P : Nat → Bytes → Prop} (hesc : ∀ p ∈ escapePairs, P p.1 [92, p.2])
    (hctl : ∀ b, b < 32 → P b [92, 117, 48, 48, hexDigit (b / 16), hexDigit (b % 16)])
    (hplain : ∀ b, 32 ≤ b → b ≠ 34 → b ≠ 92 → P b [b]) : ∀ b, P b (escapeByte b) := by
  intro b
  unfold escapeByte
  by_cases e34 : b = 34; · subst b; exact hesc (34, 34) (by decide)
  by_cases e92 : b = 92; · subst b; exact hesc (92, 92) (by decide)
  by_cases e8 : b = 8; · subst b; exact hesc (8, 98) (by decide)
  by_cases e9 : b = 9; · subst b; exact hesc (9, 116) (by decide)
  by_cases e10 : b = 10; · subst b; exact hesc (10, 110) (by decide)
  by_cases e12 : b = 12; · subst b; exact hesc (12, 102) (by decide)
  by_cases e13 : b = 13; · subst b; exact hesc (13, 114) (by decide)
  rw [if_neg e34, if_neg e92, if_neg e8, if_neg e9, if_neg e10, if_neg e12, if_neg e13]
  by_cases h : b < 32
  · rw [if_pos h]; exact hctl b h
  · rw [if_neg h]; exact hplain b (Nat.not_lt.1 h) e34 e92

theorem escapeByte_head (b : Nat) : ∃ x xs, escapeByte b = x :: xs ∧ x ≠ 34 :=
  escapeByte_elim (P := fun _ l => ∃ x xs, l = x :: xs ∧ x ≠ 34) (fun _ _ => ⟨_, _, rfl, by decide⟩)
    (fun _ _ => ⟨_, _, rfl, by decide⟩) (fun b _ h _ => ⟨b, [], rfl, h⟩) b

theorem readChar_escapeByte (b : Nat) (t : Bytes) : readChar (escapeByte b ++ t) = some (b, t) := by
  refine escapeByte_elim (P := fun b l => readChar (l ++ t) = some (b, t)) ?_ ?_ ?_ b
  · intro p hp
    have := (by decide : ∀ p ∈ escapePairs, p.2 ≠ 117 ∧ simpleEscape p.2 = some p.1) p hp
    simp only [List.cons_append, List.nil_append, readChar, if_true, this.1, if_false, this.2, Option.map]
  · intro b h
    have hc : code4 0 0 (b / 16) (b % 16) = b := by
      rw [code4, Nat.zero_mul, Nat.zero_add]; exact Nat.div_add_mod' b 16
    simp only [List.cons_append, List.nil_append, readChar, if_true, show unhex 48 = some 0 from rfl,
      unhex_hexDigit (b / 16) (Nat.div_lt_of_lt_mul (Nat.lt_trans h (by decide))),
      unhex_hexDigit (b % 16) (Nat.mod_lt b (by decide)), hc, Nat.lt_trans h (show 32 < 128 by decide)]
  · intro b h hq hb
    have : ¬(b = 34 ∨ b < 32) := fun h' => h'.elim hq (Nat.not_lt.2 h)
    simp only [List.cons_append, List.nil_append, readChar, hb, this, if_false]

theorem jsonUnescape_escapeByte (b : Nat) (t : Bytes) :
    jsonUnescape (escapeByte b ++ t) = (jsonUnescape t).map (b :: ·) := by
  have hr := readChar_escapeByte b t
  obtain ⟨x, xs, he, _⟩ := escapeByte_head b
  rw [he, List.cons_append] at hr ⊢
  rw [jsonUnescape]
  split
  · rename_i h; rw [hr] at h; cases h
  · rename_i c rest h; rw [hr] at h; cases h; rfl

theorem jsonUnescape_jsonEscape (s : Bytes) : jsonUnescape (jsonEscape s) = some s := by
  induction s with
  | nil => simp [jsonEscape, jsonUnescape]
  | cons b s ih =>
    have : jsonEscape (b :: s) = escapeByte b ++ jsonEscape s := by simp [jsonEscape]
    rw [this, jsonUnescape_escapeByte, ih]; rfl

theorem readStr_escapeByte (b : Nat) (t : Bytes) :
    readStr (escapeByte b ++ t) = (readStr t).map (fun sr => (b :: sr.1, sr.2)) := by
  obtain ⟨x, xs, he, hx⟩ := escapeByte_head b
  have hr := readChar_escapeByte b t
  rw [he, List.cons_append] at hr ⊢
  rw [readStr, if_neg hx]
  split
  · rename_i h; rw [hr] at h; cases h
  · rename_i c rest h; rw [hr] at h; cases h; rfl

theorem readStr_jsonEscape (s rest : Bytes) : readStr (jsonEscape s ++ 34 :: rest) = some (s, rest) := by
  induction s with
  | nil => simp [jsonEscape, readStr]
  | cons b s ih =>
    have : jsonEscape (b :: s) ++ 34 :: rest = escapeByte b ++ (jsonEscape s ++ 34 :: rest) := by
      simp [jsonEscape]
    rw [this, readStr_escapeByte, ih]; rfl

def parseNatAux (acc : Nat) : Bytes → Option Nat
  | [] => some acc
  | c :: rest => if 48 ≤ c ∧ c ≤ 57 then parseNatAux (acc * 10 + (c - 48)) rest else none

def parseNat (s : Bytes) : Option Nat :=
  match s with
  | [] => none
  | _ => parseNatAux 0 s

/-- decimal integer with optional leading `-` -/
def parseInt (s : Bytes) : Option Int :=
  match s with
  | [] => none
  | c :: rest =>
    if c = 45 then
      match parseNat rest with
      | some n => some (-(Int.ofNat n))
      | none => none
    else
      match parseNat (c :: rest) with
      | some n => some (Int.ofNat n)
      | none => none

theorem natDigits_lt {n : Nat} (h : n < 10) : natDigits n = [48 + n] := by rw [natDigits, if_pos h]

theorem natDigits_ge {n : Nat} (h : ¬ n < 10) : natDigits n = natDigits (n / 10) ++ [48 + n % 10] := by
  rw [natDigits, if_neg h]

theorem renderInt_neg {i : Int} (h : i < 0) : renderInt i = 45 :: natDigits i.natAbs := if_pos h

theorem renderInt_nonneg {i : Int} (h : ¬ i < 0) : renderInt i = natDigits i.natAbs := if_neg h

theorem digit_range {d : Nat} (h : d < 10) : 48 ≤ 48 + d ∧ 48 + d ≤ 57 :=
  ⟨Nat.le_add_right _ _, Nat.add_le_add_left (Nat.le_of_lt_succ h) 48⟩

/-- the printer's decimal digits are the canonical rendering that `i64::from_str` is proved to read back
(`Lit.renderNat_spec`): digits, not empty, of value `n` -/
theorem natDigits_eq_renderNat (n : Nat) : natDigits n = Lit.renderNat n := by
  induction n using natDigits.induct with
  | case1 n h => rw [natDigits_lt h, Lit.renderNat, if_pos h]
  | case2 n h ih => rw [natDigits_ge h, Lit.renderNat, if_neg h, ih]

theorem natDigits_digits (n : Nat) : ∀ c ∈ natDigits n, 48 ≤ c ∧ c ≤ 57 := fun c hc => by
  have := (Lit.renderNat_spec n).2.1 c (natDigits_eq_renderNat n ▸ hc)
  simpa only [Lit.isDigit, Bool.and_eq_true, decide_eq_true_eq] using this

theorem natDigits_head (n : Nat) : ∃ c t, natDigits n = c :: t ∧ 48 ≤ c ∧ c ≤ 57 := by
  cases h : natDigits n with
  | nil => exact absurd (natDigits_eq_renderNat n ▸ h) (Lit.renderNat_spec n).1
  | cons c t => exact ⟨c, t, rfl, natDigits_digits n c (h ▸ List.mem_cons_self)⟩

theorem parseNatAux_digits : ∀ (ds : Bytes) (acc : Nat), (∀ c ∈ ds, 48 ≤ c ∧ c ≤ 57) →
    parseNatAux acc ds = some (ds.foldl (fun a b => a * 10 + (b - 48)) acc)
  | [], _, _ => rfl
  | c :: ds, acc, h => by
    rw [parseNatAux, if_pos (h c List.mem_cons_self)]
    exact parseNatAux_digits ds _ fun x hx => h x (List.mem_cons_of_mem _ hx)

theorem parseNatAux_natDigits (n : Nat) : parseNatAux 0 (natDigits n) = some n := by
  rw [parseNatAux_digits _ 0 (natDigits_digits n)]
  exact congrArg some (natDigits_eq_renderNat n ▸ (Lit.renderNat_spec n).2.2 : Lit.digitsVal (natDigits n) = n)

theorem parseNat_natDigits (n : Nat) : parseNat (natDigits n) = some n := by
  obtain ⟨c, t, e, _⟩ := natDigits_head n
  rw [← parseNatAux_natDigits n, e]; rfl

theorem parseInt_renderInt (i : Int) : parseInt (renderInt i) = some i := by
  by_cases h : i < 0
  · rw [renderInt_neg h]
    simp only [parseInt, if_true, parseNat_natDigits]
    exact congrArg some (by rw [Int.ofNat_eq_natCast]; omega)
  · rw [renderInt_nonneg h]
    obtain ⟨c, t, e, hc, _⟩ := natDigits_head i.natAbs
    have h45 : c ≠ 45 := by omega
    have hp := parseNat_natDigits i.natAbs
    rw [e] at hp ⊢
    simp only [parseInt, h45, if_false, hp]
    exact congrArg some (by rw [Int.ofNat_eq_natCast]; omega)

end Sqlgrep.Print
