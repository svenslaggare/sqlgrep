import SqlgrepModel.Lemmas.ReaderUtf8
/-
C10 — follow mode delivers every completed line exactly once, in order.

Model (`Model/Reader.lean`): `Follow` = the followed file (append-only), the descriptor offset, `BufReader`'s
unconsumed buffer and capacity, `FollowFileIterator.line` (`acc`), the items returned so far, the start
offset chosen by `FollowFileExecutor::new` (`0` with `--head`, else the file length at start-up).
Operations: `append bs` (the writer) and `poll k` (one round of `read_until`'s loop: `fill_buf`, which reads
from the file only when the buffer is empty and may return fewer bytes than the capacity — `k+1` — then
take through the first `\n` or everything; on return `next` either pops the `\n` and hands the line out or,
at EOF without a complete line, retries keeping `line`).
All theorems quantify over every file content, every start mode, every capacity and *every finite sequence
of operations* — i.e. every chunking of the writer's appends (down to single bytes, inside multi-byte
characters, right before the newline), every placement of polls between appends, every short read.
Spec vocabulary (`Lemmas/ReaderSpec.lean`): `splitNl` (the unique split at `\n`), `completeLines` (all pieces
but the last), `tailOf` (the last piece), `wire` (lines written out with their newlines).
Assumed about the OS: the file only grows, a `read` returns a prefix of the unread bytes, reads do not fail.
Helper lemmas live in `Lemmas/`, except `run_frame` (what no operation touches), which stands here in front of its users.
-/
namespace Sqlgrep.Props.C10
open Sqlgrep Sqlgrep.Reader

/-- the state reached from start-up on `file` after the operations `ops` -/
def reached (file : List Nat) (head : Bool) (cap : Nat) (ops : List Op) : Follow :=
  run (Follow.init file head cap) ops

/-- what no operation touches: the file is only changed by the writer (the appends, in order), the start offset and the
capacity never -/
theorem run_frame (s : Follow) (ops : List Op) :
    (run s ops).file = s.file ++ (ops.flatMap (fun op => match op with | .append bs => bs | .poll _ => [])) ∧
    (run s ops).start = s.start ∧ (run s ops).cap = s.cap := by
  unfold run
  induction ops generalizing s with
  | nil => simp
  | cons op ops ih =>
    simp only [List.foldl_cons, List.flatMap_cons]
    obtain ⟨h₁, h₂, h₃⟩ := ih (step s op)
    rw [h₁, h₂, h₃]
    cases op with
    | append bs => simp [step]
    | poll k => obtain ⟨p₁, p₂, p₃⟩ := poll_frame s k; simp [p₁, p₂, p₃]

/-- the start offset: first byte of the file with `--head`, else the first byte appended after start-up -/
theorem start_offset (file : List Nat) (head : Bool) (cap : Nat) (ops : List Op) :
    (reached file head cap ops).start = if head then 0 else file.length := by
  unfold reached
  rw [(run_frame _ ops).2.1]
  cases head <;> rfl

/-- the file is only changed by the writer: it is the initial content followed by the appends, in order -/
theorem file_is_appends (file : List Nat) (head : Bool) (cap : Nat) (ops : List Op) :
    (reached file head cap ops).file =
      file ++ (ops.flatMap (fun op => match op with | .append bs => bs | .poll _ => [])) := by
  unfold reached
  rw [(run_frame _ ops).1]
  cases head <;> rfl

theorem reached_inv (file : List Nat) (head : Bool) (cap : Nat) (ops : List Op) : Inv (reached file head cap ops) :=
  run_inv _ ops (init_inv file head cap)

/-- **Invariant.** At start-up, and after every operation, hence after every operation sequence:
the delivered lines (each followed by its newline), then the pending partial line, then the bytes in
`BufReader`'s buffer, then the unread rest of the file are exactly the file content from the start offset;
the pending line contains no newline, nor does any delivered line. -/
theorem follow_invariant (file : List Nat) (head : Bool) (cap : Nat) (ops : List Op) :
    let s := reached file head cap ops
    wire s.delivered ++ s.acc ++ s.buf ++ s.file.drop s.pos = s.file.drop s.start
    ∧ nl ∉ s.acc ∧ (∀ l ∈ s.delivered, nl ∉ l) := by
  have h := reached_inv file head cap ops
  exact ⟨h.1, h.2.1, h.2.2.1⟩

/-- the invariant is inductive: it holds initially and every single operation preserves it -/
theorem follow_invariant_init (file : List Nat) (head : Bool) (cap : Nat) : Inv (Follow.init file head cap) :=
  init_inv file head cap
theorem follow_invariant_step (s : Follow) (op : Op) (h : Inv s) : Inv (step s op) := step_inv s op h

/-- **Exactly once, in order, byte for byte.** At every reachable state the delivered sequence is a prefix of
the complete (newline-terminated) lines of the content from the start offset, each without its newline. -/
theorem follow_exactly_once_in_order (file : List Nat) (head : Bool) (cap : Nat) (ops : List Op) :
    let s := reached file head cap ops
    s.delivered <+: completeLines (s.file.drop s.start) := by
  exact inv_delivered_prefix _ (reached_inv file head cap ops)

/-- **Character for character.** The item handed out is `String::from_utf8_lossy(line)`; when the content from
the start offset is valid UTF-8, every delivered line is valid UTF-8 by itself — wherever the appends were
cut — so that conversion is the identity and the `String` has exactly the bytes of the line. -/
theorem follow_lines_valid_utf8 (file : List Nat) (head : Bool) (cap : Nat) (ops : List Op) :
    let s := reached file head cap ops
    validUtf8 (s.file.drop s.start) = true → ∀ l ∈ s.delivered, validUtf8 l = true := by
  intro s hv
  exact inv_delivered_valid s (reached_inv file head cap ops) hv

/-- delivery is append-only: further operations never retract, reorder or change what was delivered
(together with the previous theorem: no duplicates — the i-th item is the i-th complete line, forever) -/
theorem follow_delivered_stable (file : List Nat) (head : Bool) (cap : Nat) (ops more : List Op) :
    (reached file head cap ops).delivered <+: (reached file head cap (ops ++ more)).delivered := by
  unfold reached run
  rw [List.foldl_append]
  exact run_delivered_prefix _ more

/-- **No tail.** However the content from the start offset decomposes into newline-terminated lines `ls`
and an unterminated tail `t`, only lines of `ls` are ever delivered (as a prefix of `ls`): the tail is never
delivered, split, or merged with a neighbour — even when it equals an earlier line. -/
theorem follow_no_tail (file : List Nat) (head : Bool) (cap : Nat) (ops : List Op)
    (ls : List (List Nat)) (t : List Nat) (hls : ∀ l ∈ ls, nl ∉ l) (ht : nl ∉ t) :
    let s := reached file head cap ops
    s.file.drop s.start = wire ls ++ t → s.delivered <+: ls ∧ s.delivered.length ≤ ls.length := by
  intro s hdec
  have h := follow_exactly_once_in_order file head cap ops
  simp only at h
  rw [show (reached file head cap ops) = s from rfl, hdec, (completeLines_unique ls t hls ht).1] at h
  exact ⟨h, h.length_le⟩

/-- **Progress.** From any reachable state, if the writer pauses and the reader keeps polling (any read
sizes, capacity ≥ 1), then after as many polls as there are fetched-or-fetchable bytes every complete line of
the content has been delivered, and the pending line is exactly the unterminated tail. -/
theorem follow_progress (file : List Nat) (head : Bool) (cap : Nat) (hc : 1 ≤ cap) (ops : List Op) (ks : List Nat)
    (hn : pending (reached file head cap ops) ≤ ks.length) :
    let s := reached file head cap (ops ++ ks.map .poll)
    s.delivered = completeLines (s.file.drop s.start) ∧ s.acc = tailOf (s.file.drop s.start) := by
  intro s
  have hs : s = run (reached file head cap ops) (ks.map .poll) := by
    simp only [s, reached, run, List.foldl_append]
  have hinv : Inv s := reached_inv file head cap _
  have hcap : 1 ≤ (reached file head cap ops).cap := by
    unfold reached
    rw [(run_frame _ ops).2.2]
    cases head <;> exact hc
  have hp : pending s = 0 := by
    have := run_polls_pending (reached file head cap ops) ks hcap
    rw [← hs] at this
    omega
  exact delivered_of_pending_zero s hinv hp

/-- the schedules of the correspondence check (`drive`: poll with full reads until the retry point, there
append the next chunk or stop) are operation sequences, so every theorem above applies to them -/
theorem drive_covered (file : List Nat) (head : Bool) (cap fuel : Nat) (chunks : List (List Nat)) :
    ∃ ops, drive fuel (Follow.init file head cap) chunks = reached file head cap ops :=
  drive_is_run fuel _ chunks

/-! Non-vacuity and concrete behaviour (97 = 'a', 98 = 'b', 195 169 = 'é', 10 = LF, 13 = CR). -/

-- an append that ends inside `é`, a poll (retry), the rest: the line is delivered whole, once
example : (reached [] true 2 [.append [97, 195], .poll 1, .poll 1, .append [169, 10, 98], .poll 1, .poll 1, .poll 1]).delivered
    = [[97, 195, 169]] := by decide +kernel
-- the unterminated tail `b` stays pending
example : (reached [] true 2 [.append [97, 195], .poll 1, .poll 1, .append [169, 10, 98], .poll 1, .poll 1, .poll 1]).acc
    = [98] := by decide +kernel
-- without --head the existing content (also its unterminated tail `old`) is skipped
example : (reached [111, 108, 100] false 8 [.append [101, 114, 10, 110, 10], .poll 7, .poll 7, .poll 7]).delivered
    = [[101, 114], [110]] := by decide +kernel
-- CR is content in follow mode (only the LF is removed); empty lines are delivered
example : (reached [] true 1 [.append [97, 13, 10, 10], .poll 0, .poll 0, .poll 0, .poll 0]).delivered
    = [[97, 13], []] := by decide +kernel
-- the hypotheses of `follow_no_tail` are satisfiable with a tail equal to an earlier line
example : ([97, 10, 97] : List Nat) = wire [[97]] ++ [97] ∧ nl ∉ ([97] : List Nat) := by decide +kernel
-- `follow_progress`: 4 pending bytes, 4 polls
example : pending (reached [] true 3 [.append [97, 10, 98, 10]]) = 4 := by decide +kernel
example : completeLines [97, 10, 10, 98] = [[97], []] ∧ tailOf [97, 10, 10, 98] = [98] := by decide +kernel

end Sqlgrep.Props.C10
