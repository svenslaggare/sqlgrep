import SqlgrepModel.Lemmas.Drive
import SqlgrepModel.Spec.Join
/-
The engine's answers for a sequence of lines fed one at a time (`feedLines`: up to the first failure, with the final state
or the failure), and the loops as functions of these answers: as long as no answer ends it, a loop over readable lines is
in the state `Mode.afterAll` — every answer counted, printed and recorded (`drive_feed`; for a non-aggregate statement
without LIMIT: `runFile_select_feed`); what `FollowFileExecutor::execute` prints from the answers is `followPrinted`. Lines
that yield no row contribute an answer without a result and leave the state unchanged, so they are invisible to everything
that only looks at answers with a result. Against the loops of `Spec/Join.lean`: whatever rows the lines present
(`lineEnvs`), the answers are the specification's loop over the lines that yield a row (`feedLines_aggLoop`,
`feedLines_selectLoop`).
-/
namespace Sqlgrep

/-- the engine's answers for the lines fed one at a time (up to the first failure), and the final state or the
failure -/
def feedLines (O : Oracles) (qy : Query) (idx : JoinIndex) (w : Bool) : List Line → EngineState → List LineOut × Outcome EngineState
  | [], es => ([], .ok es)
  | l :: ls, es =>
    match executeLine O qy idx w es l with
    | .ok (es1, lo) => (lo :: (feedLines O qy idx w ls es1).1, (feedLines O qy idx w ls es1).2)
    | .error k => ([], .error k)
    | .panic s => ([], .panic s)
    | .oracleMissing s => ([], .oracleMissing s)

/-- the answers that carry a result table (with their `reached_limit` flag) -/
def withResult (los : List LineOut) : List LineOut := los.filter (fun lo => lo.result.isSome)

/-- the loop of `FollowFileExecutor::execute` (src/executor.rs) over the engine's answers: an answer without a
result is skipped (the limit flag is looked at only inside `if let Some(result_row)`), every result table is
printed, and the loop ends after a table that came with the flag -/
def followPrinted (single : Bool) : List LineOut → List String
  | [] => []
  | lo :: rest =>
    match lo.result with
    | some r => printResult r single ++ (if lo.reachedLimit then [] else followPrinted single rest)
    | none => followPrinted single rest

/-- the loop of `FollowFileExecutor::execute` over the engine's answers, as print calls (cf. `followPrinted`) -/
def followCalls (single : Bool) : List LineOut → List PrintCall
  | [] => []
  | lo :: rest =>
    match lo.result with
    | some r => { result := r, final := single } :: (if lo.reachedLimit then [] else followCalls single rest)
    | none => followCalls single rest

theorem renderCalls_followCalls (single : Bool) (los : List LineOut) :
    renderCalls (followCalls single los) = followPrinted single los := by
  induction los with
  | nil => rfl
  | cons lo rest ih =>
    rw [followCalls, followPrinted, ← ih]
    cases lo.result with
    | none => rfl
    | some r => cases lo.reachedLimit <;> rfl

theorem followPrinted_withResult (single : Bool) (los : List LineOut) :
    followPrinted single (withResult los) = followPrinted single los := by
  induction los with
  | nil => rfl
  | cons lo rest ih =>
    unfold withResult at ih ⊢
    cases hr : lo.result with
    | none => simp only [List.filter_cons, hr, Option.isSome_none, Bool.false_eq_true, if_false, followPrinted, ih]
    | some r =>
      simp only [List.filter_cons, hr, Option.isSome_some, if_true, followPrinted, ih]

theorem feedLines_cons_ok {O : Oracles} {qy : Query} {idx : JoinIndex} {w : Bool} {l : Line} {es es1 : EngineState} {lo : LineOut}
    (h : executeLine O qy idx w es l = .ok (es1, lo)) (rest : List Line) :
    feedLines O qy idx w (l :: rest) es = (lo :: (feedLines O qy idx w rest es1).1, (feedLines O qy idx w rest es1).2) := by
  rw [feedLines, h]

theorem feedLines_cons_fail {O : Oracles} {qy : Query} {idx : JoinIndex} {w : Bool} {l : Line} {es : EngineState}
    (h : ∀ p, executeLine O qy idx w es l ≠ .ok p) (rest : List Line) :
    (feedLines O qy idx w (l :: rest) es).1 = [] ∧ ∀ es', (feedLines O qy idx w (l :: rest) es).2 ≠ .ok es' := by
  rw [feedLines]
  cases hx : executeLine O qy idx w es l with
  | ok p => exact absurd hx (h p)
  | _ => exact ⟨rfl, nofun⟩

theorem feedLines_length {O : Oracles} {qy : Query} {idx : JoinIndex} {w : Bool} {lines : List Line} {es es' : EngineState}
    (h : (feedLines O qy idx w lines es).2 = .ok es') : (feedLines O qy idx w lines es).1.length = lines.length := by
  induction lines generalizing es with
  | nil => rfl
  | cons l rest ih =>
    rcases Outcome.ok_or_not (executeLine O qy idx w es l) with ⟨⟨es1, lo⟩, hx⟩ | hx
    · rw [feedLines_cons_ok hx] at h ⊢
      exact congrArg (· + 1) (ih h)
    · exact absurd h ((feedLines_cons_fail hx rest).2 es')

theorem feedLines_forall {O : Oracles} {qy : Query} {idx : JoinIndex} {w : Bool} (P : LineOut → Prop)
    (h : ∀ es l es1 lo, executeLine O qy idx w es l = .ok (es1, lo) → P lo) (lines : List Line) (es : EngineState) :
    ∀ lo ∈ (feedLines O qy idx w lines es).1, P lo := by
  induction lines generalizing es with
  | nil => exact fun _ h => nomatch h
  | cons l rest ih =>
    rcases Outcome.ok_or_not (executeLine O qy idx w es l) with ⟨⟨es1, lo⟩, hx⟩ | hx
    · rw [feedLines_cons_ok hx]
      exact List.forall_mem_cons.2 ⟨h _ _ _ _ hx, ih es1⟩
    · rw [(feedLines_cons_fail hx rest).1]
      exact fun _ h => nomatch h

theorem feedLines_take (O : Oracles) (qy : Query) (idx : JoinIndex) (w : Bool) (k : Nat) (lines : List Line)
    (es : EngineState) :
    (feedLines O qy idx w (lines.take k) es).1 = (feedLines O qy idx w lines es).1.take k := by
  induction lines generalizing k es with
  | nil => simp [feedLines]
  | cons l rest ih =>
    cases k with
    | zero => simp [feedLines]
    | succ k =>
      simp only [List.take_succ_cons, feedLines]
      cases executeLine O qy idx w es l with
      | ok p => simp [ih]
      | _ => rfl

/-- **noise invariance, line at a time**: the answers with a result, and the final state or failure, are those
of the run over the lines that yield a row -/
theorem feedLines_noise (O : Oracles) (qy : Query) (idx : JoinIndex) (w : Bool) (lines : List Line) (es : EngineState) :
    withResult (feedLines O qy idx w (lines.filter (fun l => anyResult l.row)) es).1 =
        withResult (feedLines O qy idx w lines es).1 ∧
    (feedLines O qy idx w (lines.filter (fun l => anyResult l.row)) es).2 = (feedLines O qy idx w lines es).2 := by
  induction lines generalizing es with
  | nil => exact ⟨rfl, rfl⟩
  | cons l ls ih =>
    by_cases ha : anyResult l.row = true
    · simp only [List.filter_cons, ha, if_true, feedLines]
      cases executeLine O qy idx w es l with
      | ok p =>
        obtain ⟨es1, lo⟩ := p
        obtain ⟨h1, h2⟩ := ih es1
        refine ⟨?_, h2⟩
        unfold withResult at h1 ⊢
        simp only [List.filter_cons, h1]
      | _ => exact ⟨rfl, rfl⟩
    · have ha' : anyResult l.row = false := by simpa using ha
      simp only [List.filter_cons, ha', Bool.false_eq_true, if_false]
      simp only [feedLines, executeLine_noise O qy idx w es l ha']
      obtain ⟨h1, h2⟩ := ih es
      refine ⟨?_, h2⟩
      rw [h1]
      simp [withResult]

/-- the state of a loop after the answers `los`, none of which ended it, with the engine left in `es'` -/
def Mode.afterAll (m : Mode) (s : TraceState) (los : List LineOut) (es' : EngineState) : TraceState :=
  { ls := { es := es', consumed := s.ls.consumed + los.length, stop := s.ls.stop,
            out := { s.ls.out with totalLines := s.ls.out.totalLines + los.length,
                                   printed := s.ls.out.printed ++ los.flatMap m.text } },
    calls := s.calls ++ los.flatMap m.calls }

/-- **the loop over readable lines whose answers do not end it**: if the feed does not fail the loop is in the state
`afterAll`; if it fails the loop has stopped and reports a failure, having printed and recorded the answers before it.
`hq` excludes every run that a LIMIT ends (`m.cut lo = true` on its last answer); the follow loop with such runs is taken line
by line (`runFollowT_answers`, `Lemmas/FollowBridge.lean`). -/
theorem drive_feed (m : Mode) (O : Oracles) (qy : Query) (idx : JoinIndex) (w : Bool) (lines : List Line) (s : TraceState)
    (hs : s.ls.stop = false) (hq : ∀ lo ∈ (feedLines O qy idx w lines s.ls.es).1, m.cut lo = false) :
    (∀ es', (feedLines O qy idx w lines s.ls.es).2 = .ok es' →
      drive m (executeLine O qy idx w) none (readableFile lines) s = m.afterAll s (feedLines O qy idx w lines s.ls.es).1 es') ∧
    ((∀ es', (feedLines O qy idx w lines s.ls.es).2 ≠ .ok es') →
      (drive m (executeLine O qy idx w) none (readableFile lines) s).ls.stop = true ∧
      hasFailed (drive m (executeLine O qy idx w) none (readableFile lines) s).ls.out = true ∧
      (drive m (executeLine O qy idx w) none (readableFile lines) s).ls.out.printed =
        s.ls.out.printed ++ (feedLines O qy idx w lines s.ls.es).1.flatMap m.text ∧
      (drive m (executeLine O qy idx w) none (readableFile lines) s).calls =
        s.calls ++ (feedLines O qy idx w lines s.ls.es).1.flatMap m.calls) := by
  induction lines generalizing s with
  | nil =>
    refine ⟨fun es' h => ?_, fun h => absurd rfl (h s.ls.es)⟩
    obtain rfl := Outcome.ok.inj h
    obtain ⟨⟨es, out, c, st⟩, cs⟩ := s
    simp [drive, readableFile, Mode.afterAll, feedLines]
  | cons l rest ih =>
    have hh : fileHalt none s.ls = false := by rw [fileHalt_none]; exact hs
    rw [show readableFile (l :: rest) = ⟨true, l⟩ :: readableFile rest from rfl, drive_cons _ _ _ _ _ hh, Mode.step, if_pos rfl]
    rcases Outcome.ok_or_not (executeLine O qy idx w s.ls.es l) with ⟨⟨es1, lo⟩, hx⟩ | hx
    · rw [feedLines_cons_ok hx] at hq ⊢
      have hcut : m.cut lo = false := hq lo List.mem_cons_self
      rw [hx]
      obtain ⟨ih1, ih2⟩ := ih (m.after s (.ok (es1, lo))) hcut (fun lo' h => hq lo' (List.mem_cons_of_mem _ h))
      refine ⟨fun es' h => (ih1 es' h).trans ?_, fun h => ?_⟩
      · simp only [Mode.afterAll, Mode.after, hcut, hs, List.length_cons, List.flatMap_cons, List.append_assoc,
          Nat.add_assoc, Nat.add_comm 1]
      · obtain ⟨h1, h2, h3, h4⟩ := ih2 h
        exact ⟨h1, h2, by simpa [Mode.after, List.append_assoc] using h3, by simpa [Mode.after, List.append_assoc] using h4⟩
    · obtain ⟨h1, h2⟩ := feedLines_cons_fail hx rest
      rw [Mode.after_fail m s hx, drive_of_stop _ _ _ _ rfl, h1]
      exact ⟨fun es' h => absurd h (h2 es'), fun _ => ⟨rfl, failWith_hasFailed _ hx, by simp [lineFailed, followCounted], by simp⟩⟩

theorem feedLines_select_noflag (O : Oracles) (qy : Query) (q : SelectStmt) (hq : qy.stmt = .select q)
    (hl : q.limit = none) (idx : JoinIndex) (w : Bool) (lines : List Line) (es : EngineState) :
    ∀ lo ∈ (feedLines O qy idx w lines es).1, lo.reachedLimit = false :=
  feedLines_forall (fun lo => lo.reachedLimit = false) (fun es l es1 lo => noLimit_flag_select O qy q hq hl idx w es es1 l lo)
    lines es

theorem runFile_select_feed (O : Oracles) (qy : Query) (q : SelectStmt) (hq : qy.stmt = .select q) (hlim : q.limit = none)
    (idx : JoinIndex) (lines : List Line) (ls : LoopState) (es' : EngineState) (hs : ls.stop = false := by rfl)
    (he : (feedLines O qy idx true lines ls.es).2 = .ok es') :
    (runFile O qy idx true none (readableFile lines) ls).out =
      { ls.out with printed := ls.out.printed ++ (feedLines O qy idx true lines ls.es).1.flatMap piece,
                    totalLines := ls.out.totalLines + lines.length } := by
  have h := (drive_feed .batch O qy idx true lines ⟨ls, []⟩ hs fun lo hlo =>
    (Mode.batch_cut lo).trans (feedLines_select_noflag O qy q hq hlim idx true _ _ lo hlo)).1 es' he
  rw [runFile_eq_drive _ _ _ _ _ _ _ hs, h, Mode.afterAll, feedLines_length he]
  rfl

theorem updateLimit_noLimit (b : Bool) (es : EngineState) (r : Option RowOut) :
    updateLimit b none es r = ({ es with numOut := es.numOut + (match r with
      | some out => out.rows.length
      | none => 0) }, { result := r, reachedLimit := false }) := by
  cases r <;> rfl

section
open Spec.Join
variable (O : Oracles) {qy : Query} {idx : JoinIndex} {ao : Bool} {rows : Line → List (Env × List String)}
  (hrows : ∀ l, admitted l = true → lineEnvs qy idx ao l = .ok (rows l))
include hrows

theorem feedLines_aggLoop {q : AggStmt} (hq : qy.stmt = .aggregate q) (hao : ao = false) (lines : List Line) (es : EngineState) :
    (feedLines O qy idx false lines es).2 =
      (aggLoop O q rows (lines.filter admitted) es.agg).bind fun st => .ok { es with agg := st } := by
  subst hao
  induction lines generalizing es with
  | nil => rfl
  | cons l rest ih =>
    rw [feedLines, List.filter_cons]
    by_cases ha : admitted l = true
    · rw [executeLine_batch_join O qy q idx es l hq ha, hrows l ha, Outcome.ok_bind, if_pos ha, aggLoop]
      cases aggEnvs O q (rows l) es.agg false with
      | ok p => exact ih { es with agg := p.1 }
      | _ => rfl
    · rw [executeLine_noise O qy idx false es l (Bool.eq_false_iff.2 ha), if_neg ha]
      exact ih es

theorem feedLines_selectLoop {q : SelectStmt} (hq : qy.stmt = .select q) (hlim : q.limit = none) (hao : ao = true)
    (lines : List Line) (es : EngineState) (pr : List String)
    (h : selectLoop O q rows (lines.filter admitted) es.seen = .ok pr) :
    (∃ es', (feedLines O qy idx true lines es).2 = .ok es') ∧ (feedLines O qy idx true lines es).1.flatMap piece = pr := by
  subst hao
  induction lines generalizing es pr with
  | nil => exact ⟨⟨es, rfl⟩, Outcome.ok.inj h⟩
  | cons l rest ih =>
    rw [List.filter_cons] at h
    by_cases ha : admitted l = true
    · rw [if_pos ha, selectLoop] at h
      obtain ⟨⟨seen', r⟩, hs, h⟩ := Outcome.bind_eq_ok h
      obtain ⟨more, hm, h⟩ := Outcome.bind_eq_ok h
      obtain rfl := Outcome.ok.inj h
      have hx : executeLine O qy idx true es l = .ok (updateLimit true none { es with seen := seen' } r) := by
        rw [executeLine_select_row O idx es hq true ha, hrows l ha, Outcome.ok_bind, hs, Outcome.ok_bind, hlim]
      rw [updateLimit_noLimit] at hx
      rw [feedLines_cons_ok hx]
      obtain ⟨i1, i2⟩ := ih ⟨seen', es.agg, _⟩ more hm
      exact ⟨i1, by rw [List.flatMap_cons, i2]; rfl⟩
    · rw [if_neg ha] at h
      rw [feedLines_cons_ok (executeLine_noise O qy idx true es l (Bool.eq_false_iff.2 ha))]
      exact ih es pr h

end

end Sqlgrep
