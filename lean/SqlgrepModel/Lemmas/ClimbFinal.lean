import SqlgrepModel.Lemmas.ClimbCorrect
import SqlgrepModel.Generated.PrecTable
import SqlgrepModel.Lemmas.ParseLoc
/-
From `climb_correct` to the statements of property C13: explicit-fuel form, the fully parenthesised printer,
token vectors carrying locations, stopping tokens, a negated right operand, and the comparison of the generated
tables with the reference grammar.
-/
namespace Sqlgrep.Spec
open Sqlgrep.Parse

variable {T : PrecTables}

theorem stops_plain {s : PSt} (h1 : s.cur.tok ≠ .lp) (h2 : ∀ o, s.cur.tok ≠ .op o)
    (h3 : lookupTok T.other s.cur.tok = none) : Stops T 0 s :=
  Stops.of_tok h1 (fun o ho => absurd ho (h2 o)) (by rw [tokPrec_of_not_op h2, h3]; decide)

mutual
theorem WF_parenAll : ∀ (e : RExpr), RExpr.WF T e → RExpr.WF T e.parenAll
  | .lit _, h => h
  | .col _ _, h => h
  | .paren e, h => WF_parenAll e h
  | .bin _ l r, h => ⟨h.1, WF_parenAll l h.2.1, WF_parenAll r h.2.2⟩
  | .not e, h => WF_parenAll e h
  | .neg e, h => WF_parenAll e h
  | .index a i, h => ⟨WF_parenAll a h.1, WF_parenAll i h.2⟩
  | .cast e _, h => ⟨h.1, WF_parenAll e h.2⟩
  | .inList _ e v vs, h => ⟨WF_parenAll e h.1, WF_parenAll v h.2.1, WFs_parenAlls vs h.2.2⟩
  | .call _ args, h => WFs_parenAlls args h
  | .star, h => h
  | .countDistinct _ a as, h => ⟨h.1, WF_parenAll a h.2.1, WFs_parenAlls as h.2.2⟩
  | .array _ args, h => ⟨h.1, WFs_parenAlls args h.2⟩
  | .extract _ e, h => WF_parenAll e h
  | .tuple a b more, h => ⟨WF_parenAll a h.1, WF_parenAll b h.2.1, WFs_parenAlls more h.2.2⟩
  | .case c r more els, h =>
    ⟨WF_parenAll c h.1, WF_parenAll r h.2.1, WFClauses_parenAll more h.2.2.1, WF_parenAll els h.2.2.2⟩
theorem WFs_parenAlls : ∀ (es : List RExpr), RExpr.WFs T es → RExpr.WFs T (RExpr.parenAlls es)
  | [], h => h
  | e :: es, h => ⟨WF_parenAll e h.1, WFs_parenAlls es h.2⟩
theorem WFClauses_parenAll : ∀ (cs : List (RExpr × RExpr)), RExpr.WFClauses T cs → RExpr.WFClauses T (RExpr.parenAllClauses cs)
  | [], h => h
  | (c, r) :: cs, h => ⟨WF_parenAll c h.1, WF_parenAll r h.2.1, WFClauses_parenAll cs h.2.2⟩
end

mutual
theorem embed_parenAll : ∀ (e : RExpr), e.parenAll.embed = e.embed
  | .lit _ => rfl
  | .col _ _ => rfl
  | .paren e => by simp only [RExpr.parenAll, RExpr.embed]; exact embed_parenAll e
  | .bin o l r => by
    cases o <;> simp only [RExpr.parenAll, RExpr.embed, embed_parenAll l, embed_parenAll r]
  | .not e => by simp only [RExpr.parenAll, RExpr.embed, embed_parenAll e]
  | .neg e => by simp only [RExpr.parenAll, RExpr.embed, embed_parenAll e]
  | .index a i => by simp only [RExpr.parenAll, RExpr.embed, embed_parenAll a, embed_parenAll i]
  | .cast e t => by simp only [RExpr.parenAll, RExpr.embed, embed_parenAll e]
  | .inList n e v vs => by
    simp only [RExpr.parenAll, RExpr.embed, embed_parenAll e, embed_parenAll v, embeds_parenAlls vs]
  | .call f args => by simp only [RExpr.parenAll, RExpr.embed, embeds_parenAlls args]
  | .star => rfl
  | .countDistinct f a as => by simp only [RExpr.parenAll, RExpr.embed, embed_parenAll a, embeds_parenAlls as]
  | .array sp args => by simp only [RExpr.parenAll, RExpr.embed, embeds_parenAlls args]
  | .extract part e => by simp only [RExpr.parenAll, RExpr.embed, embed_parenAll e]
  | .tuple a b more => by
    simp only [RExpr.parenAll, RExpr.embed, embed_parenAll a, embed_parenAll b, embeds_parenAlls more]
  | .case c r more els => by
    simp only [RExpr.parenAll, RExpr.embed, embed_parenAll c, embed_parenAll r, embedClauses_parenAll more,
      embed_parenAll els]
theorem embeds_parenAlls : ∀ (es : List RExpr), RExpr.embeds (RExpr.parenAlls es) = RExpr.embeds es
  | [] => rfl
  | e :: es => by simp only [RExpr.parenAlls, RExpr.embeds, embed_parenAll e, embeds_parenAlls es]
theorem embedClauses_parenAll : ∀ (cs : List (RExpr × RExpr)),
    RExpr.embedClauses (RExpr.parenAllClauses cs) = RExpr.embedClauses cs
  | [] => rfl
  | (c, r) :: cs => by
    simp only [RExpr.parenAllClauses, RExpr.embedClauses, embed_parenAll c, embed_parenAll r, embedClauses_parenAll cs]
end

theorem parse_printed (hT : T.WF) (e : RExpr) (hwf : RExpr.WF T e) (rest : PSt)
    (hloc : rest.cur.loc = default) (hS : Stops T 0 rest) :
    ∃ f0, ∀ f, f0 ≤ f → parseExpr T f (pushAll (e.pr T 0) rest) = .ok e.embed rest :=
  (PE_of_at T (climb_correct hT e hwf 0 rest (by have := dotPrec_ge8 hT; omega) hloc hS)).ev

theorem generated_eq_spec : Generated.precTables = specTables := by decide

theorem spec_wf : specTables.WF := code_wf

theorem generated_wf : Generated.precTables.WF := generated_eq_spec ▸ spec_wf

/-- the state whose token vector is `ts` followed by the tokens of `s` -/
def mkSt (ts : List PTok) (s : PSt) : PSt := ts.foldr (fun t s => ⟨t, s.cur :: s.rest⟩) s

theorem strip_mkSt (ts : List PTok) (s : PSt) : (mkSt ts s).strip = pushAll (ts.map (·.tok)) s.strip := by
  induction ts with
  | nil => rfl
  | cons t ts ih =>
    simp only [mkSt, List.foldr_cons, List.map_cons, pushAll_cons] at ih ⊢
    rw [← ih]
    rfl

theorem stops_strip {m : Int} {s : PSt} (h : Stops T m s) : Stops T m s.strip := by
  obtain ⟨h1, tp, h2, h3⟩ := h
  refine ⟨h1, tp, ?_, h3⟩
  rw [tokenPrecedence_strip, h2]; rfl

/-- `climb_correct` at the top level for token vectors carrying arbitrary locations: the tree is the expression's
tree up to locations, and what is left is the vector that followed the expression -/
theorem parse_located (hT : T.WF) (e : RExpr) (hwf : RExpr.WF T e) (ts : List PTok) (rest : PSt)
    (hts : ts.map (·.tok) = e.pr T 0) (hS : Stops T 0 rest) :
    ∃ f0, ∀ f, f0 ≤ f → ∃ t s', parseExpr T f (mkSt ts rest) = .ok t s' ∧ t.eraseLoc = e.embed ∧ s'.strip = rest.strip := by
  obtain ⟨f0, h⟩ := parse_printed hT e hwf rest.strip rfl (stops_strip hS)
  refine ⟨f0, fun f hf => ?_⟩
  have := h f hf
  rw [← hts, ← strip_mkSt, parseExpr_strip] at this
  cases hp : parseExpr T f (mkSt ts rest) with
  | ok t s' =>
    rw [hp] at this
    simp only [PRes.strip, PRes.ok.injEq] at this
    exact ⟨t, s', rfl, this.1, this.2⟩
  | err e s' => rw [hp] at this; simp [PRes.strip] at this
  | fuel => rw [hp] at this; simp [PRes.strip] at this

theorem spec_binary_le6 : ∀ e ∈ specTables.binary, e.1 ≠ .single '.' → e.2 ≤ 6 := by decide

theorem spec_bop_range {o : BOp} (h : ∀ s, o = .sym s → s ≠ .single '.' ∧ (lookupOp specTables.binary s).isSome) :
    0 ≤ tokPrec specTables o.tok ∧ tokPrec specTables o.tok ≤ 6 := by
  refine ⟨(bop_range spec_wf h).1, ?_⟩
  cases o with
  | sym s =>
    obtain ⟨hne, hs⟩ := h s rfl
    cases hl : lookupOp specTables.binary s with
    | none => rw [hl] at hs; cases hs
    | some p =>
      have := spec_binary_le6 _ (lookupOp_mem hl) hne
      simp only [BOp.tok, tokPrec, hl, Option.getD_some]
      exact this
  | is => decide
  | isNot => decide
  | and => decide
  | or => decide

/-- under the reference grammar a negated right operand never needs parentheses, whatever the binary operator -/
theorem minimal_neg_operand (o : BOp) (l r : RExpr)
    (h : ∀ s, o = .sym s → s ≠ .single '.' ∧ (lookupOp specTables.binary s).isSome) :
    RExpr.minimal (.bin o l (.neg r)) =
      RExpr.pr specTables (tokPrec specTables o.tok) l ++ [o.tok, .op (.single '-')] ++
        RExpr.pr specTables (RExpr.prefixCtx negLevel r) r := by
  obtain ⟨h0, h6⟩ := spec_bop_range h
  have a : ¬ tokPrec specTables o.tok < 0 := by omega
  have b : ¬ negLevel < tokPrec specTables o.tok + 1 := by simp only [negLevel]; omega
  unfold RExpr.minimal
  rw [RExpr.pr, RExpr.pr]
  simp only [a, b, decide_false, RExpr.wrap, Bool.false_eq_true, if_false, List.append_assoc, List.cons_append,
    List.nil_append]

def col (n : List Char) : RExpr := .col n []
def pcol (n : List Char) : PExpr := .column default n

theorem inst (e : RExpr) (toks : List Tok) (tree : PExpr) (rest : PSt) (hloc : rest.cur.loc = default)
    (hS : Stops specTables 0 rest) (hwf : RExpr.WF specTables e) (h1 : RExpr.minimal e = toks) (h2 : e.embed = tree) :
    ∃ f0, ∀ f, f0 ≤ f → parseExpr Generated.precTables f (pushAll toks rest) = .ok tree rest := by
  obtain ⟨f0, h⟩ := parse_printed spec_wf e hwf rest hloc hS
  rw [generated_eq_spec]
  exact ⟨f0, fun f hf => by rw [← h1, ← h2]; exact h f hf⟩

theorem wf_col {n : List Char} (h : lowerChars n ≠ "array".toList) : RExpr.WF specTables (col n) :=
  ⟨h, fun _ hp => by cases hp⟩

theorem wf_sym {s : Operator} {l r : RExpr} (hs : s ≠ .single '.' ∧ (lookupOp specTables.binary s).isSome)
    (hl : RExpr.WF specTables l) (hr : RExpr.WF specTables r) : RExpr.WF specTables (.bin (.sym s) l r) :=
  ⟨fun s' h => by cases h; exact hs, hl, hr⟩

theorem wf_kw {o : BOp} {l r : RExpr} (ho : ∀ s, o ≠ .sym s)
    (hl : RExpr.WF specTables l) (hr : RExpr.WF specTables r) : RExpr.WF specTables (.bin o l r) :=
  ⟨fun s' h => absurd h (ho s'), hl, hr⟩

theorem wf_lit (l : Lit) : RExpr.WF specTables (.lit l) := trivial

end Sqlgrep.Spec
