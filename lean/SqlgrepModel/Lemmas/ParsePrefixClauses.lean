import SqlgrepModel.Lemmas.ParsePrefix
import SqlgrepModel.Lemmas.ParseRenameStmt
import SqlgrepModel.Lemmas.ParseWithinStmt
import SqlgrepModel.Lemmas.ClimbMono
/-
From prefix determinism of the expression parser (`Lemmas/ParsePrefix.lean`) to the clause loop of `parse_select`:
a WHERE / HAVING / GROUP BY segment whose expression tokens are read in front of one boundary token is a clause
(`IsClause`: consumed exactly, whatever clause, `;` or `End` follows, at any token locations); hence the order of
the clauses and a trailing `;` do not change the slots the loop fills (up to locations).
-/
namespace Sqlgrep
namespace Parse

def PSt.toks (s : PSt) : List PTok := s.cur :: s.rest

theorem pst_ext {s s' : PSt} (h : PSt.toks s = PSt.toks s') : s = s' := by
  cases s; cases s'; simp only [PSt.toks, List.cons.injEq] at h; obtain ⟨rfl, rfl⟩ := h; rfl

theorem prepend_toks (seg : List PTok) (tail : PSt) : PSt.toks (PSt.prepend seg tail) = seg ++ PSt.toks tail := by
  cases seg <;> rfl

theorem next_prepend (t : PTok) (ts : List PTok) (tail : PSt) :
    next (PSt.prepend (t :: ts) tail) = .ok () (PSt.prepend ts tail) := by
  cases ts <;> rfl

theorem prepend_cur_cons (t : PTok) (ts : List PTok) (tail : PSt) : (PSt.prepend (t :: ts) tail).cur = t := rfl

theorem swapToks_append (t2 : PSt) (body : List PTok) (hnb : ∀ t ∈ body, ¬ Boundary t.tok) (rest : List PTok) :
    swapToks t2 (body ++ rest) = body ++ swapToks t2 rest := by
  induction body with
  | nil => rfl
  | cons b bs ih =>
    simp only [List.cons_append, swapToks, hnb b (by simp), if_false]
    rw [ih (fun t ht => hnb t (by simp [ht]))]

theorem swapB_toks (t2 s : PSt) : PSt.toks (swapB t2 s) = swapToks t2 (PSt.toks s) := by
  unfold swapB PSt.toks
  by_cases h : Boundary s.cur.tok
  · simp [h, swapToks]
  · simp [h, swapToks]

theorem swapB_prepend (t2 : PSt) (body : List PTok) (hnb : ∀ t ∈ body, ¬ Boundary t.tok) (tail0 : PSt)
    (hb : Boundary tail0.cur.tok) :
    swapB t2 (PSt.prepend body tail0) = PSt.prepend body ⟨⟨tail0.cur.loc, t2.cur.tok⟩, t2.rest⟩ := by
  apply pst_ext
  rw [swapB_toks, prepend_toks, prepend_toks, swapToks_append t2 body hnb]
  simp [PSt.toks, swapToks, hb]

theorem strip_toks (s : PSt) : PSt.toks s.strip = (PSt.toks s).map PTok.strip := rfl

theorem strip_eq_of_toks {s s' : PSt} (h : (PSt.toks s).map (·.tok) = (PSt.toks s').map (·.tok)) : s.strip = s'.strip := by
  apply pst_ext
  rw [strip_toks, strip_toks]
  have : ∀ l : List PTok, l.map PTok.strip = (l.map (·.tok)).map (fun t => (⟨default, t⟩ : PTok)) := by
    intro l; simp [PTok.strip, Function.comp_def]
  rw [this, this, h]

theorem toks_of_strip_eq {s s' : PSt} (h : s.strip = s'.strip) : (PSt.toks s).length = (PSt.toks s').length := by
  have := congrArg (fun x => (PSt.toks x).length) h
  simpa [strip_toks] using this

theorem suffix_eq_of_length {α} {a b l : List α} (ha : a <:+ l) (hb : b <:+ l) (h : a.length = b.length) : a = b := by
  rw [List.suffix_iff_eq_drop] at ha hb
  rw [ha, hb, h]

/-- **what follows the first boundary token does not matter**: a run that read the boundary-free tokens `body` and
stopped on the boundary token behind them reads `body` alike in front of any other boundary tail (the barrier equation
at the one state the run starts in) -/
theorem tail_generic {α : Type} {F : PSt → PRes α} {body : List PTok} {s' : PSt} {a : α}
    (hnb : ∀ t ∈ body, ¬ Boundary t.tok) (hb : Boundary s'.cur.tok) (hrun : F (PSt.prepend body s') = .ok a s')
    (tail : PSt) (hswap : F (swapB tail (PSt.prepend body s')) = (F (PSt.prepend body s')).mapSt (swapB tail)) :
    F (PSt.prepend body ⟨⟨s'.cur.loc, tail.cur.tok⟩, tail.rest⟩) = .ok a ⟨⟨s'.cur.loc, tail.cur.tok⟩, tail.rest⟩ := by
  rw [hrun, swapB_prepend tail body hnb s' hb] at hswap
  rw [hswap]
  simp [PRes.mapSt, swapB, hb]

/-- A parser function `F` that (1) never looks past the first boundary token, (2) does not depend on token locations,
(3) leaves a suffix of its input and (4) is monotone in the fuel: if it reads exactly the boundary-free tokens `body`
in front of one boundary tail, it reads exactly `body'` — the same tokens at any other locations — in front of every
other boundary tail, with the same answer up to locations. -/
theorem prefix_generic {α : Type} (F : Nat → PSt → PRes α) (er : α → α)
    (hswap : ∀ (t2 : PSt) (f : Nat) (s : PSt), Boundary t2.cur.tok → F f (swapB t2 s) = (F f s).mapSt (swapB t2))
    (hstrip : ∀ (f : Nat) (s : PSt), F f s.strip = (F f s).strip er)
    (hwithin : ∀ (f : Nat) (s : PSt) (toks : List PTok), s.Suffix toks → (F f s).Within toks)
    (hmono : ∀ (f f' : Nat) (s : PSt) (r : PRes α), f ≤ f' → F f s = r → r ≠ .fuel → F f' s = r)
    (body body' : List PTok) (hnb : ∀ t ∈ body, ¬ Boundary t.tok) (hbody : body'.map (·.tok) = body.map (·.tok))
    (tail0 tail : PSt) (hb0 : Boundary tail0.cur.tok) (hb : Boundary tail.cur.tok)
    (fuel0 fuel : Nat) (hf : fuel0 ≤ fuel) (a : α) (hrun : F fuel0 (PSt.prepend body tail0) = .ok a tail0) :
    ∃ a', F fuel (PSt.prepend body' tail) = .ok a' tail ∧ er a' = er a := by
  have h2 := tail_generic hnb hb0 (hmono fuel0 fuel _ _ hf hrun (by simp)) tail (hswap tail fuel _ hb)
  -- the same tokens at other locations
  have hst : (PSt.prepend body' tail).strip = (PSt.prepend body ⟨⟨tail0.cur.loc, tail.cur.tok⟩, tail.rest⟩).strip := by
    apply strip_eq_of_toks
    rw [prepend_toks, prepend_toks]
    simp [PSt.toks, hbody]
  have h3 := hstrip fuel (PSt.prepend body' tail)
  rw [hst, hstrip fuel, h2] at h3
  cases hp : F fuel (PSt.prepend body' tail) with
  | err e s' => rw [hp] at h3; simp [PRes.strip] at h3
  | fuel => rw [hp] at h3; simp [PRes.strip] at h3
  | ok a' s' =>
    rw [hp] at h3
    simp only [PRes.strip, PRes.ok.injEq] at h3
    obtain ⟨ha, hs⟩ := h3
    refine ⟨a', ?_, ha.symm⟩
    have hsuf : s'.Suffix (PSt.toks (PSt.prepend body' tail)) :=
      ((hwithin fuel (PSt.prepend body' tail) _ (List.suffix_refl _)).1 a' s' hp)
    have htl : PSt.toks tail <:+ PSt.toks (PSt.prepend body' tail) := by
      rw [prepend_toks]; exact List.suffix_append _ _
    have hlen : (PSt.toks s').length = (PSt.toks tail).length := by
      have := toks_of_strip_eq hs.symm
      simpa [PSt.toks] using this
    have : s' = tail := pst_ext (suffix_eq_of_length hsuf htl hlen)
    rw [this]

/-- the expression list of `GROUP BY`: the first key and the `, key` loop, as `clauseTurn` runs them -/
def groupKeys (T : PrecTables) (fuel : Nat) (s : PSt) : PRes (List PExpr) :=
  try! (k, s) ← parseExpr T fuel s;
  groupKeysLoop T fuel [k] s

theorem groupKeys_eq (T : PrecTables) (n : Nat) (s : PSt) :
    groupKeys T n s = (parseExpr T n s).bind fun k s => groupKeysLoop T n [k] s := by
  unfold groupKeys; cases parseExpr T n s <;> rfl

theorem groupKeys_morph {T : PrecTables} (τ : Morph T) (n : Nat) (s : PSt) :
    τ.res (PExpr.mapAllList τ.ℓ τ.ρ τ.ρ) (groupKeys T n s) = groupKeys T n (τ.g s) := by
  rw [groupKeys_eq, groupKeys_eq]
  exact map_bind ((morph_all τ n).e s) fun _ _ _ => groupKeysLoop_morph τ n [_] _

theorem groupKeys_strip (T : PrecTables) (n : Nat) (s : PSt) :
    groupKeys T n s.strip = (groupKeys T n s).strip PExpr.eraseLoc.eraseLocs := by
  have h := groupKeys_morph (Morph.strip T) n s
  rw [← funext PExpr.eraseLoc_eq_mapAll.2.1] at h
  exact strip_of_relabel h

theorem groupKeysLoop_swapB {T : PrecTables} (hT : InertBoundary T) {t2 : PSt} (h2 : Boundary t2.cur.tok) (n : Nat)
    (acc : List PExpr) (s : PSt) : groupKeysLoop T n acc (swapB t2 s) = (groupKeysLoop T n acc s).mapSt (swapB t2) := by
  have h := groupKeysLoop_morph (Morph.swap hT h2) n acc s
  rw [PExpr.mapAll_id.2.1 acc] at h
  exact swapB_of_morph hT h2 PExpr.mapAll_id.2.1 h

theorem groupKeys_swapB {T : PrecTables} (hT : InertBoundary T) (t2 : PSt) (h2 : Boundary t2.cur.tok) (n : Nat) (s : PSt) :
    groupKeys T n (swapB t2 s) = (groupKeys T n s).mapSt (swapB t2) :=
  swapB_of_morph hT h2 PExpr.mapAll_id.2.1 (groupKeys_morph (Morph.swap hT h2) n s)

theorem groupKeysLoop_mono (T : PrecTables) : ∀ (n : Nat) (acc : List PExpr) (s : PSt),
    PLe (groupKeysLoop T n acc s) (groupKeysLoop T (n + 1) acc s) := by
  intro n
  induction n with
  | zero => intro acc s; rw [groupKeysLoop]; exact PLe.fuel _
  | succ n ih =>
    intro acc s
    rw [groupKeysLoop, groupKeysLoop]; simp only [parse_bind]; mono_walk [(mono_all T n).e, ih]

theorem groupKeys_mono (T : PrecTables) (n : Nat) (s : PSt) : PLe (groupKeys T n s) (groupKeys T (n + 1) s) := by
  rw [groupKeys_eq, groupKeys_eq]
  exact PLe.bind ((mono_all T n).e s) (fun _ _ => groupKeysLoop_mono T n _ _)

theorem groupKeys_within {T : PrecTables} (f : Nat) (s : PSt) (toks : List PTok) (h : s.Suffix toks) :
    (groupKeys T f s).Within toks := by
  rw [groupKeys_eq]
  exact (parseExpr_within h).bind fun e s2 h2 => groupKeysLoop_within f [e] s2 h2

theorem noLoc_eq_eraseLoc (e : PExpr) : e.noLoc = e.eraseLoc :=
  (PExpr.noLoc_eq_mapAll.1 e).trans (PExpr.eraseLoc_eq_mapAll.1 e).symm
theorem noLocList_eq (es : List PExpr) : PExpr.noLocList es = PExpr.eraseLoc.eraseLocs es :=
  (PExpr.noLoc_eq_mapAll.2.1 es).trans (PExpr.eraseLoc_eq_mapAll.2.1 es).symm
theorem noLocClauses_eq : ∀ cs : List (PExpr × PExpr), PExpr.noLocClauses cs = PExpr.eraseLoc.eraseLocClauses cs :=
  fun cs => (PExpr.noLoc_eq_mapAll.2.2 cs).trans (PExpr.eraseLoc_eq_mapAll.2.2 cs).symm

variable {T : PrecTables} (hT : InertBoundary T)
include hT

theorem parseExpr_prefix (body body' : List PTok) (hnb : ∀ t ∈ body, ¬ Boundary t.tok)
    (hbody : body'.map (·.tok) = body.map (·.tok)) (tail0 tail : PSt) (hb0 : Boundary tail0.cur.tok)
    (hb : Boundary tail.cur.tok) (fuel0 fuel : Nat) (hf : fuel0 ≤ fuel) (e : PExpr)
    (hrun : parseExpr T fuel0 (PSt.prepend body tail0) = .ok e tail0) :
    ∃ e', parseExpr T fuel (PSt.prepend body' tail) = .ok e' tail ∧ e'.noLoc = e.noLoc := by
  obtain ⟨e', h1, h2⟩ := prefix_generic (parseExpr T) PExpr.eraseLoc
    (fun t2 f s h2 => parseExpr_swapB hT h2 f s) (fun f s => parseExpr_strip T f s)
    (fun f s toks h => parseExpr_within h) (fun f f' s r h hr hne => fuel_mono_expr T h hr hne)
    body body' hnb hbody tail0 tail hb0 hb fuel0 fuel hf e hrun
  exact ⟨e', h1, by rw [noLoc_eq_eraseLoc, noLoc_eq_eraseLoc, h2]⟩

theorem groupKeys_prefix (body body' : List PTok) (hnb : ∀ t ∈ body, ¬ Boundary t.tok)
    (hbody : body'.map (·.tok) = body.map (·.tok)) (tail0 tail : PSt) (hb0 : Boundary tail0.cur.tok)
    (hb : Boundary tail.cur.tok) (fuel0 fuel : Nat) (hf : fuel0 ≤ fuel) (ks : List PExpr)
    (hrun : groupKeys T fuel0 (PSt.prepend body tail0) = .ok ks tail0) :
    ∃ ks', groupKeys T fuel (PSt.prepend body' tail) = .ok ks' tail ∧ PExpr.noLocList ks' = PExpr.noLocList ks := by
  obtain ⟨ks', h1, h2⟩ := prefix_generic (groupKeys T) PExpr.eraseLoc.eraseLocs
    (fun t2 f s h2 => groupKeys_swapB hT t2 h2 f s) (fun f s => groupKeys_strip T f s)
    (fun f s toks h => groupKeys_within f s toks h)
    (fun f f' s r h hr hne => PLe.mono_eq (fun n => groupKeys_mono T n s) h hr hne)
    body body' hnb hbody tail0 tail hb0 hb fuel0 fuel hf ks hrun
  exact ⟨ks', h1, by rw [noLocList_eq, noLocList_eq, h2]⟩

/-- WHERE (`w = true`) and HAVING (`w = false`): a keyword and an expression up to the next boundary token -/
theorem isClause_expr (w : Bool) (body body' : List PTok) (hnb : ∀ t ∈ body, ¬ Boundary t.tok)
    (hbody : body'.map (·.tok) = body.map (·.tok)) (tail0 : PSt) (hb0 : Boundary tail0.cur.tok) (fuel0 : Nat) (e : PExpr)
    (hrun : parseExpr T fuel0 (PSt.prepend body tail0) = .ok e tail0) (l : Loc) :
    IsClause T fuel0 (⟨l, .kw (if w then .where else .having)⟩ :: body') (if w then .filter e else .having e) := by
  refine ⟨⟨_, _, rfl, by cases w <;> simp [ClauseKw]⟩, ?_⟩
  intro fuel c tail hf hb hfree
  obtain ⟨e', h1, h2⟩ := parseExpr_prefix hT body body' hnb hbody tail0 tail hb0 hb fuel0 fuel hf e hrun
  refine ⟨if w then .filter e' else .having e', by cases w <;> simp [ClauseVal.Same, ClauseVal.erase, h2], ?_⟩
  cases w <;> simp only [ClauseVal.free, Bool.false_eq_true, if_true, if_false] at hfree ⊢ <;>
    simp [clauseTurn, prepend_cur_cons, next_prepend, hfree, h1, ClauseVal.put]

theorem isClause_groupBy (body body' : List PTok) (hnb : ∀ t ∈ body, ¬ Boundary t.tok)
    (hbody : body'.map (·.tok) = body.map (·.tok)) (tail0 : PSt) (hb0 : Boundary tail0.cur.tok) (fuel0 : Nat)
    (ks : List PExpr) (hrun : groupKeys T fuel0 (PSt.prepend body tail0) = .ok ks tail0) (l1 l2 : Loc) :
    IsClause T fuel0 (⟨l1, .kw .group⟩ :: ⟨l2, .kw .by⟩ :: body') (.groupBy ks) := by
  refine ⟨⟨_, _, rfl, by simp [ClauseKw]⟩, ?_⟩
  intro fuel c tail hf hb hfree
  simp only [ClauseVal.free] at hfree
  obtain ⟨ks', h1, h2⟩ := groupKeys_prefix hT body body' hnb hbody tail0 tail hb0 hb fuel0 fuel hf ks hrun
  refine ⟨.groupBy ks', by simp [ClauseVal.Same, ClauseVal.erase, h2], ?_⟩
  unfold groupKeys at h1
  simp only [clauseTurn, prepend_cur_cons, next_prepend, expectConsume]
  simp [hfree, ClauseVal.put]
  cases hp : parseExpr T fuel (PSt.prepend body' tail) with
  | err e s2 => rw [hp] at h1; cases h1
  | fuel => rw [hp] at h1; cases h1
  | ok k s2 => rw [hp] at h1; simp only at h1 ⊢; rw [h1]

omit hT in
theorem isClause_weaken {fuel0 fuel1 : Nat} (h : fuel0 ≤ fuel1) {seg : List PTok} {v : ClauseVal}
    (hc : IsClause T fuel0 seg v) : IsClause T fuel1 seg v :=
  ⟨hc.head, fun fuel c tail hf hb hfree => hc.turn fuel c tail (by omega) hb hfree⟩

/-- a clause given by its tokens (locations left open) and its value: `LIMIT n`, a JOIN, or `WHERE e` / `HAVING e` /
`GROUP BY e, …` whose expression tokens (no clause keyword, `;` or `End` among them) are read as that value in front
of some boundary token with fuel `fuel0` -/
inductive ClauseSeg (T : PrecTables) (fuel0 : Nat) : List Tok → ClauseVal → Prop where
  | limit (n : Int) : ClauseSeg T fuel0 [.kw .limit, .int n] (.limit (asUsize n))
  | join (outer : Bool) (u f a b c d : List Char) :
    ClauseSeg T fuel0
      [.kw (if outer then .outer else .inner), .kw .join, .ident u, .dcolon, .str f, .kw .on, .ident a,
       .op (.single '.'), .ident b, .op (.single '='), .ident c, .op (.single '.'), .ident d]
      (.join { joinerTable := u, joinerFilename := f, leftTable := a, leftColumn := b, rightTable := c,
               rightColumn := d, isOuter := outer })
  | filter (body : List PTok) (hnb : ∀ t ∈ body, ¬ Boundary t.tok) (tail0 : PSt) (hb0 : Boundary tail0.cur.tok)
    (e : PExpr) (hrun : parseExpr T fuel0 (PSt.prepend body tail0) = .ok e tail0) :
    ClauseSeg T fuel0 (.kw .where :: body.map (·.tok)) (.filter e)
  | having (body : List PTok) (hnb : ∀ t ∈ body, ¬ Boundary t.tok) (tail0 : PSt) (hb0 : Boundary tail0.cur.tok)
    (e : PExpr) (hrun : parseExpr T fuel0 (PSt.prepend body tail0) = .ok e tail0) :
    ClauseSeg T fuel0 (.kw .having :: body.map (·.tok)) (.having e)
  | groupBy (body : List PTok) (hnb : ∀ t ∈ body, ¬ Boundary t.tok) (tail0 : PSt) (hb0 : Boundary tail0.cur.tok)
    (ks : List PExpr) (hrun : groupKeys T fuel0 (PSt.prepend body tail0) = .ok ks tail0) :
    ClauseSeg T fuel0 (.kw .group :: .kw .by :: body.map (·.tok)) (.groupBy ks)

theorem isClause_of_seg {fuel0 : Nat} {toks : List Tok} {v : ClauseVal} (h : ClauseSeg T fuel0 toks v)
    (seg : List PTok) (hseg : seg.map (·.tok) = toks) : IsClause T fuel0 seg v := by
  cases h with
  | limit n => exact isClause_weaken (Nat.zero_le _) (isClause_limit_toks T n seg hseg)
  | join outer u f a b c d => exact isClause_weaken (Nat.zero_le _) (isClause_join_toks T outer u f a b c d seg hseg)
  | filter body hnb tail0 hb0 e hrun =>
    obtain ⟨l, body', rfl, hb⟩ := tok_cons hseg
    exact isClause_expr hT true body body' hnb hb tail0 hb0 fuel0 e hrun l
  | having body hnb tail0 hb0 e hrun =>
    obtain ⟨l, body', rfl, hb⟩ := tok_cons hseg
    exact isClause_expr hT false body body' hnb hb tail0 hb0 fuel0 e hrun l
  | groupBy body hnb tail0 hb0 ks hrun =>
    obtain ⟨l1, seg', rfl, hseg'⟩ := tok_cons hseg
    obtain ⟨l2, body', rfl, hb⟩ := tok_cons hseg'
    exact isClause_groupBy hT body body' hnb hb tail0 hb0 fuel0 ks hrun l1 l2

/-- what identifies a clause: its tokens (without locations) and its value -/
def clauseKey (p : List PTok × ClauseVal) : List Tok × ClauseVal := (p.1.map (·.tok), p.2)

theorem isClause_of_key {fuel0 : Nat} {segs : List (List PTok × ClauseVal)}
    (hs : ∀ p ∈ segs, ClauseSeg T fuel0 (p.1.map (·.tok)) p.2) {p : List PTok × ClauseVal}
    (hk : clauseKey p ∈ segs.map clauseKey) : IsClause T fuel0 p.1 p.2 := by
  obtain ⟨q, hq, hqk⟩ := List.mem_map.mp hk
  have hseg := hs q hq
  simp only [clauseKey, Prod.mk.injEq] at hqk
  rw [hqk.1, hqk.2] at hseg
  exact isClause_of_seg hT hseg p.1 rfl

/-- **clause order does not matter**: two token vectors that consist of the same clauses (token sequences, at any
locations) in different orders are both read completely by the clause loop, with the same slots up to locations -/
theorem clauseLoop_perm_tokens (fuel0 : Nat) (final1 final2 : PSt) (h1 : final1.cur.tok = .eof)
    (h2 : final2.cur.tok = .eof) (segs1 segs2 : List (List PTok × ClauseVal)) (hne : segs1 ≠ [])
    (hs1 : ∀ p ∈ segs1, ClauseSeg T fuel0 (p.1.map (·.tok)) p.2)
    (hperm : (segs1.map clauseKey).Perm (segs2.map clauseKey))
    (hd : segs1.Pairwise (fun a b => a.2.kind ≠ b.2.kind))
    (fuel : Nat) (hfuel : fuel0 + segs1.length ≤ fuel) :
    ∃ c1 c2, clauseLoop T fuel {} (PSt.prependAll (segs1.map (·.1)) final1) = .ok c1 final1 ∧
      clauseLoop T fuel {} (PSt.prependAll (segs2.map (·.1)) final2) = .ok c2 final2 ∧ c1.Same c2 := by
  have hvals : (segs1.map (·.2)).Perm (segs2.map (·.2)) := by
    have := hperm.map Prod.snd
    simpa [List.map_map, Function.comp_def, clauseKey] using this
  have hc1 : ∀ p ∈ segs1, IsClause T fuel0 p.1 p.2 := fun p hp => isClause_of_seg hT (hs1 p hp) p.1 rfl
  have hc2 : ∀ p ∈ segs2, IsClause T fuel0 p.1 p.2 :=
    fun p hp => isClause_of_key hT hs1 ((hperm.mem_iff).mpr (List.mem_map_of_mem hp))
  exact clauseLoop_perm T fuel0 final1 final2 h1 h2 segs1 segs2 hne hvals hc1 hc2 hd fuel hfuel

omit hT in
/-- the run of the clause loop over clauses followed by `;` `End`: the `;` is consumed by the loop's own arm -/
theorem clauseLoop_segments_semi (fuel0 : Nat) (l l' : Loc) :
    ∀ (segs : List (List PTok × ClauseVal)) (fuel : Nat) (c d : Clauses), segs ≠ [] →
      (∀ p ∈ segs, IsClause T fuel0 p.1 p.2) →
      segs.Pairwise (fun a b => a.2.kind ≠ b.2.kind) →
      (∀ p ∈ segs, p.2.free c) → c.Same d →
      fuel0 + segs.length + 1 ≤ fuel →
      ∃ c', clauseLoop T fuel c (PSt.prependAll (segs.map (·.1)) ⟨⟨l, .semi⟩, [⟨l', .eof⟩]⟩) = .ok c' ⟨⟨l', .eof⟩, []⟩ ∧
        c'.Same (putAll (segs.map (·.2)) d) :=
  clauseLoop_segments_end T fuel0 1 _ _ (.inr (.inr rfl)) (fun n c hn => by
    obtain ⟨m, rfl⟩ : ∃ m, n = m + 1 := ⟨n - 1, by omega⟩
    simp [clauseLoop, clauseTurn, next])

/-- **optional trailing semicolon** (clause level): the same clauses followed by `End`, or by `;` `End`, are both
read completely, with the same slots up to locations (the two vectors may carry different locations) -/
theorem clauseLoop_trailing_semi (fuel0 : Nat) (l0 l l' : Loc) (segs1 segs2 : List (List PTok × ClauseVal))
    (hne : segs1 ≠ [])
    (hs1 : ∀ p ∈ segs1, ClauseSeg T fuel0 (p.1.map (·.tok)) p.2)
    (hsame : segs1.map clauseKey = segs2.map clauseKey)
    (hd : segs1.Pairwise (fun a b => a.2.kind ≠ b.2.kind))
    (fuel : Nat) (hfuel : fuel0 + segs1.length + 1 ≤ fuel) :
    ∃ c1 c2, clauseLoop T fuel {} (PSt.prependAll (segs1.map (·.1)) ⟨⟨l0, .eof⟩, []⟩) = .ok c1 ⟨⟨l0, .eof⟩, []⟩ ∧
      clauseLoop T fuel {} (PSt.prependAll (segs2.map (·.1)) ⟨⟨l, .semi⟩, [⟨l', .eof⟩]⟩) = .ok c2 ⟨⟨l', .eof⟩, []⟩ ∧
      c1.Same c2 := by
  have hvals : segs1.map (·.2) = segs2.map (·.2) := by
    have := congrArg (List.map Prod.snd) hsame
    simpa [List.map_map, Function.comp_def, clauseKey] using this
  have hlen : segs1.length = segs2.length := by simpa using congrArg List.length hsame
  have hne2 : segs2 ≠ [] := by intro h; rw [h] at hlen; exact hne (List.length_eq_zero_iff.mp hlen)
  have hc1 : ∀ p ∈ segs1, IsClause T fuel0 p.1 p.2 := fun p hp => isClause_of_seg hT (hs1 p hp) p.1 rfl
  have hc2 : ∀ p ∈ segs2, IsClause T fuel0 p.1 p.2 :=
    fun p hp => isClause_of_key hT hs1 (hsame ▸ List.mem_map_of_mem hp)
  have hd2 : segs2.Pairwise (fun a b => a.2.kind ≠ b.2.kind) := by
    have h1 : (segs1.map (·.2)).Pairwise (fun a b => a.kind ≠ b.kind) := by rw [List.pairwise_map]; exact hd
    rw [hvals, List.pairwise_map] at h1; exact h1
  have hfree : ∀ (segs : List (List PTok × ClauseVal)), ∀ p ∈ segs, p.2.free ({} : Clauses) := by
    intro segs p _; cases p.2 <;> simp [ClauseVal.free]
  obtain ⟨c1, hr1, hsm1⟩ := clauseLoop_segments T fuel0 ⟨⟨l0, .eof⟩, []⟩ rfl segs1 fuel {} {} hne hc1 hd (hfree segs1) rfl
    (by omega)
  obtain ⟨c2, hr2, hsm2⟩ := clauseLoop_segments_semi fuel0 l l' segs2 fuel {} {} hne2 hc2 hd2 (hfree segs2) rfl (by omega)
  refine ⟨c1, c2, hr1, hr2, ?_⟩
  unfold Clauses.Same at *
  rw [hsm1, hsm2, hvals]

/-! ### a concrete witness (used by the non-vacuity example of `Props/C20Parse.lean`) -/

/-- the tokens of `a = 1` at arbitrary locations -/
def exampleBody (l : Fin 3 → Loc) : List PTok := [⟨l 0, .ident ['a']⟩, ⟨l 1, .op (.single '=')⟩, ⟨l 2, .int 1⟩]

omit hT in
theorem exampleBody_nb (l : Fin 3 → Loc) : ∀ t ∈ exampleBody l, ¬ Boundary t.tok := by
  intro t ht; simp [exampleBody] at ht; rcases ht with rfl | rfl | rfl <;> simp [Boundary, ClauseKw]

omit hT in
/-- the model run on `a = 1 End` -/
theorem exampleRun (l : Fin 3 → Loc) (le : Loc) :
    parseExpr PrecTables.code 10 (PSt.prepend (exampleBody l) ⟨⟨le, .eof⟩, []⟩) =
      .ok (.binop (l 1) (.single '=') (.column (l 1) ['a']) (.value (l 2) (.int 1))) ⟨⟨le, .eof⟩, []⟩ := rfl

end Parse
end Sqlgrep
