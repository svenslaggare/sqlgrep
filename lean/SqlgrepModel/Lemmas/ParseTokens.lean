import SqlgrepModel.Lemmas.ParseFuelStmt
/-
`Parser::parse` on a token vector (`parseTokensFuel`, and `parseTokens` = the same with the fuel `fuelBound`), read off
`parseOp` on the state made of the vector: when it answers a tree, when an error, that it never runs out of fuel; and
`parseOp`'s tree is the statement parser's.
-/
namespace Sqlgrep.Parse
variable {T : PrecTables} {fuel : Nat} {t : PTok} {ts toks : List PTok} {op : POp} {e : PErr}

theorem parseTokensFuel_cons_eq_tree_iff :
    parseTokensFuel T fuel (t :: ts) = .tree op ↔ ∃ s', parseOp T fuel ⟨t, ts⟩ = .ok op s' := by
  simp only [parseTokensFuel]; cases parseOp T fuel ⟨t, ts⟩ <;> simp

theorem parseTokensFuel_cons_eq_error_iff :
    parseTokensFuel T fuel (t :: ts) = .error e ↔ ∃ s', parseOp T fuel ⟨t, ts⟩ = .err e s' := by
  simp only [parseTokensFuel]; cases parseOp T fuel ⟨t, ts⟩ <;> simp

/-- `Parser::parse` answers a tree exactly when the vector is non-empty and `parseOp` on it answers that tree -/
theorem parseTokensFuel_eq_tree_iff :
    parseTokensFuel T fuel toks = .tree op ↔ ∃ t ts s', toks = t :: ts ∧ parseOp T fuel ⟨t, ts⟩ = .ok op s' := by
  cases toks with
  | nil => simp [parseTokensFuel]
  | cons t ts =>
    exact parseTokensFuel_cons_eq_tree_iff.trans ⟨fun ⟨s', h⟩ => ⟨t, ts, s', rfl, h⟩, fun ⟨_, _, s', e, h⟩ => by cases e; exact ⟨s', h⟩⟩

/-- … and an error exactly when `parseOp` answers that error -/
theorem parseTokensFuel_eq_error_iff :
    parseTokensFuel T fuel toks = .error e ↔ ∃ t ts s', toks = t :: ts ∧ parseOp T fuel ⟨t, ts⟩ = .err e s' := by
  cases toks with
  | nil => simp [parseTokensFuel]
  | cons t ts =>
    exact parseTokensFuel_cons_eq_error_iff.trans ⟨fun ⟨s', h⟩ => ⟨t, ts, s', rfl, h⟩, fun ⟨_, _, s', e, h⟩ => by cases e; exact ⟨s', h⟩⟩

theorem parseTokensFuel_ne_fuel (h : 3 * toks.length + 1 ≤ fuel) : parseTokensFuel T fuel toks ≠ .fuel := by
  cases toks with
  | nil => simp [parseTokensFuel]
  | cons t ts =>
    have := parseOp_nofuel T fuel ⟨t, ts⟩ (by simpa [PSt.remaining] using h)
    simp only [parseTokensFuel]; split <;> simp_all

/-- the fuel `Parser::parse` is modelled with is enough -/
theorem parseTokens_ne_fuel (T : PrecTables) (toks : List PTok) : parseTokens T toks ≠ .fuel :=
  parseTokensFuel_ne_fuel (by unfold fuelBound; omega)

/-- a tree `parseOp` answers is the tree the statement parser answered -/
theorem parseOp_ok_inv {F : Nat} {s sE : PSt} (h : parseOp T F s = .ok op sE) :
    ∃ sF, parseStatement T F s = .ok op sF := by
  unfold parseOp at h
  split at h
  · cases h
  · split at h
    · cases h
    · rename_i op' sF hps
      split at h; rotate_left
      · cases h
      · cases h
      split at h
      · simp only [PRes.ok.injEq] at h; exact ⟨sF, by rw [hps, h.1]⟩
      · cases h
    · split at h <;> cases h

end Sqlgrep.Parse
