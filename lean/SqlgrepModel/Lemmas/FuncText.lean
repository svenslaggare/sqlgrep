import SqlgrepModel.Model.Eval
import SqlgrepModel.Lemmas.StrBytes
/-
Text functions: `length` counts code points, ASCII `upper`/`lower` map exactly the 26 letters.
-/
namespace Sqlgrep

theorem charCount_encodeChar (c : Char) : ((Utf8.encodeChar c).filter (fun b => !Utf8.isCont b)).length = 1 := by
  have cont : ∀ x : Nat, Utf8.isCont (0x80 + x % 64) = true := fun x => Utf8.isCont_iff.2 (by omega)
  have lead : ∀ {b : Nat}, b < 0x80 ∨ 0xC0 ≤ b → Utf8.isCont b = false := fun h =>
    Bool.eq_false_iff.2 fun hb => by have := Utf8.isCont_iff.1 hb; omega
  rw [Utf8.encodeChar_eq]
  rcases Utf8.encodeNat_cases c.toNat with ⟨h, e⟩ | ⟨_, _, e⟩ | ⟨_, _, e⟩ | ⟨_, e⟩ <;> rw [e]
  · simp [lead (.inl h)]
  · simp [cont, lead (b := 0xC0 + c.toNat / 64) (.inr (by omega))]
  · simp [cont, lead (b := 0xE0 + c.toNat / 4096) (.inr (by omega))]
  · simp [cont, lead (b := 0xF0 + c.toNat / 262144) (.inr (by omega))]

/-- **`length` is the number of code points**: the UTF-8 encoding of `cs` has `cs.length` non-continuation bytes -/
theorem charCount_encode (cs : List Char) : Utf8.charCount (Utf8.encode cs) = cs.length := by
  unfold Utf8.charCount Utf8.encode
  induction cs with
  | nil => rfl
  | cons c cs ih =>
    simp only [List.flatMap_cons, List.filter_append, List.length_append, List.length_cons]
    rw [charCount_encodeChar, ih]; omega

theorem charCount_ascii (s : Bytes) (h : isAscii s = true) : Utf8.charCount s = s.length := by
  unfold Utf8.charCount
  induction s with
  | nil => rfl
  | cons b s ih =>
    simp only [isAscii, List.all_cons, Bool.and_eq_true, decide_eq_true_eq] at h
    have hb : Utf8.isCont b = false := by
      simp only [Utf8.isCont, Bool.and_eq_false_iff, decide_eq_false_iff_not]; omega
    have ih' := ih (by simpa [isAscii] using h.2)
    simp only [List.filter_cons, hb, Bool.not_false, if_true, List.length_cons, ih']

/-- what `upper` does to one ASCII byte: `a`..`z` ↦ `A`..`Z`, everything else unchanged -/
def upperByte (b : Nat) : Nat := if 97 ≤ b ∧ b ≤ 122 then b - 32 else b
def lowerByte (b : Nat) : Nat := if 65 ≤ b ∧ b ≤ 90 then b + 32 else b

theorem asciiUpper_eq (s : Bytes) : asciiUpper s = s.map upperByte := by
  unfold asciiUpper upperByte
  simp only [Bool.and_eq_true, decide_eq_true_eq]

theorem asciiLower_eq (s : Bytes) : asciiLower s = s.map lowerByte := by
  unfold asciiLower lowerByte
  simp only [Bool.and_eq_true, decide_eq_true_eq]

theorem upperByte_of {b : Nat} (h : 97 ≤ b ∧ b ≤ 122) : upperByte b = b - 32 := if_pos h
theorem upperByte_id {b : Nat} (h : ¬ (97 ≤ b ∧ b ≤ 122)) : upperByte b = b := if_neg h
theorem lowerByte_of {b : Nat} (h : 65 ≤ b ∧ b ≤ 90) : lowerByte b = b + 32 := if_pos h
theorem lowerByte_id {b : Nat} (h : ¬ (65 ≤ b ∧ b ≤ 90)) : lowerByte b = b := if_neg h

theorem upperByte_idem (b : Nat) : upperByte (upperByte b) = upperByte b := by
  by_cases h : 97 ≤ b ∧ b ≤ 122
  · rw [upperByte_of h, upperByte_id (by omega)]
  · rw [upperByte_id h, upperByte_id h]
theorem lowerByte_idem (b : Nat) : lowerByte (lowerByte b) = lowerByte b := by
  by_cases h : 65 ≤ b ∧ b ≤ 90
  · rw [lowerByte_of h, lowerByte_id (by omega)]
  · rw [lowerByte_id h, lowerByte_id h]
theorem lower_upperByte (b : Nat) : lowerByte (upperByte b) = lowerByte b := by
  by_cases h : 97 ≤ b ∧ b ≤ 122
  · rw [upperByte_of h, lowerByte_of (by omega), lowerByte_id (by omega)]; omega
  · rw [upperByte_id h]
theorem upper_lowerByte (b : Nat) : upperByte (lowerByte b) = upperByte b := by
  by_cases h : 65 ≤ b ∧ b ≤ 90
  · rw [lowerByte_of h, upperByte_of (by omega), upperByte_id (by omega)]; omega
  · rw [lowerByte_id h]

theorem isAscii_map (s : Bytes) (g : Nat → Nat) (hg : ∀ b, b < 128 → g b < 128) (h : isAscii s = true) :
    isAscii (s.map g) = true := by
  unfold isAscii at *
  rw [List.all_map]
  exact List.all_eq_true.2 fun b hb => decide_eq_true (hg b (of_decide_eq_true (List.all_eq_true.1 h b hb)))

theorem upperByte_ascii (b : Nat) (h : b < 128) : upperByte b < 128 := by unfold upperByte; split <;> omega
theorem lowerByte_ascii (b : Nat) (h : b < 128) : lowerByte b < 128 := by unfold lowerByte; split <;> omega

/-- a character whose code lies in `lo..hi` is moved by `d` (in `UInt32`, so modulo `2^32`), any other is left alone:
the shape of both ASCII case maps of the standard library -/
theorem shiftRange_toNat (c : Char) (lo hi d : UInt32) (v : lo ≤ c.val ∧ c.val ≤ hi → (c.val + d).isValidChar) :
    (if h : lo ≤ c.val ∧ c.val ≤ hi then (⟨c.val + d, v h⟩ : Char) else c).toNat =
      if lo.toNat ≤ c.toNat ∧ c.toNat ≤ hi.toNat then (c.toNat + d.toNat) % 2 ^ 32 else c.toNat := by
  have e : (lo ≤ c.val ∧ c.val ≤ hi) ↔ (lo.toNat ≤ c.toNat ∧ c.toNat ≤ hi.toNat) := by
    rw [UInt32.le_iff_toNat_le, UInt32.le_iff_toNat_le]; rfl
  by_cases h : lo ≤ c.val ∧ c.val ≤ hi
  · rw [dif_pos h, if_pos (e.1 h)]; exact UInt32.toNat_add ..
  · rw [dif_neg h, if_neg (mt e.2 h)]

/-- Lean's own `Char.toUpper` / `Char.toLower` (ASCII-only case mapping of the standard library) are these maps:
`toUpper` adds `'A' - 'a' = 2^32 - 32`, `toLower` adds `'a' - 'A' = 32` -/
theorem upperByte_toUpper (c : Char) : upperByte c.toNat = c.toUpper.toNat := by
  have hd : ('A'.val - 'a'.val).toNat = 2 ^ 32 - 32 := by decide
  rw [Char.toUpper, shiftRange_toNat, hd, upperByte]
  show _ = if 97 ≤ c.toNat ∧ c.toNat ≤ 122 then _ else _
  split <;> omega

theorem lowerByte_toLower (c : Char) : lowerByte c.toNat = c.toLower.toNat := by
  have hd : ('a'.val - 'A'.val).toNat = 32 := by decide
  rw [Char.toLower, shiftRange_toNat, hd, lowerByte]
  show _ = if 65 ≤ c.toNat ∧ c.toNat ≤ 90 then _ else _
  split <;> omega

end Sqlgrep
