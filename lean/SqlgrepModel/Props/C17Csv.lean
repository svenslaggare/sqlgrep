import SqlgrepModel.Spec.CsvGrammar
import SqlgrepModel.Lemmas.PrintCsv
import SqlgrepModel.Props.C17
/-
C17, the CSV clause — "in CSV format one header line with the column names precedes the first record and
every record has one field per column ... for text values free of delimiter, quote and line-break
characters" — against the record grammar of RFC 4180 (`Spec/CsvGrammar.lean`: `record = field *(COMMA
field)`, `field = *TEXTDATA`, with the delimiter in the place of COMMA; written from the RFC, importing
nothing of the model). `Props/C17.lean` states the field count through `splitOn`, a splitter defined for
that proof; here the statement is "the line is a `record` of the grammar whose fields are the rendered
cells", and the grammar's fields are unique (`csv_record_fields_unique`).
Header placement (exactly one, immediately before the first record) is `csv_header_once_before_first`
of `Props/C17.lean`; it is about the sequence of lines, not about their syntax.
-/
namespace Sqlgrep.Props.C17Csv
open Sqlgrep Sqlgrep.Print Sqlgrep.CsvGrammar

/-- a `record` of the grammar has one list of fields -/
theorem csv_record_fields_unique (d : Nat) (l : Bytes) (fs fs' : List Bytes)
    (h : Record d l fs) (h' : Record d l fs') : fs = fs' := record_unique h h'

/-- **Every CSV record is a `record` with one field per column.** For a one-byte delimiter that
`Display` never writes itself (`;` — the delimiter of `--format csv` —, tab, `|`): if every TEXT payload
of the row (cells and array elements at any depth) is free of the delimiter, `"`, CR and LF (the
property's guard; the `{:.2}` oracle text likewise), the record line is a `record` of RFC 4180 whose
fields are, in order, the rendered cells — as many as there are columns. -/
theorem printed_csv_record_is_csv (o : RealOracle) (d : Nat) (cols : List Bytes) (row : List Value)
    (hne : cols ≠ []) (hl : cols.length = row.length) (hd : ¬ Structural d)
    (htexts : ∀ v ∈ row, ∀ s ∈ allTexts v, CsvSafe d s) (hreal : ∀ b, CsvSafe d (o.fixed2 b)) :
    Record d (renderRecord o (.csv [d]) cols row) (row.map (displayValue o))
    ∧ (row.map (displayValue o)).length = cols.length := by
  rw [renderRecord_csv o [d] cols row hl]
  refine ⟨joinWith_record d _ ?_ ?_, by rw [List.length_map, hl]⟩
  · cases row with
    | nil => cases cols with
      | nil => exact absurd rfl hne
      | cons _ _ => simp at hl
    | cons _ _ => simp
  · intro c hc
    obtain ⟨v, hv, rfl⟩ := List.mem_map.mp hc
    exact displayValue_field o d v hd (htexts v hv) hreal

/-- the header line is a `record` whose fields are the column names (names free of delimiter, `"`, CR, LF) -/
theorem printed_csv_header_is_csv (d : Nat) (cols : List Bytes) (hne : cols ≠ [])
    (hn : ∀ n ∈ cols, CsvSafe d n) : Record d (joinWith [d] cols) cols :=
  joinWith_record d cols hne hn

/-- **The whole output of a CSV printer** (`printAll`, any sequence of `print` calls, any state): every
line handed to `println` is the blank separator, or a `record` of the grammar with exactly one field per
column of its result — the header with the column names, a data record with the rendered cells. -/
theorem printed_csv_lines_are_csv (o : RealOracle) (d : Nat) (first : Bool) (seq : List (ResultRow × Bool))
    (hd : ¬ Structural d) (hreal : ∀ b, CsvSafe d (o.fixed2 b))
    (hshape : ∀ cr ∈ allRows seq, cr.1 ≠ [] ∧ cr.1.length = cr.2.length)
    (hnames : ∀ cr ∈ allRows seq, ∀ n ∈ cr.1, CsvSafe d n)
    (htexts : ∀ cr ∈ allRows seq, ∀ v ∈ cr.2, ∀ s ∈ allTexts v, CsvSafe d s) :
    ∀ l ∈ printAll o (.csv [d]) first seq,
      l = .separator ∨ ∃ cr ∈ allRows seq, ∃ fs, Record d l.bytes fs ∧ fs.length = cr.1.length
        ∧ (fs = cr.1 ∨ fs = cr.2.map (displayValue o)) := by
  intro l hl
  cases mem_printAll_csv o [d] l first seq hl with
  | inl h => exact Or.inl h
  | inr h =>
    obtain ⟨cr, hcr, h⟩ := h
    obtain ⟨hne, hlen⟩ := hshape cr hcr
    refine Or.inr ⟨cr, hcr, ?_⟩
    cases h with
    | inl h => subst h; exact ⟨cr.1, printed_csv_header_is_csv d cr.1 hne (hnames cr hcr), rfl, Or.inl rfl⟩
    | inr h =>
      subst h
      obtain ⟨h1, h2⟩ := printed_csv_record_is_csv o d cr.1 cr.2 hne hlen hd (htexts cr hcr) hreal
      exact ⟨_, h1, h2, Or.inr rfl⟩

/-! ## non-vacuity -/

open Sqlgrep.Props.C17 in
-- a row with TEXT containing `'`, `,` and non-ASCII bytes, an array and a REAL, delimiter `;`
example : Record 59 (renderRecord o0 (.csv [59]) [[97], [98], [99]]
      [.text [39, 44, 195, 169], .array .text [.text [120], .null], .real 0])
    [[39, 39, 44, 195, 169, 39], [123, 39, 120, 39, 44, 32, 78, 85, 76, 76, 125], [49, 46, 53, 48]] :=
  (printed_csv_record_is_csv o0 59 _ _ (by decide) rfl (by decide) (by decide)
    (by intro b; show CsvSafe 59 [49, 46, 53, 48]; decide)).1

-- the guard is needed: a TEXT with the delimiter, a quote or a line break is not `TEXTDATA`
example : ¬ CsvSafe 59 [97, 59, 98] ∧ ¬ CsvSafe 59 [34] ∧ ¬ CsvSafe 59 [10] ∧ ¬ CsvSafe 59 [13] := by decide +kernel
example : ¬ Structural 59 ∧ ¬ Structural 9 ∧ ¬ Structural 124 := by decide +kernel
example : Record 59 [97, 59, 59, 98] [[97], [], [98]] :=
  .cons (f := [97]) (by decide) (.cons (f := []) (by decide) (.last (by decide)))

end Sqlgrep.Props.C17Csv
