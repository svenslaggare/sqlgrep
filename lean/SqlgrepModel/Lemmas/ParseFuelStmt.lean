import SqlgrepModel.Lemmas.ParseFuel
/-
Fuel / progress lemmas for the statement parser (`Model/ParseStmt.lean`), on top of `fuelIH_all`.
Loops: `3·remaining + 1 ≤ fuel` suffices; functions without a loop of their own: `3·remaining ≤ fuel`.
-/
namespace Sqlgrep
namespace Parse
variable (T : PrecTables) (fuel : Nat) (s : PSt)

theorem parseExpr_adv (h : 3 * s.remaining ≤ fuel) : (parseExpr T fuel s).Adv s.remaining := (fuelIH_all T fuel).e s h

theorem parsePrimary_adv (h : 3 * s.remaining ≤ fuel + 2) : (parsePrimary T fuel s).Adv s.remaining :=
  (fuelIH_all T fuel).p s h

theorem parseJoin_adv (b : Bool) : (parseJoin b s).Adv s.remaining := by
  adv_walk parseJoin [] []

theorem optAlias_keep : (optAlias s).Keep s.remaining := by
  rw [← adv_succ]
  adv_walk optAlias [] []

theorem optDistinct_keep : (optDistinct s).Keep s.remaining := by
  rw [← adv_succ]
  adv_walk optDistinct [] []

theorem optFile_keep : (optFile s).Keep s.remaining := by
  rw [← adv_succ]
  adv_walk optFile [] []

theorem optSemi_keep : (optSemi s).Keep s.remaining := optNext_keep _ s

theorem parseRegexMode_keep : (parseRegexMode s).Keep s.remaining := by
  rw [← adv_succ]
  adv_walk parseRegexMode [] []

theorem projLoop_adv : ∀ acc s, 3 * s.remaining + 1 ≤ fuel → (projLoop T fuel acc s).Adv s.remaining := by
  induction fuel with
  | zero => intro acc s h; omega
  | succ n ih =>
    intro acc s h
    adv_walk projLoop [parseExpr_adv T _ _ _, ih _ _ _] [optAlias_keep _]

theorem groupKeysLoop_keep : ∀ acc s, 3 * s.remaining + 1 ≤ fuel → (groupKeysLoop T fuel acc s).Keep s.remaining := by
  induction fuel with
  | zero => intro acc s h; omega
  | succ n ih =>
    intro acc s h
    rw [← adv_succ]
    adv_walk groupKeysLoop [parseExpr_adv T _ _ _] [ih _ _ _]

theorem clauseTurn_adv (c : Clauses) (h : 3 * s.remaining ≤ fuel) : (clauseTurn T fuel c s).Adv s.remaining := by
  adv_walk clauseTurn [parseExpr_adv T _ _ _, parseJoin_adv _ _] [groupKeysLoop_keep T _ _ _ _]

theorem clauseLoop_adv : ∀ c s, 3 * s.remaining + 1 ≤ fuel → (clauseLoop T fuel c s).Adv s.remaining := by
  induction fuel with
  | zero => intro c s h; omega
  | succ n ih =>
    intro c s h
    adv_walk clauseLoop [clauseTurn_adv T _ _ _ _, ih _ _ _] []

theorem clauses_keep (h : 3 * s.remaining + 1 ≤ fuel) : (clauses T fuel s).Keep s.remaining :=
  adv_succ.1 (.ite ((clauseLoop_adv T fuel _ s h).mono (Nat.le_succ _)) (adv_ok (Nat.lt_succ_self _)))

theorem parseSelect_adv (h : 3 * s.remaining ≤ fuel) : (parseSelect T fuel s).Adv s.remaining := by
  adv_walk parseSelect [projLoop_adv T _ _ _ _] [optDistinct_keep _, optFile_keep _, clauses_keep T _ _ _]

theorem typeBrackets_keep : ∀ n s, 3 * s.remaining + 1 ≤ fuel → (typeBrackets fuel n s).Keep s.remaining := by
  induction fuel with
  | zero => intro n s h; omega
  | succ m ih =>
    intro n s h
    rw [← adv_succ]
    adv_walk typeBrackets [] [ih _ _ _]

theorem parseType_adv (h : 3 * s.remaining ≤ fuel) : (parseType fuel s).Adv s.remaining := by
  adv_walk parseType [] [typeBrackets_keep _ _ _ _]

theorem parseDefineColumn_adv (p : PColParsing) (h : 3 * s.remaining ≤ fuel) :
    (parseDefineColumn T fuel p s).Adv s.remaining := by
  adv_walk parseDefineColumn [parseType_adv _ _ _, parsePrimary_adv T _ _ _] []

theorem refLoop_adv : ∀ acc s, 3 * s.remaining + 1 ≤ fuel → (refLoop fuel acc s).Adv s.remaining := by
  induction fuel with
  | zero => intro acc s h; omega
  | succ m ih =>
    intro acc s h
    adv_walk refLoop [ih _ _ _] []

theorem optRefs_keep (first : PRegexRef) (h : 3 * s.remaining + 1 ≤ fuel) : (optRefs fuel first s).Keep s.remaining :=
  adv_succ.1 (.ite ((refLoop_adv fuel _ s h).mono (Nat.le_succ _)) (adv_ok (Nat.lt_succ_self _)))

theorem jsonLoop_adv : ∀ acc s, 3 * s.remaining + 1 ≤ fuel → (jsonLoop fuel acc s).Adv s.remaining := by
  induction fuel with
  | zero => intro acc s h; omega
  | succ m ih =>
    intro acc s h
    adv_walk jsonLoop [ih _ _ _] []

theorem colItem_adv (ps : Patterns) (cs : List PColDef) (h : 3 * s.remaining ≤ fuel) :
    (colItem T fuel ps cs s).Adv s.remaining := by
  adv_walk colItem [parseDefineColumn_adv T _ _ _ _, jsonLoop_adv _ _ _ _] [parseRegexMode_keep _, optRefs_keep _ _ _ _]

theorem colLoop_adv : ∀ ps cs s, 3 * s.remaining + 1 ≤ fuel → (colLoop T fuel ps cs s).Adv s.remaining := by
  induction fuel with
  | zero => intro ps cs s h; omega
  | succ n ih =>
    intro ps cs s h
    adv_walk colLoop [colItem_adv T _ _ _ _ _, ih _ _ _ _] []

theorem parseCreateTable_adv (h : 3 * s.remaining ≤ fuel) : (parseCreateTable T fuel s).Adv s.remaining := by
  adv_walk parseCreateTable [colLoop_adv T _ _ _ _ _] []

theorem multiCreateLoop_adv : ∀ acc s, 3 * s.remaining + 1 ≤ fuel → (multiCreateLoop T fuel acc s).Adv s.remaining := by
  induction fuel with
  | zero => intro acc s h; omega
  | succ n ih =>
    intro acc s h
    adv_walk multiCreateLoop [parseCreateTable_adv T _ _ _, ih _ _ _] []

theorem parseStatement_adv (h : 3 * s.remaining + 1 ≤ fuel) : (parseStatement T fuel s).Adv s.remaining :=
  .ite (parseSelect_adv T fuel s (by omega)) (multiCreateLoop_adv T fuel _ s h)

theorem parseOp_nofuel (h : 3 * s.remaining + 1 ≤ fuel) : parseOp T fuel s ≠ .fuel := by
  unfold parseOp
  simp only [parse_bind]
  split
  · exact mkErr_nofuel _ _
  · have hsemi := fun s => adv_succ.2 (optSemi_keep s)
    cases hp : parseStatement T fuel s with
    | fuel => exact absurd hp (parseStatement_adv T fuel s h).1
    | ok op s' => exact ((hsemi s').bind fun _ _ h' => .ite (adv_ok h') (adv_mkErr _ _ _)).1
    | err e s' => exact ((hsemi s').bind fun _ _ _ => adv_err e _ 0).1

end Parse
end Sqlgrep
