/- Helper lemmas: lawfulness of comparison results, closed under lexicographic composition (`T`, `T_then`, `transCmp_of_T`);
insertion into a strictly ascending list, as `BTreeSet::insert` / `BTreeMap::entry` do it (`insBy`, `mem_insBy`, `sorted_insBy`). -/
namespace Sqlgrep

/-- The three results `o = c a b`, `p = c b d`, `q = c a d` of a comparison on a triple behave
like a total preorder: `<` is transitive and `=` is a congruence on both sides. -/
def T (o p q : Ordering) : Prop :=
  (o = .lt → p = .lt → q = .lt) ∧ (o = .eq → q = p) ∧ (p = .eq → q = o)

theorem T_then {o1 o2 p1 p2 q1 q2 : Ordering}
    (h1 : T o1 p1 q1) (h2 : o1 = .eq → p1 = .eq → T o2 p2 q2) :
    T (o1.then o2) (p1.then p2) (q1.then q2) := by
  obtain ⟨lt, eql, eqr⟩ := h1
  -- the first components decide, except when both are `.eq`
  cases o1 <;> cases p1
  · obtain rfl := lt rfl rfl; exact ⟨fun _ _ => rfl, nofun, nofun⟩
  · obtain rfl := eqr rfl; exact ⟨fun _ _ => rfl, nofun, fun _ => rfl⟩
  · exact ⟨nofun, nofun, nofun⟩
  · obtain rfl := eql rfl; exact ⟨fun _ _ => rfl, fun _ => rfl, nofun⟩
  · obtain rfl := eql rfl; exact h2 rfl rfl
  · obtain rfl := eql rfl; exact ⟨nofun, fun _ => rfl, nofun⟩
  · exact ⟨nofun, nofun, nofun⟩
  · obtain rfl := eqr rfl; exact ⟨nofun, nofun, fun _ => rfl⟩
  · exact ⟨nofun, nofun, nofun⟩

theorem T_of_transCmp {α : Type} {cmp : α → α → Ordering} [Std.TransCmp cmp] (a b c : α) :
    T (cmp a b) (cmp b c) (cmp a c) :=
  ⟨Std.TransCmp.lt_trans, Std.TransCmp.congr_left, fun h => (Std.TransCmp.congr_right h).symm⟩

/-- for a comparison that ranks first, `cmp a b = (compare (rank a) (rank b)).then (cmp a b)`: the triple law is owed between
equal ranks only -/
theorem T_of_rank {α : Type} {cmp : α → α → Ordering} (rank : α → Nat)
    (hne : ∀ {a b}, rank a ≠ rank b → cmp a b = compare (rank a) (rank b)) {a b c : α}
    (hsame : rank a = rank b → rank b = rank c → T (cmp a b) (cmp b c) (cmp a c)) :
    T (cmp a b) (cmp b c) (cmp a c) := by
  have key : ∀ x y, cmp x y = (compare (rank x) (rank y)).then (cmp x y) := by
    intro x y
    by_cases h : rank x = rank y
    · rw [Nat.compare_eq_eq.2 h]; rfl
    · rw [hne h]; cases compare (rank x) (rank y) <;> rfl
  rw [key a b, key b c, key a c]
  exact T_then (T_of_transCmp ..) fun h1 h2 => hsame (Nat.compare_eq_eq.1 h1) (Nat.compare_eq_eq.1 h2)

theorem T.le_trans {o p q : Ordering} (t : T o p q) (h1 : o ≠ .gt) (h2 : p ≠ .gt) : q ≠ .gt := by
  unfold T at t
  cases o <;> cases p <;> simp_all

theorem T_of_eq_eq {q : Ordering} (h : q = .eq) : T .eq .eq q := by
  subst h; unfold T; simp

/-- A comparison with the mirror law and the triple law is one of core's lawful comparisons, so its consequences are
core's: `Std.TransCmp.lt_trans`, `eq_trans`, `congr_left`, `congr_right`, `isLE_trans`, `Std.OrientedCmp.eq_symm`,
`gt_of_lt`, `lt_of_gt`, `Std.ReflCmp.compare_self`. (`T` stays the form in which the laws are proved: it is pointwise, so
it goes through a mutual recursion over values and lists of values, where an instance cannot.) -/
theorem transCmp_of_T {α : Type} {cmp : α → α → Ordering} (swap : ∀ a b, cmp b a = (cmp a b).swap)
    (t : ∀ a b c, T (cmp a b) (cmp b c) (cmp a c)) : Std.TransCmp cmp where
  eq_swap := swap _ _
  isLE_trans {a b c} h1 h2 := by
    rw [Ordering.isLE_iff_ne_gt] at *
    exact (t a b c).le_trans h1 h2

theorem cmp_ne_gt_trans {α : Type} {cmp : α → α → Ordering} [Std.TransCmp cmp] {a b c : α}
    (h1 : cmp a b ≠ .gt) (h2 : cmp b c ≠ .gt) : cmp a c ≠ .gt := by
  rw [ne_eq, ← Ordering.isLE_iff_ne_gt] at *; exact Std.TransCmp.isLE_trans h1 h2

theorem cmp_ne_lt_trans {α : Type} {cmp : α → α → Ordering} [Std.TransCmp cmp] {a b c : α}
    (h1 : cmp a b ≠ .lt) (h2 : cmp b c ≠ .lt) : cmp a c ≠ .lt := by
  rw [ne_eq, ← Ordering.isGE_iff_ne_lt] at *; exact Std.TransCmp.isGE_trans h1 h2

/-! ### insertion into an ascending list

What `BTreeSet::insert` / `BTreeMap::entry` do on a list kept strictly ascending: `v` goes in front of the first greater
member; a member `x` equal to `v` is replaced by `onEq x` (the new value, the old one, a modified entry). -/

def insBy {α : Type} (cmp : α → α → Ordering) (onEq : α → α) (v : α) : List α → List α
  | [] => [v]
  | x :: xs =>
    match cmp v x with
    | .lt => v :: x :: xs
    | .eq => onEq x :: xs
    | .gt => x :: insBy cmp onEq v xs

theorem mem_insBy {α : Type} {cmp : α → α → Ordering} {onEq : α → α} {v u : α} :
    ∀ {l : List α}, u ∈ insBy cmp onEq v l → u = v ∨ u ∈ l ∨ ∃ x ∈ l, cmp v x = .eq ∧ u = onEq x
  | [], h => .inl (List.mem_singleton.1 h)
  | x :: xs, h => by
    unfold insBy at h
    split at h
    · exact (List.mem_cons.1 h).imp_right .inl
    · rename_i hc
      rcases List.mem_cons.1 h with h | h
      · exact .inr (.inr ⟨x, List.mem_cons_self, hc, h⟩)
      · exact .inr (.inl (List.mem_cons_of_mem _ h))
    · rcases List.mem_cons.1 h with h | h
      · exact .inr (.inl (h ▸ List.mem_cons_self))
      · rcases mem_insBy h with h | h | ⟨y, hy, h⟩
        · exact .inl h
        · exact .inr (.inl (List.mem_cons_of_mem _ h))
        · exact .inr (.inr ⟨y, List.mem_cons_of_mem _ hy, h⟩)

theorem sorted_insBy {α : Type} {cmp : α → α → Ordering} [Std.TransCmp cmp] {onEq : α → α} (v : α)
    (hEq : ∀ x, cmp v x = .eq → cmp (onEq x) x = .eq) :
    ∀ {l : List α}, l.Pairwise (cmp · · = .lt) → (insBy cmp onEq v l).Pairwise (cmp · · = .lt)
  | [], _ => List.pairwise_singleton _ _
  | x :: xs, hs => by
    have hs' := List.pairwise_cons.1 hs
    unfold insBy
    split
    · rename_i hc
      exact List.pairwise_cons.2
        ⟨fun y hy => (List.mem_cons.1 hy).elim (· ▸ hc) fun hy => Std.TransCmp.lt_trans hc (hs'.1 y hy), hs⟩
    · rename_i hc
      exact List.pairwise_cons.2 ⟨fun y hy => (Std.TransCmp.congr_left (hEq x hc)).trans (hs'.1 y hy), hs'.2⟩
    · rename_i hc
      refine List.pairwise_cons.2 ⟨fun y hy => ?_, sorted_insBy v hEq hs'.2⟩
      rcases mem_insBy hy with rfl | hy | ⟨z, hz, hvz, rfl⟩
      · exact Std.OrientedCmp.lt_of_gt hc
      · exact hs'.1 y hy
      · exact (Std.TransCmp.congr_right (hEq z hvz)).trans (hs'.1 z hz)

end Sqlgrep
