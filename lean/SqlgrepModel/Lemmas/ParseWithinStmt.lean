import SqlgrepModel.Lemmas.ParseWithin
/-
Location lemmas for the statement parser (`Model/ParseStmt.lean`), on top of `locIH_all`: every function keeps the
state a suffix of the token vector and reports errors at token locations.
-/
namespace Sqlgrep
namespace Parse

variable {T : PrecTables} {fuel : Nat} {s : PSt} {toks : List PTok}

theorem parseExpr_within (h : s.Suffix toks) : (parseExpr T fuel s).Within toks := (locIH_all T fuel).e s h
theorem parsePrimary_within (h : s.Suffix toks) : (parsePrimary T fuel s).Within toks := (locIH_all T fuel).p s h
theorem parseCase_within {T : PrecTables} {fuel : Nat} {loc cl} {s : PSt} {toks} (h : s.Suffix toks) :
    (parseCase T fuel loc cl s).Within toks :=
  (locIH_all T fuel).c loc cl s h

section
variable (h : s.Suffix toks)
include h

theorem parseJoin_within {b : Bool} : (parseJoin b s).Within toks := by
  loc_walk parseJoin []

theorem optAlias_within : (optAlias s).Within toks := by
  loc_walk optAlias []

theorem optDistinct_within : (optDistinct s).Within toks := by
  loc_walk optDistinct []

theorem optFile_within : (optFile s).Within toks := by
  loc_walk optFile []

theorem optSemi_within : (optSemi s).Within toks := .ite (next_within h) (within_ok h)

theorem parseRegexMode_within : (parseRegexMode s).Within toks := by
  loc_walk parseRegexMode []

end

theorem typeBrackets_within : ∀ n s, s.Suffix toks → (typeBrackets fuel n s).Within toks := by
  induction fuel with
  | zero => intro n s h; rw [typeBrackets]; exact within_fuel
  | succ m ih =>
    intro n s h
    loc_walk typeBrackets [ih _ _]

theorem parseType_within (h : s.Suffix toks) : (parseType fuel s).Within toks := by
  loc_walk parseType [typeBrackets_within _ _]

theorem parseDefineColumn_within {p : PColParsing} (h : s.Suffix toks) : (parseDefineColumn T fuel p s).Within toks := by
  loc_walk parseDefineColumn [parseType_within, parsePrimary_within]

theorem refLoop_within : ∀ acc s, s.Suffix toks → (refLoop fuel acc s).Within toks := by
  induction fuel with
  | zero => intro acc s h; rw [refLoop]; exact within_fuel
  | succ m ih =>
    intro acc s h
    loc_walk refLoop [ih _ _]

theorem optRefs_within {first : PRegexRef} (h : s.Suffix toks) : (optRefs fuel first s).Within toks :=
  .ite (refLoop_within _ s h) (within_ok h)

theorem jsonLoop_within : ∀ acc s, s.Suffix toks → (jsonLoop fuel acc s).Within toks := by
  induction fuel with
  | zero => intro acc s h; rw [jsonLoop]; exact within_fuel
  | succ m ih =>
    intro acc s h
    loc_walk jsonLoop [ih _ _]

theorem colItem_within {ps : Patterns} {cs : List PColDef} (h : s.Suffix toks) : (colItem T fuel ps cs s).Within toks := by
  loc_walk colItem [parseRegexMode_within, optRefs_within, parseDefineColumn_within, jsonLoop_within _ _]

theorem colLoop_within : ∀ ps cs s, s.Suffix toks → (colLoop T fuel ps cs s).Within toks := by
  induction fuel with
  | zero => intro ps cs s h; rw [colLoop]; exact within_fuel
  | succ n ih =>
    intro ps cs s h
    loc_walk colLoop [colItem_within, ih _ _ _]

theorem projLoop_within : ∀ fuel acc s, s.Suffix toks → (projLoop T fuel acc s).Within toks := by
  intro fuel
  induction fuel with
  | zero => intro acc s _; rw [projLoop]; exact within_fuel
  | succ n ih =>
    intro acc s hs
    loc_walk projLoop [parseExpr_within, optAlias_within, ih _ _]

theorem groupKeysLoop_within : ∀ fuel acc s, s.Suffix toks → (groupKeysLoop T fuel acc s).Within toks := by
  intro fuel
  induction fuel with
  | zero => intro acc s _; rw [groupKeysLoop]; exact within_fuel
  | succ n ih =>
    intro acc s hs
    loc_walk groupKeysLoop [parseExpr_within, ih _ _]

theorem clauseTurn_within {c : Clauses} (hs : s.Suffix toks) : (clauseTurn T fuel c s).Within toks := by
  loc_walk clauseTurn [parseExpr_within, groupKeysLoop_within _ _ _, parseJoin_within]

theorem clauseLoop_within : ∀ c s, s.Suffix toks → (clauseLoop T fuel c s).Within toks := by
  induction fuel with
  | zero => intro c s _; rw [clauseLoop]; exact within_fuel
  | succ n ih =>
    intro c s hs
    loc_walk clauseLoop [clauseTurn_within, ih _ _]

theorem clauses_within (hs : s.Suffix toks) : (clauses T fuel s).Within toks :=
  .ite (clauseLoop_within _ s hs) (within_ok hs)

theorem parseSelect_within (hs : s.Suffix toks) : (parseSelect T fuel s).Within toks := by
  loc_walk parseSelect [projLoop_within _ _ _, clauses_within, optDistinct_within, optFile_within]

theorem parseCreateTable_within (hs : s.Suffix toks) : (parseCreateTable T fuel s).Within toks := by
  loc_walk parseCreateTable [colLoop_within _ _ _]

theorem multiCreateLoop_within : ∀ acc s, s.Suffix toks → (multiCreateLoop T fuel acc s).Within toks := by
  induction fuel with
  | zero => intro acc s _; rw [multiCreateLoop]; exact within_fuel
  | succ n ih =>
    intro acc s hs
    loc_walk multiCreateLoop [parseCreateTable_within, ih _ _]

theorem parseStatement_within (hs : s.Suffix toks) : (parseStatement T fuel s).Within toks :=
  .ite (parseSelect_within hs) (multiCreateLoop_within _ s hs)

theorem parseOp_within (hs : s.Suffix toks) : (parseOp T fuel s).Within toks := by
  unfold parseOp
  simp only [parse_bind]
  split
  · exact within_mkErr hs
  · have h := parseStatement_within (T := T) (fuel := fuel) hs
    cases hp : parseStatement T fuel s with
    | fuel => exact within_fuel
    | ok op s' =>
      rw [hp] at h
      exact (optSemi_within (h.1 _ _ rfl)).bind fun _ _ hs' => .ite (within_ok hs') (within_mkErr hs')
    | err e s' =>
      rw [hp] at h
      exact (optSemi_within (h.2 _ _ rfl).1).bind fun _ _ hs' => within_err hs' (h.2 _ _ rfl).2

end Parse
end Sqlgrep
