import SqlgrepModel.Lemmas.ParsePrefixClauses
import SqlgrepModel.Lemmas.ParseJson
/-
Successful runs of the clause loop, read backwards: a parser function with the barrier property consumes no boundary
token (`noadv_generic`, from the barrier equation and `Within`); a successful turn of the clause loop consumed
exactly one clause (`clauseTurn_run`); a successful run of the loop is a sequence of clauses of pairwise different
kinds followed by `End` or `;` (`clauseLoop_run`).
-/
namespace Sqlgrep
namespace Parse

theorem split_first_boundary (L : List PTok) :
    (∀ t ∈ L, ¬ Boundary t.tok) ∨ ∃ pre b y, L = pre ++ b :: y ∧ (∀ t ∈ pre, ¬ Boundary t.tok) ∧ Boundary b.tok := by
  induction L with
  | nil => left; simp
  | cons t ts ih =>
    by_cases ht : Boundary t.tok
    · right; exact ⟨[], t, ts, rfl, by simp, ht⟩
    · rcases ih with h | ⟨pre, b, y, h1, h2, h3⟩
      · left; intro u hu; simp only [List.mem_cons] at hu; rcases hu with rfl | hu; exact ht; exact h u hu
      · right; refine ⟨t :: pre, b, y, by simp [h1], ?_, h3⟩
        intro u hu; simp only [List.mem_cons] at hu; rcases hu with rfl | hu; exact ht; exact h2 u hu

theorem swapToks_first (t2 : PSt) (pre : List PTok) (hnb : ∀ t ∈ pre, ¬ Boundary t.tok) (b : PTok) (hb : Boundary b.tok)
    (y : List PTok) : swapToks t2 (pre ++ b :: y) = pre ++ ⟨b.loc, t2.cur.tok⟩ :: t2.rest := by
  rw [swapToks_append t2 pre hnb]; simp [swapToks, hb]

/-- **a successful run consumes no boundary token**: for a parser function that never looks past the first boundary
token (at the state the run starts in) and leaves a suffix of its input, the tokens between the start state and the
state it leaves contain no clause keyword, `;` or `End` -/
theorem noadv_generic {α : Type} {F : PSt → PRes α} {s s' : PSt} {a : α}
    (hswap : ∀ t2 : PSt, Boundary t2.cur.tok → F (swapB t2 s) = (F s).mapSt (swapB t2))
    (hwithin : ∀ (s : PSt) (toks : List PTok), s.Suffix toks → (F s).Within toks) (hrun : F s = .ok a s') :
    ∃ body, s = PSt.prepend body s' ∧ ∀ t ∈ body, ¬ Boundary t.tok := by
  have hsuf : s'.Suffix (PSt.toks s) := (hwithin s _ (List.suffix_refl _)).1 a s' hrun
  obtain ⟨body, hbody⟩ := hsuf
  change body ++ PSt.toks s' = PSt.toks s at hbody
  refine ⟨body, pst_ext (by rw [prepend_toks]; exact hbody.symm), ?_⟩
  rcases split_first_boundary (PSt.toks s) with hnone | ⟨pre, b, y, hL, hpre, hb⟩
  · intro t ht; exact hnone t (by rw [← hbody]; exact List.mem_append_left _ ht)
  · -- the run on the input with its own tail put back: the state left behind is unchanged by the swap
    have hself : swapB ⟨b, y⟩ s = s := pst_ext (by rw [swapB_toks, hL, swapToks_first _ pre hpre b hb])
    have h1 := hswap ⟨b, y⟩ hb
    rw [hself, hrun] at h1
    simp only [PRes.mapSt, PRes.ok.injEq, true_and] at h1
    have h2 : PSt.toks s' = swapToks ⟨b, y⟩ (PSt.toks s') := by rw [← swapB_toks, ← h1]
    -- so `s'` still holds a boundary token, and behind its first one comes `y`
    rcases split_first_boundary (PSt.toks s') with hnone' | ⟨u, c, v, hL', hu, hc⟩
    · -- no boundary token left in `s'`: then `b` lies in `body`… but the run cut behind `b` must stay inside `pre ++ [b]`
      exfalso
      have h3 := hswap ⟨b, []⟩ hb
      rw [hrun] at h3
      simp only [PRes.mapSt] at h3
      have hcut : PSt.toks (swapB ⟨b, []⟩ s) = pre ++ [b] := by rw [swapB_toks, hL, swapToks_first _ pre hpre b hb]
      have hsame : swapB ⟨b, []⟩ s' = s' := pst_ext (by
        rw [swapB_toks]; simpa [swapToks] using swapToks_append ⟨b, []⟩ (PSt.toks s') hnone' [])
      rw [hsame] at h3
      obtain ⟨w, hw⟩ := (hwithin _ _ (List.suffix_refl _)).1 a s' h3
      change w ++ PSt.toks s' = PSt.toks (swapB ⟨b, []⟩ s) at hw
      rw [hcut] at hw
      have hmem : b ∈ PSt.toks s' := by
        have hne : PSt.toks s' ≠ [] := by simp [PSt.toks]
        obtain ⟨u', x, hu'⟩ : ∃ u' x, PSt.toks s' = u' ++ [x] := by
          rcases List.eq_nil_or_concat (PSt.toks s') with h | ⟨u', x, h⟩
          · exact absurd h hne
          · exact ⟨u', x, by simpa using h⟩
        rw [hu', ← List.append_assoc] at hw
        have := (List.append_inj' hw rfl).2
        simp only [List.cons.injEq, and_true] at this
        rw [hu', this]; simp
      exact hnone' b hmem hb
    · rw [hL', swapToks_first _ u hu c hc] at h2
      have hv : v = y := by
        have := List.append_cancel_left h2
        simp only [List.cons.injEq] at this
        exact this.2
      -- lengths: `body ++ u ++ c :: y = pre ++ b :: y`
      rw [hL', hL, hv] at hbody
      have hpre' : body ++ u = pre := by
        have : (body ++ u) ++ c :: y = pre ++ b :: y := by simpa using hbody
        exact List.append_inj_left' this rfl
      intro t ht; exact hpre t (by rw [← hpre']; exact List.mem_append_left _ ht)


section noadv
variable {T : PrecTables} (hT : InertBoundary T)
include hT

theorem parseExpr_noadv {f : Nat} {s s' : PSt} {e : PExpr} (hrun : parseExpr T f s = .ok e s') :
    ∃ body, s = PSt.prepend body s' ∧ ∀ t ∈ body, ¬ Boundary t.tok :=
  noadv_generic (fun _ h2 => parseExpr_swapB hT h2 f s) (fun _ _ h => parseExpr_within h) hrun

theorem groupKeys_noadv {f : Nat} {s s' : PSt} {ks : List PExpr} (hrun : groupKeys T f s = .ok ks s') :
    ∃ body, s = PSt.prepend body s' ∧ ∀ t ∈ body, ¬ Boundary t.tok :=
  noadv_generic (fun t2 h2 => groupKeys_swapB hT t2 h2 f s) (groupKeys_within f) hrun

end noadv

/-- `h : (try! (a, s) ← x; k a s) = .ok r s'`: `x` succeeded -/
macro "try_inv " h:ident : tactic =>
  `(tactic| (split at $h:ident; rotate_left; (· cases $h:ident); (· cases $h:ident)))

theorem next_inv {s s' : PSt} {u : Unit} (h : next s = .ok u s') : PSt.toks s = s.cur :: PSt.toks s' := by
  unfold next at h
  cases hr : s.rest with
  | nil => rw [hr] at h; cases h
  | cons t r => rw [hr] at h; cases h; simp [PSt.toks, hr]

theorem expectConsume_inv {X : Tok} {k : PErrKind} {s s' : PSt} {u : Unit} (h : expectConsume X k s = .ok u s') :
    s.cur.tok = X ∧ PSt.toks s = s.cur :: PSt.toks s' := by
  unfold expectConsume at h
  by_cases hc : s.cur.tok = X
  · simp only [hc, if_true] at h; exact ⟨hc, next_inv h⟩
  · simp only [hc, if_false] at h; cases h

theorem consumeIdentifier_inv {s s' : PSt} {n : List Char} (h : consumeIdentifier s = .ok n s') :
    s.cur.tok = .ident n ∧ PSt.toks s = s.cur :: PSt.toks s' := by
  unfold consumeIdentifier at h
  split at h
  · obtain ⟨_, _, hn, h⟩ := bind_eq_ok h; cases h; exact ⟨‹_›, next_inv hn⟩
  · cases h

theorem consumeString_inv {s s' : PSt} {n : List Char} (h : consumeString s = .ok n s') :
    s.cur.tok = .str n ∧ PSt.toks s = s.cur :: PSt.toks s' := by
  unfold consumeString at h
  split at h
  · obtain ⟨_, _, hn, h⟩ := bind_eq_ok h; cases h; exact ⟨‹_›, next_inv hn⟩
  · cases h

theorem consumeInt_inv {s s' : PSt} {n : Int} (h : consumeInt s = .ok n s') :
    s.cur.tok = .int n ∧ PSt.toks s = s.cur :: PSt.toks s' := by
  unfold consumeInt at h
  split at h
  · obtain ⟨_, _, hn, h⟩ := bind_eq_ok h; cases h; exact ⟨‹_›, next_inv hn⟩
  · cases h

theorem parseJoin_inv {b : Bool} {s s' : PSt} {j : PJoin} (h : parseJoin b s = .ok j s') :
    ∃ seg : List PTok, PSt.toks s = seg ++ PSt.toks s' ∧
      seg.map (·.tok) = [s.cur.tok, .kw .join, .ident j.joinerTable, .dcolon, .str j.joinerFilename, .kw .on,
        .ident j.leftTable, .op (.single '.'), .ident j.leftColumn, .op (.single '='), .ident j.rightTable,
        .op (.single '.'), .ident j.rightColumn] ∧ j.isOuter = b := by
  unfold parseJoin at h; simp only [parse_bind] at h
  obtain ⟨_, s1, h1, h⟩ := bind_eq_ok h
  obtain ⟨_, s2, h2, h⟩ := bind_eq_ok h
  obtain ⟨u, s3, h3, h⟩ := bind_eq_ok h
  obtain ⟨_, s4, h4, h⟩ := bind_eq_ok h
  obtain ⟨fl, s5, h5, h⟩ := bind_eq_ok h
  obtain ⟨_, s6, h6, h⟩ := bind_eq_ok h
  obtain ⟨a, s7, h7, h⟩ := bind_eq_ok h
  obtain ⟨_, s8, h8, h⟩ := bind_eq_ok h
  obtain ⟨bb, s9, h9, h⟩ := bind_eq_ok h
  obtain ⟨_, s10, h10, h⟩ := bind_eq_ok h
  obtain ⟨c, s11, h11, h⟩ := bind_eq_ok h
  obtain ⟨_, s12, h12, h⟩ := bind_eq_ok h
  obtain ⟨d, s13, h13, h⟩ := bind_eq_ok h
  cases h
  have e1 := next_inv h1
  obtain ⟨t2, e2⟩ := expectConsume_inv h2
  obtain ⟨t3, e3⟩ := consumeIdentifier_inv h3
  obtain ⟨t4, e4⟩ := expectConsume_inv h4
  obtain ⟨t5, e5⟩ := consumeString_inv h5
  obtain ⟨t6, e6⟩ := expectConsume_inv h6
  obtain ⟨t7, e7⟩ := consumeIdentifier_inv h7
  obtain ⟨t8, e8⟩ := expectConsume_inv h8
  obtain ⟨t9, e9⟩ := consumeIdentifier_inv h9
  obtain ⟨t10, e10⟩ := expectConsume_inv h10
  obtain ⟨t11, e11⟩ := consumeIdentifier_inv h11
  obtain ⟨t12, e12⟩ := expectConsume_inv h12
  obtain ⟨t13, e13⟩ := consumeIdentifier_inv h13
  refine ⟨[s.cur, s1.cur, s2.cur, s3.cur, s4.cur, s5.cur, s6.cur, s7.cur, s8.cur, s9.cur, s10.cur, s11.cur, s12.cur], ?_, ?_, rfl⟩
  · rw [e1, e2, e3, e4, e5, e6, e7, e8, e9, e10, e11, e12, e13]; rfl
  · simp [t2, t3, t4, t5, t6, t7, t8, t9, t10, t11, t12, t13]


theorem ClauseSeg.mono {T : PrecTables} {f f' : Nat} (hf : f ≤ f') {toks : List Tok} {v : ClauseVal}
    (h : ClauseSeg T f toks v) : ClauseSeg T f' toks v := by
  cases h with
  | limit n => exact .limit n
  | join outer u fl a b c d => exact .join outer u fl a b c d
  | filter body hnb tail0 hb0 e hrun => exact .filter body hnb tail0 hb0 e (fuel_mono_expr T hf hrun (by simp))
  | having body hnb tail0 hb0 e hrun => exact .having body hnb tail0 hb0 e (fuel_mono_expr T hf hrun (by simp))
  | groupBy body hnb tail0 hb0 ks hrun =>
    exact .groupBy body hnb tail0 hb0 ks (PLe.mono_eq (fun n => groupKeys_mono T n _) hf hrun (by simp))

theorem prepend_of_toks {s s' : PSt} {seg : List PTok} (h : PSt.toks s = seg ++ PSt.toks s') : s = PSt.prepend seg s' :=
  pst_ext (by rw [prepend_toks]; exact h)

theorem toks_prepend_cons {s s1 s' : PSt} {body : List PTok} (h1 : PSt.toks s = s.cur :: PSt.toks s1)
    (h2 : s1 = PSt.prepend body s') : PSt.toks s = (s.cur :: body) ++ PSt.toks s' := by
  rw [h1, h2, prepend_toks]; rfl

section runs
variable {T : PrecTables} (hT : InertBoundary T)
include hT

omit hT in
theorem parseJoin_seg {f : Nat} {b : Bool} {s s' : PSt} {j : PJoin} (hk : s.cur.tok = .kw (if b then .outer else .inner))
    (hj : parseJoin b s = .ok j s') : ∃ seg, s = PSt.prepend seg s' ∧ ClauseSeg T f (seg.map (·.tok)) (.join j) := by
  obtain ⟨seg, hseg, htoks, hout⟩ := parseJoin_inv hj
  refine ⟨seg, prepend_of_toks hseg, ?_⟩
  rw [htoks, hk]
  cases j; simp only at hout; subst hout; exact .join _ _ _ _ _ _ _

theorem clauseTurn_run {f : Nat} {c c' : Clauses} {s s' : PSt} (h : clauseTurn T f c s = .ok (c', false) s')
    (hb : Boundary s'.cur.tok) :
    ∃ seg v, s = PSt.prepend seg s' ∧ ClauseSeg T f (seg.map (·.tok)) v ∧ v.free c ∧ c' = v.put c := by
  unfold clauseTurn at h; simp only [parse_bind] at h
  by_cases hk : s.cur.tok = .kw .where
  · rw [if_pos hk] at h
    obtain ⟨_, s1, hn, h⟩ := bind_eq_ok h
    split at h
    · cases h
    · rename_i hfree
      obtain ⟨e, s2, he, h⟩ := bind_eq_ok h
      cases h
      obtain ⟨body, hbody, hnb⟩ := parseExpr_noadv hT he
      refine ⟨s.cur :: body, .filter e, prepend_of_toks (toks_prepend_cons (next_inv hn) hbody), ?_,
        by simpa [ClauseVal.free] using hfree, rfl⟩
      simp only [List.map_cons, hk]
      exact .filter body hnb s' hb e (hbody ▸ he)
  rw [if_neg hk] at h; clear hk
  by_cases hk : s.cur.tok = .kw .inner
  · rw [if_pos hk] at h
    split at h
    · cases h
    · rename_i hfree
      obtain ⟨j, s2, hj, h⟩ := bind_eq_ok h
      cases h
      obtain ⟨seg, hseg, hcs⟩ := parseJoin_seg (b := false) hk hj
      exact ⟨seg, .join j, hseg, hcs, by simpa [ClauseVal.free] using hfree, rfl⟩
  rw [if_neg hk] at h; clear hk
  by_cases hk : s.cur.tok = .kw .outer
  · rw [if_pos hk] at h
    split at h
    · cases h
    · rename_i hfree
      obtain ⟨j, s2, hj, h⟩ := bind_eq_ok h
      cases h
      obtain ⟨seg, hseg, hcs⟩ := parseJoin_seg (b := true) hk hj
      exact ⟨seg, .join j, hseg, hcs, by simpa [ClauseVal.free] using hfree, rfl⟩
  rw [if_neg hk] at h; clear hk
  by_cases hk : s.cur.tok = .kw .group
  · rw [if_pos hk] at h
    obtain ⟨_, s1, hn, h⟩ := bind_eq_ok h
    obtain ⟨_, s2, hby, h⟩ := bind_eq_ok h
    split at h
    · cases h
    · rename_i hfree
      obtain ⟨k, s3, hk1, h⟩ := bind_eq_ok h
      obtain ⟨ks, s4, hks, h⟩ := bind_eq_ok h
      cases h
      have hrun : groupKeys T f s2 = .ok ks s' := by rw [groupKeys_eq, hk1]; exact hks
      obtain ⟨body, hbody, hnb⟩ := groupKeys_noadv hT hrun
      obtain ⟨tby, eby⟩ := expectConsume_inv hby
      refine ⟨s.cur :: s1.cur :: body, .groupBy ks, ?_, ?_, by simpa [ClauseVal.free] using hfree, rfl⟩
      · apply prepend_of_toks
        rw [next_inv hn, eby, hbody, prepend_toks]; rfl
      · simp only [List.map_cons, hk, tby]
        exact .groupBy body hnb s' hb _ (hbody ▸ hrun)
  rw [if_neg hk] at h; clear hk
  by_cases hk : s.cur.tok = .kw .having
  · rw [if_pos hk] at h
    split at h
    · cases h
    · rename_i hfree
      obtain ⟨_, s1, hn, h⟩ := bind_eq_ok h
      obtain ⟨e, s2, he, h⟩ := bind_eq_ok h
      cases h
      obtain ⟨body, hbody, hnb⟩ := parseExpr_noadv hT he
      refine ⟨s.cur :: body, .having e, prepend_of_toks (toks_prepend_cons (next_inv hn) hbody), ?_,
        by simpa [ClauseVal.free] using hfree, rfl⟩
      simp only [List.map_cons, hk]
      exact .having body hnb s' hb e (hbody ▸ he)
  rw [if_neg hk] at h; clear hk
  by_cases hk : s.cur.tok = .kw .limit
  · rw [if_pos hk] at h
    split at h
    · cases h
    · rename_i hfree
      obtain ⟨_, s1, hn, h⟩ := bind_eq_ok h
      obtain ⟨n, s2, hi, h⟩ := bind_eq_ok h
      cases h
      obtain ⟨ti, ei⟩ := consumeInt_inv hi
      refine ⟨[s.cur, s1.cur], .limit (asUsize n), ?_, ?_, by simpa [ClauseVal.free] using hfree, rfl⟩
      · apply prepend_of_toks; rw [next_inv hn, ei]; rfl
      · simp only [List.map_cons, List.map_nil, hk, ti]; exact .limit n
  rw [if_neg hk] at h; clear hk
  by_cases hk : s.cur.tok = .semi
  · -- `;` sets the flag
    rw [if_pos hk] at h
    obtain ⟨_, _, _, h⟩ := bind_eq_ok h
    cases h
  · rw [if_neg hk] at h; cases h

omit hT in
theorem clauseTurn_flag {f : Nat} {c c1 : Clauses} {s s1 : PSt} (h : clauseTurn T f c s = .ok (c1, true) s1) :
    s.cur.tok = .semi ∧ c1 = c ∧ next s = .ok () s1 := by
  by_cases h7 : s.cur.tok = .semi
  · have e : clauseTurn T f c s = (next s).bind fun _ s => .ok (c, true) s := by simp [clauseTurn, h7, parse_bind]
    rw [e] at h
    cases hn : next s with
    | ok u s2 => rw [hn] at h; cases h; exact ⟨h7, rfl, rfl⟩
    | err e s2 => rw [hn] at h; cases h
    | fuel => rw [hn] at h; cases h
  · -- every other arm answers with the flag off
    have hoff : (clauseTurn T f c s).OkP (fun r => r.2 = false) := by
      unfold clauseTurn; simp only [parse_bind]; okp_walk
      all_goals first | exact okP_ok rfl | contradiction
    cases hoff _ _ h

omit hT in
theorem clauseTurn_ok_boundary {f : Nat} {c : Clauses} {s s' : PSt} {r : Clauses × Bool}
    (h : clauseTurn T f c s = .ok r s') : Boundary s.cur.tok := by
  unfold clauseTurn at h
  unfold Boundary ClauseKw
  by_cases h1 : s.cur.tok = .kw .where; · simp [h1]
  by_cases h2 : s.cur.tok = .kw .inner; · simp [h2]
  by_cases h3 : s.cur.tok = .kw .outer; · simp [h3]
  by_cases h4 : s.cur.tok = .kw .group; · simp [h4]
  by_cases h5 : s.cur.tok = .kw .having; · simp [h5]
  by_cases h6 : s.cur.tok = .kw .limit; · simp [h6]
  by_cases h7 : s.cur.tok = .semi; · simp [h7]
  rw [if_neg h1, if_neg h2, if_neg h3, if_neg h4, if_neg h5, if_neg h6, if_neg h7] at h
  cases h

omit hT in
theorem clauseLoop_ok_boundary {f : Nat} {c cF : Clauses} {s sF : PSt} (h : clauseLoop T f c s = .ok cF sF) :
    Boundary s.cur.tok := by
  cases f with
  | zero => rw [clauseLoop] at h; cases h
  | succ n =>
    rw [clauseLoop] at h
    try_inv h; rename_i cb s1 ht
    exact clauseTurn_ok_boundary ht

omit hT in
theorem clauses_eof {f : Nat} {s : PSt} (h : s.cur.tok = .eof) : clauses T f s = .ok {} s := if_neg (not_not_intro h)

omit hT in
theorem clauses_of_ne_eof {f : Nat} {s : PSt} (h : s.cur.tok ≠ .eof) : clauses T f s = clauseLoop T f {} s := if_pos h

omit hT in
theorem clauses_ok_boundary {f : Nat} {c : Clauses} {s s' : PSt} (h : clauses T f s = .ok c s') : Boundary s.cur.tok := by
  by_cases he : s.cur.tok = .eof
  · exact .inr (.inl he)
  · rw [clauses_of_ne_eof he] at h; exact clauseLoop_ok_boundary h

omit hT in
theorem free_of_free_put {v w : ClauseVal} {c : Clauses} (h : w.free (v.put c)) : w.free c ∧ v.kind ≠ w.kind := by
  cases v <;> cases w <;> simp_all [ClauseVal.put, ClauseVal.free, ClauseVal.kind]

/-- **a successful run of the clause loop is a sequence of clauses**: the input is clauses of pairwise different
kinds (`ClauseSeg`) followed by `End` (where the loop stops) or by `;` (which the loop consumes), and the slots
returned are those clauses' values -/
theorem clauseLoop_run : ∀ (fuel : Nat) (c : Clauses) (s : PSt) (cF : Clauses) (sF : PSt),
    clauseLoop T fuel c s = .ok cF sF →
    ∃ (segs : List (List PTok × ClauseVal)) (term : PSt),
      s = PSt.prependAll (segs.map (·.1)) term ∧
      (∀ p ∈ segs, ClauseSeg T fuel (p.1.map (·.tok)) p.2) ∧
      segs.Pairwise (fun a b => a.2.kind ≠ b.2.kind) ∧
      (∀ p ∈ segs, p.2.free c) ∧ cF = putAll (segs.map (·.2)) c ∧
      ((term.cur.tok = .eof ∧ sF = term ∧ segs ≠ []) ∨ (term.cur.tok = .semi ∧ next term = .ok () sF)) := by
  intro fuel
  induction fuel with
  | zero => intro c s cF sF h; rw [clauseLoop] at h; cases h
  | succ n ih =>
    intro c s cF sF h
    rw [clauseLoop] at h
    try_inv h; rename_i cb s1 hturn
    obtain ⟨c1, b⟩ := cb
    cases b with
    | true =>
      simp only [if_true, PRes.ok.injEq] at h
      obtain ⟨rfl, rfl⟩ := h
      obtain ⟨hs, rfl, hn⟩ := clauseTurn_flag hturn
      exact ⟨[], s, rfl, by simp, by simp, by simp, rfl, .inr ⟨hs, hn⟩⟩
    | false =>
      simp only [Bool.false_eq_true, if_false] at h
      by_cases he : s1.cur.tok = .eof
      · simp only [he, if_true, PRes.ok.injEq] at h
        obtain ⟨rfl, rfl⟩ := h
        obtain ⟨seg, v, hseg, hcs, hfree, rfl⟩ := clauseTurn_run hT hturn (.inr (.inl he))
        exact ⟨[(seg, v)], s1, by simp [PSt.prependAll, hseg], by
          intro p hp; simp only [List.mem_singleton] at hp; subst hp; exact hcs.mono (Nat.le_succ _),
          by simp, by intro p hp; simp only [List.mem_singleton] at hp; subst hp; exact hfree,
          by simp [putAll], .inl ⟨he, rfl, by simp⟩⟩
      · simp only [he, if_false] at h
        have hb1 : Boundary s1.cur.tok := clauseLoop_ok_boundary h
        obtain ⟨seg, v, hseg, hcs, hfree, rfl⟩ := clauseTurn_run hT hturn hb1
        obtain ⟨segs, term, hs1, hcss, hpw, hfrees, hcF, hend⟩ := ih _ _ _ _ h
        refine ⟨(seg, v) :: segs, term, ?_, ?_, ?_, ?_, ?_, ?_⟩
        · simp [PSt.prependAll, hseg, hs1]
        · intro p hp
          simp only [List.mem_cons] at hp
          rcases hp with rfl | hp
          · exact hcs.mono (Nat.le_succ _)
          · exact (hcss p hp).mono (Nat.le_succ _)
        · refine List.pairwise_cons.mpr ⟨?_, hpw⟩
          intro p hp; exact (free_of_free_put (hfrees p hp)).2
        · intro p hp
          simp only [List.mem_cons] at hp
          rcases hp with rfl | hp
          · exact hfree
          · exact (free_of_free_put (hfrees p hp)).1
        · simp [putAll, hcF]
        · rcases hend with ⟨h1, h2, _⟩ | h2
          · exact .inl ⟨h1, h2, by simp⟩
          · exact .inr h2

end runs

end Parse
end Sqlgrep
