import SqlgrepModel.Lemmas.IterOrderEngine
import SqlgrepModel.Model.Pipeline
import SqlgrepModel.Lemmas.Runs
/-
C18 — output is deterministic and independent of hash seeds.

The model is a pure function of (statement, table infos, lines): running it twice gives the same answer by
construction. Which *other* tables are defined is visible only to the end-to-end model (`Model/Pipeline.lean`:
`addTables` / `getTable`); the last section shows that a run looks at the definitions of the queried and the joined
table only. What a hash seed can change in the real program is the
order in which a `HashMap` is *iterated*. The engines iterate exactly one hash map: the inner
`HashMap<usize, GroupAggregator>` of every group in the first loop of `execute_result` (percentile
aggregators publish their value); every other hash map (`columns`, join index, DISTINCT memory, COUNT(DISTINCT)
sets, group values) is only inserted into and looked up. The model lists the entries of those inner maps in
insertion order. The theorems below say that this choice is immaterial: let an adversary re-list the entries of
every inner map, in any order, before every single input line and before the final result — the printed
output, the line count and the error status are the same. Hence one answer per input, which is what the
correspondence check compares the implementation against, in this process and in fresh processes with fresh
SipHash keys.
-/
namespace Sqlgrep.Props.C18
open Sqlgrep Sqlgrep.Iter

/-- `f` re-lists the entries of the inner hash maps of an aggregation state (any order, e.g. the order another
hash seed would produce) without changing the maps -/
def IsShuffle (f : AggState → AggState) : Prop := ∀ a b, StRel a b → StRel (f a) b

/-- `runFile` (the batch loop over one file) with the aggregation state re-listed by `sh n` before the line
with running number `n` is executed -/
def runFileWith (sh : Nat → AggState → AggState) (O : Oracles) (qy : Query) (idx : JoinIndex) (withResult : Bool)
    (stopAt : Option Nat) : List FileLine → LoopState → LoopState
  | [], ls => ls
  | fl :: rest, ls =>
    if stopAt == some ls.consumed then ls
    else if !fl.readable then { ls with out := { ls.out with error := some .failReadFile }, stop := true }
    else
      let es0 : EngineState := { ls.es with agg := sh ls.consumed ls.es.agg }
      let ls := { ls with consumed := ls.consumed + 1, out := { ls.out with totalLines := ls.out.totalLines + 1 } }
      match executeLine O qy idx withResult es0 fl.line with
      | .ok (es, lo) =>
        let printed := match lo.result with
          | some r => printResult r false
          | none => []
        let ls := { ls with es := es, out := { ls.out with printed := ls.out.printed ++ printed } }
        if lo.reachedLimit then { ls with stop := true } else runFileWith sh O qy idx withResult stopAt rest ls
      | o => { ls with out := failWith ls.out o, stop := true }

def runFilesWith (sh : Nat → AggState → AggState) (O : Oracles) (qy : Query) (idx : JoinIndex) (withResult : Bool)
    (stopAt : Option Nat) : List (List FileLine) → LoopState → LoopState
  | [], ls => ls
  | f :: rest, ls =>
    if ls.stop || reachedLimit qy ls.es then ls
    else
      let ls := runFileWith sh O qy idx withResult stopAt f ls
      if ls.stop then ls else runFilesWith sh O qy idx withResult stopAt rest ls

/-- `runBatch` with the adversary re-listing the hash maps before every line and before the final result -/
def runBatchWith (sh : Nat → AggState → AggState) (O : Oracles) (qy : Query) (joined : List FileLine)
    (files : List (List FileLine)) (stopAt : Option Nat) : RunOut :=
  let idxO : Outcome JoinIndex := match qy.join with
    | some j => setupJoin qy.table j (loadJoinFile j joined)
    | none => .ok []
  match idxO with
  | .ok idx =>
    let isAgg := match qy.stmt with
      | .aggregate _ => true
      | _ => false
    let ls := runFilesWith sh O qy idx (!isAgg) stopAt files {}
    if hasFailed ls.out then ls.out
    else match qy.stmt with
      | .aggregate q =>
        match finalResult O q { ls.es with agg := sh ls.consumed ls.es.agg } with
        | .ok r => { ls.out with printed := ls.out.printed ++ printResult r true }
        | o => failWith ls.out o
      | _ => ls.out
  | o => failWith {} o

structure LRel (a b : LoopState) : Prop where
  es : ERel a.es b.es
  out : a.out = b.out
  consumed : a.consumed = b.consumed
  stop : a.stop = b.stop

theorem runFileWith_rel (sh : Nat → AggState → AggState) (hs : ∀ n, IsShuffle (sh n)) (O : Oracles) (qy : Query)
    (idx : JoinIndex) (w : Bool) (stopAt : Option Nat) (f : List FileLine) {a b : LoopState} (h : LRel a b) :
    LRel (runFileWith sh O qy idx w stopAt f a) (runFile O qy idx w stopAt f b) := by
  induction f generalizing a b with
  | nil => exact h
  | cons fl rest ih =>
    unfold runFileWith runFile
    rw [h.consumed]
    by_cases hstop : (stopAt == some b.consumed) = true
    · simp only [hstop, if_true]; exact h
    · simp only [hstop, if_false]
      by_cases hr : fl.readable = true
      · simp only [hr, Bool.not_true, Bool.false_eq_true, if_false]
        have he : ERel { a.es with agg := sh b.consumed a.es.agg } b.es :=
          ⟨h.es.seen, hs _ _ _ h.es.agg, h.es.numOut⟩
        have hx := executeLine_rel O qy idx w he fl.line
        cases hx1 : executeLine O qy idx w { a.es with agg := sh b.consumed a.es.agg } fl.line <;>
          cases hx2 : executeLine O qy idx w b.es fl.line <;> rw [hx1, hx2] at hx <;> simp only [ORel] at hx
        · rename_i p1 p2
          obtain ⟨es1, lo1⟩ := p1
          obtain ⟨es2, lo2⟩ := p2
          have hlo : lo1 = lo2 := hx.2
          subst hlo
          simp only [h.out]
          by_cases hl : lo1.reachedLimit = true
          · simp only [hl, if_true]
            exact ⟨hx.1, rfl, rfl, rfl⟩
          · simp only [hl, if_false]
            exact ih ⟨hx.1, rfl, rfl, h.stop⟩
        · subst hx; simp only [h.out]; exact ⟨h.es, rfl, rfl, rfl⟩
        · subst hx; simp only [h.out]; exact ⟨h.es, rfl, rfl, rfl⟩
        · subst hx; simp only [h.out]; exact ⟨h.es, rfl, rfl, rfl⟩
      · have : fl.readable = false := by simpa using hr
        simp [this, h.out]
        exact ⟨h.es, rfl, rfl, rfl⟩

theorem runFilesWith_rel (sh : Nat → AggState → AggState) (hs : ∀ n, IsShuffle (sh n)) (O : Oracles) (qy : Query)
    (idx : JoinIndex) (w : Bool) (stopAt : Option Nat) (fs : List (List FileLine)) {a b : LoopState} (h : LRel a b) :
    LRel (runFilesWith sh O qy idx w stopAt fs a) (runFiles O qy idx w stopAt fs b) := by
  induction fs generalizing a b with
  | nil => exact h
  | cons f rest ih =>
    unfold runFilesWith runFiles
    rw [h.stop, reachedLimit_rel qy h.es]
    by_cases hc : (b.stop || reachedLimit qy b.es) = true
    · simp only [hc, if_true]; exact h
    · simp only [hc, if_false]
      have h1 := runFileWith_rel sh hs O qy idx w stopAt f h
      simp only [h1.stop]
      by_cases hs2 : (runFile O qy idx w stopAt f b).stop = true
      · simp only [hs2, if_true]; exact h1
      · simp only [hs2, if_false]; exact ih h1

theorem LRel.init : LRel {} {} := ⟨⟨rfl, StRel.init, rfl⟩, rfl, rfl, rfl⟩

/-- **C18, hash-seed independence.** Whatever order the entries of the inner hash maps are listed in — chosen
afresh by an adversary before every input line and before the final result — a batch run prints the same
records, counts the same lines and ends with the same status as the model's reference run. -/
theorem output_independent_of_iteration_order (sh : Nat → AggState → AggState) (hs : ∀ n, IsShuffle (sh n))
    (O : Oracles) (qy : Query) (joined : List FileLine) (files : List (List FileLine)) (stopAt : Option Nat) :
    runBatchWith sh O qy joined files stopAt = runBatch O qy joined files stopAt := by
  rw [runBatch_eq_runWithIndex]
  show (match joinOutcome qy joined with
    | .ok idx => _
    | o => failWith {} o) = _
  cases joinOutcome qy joined with
  | ok idx =>
    simp only [runWithIndex]
    generalize (!match qy.stmt with | .aggregate _ => true | _ => false) = w
    have h := runFilesWith_rel sh hs O qy idx w stopAt files LRel.init
    rw [h.out]
    split
    · rfl
    · cases qy.stmt with
      | select q => rfl
      | aggregate q =>
        simp only []
        rw [finalResult_rel O q (e2 := (runFiles O qy idx w stopAt files {}).es) (hs _ _ _ h.es.agg)]
        rfl
  | _ => rfl

/-- two runs under any two iteration-order adversaries agree -/
theorem any_two_iteration_orders_agree (sh1 sh2 : Nat → AggState → AggState) (h1 : ∀ n, IsShuffle (sh1 n))
    (h2 : ∀ n, IsShuffle (sh2 n)) (O : Oracles) (qy : Query) (joined : List FileLine) (files : List (List FileLine))
    (stopAt : Option Nat) :
    runBatchWith sh1 O qy joined files stopAt = runBatchWith sh2 O qy joined files stopAt := by
  rw [output_independent_of_iteration_order sh1 h1, output_independent_of_iteration_order sh2 h2]

/-- the loop that iterates a hash map: publishing the percentile values over any permutation of a group's
aggregator entries yields the same maps -/
theorem publish_order_irrelevant (key : List Value) (l1 l2 : List (Nat × Aggregator)) (p : l1.Perm l2)
    (hn : (l1.map (·.1)).Nodup) (a b : AggState) (h : StRel a b) :
    StRel (l1.foldl (pubStep key) a) (l2.foldl (pubStep key) b) :=
  foldl_pubStep_perm key p hn h

/-- a result computed from two listings of the same state is the same table -/
theorem result_independent_of_listing (O : Oracles) (q : AggStmt) (a b : EngineState) (h : StRel a.agg b.agg) :
    finalResult O q a = finalResult O q b := finalResult_rel O q h

/-! Non-vacuity: reversing every inner map is a shuffle, and it does change the listing. -/

def reverseInner {α : Type} (m : GroupMap α) : GroupMap α := m.map (fun g => (g.1, g.2.reverse))
def reverseAll (st : AggState) : AggState := { aggs := reverseInner st.aggs, vals := reverseInner st.vals }

theorem reverseInner_rel {α : Type} {m1 m2 : GroupMap α} (h : GmEq m1 m2) : GmEq (reverseInner m1) m2 := by
  induction h with
  | nil => exact .nil
  | @cons k s1 s2 r1 r2 hs _ ih =>
    refine .cons ?_ ih
    have hp : s1.reverse.Perm s1 := List.reverse_perm s1
    have hn := (List.Perm.map (·.1) hp.symm).nodup hs.2.1
    exact (SubRel.of_perm hp hn).trans hs

theorem reverseAll_isShuffle : IsShuffle reverseAll :=
  fun _ _ h => ⟨reverseInner_rel h.aggs, reverseInner_rel h.vals⟩

example : reverseAll { aggs := [([.int 1], [(0, .sum (.int 3)), (1, .percentile [.int 2] 0)])], vals := [] } ≠
    { aggs := [([.int 1], [(0, .sum (.int 3)), (1, .percentile [.int 2] 0)])], vals := [] } := by
  simp [reverseAll, reverseInner]

example : ∀ n : Nat, IsShuffle ((fun _ => reverseAll) n) := fun _ => reverseAll_isShuffle

/-! `*` expands to the columns in definition order (queried table, then the joined table) -/

/-- without a join, the key list a line presents to `SELECT *` is the table's column list in definition order -/
theorem wildcard_keys_definition_order (qy : Query) (idx : JoinIndex) (b : Bool) (l : Line) (hj : qy.join = none) :
    (lineEnvs qy idx b l) = .ok [(envOfInsertions (columnsMapping qy.table l.row l.text), qy.table.columns)] := by
  unfold lineEnvs
  rw [hj]

/-- `SELECT *` names its output columns by that key list, in that order -/
theorem wildcard_names (O : Oracles) (q : SelectStmt) (seen : List (List Value)) (env : Env) (keys : List String)
    (hw : q.wildcard = true) (seen' : List (List Value)) (out : RowOut)
    (h : selectOne O q seen env keys = .ok (seen', some out)) : out.columns = keys := by
  unfold selectOne at h
  simp only [hw, if_true] at h
  obtain ⟨valid, _, h⟩ := bind_eq_ok h
  cases valid with
  | false => simp [pure] at h
  | true =>
    simp only [Bool.not_true, Bool.false_eq_true, if_false] at h
    obtain ⟨vals, _, h⟩ := bind_eq_ok h
    by_cases hd : q.distinct = true
    · simp only [hd, if_true] at h
      by_cases hfresh : (distinctAdd seen vals).2 = true
      · simp only [hfresh, if_true, pure, Outcome.ok.injEq, Prod.mk.injEq, Option.some.injEq] at h
        rw [← h.2]
      · simp [hfresh, pure] at h
    · simp [hd, pure] at h
      rw [← h.2]

/-! ### "irrespective of which other tables are defined" -/

open Sqlgrep.Pipeline in
/-- looking a table up depends only on the definitions that carry that name -/
theorem lookup_depends_on_same_named_tables (ts : List Table) (name : String) :
    getTable ts name = getTable (ts.filter (fun t => t.name == name)) name := by
  unfold getTable
  rw [← List.filter_reverse]
  generalize ts.reverse = l
  induction l with
  | nil => rfl
  | cons t l ih =>
    by_cases h : (t.name == name) = true
    · simp [List.filter, List.find?, h]
    · have h' : (t.name == name) = false := by simpa using h
      simp only [List.filter, List.find?, h']
      exact ih

open Sqlgrep.Pipeline in
/-- defining further tables under other names — before, between or after the ones a statement uses — changes nothing:
the run of a statement over table lists that agree on the definitions named like the queried table and like the
joined table is the same run -/
theorem other_tables_irrelevant (F : Facts) (ts1 ts2 : List Table) (stmt : Stmt) (fromTable : String) (join : Option LJoin)
    (files : List (List Nat))
    (hfrom : ts1.filter (fun t => t.name == fromTable) = ts2.filter (fun t => t.name == fromTable))
    (hjoin : ∀ j, join = some j → ts1.filter (fun t => t.name == j.joinedTable) = ts2.filter (fun t => t.name == j.joinedTable)) :
    runStatement F ts1 stmt fromTable join files = runStatement F ts2 stmt fromTable join files := by
  have e1 : getTable ts1 fromTable = getTable ts2 fromTable := by
    rw [lookup_depends_on_same_named_tables ts1, lookup_depends_on_same_named_tables ts2, hfrom]
  unfold runStatement
  rw [e1]
  cases join with
  | none => cases getTable ts2 fromTable <;> rfl
  | some j =>
    have e2 : getTable ts1 j.joinedTable = getTable ts2 j.joinedTable := by
      rw [lookup_depends_on_same_named_tables ts1, lookup_depends_on_same_named_tables ts2, hjoin j rfl]
    cases getTable ts2 fromTable with
    | none => rfl
    | some t => simp only [e2]

open Sqlgrep.Pipeline in
/-- in particular: appending or prepending any tables with other names -/
theorem extra_tables_irrelevant (F : Facts) (ts pre post : List Table) (stmt : Stmt) (fromTable : String) (join : Option LJoin)
    (files : List (List Nat))
    (hpre : ∀ t ∈ pre ++ post, t.name ≠ fromTable ∧ ∀ j, join = some j → t.name ≠ j.joinedTable) :
    runStatement F (pre ++ ts ++ post) stmt fromTable join files = runStatement F ts stmt fromTable join files := by
  have drop : ∀ (n : String), (∀ t ∈ pre ++ post, t.name ≠ n) →
      (pre ++ ts ++ post).filter (fun t => t.name == n) = ts.filter (fun t => t.name == n) := by
    intro n hn
    have hp : pre.filter (fun t => t.name == n) = [] := by
      rw [List.filter_eq_nil_iff]; intro t ht; simpa using hn t (List.mem_append_left _ ht)
    have hq : post.filter (fun t => t.name == n) = [] := by
      rw [List.filter_eq_nil_iff]; intro t ht; simpa using hn t (List.mem_append_right _ ht)
    simp [List.filter_append, hp, hq]
  apply other_tables_irrelevant
  · exact drop fromTable (fun t ht => (hpre t ht).1)
  · intro j hj
    exact drop j.joinedTable (fun t ht => (hpre t ht).2 j hj)

end Sqlgrep.Props.C18
