import SqlgrepModel.Lemmas.AggRefine
import SqlgrepModel.Lemmas.DistinctAgg
/-
Follow mode at engine level (`ExecutionConfig::default()`: update, then result, per line) next to batch mode
(update-only per line, one result at the end): `followStep` / `followRun`, the coupling `CoupledP` along a follow run, and
`executeLine` of a statement without join, in either configuration, as a step on the aggregation state.
-/
set_option linter.unusedSimpArgs false
namespace Sqlgrep
open Value Spec.Agg

/-- `AggregateExecutionEngine::execute` for one row: update; if WHERE admitted the row, a full result -/
def followStep (O : Oracles) (q : AggStmt) (st : AggState) (env : Env) : Outcome (AggState × Option RowOut) :=
  (aggUpdateRow O q st env).bind (fun p =>
    if p.2 then (aggResult O q p.1).bind (fun r => .ok (r.1, some r.2)) else .ok (p.1, none))

/-- the state after feeding rows one at a time with update + result -/
def followRun (O : Oracles) (q : AggStmt) : List Env → AggState → Outcome AggState
  | [], st => .ok st
  | env :: rest, st => (followStep O q st env).bind (fun p => followRun O q rest p.1)

theorem followRun_eq_foldlM (O : Oracles) (q : AggStmt) (envs : List Env) (st : AggState) :
    followRun O q envs st = envs.foldlM (fun st env => (followStep O q st env).bind fun p => .ok p.1) st :=
  Outcome.eq_foldlM (fun _ => rfl)
    (fun env rest st => (Outcome.bind_assoc (followStep O q st env) (fun p => .ok p.1) (followRun O q rest)).symm) envs st

/-- the only state change of `execute_result` is `publishPercentiles` -/
theorem aggResult_state {O : Oracles} {q : AggStmt} {st st2 : AggState} {out : RowOut} (h : aggResult O q st = .ok (st2, out)) :
    st2 = publishPercentiles st := by
  rw [aggResult_eq] at h
  obtain ⟨_, _, h⟩ := obind_ok h
  obtain ⟨_, _, h⟩ := obind_ok h
  simp only [Outcome.ok.injEq, Prod.mk.injEq] at h
  exact h.1.symm

theorem coupledP_followStep {O : Oracles} {q : AggStmt} {st st' : AggState} {rows : List (List Value × Env)} {env : Env}
    {r : Option RowOut} (hc : CoupledP O q st rows) (h : followStep O q st env = .ok (st', r)) :
    ∃ u, passes O q env = some u ∧ (u = false → CoupledP O q st' rows) ∧
      (u = true → ∃ key, keyOf O q env = some key ∧ CoupledP O q st' (rows ++ [(key, env)])) := by
  unfold followStep at h
  obtain ⟨⟨st1, u⟩, h1, h2⟩ := obind_ok h
  obtain ⟨hpass, hfalse, htrue⟩ := coupledP_step hc h1
  refine ⟨u, hpass, ?_⟩
  cases u with
  | false =>
    cases h2
    exact ⟨hfalse, nofun⟩
  | true =>
    obtain ⟨⟨st2, out⟩, h3, h4⟩ := obind_ok h2
    cases h4
    rw [aggResult_state h3]
    exact ⟨nofun, fun hu => (htrue hu).imp fun _ hk => ⟨hk.1, coupledP_publish hk.2⟩⟩

theorem followRun_coupledP {O : Oracles} {q : AggStmt} (envs : List Env) {st st' : AggState} {rows : List (List Value × Env)}
    (hc : CoupledP O q st rows) (h : followRun O q envs st = .ok st') :
    ∃ more, keyedRows O q envs = some more ∧ CoupledP O q st' (rows ++ more) := by
  rw [followRun_eq_foldlM] at h
  refine keyedRows_of_foldlM (CoupledP O q) (fun hc h => ?_) envs hc h
  obtain ⟨p, h1, h2⟩ := obind_ok h
  cases h2
  exact coupledP_followStep hc h1

/-- the environment a line of a run without join presents to the statement -/
def lineEnv (t : TableInfo) (l : Line) : Env := envOfInsertions (columnsMapping t l.row l.text)

theorem lineEnvs_nojoin (qy : Query) (idx : JoinIndex) (b : Bool) (l : Line) (hj : qy.join = none) :
    lineEnvs qy idx b l = .ok [(lineEnv qy.table l, qy.table.columns)] := by
  simp only [lineEnvs, hj, lineEnv]

theorem aggEnvs_single (O : Oracles) (q : AggStmt) (env : Env) (ks : List String) (st : AggState) (any : Bool) :
    aggEnvs O q [(env, ks)] st any = (aggUpdateRow O q st env).bind (fun p => .ok (p.1, any || p.2)) := rfl

/-- `ExecutionEngine::execute(line, default config)` for an aggregate statement without join is `followStep` on the
aggregation state (plus the LIMIT bookkeeping of `update_limit`) -/
theorem executeLine_follow_agg (O : Oracles) (qy : Query) (q : AggStmt) (idx : JoinIndex) (es : EngineState) (l : Line)
    (hq : qy.stmt = .aggregate q) (hj : qy.join = none) (hadm : anyResult l.row = true) :
    executeLine O qy idx true es l =
      (followStep O q es.agg (lineEnv qy.table l)).bind (fun p =>
        .ok (updateLimit false q.limit { es with agg := p.1 } p.2)) := by
  rw [executeLine_follow_join O qy q idx es l hq hadm, lineEnvs_nojoin qy idx false l hj]
  simp only [Outcome.ok_bind, aggEnvs_single, followStep, Outcome.bind_assoc, Bool.false_or]
  congr 1; funext p
  cases p.2 <;> simp only [Bool.false_eq_true, if_false, if_true, Outcome.bind_assoc, Outcome.ok_bind]

/-- `execute(line, update-only config)` (batch mode) is one `execute_update` -/
theorem executeLine_batch_agg (O : Oracles) (qy : Query) (q : AggStmt) (idx : JoinIndex) (es : EngineState) (l : Line)
    (hq : qy.stmt = .aggregate q) (hj : qy.join = none) (hadm : anyResult l.row = true) :
    executeLine O qy idx false es l =
      (aggUpdateRow O q es.agg (lineEnv qy.table l)).bind (fun p =>
        .ok ({ es with agg := p.1 }, { result := none, reachedLimit := false })) := by
  rw [executeLine_batch_join O qy q idx es l hq hadm, lineEnvs_nojoin qy idx false l hj]
  simp only [Outcome.ok_bind, aggEnvs_single, Outcome.bind_assoc]

end Sqlgrep
