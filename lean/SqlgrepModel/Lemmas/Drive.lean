import SqlgrepModel.Lemmas.Loop
/-
The four loops of the executors — `runFile`, `runFileT`, `runFollow`, `runFollowT` — are ONE loop, `drive m x sa`: a fold that
stops, over physical lines, of the step `m.step x`. `x` is the engine as a state machine over lines (`Machine`); `m` (`Mode`) says
what the loop does with an answer: which `single_result` it prints with, and whether it looks at the limit flag of an answer that
carries no result. The loop is traced; the untraced loops are its `ls` component. What holds of every such loop — invariants,
an interrupt, two loops in lock step, what is printed — is proved about `drive`, and read off for the four. The loops over the
files, `runFiles` and `runFilesT`, are the loop over all their lines (`filesLoop_eq_flatten`).
-/
namespace Sqlgrep

/-- the engine as the loops see it: `executeLine O qy idx w` -/
abbrev Machine := EngineState → Line → Outcome (EngineState × LineOut)

/-- what the batch loop and the follow loop do differently with an answer of the engine -/
structure Mode where
  /-- `single_result` of the print, which is `final` of the recorded call -/
  single : Bool
  /-- the limit flag is looked at only inside `if let Some(result_row)` (`FollowFileExecutor::execute`) -/
  lazy : Bool

def Mode.batch : Mode := ⟨false, false⟩
def Mode.follow (qy : Query) : Mode := ⟨isUpdated qy, true⟩

namespace Mode
variable (m : Mode)

def calls (lo : LineOut) : List PrintCall :=
  match lo.result with
  | some r => [{ result := r, final := m.single }]
  | none => []

def text (lo : LineOut) : List String :=
  match lo.result with
  | some r => printResult r m.single
  | none => []

/-- the answer ends the loop -/
def cut (lo : LineOut) : Bool := lo.reachedLimit && (!m.lazy || lo.result.isSome)

/-- the loop's state after the engine's answer to a line that was looked at: counted; an answer is printed and recorded,
a failure is reported and ends the loop -/
def after (s : TraceState) : Outcome (EngineState × LineOut) → TraceState
  | .ok (es, lo) =>
    { ls := { es := es, consumed := s.ls.consumed + 1, stop := m.cut lo,
              out := { s.ls.out with totalLines := s.ls.out.totalLines + 1, printed := s.ls.out.printed ++ m.text lo } },
      calls := s.calls ++ m.calls lo }
  | o => { s with ls := lineFailed s.ls o }

/-- one physical line: an unreadable line ends the loop, a readable one goes through the engine -/
def step (x : Machine) (s : TraceState) (fl : FileLine) : TraceState :=
  if fl.readable then m.after s (x s.ls.es fl.line) else { s with ls := readFailed s.ls }

theorem renderCalls_calls (lo : LineOut) : renderCalls (m.calls lo) = m.text lo := by
  unfold calls text
  cases lo.result <;> simp [renderCalls, PrintCall.text]

theorem after_fail (s : TraceState) {o : Outcome (EngineState × LineOut)} (h : ∀ p, o ≠ .ok p) :
    m.after s o = { s with ls := lineFailed s.ls o } := by
  cases o with
  | ok p => exact absurd rfl (h p)
  | _ => rfl

/-- two modes that print alike and agree on whether an answer ends the loop treat it alike -/
theorem after_congr (m' : Mode) (s : TraceState) (es : EngineState) (lo : LineOut) (hsingle : m.single = m'.single)
    (hcut : m.cut lo = m'.cut lo) : m.after s (.ok (es, lo)) = m'.after s (.ok (es, lo)) := by
  simp only [after, text, calls, hsingle, hcut]

/-- the three ways a line can go -/
theorem step_cases (x : Machine) (s : TraceState) (fl : FileLine) :
    (fl.readable = false ∧ m.step x s fl = { s with ls := readFailed s.ls }) ∨
    (∃ es lo, fl.readable = true ∧ x s.ls.es fl.line = .ok (es, lo) ∧ m.step x s fl = m.after s (.ok (es, lo))) ∨
    (fl.readable = true ∧ (∀ p, x s.ls.es fl.line ≠ .ok p) ∧
      m.step x s fl = { s with ls := lineFailed s.ls (x s.ls.es fl.line) }) := by
  unfold step
  cases hr : fl.readable with
  | false => exact .inl ⟨rfl, rfl⟩
  | true =>
    rcases Outcome.ok_or_not (x s.ls.es fl.line) with ⟨⟨es, lo⟩, hx⟩ | hx
    · exact .inr (.inl ⟨es, lo, rfl, hx, by rw [if_pos rfl, hx]⟩)
    · exact .inr (.inr ⟨rfl, hx, by rw [if_pos rfl, after_fail m s hx]⟩)

end Mode

/-- the loop: the lines in order, until the state says stop or the `running` flag is found cleared -/
def drive (m : Mode) (x : Machine) (sa : Option Nat) (fls : List FileLine) (s : TraceState) : TraceState :=
  fls.foldl (untilStop (fun s => fileHalt sa s.ls) (m.step x)) s

/-- a file whose lines are all readable -/
def readableFile (lines : List Line) : List FileLine := lines.map (fun l => { readable := true, line := l })

theorem readableFile_append (a b : List Line) : readableFile (a ++ b) = readableFile a ++ readableFile b := List.map_append

theorem readableFile_take (k : Nat) (lines : List Line) : readableFile (lines.take k) = (readableFile lines).take k :=
  List.map_take

theorem readableFile_of_readable {fls : List FileLine} (h : ∀ fl ∈ fls, fl.readable = true) :
    readableFile (fls.map (·.line)) = fls := by
  induction fls with
  | nil => rfl
  | cons fl rest ih =>
    obtain ⟨r, l⟩ := fl
    obtain rfl : r = true := h ⟨r, l⟩ List.mem_cons_self
    exact congrArg (_ :: ·) (ih fun fl hfl => h fl (List.mem_cons_of_mem _ hfl))

section
variable (m : Mode) (x : Machine)

theorem drive_stopped (sa : Option Nat) (fls : List FileLine) {s : TraceState} (h : fileHalt sa s.ls = true) :
    drive m x sa fls s = s :=
  foldl_untilStop_stopped (stop := fun s : TraceState => fileHalt sa s.ls) _ h _

theorem drive_of_stop (sa : Option Nat) (fls : List FileLine) {s : TraceState} (h : s.ls.stop = true) :
    drive m x sa fls s = s :=
  drive_stopped m x sa fls (by rw [fileHalt, h]; rfl)

theorem drive_cons (sa : Option Nat) (fl : FileLine) (fls : List FileLine) {s : TraceState} (h : fileHalt sa s.ls = false) :
    drive m x sa (fl :: fls) s = drive m x sa fls (m.step x s fl) :=
  foldl_untilStop_cons (stop := fun s : TraceState => fileHalt sa s.ls) _ h _ _

theorem drive_append (sa : Option Nat) (a b : List FileLine) (s : TraceState) :
    drive m x sa (a ++ b) s = drive m x sa b (drive m x sa a s) := List.foldl_append

theorem drive_inv (P : TraceState → Prop) (sa : Option Nat) (h : ∀ s fl, fileHalt sa s.ls = false → P s → P (m.step x s fl))
    (fls : List FileLine) {s : TraceState} (h0 : P s) : P (drive m x sa fls s) :=
  foldl_untilStop_inv P h fls h0

theorem drive_congr {m' : Mode} {x' : Machine} (P : TraceState → Prop) (sa : Option Nat)
    (h : ∀ s fl, fileHalt sa s.ls = false → P s → m.step x s fl = m'.step x' s fl ∧
      (fileHalt sa (m.step x s fl).ls = false → P (m.step x s fl)))
    (fls : List FileLine) {s : TraceState} (h0 : fileHalt sa s.ls = false → P s) :
    drive m x sa fls s = drive m' x' sa fls s :=
  foldl_untilStop_congr P h fls h0

theorem drive_ls (sa : Option Nat) (fls : List FileLine) (s : TraceState) (cs : List PrintCall) :
    (drive m x sa fls { s with calls := cs }).ls = (drive m x sa fls s).ls := by
  induction fls generalizing s cs with
  | nil => rfl
  | cons fl rest ih =>
    cases hh : fileHalt sa s.ls with
    | true => rw [drive_stopped _ _ _ _ hh, drive_stopped _ _ _ _ (by exact hh)]
    | false =>
      rw [drive_cons _ _ _ _ _ hh, drive_cons _ _ _ _ _ (by exact hh)]
      have e : m.step x { s with calls := cs } fl =
          { m.step x s fl with calls := (m.step x { s with calls := cs } fl).calls } := by
        unfold Mode.step
        split
        · cases x s.ls.es fl.line <;> rfl
        · rfl
      rw [e, ih]

theorem step_consumed (s : TraceState) (fl : FileLine) (h : (m.step x s fl).ls.stop = false) :
    (m.step x s fl).ls.consumed = s.ls.consumed + 1 := by
  rcases m.step_cases x s fl with ⟨_, e⟩ | ⟨es, lo, _, _, e⟩ | ⟨_, _, e⟩ <;> rw [e] at h ⊢
  · cases h
  · rfl
  · cases h

theorem step_consumed_le (s : TraceState) (fl : FileLine) : (m.step x s fl).ls.consumed ≤ s.ls.consumed + 1 := by
  rcases m.step_cases x s fl with ⟨_, e⟩ | ⟨es, lo, _, _, e⟩ | ⟨_, _, e⟩ <;> rw [e]
  · exact Nat.le_succ _
  · exact Nat.le_refl _
  · exact Nat.le_refl _

/-- an interrupt: the loop that finds the `running` flag cleared after `k` lines is the loop over the first `k` lines -/
theorem drive_take (k : Nat) (fls : List FileLine) (s : TraceState) (hs : s.ls.stop = false) (h : s.ls.consumed ≤ k) :
    drive m x (some k) fls s = drive m x none (fls.take (k - s.ls.consumed)) s :=
  foldl_untilStop_take (stop := fun s : TraceState => s.ls.stop) (consumed := fun s => s.ls.consumed)
    (step_consumed m x) k fls s hs h

theorem drive_consumed_le (k : Nat) (fls : List FileLine) {s : TraceState} (h : s.ls.consumed ≤ k) :
    (drive m x (some k) fls s).ls.consumed ≤ k := by
  refine drive_inv m x (fun s => s.ls.consumed ≤ k) (some k) (fun s fl hh h => ?_) fls h
  have hk : k ≠ s.ls.consumed := by
    intro e
    rw [fileHalt, Bool.or_eq_false_iff] at hh
    simp [e] at hh
  exact Nat.le_trans (step_consumed_le m x s fl) (Nat.lt_of_le_of_ne h (Ne.symm hk))

theorem drive_totalLines_le (sa : Option Nat) (fls : List FileLine) (s : TraceState) :
    (drive m x sa fls s).ls.out.totalLines ≤ s.ls.out.totalLines + fls.length := by
  refine foldl_untilStop_count (f := fun r : TraceState => r.ls.out.totalLines) (fun r fl => ?_) fls s
  rcases m.step_cases x r fl with ⟨_, e⟩ | ⟨es, lo, _, _, e⟩ | ⟨_, _, e⟩ <;> rw [e] <;>
    simp [Mode.after, readFailed, lineFailed, followCounted]

theorem step_printed_mono (s : TraceState) (fl : FileLine) : s.ls.out.printed <+: (m.step x s fl).ls.out.printed := by
  rcases m.step_cases x s fl with ⟨_, e⟩ | ⟨es, lo, _, _, e⟩ | ⟨_, _, e⟩ <;> rw [e] <;>
    simp [Mode.after, readFailed, lineFailed, followCounted]

theorem drive_printed_mono (sa : Option Nat) (fls : List FileLine) (s : TraceState) :
    s.ls.out.printed <+: (drive m x sa fls s).ls.out.printed :=
  drive_inv m x (fun r => s.ls.out.printed <+: r.ls.out.printed) sa
    (fun r fl _ h => h.trans (step_printed_mono m x r fl)) fls (List.prefix_refl _)

theorem step_calls_extends (s : TraceState) (fl : FileLine) : s.calls <+: (m.step x s fl).calls := by
  rcases m.step_cases x s fl with ⟨_, e⟩ | ⟨es, lo, _, _, e⟩ | ⟨_, _, e⟩ <;> rw [e] <;> simp [Mode.after]

theorem drive_calls_extends (sa : Option Nat) (fls : List FileLine) (s : TraceState) :
    s.calls <+: (drive m x sa fls s).calls :=
  drive_inv m x (fun r => s.calls <+: r.calls) sa (fun r fl _ h => h.trans (step_calls_extends m x r fl)) fls
    (List.prefix_refl _)

theorem renderCalls_append (a b : List PrintCall) : renderCalls (a ++ b) = renderCalls a ++ renderCalls b := by
  simp [renderCalls]

theorem drive_printed (sa : Option Nat) (fls : List FileLine) (s : TraceState)
    (h : s.ls.out.printed = renderCalls s.calls) :
    (drive m x sa fls s).ls.out.printed = renderCalls (drive m x sa fls s).calls := by
  refine drive_inv m x (fun s => s.ls.out.printed = renderCalls s.calls) sa (fun s fl _ h => ?_) fls h
  rcases m.step_cases x s fl with ⟨_, e⟩ | ⟨es, lo, _, _, e⟩ | ⟨_, _, e⟩ <;> rw [e]
  · exact h
  · simp only [Mode.after, renderCalls_append, Mode.renderCalls_calls, h]
  · simpa [lineFailed, followCounted] using h

/-- a machine whose answers carry no result leaves nothing to print and nothing to record -/
theorem drive_quiet (hnone : ∀ es l es' lo, x es l = .ok (es', lo) → lo.result = none) (sa : Option Nat) (fls : List FileLine)
    (s : TraceState) :
    (drive m x sa fls s).ls.out.printed = s.ls.out.printed ∧ (drive m x sa fls s).calls = s.calls := by
  refine drive_inv m x (fun r => r.ls.out.printed = s.ls.out.printed ∧ r.calls = s.calls) sa (fun r fl _ h => ?_) fls ⟨rfl, rfl⟩
  rcases m.step_cases x r fl with ⟨_, e⟩ | ⟨es, lo, _, hx, e⟩ | ⟨_, _, e⟩ <;> rw [e]
  · exact h
  · simpa [Mode.after, Mode.text, Mode.calls, hnone _ _ _ _ hx] using h
  · simpa [lineFailed, followCounted] using h

def Sound (ls : LoopState) : Prop :=
  ls.out.totalLines = ls.consumed ∧ (hasFailed ls.out = true → ls.stop = true)

theorem sound_init : Sound {} := ⟨rfl, fun h => by simp [hasFailed] at h⟩

theorem drive_sound (sa : Option Nat) (fls : List FileLine) {s : TraceState} (h : Sound s.ls) :
    Sound (drive m x sa fls s).ls := by
  refine drive_inv m x (fun s => Sound s.ls) sa (fun s fl hh h => ?_) fls h
  have hs := fileHalt_false hh
  rcases m.step_cases x s fl with ⟨_, e⟩ | ⟨es, lo, _, _, e⟩ | ⟨_, _, e⟩ <;> rw [e]
  · exact ⟨h.1, fun _ => rfl⟩
  · exact ⟨by simp [Mode.after, h.1], fun hf => by rw [h.2 hf] at hs; cases hs⟩
  · exact ⟨by simp [lineFailed, followCounted, h.1], fun _ => rfl⟩

/-! the interrupted loop `I` against the uninterrupted loop `U` over the same lines: identical, or `I` is frozen at the
clearing point — `k` lines consumed, not stopped, what it printed a prefix of what `U` prints -/

def Rel (k : Nat) (I U : LoopState) : Prop :=
  I = U ∨ (I.consumed = k ∧ I.stop = false ∧ I.out.printed <+: U.out.printed)

theorem drive_rel (k : Nat) (fls : List FileLine) (s : TraceState) (hc : s.ls.consumed ≤ k) (hst : s.ls.stop = false) :
    Rel k (drive m x (some k) fls s).ls (drive m x none fls s).ls := by
  induction fls generalizing s with
  | nil => exact .inl rfl
  | cons fl rest ih =>
    by_cases hk : k = s.ls.consumed
    · rw [drive_stopped m x (some k) _ (by simp [fileHalt, hk])]
      exact .inr ⟨hk.symm, hst, drive_printed_mono m x none (fl :: rest) s⟩
    · rw [drive_cons _ _ _ _ _ (by simp [fileHalt, hst, hk]), drive_cons _ _ _ _ _ (by simp [fileHalt, hst])]
      cases hs : (m.step x s fl).ls.stop with
      | true => rw [drive_of_stop _ _ _ _ hs, drive_of_stop _ _ _ _ hs]; exact .inl rfl
      | false => exact ih _ (by rw [step_consumed m x s fl hs]; exact Nat.lt_of_le_of_ne hc (Ne.symm hk)) hs

end

section
variable (O : Oracles) (qy : Query)

theorem runFileT_eq_drive (idx : JoinIndex) (w : Bool) (fls : List FileLine) (s : TraceState) (h : s.ls.stop = false) :
    runFileT O qy idx w fls s = drive .batch (executeLine O qy idx w) none fls s := by
  induction fls generalizing s with
  | nil => rfl
  | cons fl rest ih =>
    obtain ⟨⟨es0, out0, c0, st0⟩, calls0⟩ := s
    subst h
    rw [runFileT, drive_cons _ _ _ _ _ rfl, Mode.step]
    cases hr : fl.readable with
    | false => exact (drive_of_stop _ _ _ _ rfl).symm
    | true =>
      simp only [Bool.not_true, Bool.false_eq_true, if_false, if_true]
      cases hx : executeLine O qy idx w es0 fl.line with
      | ok p =>
        obtain ⟨es, res, lim⟩ := p
        cases lim with
        | true => cases res <;> exact (drive_of_stop _ _ _ _ rfl).symm
        | false => cases res <;> exact ih _ rfl
      | _ => exact (drive_of_stop _ _ _ _ rfl).symm

theorem runFile_eq_drive (idx : JoinIndex) (w : Bool) (sa : Option Nat) (fls : List FileLine) (ls : LoopState)
    (h : ls.stop = false) :
    runFile O qy idx w sa fls ls = (drive .batch (executeLine O qy idx w) sa fls ⟨ls, []⟩).ls := by
  induction fls generalizing ls with
  | nil => rfl
  | cons fl rest ih =>
    obtain ⟨es0, out0, c0, st0⟩ := ls
    subst h
    rw [runFile]
    by_cases hs : (sa == some c0) = true
    · rw [if_pos hs, drive_stopped _ _ _ _ (by simp [fileHalt, hs])]
    · rw [if_neg hs, drive_cons _ _ _ _ _ (by simp [fileHalt, hs]), Mode.step]
      cases hr : fl.readable with
      | false => rw [drive_of_stop _ _ _ _ rfl]; rfl
      | true =>
        simp only [Bool.not_true, Bool.false_eq_true, if_false, if_true]
        cases hx : executeLine O qy idx w es0 fl.line with
        | ok p =>
          obtain ⟨es, res, lim⟩ := p
          cases lim with
          | true => cases res <;> (rw [drive_of_stop _ _ _ _ rfl]; rfl)
          | false => cases res <;> exact (ih _ rfl).trans (drive_ls _ _ _ _ ⟨_, []⟩ _).symm
        | _ => rw [drive_of_stop _ _ _ _ rfl]; rfl

theorem runFollowT_eq_drive (sa : Option Nat) (lines : List Line) (s : TraceState) (h : s.ls.stop = false) :
    runFollowT O qy sa lines s = drive (.follow qy) (executeLine O qy [] true) sa (readableFile lines) s := by
  induction lines generalizing s with
  | nil => rfl
  | cons l rest ih =>
    obtain ⟨⟨es0, out0, c0, st0⟩, calls0⟩ := s
    subst h
    rw [runFollowT]
    by_cases hs : (sa == some c0) = true
    · rw [if_pos hs, drive_stopped _ _ _ _ (by simp [fileHalt, hs])]
    · rw [if_neg hs, readableFile, List.map_cons, drive_cons _ _ _ _ _ (by simp [fileHalt, hs]), Mode.step, if_pos rfl]
      dsimp only
      cases hx : executeLine O qy [] true es0 l with
      | ok p =>
        obtain ⟨es, res, lim⟩ := p
        cases res with
        | none =>
          have := ih ⟨⟨es, { out0 with totalLines := out0.totalLines + 1 }, c0 + 1, false⟩, calls0⟩ rfl
          simpa [Mode.after, Mode.cut, Mode.follow, Mode.text, Mode.calls, readableFile] using this
        | some r =>
          cases lim with
          | true => exact (drive_of_stop _ _ _ _ rfl).symm
          | false => exact ih _ rfl
      | _ => exact (drive_of_stop _ _ _ _ rfl).symm

/-- the traced follow loop is the follow loop (from any state: neither looks at `stop`) -/
theorem runFollowT_ls (O : Oracles) (qy : Query) (sa : Option Nat) (lines : List Line) (s : TraceState) :
    (runFollowT O qy sa lines s).ls = runFollow O qy sa lines s.ls := by
  induction lines generalizing s with
  | nil => rfl
  | cons l rest ih =>
    rw [runFollowT, runFollow]
    by_cases hs : (sa == some s.ls.consumed) = true
    · rw [if_pos hs, if_pos hs]
    · rw [if_neg hs, if_neg hs]
      dsimp only
      cases executeLine O qy [] true s.ls.es l with
      | ok p =>
        obtain ⟨es, res, lim⟩ := p
        cases res with
        | none => exact ih _
        | some r =>
          -- `isUpdated qy` unfolds to the `match` that `runFollow` prints with
          cases lim with
          | true => rfl
          | false => exact ih _
      | _ => rfl

theorem runFollow_eq_drive (sa : Option Nat) (lines : List Line) (ls : LoopState) (h : ls.stop = false) :
    runFollow O qy sa lines ls = (drive (.follow qy) (executeLine O qy [] true) sa (readableFile lines) ⟨ls, []⟩).ls := by
  rw [← runFollowT_eq_drive O qy sa lines ⟨ls, []⟩ h]
  exact (runFollowT_ls O qy sa lines ⟨ls, []⟩).symm

theorem runFileT_ls (idx : JoinIndex) (w : Bool) (fls : List FileLine) (s : TraceState) (h : s.ls.stop = false) :
    (runFileT O qy idx w fls s).ls = runFile O qy idx w none fls s.ls := by
  rw [runFileT_eq_drive O qy idx w fls s h, runFile_eq_drive O qy idx w none fls s.ls h]
  exact (drive_ls _ _ _ _ s []).symm

theorem runFile_cons_ok (idx : JoinIndex) (w : Bool) (fl : FileLine) (rest : List FileLine)
    (ls : LoopState) (es1 : EngineState) (lo : LineOut) (hr : fl.readable = true)
    (hx : executeLine O qy idx w ls.es fl.line = .ok (es1, lo)) :
    runFile O qy idx w none (fl :: rest) ls =
      if lo.reachedLimit then { advance ls es1 lo with stop := true }
      else runFile O qy idx w none rest (advance ls es1 lo) := by
  have hn : ¬((none : Option Nat) == some ls.consumed) = true := Bool.false_ne_true
  rw [runFile, if_neg hn, hr]
  dsimp only [Bool.not_true, Bool.false_eq_true, if_false]
  rw [hx]
  rfl

theorem runFile_cons_unreadable (idx : JoinIndex) (w : Bool) (fl : FileLine)
    (rest : List FileLine) (ls : LoopState) (hr : fl.readable = false) :
    runFile O qy idx w none (fl :: rest) ls = readFailed ls := by
  have hn : ¬((none : Option Nat) == some ls.consumed) = true := Bool.false_ne_true
  rw [runFile, if_neg hn, hr]
  rfl

theorem runFile_cons_failed (idx : JoinIndex) (w : Bool) (fl : FileLine) (rest : List FileLine)
    (ls : LoopState) (hr : fl.readable = true) (hx : ∀ p, executeLine O qy idx w ls.es fl.line ≠ .ok p) :
    runFile O qy idx w none (fl :: rest) ls = lineFailed ls (executeLine O qy idx w ls.es fl.line) := by
  have hn : ¬((none : Option Nat) == some ls.consumed) = true := Bool.false_ne_true
  rw [runFile, if_neg hn, hr]
  dsimp only [Bool.not_true, Bool.false_eq_true, if_false]
  cases h : executeLine O qy idx w ls.es fl.line with
  | ok p => exact absurd h (hx p)
  | _ => rfl

theorem runFile_stop_of_stop (idx : JoinIndex) (w : Bool) (sa : Option Nat) (f : List FileLine) (ls : LoopState)
    (h : ls.stop = true) : (runFile O qy idx w sa f ls).stop = true := by
  induction f generalizing ls with
  | nil => exact h
  | cons fl rest ih =>
    rw [runFile]
    by_cases hs : (sa == some ls.consumed) = true
    · rw [if_pos hs]; exact h
    · rw [if_neg hs]
      cases fl.readable with
      | false => rfl
      | true =>
        dsimp only [Bool.not_true, Bool.false_eq_true, if_false]
        cases executeLine O qy idx w ls.es fl.line with
        | ok p =>
          obtain ⟨es, res, lim⟩ := p
          cases lim with
          | true => rfl
          | false => exact ih _ h
        | _ => rfl

theorem Mode.batch_cut (lo : LineOut) : Mode.batch.cut lo = lo.reachedLimit := Bool.and_true _

theorem drive_batch_nostop (idx : JoinIndex) (w : Bool) (sa : Option Nat) (fls : List FileLine) {s : TraceState}
    (h0 : s.ls.stop = false → reachedLimit qy s.ls.es = false)
    (h : (drive .batch (executeLine O qy idx w) sa fls s).ls.stop = false) :
    reachedLimit qy (drive .batch (executeLine O qy idx w) sa fls s).ls.es = false := by
  refine drive_inv .batch _ (fun s => s.ls.stop = false → reachedLimit qy s.ls.es = false) sa (fun s fl _ _ h => ?_) fls h0 h
  rcases Mode.batch.step_cases (executeLine O qy idx w) s fl with ⟨_, e⟩ | ⟨es, lo, _, hx, e⟩ | ⟨_, _, e⟩ <;> rw [e] at h ⊢
  · cases h
  · exact executeLine_limit_flag O qy idx w s.ls.es es fl.line lo hx ((Mode.batch_cut lo).symm.trans h)
  · cases h

theorem runFile_append (idx : JoinIndex) (w : Bool) (sa : Option Nat) (a b : List FileLine)
    (ls : LoopState) (hs : ls.stop = false) :
    runFile O qy idx w sa (a ++ b) ls =
      if (runFile O qy idx w sa a ls).stop then runFile O qy idx w sa a ls
      else runFile O qy idx w sa b (runFile O qy idx w sa a ls) := by
  rw [runFile_eq_drive O qy idx w sa (a ++ b) ls hs, drive_append, runFile_eq_drive O qy idx w sa a ls hs]
  split
  · next h => rw [drive_of_stop _ _ _ _ h]
  · next h =>
    rw [runFile_eq_drive _ _ _ _ _ _ _ (Bool.eq_false_iff.2 h)]
    exact (drive_ls _ _ _ _ (drive .batch (executeLine O qy idx w) sa a ⟨ls, []⟩) []).symm

theorem runFileT_append (idx : JoinIndex) (w : Bool) (a b : List FileLine) (s : TraceState) (hst : s.ls.stop = false) :
    runFileT O qy idx w (a ++ b) s =
      if (runFileT O qy idx w a s).ls.stop then runFileT O qy idx w a s else runFileT O qy idx w b (runFileT O qy idx w a s) := by
  rw [runFileT_eq_drive O qy idx w (a ++ b) s hst, drive_append, ← runFileT_eq_drive O qy idx w a s hst]
  split
  · next h => exact drive_of_stop _ _ _ _ h
  · next h => exact (runFileT_eq_drive _ _ _ _ _ _ (Bool.eq_false_iff.2 h)).symm

/-- a loop `F` over files that leaves at `halt` or `lim` before a file and at `halt` after one is the per-file loop `g` over all
the lines: `g` over `a ++ b` is `g` over `a` and, unless that halts, over `b` (`gapp`), and the check between two files sees in
`lim` only what `halt` has seen already (`glim`) -/
theorem filesLoop_eq_flatten {σ α : Type} {halt lim : σ → Bool} {g : List α → σ → σ} {F : List (List α) → σ → σ}
    (Fnil : ∀ s, F [] s = s)
    (Fcons : ∀ f rest s, F (f :: rest) s = if halt s || lim s then s else if halt (g f s) then g f s else F rest (g f s))
    (gnil : ∀ s, g [] s = s)
    (gapp : ∀ a b s, halt s = false → g (a ++ b) s = if halt (g a s) then g a s else g b (g a s))
    (glim : ∀ a s, halt s = false → lim s = false → halt (g a s) = false → lim (g a s) = false)
    (files : List (List α)) (s : σ) : F files s = if halt s || lim s then s else g files.flatten s := by
  induction files generalizing s with
  | nil => rw [Fnil, List.flatten_nil, gnil, ite_self]
  | cons f rest ih =>
    rw [Fcons, List.flatten_cons]
    cases hs : halt s with
    | true => rfl
    | false =>
      cases hl : lim s with
      | true => rfl
      | false =>
        rw [gapp f rest.flatten s hs]
        cases hst : halt (g f s) with
        | true => rfl
        | false => rw [ih, hst, glim f s hs hl hst]; rfl

theorem runFilesT_eq (idx : JoinIndex) (w : Bool) (files : List (List FileLine)) (s : TraceState) :
    runFilesT O qy idx w files s =
      if s.ls.stop || reachedLimit qy s.ls.es then s else runFileT O qy idx w files.flatten s :=
  filesLoop_eq_flatten (halt := fun s => s.ls.stop) (lim := fun s => reachedLimit qy s.ls.es) (fun _ => rfl) (fun _ _ _ => rfl)
    (fun _ => rfl) (runFileT_append O qy idx w)
    (fun f s hs hl hst => by
      rw [runFileT_eq_drive _ _ _ _ _ _ hs] at hst ⊢
      exact drive_batch_nostop O qy idx w none f (fun _ => hl) hst)
    files s

theorem runFiles_eq (idx : JoinIndex) (w : Bool) (sa : Option Nat) (files : List (List FileLine)) (ls : LoopState) :
    runFiles O qy idx w sa files ls =
      if ls.stop || reachedLimit qy ls.es then ls else runFile O qy idx w sa files.flatten ls :=
  filesLoop_eq_flatten (halt := fun ls => ls.stop) (lim := fun ls => reachedLimit qy ls.es) (fun _ => rfl) (fun _ _ _ => rfl)
    (fun _ => rfl) (runFile_append O qy idx w sa)
    (fun f ls hs hl hst => by
      rw [runFile_eq_drive _ _ _ _ _ _ _ hs] at hst ⊢
      exact drive_batch_nostop O qy idx w sa f (fun _ => hl) hst)
    files ls

theorem runFiles_eq_drive (idx : JoinIndex) (w : Bool) (sa : Option Nat) (files : List (List FileLine)) (ls : LoopState) :
    runFiles O qy idx w sa files ls =
      if ls.stop || reachedLimit qy ls.es then ls
      else (drive .batch (executeLine O qy idx w) sa files.flatten ⟨ls, []⟩).ls := by
  rw [runFiles_eq]
  cases hs : ls.stop with
  | true => rfl
  | false => rw [runFile_eq_drive O qy idx w sa _ ls hs]

theorem runFilesT_eq_drive (idx : JoinIndex) (w : Bool) (files : List (List FileLine)) (s : TraceState) :
    runFilesT O qy idx w files s =
      if s.ls.stop || reachedLimit qy s.ls.es then s else drive .batch (executeLine O qy idx w) none files.flatten s := by
  rw [runFilesT_eq]
  cases hs : s.ls.stop with
  | true => rfl
  | false => rw [runFileT_eq_drive O qy idx w _ s hs]

theorem runFiles_congr (qy' : Query) (idx : JoinIndex) (w : Bool)
    (he : ∀ es l, executeLine O qy' idx w es l = executeLine O qy idx w es l)
    (hr : ∀ es, reachedLimit qy' es = reachedLimit qy es) (sa : Option Nat) (files : List (List FileLine)) (ls : LoopState) :
    runFiles O qy' idx w sa files ls = runFiles O qy idx w sa files ls := by
  rw [runFiles_eq_drive, runFiles_eq_drive, hr,
    show executeLine O qy' idx w = executeLine O qy idx w from funext fun es => funext fun l => he es l]

theorem runFiles_agg_silent (q : AggStmt) (hq : qy.stmt = .aggregate q) (idx : JoinIndex)
    (sa : Option Nat) (files : List (List FileLine)) (ls : LoopState) :
    (runFiles O qy idx false sa files ls).out.printed = ls.out.printed := by
  rw [runFiles_eq_drive]
  split
  · rfl
  · exact (drive_quiet .batch _ (fun es l es' lo hx => (executeLine_agg_update_out O qy hq idx es es' l lo hx).1) sa _ ⟨ls, []⟩).1

theorem runFilesT_ls (idx : JoinIndex) (w : Bool) (files : List (List FileLine)) (s : TraceState) :
    (runFilesT O qy idx w files s).ls = runFiles O qy idx w none files s.ls := by
  rw [runFilesT_eq, runFiles_eq]
  cases hs : s.ls.stop with
  | true => rfl
  | false => rw [apply_ite TraceState.ls, runFileT_ls O qy idx w _ s hs]

end

end Sqlgrep
