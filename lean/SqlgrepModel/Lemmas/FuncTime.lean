import SqlgrepModel.Model.Eval
import SqlgrepModel.Model.ParseLit
import SqlgrepModel.Lemmas.CivilAgree
import SqlgrepModel.Lemmas.NumericOrder
import SqlgrepModel.Lemmas.StrBytes
import SqlgrepModel.Lemmas.FuncNum
/-
Timestamps in the evaluator: `create_timestamp` is one function in both models, `tsOfTotal`/`tsTotal` are inverse on
normalised fields, and `date_trunc` on the sub-day parts in closed form.
-/
namespace Sqlgrep

theorem mkTimestamp_eq_createTimestamp (y : Int) (mo d h mi s us : Nat) :
    Lit.mkTimestamp y mo d h mi s us = createTimestamp y mo d h mi s us := by
  unfold Lit.mkTimestamp createTimestamp
  rw [CivilE.validDate_eq]
  by_cases hv : Civil.validDate y mo d = true
  · rw [CivilE.daysFromCE_eq y mo d ((Civil.validDate_iff y mo d).1 hv).2.1]
    refine ite_congr (propext ?_) (fun _ => ?_) (fun _ => rfl)
    · unfold Civil.validTimeNano
      simp only [hv, Bool.and_eq_true, Bool.or_eq_true, decide_eq_true_eq, true_and, beq_iff_eq]
      omega
    · congr 2 <;> omega
  · simp only [hv, Bool.false_and, Bool.false_eq_true, if_false]

theorem tsOfTotal_tsTotal (d s f : Int) (h : TsPlain s f) : tsOfTotal (tsTotal d s f) = .timestamp d s f := by
  obtain ⟨h1, h2, h3, h4⟩ := h
  obtain ⟨e1, e2⟩ := divmod 1000000000 (d * 86400 + s) f h3 h4
  obtain ⟨e3, e4⟩ := divmod 86400 d s h1 h2
  rw [Int.add_comm] at e1 e2 e3 e4
  simp only [tsOfTotal, tsTotal, nsPerSec, e1, e2, e3, e4]

theorem tsTotal_tsOfTotal (X : Int) : ∃ d s f, tsOfTotal X = .timestamp d s f ∧ TsPlain s f ∧ tsTotal d s f = X := by
  refine ⟨_, _, _, rfl, ?_, ?_⟩
  · unfold TsPlain nsPerSec; omega
  · unfold tsTotal nsPerSec; omega

/-- nanoseconds from 0001-01-01 (day 1) … to the Unix epoch (day 719163) -/
def epochNs : Int := 719163 * 86400 * 1000000000

theorem stamp_eq (d s f : Int) : tsTotal (d - 719163) s f = tsTotal d s f - epochNs := by
  unfold tsTotal epochNs nsPerSec; omega

/-- the five sub-day units of `date_trunc` -/
def IsSubDaySpan (span : Int) : Prop :=
  span = 3600 * nsPerSec ∨ span = 60 * nsPerSec ∨ span = nsPerSec ∨ span = 1000000 ∨ span = 1000

theorem span_pos {span : Int} (h : IsSubDaySpan span) : 0 < span := by
  unfold IsSubDaySpan nsPerSec at h; omega

/-- every unit divides the distance between the two epochs, so the remainder does not depend on the epoch -/
theorem stamp_mod (T span : Int) (h : IsSubDaySpan span) : (T - epochNs) % span = T % span := by
  obtain ⟨q, hq⟩ : span ∣ epochNs := by
    unfold IsSubDaySpan nsPerSec at h
    rcases h with h | h | h | h | h <;> subst h <;> exact Int.dvd_of_emod_eq_zero (by decide)
  rw [hq, Int.sub_mul_emod_self_left]

theorem ite_some_eq {α : Type} {c : Prop} [Decidable c] {a x : α} {r : Option α}
    (h : (if c then some a else r) = some x) : a = x ∨ r = some x := by
  by_cases hc : c
  · rw [if_pos hc] at h; exact .inl (Option.some.inj h)
  · rw [if_neg hc] at h; exact .inr h

theorem truncSpan_isSubDay (part : Bytes) (span : Int) (h : truncSpan part = some span) : IsSubDaySpan span := by
  unfold truncSpan at h
  rcases ite_some_eq h with e | h
  · exact .inl e.symm
  rcases ite_some_eq h with e | h
  · exact .inr (.inl e.symm)
  rcases ite_some_eq h with e | h
  · exact .inr (.inr (.inl e.symm))
  rcases ite_some_eq h with e | h
  · exact .inr (.inr (.inr (.inl e.symm)))
  rcases ite_some_eq h with e | h
  · exact .inr (.inr (.inr (.inr e.symm)))
  · cases h

theorem sb_year : strBytes "year" = [121, 101, 97, 114] := by decide +kernel
theorem sb_month : strBytes "month" = [109, 111, 110, 116, 104] := by decide +kernel
theorem sb_day : strBytes "day" = [100, 97, 121] := by decide +kernel
theorem sb_hour : strBytes "hour" = [104, 111, 117, 114] := by decide +kernel
theorem sb_minute : strBytes "minute" = [109, 105, 110, 117, 116, 101] := by decide +kernel
theorem sb_second : strBytes "second" = [115, 101, 99, 111, 110, 100] := by decide +kernel
theorem sb_milliseconds : strBytes "milliseconds" = [109, 105, 108, 108, 105, 115, 101, 99, 111, 110, 100, 115] := by
  decide +kernel
theorem sb_microseconds : strBytes "microseconds" = [109, 105, 99, 114, 111, 115, 101, 99, 111, 110, 100, 115] := by
  decide +kernel

theorem ts_midnight_le (d' d s f : Int) (h : d' ≤ d) (hs : 0 ≤ s) (hf : 0 ≤ f) :
    Value.cmp (.timestamp d' 0 0) (.timestamp d s f) ≠ .gt := by
  simp only [Value.cmp]
  rcases Int.lt_or_eq_of_le h with h | h
  · rw [intCompare_lt h]; simp [Ordering.then]
  · rw [intCompare_eq h]
    rcases Int.lt_or_eq_of_le hs with hs | hs
    · rw [intCompare_lt hs]; simp [Ordering.then]
    · rw [intCompare_eq hs]
      rcases Int.lt_or_eq_of_le hf with hf | hf
      · rw [intCompare_lt hf]; decide
      · rw [intCompare_eq hf]; decide

theorem tsShift_plain (d s f ns : Int) (hf : f < nsPerSec) : tsShift d s f ns = tsOfTotal (tsTotal d s f + ns) := by
  unfold tsShift; rw [if_pos hf]

/-- `timestamp − timestamp` in the linear count: the difference of the `tsTotal`s, corrected by one second when the two
seconds of day differ and the EARLIER one (by second of day) is a leap second -/
theorem tsDiff_eq (d s f d' s' f' : Int) :
    tsDiff d s f d' s' f' = tsTotal d s f - tsTotal d' s' f' +
      (if s > s' ∧ f' ≥ 1000000000 then 1000000000 else if s < s' ∧ f ≥ 1000000000 then -1000000000 else 0) := by
  unfold tsDiff tsTotal nsPerSec
  simp only [Bool.and_eq_true, decide_eq_true_eq]
  by_cases c1 : s > s' ∧ f' ≥ 1000000000
  · rw [if_pos c1, if_pos c1]; omega
  · rw [if_neg c1, if_neg c1]
    by_cases c2 : s < s' ∧ f ≥ 1000000000
    · rw [if_pos c2, if_pos c2]; omega
    · rw [if_neg c2, if_neg c2]; omega

theorem tsDiff_plain (d s f d' s' f' : Int) (hf : f < nsPerSec) (hf' : f' < nsPerSec) :
    tsDiff d s f d' s' f' = tsTotal d s f - tsTotal d' s' f' := by
  unfold nsPerSec at hf hf'
  rw [tsDiff_eq, if_neg (by omega), if_neg (by omega), Int.add_zero]

theorem checked_eq (n : Int) : checked n = if inI64 n = true then some n else none := rfl

theorem checked_bind_some (a x st : Int) :
    (checked a).bind (fun y => checked (y + x)) = some st ↔ st = a + x ∧ inI64 (a + x) = true ∧ inI64 a = true := by
  rw [checked_eq]
  by_cases ha : inI64 a = true
  · rw [if_pos ha, Option.bind_some, checked_eq]
    by_cases hT : inI64 (a + x) = true
    · rw [if_pos hT]; exact ⟨fun h => ⟨(Option.some.inj h).symm, hT, ha⟩, fun h => h.1 ▸ rfl⟩
    · rw [if_neg hT]; exact ⟨fun h => (nomatch h), fun h => absurd h.2.1 hT⟩
  · rw [if_neg ha]; exact ⟨fun h => (nomatch h), fun h => absurd h.2.2 ha⟩

/-- `timestamp_nanos_opt` answers with the linear nanosecond count from 1970 when that and chrono's intermediate
product of the whole seconds (taken one second later for a negative time) are `i64`s -/
theorem stampNs_some_iff (d s f st : Int) :
    stampNs d s f = some st ↔ st = tsTotal (d - 719163) s f ∧ inI64 (tsTotal (d - 719163) s f) = true ∧
      inI64 ((if (d - 719163) * 86400 + s < 0 then (d - 719163) * 86400 + s + 1 else (d - 719163) * 86400 + s)
        * 1000000000) = true := by
  unfold stampNs tsTotal nsPerSec
  dsimp only
  by_cases hts : (d - 719163) * 86400 + s < 0
  · have e : ((d - 719163) * 86400 + s + 1) * 1000000000 + (f - 1000000000) = ((d - 719163) * 86400 + s) * 1000000000 + f := by
      omega
    rw [if_pos hts, if_pos hts, checked_bind_some, e]
  · rw [if_neg hts, if_neg hts, checked_bind_some]

theorem stampNs_plain (d s f : Int) (h0 : 0 ≤ f) (h1 : f < nsPerSec) :
    stampNs d s f = if inI64 (tsTotal (d - 719163) s f) = true then some (tsTotal (d - 719163) s f) else none := by
  have hx : inI64 (tsTotal (d - 719163) s f) = true → inI64 ((if (d - 719163) * 86400 + s < 0 then
      (d - 719163) * 86400 + s + 1 else (d - 719163) * 86400 + s) * 1000000000) = true := by
    unfold tsTotal nsPerSec at *
    rw [inI64_iff, inI64_iff]
    split <;> omega
  by_cases hT : inI64 (tsTotal (d - 719163) s f) = true
  · rw [if_pos hT]; exact (stampNs_some_iff d s f _).2 ⟨rfl, hT, hx hT⟩
  · rw [if_neg hT]
    cases hst : stampNs d s f with
    | none => rfl
    | some st => exact absurd ((stampNs_some_iff d s f st).1 hst).2.1 hT

theorem dateTrunc_sub_day (part : Bytes) (span : Int)
    (hy : (part == strBytes "year") = false) (hm : (part == strBytes "month") = false)
    (hd : (part == strBytes "day") = false) (hs : truncSpan part = some span) (d s f : Int)
    (hf0 : 0 ≤ f) (hf : f < nsPerSec) (hin : inI64 (tsTotal (d - 719163) s f) = true) :
    dateTrunc part d s f = .ok (tsOfTotal (tsTotal d s f - tsTotal d s f % span)) := by
  unfold dateTrunc
  simp only [hy, hm, hd, hs, Bool.false_eq_true, if_false, stampNs_plain d s f hf0 hf, hin, if_true,
    tsShift_plain _ _ _ _ hf]
  rw [stamp_eq, stamp_mod _ _ (truncSpan_isSubDay part span hs), Int.sub_eq_add_neg]

theorem dateTrunc_out_of_range (part : Bytes) (span : Int)
    (hy : (part == strBytes "year") = false) (hm : (part == strBytes "month") = false)
    (hd : (part == strBytes "day") = false) (hs : truncSpan part = some span) (d s f : Int)
    (hf0 : 0 ≤ f) (hf : f < nsPerSec) (hin : inI64 (tsTotal (d - 719163) s f) = false) :
    dateTrunc part d s f = .error .failedToTruncate := by
  unfold dateTrunc
  simp only [hy, hm, hd, hs, Bool.false_eq_true, if_false, stampNs_plain d s f hf0 hf, hin]

theorem dateTrunc_unknown (part : Bytes)
    (hy : (part == strBytes "year") = false) (hm : (part == strBytes "month") = false)
    (hd : (part == strBytes "day") = false) (hs : truncSpan part = none) (d s f : Int) :
    dateTrunc part d s f = .error .invalidTruncatePart := by
  unfold dateTrunc
  simp only [hy, hm, hd, hs, Bool.false_eq_true, if_false]

end Sqlgrep
