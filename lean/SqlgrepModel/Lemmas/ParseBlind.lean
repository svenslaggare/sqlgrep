import SqlgrepModel.Model.Pipeline
import SqlgrepModel.Lemmas.LowerStrip
/-
`parsing::parse` after the tokenizer reads only the tokens, not their locations: two token vectors with the same
tokens give the same statement, or errors of the same kind (`Pipeline.parseToks`: parser + lowering).
-/
namespace Sqlgrep.Pipeline
open Sqlgrep Sqlgrep.Parse Sqlgrep.Lower

/-- an answer of `parseToks` with the locations of its errors erased -/
def Parsed.stripLoc : Parsed → Parsed
  | .stmt s => .stmt s
  | .lexError _ e => .lexError default e
  | .parseError e => .parseError e.strip
  | .convertError e => .convertError e.strip
  | p => p

theorem strip_of_toks {ts₁ ts₂ : List PTok} (h : ts₁.map (·.tok) = ts₂.map (·.tok)) :
    ts₁.map PTok.strip = ts₂.map PTok.strip := by
  induction ts₁ generalizing ts₂ with
  | nil => cases ts₂ <;> simp_all
  | cons t ts ih =>
    cases ts₂ with
    | nil => simp at h
    | cons u us =>
      simp only [List.map_cons, List.cons.injEq] at h ⊢
      exact ⟨by simp [PTok.strip, h.1], ih h.2⟩

theorem lowerTree_erase (rv : List Char → Bool) (t : POp) : (lowerTree rv t.eraseLoc).stripLoc = (lowerTree rv t).stripLoc := by
  unfold lowerTree
  rw [lowerStatement_erase]
  cases lowerStatement rv t <;> rfl

theorem parseToks_strip (rv : List Char → Bool) (ts : List PTok) :
    (parseToks rv (ts.map PTok.strip)).stripLoc = (parseToks rv ts).stripLoc := by
  unfold parseToks
  rw [parseTokens_strip]
  cases parseTokens PrecTables.code ts with
  | tree t => exact lowerTree_erase rv t
  | error e => rfl
  | fuel => rfl
  | panic => rfl

theorem parseToks_locations_irrelevant (rv : List Char → Bool) (ts₁ ts₂ : List PTok)
    (h : ts₁.map (·.tok) = ts₂.map (·.tok)) : (parseToks rv ts₁).stripLoc = (parseToks rv ts₂).stripLoc := by
  rw [← parseToks_strip rv ts₁, ← parseToks_strip rv ts₂, strip_of_toks h]

theorem parseToks_stmt_of_same_tokens (rv : List Char → Bool) (ts₁ ts₂ : List PTok)
    (h : ts₁.map (·.tok) = ts₂.map (·.tok)) (s : LStmt) (h₁ : parseToks rv ts₁ = .stmt s) : parseToks rv ts₂ = .stmt s := by
  have := parseToks_locations_irrelevant rv ts₁ ts₂ h
  rw [h₁] at this
  cases h₂ : parseToks rv ts₂ <;> rw [h₂] at this <;> simp [Parsed.stripLoc] at this
  rw [this]

theorem parseText_of_tokenize {o : Lex.Oracles} {rv : List Char → Bool} {text : List Char} {ts : List PTok}
    (h : Lex.tokenize o text = .ok ts) : parseText o rv text = parseToks rv ts := by
  unfold parseText; rw [h]

theorem tree_of_strip {T : PrecTables} {toks : List PTok} {X : POp} (h : parseTokens T (toks.map PTok.strip) = .tree X) :
    ∃ op, parseTokens T toks = .tree op ∧ op.eraseLoc = X := by
  rw [parseTokens_strip] at h
  cases hp : parseTokens T toks <;> rw [hp] at h <;> cases h
  exact ⟨_, rfl, rfl⟩

end Sqlgrep.Pipeline
