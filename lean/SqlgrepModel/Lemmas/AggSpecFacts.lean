import SqlgrepModel.Spec.Agg
import SqlgrepModel.Lemmas.Collect
import SqlgrepModel.Lemmas.ValueOrder
/-
Lists of argument values as the specification reads them: the non-NULL values and their typed readings, the value order
(`better`: "beats as MIN / as MAX"), the values for which "equal in the value order" is "identical", MIN / MAX (`extreme`)
and the sorted list of PERCENTILE (`sortValues`) — each characterised, then over `++`, then under permutation.
-/
set_option linter.unusedSimpArgs false
namespace Sqlgrep
open Value Spec.Agg

theorem isNull_eq_true {v : Value} (h : v.isNull = true) : v = .null := by
  cases v <;> simp [isNull] at h; rfl

theorem nonNull_cons_null (vs : List Value) : nonNull (Value.null :: vs) = nonNull vs := rfl

theorem nonNull_cons_of_not_null {v : Value} (h : v.isNull = false) (vs : List Value) :
    nonNull (v :: vs) = v :: nonNull vs := by
  simp [nonNull, List.filter, h]

theorem nonNull_all (vs : List Value) : ∀ x ∈ nonNull vs, x.isNull = false := by
  intro x hx
  simp [nonNull] at hx
  exact hx.2

theorem asInt_eq_some {v : Value} {i : Int} : asInt v = some i ↔ v = .int i := by cases v <;> simp [asInt]

theorem asReal_eq_some {v : Value} {b : Nat} : asReal v = some b ↔ v = .real b := by cases v <;> simp [asReal]

theorem asInterval_eq_some {v : Value} {n : Int} : asInterval v = some n ↔ v = .interval n := by
  cases v <;> simp [asInterval]

theorem asBool_eq_some {v : Value} {b : Bool} : asBool v = some b ↔ v = .bool b := by cases v <;> simp [asBool]

theorem asText_eq_some {v : Value} {s : Bytes} : asText v = some s ↔ v = .text s := by cases v <;> simp [asText]

theorem ints_eq_some_iff {xs : List Value} {is : List Int} : ints xs = some is ↔ xs = is.map Value.int :=
  collect_map_eq_some_iff fun _ _ => asInt_eq_some

theorem reals_eq_some_iff {xs : List Value} {rs : List Nat} : reals xs = some rs ↔ xs = rs.map Value.real :=
  collect_map_eq_some_iff fun _ _ => asReal_eq_some

theorem intervals_eq_some_iff {xs : List Value} {ns : List Int} : intervals xs = some ns ↔ xs = ns.map Value.interval :=
  collect_map_eq_some_iff fun _ _ => asInterval_eq_some

theorem bools_eq_some_iff {xs : List Value} {bs : List Bool} : bools xs = some bs ↔ xs = bs.map Value.bool :=
  collect_map_eq_some_iff fun _ _ => asBool_eq_some

theorem texts_eq_some_iff {xs : List Value} {ss : List Bytes} : texts xs = some ss ↔ xs = ss.map Value.text :=
  collect_map_eq_some_iff fun _ _ => asText_eq_some

theorem ints_eq {xs : List Value} {is : List Int} (h : ints xs = some is) : xs = is.map Value.int := ints_eq_some_iff.mp h

theorem ints_map_int (l : List Int) : ints (l.map Value.int) = some l := ints_eq_some_iff.mpr rfl

theorem reals_eq {xs : List Value} {rs : List Nat} (h : reals xs = some rs) : xs = rs.map Value.real := reals_eq_some_iff.mp h

theorem reals_map_real (l : List Nat) : reals (l.map Value.real) = some l := reals_eq_some_iff.mpr rfl

theorem intervals_eq {xs : List Value} {ns : List Int} (h : intervals xs = some ns) : xs = ns.map Value.interval :=
  intervals_eq_some_iff.mp h

theorem map_cons_inv {α : Type} {inj : α → Value} {v : Value} {xs : List Value} {ys : List α}
    (h : v :: xs = ys.map inj) : ∃ y ys', ys = y :: ys' ∧ v = inj y ∧ xs = ys'.map inj := by
  cases ys with
  | nil => simp at h
  | cons y ys' => simp at h; exact ⟨y, ys', rfl, h.1, h.2⟩

theorem nonNull_append (a b : List Value) : nonNull (a ++ b) = nonNull a ++ nonNull b := by
  simp [nonNull, List.filter_append]

theorem nonNull_perm {vs1 vs2 : List Value} (h : vs1.Perm vs2) : (nonNull vs1).Perm (nonNull vs2) := h.filter _

theorem ints_perm {xs ys : List Value} (h : xs.Perm ys) : OptPerm (ints xs) (ints ys) := collect_perm (h.map _)

theorem reals_perm {xs ys : List Value} (h : xs.Perm ys) : OptPerm (reals xs) (reals ys) := collect_perm (h.map _)

theorem intervals_perm {xs ys : List Value} (h : xs.Perm ys) : OptPerm (intervals xs) (intervals ys) := collect_perm (h.map _)

theorem bools_perm {xs ys : List Value} (h : xs.Perm ys) : OptPerm (bools xs) (bools ys) := collect_perm (h.map _)

theorem sameType_iff (xs : List Value) : sameType xs = true ↔ ∀ a ∈ xs, ∀ b ∈ xs, a.valueType = b.valueType := by
  cases xs with
  | nil => simp [sameType]
  | cons v rest =>
    simp only [sameType, List.all_eq_true, beq_iff_eq]
    constructor
    · intro h a ha b hb
      have hv : ∀ w ∈ v :: rest, w.valueType = v.valueType := by
        intro w hw
        rcases List.mem_cons.mp hw with hw | hw
        · rw [hw]
        · exact h w hw
      rw [hv a ha, hv b hb]
    · intro h w hw
      exact h w (by simp [hw]) v (by simp)

theorem sameType_perm {xs ys : List Value} (h : xs.Perm ys) : sameType xs = sameType ys := by
  have : sameType xs = true ↔ sameType ys = true := by
    rw [sameType_iff, sameType_iff]
    constructor
    · intro hh a ha b hb; exact hh a (h.mem_iff.mpr ha) b (h.mem_iff.mpr hb)
    · intro hh a ha b hb; exact hh a (h.mem_iff.mp ha) b (h.mem_iff.mp hb)
  cases h1 : sameType xs <;> cases h2 : sameType ys <;> simp_all

def better (wantLess : Bool) (a b : Value) : Bool := Value.cmp a b == (if wantLess then Ordering.lt else Ordering.gt)

theorem better_irrefl (wantLess : Bool) (a : Value) : better wantLess a a = false := by
  cases wantLess <;> simp [better, cmp_refl]

theorem better_trans {wantLess : Bool} {a b c : Value} (h1 : better wantLess a b = true) (h2 : better wantLess b c = true) :
    better wantLess a c = true := by
  cases wantLess <;> simp only [better, Bool.false_eq_true, if_false, if_true, beq_iff_eq] at *
  · exact Std.TransCmp.gt_trans h1 h2
  · exact Std.TransCmp.lt_trans h1 h2

theorem notBetter_trans {wantLess : Bool} {a b c : Value} (h1 : better wantLess a b = false)
    (h2 : better wantLess b c = false) : better wantLess a c = false := by
  cases wantLess <;> simp only [better, Bool.false_eq_true, if_false, if_true, beq_eq_false_iff_ne, ne_eq] at *
  · exact cmp_ne_gt_trans h1 h2
  · exact cmp_ne_lt_trans h1 h2

theorem better_asymm {wantLess : Bool} {a b : Value} (h : better wantLess a b = true) : better wantLess b a = false := by
  cases wantLess <;> simp only [better, Bool.false_eq_true, if_false, if_true, beq_iff_eq, beq_eq_false_iff_ne, ne_eq] at *
  · rw [Std.OrientedCmp.gt_iff_lt (cmp := Value.cmp)] at h; rw [h]; simp
  · rw [← Std.OrientedCmp.gt_iff_lt (cmp := Value.cmp)] at h; rw [h]; simp

theorem cmp_eq_of_notBetter {wantLess : Bool} {a b : Value} (h1 : better wantLess a b = false)
    (h2 : better wantLess b a = false) : Value.cmp a b = .eq := by
  cases wantLess <;> simp only [better, Bool.false_eq_true, if_false, if_true, beq_eq_false_iff_ne, ne_eq] at *
  · rw [Std.OrientedCmp.gt_iff_lt (cmp := Value.cmp)] at h2; cases h : Value.cmp a b <;> simp_all
  · rw [← Std.OrientedCmp.gt_iff_lt (cmp := Value.cmp)] at h2; cases h : Value.cmp a b <;> simp_all

theorem cmp_eq_of_le_le {a b : Value} (h1 : Value.cmp a b ≠ .gt) (h2 : Value.cmp b a ≠ .gt) : Value.cmp a b = .eq := by
  rw [cmp_swap a b] at h2
  cases h : Value.cmp a b <;> simp_all [Ordering.swap]

/-- NULL is below every other value, so the NULL key comes first -/
theorem null_lowest (v : Value) (h : v.isNull = false) : Value.cmp .null v = .lt := by
  cases v <;> simp [isNull] at h <;> rfl

/-- values among which "equal in the value order" means "identical" (e.g. no `0.0` next to `-0.0`) -/
def ValuesExact (xs : List Value) : Prop := ∀ a ∈ xs, ∀ b ∈ xs, Value.cmp a b = .eq → a = b

theorem ValuesExact.perm {xs ys : List Value} (h : ValuesExact xs) (hp : xs.Perm ys) : ValuesExact ys :=
  fun a ha b hb hab => h a (hp.mem_iff.mpr ha) b (hp.mem_iff.mpr hb) hab

/-- below `2 * P`, a pattern other than `P` itself is determined by its signed magnitude -/
theorem F64.key_inj_aux {P a b : Nat} (ha : a < 2 * P) (hb : b < 2 * P) (ha0 : a ≠ P) (hb0 : b ≠ P)
    (h : (if a / P % 2 == 1 then -((a % P : Nat) : Int) else ((a % P : Nat) : Int)) =
      (if b / P % 2 == 1 then -((b % P : Nat) : Int) else ((b % P : Nat) : Int))) : a = b := by
  have hP : 0 < P := by omega
  have ea := Nat.div_add_mod a P
  have eb := Nat.div_add_mod b P
  have ra := Nat.mod_lt a hP
  have rb := Nat.mod_lt b hP
  have qa := Nat.le_one_iff_eq_zero_or_eq_one.mp (Nat.lt_succ_iff.mp (Nat.div_lt_of_lt_mul (Nat.mul_comm 2 P ▸ ha)))
  have qb := Nat.le_one_iff_eq_zero_or_eq_one.mp (Nat.lt_succ_iff.mp (Nat.div_lt_of_lt_mul (Nat.mul_comm 2 P ▸ hb)))
  rcases qa with qa | qa <;> rcases qb with qb | qb <;> rw [qa] at ea h <;> rw [qb] at eb h <;> simp at ea eb h <;> omega

theorem F64.cmp_eq_of_canonical {a b : Nat} (ha : a < 2^64) (hb : b < 2^64) (ha0 : a ≠ 2^63) (hb0 : b ≠ 2^63)
    (han : F64.isNaN a = true → a = F64.canonNaN) (hbn : F64.isNaN b = true → b = F64.canonNaN)
    (h : F64.cmp a b = .eq) : a = b := by
  unfold F64.cmp at h
  by_cases h1 : F64.isNaN a = true
  · by_cases h2 : F64.isNaN b = true
    · rw [han h1, hbn h2]
    · simp [h1, h2] at h
  · by_cases h2 : F64.isNaN b = true
    · simp [h1, h2] at h
    · simp only [h1, h2, Bool.false_eq_true, if_false, Int.compare_eq_eq] at h
      exact F64.key_inj_aux (P := 2^63) ha hb ha0 hb0 h

theorem cmp_eq_of_simple {a b : Value} (ha : simpleValue a = true) (hb : simpleValue b = true)
    (h : Value.cmp a b = .eq) : a = b := by
  have hr := rank_eq_of_cmp_eq h
  cases a <;> cases b <;> simp [rank] at hr <;> simp [simpleValue] at ha hb <;> simp only [Value.cmp] at h
  · rfl
  · rw [Int.compare_eq_eq] at h; rw [h]
  · rename_i x y
    have hx : x < 2^64 ∧ x ≠ 2^63 ∧ (F64.isNaN x = true → x = F64.canonNaN) := by
      refine ⟨by simpa using ha.1.1, by simpa using ha.1.2, fun hn => ?_⟩
      rcases ha.2 with h' | h'
      · rw [hn] at h'; simp at h'
      · exact h'
    have hy : y < 2^64 ∧ y ≠ 2^63 ∧ (F64.isNaN y = true → y = F64.canonNaN) := by
      refine ⟨by simpa using hb.1.1, by simpa using hb.1.2, fun hn => ?_⟩
      rcases hb.2 with h' | h'
      · rw [hn] at h'; simp at h'
      · exact h'
    rw [F64.cmp_eq_of_canonical hx.1 hy.1 hx.2.1 hy.2.1 hx.2.2 hy.2.2 h]
  · rw [cmpBool_eq_iff] at h; rw [h]
  · rw [cmpBytes_eq_iff] at h; rw [h]
  · simp only [Ordering.then_eq_eq, Int.compare_eq_eq] at h
    obtain ⟨⟨h1, h2⟩, h3⟩ := h
    rw [h1, h2, h3]
  · rw [Int.compare_eq_eq] at h; rw [h]

theorem cmpList_eq_of_simple : ∀ {a b : List Value}, a.all simpleValue = true → b.all simpleValue = true →
    cmpList a b = .eq → a = b
  | [], [], _, _, _ => rfl
  | [], _ :: _, _, _, h => by simp [cmpList] at h
  | _ :: _, [], _, _, h => by simp [cmpList] at h
  | x :: xs, y :: ys, ha, hb, h => by
    simp only [List.all_cons, Bool.and_eq_true] at ha hb
    simp only [cmpList, Ordering.then_eq_eq] at h
    rw [cmp_eq_of_simple ha.1 hb.1 h.1, cmpList_eq_of_simple ha.2 hb.2 h.2]

theorem valuesExact_of_simple {xs : List Value} (h : xs.all simpleValue = true) : ValuesExact xs := by
  intro a ha b hb hab
  simp only [List.all_eq_true] at h
  exact cmp_eq_of_simple (h a ha) (h b hb) hab

theorem valuesExact_of_ints {xs : List Value} (hx : ∀ v ∈ xs, ∃ i, v = .int i) : ValuesExact xs := by
  intro a ha b hb h
  obtain ⟨i, rfl⟩ := hx a ha
  obtain ⟨j, rfl⟩ := hx b hb
  exact cmp_eq_of_simple rfl rfl h

/-- one step of the specification's running extreme -/
def exStep (wantLess : Bool) (cur v : Value) : Value :=
  if Value.cmp v cur == (if wantLess then Ordering.lt else Ordering.gt) then v else cur

theorem extreme_cons (wantLess : Bool) (x : Value) (xs : List Value) :
    extreme wantLess (x :: xs) = xs.foldl (exStep wantLess) x := rfl

theorem exFold_spec (wantLess : Bool) (xs : List Value) (x0 : Value) :
    xs.foldl (exStep wantLess) x0 ∈ x0 :: xs ∧ ∀ y ∈ x0 :: xs, better wantLess y (xs.foldl (exStep wantLess) x0) = false := by
  induction xs generalizing x0 with
  | nil => exact ⟨by simp, by simp [better_irrefl]⟩
  | cons v vs ih =>
    obtain ⟨hm, hle⟩ := ih (exStep wantLess x0 v)
    have hx : (exStep wantLess x0 v = x0 ∨ exStep wantLess x0 v = v) ∧
        better wantLess x0 (exStep wantLess x0 v) = false ∧ better wantLess v (exStep wantLess x0 v) = false := by
      cases hb : better wantLess v x0
      · have : exStep wantLess x0 v = x0 := by simp only [exStep, ← better.eq_def, hb, Bool.false_eq_true, if_false]
        rw [this]; exact ⟨.inl rfl, better_irrefl _ _, hb⟩
      · have : exStep wantLess x0 v = v := by simp only [exStep, ← better.eq_def, hb, if_true]
        rw [this]; exact ⟨.inr rfl, better_asymm hb, better_irrefl _ _⟩
    refine ⟨?_, ?_⟩
    · show vs.foldl (exStep wantLess) (exStep wantLess x0 v) ∈ _
      rcases List.mem_cons.mp hm with h | h
      · rw [h]; rcases hx.1 with h' | h' <;> simp [h']
      · simp [h]
    · intro y hy
      simp only [List.mem_cons] at hy
      rcases hy with rfl | rfl | hy
      · exact notBetter_trans hx.2.1 (hle _ (by simp))
      · exact notBetter_trans hx.2.2 (hle _ (by simp))
      · exact hle y (by simp [hy])

/-- the extreme of a non-empty list is one of its values and none of them beats it -/
theorem extreme_spec (wantLess : Bool) (xs : List Value) (h : xs ≠ []) :
    extreme wantLess xs ∈ xs ∧ ∀ y ∈ xs, better wantLess y (extreme wantLess xs) = false := by
  cases xs with
  | nil => exact absurd rfl h
  | cons x rest => exact exFold_spec wantLess rest x

/-- MIN of a non-empty list is one of its values and no value is smaller (by the value order) -/
theorem extreme_min_spec (xs : List Value) (h : xs ≠ []) :
    extreme true xs ∈ xs ∧ ∀ y ∈ xs, Value.cmp (extreme true xs) y ≠ .gt := by
  refine ⟨(extreme_spec true xs h).1, fun y hy => ?_⟩
  have := (extreme_spec true xs h).2 y hy
  rw [Ne, Std.OrientedCmp.gt_iff_lt (cmp := Value.cmp)]; simpa [better] using this

/-- MAX of a non-empty list is one of its values and no value is greater (by the value order) -/
theorem extreme_max_spec (xs : List Value) (h : xs ≠ []) :
    extreme false xs ∈ xs ∧ ∀ y ∈ xs, Value.cmp (extreme false xs) y ≠ .lt := by
  refine ⟨(extreme_spec false xs h).1, fun y hy => ?_⟩
  have := (extreme_spec false xs h).2 y hy
  rw [Ne, ← Std.OrientedCmp.gt_iff_lt (cmp := Value.cmp)]; simpa [better] using this

theorem extreme_mem_nonNull (b : Bool) (xs : List Value) (hx : ∀ x ∈ xs, x.isNull = false) (hne : xs ≠ []) :
    (extreme b xs).isNull = false :=
  hx _ (extreme_spec b xs hne).1

theorem exFold_step (wantLess : Bool) (ys : List Value) : ∀ a y : Value,
    ys.foldl (exStep wantLess) (exStep wantLess a y) =
      if better wantLess (ys.foldl (exStep wantLess) y) a then ys.foldl (exStep wantLess) y else a := by
  induction ys with
  | nil => intro a y; rfl
  | cons z zs ih =>
    intro a y
    simp only [List.foldl_cons, ih (exStep wantLess a y) z, ih y z]
    generalize zs.foldl (exStep wantLess) z = W
    have hstep : exStep wantLess a y = if better wantLess y a then y else a := rfl
    cases hya : better wantLess y a <;> cases hWy : better wantLess W y <;>
      simp only [hstep, hya, hWy, if_true, Bool.false_eq_true, if_false]
    · rw [notBetter_trans hWy hya]; rfl
    · rw [better_trans hWy hya]; rfl

/-- **minima and maxima combine**: the extreme of a concatenation of two non-empty lists is the second part's extreme
if that beats the first part's, otherwise the first part's (the first on a tie) -/
theorem extreme_append (wantLess : Bool) (x : Value) (xs : List Value) (y : Value) (ys : List Value) :
    extreme wantLess ((x :: xs) ++ (y :: ys)) =
      if Value.cmp (extreme wantLess (y :: ys)) (extreme wantLess (x :: xs)) == (if wantLess then Ordering.lt else Ordering.gt)
      then extreme wantLess (y :: ys) else extreme wantLess (x :: xs) := by
  simp only [List.cons_append, extreme_cons, List.foldl_append, List.foldl_cons]
  exact exFold_step wantLess ys _ y

/-- combination of two extremes: NULL (no value) is neutral, otherwise the better one, the first on a tie -/
def mergeExt (wantLess : Bool) (x y : Value) : Value :=
  if x.isNull then y else if y.isNull then x
  else if Value.cmp y x == (if wantLess then Ordering.lt else Ordering.gt) then y else x

theorem extreme_merge (b : Bool) (xs ys : List Value) (hx : ∀ x ∈ xs, x.isNull = false) (hy : ∀ y ∈ ys, y.isNull = false) :
    extreme b (xs ++ ys) = mergeExt b (extreme b xs) (extreme b ys) := by
  cases xs with
  | nil => simp [extreme, mergeExt, isNull]
  | cons x xs' =>
    cases ys with
    | nil =>
      have h1 := extreme_mem_nonNull b (x :: xs') hx (by simp)
      rw [List.append_nil]
      simp only [mergeExt, h1, Bool.false_eq_true, if_false]
      simp [extreme, isNull]
    | cons y ys' =>
      have h1 := extreme_mem_nonNull b (x :: xs') hx (by simp)
      have h2 := extreme_mem_nonNull b (y :: ys') hy (by simp)
      rw [extreme_append]
      simp only [mergeExt, h1, h2, Bool.false_eq_true, if_false]

theorem extreme_perm (wantLess : Bool) {xs ys : List Value} (h : xs.Perm ys) (hex : ValuesExact xs) :
    extreme wantLess xs = extreme wantLess ys := by
  cases xs with
  | nil => rw [List.Perm.nil_eq h]
  | cons x xs' =>
    cases ys with
    | nil => exact absurd h.length_eq (by simp)
    | cons y ys' =>
      obtain ⟨hm1, hl1⟩ := exFold_spec wantLess xs' x
      obtain ⟨hm2, hl2⟩ := exFold_spec wantLess ys' y
      exact hex _ hm1 _ (h.mem_iff.mpr hm2) (cmp_eq_of_notBetter (hl2 _ (h.mem_iff.mp hm1)) (hl1 _ (h.mem_iff.mpr hm2)))

theorem insertSorted_length (v : Value) (xs : List Value) : (insertSorted v xs).length = xs.length + 1 := by
  induction xs with
  | nil => rfl
  | cons x xs ih => simp only [insertSorted]; split <;> simp [ih]

theorem sortValues_length (xs : List Value) : (sortValues xs).length = xs.length := by
  induction xs with
  | nil => rfl
  | cons x xs ih => simp only [sortValues, List.foldr_cons] at ih ⊢; rw [insertSorted_length, ih]; rfl

theorem insertSorted_perm (v : Value) (xs : List Value) : (insertSorted v xs).Perm (v :: xs) := by
  induction xs with
  | nil => exact List.Perm.refl _
  | cons x xs ih =>
    simp only [insertSorted]
    split
    · exact (List.Perm.cons x ih).trans (List.Perm.swap v x xs)
    · exact List.Perm.refl _

theorem sortValues_perm (xs : List Value) : (sortValues xs).Perm xs := by
  induction xs with
  | nil => exact List.Perm.refl _
  | cons x xs ih =>
    simp only [sortValues, List.foldr_cons] at ih ⊢
    exact (insertSorted_perm x _).trans (List.Perm.cons x ih)

theorem insertSorted_sorted (v : Value) (xs : List Value) (h : xs.Pairwise (fun a b => Value.cmp a b ≠ .gt)) :
    (insertSorted v xs).Pairwise (fun a b => Value.cmp a b ≠ .gt) := by
  induction xs with
  | nil => simp [insertSorted]
  | cons x xs ih =>
    rw [List.pairwise_cons] at h
    simp only [insertSorted]
    split
    · rename_i hgt
      refine List.Pairwise.cons ?_ (ih h.2)
      intro y hy
      rcases List.mem_cons.mp ((insertSorted_perm v xs).subset hy) with hy | hy
      · subst hy
        simp only [beq_iff_eq] at hgt
        rw [cmp_swap y x, hgt]; simp [Ordering.swap]
      · exact h.1 y hy
    · rename_i hngt
      simp only [beq_iff_eq] at hngt
      refine List.Pairwise.cons ?_ (List.Pairwise.cons h.1 h.2)
      intro y hy
      rcases List.mem_cons.mp hy with hy | hy
      · subst hy; exact hngt
      · exact cmp_ne_gt_trans hngt (h.1 y hy)

theorem sortValues_sorted (xs : List Value) : (sortValues xs).Pairwise (fun a b => Value.cmp a b ≠ .gt) := by
  induction xs with
  | nil => simp [sortValues]
  | cons x xs ih =>
    simp only [sortValues, List.foldr_cons] at ih ⊢
    exact insertSorted_sorted x _ ih

theorem sorted_perm_unique {l1 l2 : List Value} (h : l1.Perm l2) (hex : ValuesExact l1)
    (h1 : l1.Pairwise (fun a b => Value.cmp a b ≠ .gt)) (h2 : l2.Pairwise (fun a b => Value.cmp a b ≠ .gt)) : l1 = l2 :=
  h.eq_of_pairwise (fun a b ha hb hab hba => hex a ha b (h.mem_iff.2 hb) (cmp_eq_of_le_le hab hba)) h1 h2

theorem sortValues_eq_of_perm {xs ys : List Value} (h : xs.Perm ys) (hex : ValuesExact xs) : sortValues xs = sortValues ys := by
  apply sorted_perm_unique _ _ (sortValues_sorted xs) (sortValues_sorted ys)
  · exact ((sortValues_perm xs).trans h).trans (sortValues_perm ys).symm
  · exact hex.perm (sortValues_perm xs).symm

end Sqlgrep
