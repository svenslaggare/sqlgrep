import SqlgrepModel.Lemmas.AggSummaryTable
import SqlgrepModel.Lemmas.AggDeviationPerm
/-
Sufficient conditions for the hypotheses of C15 (`ValuesExact`, `SumsOrderFree`, `PermSafe`) that can be checked on a
concrete input: every argument value is NULL or an INT of magnitude ≤ 2^20 and there are at most 2^20 rows. Then no
partial sum (of values or of squares: `2^20 · 2^40 < 2^63`) leaves the 64-bit range in any order, values picked by order are exact, and the
REAL clauses are about the empty list of addends. Last, `table_perm` and `deviationClass_perm` put together for the
specification's batch answer under a permutation of the input lines (`specBatch_perm`).
-/
set_option linter.unusedSimpArgs false
namespace Sqlgrep
open Value Spec.Agg

/-- the laws hold trivially when there is nothing to add (no instance of `assoc` with non-empty `b`, `c` exists) -/
theorem realAddLaws_nil : RealAddLaws [] := by
  refine ⟨by simp, by simp, ?_⟩
  intro a b c hb _ hs
  obtain ⟨rest, hr⟩ := hs
  have := List.Perm.eq_nil hr
  simp only [List.append_eq_nil_iff] at this
  exact absurd this.1.1.2 hb

theorem partialSumsOk_of_bound (ok : Int → Bool) (B : Int) (hok : ∀ n, -B ≤ n → n ≤ B → ok n = true) (m : Int) (hm : 0 ≤ m) :
    ∀ (l : List Int) (acc : Int), (∀ x ∈ l, -m ≤ x ∧ x ≤ m) → -B ≤ acc - l.length * m → acc + l.length * m ≤ B →
      partialSumsOk ok acc l = true := by
  intro l
  induction l with
  | nil => intros; rfl
  | cons x xs ih =>
    intro acc hx h1 h2
    have hxm := hx x (by simp)
    have hlen : (((x :: xs).length : Nat) : Int) * m = (xs.length : Int) * m + m := by
      simp only [List.length_cons, Int.natCast_add, Int.natCast_one, Int.add_mul, Int.one_mul]
    have hnn : 0 ≤ (xs.length : Int) * m := Int.mul_nonneg (Int.natCast_nonneg _) hm
    rw [hlen] at h1 h2
    simp only [partialSumsOk, Bool.and_eq_true]
    exact ⟨hok _ (by omega) (by omega), ih (acc + x) (fun y hy => hx y (by simp [hy])) (by omega) (by omega)⟩

theorem partialSumsOk_i64 {n m : Nat} (hnm : n * m ≤ 2 ^ 63 - 1) {l : List Int} (hl : l.length ≤ n)
    (hx : ∀ x ∈ l, -(m : Int) ≤ x ∧ x ≤ m) : partialSumsOk inI64 0 l = true := by
  have hle : (l.length : Int) * m ≤ ((n * m : Nat) : Int) := by
    rw [Int.natCast_mul]; exact Int.mul_le_mul_of_nonneg_right (by omega) (Int.natCast_nonneg m)
  apply partialSumsOk_of_bound inI64 ((2 ^ 63 - 1 : Nat) : Int) ?_ m (Int.natCast_nonneg m) l 0 hx <;> try omega
  intro i h1 h2
  simp only [inI64, i64Min, i64Max, Bool.and_eq_true, decide_eq_true_eq]
  constructor <;> (apply decide_eq_true; omega)

theorem ints_of_all_ints {xs : List Value} (hx : ∀ v ∈ xs, ∃ i, v = .int i) : ∃ is, ints xs = some is ∧ xs = is.map Value.int := by
  suffices h : ∃ is : List Int, xs = is.map Value.int by
    obtain ⟨is, h⟩ := h; exact ⟨is, ints_eq_some_iff.mpr h, h⟩
  induction xs with
  | nil => exact ⟨[], rfl⟩
  | cons v rest ih =>
    obtain ⟨i, rfl⟩ := hx v (by simp)
    obtain ⟨is, h⟩ := ih (fun w hw => hx w (by simp [hw]))
    exact ⟨i :: is, by rw [h]; rfl⟩

/-- an INT within ±2^20 -/
def smallInt (i : Int) : Prop := -1048576 ≤ i ∧ i ≤ 1048576

theorem sumsOrderFree_of_small_ints {xs : List Value} (hx : ∀ v ∈ xs, ∃ i, v = .int i ∧ smallInt i)
    (hlen : xs.length ≤ 1048576) : SumsOrderFree xs := by
  have hint : ∀ v ∈ xs, ∃ i, v = .int i := fun v hv => let ⟨i, h, _⟩ := hx v hv; ⟨i, h⟩
  obtain ⟨is0, hi0, hxs⟩ := ints_of_all_ints hint
  have hsmall : ∀ i ∈ is0, smallInt i := by
    intro i hi
    obtain ⟨j, hj, hs⟩ := hx (.int i) (by rw [hxs]; exact List.mem_map.mpr ⟨i, hi, rfl⟩)
    cases hj; exact hs
  have hl0 : is0.length ≤ 1048576 := by rw [hxs] at hlen; simpa using hlen
  have hnil : ∀ {α : Type} (f : Value → Option α) (rs : List α), (∀ i, f (.int i) = none) →
      collect (xs.map f) = some rs → rs = [] :=
    fun f rs hf h => collect_map_eq_nil (fun v hv => by obtain ⟨i, rfl⟩ := hint v hv; exact hf i) h
  refine ⟨?_, ?_, ?_, ?_, ?_⟩
  · intro is hi l hp
    rw [hi0] at hi; cases hi
    exact partialSumsOk_i64 (n := 1048576) (m := 1048576) (by decide) (by rw [hp.length_eq]; exact hl0)
      fun x hx' => hsmall x (hp.mem_iff.mp hx')
  · intro is hi l hp
    rw [hi0] at hi; cases hi
    refine partialSumsOk_i64 (n := 1048576) (m := 1048576 * 1048576) (by decide)
      (by rw [hp.length_eq, List.length_map]; exact hl0) fun x hx' => ?_
    obtain ⟨i, hi, rfl⟩ := List.mem_map.mp (hp.mem_iff.mp hx')
    obtain ⟨h1, h2⟩ := hsmall i hi
    have h3 : i.natAbs * i.natAbs ≤ 1048576 * 1048576 := Nat.mul_le_mul (by omega) (by omega)
    rw [show i * i = ((i.natAbs * i.natAbs : Nat) : Int) by rw [Int.natCast_mul]; exact Int.natAbs_mul_self.symm]
    omega
  · intro ns hn l hp
    cases hnil asInterval ns (fun _ => rfl) hn
    rw [List.Perm.eq_nil hp]; rfl
  · intro rs hr
    cases hnil asReal rs (fun _ => rfl) hr
    exact realAddLaws_nil
  · intro rs hr
    cases hnil asReal rs (fun _ => rfl) hr
    exact realAddLaws_nil

/-- NULL, or an INT within ±2^20 (checkable) -/
def smallIntOrNull : Value → Bool
  | .null => true
  | .int i => decide (-1048576 ≤ i) && decide (i ≤ 1048576)
  | _ => false

theorem args_all {O : Oracles} {q : AggStmt} {kind : AggKind} {keyed : List (List Value × Env)} {P : Value → Bool}
    (hv : ∀ r ∈ keyed, (okOf (argument O q r.2 kind)).all P = true) (k : List Value) {vs : List Value}
    (hargs : arguments O q kind (rowsOfKey k keyed) = some vs) : ∀ v ∈ vs, P v = true := by
  intro v hv'
  obtain ⟨env, henv, he⟩ := List.mem_map.mp (collect_mem hargs v hv')
  simp only [rowsOfKey, List.mem_map, List.mem_filter] at henv
  obtain ⟨r, ⟨hr, _⟩, rfl⟩ := henv
  have hs := hv r hr
  rwa [he] at hs

/-- **a checkable sufficient condition for `PermSafe`**: only order-insensitive aggregates, at most 2^20 admitted rows,
and every aggregate's argument on every admitted row is NULL or an INT within ±2^20 -/
theorem permSafe_of_small_ints {O : Oracles} {q : AggStmt} {keyed : List (List Value × Env)}
    (hk : ∀ kind ∈ slotKinds q, orderInsensitive kind = true)
    (hv : ∀ kind ∈ slotKinds q, ∀ r ∈ keyed, (okOf (argument O q r.2 kind)).all smallIntOrNull = true)
    (hlen : keyed.length ≤ 1048576) : PermSafe O q keyed := by
  refine ⟨hk, ?_⟩
  intro k kind vs hkind hargs
  have hmem : ∀ v ∈ nonNull vs, ∃ i, v = .int i ∧ smallInt i := by
    intro v hv'
    simp only [nonNull, List.mem_filter, Bool.not_eq_true'] at hv'
    have hs := args_all (hv kind hkind) k hargs v hv'.1
    cases v <;> simp [smallIntOrNull, Value.isNull, smallInt] at hs hv' ⊢
    exact hs
  have hl : (nonNull vs).length ≤ 1048576 := by
    have h1 : (nonNull vs).length ≤ vs.length := List.length_filter_le _ _
    have h2 := collect_length hargs
    have h3 : (rowsOfKey k keyed).length ≤ keyed.length := by
      simp only [rowsOfKey, List.length_map]; exact List.length_filter_le _ _
    simp only [List.length_map] at h2
    omega
  exact ⟨fun _ => valuesExact_of_ints (fun v hv' => let ⟨i, h, _⟩ := hmem v hv'; ⟨i, h⟩),
         fun _ => sumsOrderFree_of_small_ints hmem hl⟩

theorem reals_of_ints_nil {xs : List Value} (hx : ∀ v ∈ xs, ∃ i, v = .int i) {rs : List Nat} (h : reals xs = some rs) : rs = [] :=
  collect_map_eq_nil (fun v hv => by obtain ⟨i, rfl⟩ := hx v hv; rfl) h

theorem realSplitExact_of_ints {x1 x2 : List Value} (h1 : ∀ v ∈ x1, ∃ i, v = .int i) (h2 : ∀ v ∈ x2, ∃ i, v = .int i) :
    RealSplitExact x1 x2 := by
  intro rs1 rs2 hr1 hr2
  rw [reals_of_ints_nil h1 hr1, reals_of_ints_nil h2 hr2]
  exact realAddLaws_nil

theorem squaresOf_ints {xs s : List Value} (hx : ∀ v ∈ xs, ∃ i, v = .int i) (h : squaresOf xs = some s) : ∀ v ∈ s, ∃ i, v = .int i := by
  obtain ⟨is, hi, _⟩ := ints_of_all_ints hx
  simp only [squaresOf, hi] at h
  split at h
  · simp only [Option.some.injEq] at h
    subst h
    intro v hv
    simp only [List.mem_map] at hv
    obtain ⟨i, _, rfl⟩ := hv
    exact ⟨_, rfl⟩
  · simp at h

/-- the split hypotheses hold when all non-NULL argument values of both parts are INTs: the REAL clauses are then about
the empty list of addends -/
theorem splitExact_of_ints {x1 x2 : List Value} (h1 : ∀ v ∈ x1, ∃ i, v = .int i) (h2 : ∀ v ∈ x2, ∃ i, v = .int i) :
    SplitExact x1 x2 :=
  ⟨realSplitExact_of_ints h1 h2, fun _ _ hs1 hs2 => realSplitExact_of_ints (squaresOf_ints h1 hs1) (squaresOf_ints h2 hs2)⟩

theorem envsOf_perm (t : TableInfo) {l1 l2 : List FileLine} (h : l1.Perm l2) : (envsOf t l1).Perm (envsOf t l2) := by
  unfold envsOf
  exact (h.filter _).map _

/-- the deviation class (D10 / D15) of a permuted input is that of the input, whenever the specification's table exists
for the input and `PermSafe` holds (only its first component is used: every aggregate order-insensitive) -/
theorem deviationClass_perm_of_safe {O : Oracles} {q : AggStmt} {e1 e2 : List Env} (h : e1.Perm e2)
    (hsafe : ∀ keyed, keyedRows O q e1 = some keyed → PermSafe O q keyed) {t : List (List Value)} (ht : table O q e1 = some t) :
    deviationClass O q e2 = deviationClass O q e1 := by
  obtain ⟨rows, hr, -⟩ := table_eq_some ht
  exact (deviationClass_perm (hsafe rows hr).kinds h).symm

/-- the specification's answer for a batch run (table, line count AND deviation class) depends on the multiset of all
input lines only (under `PermSafe`) -/
theorem specBatch_perm {O : Oracles} {qy : Query} {q : AggStmt} (hj : qy.join = none) (joined : List FileLine)
    {f1 f2 : List (List FileLine)} (hp : f1.flatten.Perm f2.flatten)
    (hsafe : ∀ keyed, keyedRows O q (envsOf qy.table f1.flatten) = some keyed → PermSafe O q keyed)
    {a : RunOut × String} (h1 : Spec.Agg.batch O qy q joined f1 = some a) :
    Spec.Agg.batch O qy q joined f2 = some a := by
  obtain ⟨t, ht, rfl⟩ := batch_nojoin_inv hj h1
  have hpe := envsOf_perm qy.table hp
  rw [batch_nojoin_eq O q hj] at h1 ⊢
  rw [← hp.any_eq, ← table_perm hpe hsafe, ← hp.length_eq, deviationClass_perm_of_safe hpe hsafe ht]
  exact h1

end Sqlgrep
