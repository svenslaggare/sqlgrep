import SqlgrepModel.Model.Exec
import SqlgrepModel.Lemmas.ValueOrder
/-
The engine's two hash-bucket tests are value equality: `keySame` (join index, COUNT(DISTINCT …)) is `Value.beq` and
`tupleSame` (DISTINCT rows) is `Value.beqList`, since equal values feed equal hash streams (C16). For C05: looking a key
up in the index built by `joinIndexAdd` is filtering the inserted rows by key equality (order of insertion kept).
-/
namespace Sqlgrep
open Value

/-- bucket equality of the hash index (equal hash stream ∧ `==`) is `==` -/
theorem keySame_eq_beq (a b : Value) : keySame a b = beq a b := by
  unfold keySame
  cases h : beq a b
  · simp
  · simp [hashRepr_eq_of_beq a b h]

/-- the DISTINCT memory's membership test is tuple equality -/
theorem tupleSame_eq_beqList (a b : List Value) : tupleSame a b = beqList a b := by
  unfold tupleSame
  cases h : beqList a b
  · simp
  · simp [hashList_eq_of_beqList a b h]

/-- tuple equality spelled out: the same length, and equal (`Value.beq`, the implementation's `==`) position by position -/
theorem beqList_iff (a b : List Value) :
    beqList a b = true ↔ a.length = b.length ∧ ∀ i (ha : i < a.length) (hb : i < b.length), beq a[i] b[i] = true := by
  induction a generalizing b with
  | nil =>
    cases b with
    | nil => simp [beqList]
    | cons y ys => simp [beqList]
  | cons x xs ih =>
    cases b with
    | nil => simp [beqList]
    | cons y ys =>
      simp only [beqList, Bool.and_eq_true, ih, List.length_cons, Nat.add_right_cancel_iff]
      constructor
      · rintro ⟨hxy, hl, hall⟩
        refine ⟨hl, ?_⟩
        intro i ha hb
        cases i with
        | zero => exact hxy
        | succ i => exact hall i (by simpa using ha) (by simpa using hb)
      · rintro ⟨hl, hall⟩
        refine ⟨hall 0 (by simp) (by simp), hl, ?_⟩
        intro i ha hb
        exact hall (i + 1) (by simpa using ha) (by simpa using hb)

theorem beq_null_left (b : Value) : beq .null b = b.isNull := by
  cases b <;> simp [Value.beq, Value.isNull]

theorem isNull_eq_of_beq {a b : Value} (h : beq a b = true) : a.isNull = b.isNull := by
  cases a <;> cases b <;> simp_all [Value.beq, Value.isNull]

/-- rows whose key (column `ki`) is non-NULL and equal to `k`, in insertion order -/
def matchingRows (ki : Nat) (k : Value) (rows : List (List Value)) : List (List Value) :=
  rows.filter (fun s => !(s.getD ki .null).isNull && beq (s.getD ki .null) k)

/-- the index after inserting `rows` one after the other -/
def buildIndex (ki : Nat) (rows : List (List Value)) (idx : JoinIndex) : JoinIndex :=
  rows.foldl (fun idx s => joinIndexAdd idx (s.getD ki .null) s) idx

/-- the law of the index: a lookup after an insertion. Every bucket test is `beq` (`keySame_eq_beq`), and of `beq` only that
it is an equivalence is used, in four cases: a bucket for `k` exists or not × `beq k q` or not. -/
theorem joinIndexGet_add (idx : JoinIndex) (k : Value) (s : List Value) (q : Value) :
    joinIndexGet (joinIndexAdd idx k s) q =
      if !k.isNull && beq k q then some ((joinIndexGet idx q).getD [] ++ [s]) else joinIndexGet idx q := by
  unfold joinIndexAdd
  by_cases hn : k.isNull = true
  · simp [hn]
  · simp only [hn, Bool.false_eq_true, if_false, Bool.not_false, Bool.true_and]
    by_cases hany : idx.any (fun b => keySame b.1 k) = true
    · simp only [hany, if_true]
      unfold joinIndexGet
      rw [List.find?_map]
      have hcomp : ((fun b : Value × List (List Value) => keySame b.1 q) ∘
          (fun b : Value × List (List Value) => if keySame b.1 k = true then (b.1, b.2 ++ [s]) else b)) =
          (fun b => keySame b.1 q) := by
        funext b; simp only [Function.comp]; split <;> rfl
      rw [hcomp]
      cases hf : idx.find? (fun b => keySame b.1 q) with
      | none =>
        have hkq : beq k q = false := by
          cases hkq : beq k q
          · rfl
          · exfalso
            rw [List.any_eq_true] at hany
            obtain ⟨b, hb, hbk⟩ := hany
            have := List.find?_eq_none.1 hf b hb
            rw [keySame_eq_beq] at hbk this
            exact this (beq_trans hbk hkq)
        simp [hkq]
      | some b =>
        have hbq : beq b.1 q = true := by
          have := List.find?_some hf
          rwa [keySame_eq_beq] at this
        by_cases hkq : beq k q = true
        · have : keySame b.1 k = true := by
            rw [keySame_eq_beq]; exact beq_trans hbq (by rw [beq_symm]; exact hkq)
          simp [hkq, this]
        · have : ¬ keySame b.1 k = true := by
            rw [keySame_eq_beq]; intro hbk
            exact hkq (beq_trans (by rw [beq_symm]; exact hbk) hbq)
          simp [hkq, this]
    · simp only [hany, Bool.false_eq_true, if_false]
      unfold joinIndexGet
      rw [List.find?_append]
      have hnone : ∀ b ∈ idx, ¬ keySame b.1 k = true := by
        intro b hb hbk
        exact hany (List.any_eq_true.2 ⟨b, hb, hbk⟩)
      by_cases hkq : beq k q = true
      · have hf : idx.find? (fun b => keySame b.1 q) = none := by
          rw [List.find?_eq_none]
          intro b hb hbq
          simp only [keySame_eq_beq] at hbq
          refine hnone b hb ?_
          rw [keySame_eq_beq]
          exact beq_trans hbq (by rw [beq_symm]; exact hkq)
        rw [hf]
        simp [hkq, keySame_eq_beq]
      · have : keySame k q = false := by rw [keySame_eq_beq]; simpa using hkq
        cases hf : idx.find? (fun b => keySame b.1 q) <;> simp [hkq, this, List.find?]

theorem joinIndexGet_build (ki : Nat) (rows : List (List Value)) (idx : JoinIndex) (q : Value) :
    joinIndexGet (buildIndex ki rows idx) q =
      if matchingRows ki q rows = [] then joinIndexGet idx q
      else some ((joinIndexGet idx q).getD [] ++ matchingRows ki q rows) := by
  induction rows generalizing idx with
  | nil => simp [buildIndex, matchingRows]
  | cons s rest ih =>
    have hstep : buildIndex ki (s :: rest) idx = buildIndex ki rest (joinIndexAdd idx (s.getD ki .null) s) := rfl
    rw [hstep, ih, joinIndexGet_add]
    by_cases hm : (!(s.getD ki .null).isNull && beq (s.getD ki .null) q) = true
    · have hmr : matchingRows ki q (s :: rest) = s :: matchingRows ki q rest := by
        simp only [matchingRows, List.filter_cons, hm, if_true]
      rw [hmr]
      simp only [hm, if_true]
      by_cases he : matchingRows ki q rest = []
      · simp [he]
      · simp [he]
    · have hmr : matchingRows ki q (s :: rest) = matchingRows ki q rest := by
        simp only [matchingRows, List.filter_cons, hm]
        simp
      rw [hmr]
      simp only [hm]
      simp

theorem loadFold_eq_build (ki : Nat) (lines : List Line) (idx : JoinIndex) :
    lines.foldl (fun idx l => if anyResult l.row then joinIndexAdd idx (l.row.getD ki .null) l.row else idx) idx =
      buildIndex ki ((lines.filter (fun l => anyResult l.row)).map (·.row)) idx := by
  induction lines generalizing idx with
  | nil => rfl
  | cons l rest ih =>
    simp only [List.foldl_cons, List.filter_cons]
    by_cases ha : anyResult l.row = true
    · simp only [ha, if_true, List.map_cons]
      rw [ih]; rfl
    · simp only [ha, Bool.false_eq_true, if_false]
      rw [ih]

/-- **hash-bucket lookup = filter**: looking `q` up in the index loaded from the joined lines gives the
admitted joined rows whose key is non-NULL and equal to `q`, in file order (`none` when there are none) -/
theorem joinIndexGet_loadJoin (j : JoinInfo) (lines : List Line) (idx : JoinIndex) (ki : Nat)
    (hk : indexOf? j.joined.columns j.joinedColumn = some ki) (hl : loadJoin j lines = .ok idx) (q : Value) :
    joinIndexGet idx q =
      let ps := matchingRows ki q ((lines.filter (fun l => anyResult l.row)).map (·.row))
      if ps = [] then none else some ps := by
  unfold loadJoin at hl
  rw [hk] at hl
  simp only [Outcome.ok.injEq] at hl
  rw [← hl, loadFold_eq_build, joinIndexGet_build]
  simp [joinIndexGet]

end Sqlgrep
