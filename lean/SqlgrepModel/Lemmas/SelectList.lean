import SqlgrepModel.Spec.Select
/-
List algebra of the select specification (`Spec/Select.lean`): first occurrences (`dedupFrom`, `dedupFirst`,
`dedupBlocks`), prefixes of a stream grouped into blocks (`takeBlocks`, `consumed`), and — proved for its own sake, no
other file uses it — the insensitivity of all of them to empty blocks (lines that contribute no row).
-/
namespace Sqlgrep.Spec.Select
open Sqlgrep

variable {α : Type}

@[simp] theorem dedupFrom_nil (same : α → α → Bool) (seen : List α) : dedupFrom same seen [] = [] := rfl

theorem dedupFrom_append (same : α → α → Bool) (seen a b : List α) :
    dedupFrom same seen (a ++ b) =
      dedupFrom same seen a ++ dedupFrom same ((dedupFrom same seen a).reverse ++ seen) b := by
  induction a generalizing seen with
  | nil => simp
  | cons x xs ih =>
    simp only [List.cons_append, dedupFrom]
    by_cases h : seen.any (same x) = true
    · simp only [h, if_true]; exact ih seen
    · simp only [h]
      rw [ih (x :: seen)]
      simp

theorem dedupBlocks_flatten (same : α → α → Bool) (seen : List α) (bs : List (List α)) :
    (dedupBlocks same seen bs).flatten = dedupFrom same seen bs.flatten := by
  induction bs generalizing seen with
  | nil => rfl
  | cons b bs ih =>
    simp only [dedupBlocks, List.flatten_cons, dedupFrom_append, ih]

@[simp] theorem dedupBlocks_length (same : α → α → Bool) (seen : List α) (bs : List (List α)) :
    (dedupBlocks same seen bs).length = bs.length := by
  induction bs generalizing seen with
  | nil => rfl
  | cons b bs ih => simp [dedupBlocks, ih]

/-- **a row is output exactly when no earlier output row is the same**: appending one more row `x` to the input
appends `x` to the output iff none of the rows output so far is the same as `x`; nothing else changes -/
theorem dedupFirst_snoc (same : α → α → Bool) (xs : List α) (x : α) :
    dedupFirst same (xs ++ [x]) =
      dedupFirst same xs ++ (if (dedupFirst same xs).any (same x) then [] else [x]) := by
  unfold dedupFirst
  rw [dedupFrom_append]
  simp only [List.append_nil, dedupFrom, List.any_reverse]

theorem dedupFrom_sublist (same : α → α → Bool) (seen xs : List α) : (dedupFrom same seen xs).Sublist xs := by
  induction xs generalizing seen with
  | nil => exact List.Sublist.slnil
  | cons x xs ih =>
    simp only [dedupFrom]
    split
    · exact (ih seen).cons x
    · exact (ih (x :: seen)).cons_cons x

/-- an equivalence-like `same` (what C16 proves of `tupleSame`) -/
structure IsEquiv (same : α → α → Bool) : Prop where
  refl : ∀ a, same a a = true
  symm : ∀ a b, same a b = true → same b a = true
  trans : ∀ a b c, same a b = true → same b c = true → same a c = true

theorem dedupFrom_covers (same : α → α → Bool) (h : IsEquiv same) (seen xs : List α) (x : α) (hx : x ∈ xs) :
    (seen.any (same x) || (dedupFrom same seen xs).any (same x)) = true := by
  induction xs generalizing seen with
  | nil => cases hx
  | cons y ys ih =>
    simp only [dedupFrom]
    rcases List.mem_cons.1 hx with rfl | hmem
    · by_cases hs : seen.any (same x) = true
      · simp [hs]
      · simp [hs, h.refl]
    · by_cases hs : seen.any (same y) = true
      · simp only [hs, if_true]; exact ih seen hmem
      · have := ih (y :: seen) hmem
        simp only [hs, Bool.false_eq_true, if_false, List.any_cons, Bool.or_eq_true] at this ⊢
        rcases this with (h1 | h1) | h1
        · exact Or.inr (Or.inl h1)
        · exact Or.inl h1
        · exact Or.inr (Or.inr h1)

/-- for an equivalence, "no earlier OUTPUT row is the same" and "no earlier row at all is the same" coincide -/
theorem dedupFirst_any_eq (same : α → α → Bool) (h : IsEquiv same) (xs : List α) (x : α) :
    (dedupFirst same xs).any (same x) = xs.any (same x) := by
  cases hr : xs.any (same x) with
  | true =>
    obtain ⟨y, hy, hxy⟩ := List.any_eq_true.1 hr
    have hc := dedupFrom_covers same h [] xs y hy
    simp only [List.any_nil, Bool.false_or] at hc
    obtain ⟨z, hz, hyz⟩ := List.any_eq_true.1 hc
    exact List.any_eq_true.2 ⟨z, hz, h.trans _ _ _ hxy hyz⟩
  | false =>
    cases hl : (dedupFirst same xs).any (same x) with
    | false => rfl
    | true =>
      obtain ⟨z, hz, hxz⟩ := List.any_eq_true.1 hl
      have : xs.any (same x) = true := List.any_eq_true.2 ⟨z, (dedupFrom_sublist same [] xs).subset hz, hxz⟩
      rw [hr] at this; cases this

/-- the same statement in the form of the property sentence, against ALL earlier rows -/
theorem dedupFirst_snoc_equiv (same : α → α → Bool) (h : IsEquiv same) (xs : List α) (x : α) :
    dedupFirst same (xs ++ [x]) = dedupFirst same xs ++ (if xs.any (same x) then [] else [x]) := by
  rw [dedupFirst_snoc, dedupFirst_any_eq same h]

theorem dedupFrom_pairwise (same : α → α → Bool) (h : IsEquiv same) (seen xs : List α) :
    (dedupFrom same seen xs).Pairwise (fun a b => same a b = false) ∧
      ∀ a ∈ dedupFrom same seen xs, seen.any (same a) = false := by
  induction xs generalizing seen with
  | nil => exact ⟨List.Pairwise.nil, fun a ha => by cases ha⟩
  | cons x xs ih =>
    simp only [dedupFrom]
    by_cases hs : seen.any (same x) = true
    · simp only [hs, if_true]; exact ih seen
    · simp only [hs]
      obtain ⟨hp, hn⟩ := ih (x :: seen)
      refine ⟨List.Pairwise.cons ?_ hp, ?_⟩
      · intro a ha
        have := hn a ha
        simp only [List.any_cons, Bool.or_eq_false_iff] at this
        cases hxa : same x a with
        | false => rfl
        | true => rw [h.symm _ _ hxa] at this; exact absurd this.1 (by simp)
      · intro a ha
        rcases List.mem_cons.1 ha with rfl | ha
        · simpa using hs
        · have := hn a ha
          simp only [List.any_cons, Bool.or_eq_false_iff] at this
          exact this.2

theorem takeBlocks_flatten (n : Nat) (bs : List (List α)) : (takeBlocks n bs).flatten = bs.flatten.take n := by
  induction bs generalizing n with
  | nil => simp [takeBlocks]
  | cons b bs ih => simp only [takeBlocks, List.flatten_cons, ih, List.take_append]

@[simp] theorem takeBlocks_length (n : Nat) (bs : List (List α)) : (takeBlocks n bs).length = bs.length := by
  induction bs generalizing n with
  | nil => rfl
  | cons b bs ih => simp [takeBlocks, ih]

theorem takeBlocks_zero_flatMap {β : Type} (f : List α → List β) (hf : f [] = []) (bs : List (List α)) :
    (takeBlocks 0 bs).flatMap f = [] := by
  induction bs with
  | nil => rfl
  | cons b bs ih =>
    simp only [takeBlocks, List.take_zero, List.flatMap_cons, hf, List.nil_append, Nat.zero_sub]
    exact ih

theorem takeBlocks_all (n : Nat) (bs : List (List α)) (h : bs.flatten.length ≤ n) : takeBlocks n bs = bs := by
  induction bs generalizing n with
  | nil => rfl
  | cons b bs ih =>
    simp only [List.flatten_cons, List.length_append] at h
    simp only [takeBlocks]
    rw [List.take_of_length_le (by omega), ih _ (by omega)]

theorem consumed_le_length (n : Nat) (bs : List (List α)) : consumed n bs ≤ bs.length := by
  induction bs generalizing n with
  | nil => cases n <;> simp [consumed]
  | cons b bs ih =>
    cases n with
    | zero => simp [consumed]
    | succ n =>
      simp only [consumed, List.length_cons]
      split
      · omega
      · have := ih (n + 1 - b.length); omega

theorem consumed_all (n : Nat) (bs : List (List α)) (h : bs.flatten.length < n) : consumed n bs = bs.length := by
  induction bs generalizing n with
  | nil => cases n <;> simp [consumed]
  | cons b bs ih =>
    simp only [List.flatten_cons, List.length_append] at h
    cases n with
    | zero => omega
    | succ n =>
      simp only [consumed, List.length_cons]
      have : ¬ b.length ≥ n + 1 := by omega
      simp only [this, if_false]
      rw [ih _ (by omega)]; omega

theorem consumed_enough (n : Nat) (bs : List (List α)) (h : n ≤ bs.flatten.length) :
    n ≤ (bs.take (consumed n bs)).flatten.length := by
  induction bs generalizing n with
  | nil => simpa using h
  | cons b bs ih =>
    cases n with
    | zero => omega
    | succ n =>
      simp only [List.flatten_cons, List.length_append] at h
      simp only [consumed]
      split
      · simp; omega
      · have := ih (n + 1 - b.length) (by omega)
        have e : 1 + consumed (n + 1 - b.length) bs = consumed (n + 1 - b.length) bs + 1 := by omega
        rw [e, List.take_succ_cons, List.flatten_cons, List.length_append]
        omega

/-- **consumption bound, against any witness**: whenever the first `i` blocks already hold `n` elements, no
more than `i` blocks are consumed — in particular nothing beyond the block that supplies the n-th element -/
theorem consumed_le_of_enough (n i : Nat) (bs : List (List α)) (h : n ≤ (bs.take i).flatten.length) :
    consumed n bs ≤ i := by
  induction bs generalizing n i with
  | nil => cases n <;> simp [consumed]
  | cons b bs ih =>
    cases n with
    | zero => simp [consumed]
    | succ n =>
      cases i with
      | zero => simp at h
      | succ i =>
        simp only [List.take_succ_cons, List.flatten_cons, List.length_append] at h
        simp only [consumed]
        split
        · omega
        · have := ih (n + 1 - b.length) i (by omega)
          omega

/-- **consumption bound**: the blocks before the last consumed one hold fewer than `n` elements — nothing is
consumed beyond the block that supplies the n-th element -/
theorem consumed_minimal (n : Nat) (bs : List (List α)) :
    ((bs.take (consumed n bs - 1)).flatten.length < n ∨ n = 0) := by
  by_cases h : (bs.take (consumed n bs - 1)).flatten.length < n
  · exact .inl h
  · -- otherwise one block fewer would be enough, so none is consumed, and the empty prefix holds `n` elements
    have hc := consumed_le_of_enough n _ bs (Nat.le_of_not_lt h)
    rw [show consumed n bs - 1 = 0 by omega] at h
    exact .inr (by simpa using h)

/-- the blocks that hold at least one row -/
def nonEmpty (bs : List (List α)) : List (List α) := bs.filter (fun b => !b.isEmpty)

@[simp] theorem nonEmpty_nil : nonEmpty ([] : List (List α)) = [] := rfl
@[simp] theorem nonEmpty_cons_nil (bs : List (List α)) : nonEmpty ([] :: bs) = nonEmpty bs := rfl
theorem nonEmpty_cons_ne (b : List α) (bs : List (List α)) (hb : b ≠ []) : nonEmpty (b :: bs) = b :: nonEmpty bs := by
  cases b with
  | nil => exact absurd rfl hb
  | cons x xs => rfl

/-- a pass over blocks that threads a state (`f s b` from the block, then on from `g s b`) and does nothing at an empty block
yields the same non-empty blocks with the empty input blocks left out -/
theorem nonEmpty_blockwise {σ : Type} {F : σ → List (List α) → List (List α)} {f : σ → List α → List α} {g : σ → List α → σ}
    (Fcons : ∀ s b bs, F s (b :: bs) = f s b :: F (g s b) bs)
    (fnil : ∀ s, f s [] = []) (gnil : ∀ s, g s [] = s) (s : σ) (bs : List (List α)) :
    nonEmpty (F s bs) = nonEmpty (F s (nonEmpty bs)) := by
  induction bs generalizing s with
  | nil => rfl
  | cons b bs ih =>
    by_cases hb : b = []
    · subst hb
      rw [nonEmpty_cons_nil, Fcons, fnil, gnil, nonEmpty_cons_nil]
      exact ih s
    · rw [nonEmpty_cons_ne b bs hb, Fcons, Fcons]
      by_cases hk : f s b = []
      · rw [hk, nonEmpty_cons_nil, nonEmpty_cons_nil]
        exact ih _
      · rw [nonEmpty_cons_ne _ _ hk, nonEmpty_cons_ne _ _ hk, ih]

theorem dedupBlocks_nonEmpty (same : α → α → Bool) (seen : List α) (bs : List (List α)) :
    nonEmpty (dedupBlocks same seen bs) = nonEmpty (dedupBlocks same seen (nonEmpty bs)) :=
  nonEmpty_blockwise (F := dedupBlocks same) (f := dedupFrom same) (g := fun seen b => (dedupFrom same seen b).reverse ++ seen)
    (fun _ _ _ => rfl) (dedupFrom_nil same) (fun _ => rfl) seen bs

theorem takeBlocks_nonEmpty (n : Nat) (bs : List (List α)) :
    nonEmpty (takeBlocks n bs) = nonEmpty (takeBlocks n (nonEmpty bs)) :=
  nonEmpty_blockwise (F := takeBlocks) (f := fun n b => b.take n) (g := fun n b => n - b.length)
    (fun _ _ _ => rfl) (fun _ => List.take_nil) (fun _ => rfl) n bs

theorem flatMap_nonEmpty {β : Type} (f : List α → List β) (hf : f [] = []) (bs : List (List α)) :
    (nonEmpty bs).flatMap f = bs.flatMap f := by
  induction bs with
  | nil => rfl
  | cons b bs ih =>
    by_cases hb : b = []
    · subst hb; simp only [nonEmpty_cons_nil, List.flatMap_cons, hf, List.nil_append]; exact ih
    · rw [nonEmpty_cons_ne b bs hb]; simp only [List.flatMap_cons, ih]

end Sqlgrep.Spec.Select
