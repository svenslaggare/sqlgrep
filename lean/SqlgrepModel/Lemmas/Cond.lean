import SqlgrepModel.Lemmas.Faults
/-
Conditions (`condHolds`, = `condition_holds` of expression_execution.rs) value by value: a BOOLEAN holds or not, NULL does
not hold, any other value is a type error, never a panic or a missing fact; and the one-step unfoldings of the two evaluator
nodes that evaluate conditions (`eval_boolOp`, `evalCase_cons`). The proofs about WHERE / AND / OR (`Props/C03*.lean`) use
`condHolds_bool`, `condHolds_typeError` and `eval_boolOp`; `evalCase_cons` and the other characterisations of `condHolds` are
here for whoever proves something about CASE.
-/
namespace Sqlgrep

@[simp] theorem condHolds_bool (b : Bool) : condHolds (.bool b) = .ok b := rfl
@[simp] theorem condHolds_null : condHolds .null = .ok false := rfl

theorem condHolds_ok_iff (v : Value) (b : Bool) :
    condHolds v = .ok b ↔ v = .bool b ∨ (v = .null ∧ b = false) := by
  cases v <;> simp [condHolds, eq_comm]

theorem condHolds_error_iff (v : Value) (k : ErrKind) :
    condHolds v = .error k ↔ k = .typeError ∧ v ≠ .null ∧ ∀ b, v ≠ .bool b := by
  cases v <;> simp [condHolds, eq_comm]

theorem condHolds_typeError (v : Value) (hn : v ≠ .null) (hb : ∀ b, v ≠ .bool b) : condHolds v = .error .typeError :=
  (condHolds_error_iff v _).2 ⟨rfl, hn, hb⟩

theorem condHolds_not_panic (v : Value) (s : String) : condHolds v ≠ .panic s :=
  (condHolds_faults (M := fun _ => False) v).ne_panic s

theorem condHolds_not_missing (v : Value) (w : String) : condHolds v ≠ .oracleMissing w :=
  (condHolds_faults (P := fun _ => False) v).ne_missing w

theorem condHolds_cases (v : Value) : (∃ b, condHolds v = .ok b) ∨ condHolds v = .error .typeError := by
  cases v <;> simp [condHolds]

/-- one step of AND / OR: the left operand is a condition; the right one is evaluated (and must be a condition) exactly
when the left one does not decide -/
theorem eval_boolOp (O : Oracles) (env : Env) (isAnd : Bool) (l r : Expr) :
    eval O env (.boolOp isAnd l r) =
      (eval O env l).bind (fun lv => (condHolds lv).bind (fun lb =>
        if lb = isAnd then
          (eval O env r).bind (fun rv => (condHolds rv).bind (fun rb => .ok (.bool rb)))
        else .ok (.bool lb))) := by
  simp only [eval]
  refine congrArg (Outcome.bind _) (funext fun lv => congrArg (Outcome.bind _) (funext fun lb => ?_))
  cases lb <;> cases isAnd <;> rfl

/-- one step of CASE: the WHEN expression is a condition -/
theorem evalCase_cons (O : Oracles) (env : Env) (c r : Expr) (rest : List (Expr × Expr)) :
    evalCase O env ((c, r) :: rest) =
      (eval O env c).bind (fun cv => (condHolds cv).bind (fun cb =>
        if cb then (eval O env r).bind (fun v => .ok (some v)) else evalCase O env rest)) := by
  simp only [evalCase, bind, pure]

end Sqlgrep
