import SqlgrepModel.Lemmas.LowerNames
import SqlgrepModel.Lemmas.ParseStripStmt
/-
The lowering reads a tree's locations only to put them into errors: lowering a tree with every location erased
gives the same statement, and the same error kind (at the default location).
`lowerStatement rv t.eraseLoc = (lowerStatement rv t).mapErr CErr.strip`: the relabelling of `Lemmas/LowerNames.lean`
that sends every location to the default one and leaves the names alone (`PExpr.eraseLoc_eq_mapAll`).
-/
namespace Sqlgrep

def CErr.strip (e : CErr) : CErr := ⟨default, e.kind⟩

namespace Lower

theorem strip_eq_relabel : CErr.strip = CErr.relabel (fun _ => default) id := by
  funext ⟨l, k⟩; cases k <;> rfl

theorem eraseLoc_op_eq_relabel (t : POp) : t.eraseLoc = t.relabel (fun _ => default) id := by
  have h1 := funext PExpr.eraseLoc_eq_mapAll.1
  have h2 := funext PExpr.eraseLoc_eq_mapAll.2.1
  cases t with
  | select q => simp only [POp.eraseLoc, POp.relabel, PSelect.relabel, eraseProj, h1, h2]
  | createTable c => rfl
  | multiple cs => rfl

theorem eraseLocs_length : ∀ es : List PExpr, (PExpr.eraseLoc.eraseLocs es).length = es.length := by
  intro es; induction es with
  | nil => simp [PExpr.eraseLoc.eraseLocs]
  | cons x xs ih => simp [PExpr.eraseLoc.eraseLocs, ih]

/-- **the lowering reads a tree's locations only into errors** -/
theorem lowerStatement_erase (rv : List Char → Bool) (t : POp) :
    lowerStatement rv t.eraseLoc = (lowerStatement rv t).mapErr CErr.strip := by
  rw [eraseLoc_op_eq_relabel, strip_eq_relabel]
  exact lowerStatement_relabel _ id (fun _ => rfl) rv t

end Lower
end Sqlgrep
