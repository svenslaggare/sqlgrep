import SqlgrepModel.Lemmas.ParseRenameCreate
import SqlgrepModel.Lemmas.LowerLoc
import SqlgrepModel.Lemmas.ParseWithin
/-
Tree locations are token locations — a "theorem for free" of the parser's equivariance under relabelling the locations
(`parseTokens_relabel`, the theorem behind C20 `parser_ignores_locations`): a function that commutes with EVERY
`ℓ : Loc → Loc` can only answer locations it was given. Take for `ℓ` the map that fixes the token locations and sends
every other location to the first token's (`keepLocs`): the token vector is unchanged, so the tree is unchanged, so every
location in it is fixed by `ℓ`, i.e. is a token location.
-/
namespace Sqlgrep

def POp.relabelAll (ℓ : Loc → Loc) (ρ : List Char → List Char) : POp → POp
  | .select q => .select (q.relabelAll ℓ ρ)
  | .createTable c => .createTable (c.relabelAll ℓ ρ)
  | .multiple cs => .multiple (cs.map (PCreate.relabelAll ℓ ρ))

namespace Parse
variable {ℓ : Loc → Loc} {ρ : List Char → List Char}

theorem opOfCreates_relabel (cs : List PCreate) :
    (opOfCreates cs).relabelAll ℓ ρ = opOfCreates (cs.map (PCreate.relabelAll ℓ ρ)) := by
  cases cs with
  | nil => rfl
  | cons c cs => cases cs <;> rfl

theorem parseTokens_relabelLoc (T : PrecTables) (toks : List PTok) :
    parseTokens T (toks.map (PTok.relabelAll ℓ id)) =
      match parseTokens T toks with
      | .tree t => .tree (t.relabelAll ℓ id)
      | .error e => .error (e.relabelAll ℓ id)
      | o => o :=
  parseTokens_relabel fun _ _ _ n => parseOp_relabel
    (parseStatement_morph (Morph.relabel ℓ nameMap_id fun _ => rfl) createNameMap_id (fun _ h => h) (fun _ => rfl)
      opOfCreates_relabel n _)

theorem allLoc_of_fixed {P : Loc → Prop} (hP : ∀ l, ℓ l = l → P l) :
    (∀ e : PExpr, e.mapAll ℓ id id = e → e.AllLoc P) ∧
    (∀ es, PExpr.mapAllList ℓ id id es = es → PExpr.AllLocList P es) ∧
    (∀ cs, PExpr.mapAllClauses ℓ id id cs = cs → PExpr.AllLocClauses P cs) :=
  have hm := Lower.allLoc_mono hP
  have hx := @Lower.mapAll_eq_self_iff ℓ
  ⟨fun e h => hm.1 e ((hx.1 e).1 h), fun es h => hm.2.1 es ((hx.2.1 es).1 h), fun cs h => hm.2.2 cs ((hx.2.2 cs).1 h)⟩

theorem map_fixed {α : Type} {f : α → α} : ∀ {l : List α}, l.map f = l → ∀ x ∈ l, f x = x
  | _ :: _, h, x, hx => by
    simp only [List.map_cons, List.cons.injEq] at h
    rcases List.mem_cons.mp hx with rfl | hx
    · exact h.1
    · exact map_fixed h.2 x hx

theorem op_allLoc_of_fixed {P : Loc → Prop} (hP : ∀ l, ℓ l = l → P l) {t : POp} (h : t.relabelAll ℓ id = t) : t.AllLoc P := by
  have hx := allLoc_of_fixed hP
  cases t with
  | select q =>
    simp only [POp.relabelAll, POp.select.injEq] at h
    have hq := congrArg PSelect.loc h
    have hp := congrArg PSelect.projections h
    have hf := congrArg PSelect.filter h
    have hg := congrArg PSelect.groupBy h
    have hh := congrArg PSelect.having h
    simp only [PSelect.relabelAll] at hq hp hf hg hh
    refine ⟨hP _ hq, fun p hp' => hx.1 _ (congrArg Prod.snd (map_fixed hp p hp')), ?_, ?_, ?_⟩
    · intro e he; rw [he] at hf; exact hx.1 e (Option.some.inj hf)
    · intro ks hk; rw [hk] at hg; exact hx.2.1 ks (Option.some.inj hg)
    · intro e he; rw [he] at hh; exact hx.1 e (Option.some.inj hh)
  | createTable c =>
    simp only [POp.relabelAll, POp.createTable.injEq] at h
    exact hP _ (congrArg PCreate.loc h)
  | multiple cs =>
    simp only [POp.relabelAll, POp.multiple.injEq] at h
    exact fun c hc => hP _ (congrArg PCreate.loc (map_fixed h c hc))

def keepLocs (toks : List PTok) (l₀ l : Loc) : Loc := if l ∈ toks.map (·.loc) then l else l₀

theorem keepLocs_toks (toks : List PTok) (l₀ : Loc) : toks.map (PTok.relabelAll (keepLocs toks l₀) id) = toks := by
  refine (List.map_congr_left fun t ht => ?_).trans (List.map_id' toks)
  have : t.loc ∈ toks.map (·.loc) := List.mem_map_of_mem ht
  simp [PTok.relabelAll, keepLocs, this, Tok.ren_id]

theorem keepLocs_fixed {toks : List PTok} {l₀ l : Loc} (h0 : TokLoc toks l₀) (h : keepLocs toks l₀ l = l) : TokLoc toks l := by
  unfold keepLocs at h
  split at h
  · assumption
  · exact h ▸ h0

theorem tree_locations_free (T : PrecTables) (toks : List PTok) (t : POp) (h : parseTokens T toks = .tree t) :
    t.AllLoc (TokLoc toks) := by
  cases toks with
  | nil => cases h
  | cons t0 ts =>
    have h0 : TokLoc (t0 :: ts) t0.loc := by simp [TokLoc]
    have e := parseTokens_relabelLoc (ℓ := keepLocs (t0 :: ts) t0.loc) T (t0 :: ts)
    rw [keepLocs_toks, h] at e
    exact op_allLoc_of_fixed (fun _ => keepLocs_fixed h0) (ParseOutcome.tree.inj e).symm

end Parse
end Sqlgrep
