import SqlgrepModel.Model.Lower
import SqlgrepModel.Lemmas.ExtractJson
import SqlgrepModel.Lemmas.ParseJson
import SqlgrepModel.Lemmas.SimpAttr
import SqlgrepModel.Lemmas.TreeMap
/-
The lowering (`Model/Lower.lean`) in `bind` form; it does not panic (CREATE TABLE: for JSON paths that are not empty, `PathsOk`)
and reports wrong aggregate arities as errors; what the name-driven leaves do (`lowerBinop_eq`, `lowerUnop_eq`, `lowerCall_eq`,
`lowerCallAggregate_eq`); what the statement functions deliver (`lowerSelect_ok` … `lowerStatement_ok_cases`). Where its errors are
located: `Lemmas/LowerLoc.lean`.
-/
namespace Sqlgrep

def LRes.NoPanic {α : Type} (r : LRes α) : Prop := ∀ s, r ≠ .panic s
/-- `Option::ok_or(e)` -/
def LRes.ofOption {α : Type} (e : CErr) : Option α → LRes α
  | some a => .ok a
  | none => .err e

theorem ite_some_eq_none {α : Type} {c : Prop} [Decidable c] {a : α} {x : Option α} :
    (if c then some a else x) = none ↔ ¬c ∧ x = none := by split <;> simp [*]

theorem LRes.ofOption_ite {α : Type} (e : CErr) (c : Prop) [Decidable c] (a : α) (x : Option α) :
    ofOption e (if c then some a else x) = if c then .ok a else ofOption e x := by split <;> rfl

mutual
/-- `P` holds at the location of every node of the tree -/
def PExpr.AllLoc (P : Loc → Prop) : PExpr → Prop
  | .value l _ | .column l _ | .wildcard l => P l
  | .tuple l vs => P l ∧ PExpr.AllLocList P vs
  | .binop l _ a b | .boolop l _ a b | .nullcmp l _ a b | .index l a b => P l ∧ PExpr.AllLoc P a ∧ PExpr.AllLoc P b
  | .unop l _ e | .invert l e | .cast l e _ => P l ∧ PExpr.AllLoc P e
  | .inList l _ e vs => P l ∧ PExpr.AllLoc P e ∧ PExpr.AllLocList P vs
  | .call l _ args _ => P l ∧ PExpr.AllLocList P args
  | .case l cs els => P l ∧ PExpr.AllLocClauses P cs ∧ PExpr.AllLoc P els
def PExpr.AllLocList (P : Loc → Prop) : List PExpr → Prop
  | [] => True
  | x :: xs => PExpr.AllLoc P x ∧ PExpr.AllLocList P xs
def PExpr.AllLocClauses (P : Loc → Prop) : List (PExpr × PExpr) → Prop
  | [] => True
  | (c, r) :: xs => PExpr.AllLoc P c ∧ PExpr.AllLoc P r ∧ PExpr.AllLocClauses P xs
end

namespace Lower

/-! ### the bodies in `bind` form

As in the parser (`Lemmas/ParseBind.lean`): the written-out `match x with | .ok a => f a | .err e => .err e | .panic s => .panic s`
of the lowering is `x.bind f`, one equation per compiled matcher; `simp only [lower_bind]` brings a body into `bind` form. -/

section
variable {β : Type}

@[lower_bind] theorem lowerPlain.match_1_eq_bind (x : LRes Expr) (f : Expr → LRes β) :
    lowerPlain.match_1 (fun _ => LRes β) x f (fun e => .err e) (fun s => .panic s) = x.bind f := by cases x <;> rfl
@[lower_bind] theorem lowerPlain.match_3_eq_bind (x : LRes (List Expr)) (f : List Expr → LRes β) :
    lowerPlain.match_3 (fun _ => LRes β) x f (fun e => .err e) (fun s => .panic s) = x.bind f := by cases x <;> rfl
@[lower_bind] theorem lowerPlain.match_5_eq_bind (x : LRes (List (Expr × Expr))) (f : List (Expr × Expr) → LRes β) :
    lowerPlain.match_5 (fun _ => LRes β) x f (fun e => .err e) (fun s => .panic s) = x.bind f := by cases x <;> rfl
@[lower_bind] theorem lowerHaving.match_1_eq_bind (x : LRes (Expr × HState)) (f : Expr → HState → LRes β) :
    lowerHaving.match_1 (fun _ => LRes β) x f (fun e => .err e) (fun s => .panic s) = x.bind fun p => f p.1 p.2 := by
  cases x <;> rfl
@[lower_bind] theorem lowerHaving.match_3_eq_bind (x : LRes (List Expr × HState)) (f : List Expr → HState → LRes β) :
    lowerHaving.match_3 (fun _ => LRes β) x f (fun e => .err e) (fun s => .panic s) = x.bind fun p => f p.1 p.2 := by
  cases x <;> rfl
@[lower_bind] theorem lowerHaving.match_7_eq_bind (x : LRes (List (Expr × Expr) × HState))
    (f : List (Expr × Expr) → HState → LRes β) :
    lowerHaving.match_7 (fun _ => LRes β) x f (fun e => .err e) (fun s => .panic s) = x.bind fun p => f p.1 p.2 := by
  cases x <;> rfl
@[lower_bind] theorem lowerHavingOpt.match_1_eq_bind (x : LRes (Expr × HState)) (f : Expr × HState → LRes β) :
    lowerHavingOpt.match_1 (fun _ => LRes β) x f (fun e => .err e) (fun s => .panic s) = x.bind f := by cases x <;> rfl
@[lower_bind] theorem lowerAggregate.match_1_eq_bind (x : LRes (String × AggKind)) (f : String → AggKind → LRes β) :
    lowerAggregate.match_1 (fun _ => LRes β) x f (fun e => .err e) (fun s => .panic s) = x.bind fun p => f p.1 p.2 := by
  cases x <;> rfl
@[lower_bind] theorem lowerItems.match_1_eq_bind (x : LRes (List AggItem)) (f : List AggItem → LRes β) :
    lowerItems.match_1 (fun _ => LRes β) x f (fun e => .err e) (fun s => .panic s) = x.bind f := by cases x <;> rfl
@[lower_bind] theorem lowerItems.match_3_eq_bind (x : LRes (Option String × AggKind × Option Expr))
    (f : Option String → AggKind → Option Expr → LRes β) :
    lowerItems.match_3 (fun _ => LRes β) x f (fun e => .err e) (fun s => .panic s) = x.bind fun p => f p.1 p.2.1 p.2.2 := by
  cases x <;> rfl
@[lower_bind] theorem lowerProjections.match_1_eq_bind (x : LRes (List (String × Expr))) (f : List (String × Expr) → LRes β) :
    lowerProjections.match_1 (fun _ => LRes β) x f (fun e => .err e) (fun s => .panic s) = x.bind f := by cases x <;> rfl
@[lower_bind] theorem lowerSelect.match_1_eq_bind (x : LRes (Option LJoin)) (f : Option LJoin → LRes β) :
    lowerSelect.match_1 (fun _ => LRes β) x f (fun e => .err e) (fun s => .panic s) = x.bind f := by cases x <;> rfl
@[lower_bind] theorem lowerSelect.match_3_eq_bind (x : LRes (Option Expr)) (f : Option Expr → LRes β) :
    lowerSelect.match_3 (fun _ => LRes β) x f (fun e => .err e) (fun s => .panic s) = x.bind f := by cases x <;> rfl
@[lower_bind] theorem lowerAggregateStmt.match_1_eq_bind (x : LRes (Option (List Expr))) (f : Option (List Expr) → LRes β) :
    lowerAggregateStmt.match_1 (fun _ => LRes β) x f (fun e => .err e) (fun s => .panic s) = x.bind f := by cases x <;> rfl
@[lower_bind] theorem lowerAggregateStmt.match_3_eq_bind (x : LRes (Option (Expr × HState)))
    (f : Option (Expr × HState) → LRes β) :
    lowerAggregateStmt.match_3 (fun _ => LRes β) x f (fun e => .err e) (fun s => .panic s) = x.bind f := by cases x <;> rfl
@[lower_bind] theorem lowerColumns.match_1_eq_bind (x : LRes (List Extract.Column)) (f : List Extract.Column → LRes β) :
    lowerColumns.match_1 (fun _ => LRes β) x f (fun e => .err e) (fun s => .panic s) = x.bind f := by cases x <;> rfl
@[lower_bind] theorem lowerColumns.match_3_eq_bind (x : LRes Extract.Parsing) (f : Extract.Parsing → LRes β) :
    lowerColumns.match_3 (fun _ => LRes β) x f (fun e => .err e) (fun s => .panic s) = x.bind f := by cases x <;> rfl
@[lower_bind] theorem lowerCreates.match_1_eq_bind (x : LRes (List LStmt)) (f : List LStmt → LRes β) :
    lowerCreates.match_1 (fun _ => LRes β) x f (fun e => .err e) (fun s => .panic s) = x.bind f := by cases x <;> rfl
@[lower_bind] theorem lowerCreates.match_3_eq_bind (x : LRes LStmt) (f : LStmt → LRes β) :
    lowerCreates.match_3 (fun _ => LRes β) x f (fun e => .err e) (fun s => .panic s) = x.bind f := by cases x <;> rfl

end

def binopNode (o : Operator) (l r : Expr) : Option Expr :=
  if o = .single '+' then some (.arith .add l r)
  else if o = .single '-' then some (.arith .sub l r)
  else if o = .single '*' then some (.arith .mul l r)
  else if o = .single '/' then some (.arith .div l r)
  else if o = .single '<' then some (.compare .lt l r)
  else if o = .single '>' then some (.compare .gt l r)
  else if o = .single '=' then some (.compare .eq l r)
  else if o = .dual '!' '=' then some (.compare .ne l r)
  else if o = .dual '>' '=' then some (.compare .ge l r)
  else if o = .dual '<' '=' then some (.compare .le l r)
  else none

theorem lowerBinop_eq (loc o l r) : lowerBinop loc o l r = .ofOption ⟨loc, .undefinedOperator o⟩ (binopNode o l r) := by
  simp only [lowerBinop, binopNode, LRes.ofOption_ite]; rfl

theorem lowerUnop_eq (loc o e) :
    lowerUnop loc o e = .ofOption ⟨loc, .undefinedOperator o⟩ (if o = .single '-' then some (.neg e) else none) := by
  simp only [lowerUnop, LRes.ofOption_ite]; rfl

theorem lowerCall_eq (loc n args) :
    lowerCall loc n args = .ofOption ⟨loc, .undefinedFunction n⟩ ((functionOfName n).map (.call · args)) := by
  unfold lowerCall; cases functionOfName n <;> rfl

/-- what `count` accepts as its argument: `*` (no column) or a column -/
def countArg : Expr → Option (Option String)
  | .wildcard => some none
  | .column c => some (some c)
  | _ => none
/-- a `REAL` literal: the fraction of `percentile` -/
def realArg : Expr → Option Nat
  | .value (.real p) => some p
  | _ => none
/-- a `TEXT` literal: the delimiter of `string_agg` -/
def textArg : Expr → Option Bytes
  | .value (.text t) => some t
  | _ => none

section
variable {β : Type}

theorem lowerCallAggregate.match_1_eq (f : Option String → β) (E : CErr) (x : LRes Expr) :
    lowerCallAggregate.match_1 (fun _ => LRes β) x (fun _ => .ok (f none)) (fun c => .ok (f (some c))) (fun _ => .err E)
      (fun e => .err e) (fun s => .panic s) = x.bind fun e => .ofOption E ((countArg e).map f) := by
  rcases x with (_ | _) | _ | _ <;> rfl
@[lower_bind] theorem lowerCallAggregate.match_4_eq (f : AggKind → β) (E : CErr) (x : Option AggKind) :
    lowerCallAggregate.match_4 (fun _ => LRes β) x (fun k => .ok (f k)) (fun _ => .err E) = .ofOption E (x.map f) := by
  cases x <;> rfl
@[lower_bind] theorem lowerCallAggregate.match_6_eq (f : Nat → β) (E : CErr) (x : Expr) :
    lowerCallAggregate.match_6 (fun _ => LRes β) x (fun p => .ok (f p)) (fun _ => .err E) = .ofOption E ((realArg x).map f) := by
  cases x with | value v => cases v <;> rfl | _ => rfl
@[lower_bind] theorem lowerCallAggregate.match_10_eq (f : Bytes → β) (E : CErr) (x : Expr) :
    lowerCallAggregate.match_10 (fun _ => LRes β) x (fun t => .ok (f t)) (fun _ => .err E) = .ofOption E ((textArg x).map f) := by
  cases x with | value v => cases v <;> rfl | _ => rfl

end

/-- `transform_call_aggregate` by the number of arguments: the length tests in front of the `arguments.remove(0)`
sites are resolved, so no panic site is left; every error raised here is a failed lookup -/
theorem lowerCallAggregate_eq (loc name args d i) :
    lowerCallAggregate loc name args d i =
      if str (lowerChars name) = "count" then
        match args with
        | [] => .ok ("count" ++ toString i, .count none (d.getD false))
        | [a] => (lowerPlain a).bind fun e => .ofOption ⟨PExpr.loc a, .expectedColumnAccess⟩
            ((countArg e).map fun c => ("count" ++ toString i, .count c (d.getD false)))
        | _ => .err ⟨loc, .tooManyArguments⟩
      else if aggregateNames.contains (str (lowerChars name)) then
        match args with
        | [] => .err ⟨loc, .expectedArgument⟩
        | [a] => (lowerPlain a).bind fun e => .ofOption ⟨loc, .expectedArgument⟩
            ((aggOfName1 (str (lowerChars name)) e).map fun k => (str (lowerChars name) ++ toString i, k))
        | [a, b] => (lowerPlain a).bind fun e => (lowerPlain b).bind fun x =>
          if str (lowerChars name) = "percentile" then .ofOption ⟨loc, .expectedFloat⟩
            ((realArg x).map fun p => (str (lowerChars name) ++ toString i, .percentile e (clamp01 p)))
          else if str (lowerChars name) = "string_agg" then .ofOption ⟨loc, .expectedString⟩
            ((textArg x).map fun t => (str (lowerChars name) ++ toString i, .stringAgg e t))
          else .err ⟨loc, .tooManyArguments⟩
        | _ => .err ⟨loc, .tooManyArguments⟩
      else .err ⟨loc, .undefinedAggregate⟩ := by
  rcases args with _ | ⟨a, _ | ⟨b, _ | ⟨c, rest⟩⟩⟩
  all_goals simp only [lowerCallAggregate, lower_bind, List.isEmpty_nil, List.isEmpty_cons, List.length_nil,
    List.length_cons, Nat.reduceAdd, Nat.reduceEqDiff, Bool.false_eq_true, if_true, if_false]
  rw [lowerCallAggregate.match_1_eq fun c => ("count" ++ toString i, AggKind.count c (d.getD false))]

/-! ### no panic

`simp only [lower_np, *]` settles `NoPanic` of a body in `bind` form: what is left are the calls in it, which the
hypotheses cover. Where the errors are located is in `Lemmas/LowerLoc.lean`. -/

theorem np_ok {α : Type} (a : α) : (LRes.ok a).NoPanic := by intro s; simp
theorem np_err {α : Type} (e : CErr) : (LRes.err e : LRes α).NoPanic := by intro s; simp

end Lower

theorem LRes.NoPanic.bind {α β : Type} {x : LRes α} {f : α → LRes β} (hx : x.NoPanic) (hf : ∀ a, (f a).NoPanic) :
    (x.bind f).NoPanic := by
  cases x with
  | ok a => exact hf a
  | err e => exact Lower.np_err e
  | panic s => exact absurd rfl (hx s)

namespace Lower
variable {α β : Type}

attribute [lower_np] implies_true and_self np_ok np_err

@[lower_np] theorem np_ofOption (e : CErr) (x : Option α) : (LRes.ofOption e x).NoPanic := by
  cases x
  · exact np_err e
  · exact np_ok _
@[lower_np] theorem np_bind_iff {x : LRes α} {f : α → LRes β} :
    (x.bind f).NoPanic ↔ x.NoPanic ∧ ∀ a, x = .ok a → (f a).NoPanic := by
  cases x with
  | ok a => exact ⟨fun h => ⟨np_ok a, fun _ h' => by cases h'; exact h⟩, fun h => h.2 a rfl⟩
  | err e => exact ⟨fun _ => ⟨np_err e, fun _ h' => nomatch h'⟩, fun _ => np_err e⟩
  | panic s => exact ⟨fun h => absurd rfl (h s), fun h => absurd rfl (h.1 s)⟩
@[lower_np] theorem np_ite_iff {c : Prop} [Decidable c] {x y : LRes α} :
    (if c then x else y).NoPanic ↔ (c → x.NoPanic) ∧ (¬c → y.NoPanic) := by
  split <;> simp [*]

theorem lowerPlain_noPanic_all :
    (∀ e, (lowerPlain e).NoPanic) ∧ (∀ es, (lowerPlainList es).NoPanic) ∧ (∀ cs, (lowerPlainClauses cs).NoPanic) := by
  apply PExpr.induct3
  all_goals intros
  all_goals simp only [lowerPlain, lowerPlainList, lowerPlainClauses, lower_bind, lowerBinop_eq, lowerUnop_eq, lowerCall_eq,
    lower_np, *]

theorem lowerPlain_noPanic (e : PExpr) : (lowerPlain e).NoPanic := lowerPlain_noPanic_all.1 e

theorem lowerCallAggregate_noPanic (loc name args distinct index) :
    (lowerCallAggregate loc name args distinct index).NoPanic := by
  rcases args with _ | ⟨a, _ | ⟨b, _ | _⟩⟩
  all_goals simp only [lowerCallAggregate_eq, lower_np, lowerPlain_noPanic]

theorem lowerHaving_noPanic_all :
    (∀ e st, (lowerHaving e st).NoPanic) ∧ (∀ es st, (lowerHavingList es st).NoPanic) ∧
    (∀ cs st, (lowerHavingClauses cs st).NoPanic) := by
  apply PExpr.induct3
  case call =>
    intro l n args d ih st
    have hca := lowerCallAggregate_noPanic l n args d 0
    simp only [lowerHaving, lower_bind, lowerCall_eq]
    cases h : lowerCallAggregate l n args d 0 with
    | ok p => exact np_ok _
    | panic s => exact absurd h (hca s)
    | err e => simp only [lower_np, *]
  all_goals intros
  all_goals simp only [lowerHaving, lowerHavingList, lowerHavingClauses, lower_bind, lowerBinop_eq, lowerUnop_eq, lower_np, *]

theorem lowerX_noPanic : ∀ x, (lowerX x).NoPanic := by
  apply XExpr.rec (motive_1 := fun x => (lowerX x).NoPanic) (motive_2 := fun xs => (lowerXList xs).NoPanic)
  all_goals intros
  all_goals simp only [lowerX, lowerXList, lower_bind, lowerBinop_eq, lowerUnop_eq, lowerCall_eq, lower_np,
    lowerPlain_noPanic, *]

theorem lowerAggregate_noPanic (tree : PExpr) (index : Nat) : (lowerAggregate tree index).NoPanic := by
  have hx := lowerX_noPanic (extractAggregate tree).2.2
  simp only [lowerAggregate, lower_bind]
  split
  · exact np_err _
  split
  · split
    · simp only [lower_np, lowerCallAggregate_noPanic, *]
    · exact np_err _
  · exact .bind (lowerPlain_noPanic _) fun _ => np_ok _

theorem lowerJoin_noPanic (loc f j) : (lowerJoin loc f j).NoPanic := by
  cases j <;> simp only [lowerJoin, lower_np]

theorem lowerOpt_noPanic (o : Option PExpr) : (lowerOpt lowerPlain o).NoPanic := by
  cases o with
  | none => exact np_ok _
  | some e => simp only [lowerOpt, lower_bind]; exact .bind (lowerPlain_noPanic e) fun _ => np_ok _

theorem lowerHavingOpt_noPanic (o : Option PExpr) : (lowerHavingOpt o).NoPanic := by
  cases o with
  | none => exact np_ok _
  | some e => simp only [lowerHavingOpt, lower_bind]; exact .bind (lowerHaving_noPanic_all.1 e _) fun _ => np_ok _

theorem lowerGroupBy_noPanic (o : Option (List PExpr)) : (lowerGroupBy o).NoPanic := by
  cases o with
  | none => exact np_ok _
  | some ks => simp only [lowerGroupBy, lower_bind]; exact .bind (lowerPlain_noPanic_all.2.1 ks) fun _ => np_ok _

theorem lowerProjections_noPanic : ∀ (ps : List (Option (List Char) × PExpr)) (i : Nat), (lowerProjections ps i).NoPanic
  | [], _ => np_ok _
  | (name, tree) :: rest, i => by
    simp only [lowerProjections, lower_bind]
    exact .bind (lowerPlain_noPanic tree) fun _ => .bind (lowerProjections_noPanic rest _) fun _ => np_ok _

theorem lowerItems_noPanic : ∀ (ps : List (Option (List Char) × PExpr)) (i : Nat), (lowerItems ps i).NoPanic
  | [], _ => np_ok _
  | (name, tree) :: rest, i => by
    simp only [lowerItems, lower_bind]
    exact .bind (lowerAggregate_noPanic tree i) fun _ => .bind (lowerItems_noPanic rest _) fun _ => np_ok _

theorem lowerSelect_noPanic (q : PSelect) : (lowerSelect q).NoPanic := by
  simp only [lowerSelect, lower_bind]
  exact .bind (lowerProjections_noPanic _ _) fun _ => .bind (lowerOpt_noPanic _) fun _ =>
    .bind (lowerJoin_noPanic _ _ _) fun _ => np_ok _

theorem lowerAggregateStmt_noPanic (q : PSelect) : (lowerAggregateStmt q).NoPanic := by
  simp only [lowerAggregateStmt, lower_bind]
  exact .bind (lowerItems_noPanic _ _) fun _ => .bind (lowerOpt_noPanic _) fun _ => .bind (lowerHavingOpt_noPanic _) fun _ =>
    .bind (lowerJoin_noPanic _ _ _) fun _ => .bind (lowerGroupBy_noPanic _) fun _ => np_ok _

theorem lowerParsing_noPanic (p : PColParsing) (h : p ≠ .json []) : (lowerParsing p).NoPanic := by
  unfold lowerParsing
  split
  · exact np_ok _
  · exact np_ok _
  · rename_i path
    have hne : path ≠ [] := by intro h0; exact h (by rw [h0])
    have hs := (Extract.fromLinear_spec (path.map lowerStep)).2 (by simpa using hne)
    obtain ⟨a, ha, _⟩ := hs
    intro s
    split
    · simp
    · rename_i hn; rw [ha] at hn; simp at hn

theorem lowerColumns_noPanic : ∀ cs : List PColDef, (∀ c ∈ cs, c.PathOk) → (lowerColumns cs).NoPanic
  | [], _ => np_ok _
  | c :: rest, h => by
    simp only [lowerColumns, lower_bind]
    exact .bind (lowerParsing_noPanic _ (h c (by simp))) fun _ =>
      .bind (lowerColumns_noPanic rest fun c hc => h c (by simp [hc])) fun _ => np_ok _

theorem lowerParsing_noErr (p : PColParsing) (e : CErr) : lowerParsing p ≠ .err e := by
  unfold lowerParsing
  repeat' split
  all_goals simp

theorem bind_ne_err {α β : Type} {x : LRes α} {f : α → LRes β} (hx : ∀ e, x ≠ .err e) (hf : ∀ a e, f a ≠ .err e) (e : CErr) :
    x.bind f ≠ .err e := by
  cases x with
  | ok a => exact hf a e
  | err e' => exact absurd rfl (hx e')
  | panic s => exact fun h => nomatch h

theorem lowerColumns_noErr : ∀ (cs : List PColDef) (e : CErr), lowerColumns cs ≠ .err e
  | [], _ => fun h => nomatch h
  | c :: rest, e => by
    simp only [lowerColumns, lower_bind]
    exact bind_ne_err (lowerParsing_noErr _) (fun _ => bind_ne_err (lowerColumns_noErr rest) fun _ _ h => by cases h) e

theorem lowerCreate_noPanic (rv : List Char → Bool) (c : PCreate) (h : c.PathsOk) : (lowerCreate rv c).NoPanic := by
  simp only [lowerCreate, lower_bind]
  refine .bind (lowerColumns_noPanic c.columns h) fun _ => ?_
  split
  · exact np_ok _
  · exact np_err _

theorem lowerCreates_noPanic (rv : List Char → Bool) : ∀ cs : List PCreate, (∀ c ∈ cs, c.PathsOk) →
    (lowerCreates rv cs).NoPanic
  | [], _ => np_ok _
  | c :: rest, h => by
    simp only [lowerCreates, lower_bind]
    exact .bind (lowerCreate_noPanic rv c (h c (by simp))) fun _ =>
      .bind (lowerCreates_noPanic rv rest fun c hc => h c (by simp [hc])) fun _ => np_ok _

theorem lowerStatement_noPanic (rv : List Char → Bool) (t : POp) (h : t.PathsOk) : (lowerStatement rv t).NoPanic := by
  cases t with
  | select q =>
    simp only [lowerStatement]
    split
    · exact lowerAggregateStmt_noPanic q
    split
    · exact lowerAggregateStmt_noPanic q
    split
    · exact np_err _
    · exact lowerSelect_noPanic q
  | createTable c => exact lowerCreate_noPanic rv c h
  | multiple cs => simp only [lowerStatement, lower_bind]; exact .bind (lowerCreates_noPanic rv cs h) fun _ => np_ok _

/-- the argument counts `transform_call_aggregate` accepts for an aggregate name (lower-cased) -/
def validArity (lname : String) (n : Nat) : Bool :=
  if lname = "count" then n ≤ 1
  else if lname = "percentile" ∨ lname = "string_agg" then n = 2
  else n = 1

theorem aggOfName1_none (lname : String) (e : Expr) (h : aggOfName1 lname e = none) (hn : aggregateNames.contains lname)
    (hc : lname ≠ "count") : lname = "percentile" ∨ lname = "string_agg" := by
  simp only [aggOfName1, ite_some_eq_none] at h
  simp only [aggregateNames, List.contains_cons, List.contains_nil, Bool.or_false, Bool.or_eq_true, beq_iff_eq] at hn
  simp only [hc, h, false_or] at hn
  exact hn

theorem isErr_bind {α β : Type} {x : LRes α} {f : α → LRes β} (hx : x.NoPanic) (hf : ∀ a, ∃ e, f a = .err e) :
    ∃ e, x.bind f = .err e := by
  cases x with
  | ok a => exact hf a
  | err e => exact ⟨e, rfl⟩
  | panic s => exact absurd rfl (hx s)

theorem lowerCallAggregate_arity (loc : Loc) (name : List Char) (args : List PExpr) (distinct : Option Bool) (index : Nat)
    (hname : isAggregateName name = true) (harity : validArity (str (lowerChars name)) args.length = false) :
    ∃ e, lowerCallAggregate loc name args distinct index = .err e := by
  have hp := lowerPlain_noPanic
  unfold isAggregateName at hname
  unfold validArity at harity
  rw [lowerCallAggregate_eq]
  by_cases hc : str (lowerChars name) = "count"
  · rw [if_pos hc] at harity ⊢
    split
    · simp at harity
    · simp at harity
    · exact ⟨_, rfl⟩
  · rw [if_neg hc] at harity ⊢
    rw [if_pos hname]
    split
    · exact ⟨_, rfl⟩
    · split at harity
      · next h2 =>
        refine isErr_bind (hp _) fun e => ?_
        have : aggOfName1 (str (lowerChars name)) e = none := by rcases h2 with h | h <;> simp [h, aggOfName1]
        rw [this]; exact ⟨_, rfl⟩
      · exact absurd harity (by simp)
    · split at harity
      · exact absurd harity (by simp)
      · next h2 =>
        rw [not_or] at h2
        refine isErr_bind (hp _) fun e => isErr_bind (hp _) fun x => ?_
        rw [if_neg h2.1, if_neg h2.2]; exact ⟨_, rfl⟩
    · exact ⟨_, rfl⟩

/-! ### what the statement functions deliver -/

theorem _root_.Sqlgrep.LRes.bind_eq_ok {α β : Type} {x : LRes α} {f : α → LRes β} {b : β} (h : x.bind f = .ok b) :
    ∃ a, x = .ok a ∧ f a = .ok b := by
  cases x with
  | ok a => exact ⟨a, rfl, h⟩
  | err e => cases h
  | panic s => cases h

theorem lowerSelect_ok {q : PSelect} {s : LStmt} (h : lowerSelect q = .ok s) : ∃ a f file j, s = .select a f file j := by
  unfold lowerSelect at h
  repeat' split at h
  all_goals cases h
  exact ⟨_, _, _, _, rfl⟩

theorem lowerColumns_length : ∀ (cs : List PColDef) (cols : List Extract.Column),
    lowerColumns cs = .ok cols → cols.length = cs.length
  | [], cols, h => by cases h; rfl
  | c :: cs, cols, h => by
    rw [lowerColumns] at h
    simp only [lower_bind] at h
    obtain ⟨p, -, h⟩ := LRes.bind_eq_ok h
    obtain ⟨rest, hr, h⟩ := LRes.bind_eq_ok h
    cases h
    exact congrArg (· + 1) (lowerColumns_length cs rest hr)

theorem lowerCreate_shape {rv : List Char → Bool} {c : PCreate} {s : LStmt} (h : lowerCreate rv c = .ok s) :
    ∃ n d cols, s = .createTable n d cols := by
  unfold lowerCreate at h
  repeat' split at h
  all_goals cases h
  exact ⟨_, _, _, rfl⟩

/-- a lowered CREATE TABLE has exactly one column name per column -/
theorem lowerCreate_aligned (rv : List Char → Bool) (c : PCreate) (n : String) (d : Extract.TableDef) (names : List String)
    (h : lowerCreate rv c = .ok (.createTable n d names)) : names.length = d.columns.length := by
  unfold lowerCreate at h
  split at h
  · rename_i cols hc
    split at h
    · simp only [LRes.ok.injEq, LStmt.createTable.injEq] at h
      obtain ⟨_, hd, hn⟩ := h
      subst hd hn
      simp [lowerColumns_length _ _ hc]
    · cases h
  · cases h
  · cases h

/-- every statement of a lowered list of CREATE TABLE statements is the lowering of one of them -/
theorem lowerCreates_mem {rv : List Char → Bool} : ∀ {cs : List PCreate} {ss : List LStmt}, lowerCreates rv cs = .ok ss →
    ss.length = cs.length ∧ ∀ s ∈ ss, ∃ c ∈ cs, lowerCreate rv c = .ok s
  | [], ss, h => by cases h; exact ⟨rfl, nofun⟩
  | c :: cs, ss, h => by
    rw [lowerCreates] at h
    simp only [lower_bind] at h
    obtain ⟨s, hc, h⟩ := LRes.bind_eq_ok h
    obtain ⟨ss', hr, h⟩ := LRes.bind_eq_ok h
    cases h
    obtain ⟨hl, hm⟩ := lowerCreates_mem hr
    refine ⟨congrArg (· + 1) hl, fun x hx => ?_⟩
    rcases List.mem_cons.1 hx with rfl | hx
    · exact ⟨c, List.mem_cons_self, hc⟩
    · obtain ⟨c', hc', e⟩ := hm x hx
      exact ⟨c', List.mem_cons_of_mem _ hc', e⟩

/-- an aggregate statement as the lowering builds it: the aggregates of HAVING are those of the HAVING walk, and without
HAVING nothing was walked -/
theorem lowerAggregateStmt_ok {q : PSelect} {s : LStmt} (h : lowerAggregateStmt q = .ok s) :
    ∃ a f file j, s = .aggregate a f file j ∧ a.havingAggs = havingAggs a.havingVisit ∧
      (a.having = none → a.havingVisit = []) := by
  unfold lowerAggregateStmt at h
  repeat' split at h
  all_goals cases h
  refine ⟨_, _, _, _, rfl, rfl, fun hn => ?_⟩
  rw [Option.map_eq_none_iff.1 hn]
  rfl

/-- the statements `transform_statement` delivers -/
theorem lowerStatement_ok_cases {rv : List Char → Bool} {t : POp} {s : LStmt} (h : lowerStatement rv t = .ok s) :
    (∃ a f file j, s = .select a f file j) ∨
    (∃ a f file j, s = .aggregate a f file j ∧ a.havingAggs = havingAggs a.havingVisit ∧
      (a.having = none → a.havingVisit = [])) ∨
    (∃ c n d cols, t = .createTable c ∧ s = .createTable n d cols ∧ lowerCreate rv c = .ok s) ∨
    (∃ cs ss, t = .multiple cs ∧ s = .multiple ss ∧ lowerCreates rv cs = .ok ss) := by
  cases t with
  | select q =>
    rw [lowerStatement] at h
    split at h
    · exact .inr (.inl (lowerAggregateStmt_ok h))
    · split at h
      · exact .inr (.inl (lowerAggregateStmt_ok h))
      · split at h
        · cases h
        · exact .inl (lowerSelect_ok h)
  | createTable c =>
    obtain ⟨n, d, cols, rfl⟩ := lowerCreate_shape h
    exact .inr (.inr (.inl ⟨c, n, d, cols, rfl, rfl, h⟩))
  | multiple cs =>
    rw [lowerStatement] at h
    simp only [lower_bind] at h
    obtain ⟨ss, hss, h⟩ := LRes.bind_eq_ok h
    cases h
    exact .inr (.inr (.inr ⟨cs, ss, rfl, rfl, hss⟩))

end Lower
end Sqlgrep
