import Lean.Meta.Tactic.Simp.RegisterCommand
/-- equations that turn the parser's written-out propagation of errors into `PRes.bind` -/
register_simp_attr parse_bind
/-- equations that turn the lowering's written-out propagation of errors and panics into `LRes.bind` -/
register_simp_attr lower_bind
/-- equations that move `LRes.mapErr` from a body in `bind` form to its leaves -/
register_simp_attr lower_mapErr
/-- what `LRes.NoPanic` of a body in `bind` form comes down to, construct by construct -/
register_simp_attr lower_np
