import SqlgrepModel.Lemmas.SelectRun
import SqlgrepModel.Lemmas.Answers
import SqlgrepModel.Lemmas.AggColumns
import SqlgrepModel.Lemmas.Folds
/-
Aggregate statements: the batch loop is the update-only feed of the lines (`runFile_agg_feed`); neither LIMIT nor
DISTINCT takes part in updating the aggregation state or in computing the cells of the result; LIMIT only cuts the
final table, DISTINCT only filters the rows of each table.
-/
namespace Sqlgrep
open Sqlgrep.Spec.Select

/-- two aggregate statements that differ at most in LIMIT and DISTINCT -/
structure SameAgg (q q' : AggStmt) : Prop where
  items : q'.items = q.items
  filter : q'.filter = q.filter
  groupBy : q'.groupBy = q.groupBy
  having : q'.having = q.having
  havingAggs : q'.havingAggs = q.havingAggs
  havingVisit : q'.havingVisit = q.havingVisit

def AggStmt.withLimit (q : AggStmt) (lim : Option Nat) : AggStmt := { q with limit := lim }
def AggStmt.withDistinct (q : AggStmt) (d : Bool) : AggStmt := { q with distinct := d }

@[simp] theorem AggStmt.withLimit_limit (q : AggStmt) (lim : Option Nat) : (q.withLimit lim).limit = lim := rfl
@[simp] theorem AggStmt.withLimit_distinct (q : AggStmt) (lim : Option Nat) : (q.withLimit lim).distinct = q.distinct := rfl
@[simp] theorem AggStmt.withDistinct_distinct (q : AggStmt) (d : Bool) : (q.withDistinct d).distinct = d := rfl
@[simp] theorem AggStmt.withDistinct_limit (q : AggStmt) (d : Bool) : (q.withDistinct d).limit = q.limit := rfl

theorem sameAgg_with (q : AggStmt) (lim : Option Nat) (d : Bool) : SameAgg q { q with limit := lim, distinct := d } :=
  ⟨rfl, rfl, rfl, rfl, rfl, rfl⟩

/-- the loop state after `n` lines of a batch run of an aggregate statement that ended in the engine state `es` -/
def afterFeed (ls : LoopState) (es : EngineState) (n : Nat) : LoopState :=
  { ls with es := es, consumed := ls.consumed + n, out := { ls.out with totalLines := ls.out.totalLines + n } }

theorem runFile_agg_feed (O : Oracles) (qy : Query) (q : AggStmt) (hq : qy.stmt = .aggregate q)
    (idx : JoinIndex) (lines : List Line) (ls : LoopState) (hs : ls.stop = false := by rfl) :
    (∀ es', (feedLines O qy idx false lines ls.es).2 = .ok es' →
      runFile O qy idx false none (readableFile lines) ls = afterFeed ls es' lines.length) ∧
    ((∀ es', (feedLines O qy idx false lines ls.es).2 ≠ .ok es') →
      (runFile O qy idx false none (readableFile lines) ls).stop = true ∧
      hasFailed (runFile O qy idx false none (readableFile lines) ls).out = true) := by
  have hsilent := feedLines_forall (fun lo => lo.result = none ∧ lo.reachedLimit = false)
    (fun es l es1 lo hx => ⟨(executeLine_agg_update_out O qy hq idx es es1 l lo hx).1,
      (executeLine_agg_update_out O qy hq idx es es1 l lo hx).2.1⟩) lines ls.es
  obtain ⟨h1, h2⟩ := drive_feed .batch O qy idx false lines ⟨ls, []⟩ hs
    (fun lo hlo => (Mode.batch_cut lo).trans (hsilent lo hlo).2)
  rw [runFile_eq_drive _ _ _ _ _ _ _ hs]
  refine ⟨fun es' he => ?_, fun he => ⟨(h2 he).1, (h2 he).2.1⟩⟩
  have hnil : (feedLines O qy idx false lines ls.es).1.flatMap Mode.batch.text = [] :=
    List.flatMap_eq_nil_iff.2 fun lo hlo => by rw [Mode.text, (hsilent lo hlo).1]
  rw [h1 es' he, Mode.afterAll, hnil, feedLines_length he]
  simp [afterFeed, hs]

variable (O : Oracles) {q q' : AggStmt} (h : SameAgg q q')
include h

theorem validateGroupKey_same (canon : String) : validateGroupKey q' canon = validateGroupKey q canon := by
  simp only [validateGroupKey, h.groupBy]

theorem cellStep_same (env : Env) (k : AggKind) (c : Cell) : cellStep O q' env k c = cellStep O q env k c := by
  cases k <;> simp only [cellStep, validateGroupKey_same h]

theorem updateAggregate_same (env : Env) (key : List Value) (i : Nat) (k : AggKind) (st : AggState) :
    updateAggregate O q' env key i k st = updateAggregate O q env key i k st := by
  simp only [updateAggregate, cellStep_same O h]

theorem updateAggregates_same (env : Env) (key : List Value) (l : List (Nat × AggKind)) (st : AggState) :
    updateAggregates O q' env key l st = updateAggregates O q env key l st := by
  simp only [updateAggregates_eq_foldlM, updateAggregate_same O h]

theorem havingUpdates_same (env : Env) (key : List Value) (l : List HavingRef) (j : Nat) (st : AggState) :
    havingUpdates O q' env key l j st = havingUpdates O q env key l j st := by
  induction l generalizing j st with
  | nil => rfl
  | cons r rest ih =>
    cases r with
    | key canon => simp only [havingUpdates, validateGroupKey_same h, ih]
    | agg id kind => simp only [havingUpdates, updateAggregate_same O h, h.items, ih]

theorem aggUpdateRow_same (st : AggState) (env : Env) : aggUpdateRow O q' st env = aggUpdateRow O q st env := by
  simp only [aggUpdateRow, h.filter, h.groupBy, h.items, h.having, h.havingVisit, updateAggregates_same O h,
    havingUpdates_same O h]

theorem aggEnvs_same (envs : List (Env × List String)) (st : AggState) (any : Bool) :
    aggEnvs O q' envs st any = aggEnvs O q envs st any := by
  simp only [aggEnvs_eq_foldlM, aggUpdateRow_same O h]

theorem keyMapping_same : keyMapping q' = keyMapping q := by
  simp only [keyMapping, h.groupBy]

theorem cellOf_same (idx : Nat) (item : AggItem) (key : List Value) (subs : List (Nat × Value)) :
    cellOf O q' idx item key subs = cellOf O q idx item key subs := by
  simp only [cellOf, keyMapping_same h]

theorem rowOf_same (key : List Value) (subs : List (Nat × Value)) (l : List (Nat × AggItem)) :
    rowOf O q' key subs l = rowOf O q key subs l := by
  simp only [rowOf_eq_seq, cellOf_same O h]

theorem aggColumn_same (i : Nat) (item : AggItem) (gs : List (List Value × List (Nat × Value))) :
    aggColumn O q' i item gs = aggColumn O q i item gs := by
  simp only [aggColumn_eq_seq, cellOf_same O h]

theorem aggColumns_same (gs : List (List Value × List (Nat × Value))) (l : List (Nat × AggItem)) :
    aggColumns O q' gs l = aggColumns O q gs l := by
  simp only [aggColumns_eq_seq, aggColumn_same O h]

theorem acceptGroup_same (having : Expr) (key : List Value) (subs : List (Nat × Value)) :
    acceptGroup O q' having key subs = acceptGroup O q having key subs := by
  simp only [acceptGroup, keyMapping_same h, h.havingAggs, h.items]

omit h in
/-- map over a successful outcome -/
def Outcome.mapOk {α β : Type} (f : α → β) (o : Outcome α) : Outcome β := o.bind (fun a => .ok (f a))

theorem shownRow_same : shownRow O q' = shownRow O q := by
  funext g
  simp only [shownRow, havingOk, rowOf_same O h, h.having, acceptGroup_same O h, h.items]

theorem resultRows_same (hd : q'.distinct = q.distinct) (gs : List (List Value × List (Nat × Value)))
    (seen : List (List Value)) : resultRows O q' gs seen = resultRows O q gs seen := by
  simp only [resultRows_eq_seq, shownRow_same O h, hd]

theorem aggResult_same (hd : q'.distinct = q.distinct) (st : AggState) : aggResult O q' st = aggResult O q st := by
  simp only [aggResult, aggColumns_same O h, resultRows_same O h hd, h.items]

omit h in
/-- DISTINCT on the result rows is `dedupFrom` of the rows without DISTINCT (`keepRows`, the operator of the select engine) -/
theorem resultRows_distinct (h : SameAgg q q') (hd' : q'.distinct = true) (hd : q.distinct = false)
    (gs : List (List Value × List (Nat × Value))) (seen seen0 : List (List Value)) :
    resultRows O q' gs seen =
      Outcome.mapOk (dedupFrom tupleSame seen) (resultRows O q gs seen0) := by
  simp only [resultRows_eq_seq, shownRow_same O h, hd, hd', Outcome.mapOk, Outcome.bind_assoc, Outcome.ok_bind]
  rfl

omit h in
/-- the whole result table with DISTINCT is the table without, each distinct row once at its first occurrence
(fresh memory per table) -/
theorem aggResult_distinct (h : SameAgg q q') (hd' : q'.distinct = true) (hd : q.distinct = false) (st : AggState) :
    aggResult O q' st =
      Outcome.mapOk (fun p => (p.1, { p.2 with rows := dedupFirst tupleSame p.2.rows })) (aggResult O q st) := by
  simp only [aggResult, aggColumns_same O h, h.items, resultRows_distinct O h hd' hd _ [] [], bind, pure]
  cases aggColumns O q (publishPercentiles st).vals (enumFrom 0 q.items) with
  | ok u =>
    simp only [Outcome.bind]
    cases resultRows O q (publishPercentiles st).vals [] <;> rfl
  | _ => rfl

omit h in
theorem finalResult_eq (q : AggStmt) (es : EngineState) :
    finalResult O q es =
      Outcome.mapOk (fun p => match q.limit with
        | some n => { p.2 with rows := p.2.rows.take n }
        | none => p.2) (aggResult O q es.agg) := by
  simp only [finalResult, bind, pure, Outcome.mapOk]
  cases aggResult O q es.agg <;> rfl

/-- the same query with another aggregate statement -/
def Query.withAgg (qy : Query) (q : AggStmt) : Query := { qy with stmt := .aggregate q }

omit h in
theorem executeLine_agg_update_same (h : SameAgg q q') (qy : Query) (hq : qy.stmt = .aggregate q) (idx : JoinIndex)
    (es : EngineState) (l : Line) :
    executeLine O (qy.withAgg q') idx false es l = executeLine O qy idx false es l := by
  have e : ∀ ao, lineEnvs (qy.withAgg q') idx ao l = lineEnvs qy idx ao l := fun _ => rfl
  have e2 : (qy.withAgg q').stmt = .aggregate q' := rfl
  simp only [executeLine, e2, hq, e, aggEnvs_same O h, Bool.false_eq_true, if_false]

omit h in
theorem printResult_single (r : RowOut) : printResult r true = r.rows.map (renderRecord r.columns) := by
  simp [printResult]

omit h in
theorem runFiles_agg_same (h : SameAgg q q') (qy : Query) (idx : JoinIndex)
    (files : List (List FileLine)) (ls : LoopState) :
    runFiles O (qy.withAgg q') idx false none files ls = runFiles O (qy.withAgg q) idx false none files ls :=
  runFiles_congr O _ _ idx false
    (fun es l => executeLine_agg_update_same O h (qy.withAgg q) rfl idx es l) (fun _ => rfl) none files ls

omit h in
theorem runBatch_agg_eq (qy : Query) (q : AggStmt) (joined : List FileLine) (files : List (List FileLine)) :
    runBatch O (qy.withAgg q) joined files none =
      match joinIndexOf qy joined with
      | .ok idx =>
        let ls := runFiles O (qy.withAgg q) idx false none files {}
        if hasFailed ls.out then ls.out
        else match finalResult O q ls.es with
          | .ok r => { ls.out with printed := r.rows.map (renderRecord r.columns) }
          | o => failWith ls.out o
      | o => failWith {} o := by
  rw [runBatch_eq]
  have hj : joinIndexOf (qy.withAgg q) joined = joinIndexOf qy joined := rfl
  rw [hj]
  cases joinIndexOf qy joined with
  | ok idx =>
    have hq : (qy.withAgg q).stmt = .aggregate q := rfl
    have hpr := runFiles_agg_silent O (qy.withAgg q) q hq idx none files {}
    simp only [runWithIndex, hq, Bool.not_true]
    split
    · rfl
    · cases finalResult O q (runFiles O (qy.withAgg q) idx false none files {}).es with
      | ok r =>
        simp only [printResult_single]
        rw [hpr]; rfl
      | _ => rfl
  | _ => rfl

omit h in
/-- **batch aggregate with LIMIT n**: everything is read (same lines counted, same state), and the printed table is
the first n records of the table printed without LIMIT -/
theorem runBatch_agg_limit (qy : Query) (q : AggStmt) (n : Nat) (joined : List FileLine) (files : List (List FileLine))
    (hu : hasFailed (runBatch O (qy.withAgg (q.withLimit none)) joined files none) = false) :
    runBatch O (qy.withAgg (q.withLimit (some n))) joined files none =
      { runBatch O (qy.withAgg (q.withLimit none)) joined files none with
        printed := (runBatch O (qy.withAgg (q.withLimit none)) joined files none).printed.take n } := by
  have hs : SameAgg (q.withLimit none) (q.withLimit (some n)) := ⟨rfl, rfl, rfl, rfl, rfl, rfl⟩
  rw [runBatch_agg_eq] at hu ⊢
  rw [runBatch_agg_eq]
  cases hidx : joinIndexOf qy joined with
  | ok idx =>
    rw [hidx] at hu
    simp only at hu ⊢
    rw [runFiles_agg_same O hs qy idx files {}]
    generalize runFiles O (qy.withAgg (q.withLimit none)) idx false none files {} = ls at hu ⊢
    by_cases hf : hasFailed ls.out = true
    · simp only [hf, if_true] at hu
      cases hu
    · simp only [hf, Bool.false_eq_true, if_false] at hu ⊢
      rw [finalResult_eq, finalResult_eq, aggResult_same O hs rfl] at *
      cases har : aggResult O (q.withLimit none) ls.es.agg with
      | ok p => simp [Outcome.mapOk, Outcome.bind, AggStmt.withLimit_limit, List.map_take]
      | _ => rw [har] at hu; simp [Outcome.mapOk, Outcome.bind, failWith, hasFailed] at hu
  | _ => rw [hidx] at hu; simp [failWith, hasFailed] at hu

end Sqlgrep
