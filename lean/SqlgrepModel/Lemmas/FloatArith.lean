import SqlgrepModel.Model.Float
import SqlgrepModel.Lemmas.FloatOrder
import SqlgrepModel.Lemmas.DecFloat
/-
Laws of the model's REAL arithmetic (`Model/FloatArith.lean`: IEEE-754 `+ − × ÷` as the correctly rounded result of the exact
operation, computed on bit patterns in units of 2^-1074).

* `addX_comm`, `mulX_comm`: commutative, bit for bit (also on NaN / infinite operands: the NaN result is canonical);
* `addX_exact`, `mulX_exact`: when the exact sum / product of two finite REALs is a REAL, that REAL is the result;
* `addX_nearest`, `mulX_nearest`, `divX_nearest`: in general a finite result is a REAL nearest to the exact result
  (`DecFloat.magBits_nearest`; ties to even: `magBits_tie_even`); `addX_sign`;
* `Nice` (finite, a proper 64-bit pattern, not `-0.0`), `eq_of_units_eq` (such patterns are determined by their value),
  `addX_zero_left` (`0.0 + y = y`), `addX_nice`: what `Lemmas/RealSums.lean` needs to discharge `RealAddLaws`;
* `isqrt_spec`: the integer square root used by `sqrtX` is `⌊√n⌋` (the nearest-property of `sqrtX` itself is not proved).
-/
namespace Sqlgrep
namespace F64
open DecFloat (magBits adist)

theorem addX_comm (a b : Nat) : addX a b = addX b a := by
  unfold addX
  cases ha : isNaN a <;> cases hb : isNaN b <;> simp only [Bool.or_false, Bool.or_true, Bool.false_eq_true, if_true, if_false]
  cases ia : isInf a <;> cases ib : isInf b <;> simp only [Bool.false_eq_true, if_true, if_false, Bool.true_and, Bool.false_and]
  · rw [Int.add_comm (units a) (units b), Bool.and_comm (signBit a) (signBit b)]
  · cases sa : signBit a <;> cases sb : signBit b <;> simp

theorem mulX_comm (a b : Nat) : mulX a b = mulX b a := by
  unfold mulX
  cases ha : isNaN a <;> cases hb : isNaN b <;> simp only [Bool.or_false, Bool.or_true, Bool.false_eq_true, if_true, if_false]
  rw [bne_comm (a := signBit a) (b := signBit b)]
  cases ia : isInf a <;> cases ib : isInf b <;> simp only [Bool.false_eq_true, if_true, if_false]
  · rw [Nat.mul_comm (umag a) (umag b)]
  · have : mag b ≠ 0 := by unfold isInf at ib; simp at ib; omega
    have : mag a ≠ 0 := by unfold isInf at ia; simp at ia; omega
    simp [*]

theorem withSign_lt (neg : Bool) (m : Nat) (h : m < 2 ^ 63) : withSign neg m < 2 ^ 64 := by
  unfold withSign signMask; split <;> omega

theorem withSign_signBit_mag {x : Nat} (h : x < 2 ^ 64) : withSign (signBit x) (mag x) = x := by
  by_cases hs : x < 2 ^ 63
  · rw [signBit_of_lt hs, mag_of_lt hs]; rfl
  · obtain ⟨m, rfl⟩ : ∃ m, x = withSign true m := ⟨x - 2 ^ 63, by show x = 2 ^ 63 + (x - 2 ^ 63); omega⟩
    have hm : m < 2 ^ 63 := by have : withSign true m = 2 ^ 63 + m := rfl; omega
    rw [signBit_withSign true m hm, mag_withSign true m hm]

theorem umag_mag (n : Nat) : umag (mag n) = umag n := by
  rw [umag_eq_W, umag_eq_W, expBits_eq, fracBits_eq, mag_of_lt (mag_lt n), ← expBits_eq, ← fracBits_eq]

theorem umag_withSign (neg : Bool) (m : Nat) (h : m < 2 ^ 63) : umag (withSign neg m) = umag m := by
  rw [← umag_mag, mag_withSign neg m h]

theorem units_withSign (neg : Bool) (m : Nat) (h : m < 2 ^ 63) :
    units (withSign neg m) = if neg then -(umag m : Int) else (umag m : Int) := by
  unfold units; rw [signBit_withSign neg m h, umag_withSign neg m h]

theorem isFinite_withSign (neg : Bool) (m : Nat) (h : m < 0x7ff0000000000000) : isFinite (withSign neg m) = true := by
  rw [isFinite_iff, mag_withSign neg m (Nat.lt_trans h (by decide))]; exact h

/-- negation takes `2^63` away or adds it, and the magnitude is read modulo `2^63` -/
theorem mag_negX (a : Nat) : mag (negX a) = mag a := by
  unfold negX mag
  split
  · rename_i h
    have h63 : 2 ^ 63 ≤ a := Nat.le_of_not_lt fun h' => by rw [Nat.div_eq_of_lt h'] at h; cases h
    rw [← Nat.sub_add_cancel h63, Nat.add_sub_cancel, Nat.add_mod_right]
  · exact Nat.add_mod_right ..

theorem umag_natAbs_units (y : Nat) : (units y).natAbs = umag y := by
  unfold units; split <;> simp

theorem adist_mul (a b c : Nat) : adist (a * c) (b * c) = adist a b * c := by
  unfold adist
  rw [Nat.add_mul, Nat.sub_mul, Nat.sub_mul]

theorem unitScale_pos : 0 < unitScale := DecFloat.unitScale_pos

/-- an integer number of units that some finite REAL has -/
def Repr (u : Int) : Prop := ∃ y, isFinite y = true ∧ units y = u

theorem addX_finite (a b : Nat) (ha : isFinite a = true) (hb : isFinite b = true) :
    addX a b = if units a + units b = 0 then (if signBit a && signBit b then signMask else 0)
      else withSign (decide (units a + units b < 0)) (magBits (units a + units b).natAbs unitScale) := by
  unfold addX
  simp only [isNaN_false_of_finite ha, isNaN_false_of_finite hb, isInf_false_of_finite ha, isInf_false_of_finite hb, Bool.or_false,
    Bool.false_eq_true, if_false]

theorem magBits_lt (N D : Nat) : magBits N D < 2 ^ 63 :=
  Nat.lt_of_le_of_lt (DecFloat.magBits_le_inf N D) (by decide)

theorem withSign_magBits_nearest (neg : Bool) (N D y : Nat) (hD : 0 < D) (hf : isFinite (withSign neg (magBits N D)) = true) :
    adist (N * unitScale) (umag (withSign neg (magBits N D)) * D) ≤ adist (N * unitScale) (umag y * D) := by
  have hlt := magBits_lt N D
  rw [isFinite_iff, mag_withSign _ _ hlt] at hf
  rw [umag_withSign _ _ hlt]
  exact DecFloat.magBits_nearest N D y hD hf

/-- **exact**: when the exact sum of two finite REALs is a REAL, `addX` returns it (in units of 2^-1074) -/
theorem addX_exact (a b : Nat) (ha : isFinite a = true) (hb : isFinite b = true) (hr : Repr (units a + units b)) :
    isFinite (addX a b) = true ∧ addX a b < 2 ^ 64 ∧ units (addX a b) = units a + units b := by
  rw [addX_finite a b ha hb]
  by_cases hu : units a + units b = 0
  · rw [if_pos hu, hu]
    cases signBit a && signBit b
    · simp only [Bool.false_eq_true, if_false]; decide
    · simp only [if_true]; decide
  · rw [if_neg hu]
    obtain ⟨y, hy, hyu⟩ := hr
    have hm : magBits (units a + units b).natAbs unitScale = mag y := by
      apply DecFloat.magBits_exact _ _ y unitScale_pos hy
      rw [← hyu, umag_natAbs_units]; rfl
    rw [hm]
    have hlt := isFinite_iff.1 hy
    refine ⟨isFinite_withSign _ _ hlt, withSign_lt _ _ (by omega), ?_⟩
    rw [units_withSign _ _ (by omega), umag_mag, ← umag_natAbs_units y, hyu]
    by_cases hneg : units a + units b < 0
    · simp only [hneg, decide_true, if_true]; omega
    · simp only [hneg, decide_false, Bool.false_eq_true, if_false]; omega

/-- **nearest**: the sum of two finite REALs, when finite, is a REAL nearest to the exact sum `units a + units b` (in units
of 2^-1074; magnitudes compared, the sign is that of the exact sum) -/
theorem addX_nearest (a b : Nat) (ha : isFinite a = true) (hb : isFinite b = true) (hf : isFinite (addX a b) = true) (y : Nat) :
    adist (units a + units b).natAbs (umag (addX a b)) ≤ adist (units a + units b).natAbs (umag y) := by
  rw [addX_finite a b ha hb] at hf ⊢
  by_cases hu : units a + units b = 0
  · rw [if_pos hu, hu]
    have : umag (if (signBit a && signBit b) = true then signMask else 0) = 0 := by
      cases signBit a && signBit b <;> decide
    rw [this]; unfold adist; simp
  · rw [if_neg hu] at hf ⊢
    have n := withSign_magBits_nearest _ _ unitScale y unitScale_pos hf
    rw [adist_mul, adist_mul] at n
    exact Nat.le_of_mul_le_mul_right n unitScale_pos

theorem addX_sign (a b : Nat) (ha : isFinite a = true) (hb : isFinite b = true) (hu : units a + units b ≠ 0) :
    signBit (addX a b) = decide (units a + units b < 0) := by
  rw [addX_finite a b ha hb, if_neg hu, signBit_withSign _ _ (magBits_lt _ _)]

theorem mulX_finite (a b : Nat) (ha : isFinite a = true) (hb : isFinite b = true) :
    mulX a b = withSign (signBit a != signBit b) (magBits (umag a * umag b) (unitScale * unitScale)) := by
  unfold mulX
  simp only [isNaN_false_of_finite ha, isNaN_false_of_finite hb, isInf_false_of_finite ha, isInf_false_of_finite hb, Bool.or_false,
    Bool.false_eq_true, if_false]

/-- **exact**: when the exact product of two finite REALs (`umag a · umag b / 2^1074` units) is a REAL `y`, `mulX` returns
it, with the XOR of the signs -/
theorem mulX_exact (a b y : Nat) (ha : isFinite a = true) (hb : isFinite b = true) (hy : isFinite y = true)
    (h : umag y * unitScale = umag a * umag b) :
    mulX a b = withSign (signBit a != signBit b) (mag y) := by
  rw [mulX_finite a b ha hb]
  have hm : magBits (umag a * umag b) (unitScale * unitScale) = mag y := by
    apply DecFloat.magBits_exact _ _ y (Nat.mul_pos unitScale_pos unitScale_pos) hy
    unfold unitScale at h ⊢
    rw [← h, Nat.mul_assoc]
  rw [hm]

/-- **nearest**: a finite product is a REAL nearest to the exact product (both sides scaled by 2^1074: the exact product
is `umag a · umag b` in units of 2^-2148) -/
theorem mulX_nearest (a b : Nat) (ha : isFinite a = true) (hb : isFinite b = true) (hf : isFinite (mulX a b) = true) (y : Nat) :
    adist (umag a * umag b) (umag (mulX a b) * unitScale) ≤ adist (umag a * umag b) (umag y * unitScale) := by
  rw [mulX_finite a b ha hb] at hf ⊢
  have n := withSign_magBits_nearest _ _ _ y (Nat.mul_pos unitScale_pos unitScale_pos) hf
  rw [← Nat.mul_assoc, ← Nat.mul_assoc, adist_mul, adist_mul] at n
  exact Nat.le_of_mul_le_mul_right n unitScale_pos

theorem divX_finite (a b : Nat) (ha : isFinite a = true) (hb : isFinite b = true) (hz : mag b ≠ 0) :
    divX a b = withSign (signBit a != signBit b) (magBits (umag a) (umag b)) := by
  unfold divX
  simp only [isNaN_false_of_finite ha, isNaN_false_of_finite hb, isInf_false_of_finite ha, isInf_false_of_finite hb, Bool.or_false,
    Bool.false_eq_true, if_false, hz]

/-- **nearest**: a finite quotient of two finite REALs (divisor not zero) is a REAL nearest to the exact quotient
`umag a / umag b` (cross-multiplied by the divisor's unit count) -/
theorem divX_nearest (a b : Nat) (ha : isFinite a = true) (hb : isFinite b = true) (hz : mag b ≠ 0)
    (hf : isFinite (divX a b) = true) (y : Nat) :
    adist (umag a * unitScale) (umag (divX a b) * umag b) ≤ adist (umag a * unitScale) (umag y * umag b) := by
  rw [divX_finite a b ha hb hz] at hf ⊢
  exact withSign_magBits_nearest _ _ _ y (Nat.pos_of_ne_zero (mt (umag_eq_zero_iff b).1 hz)) hf

/-- finite, a proper 64-bit pattern, not `-0.0`: the patterns that `units` determines (`eq_of_units_eq`) -/
def Nice (x : Nat) : Prop := isFinite x = true ∧ x < 2 ^ 64 ∧ x ≠ signMask

instance (x : Nat) : Decidable (Nice x) := by unfold Nice; infer_instance

theorem signBit_of_nice_zero {x : Nat} (hx : Nice x) (hm : mag x = 0) : signBit x = false := by
  have e := withSign_signBit_mag hx.2.1
  cases hs : signBit x
  · rfl
  · rw [hs, hm] at e; exact absurd e.symm hx.2.2

theorem eq_of_units_eq {x y : Nat} (hx : Nice x) (hy : Nice y) (h : units x = units y) : x = y := by
  have hk : key x = key y := Int.compare_eq_eq.1 (by rw [← compare_units, h, Int.compare_eq_eq])
  obtain ⟨hm, hs⟩ := (key_eq_iff x y).1 hk
  have hs : signBit x = signBit y := hs.elim id fun h0 => by
    rw [signBit_of_nice_zero hx h0, signBit_of_nice_zero hy (hm ▸ h0)]
  rw [← withSign_signBit_mag hx.2.1, ← withSign_signBit_mag hy.2.1, hm, hs]

theorem units_neg_of_nice {x : Nat} (hx : Nice x) (hs : signBit x = true) : units x < 0 := by
  have hm : mag x ≠ 0 := fun h0 => by rw [signBit_of_nice_zero hx h0] at hs; cases hs
  have := mt (umag_eq_zero_iff x).1 hm
  unfold units; rw [hs, if_pos rfl]; omega

theorem addX_nice {a b : Nat} (ha : Nice a) (hb : Nice b) (hr : Repr (units a + units b)) :
    Nice (addX a b) ∧ units (addX a b) = units a + units b := by
  obtain ⟨hf, h64, hu⟩ := addX_exact a b ha.1 hb.1 hr
  refine ⟨⟨hf, h64, ?_⟩, hu⟩
  intro hz
  rw [addX_finite a b ha.1 hb.1] at hz
  by_cases h0 : units a + units b = 0
  · rw [if_pos h0] at hz
    cases sa : signBit a <;> cases sb : signBit b <;> simp [sa, sb, signMask] at hz
    have := units_neg_of_nice ha sa
    have := units_neg_of_nice hb sb
    omega
  · rw [if_neg h0] at hz
    have hlt := magBits_lt (units a + units b).natAbs unitScale
    have hm : mag (withSign (decide (units a + units b < 0)) (magBits (units a + units b).natAbs unitScale)) = 0 := by
      rw [hz]; decide
    rw [mag_withSign _ _ hlt] at hm
    rw [addX_finite a b ha.1 hb.1, if_neg h0, hz] at hu
    have : units signMask = 0 := by decide
    omega

/-- `0.0 + y = y` for every finite REAL except `-0.0` -/
theorem addX_zero_left {y : Nat} (hy : Nice y) : addX 0 y = y := by
  have h0 : Nice 0 := by decide
  have hu0 : units 0 = 0 := by decide
  have := addX_nice h0 hy ⟨y, hy.1, by rw [hu0]; omega⟩
  exact eq_of_units_eq this.1 hy (by rw [this.2, hu0]; omega)

theorem isqrtAux_spec (n : Nat) : ∀ (i r : Nat), r * r ≤ n → n < (r + 2 ^ i) * (r + 2 ^ i) →
    isqrtAux n i r * isqrtAux n i r ≤ n ∧ n < (isqrtAux n i r + 1) * (isqrtAux n i r + 1)
  | 0, r, h1, h2 => by simpa [isqrtAux] using ⟨h1, h2⟩
  | i + 1, r, h1, h2 => by
    rw [isqrtAux]
    by_cases hc : (r + 2 ^ i) * (r + 2 ^ i) ≤ n
    · rw [if_pos hc]
      apply isqrtAux_spec n i (r + 2 ^ i) hc
      have : r + 2 ^ i + 2 ^ i = r + 2 ^ (i + 1) := by rw [Nat.pow_succ]; omega
      rw [this]; exact h2
    · rw [if_neg hc]
      exact isqrtAux_spec n i r h1 (by omega)

theorem isqrt_spec (n : Nat) : isqrt n * isqrt n ≤ n ∧ n < (isqrt n + 1) * (isqrt n + 1) := by
  unfold isqrt
  apply isqrtAux_spec n _ 0 (by simp)
  rw [Nat.zero_add, ← Nat.pow_add]
  have h1 : n < 2 ^ (n.log2 + 1) := Nat.lt_log2_self
  have h2 : (2:Nat) ^ (n.log2 + 1) ≤ 2 ^ (n.log2 / 2 + 1 + (n.log2 / 2 + 1)) := Nat.pow_le_pow_right (by decide) (by omega)
  omega

end F64
end Sqlgrep
