import SqlgrepModel.Lemmas.FloatArith
import SqlgrepModel.Model.Eval
import SqlgrepModel.Lemmas.ValueOrder
import SqlgrepModel.Lemmas.NumericOrder
import SqlgrepModel.Lemmas.CivilAgree
import SqlgrepModel.Lemmas.StrBytes
import SqlgrepModel.Lemmas.FuncNum
import SqlgrepModel.Lemmas.FuncTime
import SqlgrepModel.Lemmas.FuncLeap
import SqlgrepModel.Lemmas.FuncText
import SqlgrepModel.Lemmas.FuncCast
/-
C03 (functions, casts, EXTRACT, array subscripts) — the clause "… and functions, casts, EXTRACT and array subscripts
(1-based) behave as the README describes" of the property sentence, for ALL operands. Audited with `C03.lean`,
`C03Expr.lean`, `C03Select.lean` by `./check C03`. The theorems are about the definitions the driver executes:
`callFunction`, `castValue`, `createTimestamp`, `tsField`, `dateTrunc`, `display`, `eval` (Model/Eval.lean).

A. **One calendar** (`Lemmas/CivilAgree.lean`): the evaluator's Hinnant-style `CivilE` and the extraction model's
   table-driven `Civil` are the same function on every valid date / every day number of chrono's range. Consequences:
   `make_timestamp_iff`, `make_timestamp_type_error`, `extract_after_make_timestamp`, `extracted_timestamp_is_make_timestamp`,
   `date_trunc_calendar`, `date_trunc_sub_day`, `date_trunc_idempotent`, `date_trunc_unknown_part`.
A′. **Leap seconds**: `leap_second_plus_interval`, `plain_timestamp_arithmetic`, `leap_second_difference`,
   `leap_second_roundtrip`, `leap_second_midnight_flag`, `date_trunc_leap_second`, `epoch_value`;
   `timestamp_minus_interval`, `plus_then_minus_interval` (D63, repaired); `make_timestamp_seven_arguments`,
   `make_timestamp_iff7`, `make_timestamp_type_error7` (D64, repaired).
B. **Numeric**: `least_is_lower_bound`, `greatest_is_upper_bound`, `least_greatest_null`,
   `least_greatest_type_error`, `abs_int`, `pow_int` / `pow_int_iff`.
   REAL: `+ − × ÷`, `sqrt` and INT→REAL are computed exactly on the bit patterns (`Model/FloatArith.lean`: the correctly
   rounded result of the exact operation, IEEE-754; compared with the hardware on every case): `real_add_is_nearest`,
   `real_add_exact`, `real_mul_is_nearest`, `real_div_is_nearest`, `real_add_comm`, `real_mul_comm`, anchors by
   `decide +kernel` (`0.1 + 0.2`, `1e308 + 1e308 = inf`, `5.0 / 2.0`, `sqrt 2.25`, `sqrt 2`, signed zeros, NaN cases).
   `pow(REAL, REAL)` is Rust's `powf` = the platform's libm, which is NOT correctly rounded: it stays outside (hardware
   `Float.pow` in the driver, a shipped fact end to end) — no theorem about its value. `least`/`greatest`/`abs` on REAL
   are bit-level definitions (`F64.fmin`, `F64.fmax`, `F64.abs`) and are covered here.
C. **Text**: `length_is_code_points`, `upper_lower_ascii`, `case_maps_exactly_the_letters`,
   `upper_lower_ascii_chars`, `upper_lower_idempotent`; non-ASCII case mapping is the shipped Unicode table (trusted:
   `upper_lower_non_ascii`).
D. **Arrays**: `array_length_spec`, `array_cat_spec`, `array_append_prepend_spec`, `subscript_spec`, `subscript_cat`,
   `subscript_append_prepend`, `index_of_array_cat`, `create_array_spec`. `array_unique` is
   `Props.C16.array_unique_characterisation` / `array_unique_merges_exactly_equal_values` /
   `array_unique_members_are_inputs` (Props/C16.lean).
E. **Casts**: `cast_same_type`, `cast_to_text_is_display`, `cast_int_text_int`, `cast_text_is_parseLit`,
   `cast_text_cases`, `cast_null`, `cast_interval_int`, `cast_type_error`, `cast_never_a_wrong_value`.

Not covered by a theorem (correspondence only): `regex_matches` (the regex crate is an oracle), `now()` (clock),
REAL `pow` (libm, see B), the nearest-property of REAL `sqrt` (computed in the model from `F64.isqrt`, `F64.isqrt_spec`;
anchors only), WHICH texts are REAL / TIMESTAMP literals in casts from TEXT (`cast_text_is_parseLit` reduces the cast to
`parseLit`, which takes the shipped fact — a cross-check — or, when none is shipped, computes `f64::from_str` as
`DecFloat.parseF64N`, characterised in `Lemmas/FloatGrammar.lean`, and chrono's `parse_from_str` as
`Lit.parseTimestampLit`), the `{:.2}` rendering of REAL inside `display` (exact integer arithmetic on the bits,
Model/Float.lean `F64.fmt2`).
-/
namespace Sqlgrep.Props.C03Func
open Sqlgrep

variable (O : Oracles)

/-- a function call evaluates its arguments left to right and applies `callFunction` to the values; an argument
without a value is the error of the call -/
theorem eval_call (env : Env) (f : Func) (args : List Expr) (vs : List Value) (h : evalList O env args = .ok vs) :
    eval O env (.call f args) = callFunction O f vs := by
  simp only [eval, h, bind, Outcome.bind]

/-- a cast evaluates its operand and applies `castValue` -/
theorem eval_cast (env : Env) (e : Expr) (t : VType) (v : Value) (h : eval O env e = .ok v) :
    eval O env (.cast e t) = castValue O v t := by
  simp only [eval, h, bind, Outcome.bind]

/-! `callFunction` on operands of the expected types, by unfolding -/

theorem call_dateTrunc (part : Bytes) (d s f : Int) :
    callFunction O .dateTrunc [.text part, .timestamp d s f] = dateTrunc part d s f := rfl
theorem call_abs_int (x : Int) :
    callFunction O .abs [.int x] =
      match checked (if x < 0 then -x else x) with
      | some r => .ok (.int r)
      | none => .error .undefinedFunction := by rfl
theorem call_abs_interval (x : Int) :
    callFunction O .abs [.interval x] = .ok (.interval (if x < 0 then -x else x)) := rfl
theorem call_length (s : Bytes) : callFunction O .length [.text s] = .ok (.int (Utf8.charCount s)) := rfl
theorem call_upper (s : Bytes) :
    callFunction O .upper [.text s] =
      if isAscii s then .ok (.text (asciiUpper s))
      else match lookupB O.upper s with
        | some r => .ok (.text r)
        | none =>
          match O.total with
          | some T => .ok (.text (T.upperF s))
          | none => .oracleMissing "upper" := rfl
theorem call_lower (s : Bytes) :
    callFunction O .lower [.text s] =
      if isAscii s then .ok (.text (asciiLower s))
      else match lookupB O.lower s with
        | some r => .ok (.text r)
        | none =>
          match O.total with
          | some T => .ok (.text (T.lowerF s))
          | none => .oracleMissing "lower" := rfl
theorem call_arrayCat (t u : VType) (xs ys : List Value) :
    callFunction O .arrayCat [.array t xs, .array u ys] =
      if t == u then .ok (.array t (xs ++ ys)) else .error .undefinedFunction := rfl
theorem call_arrayAppend (t : VType) (xs : List Value) (x : Value) :
    callFunction O .arrayAppend [.array t xs, x] =
      if some t == x.valueType then .ok (.array t (xs ++ [x])) else .error .undefinedFunction := rfl
theorem call_arrayPrepend (t : VType) (xs : List Value) (x : Value) :
    callFunction O .arrayPrepend [x, .array t xs] =
      if some t == x.valueType then .ok (.array t (x :: xs)) else .error .undefinedFunction := rfl
theorem call_createArray (args : List Value) :
    callFunction O .createArray args =
      match args.filterMap Value.valueType with
      | [] => .error .expectedArrayElementType
      | t :: ts => if ts.all (· == t) then .ok (.array t args) else .error .typeError := rfl

/-! ## A. timestamps: one calendar -/

/-- the parts form a valid civil time in chrono's sense: an existing date of the proleptic Gregorian calendar with a
year in −262143 ..= 262142, hour < 24, minute < 60, second < 60, and microseconds < 10^6 — or < 2·10^6 at second 59
(chrono's representation of a leap second) -/
def ValidCivil (y mo d h mi s us : Int) : Prop :=
  CivilE.validDate y mo d = true ∧ (0 ≤ h ∧ h < 24) ∧ (0 ≤ mi ∧ mi < 60) ∧ (0 ≤ s ∧ s < 60) ∧
    (0 ≤ us ∧ us < 2000000) ∧ (us < 1000000 ∨ s = 59)

/-- on parts that are not negative, `create_timestamp` succeeds exactly on a valid civil time -/
theorem createTimestamp_some_iff (y mo d h mi s us : Int) (t : Value) (h0 : 0 ≤ h) (m0 : 0 ≤ mi) (s0 : 0 ≤ s)
    (u0 : 0 ≤ us) :
    createTimestamp y mo d h mi s us = some t ↔
      ValidCivil y mo d h mi s us ∧
        t = .timestamp (CivilE.daysFromCE y mo d) (h * 3600 + mi * 60 + s) (us * 1000) := by
  rw [createTimestamp_eq_some_iff]
  exact ⟨fun ⟨⟨hv, a, b, c, e, f⟩, ht⟩ => ⟨⟨hv, ⟨h0, a⟩, ⟨m0, b⟩, ⟨s0, c⟩, ⟨u0, e⟩, f⟩, ht⟩,
    fun ⟨⟨hv, a, b, c, e, f⟩, ht⟩ => ⟨⟨hv, a.2, b.2, c.2, e.2, f⟩, ht⟩⟩

/-- `make_timestamp(y, mo, d, h, mi, s, us)` (stated for the historical eight-argument form whose last argument is
ignored; the documented seven-argument call is the same function: `make_timestamp_seven_arguments`,
`make_timestamp_iff7`) **is a
TIMESTAMP iff the parts form a valid civil time** — then it is the day number of the date with the second of the day
and the nanoseconds — and NULL otherwise (also when a part does not fit its machine field) -/
theorem make_timestamp_iff (y mo d h mi s us : Int) (x : Value) :
    (ValidCivil y mo d h mi s us →
      callFunction O .makeTimestamp [.int y, .int mo, .int d, .int h, .int mi, .int s, .int us, x] =
        .ok (.timestamp (CivilE.daysFromCE y mo d) (h * 3600 + mi * 60 + s) (us * 1000))) ∧
    (¬ ValidCivil y mo d h mi s us →
      callFunction O .makeTimestamp [.int y, .int mo, .int d, .int h, .int mi, .int s, .int us, x] = .ok .null) := by
  rw [show callFunction O .makeTimestamp [.int y, .int mo, .int d, .int h, .int mi, .int s, .int us, x] =
    makeTimestampOf y mo d h mi s us from rfl]
  unfold makeTimestampOf
  constructor
  · intro hv
    have ⟨hd, hh, hmi, hs, hus, _⟩ := hv
    have hd := (CivilE.validDate_iff y mo d).1 hd
    have hd31 := (CivilE.daysInMonth_range y mo).2
    have hfit : (fitsI32 y && fitsU32 mo && fitsU32 d && fitsU32 h && fitsU32 mi && fitsU32 s && fitsU32 us) = true := by
      simp only [fitsI32, fitsU32, Bool.and_eq_true, decide_eq_true_eq]; omega
    rw [if_pos hfit, (createTimestamp_some_iff y mo d h mi s us _ hh.1 hmi.1 hs.1 hus.1).2 ⟨hv, rfl⟩]; rfl
  · intro hn
    split
    · rename_i hfit
      simp only [fitsI32, fitsU32, Bool.and_eq_true, decide_eq_true_eq] at hfit
      cases hc : createTimestamp y mo d h mi s us with
      | none => rfl
      | some t =>
        exact absurd ((createTimestamp_some_iff y mo d h mi s us t (by omega) (by omega) (by omega) (by omega)).1 hc).1 hn
    · rfl

/-- the six `EXTRACT` fields of a timestamp value, as the evaluator computes them -/
def fields (t : Value) : List (Outcome Value) :=
  [callFunction O .year [t], callFunction O .month [t], callFunction O .day [t],
   callFunction O .hour [t], callFunction O .minute [t], callFunction O .second [t]]

/-- the fields of a timestamp: the civil date of its day number and the hour, minute and second of its second of day -/
theorem fields_timestamp (d s f y m dd : Int) (hc : CivilE.civilOfDays d = (y, m, dd)) :
    fields O (.timestamp d s f) =
      [.ok (.int y), .ok (.int m), .ok (.int dd), .ok (.int (s / 3600)), .ok (.int (s / 60 % 60)), .ok (.int (s % 60))] := by
  show ([.ok (.int (tsField .year d s)), .ok (.int (tsField .month d s)), .ok (.int (tsField .day d s)),
    .ok (.int (tsField .hour d s)), .ok (.int (tsField .minute d s)), .ok (.int (tsField .second d s))] :
      List (Outcome Value)) = _
  simp only [tsField, hc]

theorem fields_midnight (d y m dd : Int) (hc : CivilE.civilOfDays d = (y, m, dd)) :
    fields O (.timestamp d 0 0) = [.ok (.int y), .ok (.int m), .ok (.int dd), .ok (.int 0), .ok (.int 0), .ok (.int 0)] :=
  fields_timestamp O d 0 0 y m dd hc

/-- **EXTRACT after make_timestamp returns the parts**: for a valid civil time the functions `year … second`
(`EXTRACT(YEAR … SECOND FROM t)`) of `make_timestamp(y, mo, d, h, mi, s, us)` are exactly `y, mo, d, h, mi, s` -/
theorem extract_after_make_timestamp (y mo d h mi s us : Int) (x t : Value) (hv : ValidCivil y mo d h mi s us)
    (ht : callFunction O .makeTimestamp [.int y, .int mo, .int d, .int h, .int mi, .int s, .int us, x] = .ok t) :
    callFunction O .year [t] = .ok (.int y) ∧ callFunction O .month [t] = .ok (.int mo) ∧
    callFunction O .day [t] = .ok (.int d) ∧ callFunction O .hour [t] = .ok (.int h) ∧
    callFunction O .minute [t] = .ok (.int mi) ∧ callFunction O .second [t] = .ok (.int s) := by
  rw [(make_timestamp_iff O y mo d h mi s us x).1 hv] at ht
  injection ht with ht
  subst ht
  obtain ⟨hd, hh, hmi, hs, _, _⟩ := hv
  have hf := fields_timestamp O _ (h * 3600 + mi * 60 + s) (us * 1000) y mo d (CivilE.civilOfDays_daysFromCE y mo d hd)
  rw [show (h * 3600 + mi * 60 + s) / 3600 = h by omega, show (h * 3600 + mi * 60 + s) / 60 % 60 = mi by omega,
    show (h * 3600 + mi * 60 + s) % 60 = s by omega] at hf
  simp only [fields, List.cons.injEq, and_true] at hf
  exact hf

/-- the fields are only read from TIMESTAMP operands: anything else (NULL included) is an error -/
theorem extract_type_error (v : Value) (h : v.valueType ≠ some .timestamp) :
    callFunction O .year [v] = .error .undefinedFunction ∧ callFunction O .month [v] = .error .undefinedFunction ∧
    callFunction O .day [v] = .error .undefinedFunction ∧ callFunction O .hour [v] = .error .undefinedFunction ∧
    callFunction O .minute [v] = .error .undefinedFunction ∧ callFunction O .second [v] = .error .undefinedFunction := by
  cases v <;> simp only [Value.valueType, ne_eq, not_true_eq_false] at h <;> exact ⟨rfl, rfl, rfl, rfl, rfl, rfl⟩

/-- is the value an INT -/
def isInt : Value → Bool
  | .int _ => true
  | _ => false

/-- a part of `make_timestamp` that is not an INT (NULL included) is an error, whatever the other parts are -/
theorem make_timestamp_type_error (a b c d e f g x : Value)
    (h : (isInt a && isInt b && isInt c && isInt d && isInt e && isInt f && isInt g) = false) :
    callFunction O .makeTimestamp [a, b, c, d, e, f, g, x] = .error .undefinedFunction := by
  cases a <;> (try rfl) <;> cases b <;> (try rfl) <;> cases c <;> (try rfl) <;> cases d <;> (try rfl) <;>
    cases e <;> (try rfl) <;> cases f <;> (try rfl) <;> cases g <;> (try rfl)
  simp [isInt] at h

example : (isInt (.int 2024) && isInt .null && isInt (.int 1) && isInt (.int 0) && isInt (.int 0) && isInt (.int 0) && isInt (.int 0)) = false := rfl

/-- a TIMESTAMP made by extraction from a line (`Lit.mkTimestamp`, the function C01's theorems are about) and one made
by `make_timestamp` in a query from the same parts are the same value -/
theorem extracted_timestamp_is_make_timestamp (y : Int) (mo d h mi s us : Nat) (x t : Value)
    (hx : Lit.mkTimestamp y mo d h mi s us = some t) :
    callFunction O .makeTimestamp [.int y, .int mo, .int d, .int h, .int mi, .int s, .int us, x] = .ok t := by
  rw [mkTimestamp_eq_createTimestamp] at hx
  obtain ⟨hv, ht⟩ := (createTimestamp_some_iff y mo d h mi s us t (by omega) (by omega) (by omega) (by omega)).1 hx
  rw [(make_timestamp_iff O _ _ _ _ _ _ _ x).1 hv, ht]

example : ValidCivil 2024 2 29 23 59 59 1999999 := by
  refine ⟨by decide, ?_, ?_, ?_, ?_, ?_⟩ <;> omega
example : ¬ ValidCivil 2023 2 29 0 0 0 0 := by
  intro h; exact absurd h.1 (by decide)
example : callFunction {} .makeTimestamp [.int 2024, .int 2, .int 29, .int 23, .int 59, .int 59, .int 1999999, .int 0] =
    .ok (.timestamp 738945 86399 1999999000) ∧
    callFunction {} .makeTimestamp [.int 2023, .int 2, .int 29, .int 0, .int 0, .int 0, .int 0, .int 0] = .ok .null ∧
    callFunction {} .makeTimestamp [.int 4294969313, .int 1, .int 1, .int 0, .int 0, .int 0, .int 0, .int 0] = .ok .null ∧
    callFunction {} .makeTimestamp [.int 2024, .int 1, .int 1, .int 0, .int 0, .int 60, .int 0, .int 0] = .ok .null ∧
    callFunction {} .year [.timestamp 738945 86399 1999999000] = .ok (.int 2024) ∧
    callFunction {} .second [.timestamp 738945 86399 1999999000] = .ok (.int 59) :=
  ⟨rfl, rfl, rfl, rfl, rfl, rfl⟩
example : Lit.mkTimestamp 2024 2 29 23 59 59 1999999 = some (.timestamp 738945 86399 1999999000) := by rfl

/-- a TIMESTAMP value chrono can hold: day number in `NaiveDate`'s range, second of day and nanosecond in range and
not in the leap-second representation (leap seconds: section A′ below) -/
def TsInRange (d s f : Int) : Prop := (CivilE.dayMin ≤ d ∧ d ≤ CivilE.dayMax) ∧ TsPlain s f

/-- **`date_trunc('year' | 'month' | 'day', t)`** keeps the year (and month, and day) of `t`, puts every later field at
its minimum (month 1, day 1, 00:00:00.000), and is not after `t` in the value order -/
theorem date_trunc_calendar (d s f : Int) (h : TsInRange d s f) :
    let y := (CivilE.civilOfDays d).1; let mo := (CivilE.civilOfDays d).2.1; let dd := (CivilE.civilOfDays d).2.2
    (∃ r, callFunction O .dateTrunc [.text (strBytes "year"), .timestamp d s f] = .ok r ∧
      fields O r = [.ok (.int y), .ok (.int 1), .ok (.int 1), .ok (.int 0), .ok (.int 0), .ok (.int 0)] ∧
      Value.cmp r (.timestamp d s f) ≠ .gt) ∧
    (∃ r, callFunction O .dateTrunc [.text (strBytes "month"), .timestamp d s f] = .ok r ∧
      fields O r = [.ok (.int y), .ok (.int mo), .ok (.int 1), .ok (.int 0), .ok (.int 0), .ok (.int 0)] ∧
      Value.cmp r (.timestamp d s f) ≠ .gt) ∧
    (∃ r, callFunction O .dateTrunc [.text (strBytes "day"), .timestamp d s f] = .ok r ∧
      fields O r = [.ok (.int y), .ok (.int mo), .ok (.int dd), .ok (.int 0), .ok (.int 0), .ok (.int 0)] ∧
      Value.cmp r (.timestamp d s f) ≠ .gt ∧ r = .timestamp d 0 0) := by
  intro y mo dd
  obtain ⟨hd, hs0, _, hf0, _⟩ := h
  have hv := CivilE.validDate_civilOfDays d hd
  have hback := CivilE.daysFromCE_civilOfDays d
  obtain ⟨hyr, hmo, hdd⟩ := (CivilE.validDate_iff y mo dd).1 hv
  have hvy : CivilE.validDate y 1 1 = true :=
    (CivilE.validDate_iff y 1 1).2 ⟨hyr, by decide, Int.le_refl 1, Int.le_trans (by decide) (CivilE.daysInMonth_range y 1).1⟩
  have hvm : CivilE.validDate y mo 1 = true :=
    (CivilE.validDate_iff y mo 1).2 ⟨hyr, hmo, Int.le_refl 1, Int.le_trans (by decide) (CivilE.daysInMonth_range y mo).1⟩
  have ey : (strBytes "month" == strBytes "year") = false := by rw [sb_month, sb_year]; decide
  have ed1 : (strBytes "day" == strBytes "year") = false := by rw [sb_day, sb_year]; decide
  have ed2 : (strBytes "day" == strBytes "month") = false := by rw [sb_day, sb_month]; decide
  refine ⟨⟨.timestamp (CivilE.daysFromCE y 1 1) 0 0, ?_, ?_, ?_⟩, ⟨.timestamp (CivilE.daysFromCE y mo 1) 0 0, ?_, ?_, ?_⟩,
    ⟨.timestamp (CivilE.daysFromCE y mo dd) 0 0, ?_, ?_, ?_, ?_⟩⟩
  · simp only [call_dateTrunc, dateTrunc, beq_self_eq_true, if_true]; rfl
  · exact fields_midnight O _ _ _ _ (CivilE.civilOfDays_daysFromCE y 1 1 hvy)
  · apply ts_midnight_le _ _ _ _ _ hs0 hf0
    have := CivilE.daysFromCE_year_start y mo dd hv
    rw [hback] at this; exact this
  · simp only [call_dateTrunc, dateTrunc, ey, beq_self_eq_true, Bool.false_eq_true, if_true, if_false]; rfl
  · exact fields_midnight O _ _ _ _ (CivilE.civilOfDays_daysFromCE y mo 1 hvm)
  · apply ts_midnight_le _ _ _ _ _ hs0 hf0
    have := CivilE.daysFromCE_month_start y mo dd hdd.1
    rw [hback] at this; exact this
  · simp only [call_dateTrunc, dateTrunc, ed1, ed2, beq_self_eq_true, Bool.false_eq_true, if_true, if_false]; rfl
  · exact fields_midnight O _ _ _ _ (CivilE.civilOfDays_daysFromCE y mo dd hv)
  · apply ts_midnight_le _ _ _ _ _ hs0 hf0
    rw [hback]; exact Int.le_refl _
  · show Value.timestamp (CivilE.daysFromCE y mo dd) 0 0 = _
    rw [hback]

/-- the sub-day parts and their spans in nanoseconds -/
def subDayParts : List (String × Int) :=
  [("hour", 3600000000000), ("minute", 60000000000), ("second", 1000000000), ("milliseconds", 1000000),
   ("microseconds", 1000)]

theorem subDay_facts (p : String) (span : Int) (h : (p, span) ∈ subDayParts) :
    (strBytes p == strBytes "year") = false ∧ (strBytes p == strBytes "month") = false ∧
    (strBytes p == strBytes "day") = false ∧ truncSpan (strBytes p) = some span := by
  simp only [subDayParts, List.mem_cons, Prod.mk.injEq, List.mem_nil_iff, or_false] at h
  rcases h with ⟨rfl, rfl⟩ | ⟨rfl, rfl⟩ | ⟨rfl, rfl⟩ | ⟨rfl, rfl⟩ | ⟨rfl, rfl⟩ <;>
    simp only [truncSpan, sb_year, sb_month, sb_day, sb_hour, sb_minute, sb_second, sb_milliseconds, sb_microseconds] <;>
    decide

/-- **`date_trunc('hour' … 'microseconds', t)` is `t` minus `instant mod span`** (`tsTotal` = nanoseconds on the
time line): the result is a normalised timestamp whose instant is `T − T mod span`; hence a multiple of the span, not
after `t` (in instants and in the value order), and less than one span before `t`. (Outside the ±292-year window
around 1970 in which the instant fits an `i64` of nanoseconds, chrono's `duration_trunc` fails:
`date_trunc_out_of_window`.) -/
theorem date_trunc_sub_day (p : String) (span : Int) (hp : (p, span) ∈ subDayParts) (d s f : Int) (h : TsPlain s f)
    (hin : inI64 (tsTotal (d - 719163) s f) = true) :
    ∃ d' s' f', callFunction O .dateTrunc [.text (strBytes p), .timestamp d s f] = .ok (.timestamp d' s' f') ∧
      TsPlain s' f' ∧
      tsTotal d' s' f' = tsTotal d s f - tsTotal d s f % span ∧
      tsTotal d' s' f' % span = 0 ∧
      tsTotal d' s' f' ≤ tsTotal d s f ∧ tsTotal d s f - span < tsTotal d' s' f' ∧
      Value.cmp (.timestamp d' s' f') (.timestamp d s f) ≠ .gt := by
  obtain ⟨hy, hm, hd, hs⟩ := subDay_facts p span hp
  have hpos := span_pos (truncSpan_isSubDay _ _ hs)
  obtain ⟨d', s', f', e, hplain, htot⟩ := tsTotal_tsOfTotal (tsTotal d s f - tsTotal d s f % span)
  have hmod0 := Int.emod_nonneg (tsTotal d s f) (Int.ne_of_gt hpos)
  have hmodlt := Int.emod_lt_of_pos (tsTotal d s f) hpos
  refine ⟨d', s', f', ?_, hplain, htot, ?_, by omega, by omega, ?_⟩
  · rw [call_dateTrunc]
    rw [dateTrunc_sub_day _ _ hy hm hd hs d s f h.2.2.1 h.2.2.2 hin, e]
  · rw [htot]
    have := Int.emod_add_mul_ediv (tsTotal d s f) span
    have e2 : tsTotal d s f - tsTotal d s f % span = span * (tsTotal d s f / span) := by omega
    rw [e2]
    exact Int.mul_emod_right _ _
  · simp only [Value.cmp]
    rw [ts_lex_eq_instant _ _ _ _ _ _ hplain h]
    intro hc
    have := Int.compare_eq_gt.1 hc
    omega

/-- **idempotent**: truncating the truncated timestamp again changes nothing (as long as it is still inside the
window; at the lower edge of the window the second call fails instead — never another value) -/
theorem date_trunc_idempotent (p : String) (span : Int) (hp : (p, span) ∈ subDayParts) (d s f : Int) (r : Value)
    (h : TsPlain s f) (hr : callFunction O .dateTrunc [.text (strBytes p), .timestamp d s f] = .ok r) :
    callFunction O .dateTrunc [.text (strBytes p), r] = .ok r ∨
    callFunction O .dateTrunc [.text (strBytes p), r] = .error .failedToTruncate := by
  obtain ⟨hy, hm, hd, hs⟩ := subDay_facts p span hp
  cases hin : inI64 (tsTotal (d - 719163) s f) with
  | false =>
    rw [call_dateTrunc] at hr
    rw [dateTrunc_out_of_range _ _ hy hm hd hs d s f h.2.2.1 h.2.2.2 hin] at hr
    cases hr
  | true =>
    obtain ⟨d', s', f', e, hplain, htot, hz, _⟩ := date_trunc_sub_day O p span hp d s f h hin
    rw [e] at hr
    injection hr with hr
    subst hr
    cases hin' : inI64 (tsTotal (d' - 719163) s' f') with
    | false =>
      right
      rw [call_dateTrunc]
      exact dateTrunc_out_of_range _ _ hy hm hd hs d' s' f' hplain.2.2.1 hplain.2.2.2 hin'
    | true =>
      left
      rw [call_dateTrunc]
      rw [dateTrunc_sub_day _ _ hy hm hd hs d' s' f' hplain.2.2.1 hplain.2.2.2 hin', hz, Int.sub_zero, tsOfTotal_tsTotal _ _ _ hplain]

theorem date_trunc_out_of_window (p : String) (span : Int) (hp : (p, span) ∈ subDayParts) (d s f : Int) (h : TsPlain s f)
    (hin : inI64 (tsTotal (d - 719163) s f) = false) :
    callFunction O .dateTrunc [.text (strBytes p), .timestamp d s f] = .error .failedToTruncate := by
  obtain ⟨hy, hm, hd, hs⟩ := subDay_facts p span hp
  rw [call_dateTrunc]
  exact dateTrunc_out_of_range _ _ hy hm hd hs d s f h.2.2.1 h.2.2.2 hin

/-- the eight part names `date_trunc` knows -/
def partNames : List String := ["year", "month", "day", "hour", "minute", "second", "milliseconds", "microseconds"]

/-- **an unknown part text is an error** (case-sensitive: `'HOUR'`, `'week'`, `''` …), never a value -/
theorem date_trunc_unknown_part (part : Bytes) (h : ∀ n ∈ partNames, part ≠ strBytes n) (d s f : Int) :
    callFunction O .dateTrunc [.text part, .timestamp d s f] = .error .invalidTruncatePart := by
  have hne : ∀ n ∈ partNames, (part == strBytes n) = false := by
    intro n hn
    have := h n hn
    simpa using this
  simp only [partNames, List.mem_cons, List.mem_nil_iff, or_false, forall_eq_or_imp, forall_eq] at hne
  obtain ⟨h1, h2, h3, h4, h5, h6, h7, h8⟩ := hne
  rw [call_dateTrunc]
  apply dateTrunc_unknown _ h1 h2 h3
  simp only [truncSpan, h4, h5, h6, h7, h8, Bool.false_eq_true, if_false]

/-- operands of other types (NULL included, or the operands swapped) are an error -/
theorem date_trunc_type_error (a b : Value) (h : a.valueType ≠ some .text ∨ b.valueType ≠ some .timestamp) :
    callFunction O .dateTrunc [a, b] = .error .undefinedFunction := by
  cases a <;> first | rfl | (cases b <;> first | rfl | exact absurd rfl (h.resolve_left fun h => h rfl))

-- non-vacuity: 2024-02-29 13:45:12.345678901 (day 738945)
example : TsInRange 738945 49512 345678901 := by
  refine ⟨⟨by decide, by decide⟩, ?_⟩; unfold TsPlain; omega
example : ("minute", (60000000000 : Int)) ∈ subDayParts := by decide
example : inI64 (tsTotal (738945 - 719163) 49512 345678901) = true := by decide
example : callFunction {} .dateTrunc [.text (strBytes "year"), .timestamp 738945 49512 345678901] = .ok (.timestamp 738886 0 0) ∧
    callFunction {} .dateTrunc [.text (strBytes "month"), .timestamp 738945 49512 345678901] = .ok (.timestamp 738917 0 0) ∧
    callFunction {} .dateTrunc [.text (strBytes "minute"), .timestamp 738945 49512 345678901] = .ok (.timestamp 738945 49500 0) ∧
    callFunction {} .dateTrunc [.text (strBytes "milliseconds"), .timestamp 738945 49512 345678901] = .ok (.timestamp 738945 49512 345000000) ∧
    callFunction {} .dateTrunc [.text (strBytes "week"), .timestamp 738945 49512 345678901] = .error .invalidTruncatePart ∧
    callFunction {} .dateTrunc [.text (strBytes "HOUR"), .timestamp 738945 49512 345678901] = .error .invalidTruncatePart := by
  have w : strBytes "week" = [119, 101, 101, 107] := by rw [strBytes_lit]; decide
  have u : strBytes "HOUR" = [72, 79, 85, 82] := by rw [strBytes_lit]; decide
  simp only [call_dateTrunc, dateTrunc, truncSpan, sb_year, sb_month, sb_day, sb_hour, sb_minute, sb_second, sb_milliseconds,
    sb_microseconds, w, u]
  refine ⟨?_, ?_, ?_, ?_, ?_, ?_⟩ <;> rfl
example : ∀ n ∈ partNames, strBytes "week" ≠ strBytes n := by
  simp only [partNames, List.mem_cons, List.mem_nil_iff, or_false, forall_eq_or_imp, forall_eq, strBytes_lit]
  decide
/-- 1677-09-21 00:12:43.5 is inside the i64 window, its hour is not: the second truncation fails -/
example : inI64 (tsTotal (612411 - 719163) 763 500000000) = true ∧ inI64 (tsTotal (612411 - 719163) 0 0) = false := by decide

/-! ## A′. leap seconds (`:60`) under timestamp arithmetic

chrono represents a leap second as second-of-minute 59 with a nanosecond field in [10⁹, 2·10⁹). Such a value comes
from the text `'… 23:59:60'` or from `make_timestamp(…, 59, µs ≥ 10⁶)`. The model mirrors chrono 0.4.39
(`NaiveTime::overflowing_add_signed`, `signed_duration_since`, `timestamp_millis`, `duration_trunc`) exactly; these
theorems say what that is. -/

/-- **timestamp ± interval on a leap second** (`ts − iv` is `ts + (−iv)`): for every interval exactly one
of three things happens — the value stays inside its leap second (only the fraction moves), it escapes forwards
(the result is an ordinary timestamp whose linear count is `T + ns − 1 s`: the leap second counts as an elapsed
second), or it escapes backwards (`T + ns`) -/
theorem leap_second_plus_interval (d s f ns : Int) (hf : 1000000000 ≤ f ∧ f < 2000000000) :
    ∃ d' s' f', tsShift d s f ns = .timestamp d' s' f' ∧
      ((-1000000000 < ns ∧ f + ns < 2000000000 → d' = d ∧ s' = s ∧ f' = f + ns) ∧
       (2000000000 ≤ f + ns → tsTotal d' s' f' = tsTotal d s f + ns - 1000000000 ∧ TsPlain s' f') ∧
       (ns ≤ -1000000000 → tsTotal d' s' f' = tsTotal d s f + ns ∧ TsPlain s' f')) := by
  obtain ⟨c1, _, _⟩ := leap_add_cases d s f ns hf
  obtain ⟨d', s', f', e, k1, k2, k3⟩ := leap_add_instant d s f ns hf
  refine ⟨d', s', f', e, fun h => ?_, k2, k3⟩
  have := c1 h
  rw [e] at this
  injection this with a b c
  exact ⟨a, b, c⟩

/-- on ordinary timestamps the sum is the normalised timestamp at `T + ns`, the difference is `T − T'` -/
theorem plain_timestamp_arithmetic (d s f d' s' f' ns : Int) (h : TsPlain s f) (h' : TsPlain s' f') :
    tsShift d s f ns = tsOfTotal (tsTotal d s f + ns) ∧ tsDiff d s f d' s' f' = tsTotal d s f - tsTotal d' s' f' :=
  ⟨tsShift_plain d s f ns h.2.2.2, tsDiff_plain d s f d' s' f' h.2.2.2 h'.2.2.2⟩

/-- **timestamp − timestamp with leap seconds**: the difference of the linear counts, plus one second when the left
operand has the later second of day and the right one is a leap second, minus one when it is the other way round -/
theorem leap_second_difference (d s f d' s' f' : Int) :
    arith .sub (.timestamp d s f) (.timestamp d' s' f') = .ok (.interval (tsTotal d s f - tsTotal d' s' f' +
      (if s > s' ∧ f' ≥ 1000000000 then 1000000000 else if s < s' ∧ f ≥ 1000000000 then -1000000000 else 0))) := by
  simp only [arith, tsDiff_eq]

/-- `(t + iv) − t = iv` for a leap second `t`, within the day (see `leap_add_then_diff`); across midnight chrono's
difference is off by the leap second — kernel-checked witness (mirrors the code; flagged) -/
theorem leap_second_roundtrip (d s f ns d' s' f' : Int) (hf : 1000000000 ≤ f ∧ f < 2000000000)
    (hr : tsShift d s f ns = .timestamp d' s' f')
    (hside : (-1000000000 < ns ∧ f + ns < 2000000000) ∨ (2000000000 ≤ f + ns ∧ s < s') ∨ (ns ≤ -1000000000 ∧ s' ≤ s)) :
    arith .sub (.timestamp d' s' f') (.timestamp d s f) = .ok (.interval ns) := by
  simp only [arith, leap_add_then_diff d s f ns d' s' f' hf hr hside]

theorem leap_second_midnight_flag :
    tsShift 736329 86399 1500000000 1000000000 = .timestamp 736330 0 500000000 ∧
    tsDiff 736330 0 500000000 736329 86399 1500000000 = 0 ∧
    tsDiff 736330 0 0 736329 86399 1500000000 = -500000000 ∧
    Value.cmp (.timestamp 736330 0 0) (.timestamp 736329 86399 1500000000) = .gt := leap_diff_midnight_flag

/-- **`date_trunc('hour' … 'microseconds', t)` for any `t` in the window, leap seconds included**: `t` moved back by
`stamp mod span` with chrono's rules, where the stamp of `:60 + φ` is that of the following second `+ φ`; the
subtraction cannot overflow (`dateTrunc_shift_in_range`: no panic site). FLAG: a leap second truncated to 'second',
'minute' (or 'hour' at `hh:59:60`) is the START OF THE LEAP SECOND `…:59:60.000`, not the start of the minute or
hour — the code and chrono agree on this; the README's "truncate" would give `…:59:00`. -/
theorem date_trunc_leap_second (p : String) (span : Int) (hp : (p, span) ∈ subDayParts) (d s f st : Int)
    (hs : 0 ≤ s ∧ s < 86400) (hf : 1000000000 ≤ f ∧ f < 2000000000) (hst : stampNs d s f = some st) :
    callFunction O .dateTrunc [.text (strBytes p), .timestamp d s f] = .ok (tsShift d s f (-(st % span))) ∧
    st = tsTotal (d - 719163) s f ∧
    tsAdd d s f (-(st % span)) = .ok (tsShift d s f (-(st % span))) ∧
    ((span = 1000000000 ∨ (span = 60000000000 ∧ s % 60 = 59) ∨ (span = 3600000000000 ∧ s % 3600 = 3599)) →
      tsShift d s f (-(st % span)) = .timestamp d s 1000000000) := by
  obtain ⟨hy, hm, hd, hsp⟩ := subDay_facts p span hp
  have e := stampNs_some d s f st hst
  refine ⟨?_, e, dateTrunc_shift_in_range d s f st span hs ⟨by omega, hf.2⟩ hst (truncSpan_isSubDay _ _ hsp), fun h => ?_⟩
  · rw [call_dateTrunc]
    exact dateTrunc_span_closed _ _ hy hm hd hsp d s f st hst
  · rw [e]; exact dateTrunc_leap_is_leap_start d s f span hf h

/-- `EXTRACT(EPOCH FROM t)` is `timestamp_millis() / 1000.0` for every timestamp; in a leap second the millisecond
field runs to 1999, so the epoch of `:60 + φ` is that of the following second `+ φ` -/
theorem epoch_value (d s f : Int) :
    callFunction O .epoch [.timestamp d s f] =
      .ok (.real (F64.div (F64.ofInt ((d - 719163) * 86400000 + s * 1000 + f / 1000000)) (F64.ofInt 1000))) := rfl

/-- **`ts − iv = ts + (−iv)`**, and every other operator between a TIMESTAMP and an INTERVAL — `*`, `/`, and
`iv − ts` — has no value (finding D63, repaired in /repo 91aa1f4: the code used to add whatever the operator was) -/
theorem timestamp_minus_interval (d s f ns : Int) :
    arith .sub (.timestamp d s f) (.interval ns) = arith .add (.timestamp d s f) (.interval (-ns)) ∧
    arith .add (.interval ns) (.timestamp d s f) = arith .add (.timestamp d s f) (.interval ns) ∧
    arith .mul (.timestamp d s f) (.interval ns) = .error .undefinedOperation ∧
    arith .div (.timestamp d s f) (.interval ns) = .error .undefinedOperation ∧
    arith .sub (.interval ns) (.timestamp d s f) = .error .undefinedOperation ∧
    arith .mul (.interval ns) (.timestamp d s f) = .error .undefinedOperation ∧
    arith .div (.interval ns) (.timestamp d s f) = .error .undefinedOperation :=
  ⟨rfl, rfl, rfl, rfl, rfl, rfl, rfl⟩

/-- **`(ts + iv) − iv = ts`** for an ordinary timestamp, whenever both steps have a value -/
theorem plus_then_minus_interval (d s f ns : Int) (r v : Value) (h : TsPlain s f)
    (h1 : arith .add (.timestamp d s f) (.interval ns) = .ok r) (h2 : arith .sub r (.interval ns) = .ok v) :
    v = .timestamp d s f := by
  have e1 : tsAdd d s f ns = .ok r := h1
  unfold tsAdd at e1
  rw [tsShift_plain d s f ns h.2.2.2] at e1
  obtain ⟨d1, s1, f1, et, hp, htot⟩ := tsTotal_tsOfTotal (tsTotal d s f + ns)
  rw [et] at e1
  dsimp only at e1
  split at e1
  · injection e1 with e1
    subst e1
    have e2 : tsAdd d1 s1 f1 (-ns) = .ok v := h2
    unfold tsAdd at e2
    rw [tsShift_plain d1 s1 f1 (-ns) hp.2.2.2, htot] at e2
    have e3 : tsTotal d s f + ns + -ns = tsTotal d s f := by omega
    rw [e3, tsOfTotal_tsTotal d s f h] at e2
    dsimp only at e2
    split at e2
    · injection e2 with e2; exact e2.symm
    · cases e2
  · cases e1

example : arith .sub (.timestamp 736329 36000 0) (.interval 3600000000000) = .ok (.timestamp 736329 32400 0) ∧
    arith .add (.timestamp 736329 36000 0) (.interval 3600000000000) = .ok (.timestamp 736329 39600 0) ∧
    TsPlain 36000 0 := ⟨by rfl, by rfl, by unfold TsPlain; omega⟩

/-- **the documented seven-argument `make_timestamp` is the same function** (finding D64, repaired in /repo 7252aee:
an eighth, never read argument used to be required and is still accepted): every theorem above about the
eight-argument call holds for the README's call -/
theorem make_timestamp_seven_arguments (y mo d h mi s us : Int) (x : Value) :
    callFunction O .makeTimestamp [.int y, .int mo, .int d, .int h, .int mi, .int s, .int us] =
    callFunction O .makeTimestamp [.int y, .int mo, .int d, .int h, .int mi, .int s, .int us, x] := rfl

theorem make_timestamp_iff7 (y mo d h mi s us : Int) :
    (ValidCivil y mo d h mi s us →
      callFunction O .makeTimestamp [.int y, .int mo, .int d, .int h, .int mi, .int s, .int us] =
        .ok (.timestamp (CivilE.daysFromCE y mo d) (h * 3600 + mi * 60 + s) (us * 1000))) ∧
    (¬ ValidCivil y mo d h mi s us →
      callFunction O .makeTimestamp [.int y, .int mo, .int d, .int h, .int mi, .int s, .int us] = .ok .null) := by
  rw [make_timestamp_seven_arguments O y mo d h mi s us .null]
  exact make_timestamp_iff O y mo d h mi s us .null

/-- a part that is not an INT is an error in the seven-argument form too; six or nine arguments are no call of it -/
theorem make_timestamp_type_error7 (a b c d e f g : Value)
    (h : (isInt a && isInt b && isInt c && isInt d && isInt e && isInt f && isInt g) = false) :
    callFunction O .makeTimestamp [a, b, c, d, e, f, g] = .error .undefinedFunction := by
  cases a <;> (try rfl) <;> cases b <;> (try rfl) <;> cases c <;> (try rfl) <;> cases d <;> (try rfl) <;>
    cases e <;> (try rfl) <;> cases f <;> (try rfl) <;> cases g <;> (try rfl)
  simp [isInt] at h

example : callFunction {} .makeTimestamp [.int 2024, .int 2, .int 29, .int 13, .int 45, .int 12, .int 0] =
    .ok (.timestamp 738945 49512 0) ∧
    callFunction {} .makeTimestamp [.int 1, .int 1, .int 1, .int 1, .int 1, .int 1] = .error .undefinedFunction ∧
    callFunction {} .makeTimestamp [.int 1, .int 1, .int 1, .int 1, .int 1, .int 1, .int 1, .int 1, .int 1] = .error .undefinedFunction :=
  ⟨rfl, rfl, rfl⟩

example : stampNs 736329 86399 1500000000 = some 1483228800500000000 := by decide
example : ("minute", (60000000000 : Int)) ∈ subDayParts ∧ (86399 : Int) % 60 = 59 := by decide
example : tsShift 736329 86399 1500000000 (-(1483228800500000000 % 60000000000)) = .timestamp 736329 86399 1000000000 := by
  have h := dateTrunc_leap_is_leap_start 736329 86399 1500000000 60000000000 ⟨by decide, by decide⟩ (Or.inr (Or.inl ⟨rfl, by decide⟩))
  have e : tsTotal (736329 - 719163) 86399 1500000000 = 1483228800500000000 := by decide
  rw [e] at h; exact h
example : tsShift 736329 86399 1500000000 499999999 = .timestamp 736329 86399 (1500000000 + 499999999) ∧
    tsShift 736329 86399 1500000000 500000000 = tsOfTotal (tsTotal 736329 86399 (1500000000 - 1000000000) + 500000000) ∧
    tsShift 736329 86399 1500000000 (-1000000000) = tsOfTotal (tsTotal 736329 (86399 + 1) (1500000000 - 1000000000) + -1000000000) :=
  ⟨(leap_add_cases _ _ _ _ ⟨by decide, by decide⟩).1 ⟨by decide, by decide⟩,
   (leap_add_cases _ _ _ _ ⟨by decide, by decide⟩).2.1 (by decide),
   (leap_add_cases _ _ _ _ ⟨by decide, by decide⟩).2.2 (by decide)⟩

/-! ## B. numeric functions -/

/-- the operand pairs `least`/`greatest` accept: two INT, two REAL, two TIMESTAMP or two INTERVAL -/
def SameOrderable : Value → Value → Bool
  | .int _, .int _ => true
  | .real _, .real _ => true
  | .timestamp _ _ _, .timestamp _ _ _ => true
  | .interval _, .interval _ => true
  | _, _ => false

def notNaN : Value → Bool
  | .real x => !F64.isNaN x
  | _ => true

/-- `least` and `greatest` are one function of the choices they make: `fi` among two INT or INTERVAL operands, `fr` among
two REAL operands, and `snd`: whether the second of two TIMESTAMP operands is taken -/
def pairwise (fi : Int → Int → Int) (fr : Nat → Nat → Nat) (snd : Value → Value → Bool) (a b : Value) : Outcome Value :=
  match a, b with
  | .null, _ => .ok .null
  | _, .null => .ok .null
  | .int x, .int y => .ok (.int (fi x y))
  | .real x, .real y => .ok (.real (fr x y))
  | .timestamp d s f, .timestamp d' s' f' => .ok (if snd a b then .timestamp d' s' f' else .timestamp d s f)
  | .interval x, .interval y => .ok (.interval (fi x y))
  | _, _ => .error .undefinedFunction

theorem call_least (a b : Value) :
    callFunction O .least [a, b] = pairwise min F64.fmin (fun a b => Value.cmp b a == .lt) a b := rfl
theorem call_greatest (a b : Value) :
    callFunction O .greatest [a, b] = pairwise max F64.fmax (fun a b => Value.cmp a b == .lt) a b := rfl

theorem pairwise_null (fi fr snd) (a b : Value) (h : a = .null ∨ b = .null) : pairwise fi fr snd a b = .ok .null := by
  rcases h with rfl | rfl
  · rfl
  · cases a <;> rfl

theorem pairwise_type_error (fi fr snd) (a b : Value) (ha : a ≠ .null) (hb : b ≠ .null) (h : SameOrderable a b = false) :
    pairwise fi fr snd a b = .error .undefinedFunction := by
  cases a with
  | null => exact absurd rfl ha
  | _ =>
    cases b with
    | null => exact absurd rfl hb
    | _ => first | rfl | cases h

theorem sameOrderable_cases {motive : (a b : Value) → SameOrderable a b = true → Prop}
    (int : ∀ x y, motive (.int x) (.int y) rfl) (real : ∀ x y, motive (.real x) (.real y) rfl)
    (ts : ∀ d s f d' s' f', motive (.timestamp d s f) (.timestamp d' s' f') rfl)
    (iv : ∀ x y, motive (.interval x) (.interval y) rfl) (a b : Value) (h : SameOrderable a b = true) : motive a b h := by
  cases a with
  | int x => cases b with | int y => exact int x y | _ => cases h
  | real x => cases b with | real y => exact real x y | _ => cases h
  | timestamp d s f => cases b with | timestamp d' s' f' => exact ts d s f d' s' f' | _ => cases h
  | interval x => cases b with | interval y => exact iv x y | _ => cases h
  | _ => cases h

theorem pairwise_one_of {fi : Int → Int → Int} {fr : Nat → Nat → Nat} (snd) {a b : Value} (h : SameOrderable a b = true)
    (hi : ∀ x y, fi x y = x ∨ fi x y = y) (hr : ∀ x y, fr x y = x ∨ fr x y = y) :
    ∃ r, pairwise fi fr snd a b = .ok r ∧ (r = a ∨ r = b) := by
  induction a, b, h using sameOrderable_cases with
  | int x y => exact ⟨_, rfl, (hi x y).imp (congrArg _) (congrArg _)⟩
  | real x y => exact ⟨_, rfl, (hr x y).imp (congrArg _) (congrArg _)⟩
  | ts d s f d' s' f' =>
    refine ⟨_, rfl, ?_⟩
    split
    · exact .inr rfl
    · exact .inl rfl
  | iv x y => exact ⟨_, rfl, (hi x y).imp (congrArg _) (congrArg _)⟩

theorem pairwise_pick {fi : Int → Int → Int} {fr : Nat → Nat → Nat} {snd : Value → Value → Bool} {a b : Value}
    (h : SameOrderable a b = true) (ha : notNaN a = true) (hb : notNaN b = true)
    (hi : ∀ x y, fi x y = if snd (.int x) (.int y) then y else x)
    (hv : ∀ x y, fi x y = if snd (.interval x) (.interval y) then y else x)
    (hr : ∀ x y, F64.isNaN x = false → F64.isNaN y = false → fr x y = if snd (.real x) (.real y) then y else x) :
    pairwise fi fr snd a b = .ok (if snd a b then b else a) := by
  induction a, b, h using sameOrderable_cases with
  | int x y => show Outcome.ok (Value.int (fi x y)) = _; rw [hi]; split <;> rfl
  | real x y =>
    simp only [notNaN, Bool.not_eq_true'] at ha hb
    show Outcome.ok (Value.real (fr x y)) = _
    rw [hr x y ha hb]; split <;> rfl
  | ts d s f d' s' f' => rfl
  | iv x y => show Outcome.ok (Value.interval (fi x y)) = _; rw [hv]; split <;> rfl

theorem lt_beq (p q : Int) : (compare p q == .lt) = decide (p < q) := by
  rw [Bool.eq_iff_iff, beq_iff_eq, Int.compare_eq_lt, decide_eq_true_eq]

/-- `min` and `max` on the payloads of INT or INTERVAL values (`c`), as choices by the value order -/
theorem min_pick (c : Int → Value) (hc : ∀ x y, Value.cmp (c x) (c y) = compare x y) (x y : Int) :
    min x y = if Value.cmp (c y) (c x) == .lt then y else x := by
  simp only [hc, Int.min_def, lt_beq, decide_eq_true_eq]
  by_cases h : y < x
  · rw [if_neg (Int.not_le.2 h), if_pos h]
  · rw [if_pos (Int.not_lt.1 h), if_neg h]

theorem max_pick (c : Int → Value) (hc : ∀ x y, Value.cmp (c x) (c y) = compare x y) (x y : Int) :
    max x y = if Value.cmp (c x) (c y) == .lt then y else x := by
  simp only [hc, Int.max_def, lt_beq, decide_eq_true_eq]
  by_cases h : x < y
  · rw [if_pos (Int.le_of_lt h), if_pos h]
  · rw [if_neg h]; split
    · exact Int.le_antisymm (Int.not_lt.1 h) ‹_›
    · rfl

theorem fmin_pick (x y : Nat) (hx : F64.isNaN x = false) (hy : F64.isNaN y = false) :
    F64.fmin x y = if Value.cmp (.real y) (.real x) == .lt then y else x := by
  simp only [Value.cmp, F64.fmin, F64.cmp, hx, hy, Bool.false_eq_true, if_false, lt_beq, decide_eq_true_eq]

theorem fmax_pick (x y : Nat) (hx : F64.isNaN x = false) (hy : F64.isNaN y = false) :
    F64.fmax x y = if Value.cmp (.real x) (.real y) == .lt then y else x := by
  simp only [Value.cmp, F64.fmax, F64.cmp, hx, hy, Bool.false_eq_true, if_false, lt_beq, decide_eq_true_eq]

theorem fmin_one_of (x y : Nat) : F64.fmin x y = x ∨ F64.fmin x y = y := by
  unfold F64.fmin
  split; exact .inr rfl
  split; exact .inl rfl
  split; exact .inr rfl
  exact .inl rfl

theorem fmax_one_of (x y : Nat) : F64.fmax x y = x ∨ F64.fmax x y = y := by
  unfold F64.fmax
  split; exact .inr rfl
  split; exact .inl rfl
  split; exact .inr rfl
  exact .inl rfl

/-- of two values, the one `<` picks as the smaller is not above either, the one it picks as the larger not below either -/
theorem pick_bounds (a b : Value) :
    (Value.cmp (if Value.cmp a b == .lt then a else b) a ≠ .gt ∧ Value.cmp (if Value.cmp a b == .lt then a else b) b ≠ .gt) ∧
    (Value.cmp a (if Value.cmp a b == .lt then b else a) ≠ .gt ∧ Value.cmp b (if Value.cmp a b == .lt then b else a) ≠ .gt) := by
  have hs := Value.cmp_swap a b
  cases hc : Value.cmp a b with
  | lt =>
    show (Value.cmp a a ≠ .gt ∧ Value.cmp a b ≠ .gt) ∧ (Value.cmp a b ≠ .gt ∧ Value.cmp b b ≠ .gt)
    rw [hc, Value.cmp_refl, Value.cmp_refl]; exact ⟨⟨nofun, nofun⟩, nofun, nofun⟩
  | eq =>
    show (Value.cmp b a ≠ .gt ∧ Value.cmp b b ≠ .gt) ∧ (Value.cmp a a ≠ .gt ∧ Value.cmp b a ≠ .gt)
    rw [Value.cmp_refl, Value.cmp_refl, hs, hc]; exact ⟨⟨nofun, nofun⟩, nofun, nofun⟩
  | gt =>
    show (Value.cmp b a ≠ .gt ∧ Value.cmp b b ≠ .gt) ∧ (Value.cmp a a ≠ .gt ∧ Value.cmp b a ≠ .gt)
    rw [Value.cmp_refl, Value.cmp_refl, hs, hc]; exact ⟨⟨nofun, nofun⟩, nofun, nofun⟩

theorem cmp_int (x y : Int) : Value.cmp (.int x) (.int y) = compare x y := by simp only [Value.cmp]
theorem cmp_interval (x y : Int) : Value.cmp (.interval x) (.interval y) = compare x y := by simp only [Value.cmp]

theorem least_eq_pick {a b : Value} (h : SameOrderable a b = true) (ha : notNaN a = true) (hb : notNaN b = true) :
    callFunction O .least [a, b] = .ok (if Value.cmp b a == .lt then b else a) :=
  (call_least O a b).trans (pairwise_pick h ha hb (min_pick .int cmp_int) (min_pick .interval cmp_interval) fmin_pick)

theorem greatest_eq_pick {a b : Value} (h : SameOrderable a b = true) (ha : notNaN a = true) (hb : notNaN b = true) :
    callFunction O .greatest [a, b] = .ok (if Value.cmp a b == .lt then b else a) :=
  (call_greatest O a b).trans (pairwise_pick h ha hb (max_pick .int cmp_int) (max_pick .interval cmp_interval) fmax_pick)

/-- `least(a, b)` on two INT / REAL / TIMESTAMP / INTERVAL operands is one of the two operands and is not above
either in the value order (`Value.cmp`; REAL: for operands that are not NaN — `f64::min` returns the other operand when
one is NaN) -/
theorem least_is_lower_bound (a b : Value) (h : SameOrderable a b = true) :
    ∃ r, callFunction O .least [a, b] = .ok r ∧ (r = a ∨ r = b) ∧
      (notNaN a = true → notNaN b = true → Value.cmp r a ≠ .gt ∧ Value.cmp r b ≠ .gt) := by
  obtain ⟨r, hr, hab⟩ := pairwise_one_of (fi := min) (fr := F64.fmin) (fun a b => Value.cmp b a == .lt) h
    (fun x y => by omega) fmin_one_of
  rw [← call_least O] at hr
  refine ⟨r, hr, hab, fun ha hb => ?_⟩
  rw [least_eq_pick O h ha hb] at hr
  injection hr with hr
  subst hr
  exact (pick_bounds b a).1.symm

/-- `greatest(a, b)`: one of the two operands, not below either -/
theorem greatest_is_upper_bound (a b : Value) (h : SameOrderable a b = true) :
    ∃ r, callFunction O .greatest [a, b] = .ok r ∧ (r = a ∨ r = b) ∧
      (notNaN a = true → notNaN b = true → Value.cmp a r ≠ .gt ∧ Value.cmp b r ≠ .gt) := by
  obtain ⟨r, hr, hab⟩ := pairwise_one_of (fi := max) (fr := F64.fmax) (fun a b => Value.cmp a b == .lt) h
    (fun x y => by omega) fmax_one_of
  rw [← call_greatest O] at hr
  refine ⟨r, hr, hab, fun ha hb => ?_⟩
  rw [greatest_eq_pick O h ha hb] at hr
  injection hr with hr
  subst hr
  exact (pick_bounds a b).2

/-- NULL if either operand is NULL (whatever the other operand is) -/
theorem least_greatest_null (a b : Value) (h : a = .null ∨ b = .null) :
    callFunction O .least [a, b] = .ok .null ∧ callFunction O .greatest [a, b] = .ok .null := by
  rw [call_least, call_greatest]
  exact ⟨pairwise_null _ _ _ a b h, pairwise_null _ _ _ a b h⟩

/-- every other combination of operand types is an error, not a value -/
theorem least_greatest_type_error (a b : Value) (ha : a ≠ .null) (hb : b ≠ .null) (h : SameOrderable a b = false) :
    callFunction O .least [a, b] = .error .undefinedFunction ∧
    callFunction O .greatest [a, b] = .error .undefinedFunction := by
  rw [call_least, call_greatest]
  exact ⟨pairwise_type_error _ _ _ a b ha hb h, pairwise_type_error _ _ _ a b ha hb h⟩

/-- wrong number of arguments: an error -/
theorem least_greatest_arity (args : List Value) (h : args.length ≠ 2) :
    callFunction O .least args = .error .undefinedFunction ∧ callFunction O .greatest args = .error .undefinedFunction := by
  match args, h with
  | [], _ => exact ⟨rfl, rfl⟩
  | [_], _ => exact ⟨rfl, rfl⟩
  | [_, _], h => exact absurd rfl h
  | _ :: _ :: _ :: _, _ => exact ⟨rfl, rfl⟩

example : callFunction {} .least [.int 3, .int (-5)] = .ok (.int (-5)) ∧
    callFunction {} .greatest [.interval 7, .interval 9] = .ok (.interval 9) ∧
    callFunction {} .greatest [.timestamp 738886 1 5, .timestamp 738885 86399 0] = .ok (.timestamp 738886 1 5) ∧
    callFunction {} .least [.int 3, .text [97]] = .error .undefinedFunction ∧
    callFunction {} .least [.int 3, .real 0] = .error .undefinedFunction ∧
    callFunction {} .least [.text [97], .null] = .ok .null := ⟨rfl, rfl, rfl, rfl, rfl, rfl⟩

/-- `abs` on INT: the absolute value when it is an `i64`, and an ERROR exactly at `i64::MIN` — never a wrapped value -/
theorem abs_int (x : Int) (hx : inI64 x = true) :
    (x ≠ i64Min → callFunction O .abs [.int x] = .ok (.int (x.natAbs : Int)) ∧ inI64 (x.natAbs : Int) = true) ∧
    (x = i64Min → callFunction O .abs [.int x] = .error .undefinedFunction) := by
  rw [inI64_iff] at hx
  have habs : (if x < 0 then -x else x) = (x.natAbs : Int) := by split <;> omega
  constructor
  · intro hne
    unfold i64Min at hne
    have hin : inI64 (x.natAbs : Int) = true := by rw [inI64_iff]; omega
    refine ⟨?_, hin⟩
    simp only [call_abs_int, habs, checked, hin, if_true]
  · intro he
    subst he
    rfl

/-- `abs` on INTERVAL is the absolute value (chrono's range is symmetric: no overflow), on REAL it clears the sign
bit, of NULL it is NULL, and any other operand is an error -/
theorem abs_others (x : Int) (b : Nat) :
    callFunction O .abs [.interval x] = .ok (.interval (x.natAbs : Int)) ∧
    callFunction O .abs [.real b] = .ok (.real (b % 2 ^ 63)) ∧
    callFunction O .abs [.null] = .ok .null := by
  have habs : (if x < 0 then -x else x) = (x.natAbs : Int) := by split <;> omega
  refine ⟨?_, rfl, rfl⟩
  simp only [call_abs_interval, habs]

theorem abs_type_error (v : Value) (h : v.valueType ≠ some .int ∧ v.valueType ≠ some .real ∧ v.valueType ≠ some .interval ∧ v ≠ .null) :
    callFunction O .abs [v] = .error .undefinedFunction := by
  cases v <;> simp only [Value.valueType, ne_eq, not_true_eq_false, false_and, and_false] at h <;> rfl

example : callFunction {} .abs [.int (-9223372036854775807)] = .ok (.int 9223372036854775807) ∧
    callFunction {} .abs [.int (-9223372036854775808)] = .error .undefinedFunction ∧
    callFunction {} .abs [.interval (-5)] = .ok (.interval 5) ∧
    callFunction {} .abs [.text []] = .error .undefinedFunction := ⟨rfl, rfl, rfl, rfl⟩

/-- the mathematical meaning of `pow` on INT: `x ^ y` when `0 ≤ y ≤ u32::MAX` and the power is an `i64`; no value
otherwise -/
def powSpec (x y : Int) : Outcome Value :=
  if 0 ≤ y ∧ y ≤ 4294967295 ∧ inI64 (x ^ y.toNat) = true then .ok (.int (x ^ y.toNat)) else .error .undefinedFunction

/-- **`pow` on INT is the mathematical power or an error**: the model's case analysis (bases 0, 1, −1; exponents
above 64) agrees with `x ^ y` everywhere -/
theorem pow_int (x y : Int) : callFunction O .pow [.int x, .int y] = powSpec x y := by
  unfold powSpec
  show (if y < 0 || y > 4294967295 then _ else _) = _
  by_cases hy : y < 0 ∨ y > 4294967295
  · have h1 : (decide (y < 0) || decide (y > 4294967295)) = true := by
      simp only [Bool.or_eq_true, decide_eq_true_eq]; exact hy
    have h2 : ¬ (0 ≤ y ∧ y ≤ 4294967295 ∧ inI64 (x ^ y.toNat) = true) := by omega
    simp only [h1, if_true, h2, if_false]
  · have h1 : (decide (y < 0) || decide (y > 4294967295)) = false := by
      simp only [Bool.or_eq_false_iff, decide_eq_false_iff_not]; omega
    have hy0 : 0 ≤ y := by omega
    have hy1 : y ≤ 4294967295 := by omega
    simp only [h1, Bool.false_eq_true, if_false, hy0, hy1, true_and]
    by_cases hx0 : x = 0
    · subst hx0
      simp only [beq_self_eq_true, if_true, zero_pow_int]
      by_cases hz : y = 0
      · subst hz; rfl
      · have : ¬ y.toNat = 0 := by omega
        have hz' : (y == 0) = false := by simpa using hz
        simp only [hz', this, Bool.false_eq_true, if_false]; rfl
    · have hx0' : (x == 0) = false := by simpa using hx0
      simp only [hx0', Bool.false_eq_true, if_false]
      by_cases hx1 : x = 1
      · subst hx1
        simp only [beq_self_eq_true, if_true, Int.one_pow]; rfl
      · have hx1' : (x == 1) = false := by simpa using hx1
        simp only [hx1', Bool.false_eq_true, if_false]
        by_cases hxm : x = -1
        · subst hxm
          simp only [beq_self_eq_true, if_true, neg_one_pow]
          by_cases hev : y % 2 = 0
          · have : y.toNat % 2 = 0 := by omega
            have hev' : (y % 2 == 0) = true := by simpa using hev
            simp only [hev', this, if_true]; rfl
          · have : ¬ y.toNat % 2 = 0 := by omega
            have hev' : (y % 2 == 0) = false := by simpa using hev
            simp only [hev', this, Bool.false_eq_true, if_false]; rfl
        · have hxm' : (x == -1) = false := by simpa using hxm
          simp only [hxm', Bool.false_eq_true, if_false]
          by_cases h64 : y > 64
          · have hov := pow_overflows x y.toNat (by omega) (by omega)
            simp only [h64, if_true, hov, Bool.false_eq_true, if_false]
          · simp only [h64, if_false, checked]
            cases hin : inI64 (x ^ y.toNat) <;> simp

/-- … as an equivalence: `pow(x, y)` evaluates to `r` iff the exponent fits `u32`, the mathematical power is an
`i64`, and `r` is that power; in every other case it is an error -/
theorem pow_int_iff (x y r : Int) :
    callFunction O .pow [.int x, .int y] = .ok (.int r) ↔
      0 ≤ y ∧ y ≤ 4294967295 ∧ inI64 (x ^ y.toNat) = true ∧ r = x ^ y.toNat := by
  rw [pow_int]
  unfold powSpec
  constructor
  · intro h
    split at h
    · rename_i hc
      injection h with h; injection h with h
      exact ⟨hc.1, hc.2.1, hc.2.2, h.symm⟩
    · cases h
  · rintro ⟨h1, h2, h3, rfl⟩
    simp only [h1, h2, h3, and_self, if_true]

theorem pow_int_error (x y : Int) (h : ¬ (0 ≤ y ∧ y ≤ 4294967295 ∧ inI64 (x ^ y.toNat) = true)) :
    callFunction O .pow [.int x, .int y] = .error .undefinedFunction := by
  rw [pow_int]; unfold powSpec; simp only [h, if_false]

/-- NULL operands give NULL; mixed or non-numeric operands are an error -/
theorem pow_null (a b : Value) (h : a = .null ∨ b = .null) : callFunction O .pow [a, b] = .ok .null := by
  rcases h with h | h
  · subst h; cases b <;> rfl
  · subst h; cases a <;> rfl

example : callFunction {} .pow [.int 2, .int 62] = .ok (.int 4611686018427387904) ∧
    callFunction {} .pow [.int 2, .int 63] = .error .undefinedFunction ∧
    callFunction {} .pow [.int (-2), .int 63] = .ok (.int (-9223372036854775808)) ∧
    callFunction {} .pow [.int (-1), .int 4294967295] = .ok (.int (-1)) ∧
    callFunction {} .pow [.int 0, .int 0] = .ok (.int 1) ∧
    callFunction {} .pow [.int 2, .int 4294967298] = .error .undefinedFunction ∧
    callFunction {} .pow [.int 1, .int 4294967296] = .error .undefinedFunction ∧
    callFunction {} .pow [.int 2, .int (-1)] = .error .undefinedFunction ∧
    callFunction {} .pow [.int 3, .real 0] = .error .undefinedFunction := ⟨rfl, rfl, rfl, rfl, rfl, rfl, rfl, rfl, rfl⟩

/-! ## C. text functions -/

/-- **`length(TEXT)` is the number of code points** of the text (not bytes): for every list of characters -/
theorem length_is_code_points (cs : List Char) :
    callFunction O .length [.text (Utf8.encode cs)] = .ok (.int cs.length) := by
  simp only [call_length, charCount_encode]

/-- `length` of anything but TEXT (NULL included) is an error -/
theorem length_type_error (v : Value) (h : v.valueType ≠ some .text) :
    callFunction O .length [v] = .error .undefinedFunction := by
  cases v <;> simp only [Value.valueType, ne_eq, not_true_eq_false] at h <;> rfl

/-- **`upper` / `lower` on ASCII text** map every byte by `upperByte` / `lowerByte` … -/
theorem upper_lower_ascii (s : Bytes) (h : isAscii s = true) :
    callFunction O .upper [.text s] = .ok (.text (s.map upperByte)) ∧
    callFunction O .lower [.text s] = .ok (.text (s.map lowerByte)) := by
  simp only [call_upper, call_lower, h, if_true, asciiUpper_eq, asciiLower_eq, and_self]

/-- … which **map exactly the 26 letters and nothing else**: `a+i ↦ A+i`, `A+i ↦ a+i` for `i < 26`, every other byte
is unchanged -/
theorem case_maps_exactly_the_letters :
    (∀ i, i < 26 → upperByte (97 + i) = 65 + i ∧ lowerByte (65 + i) = 97 + i) ∧
    (∀ b, ¬ (97 ≤ b ∧ b ≤ 122) → upperByte b = b) ∧ (∀ b, ¬ (65 ≤ b ∧ b ≤ 90) → lowerByte b = b) := by
  refine ⟨fun i hi => ⟨?_, ?_⟩, fun b hb => ?_, fun b hb => ?_⟩
  · unfold upperByte; split <;> omega
  · unfold lowerByte; split <;> omega
  · unfold upperByte; rw [if_neg hb]
  · unfold lowerByte; rw [if_neg hb]

/-- the same statement against an independent definition: on ASCII characters `upper`/`lower` are the standard
library's `Char.toUpper` / `Char.toLower` applied to every character -/
theorem upper_lower_ascii_chars (cs : List Char) (h : ∀ c ∈ cs, c.toNat < 128) :
    callFunction O .upper [.text (Utf8.encode cs)] = .ok (.text (Utf8.encode (cs.map Char.toUpper))) ∧
    callFunction O .lower [.text (Utf8.encode cs)] = .ok (.text (Utf8.encode (cs.map Char.toLower))) := by
  have hu : ∀ c ∈ cs.map Char.toUpper, c.toNat < 128 := by
    intro c hc
    obtain ⟨c0, hc0, rfl⟩ := List.mem_map.1 hc
    rw [← upperByte_toUpper]; exact upperByte_ascii _ (h c0 hc0)
  have hl : ∀ c ∈ cs.map Char.toLower, c.toNat < 128 := by
    intro c hc
    obtain ⟨c0, hc0, rfl⟩ := List.mem_map.1 hc
    rw [← lowerByte_toLower]; exact lowerByte_ascii _ (h c0 hc0)
  have ha : isAscii (cs.map Char.toNat) = true := by
    simp only [isAscii, List.all_eq_true, List.mem_map, decide_eq_true_eq, forall_exists_index, and_imp]
    intro x c hc hx; subst hx; exact h c hc
  rw [encode_ascii cs h, encode_ascii _ hu, encode_ascii _ hl]
  obtain ⟨e1, e2⟩ := upper_lower_ascii O _ ha
  rw [e1, e2]
  simp only [List.map_map]
  refine ⟨?_, ?_⟩ <;> congr 3 <;> funext c <;> simp only [Function.comp]
  · exact upperByte_toUpper c
  · exact lowerByte_toLower c

/-- **idempotent and length-preserving** on ASCII text (and `lower ∘ upper = lower`, `upper ∘ lower = upper`) -/
theorem upper_lower_idempotent (s u l : Bytes) (h : isAscii s = true)
    (hu : callFunction O .upper [.text s] = .ok (.text u)) (hl : callFunction O .lower [.text s] = .ok (.text l)) :
    callFunction O .upper [.text u] = .ok (.text u) ∧ callFunction O .lower [.text l] = .ok (.text l) ∧
    callFunction O .lower [.text u] = .ok (.text l) ∧ callFunction O .upper [.text l] = .ok (.text u) ∧
    callFunction O .length [.text u] = callFunction O .length [.text s] ∧
    callFunction O .length [.text l] = callFunction O .length [.text s] ∧
    u.length = s.length ∧ l.length = s.length := by
  obtain ⟨e1, e2⟩ := upper_lower_ascii O s h
  rw [e1] at hu; rw [e2] at hl
  injection hu with hu; injection hu with hu
  injection hl with hl; injection hl with hl
  subst hu hl
  have au := isAscii_map s upperByte upperByte_ascii h
  have al := isAscii_map s lowerByte lowerByte_ascii h
  obtain ⟨u1, u2⟩ := upper_lower_ascii O _ au
  obtain ⟨l1, l2⟩ := upper_lower_ascii O _ al
  refine ⟨?_, ?_, ?_, ?_, ?_, ?_, by simp, by simp⟩
  · rw [u1, List.map_map]; congr 3; funext b; exact upperByte_idem b
  · rw [l2, List.map_map]; congr 3; funext b; exact lowerByte_idem b
  · rw [u2, List.map_map]; congr 3; funext b; exact lower_upperByte b
  · rw [l1, List.map_map]; congr 3; funext b; exact upper_lowerByte b
  · simp only [call_length, charCount_ascii _ au, charCount_ascii _ h, List.length_map]
  · simp only [call_length, charCount_ascii _ al, charCount_ascii _ h, List.length_map]

/-- non-ASCII text goes through the shipped Unicode case tables (`str::to_uppercase` / `to_lowercase`, an oracle of
the correspondence): the model's answer is the table entry — TRUSTED, no theorem about its content -/
theorem upper_lower_non_ascii (s r : Bytes) (h : isAscii s = false) :
    (lookupB O.upper s = some r → callFunction O .upper [.text s] = .ok (.text r)) ∧
    (lookupB O.lower s = some r → callFunction O .lower [.text s] = .ok (.text r)) := by
  constructor <;> intro hr <;> simp only [call_upper, call_lower, h, Bool.false_eq_true, if_false, hr]

theorem upper_lower_type_error (v : Value) (h : v.valueType ≠ some .text) :
    callFunction O .upper [v] = .error .undefinedFunction ∧ callFunction O .lower [v] = .error .undefinedFunction := by
  cases v <;> simp only [Value.valueType, ne_eq, not_true_eq_false] at h <;> exact ⟨rfl, rfl⟩

example : callFunction {} .length [.text (Utf8.encode "zé€😀".toList)] = .ok (.int 4) ∧ (Utf8.encode "zé€😀".toList).length = 10 :=
  ⟨length_is_code_points {} _, by decide⟩
example : isAscii (Utf8.encode "Hello, World 42!".toList) = true := by decide +kernel
example : callFunction {} .upper [.text (Utf8.encode "Hello, World 42!{`@[".toList)] = .ok (.text (Utf8.encode "HELLO, WORLD 42!{`@[".toList)) ∧
    callFunction {} .lower [.text (Utf8.encode "Hello, World 42!{`@[".toList)] = .ok (.text (Utf8.encode "hello, world 42!{`@[".toList)) := by
  rw [String.toList_ofList, String.toList_ofList, String.toList_ofList, (upper_lower_ascii {} _ (by decide +kernel)).1,
    (upper_lower_ascii {} _ (by decide +kernel)).2]
  refine ⟨?_, ?_⟩ <;> congr 2 <;> decide +kernel
example : ∀ c ∈ "aZ09~".toList, c.toNat < 128 := by decide
example : isAscii (Utf8.encode "é".toList) = false := by decide

variable (env : Env)

/-! ## D. arrays -/

/-- the value of `a[n]` for the element list of `a`: 1-based, NULL outside `1 ..= |a|` -/
def subscript (xs : List Value) (n : Int) : Value := if n ≥ 1 then (xs[(n - 1).toNat]?).getD .null else .null

/-- `a[i]` evaluates to `subscript` of the elements (restating `C03.subscript_one_based` with the name used below) -/
theorem eval_index (a i : Expr) (t : VType) (xs : List Value) (n : Int)
    (ha : eval O env a = .ok (.array t xs)) (hi : eval O env i = .ok (.int n)) :
    eval O env (.index a i) = .ok (subscript xs n) := by
  simp only [eval, ha, hi, bind, Outcome.bind, pure, subscript]

/-- **1-based, NULL outside**: `a[n]` is the `n`-th element counted from one when `1 ≤ n ≤ |a|`, NULL otherwise -/
theorem subscript_spec (xs : List Value) (n : Int) :
    (∀ k, (h : k < xs.length) → n = (k : Int) + 1 → subscript xs n = xs[k]) ∧
    ((n < 1 ∨ n > xs.length) → subscript xs n = .null) := by
  constructor
  · intro k hk hn
    subst hn
    have h1 : (k : Int) + 1 ≥ 1 := by omega
    have h2 : ((k : Int) + 1 - 1).toNat = k := by omega
    simp only [subscript, h1, if_true, h2, List.getElem?_eq_getElem hk, Option.getD_some]
  · intro h
    unfold subscript
    split
    · have : xs.length ≤ (n - 1).toNat := by omega
      rw [List.getElem?_eq_none this]; rfl
    · rfl

/-- `array_length` is the number of elements -/
theorem array_length_spec (t : VType) (xs : List Value) :
    callFunction O .arrayLength [.array t xs] = .ok (.int xs.length) := rfl

/-- `array_cat` is concatenation — for arrays of the same element type; different element types are an error -/
theorem array_cat_spec (t u : VType) (xs ys : List Value) :
    (t = u → callFunction O .arrayCat [.array t xs, .array u ys] = .ok (.array t (xs ++ ys))) ∧
    (t ≠ u → callFunction O .arrayCat [.array t xs, .array u ys] = .error .undefinedFunction) := by
  constructor <;> intro h <;> simp [call_arrayCat, h]

/-- `array_append(a, x)` puts `x` last, `array_prepend(x, a)` first — when `x` has the element type of `a`; an element
of another type, or NULL (which has no type), is an error -/
theorem array_append_prepend_spec (t : VType) (xs : List Value) (x : Value) :
    (x.valueType = some t →
      callFunction O .arrayAppend [.array t xs, x] = .ok (.array t (xs ++ [x])) ∧
      callFunction O .arrayPrepend [x, .array t xs] = .ok (.array t (x :: xs))) ∧
    (x.valueType ≠ some t →
      callFunction O .arrayAppend [.array t xs, x] = .error .undefinedFunction ∧
      callFunction O .arrayPrepend [x, .array t xs] = .error .undefinedFunction) := by
  constructor
  · intro h
    have : (some t == x.valueType) = true := by rw [h]; simp
    simp only [call_arrayAppend, call_arrayPrepend, this, if_true, and_self]
  · intro h
    have : (some t == x.valueType) = false := by
      cases hx : (some t == x.valueType)
      · rfl
      · exact absurd (eq_of_beq hx).symm h
    simp only [call_arrayAppend, call_arrayPrepend, this, Bool.false_eq_true, if_false, and_self]

/-- the array functions applied to something that is not an array (NULL included) are errors -/
theorem array_functions_type_error (v w : Value) (h : ∀ t xs, v ≠ .array t xs) :
    callFunction O .arrayLength [v] = .error .undefinedFunction ∧
    callFunction O .arrayUnique [v] = .error .undefinedFunction ∧
    callFunction O .arrayCat [v, w] = .error .undefinedFunction ∧
    callFunction O .arrayCat [w, v] = .error .undefinedFunction ∧
    callFunction O .arrayAppend [v, w] = .error .undefinedFunction ∧
    callFunction O .arrayPrepend [w, v] = .error .undefinedFunction := by
  cases v <;> first | exact absurd rfl (h _ _) | exact ⟨rfl, rfl, rfl, by cases w <;> rfl, rfl, rfl⟩

/-- **subscripts on the results address what you expect**: `(array_cat a b)[i]` is `a[i]` for `i ≤ |a|` and
`b[i − |a|]` beyond -/
theorem subscript_cat (xs ys : List Value) (n : Int) :
    subscript (xs ++ ys) n = if n ≤ xs.length then subscript xs n else subscript ys (n - xs.length) := by
  unfold subscript
  by_cases h1 : n ≥ 1
  · by_cases h2 : n ≤ xs.length
    · have hk : (n - 1).toNat < xs.length := by omega
      simp only [h1, h2, if_true, List.getElem?_append_left hk]
    · have hk : xs.length ≤ (n - 1).toNat := by omega
      have h3 : n - xs.length ≥ 1 := by omega
      have h4 : (n - 1).toNat - xs.length = (n - xs.length - 1).toNat := by omega
      simp only [h1, h2, h3, if_true, if_false, List.getElem?_append_right hk, h4]
  · have h2 : n ≤ xs.length := by omega
    simp only [h1, h2, if_true, if_false]

/-- `(array_append a x)[|a| + 1] = x`, the earlier subscripts are those of `a`; `(array_prepend x a)[1] = x` and
`(array_prepend x a)[i + 1] = a[i]` -/
theorem subscript_append_prepend (xs : List Value) (x : Value) (n : Int) :
    subscript (xs ++ [x]) (xs.length + 1) = x ∧
    (n ≤ xs.length → subscript (xs ++ [x]) n = subscript xs n) ∧
    subscript (x :: xs) 1 = x ∧
    (n ≥ 1 → subscript (x :: xs) (n + 1) = subscript xs n) := by
  refine ⟨?_, ?_, rfl, ?_⟩
  · rw [subscript_cat]
    have : ¬ ((xs.length : Int) + 1 ≤ xs.length) := by omega
    have e : (xs.length : Int) + 1 - xs.length = 1 := by omega
    simp only [this, if_false, e]; rfl
  · intro h
    rw [subscript_cat]; simp only [h, if_true]
  · intro h
    unfold subscript
    have h1 : n + 1 ≥ 1 := by omega
    have e : (n + 1 - 1).toNat = (n - 1).toNat + 1 := by omega
    simp only [h1, h, if_true, e, List.getElem?_cons_succ]

/-- at the level of expressions: subscripting `array_cat(a, b)` -/
theorem index_of_array_cat (a b i : Expr) (t : VType) (xs ys : List Value) (n : Int)
    (ha : eval O env a = .ok (.array t xs)) (hb : eval O env b = .ok (.array t ys)) (hi : eval O env i = .ok (.int n)) :
    eval O env (.index (.call .arrayCat [a, b]) i) =
      .ok (if n ≤ xs.length then subscript xs n else subscript ys (n - xs.length)) := by
  have hc : eval O env (.call .arrayCat [a, b]) = .ok (.array t (xs ++ ys)) := by
    simp [eval, evalList, ha, hb, bind, Outcome.bind, pure, call_arrayCat]
  rw [eval_index O env _ i t _ n hc hi, subscript_cat]

theorem all_beq_head_iff (u : VType) (us : List VType) : us.all (· == u) = true ↔ ∀ x ∈ u :: us, x = u := by
  simp only [List.all_eq_true, beq_iff_eq, List.forall_mem_cons, true_and]

/-- **`array[…]`: all elements of one type, else an error.** The element type is the type of the first non-NULL
element; NULL elements are allowed next to typed ones; an array without any typed element has no type: an error -/
theorem create_array_spec (args : List Value) :
    (∀ t, (∃ v ∈ args, v.valueType = some t) → (∀ v ∈ args, v = .null ∨ v.valueType = some t) →
      callFunction O .createArray args = .ok (.array t args)) ∧
    (∀ v ∈ args, ∀ w ∈ args, v.valueType ≠ none → w.valueType ≠ none → v.valueType ≠ w.valueType →
      callFunction O .createArray args = .error .typeError) ∧
    ((∀ v ∈ args, v = .null) → callFunction O .createArray args = .error .expectedArrayElementType) := by
  refine ⟨?_, ?_, ?_⟩
  · rintro t ⟨v, hv, hvt⟩ hall
    have hmem : t ∈ args.filterMap Value.valueType := List.mem_filterMap.2 ⟨v, hv, hvt⟩
    have hsame : ∀ u ∈ args.filterMap Value.valueType, u = t := by
      intro u hu
      obtain ⟨w, hw, hwt⟩ := List.mem_filterMap.1 hu
      rcases hall w hw with h | h
      · subst h; cases hwt
      · rw [h] at hwt; exact (Option.some.inj hwt).symm
    rw [call_createArray]
    cases hl : args.filterMap Value.valueType with
    | nil => rw [hl] at hmem; cases hmem
    | cons u us =>
      rw [hl] at hsame
      cases hsame u List.mem_cons_self
      simp only [(all_beq_head_iff t us).2 hsame, if_true]
  · intro v hv w hw hvn hwn hne
    obtain ⟨tv, htv⟩ := Option.ne_none_iff_exists'.1 hvn
    obtain ⟨tw, htw⟩ := Option.ne_none_iff_exists'.1 hwn
    have hmv : tv ∈ args.filterMap Value.valueType := List.mem_filterMap.2 ⟨v, hv, htv⟩
    have hmw : tw ∈ args.filterMap Value.valueType := List.mem_filterMap.2 ⟨w, hw, htw⟩
    rw [call_createArray]
    cases hl : args.filterMap Value.valueType with
    | nil => rw [hl] at hmv; cases hmv
    | cons u us =>
      rw [hl] at hmv hmw
      -- were all the types the first one, those of `v` and `w` would be the same
      have : us.all (· == u) = false := Bool.eq_false_iff.2 fun hall =>
        hne (by rw [htv, htw, (all_beq_head_iff u us).1 hall tv hmv, (all_beq_head_iff u us).1 hall tw hmw])
      simp only [this, Bool.false_eq_true, if_false]
  · intro hall
    have : args.filterMap Value.valueType = [] := by
      apply List.filterMap_eq_nil_iff.2
      intro v hv; rw [hall v hv]; rfl
    rw [call_createArray, this]

example : callFunction {} .createArray [.int 1, .null, .int 3] = .ok (.array .int [.int 1, .null, .int 3]) ∧
    callFunction {} .createArray [.int 1, .text [97]] = .error .typeError ∧
    callFunction {} .createArray [.null, .null] = .error .expectedArrayElementType ∧
    callFunction {} .createArray [] = .error .expectedArrayElementType ∧
    callFunction {} .arrayCat [.array .int [.int 1], .array .text []] = .error .undefinedFunction ∧
    callFunction {} .arrayAppend [.array .int [.int 1], .null] = .error .undefinedFunction ∧
    callFunction {} .arrayAppend [.array .int [.int 1], .int 2] = .ok (.array .int [.int 1, .int 2]) ∧
    callFunction {} .arrayPrepend [.int 2, .array .int [.int 1]] = .ok (.array .int [.int 2, .int 1]) :=
  ⟨rfl, rfl, rfl, rfl, rfl, rfl, rfl, rfl⟩
example : subscript [.int 10, .int 20] 2 = .int 20 ∧ subscript [.int 10, .int 20] 0 = .null ∧
    subscript [.int 10, .int 20] 3 = .null ∧ subscript [.int 10, .int 20] (-1) = .null := ⟨rfl, rfl, rfl, rfl⟩
example : eval {} {} (.index (.call .arrayCat [.value (.array .int [.int 1, .int 2]), .value (.array .int [.int 3])]) (.value (.int 3))) =
    .ok (.int 3) := rfl

/-! ## E. casts -/

/-- `x::T` for `x` already of type `T` is `x` (every type, arrays included) -/
theorem cast_same_type (v : Value) (t : VType) (h : v.valueType = some t) : castValue O v t = .ok v := by
  cases v <;> simp only [Value.valueType, Option.some.injEq, reduceCtorEq] at h <;> subst h
  · simp [castValue, Value.valueType]
  · simp [castValue, Value.valueType]
  · simp [castValue, Value.valueType]
  · rfl
  · simp [castValue, Value.valueType]
  · simp [castValue, Value.valueType]
  · simp [castValue]

/-- **anything that is not TEXT cast to TEXT is its displayed form** (`Display for Value`: `display`) — INT, REAL,
BOOLEAN, TIMESTAMP, INTERVAL, arrays, and NULL (`'NULL'`) -/
theorem cast_to_text_is_display (v : Value) (h : v.valueType ≠ some .text) :
    castValue O v .text = .ok (.text (strBytes (display v))) := by
  cases v <;> simp only [Value.valueType, ne_eq, not_true_eq_false] at h <;>
    simp [castValue, Value.valueType, display]

/-- the displayed form of an INT is its canonical decimal rendering -/
theorem display_int (n : Int) : strBytes (display (.int n)) = Lit.renderInt n := by
  simp only [display, strBytes_toString_int]

/-- **INT round trip: `(n::text)::int = n` for every `i64`** -/
theorem cast_int_text_int (n : Int) (h : inI64 n = true) :
    ∃ s, castValue O (.int n) .text = .ok (.text s) ∧ castValue O (.text s) .int = .ok (.int n) := by
  refine ⟨strBytes (toString n), ?_, ?_⟩
  · simp [castValue, Value.valueType, display]
  · simp only [castValue, parseLit, parseI64_toString n h, Option.map_some, Outcome.bind]

/-- **TEXT → T is exactly literal parsing**: the cast has the value `parseLit` reads from the text and fails with
`FailedToConvert` when the text is not a literal of the type … -/
theorem cast_text_is_parseLit (s : Bytes) (t : VType) :
    castValue O (.text s) t = (parseLit O t s).bind (fun r => match r with
      | some x => .ok x
      | none => .error .failedToConvert) := rfl

/-- … where INT, BOOLEAN and INTERVAL literals are read by the same functions extraction uses (characterised in
C01: `parseI64_exact`, `parseBool_exact`, `parseInterval_exact`), TEXT is taken as it is, and no text is an array.
(REAL and TIMESTAMP literals: `parseLit` takes the shipped fact or, when none is shipped, computes `f64::from_str` as
`DecFloat.parseF64N` and chrono's `parse_from_str` as `Lit.parseTimestampLit`.) -/
theorem cast_text_cases (s : Bytes) :
    castValue O (.text s) .int = (match Lit.parseI64 s with | some n => .ok (.int n) | none => .error .failedToConvert) ∧
    castValue O (.text s) .bool = (match Lit.parseBool s with | some b => .ok (.bool b) | none => .error .failedToConvert) ∧
    castValue O (.text s) .interval = (match Lit.parseInterval s with | some v => .ok v | none => .error .failedToConvert) ∧
    castValue O (.text s) .text = .ok (.text s) ∧
    (∀ e, castValue O (.text s) (.array e) = .error .failedToConvert) := by
  refine ⟨?_, ?_, ?_, rfl, fun e => rfl⟩
  · rw [cast_text_is_parseLit, parseLit_int]; cases Lit.parseI64 s <;> rfl
  · rw [cast_text_is_parseLit, parseLit_bool]; cases Lit.parseBool s <;> rfl
  · rw [cast_text_is_parseLit, parseLit_interval]; cases Lit.parseInterval s <;> rfl

/-- NULL cast to anything but TEXT is the error `ExpectedNonNull` -/
theorem cast_null (t : VType) (h : t ≠ .text) : castValue O .null t = .error .expectedNonNull := by
  have : (t == VType.text) = false := by simpa using h
  simp only [castValue, this, Bool.false_eq_true, if_false]

/-- **INTERVAL → INT is whole seconds truncated toward zero** (`num_seconds`), → REAL is whole milliseconds / 1000 -/
theorem cast_interval_int (ns : Int) :
    castValue O (.interval ns) .int = .ok (.int (Int.tdiv ns 1000000000)) ∧
    castValue O (.interval ns) .real = .ok (.real (F64.div (F64.ofInt (Int.tdiv ns 1000000)) (F64.ofInt 1000))) := ⟨rfl, rfl⟩

/-- truncation toward zero: the result times 10⁹ is within less than a second of the interval, on the side of zero -/
theorem tdiv_toward_zero (ns : Int) :
    (0 ≤ ns → Int.tdiv ns 1000000000 * 1000000000 ≤ ns ∧ ns < (Int.tdiv ns 1000000000 + 1) * 1000000000) ∧
    (ns ≤ 0 → ns ≤ Int.tdiv ns 1000000000 * 1000000000 ∧ (Int.tdiv ns 1000000000 - 1) * 1000000000 < ns) := by
  obtain ⟨e, hp, hn⟩ := tdiv_tmod_spec ns 1000000000 (by decide)
  generalize Int.tdiv ns 1000000000 = q at *
  generalize Int.tmod ns 1000000000 = r at *
  exact ⟨fun h => by have := hp h; omega, fun h => by have := hn h; omega⟩

/-- **everything else is a type error — never a wrong value**: a non-NULL, non-TEXT value cast to a type that is
neither its own nor TEXT (nor INT/REAL from an INTERVAL) -/
theorem cast_type_error (v : Value) (t : VType) (hn : v ≠ .null) (ht : v.valueType ≠ some .text)
    (hs : v.valueType ≠ some t) (htt : t ≠ .text)
    (hi : ¬ (v.valueType = some .interval ∧ (t = .int ∨ t = .real))) :
    castValue O v t = .error .typeError := by
  have e : (t == VType.text) = false := by simpa using htt
  cases v <;> simp only [Value.valueType, ne_eq, not_true_eq_false, true_and, not_or] at hn ht hs hi
  · have : (some VType.int == some t) = false := by simpa using hs
    simp only [castValue, Value.valueType, this, e, Bool.false_eq_true, if_false]
  · have : (some VType.real == some t) = false := by simpa using hs
    simp only [castValue, Value.valueType, this, e, Bool.false_eq_true, if_false]
  · have : (some VType.bool == some t) = false := by simpa using hs
    simp only [castValue, Value.valueType, this, e, Bool.false_eq_true, if_false]
  · rename_i u xs
    have : (some (VType.array u) == some t) = false := by simpa using hs
    simp only [castValue, Value.valueType, this, e, Bool.false_eq_true, if_false]
  · have : (some VType.timestamp == some t) = false := by simpa using hs
    simp only [castValue, Value.valueType, this, e, Bool.false_eq_true, if_false]
  · have e1 : (t == VType.int) = false := by simpa using hi.1
    have e2 : (t == VType.real) = false := by simpa using hi.2
    have e3 : (t == VType.interval) = false := by
      cases h3 : (t == VType.interval)
      · rfl
      · exact absurd (by rw [eq_of_beq h3]) hs
    simp only [castValue, e1, e2, e3, e, Bool.false_eq_true, if_false]

/-- **the complete table**: whatever the operand and the target type, a cast either fails or yields the operand
itself, its displayed text, the literal read from its text, or the whole seconds of an interval — there is no other
value a cast can produce -/
theorem cast_never_a_wrong_value (v r : Value) (t : VType) (h : castValue O v t = .ok r) :
    (v.valueType = some t ∧ r = v) ∨
    (t = .text ∧ r = .text (strBytes (display v))) ∨
    (∃ s, v = .text s ∧ parseLit O t s = .ok (some r)) ∨
    (∃ ns, v = .interval ns ∧ ((t = .int ∧ r = .int (Int.tdiv ns 1000000000)) ∨
      (t = .real ∧ r = .real (F64.div (F64.ofInt (Int.tdiv ns 1000000)) (F64.ofInt 1000))))) := by
  by_cases hs : v.valueType = some t
  · left; rw [cast_same_type O v t hs] at h; injection h with h; exact ⟨hs, h.symm⟩
  · by_cases htxt : v.valueType = some .text
    · right; right; left
      cases v <;> simp only [Value.valueType, Option.some.injEq, reduceCtorEq] at htxt
      rename_i s
      refine ⟨s, rfl, ?_⟩
      rw [cast_text_is_parseLit] at h
      cases hp : parseLit O t s with
      | ok o =>
        rw [hp] at h
        cases o with
        | none => cases h
        | some x => injection h with h; rw [h]
      | error k => rw [hp] at h; cases h
      | panic k => rw [hp] at h; cases h
      | oracleMissing k => rw [hp] at h; cases h
    · by_cases ht : t = .text
      · right; left
        subst ht
        rw [cast_to_text_is_display O v htxt] at h
        injection h with h
        exact ⟨rfl, h.symm⟩
      · by_cases hn : v = .null
        · subst hn; rw [cast_null O t ht] at h; cases h
        · by_cases hi : v.valueType = some .interval ∧ (t = .int ∨ t = .real)
          · right; right; right
            obtain ⟨hv, hti⟩ := hi
            cases v <;> simp only [Value.valueType, Option.some.injEq, reduceCtorEq] at hv
            rename_i ns
            refine ⟨ns, rfl, ?_⟩
            rcases hti with hti | hti <;> subst hti
            · left; rw [(cast_interval_int O ns).1] at h; injection h with h; exact ⟨rfl, h.symm⟩
            · right; rw [(cast_interval_int O ns).2] at h; injection h with h; exact ⟨rfl, h.symm⟩
          · rw [cast_type_error O v t hn htxt hs ht hi] at h; cases h

example : castValue {} (.int (-42)) .text = .ok (.text [45, 52, 50]) ∧
    castValue {} (.text [45, 52, 50]) .int = .ok (.int (-42)) ∧
    castValue {} (.text [43, 55]) .int = .ok (.int 7) ∧
    castValue {} (.text [32, 55]) .int = .error .failedToConvert ∧
    castValue {} (.text [116, 114, 117, 101]) .bool = .ok (.bool true) ∧
    castValue {} (.text [84, 82, 85, 69]) .bool = .error .failedToConvert ∧
    castValue {} (.text [49, 58, 50, 58, 51]) .interval = .ok (.interval 3723000000000) ∧
    castValue {} (.interval (-1500000000)) .int = .ok (.int (-1)) ∧
    castValue {} (.interval 1999999999) .int = .ok (.int 1) ∧
    castValue {} .null .int = .error .expectedNonNull ∧
    castValue {} (.int 1) .real = .error .typeError ∧
    castValue {} (.bool true) .int = .error .typeError ∧
    castValue {} (.timestamp 1 0 0) .interval = .error .typeError ∧
    castValue {} (.array .int [.int 1]) (.array .text) = .error .typeError ∧
    castValue {} (.array .int [.int 1]) (.array .int) = .ok (.array .int [.int 1]) := by
  have e : strBytes (Int.repr (-42)) = [45, 52, 50] := by
    have : strBytes (toString (-42 : Int)) = _ := strBytes_toString_int (-42)
    rw [show toString (-42 : Int) = Int.repr (-42) from rfl] at this
    rw [this]
    have r : Lit.renderNat 42 = [52, 50] := by
      rw [Lit.renderNat, if_neg (by decide), Lit.renderNat, if_pos (by decide)]; rfl
    show (if (-42 : Int) < 0 then 45 :: Lit.renderNat 42 else Lit.renderNat 42) = _
    rw [r]; rfl
  refine ⟨?_, rfl, rfl, rfl, ?_, ?_, rfl, rfl, rfl, rfl, rfl, rfl, rfl, rfl, rfl⟩
  · simp [castValue, Value.valueType, display, e]
  · rw [(cast_text_cases {} _).2.1]; rfl
  · rw [(cast_text_cases {} _).2.1]; rfl
example : inI64 (-9223372036854775808) = true := by decide

/-! ### B′. REAL arithmetic: IEEE-754, exactly -/

/-- `x + y` on REALs is the model's exact addition … -/
theorem real_add_value (x y : Nat) : arith .add (.real x) (.real y) = .ok (.real (F64.addX x y)) := rfl
theorem real_sub_value (x y : Nat) : arith .sub (.real x) (.real y) = .ok (.real (F64.subX x y)) := rfl
theorem real_mul_value (x y : Nat) : arith .mul (.real x) (.real y) = .ok (.real (F64.mulX x y)) := rfl
theorem real_div_value (x y : Nat) : arith .div (.real x) (.real y) = .ok (.real (F64.divX x y)) := rfl

/-- … and **the sum of two finite REALs is a REAL nearest to their exact sum**: in units of 2^-1074 the operands are the
integers `units x`, `units y`; when the result `r` is finite its magnitude is at least as close to `|units x + units y|` as
that of every REAL `z` (round to nearest; a tie goes to the even mantissa, `DecFloat.magBits_tie_even`), and its sign is the
sign of the exact sum. (An infinite result is overflow: `DecFloat.magBits_overflow_iff`.) -/
theorem real_add_is_nearest (x y : Nat) (hx : F64.isFinite x = true) (hy : F64.isFinite y = true)
    (hr : F64.isFinite (F64.addX x y) = true) (z : Nat) :
    DecFloat.adist (F64.units x + F64.units y).natAbs (F64.umag (F64.addX x y)) ≤
      DecFloat.adist (F64.units x + F64.units y).natAbs (F64.umag z) ∧
    (F64.units x + F64.units y ≠ 0 → F64.signBit (F64.addX x y) = decide (F64.units x + F64.units y < 0)) :=
  ⟨F64.addX_nearest x y hx hy hr z, F64.addX_sign x y hx hy⟩

/-- when the exact sum is a REAL it is the result: no rounding where none is needed -/
theorem real_add_exact (x y : Nat) (hx : F64.isFinite x = true) (hy : F64.isFinite y = true)
    (h : F64.Repr (F64.units x + F64.units y)) :
    F64.isFinite (F64.addX x y) = true ∧ F64.units (F64.addX x y) = F64.units x + F64.units y :=
  ⟨(F64.addX_exact x y hx hy h).1, (F64.addX_exact x y hx hy h).2.2⟩

/-- the product of two finite REALs, when finite, is a REAL nearest to the exact product `umag x · umag y` (in units of
2^-2148; a REAL `z` is `umag z · 2^1074` of them); the sign is the XOR of the signs -/
theorem real_mul_is_nearest (x y : Nat) (hx : F64.isFinite x = true) (hy : F64.isFinite y = true)
    (hr : F64.isFinite (F64.mulX x y) = true) (z : Nat) :
    DecFloat.adist (F64.umag x * F64.umag y) (F64.umag (F64.mulX x y) * F64.unitScale) ≤
      DecFloat.adist (F64.umag x * F64.umag y) (F64.umag z * F64.unitScale) :=
  F64.mulX_nearest x y hx hy hr z

/-- the quotient of two finite REALs (divisor not zero), when finite, is a REAL nearest to the exact quotient
`umag x / umag y` (cross-multiplied with the divisor) -/
theorem real_div_is_nearest (x y : Nat) (hx : F64.isFinite x = true) (hy : F64.isFinite y = true) (hz : F64.mag y ≠ 0)
    (hr : F64.isFinite (F64.divX x y) = true) (z : Nat) :
    DecFloat.adist (F64.umag x * F64.unitScale) (F64.umag (F64.divX x y) * F64.umag y) ≤
      DecFloat.adist (F64.umag x * F64.unitScale) (F64.umag z * F64.umag y) :=
  F64.divX_nearest x y hx hy hz hr z

/-- addition and multiplication of REALs commute, bit for bit (NaN results are the canonical NaN) -/
theorem real_add_comm (x y : Nat) : arith .add (.real x) (.real y) = arith .add (.real y) (.real x) := by
  rw [real_add_value, real_add_value, F64.addX_comm]
theorem real_mul_comm (x y : Nat) : arith .mul (.real x) (.real y) = arith .mul (.real y) (.real x) := by
  rw [real_mul_value, real_mul_value, F64.mulX_comm]

/-! anchors (bit patterns; evaluated by the kernel) -/
/-- `0.1 + 0.2 = 0.30000000000000004` -/
example : F64.add 0x3fb999999999999a 0x3fc999999999999a = 0x3fd3333333333334 := by decide +kernel
/-- `1e308 + 1e308 = inf`, `-1e308 - 1e308 = -inf` -/
example : F64.add 0x7fe1ccf385ebc8a0 0x7fe1ccf385ebc8a0 = 0x7ff0000000000000 := by decide +kernel
example : F64.sub 0xffe1ccf385ebc8a0 0x7fe1ccf385ebc8a0 = 0xfff0000000000000 := by decide +kernel
/-- `5.0 / 2.0 = 2.5`, `1.0 / 3.0 = 0.3333333333333333`, `1.0 / 0.0 = inf`, `0.0 / 0.0 = NaN` -/
example : F64.div 0x4014000000000000 0x4000000000000000 = 0x4004000000000000 := by decide +kernel
example : F64.div 0x3ff0000000000000 0x4008000000000000 = 0x3fd5555555555555 := by decide +kernel
example : F64.div 0x3ff0000000000000 0 = 0x7ff0000000000000 := by decide +kernel
example : F64.div 0 0 = F64.canonNaN := by decide +kernel
/-- `sqrt 2.25 = 1.5`, `sqrt 2.0 = 1.4142135623730951`, `sqrt -1.0 = NaN`, `sqrt -0.0 = -0.0` -/
example : F64.sqrt 0x4002000000000000 = 0x3ff8000000000000 := by decide +kernel
example : F64.sqrt 0x4000000000000000 = 0x3ff6a09e667f3bcd := by decide +kernel
example : F64.sqrt 0xbff0000000000000 = F64.canonNaN := by decide +kernel
example : F64.sqrt 0x8000000000000000 = 0x8000000000000000 := by decide +kernel
/-- signed zeros: `x − x = +0.0`, `-0.0 + 0.0 = +0.0`, `-0.0 + -0.0 = -0.0`, `0.0 · -1.0 = -0.0` -/
example : F64.sub 0x3ff8000000000000 0x3ff8000000000000 = 0 := by decide +kernel
example : F64.add 0x8000000000000000 0 = 0 := by decide +kernel
example : F64.add 0x8000000000000000 0x8000000000000000 = 0x8000000000000000 := by decide +kernel
example : F64.mul 0 0xbff0000000000000 = 0x8000000000000000 := by decide +kernel
/-- `inf − inf`, `0 · inf` are NaN; the smallest subnormal halves to zero (tie to even), `2^53 + 1` as an INT becomes `2^53` -/
example : F64.sub 0x7ff0000000000000 0x7ff0000000000000 = F64.canonNaN := by decide +kernel
example : F64.mul 0 0x7ff0000000000000 = F64.canonNaN := by decide +kernel
example : F64.mul 1 0x3fe0000000000000 = 0 := by decide +kernel
example : F64.ofInt 9007199254740993 = 0x4340000000000000 := by decide +kernel
/-- whole expressions are evaluated by the kernel: `(0.5 + 1.5) * 2.25 / 3.0 = 1.5` -/
example : (match eval {} {} (.arith .div (.arith .mul (.arith .add (.value (.real 0x3fe0000000000000)) (.value (.real 0x3ff8000000000000)))
    (.value (.real 0x4002000000000000))) (.value (.real 0x4008000000000000))) with | .ok (.real b) => some b | _ => none) = some 0x3ff8000000000000 := by
  decide +kernel

end Sqlgrep.Props.C03Func
