import SqlgrepModel.Lemmas.AggSumOf
import SqlgrepModel.Lemmas.FloatArith
/-
`RealAddLaws` discharged. `Lemmas/AggSumOf.lean` derives "a REAL sum does not depend on the order" and "the sum of a
concatenation is the sum of the parts' sums" from three laws of the addition on the values at hand (`AddLaws`). `F64.add`
is exact integer arithmetic with correct rounding (`Model/FloatArith.lean`), and the laws are PROVED for every list of
addends all of whose sub-multiset sums are REALs (`ExactSums`, the property's "sums exactly representable" as a decidable
predicate): IEEE addition returns the exact sum when it is a REAL (`F64.addX_exact`), and exact addition is associative
and commutative.
-/
namespace Sqlgrep
open Value Spec.Agg

/-- every sum of some of the elements (each used at most as often as it occurs) -/
def subsetSums : List Int → List Int
  | [] => [0]
  | x :: xs => subsetSums xs ++ (subsetSums xs).map (· + x)

theorem mem_subsetSums_cons {t x : Int} {xs : List Int} :
    t ∈ subsetSums (x :: xs) ↔ t ∈ subsetSums xs ∨ ∃ s ∈ subsetSums xs, s + x = t := by
  simp [subsetSums, List.mem_append, List.mem_map]

theorem zero_mem_subsetSums (us : List Int) : (0 : Int) ∈ subsetSums us := by
  induction us with
  | nil => simp [subsetSums]
  | cons x xs ih => exact mem_subsetSums_cons.2 (Or.inl ih)

theorem subsetSums_perm {us vs : List Int} (h : us.Perm vs) : ∀ t, t ∈ subsetSums us ↔ t ∈ subsetSums vs := by
  induction h with
  | nil => intro t; exact Iff.rfl
  | cons x _ ih =>
    intro t
    rw [mem_subsetSums_cons, mem_subsetSums_cons, ih t]
    constructor
    · rintro (h | ⟨s, hs, e⟩)
      · exact Or.inl h
      · exact Or.inr ⟨s, (ih s).1 hs, e⟩
    · rintro (h | ⟨s, hs, e⟩)
      · exact Or.inl h
      · exact Or.inr ⟨s, (ih s).2 hs, e⟩
  | swap x y l =>
    intro t
    simp only [mem_subsetSums_cons]
    constructor
    · rintro ((h | ⟨s, hs, e⟩) | ⟨s, (hs | ⟨s', hs', e'⟩), e⟩)
      · exact Or.inl (Or.inl h)
      · exact Or.inr ⟨s, Or.inl hs, e⟩
      · exact Or.inl (Or.inr ⟨s, hs, e⟩)
      · exact Or.inr ⟨s' + y, Or.inr ⟨s', hs', rfl⟩, by omega⟩
    · rintro ((h | ⟨s, hs, e⟩) | ⟨s, (hs | ⟨s', hs', e'⟩), e⟩)
      · exact Or.inl (Or.inl h)
      · exact Or.inr ⟨s, Or.inl hs, e⟩
      · exact Or.inl (Or.inr ⟨s, hs, e⟩)
      · exact Or.inr ⟨s' + x, Or.inr ⟨s', hs', rfl⟩, by omega⟩
  | trans _ _ ih1 ih2 => intro t; exact (ih1 t).trans (ih2 t)

theorem sum_mem_subsetSums : ∀ (l rest us : List Int), (l ++ rest).Perm us → l.sum ∈ subsetSums us
  | [], _, us, _ => zero_mem_subsetSums us
  | x :: l, rest, us, h => by
    have hx : x ∈ us := h.mem_iff.1 (by simp)
    have hp : us.Perm (x :: us.erase x) := List.perm_cons_erase hx
    have h' : (l ++ rest).Perm (us.erase x) := (List.Perm.cons_inv (h.trans hp))
    have ih := sum_mem_subsetSums l rest (us.erase x) h'
    rw [subsetSums_perm hp, mem_subsetSums_cons]
    exact Or.inr ⟨l.sum, ih, by rw [List.sum_cons]; omega⟩

/-- is `u` units of 2^-1074 the value of a finite REAL? (round it and look) -/
def reprB (u : Int) : Bool :=
  let r := F64.withSign (decide (u < 0)) (DecFloat.magBits u.natAbs F64.unitScale)
  F64.isFinite r && F64.units r == u

theorem repr_of_reprB {u : Int} (h : reprB u = true) : F64.Repr u := by
  unfold reprB at h
  simp only [Bool.and_eq_true, beq_iff_eq] at h
  exact ⟨_, h.1, h.2⟩

/-- **the sums are exactly representable**: every addend is a finite REAL other than `-0.0`, and the exact sum of every
sub-multiset of the addends is a REAL -/
def ExactSums (rs : List Nat) : Prop :=
  (∀ y ∈ rs, F64.Nice y) ∧ ∀ u ∈ subsetSums (rs.map F64.units), reprB u = true

instance (rs : List Nat) : Decidable (ExactSums rs) := by unfold ExactSums; infer_instance

theorem ExactSums.repr {rs : List Nat} (h : ExactSums rs) {l : List Nat} (hs : SubMulti l rs) :
    F64.Repr ((l.map F64.units).sum) := by
  obtain ⟨rest, hr⟩ := hs
  apply repr_of_reprB
  apply h.2
  apply sum_mem_subsetSums (l.map F64.units) (rest.map F64.units)
  rw [← List.map_append]
  exact hr.map _

theorem foldl_add_exact {rs : List Nat} (h : ExactSums rs) : ∀ (l pre : List Nat) (acc : Nat), SubMulti (pre ++ l) rs →
    F64.Nice acc → F64.units acc = (pre.map F64.units).sum →
    F64.Nice (l.foldl F64.add acc) ∧ F64.units (l.foldl F64.add acc) = ((pre ++ l).map F64.units).sum
  | [], pre, acc, _, hn, hu => by simpa using ⟨hn, hu⟩
  | x :: l, pre, acc, hs, hn, hu => by
    have hs' : SubMulti ((pre ++ [x]) ++ l) rs := by simpa using hs
    have hx : F64.Nice x := h.1 x (hs.mem (by simp))
    have hsum : F64.units acc + F64.units x = ((pre ++ [x]).map F64.units).sum := by
      rw [List.map_append, List.sum_append, hu]; simp
    have hr : F64.Repr (F64.units acc + F64.units x) := by rw [hsum]; exact h.repr hs'.left
    have hstep := F64.addX_nice hn hx hr
    have := foldl_add_exact h l (pre ++ [x]) (F64.add acc x) hs' hstep.1 (by rw [← hsum]; exact hstep.2)
    simpa using this

theorem fsum_exact {rs : List Nat} (h : ExactSums rs) {l : List Nat} (hs : SubMulti l rs) :
    F64.Nice (fsum F64.add F64.zero l) ∧ F64.units (fsum F64.add F64.zero l) = (l.map F64.units).sum := by
  have := foldl_add_exact h l [] F64.zero (by simpa using hs) (by decide) (by decide)
  simpa [fsum] using this

/-- **`RealAddLaws` holds for addends whose sums are exactly representable** -/
theorem realAddLaws_of_exactSums {rs : List Nat} (h : ExactSums rs) : RealAddLaws rs where
  zeroAdd := fun y hy => F64.addX_zero_left (h.1 y hy)
  comm := fun x _ y _ => F64.addX_comm x y
  assoc := by
    intro a b c _ _ hs
    have hab : SubMulti (a ++ b) rs := hs.left
    have hbc : SubMulti (b ++ c) rs := by rw [List.append_assoc] at hs; exact hs.right
    have A := fsum_exact h hab.left
    have B := fsum_exact h hab.right
    have C := fsum_exact h hs.right
    have rAB : F64.Repr (F64.units (fsum F64.add F64.zero a) + F64.units (fsum F64.add F64.zero b)) := by
      rw [A.2, B.2, ← List.sum_append, ← List.map_append]; exact h.repr hab
    have AB := F64.addX_nice A.1 B.1 rAB
    have rABC : F64.Repr (F64.units (F64.addX (fsum F64.add F64.zero a) (fsum F64.add F64.zero b)) + F64.units (fsum F64.add F64.zero c)) := by
      rw [AB.2, A.2, B.2, C.2, ← List.sum_append, ← List.sum_append, ← List.map_append, ← List.map_append]; exact h.repr hs
    have ABC := F64.addX_nice AB.1 C.1 rABC
    have rBC : F64.Repr (F64.units (fsum F64.add F64.zero b) + F64.units (fsum F64.add F64.zero c)) := by
      rw [B.2, C.2, ← List.sum_append, ← List.map_append]; exact h.repr hbc
    have BC := F64.addX_nice B.1 C.1 rBC
    have rA_BC : F64.Repr (F64.units (fsum F64.add F64.zero a) + F64.units (F64.addX (fsum F64.add F64.zero b) (fsum F64.add F64.zero c))) := by
      rw [BC.2, A.2, B.2, C.2, ← Int.add_assoc, ← List.sum_append, ← List.sum_append, ← List.map_append, ← List.map_append]; exact h.repr hs
    have A_BC := F64.addX_nice A.1 BC.1 rA_BC
    apply F64.eq_of_units_eq ABC.1 A_BC.1
    rw [ABC.2, A_BC.2, AB.2, BC.2]; omega

end Sqlgrep
