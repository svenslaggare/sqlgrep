import SqlgrepModel.Lemmas.ClimbRules
/-
States built from printed tokens, the well-formedness of a precedence table, "stopping" states, and the left-spine
decomposition of a reference expression (`unspine` / `plug` / `flat`) used by the precedence-climbing proof.
-/
namespace Sqlgrep.Spec
open Sqlgrep.Parse

def push (t : Tok) (s : PSt) : PSt := ⟨⟨default, t⟩, s.cur :: s.rest⟩
def pushAll (ts : List Tok) (s : PSt) : PSt := ts.foldr push s

@[simp] theorem pushAll_nil (s : PSt) : pushAll [] s = s := rfl
@[simp] theorem pushAll_cons (t : Tok) (ts : List Tok) (s : PSt) : pushAll (t :: ts) s = push t (pushAll ts s) := rfl
@[simp] theorem pushAll_append (a b : List Tok) (s : PSt) : pushAll (a ++ b) s = pushAll a (pushAll b s) := by
  simp [pushAll, List.foldr_append]
@[simp] theorem next_push (t : Tok) (s : PSt) : next (push t s) = .ok () s := rfl
@[simp] theorem push_tok (t : Tok) (s : PSt) : (push t s).cur.tok = t := rfl
@[simp] theorem push_loc (t : Tok) (s : PSt) : (push t s).cur.loc = default := rfl
theorem _root_.Sqlgrep.Parse.Eat.push {t : Tok} {s : PSt} : Eat t (push t s) s := ⟨rfl, rfl⟩

theorem pushAll_loc (ts : List Tok) (s : PSt) (h : s.cur.loc = default) : (pushAll ts s).cur.loc = default := by
  cases ts with
  | nil => exact h
  | cons t ts => rfl

/-- precedence of the qualified-name dot -/
def dotPrec (T : PrecTables) : Int := tokPrec T (.op (.single '.'))

/-- tokens that close or separate sub-expressions: never operators -/
def delims : List Tok := [.rp, .comma, .rsq, .kw .when, .kw .then, .kw .else, .kw .end]

/-- What the climbing proof needs from a table: precedences are non-negative; the qualified-name dot is defined and
binds tighter than every other operator and at least as tight as the operand loops of the prefix operators, which the
code hard-wires at 4 (NOT) and 8 (unary operator); the keyword / bracket operators of `get_token_precedence` are
defined; closing delimiters and the CASE keywords are not operators; unary minus is defined. -/
def _root_.Sqlgrep.PrecTables.WF (T : PrecTables) : Prop :=
  (lookupOp T.binary (.single '.')).isSome ∧
  (∀ e ∈ T.binary, 0 ≤ e.2 ∧ (e.1 ≠ .single '.' → e.2 < dotPrec T)) ∧
  (∀ e ∈ T.other, 0 ≤ e.2 ∧ e.2 < dotPrec T) ∧
  (∀ t ∈ [Tok.kw .is, .kw .isNot, .kw .and, .kw .or, .kw .in, .kw .notIn, .lsq, .dcolon], (lookupTok T.other t).isSome) ∧
  (∀ t ∈ delims, lookupTok T.other t = none) ∧
  8 ≤ dotPrec T ∧
  Operator.single '-' ∈ T.unary

instance (T : PrecTables) : Decidable T.WF := by unfold PrecTables.WF; infer_instance

theorem code_wf : PrecTables.code.WF := by decide

theorem lookup_mem {α β : Type} [BEq α] [LawfulBEq α] {l : List (α × β)} {a : α} {b : β}
    (h : (l.find? (·.1 == a)).map (·.2) = some b) : (a, b) ∈ l := by
  obtain ⟨e, he, rfl⟩ := Option.map_eq_some_iff.mp h
  have hb := List.find?_some he
  cases eq_of_beq hb
  exact List.mem_of_find?_eq_some he

theorem lookupOp_mem {l : List (Operator × Int)} {o : Operator} {p : Int} (h : lookupOp l o = some p) : (o, p) ∈ l :=
  lookup_mem h

theorem lookupTok_mem {l : List (Tok × Int)} {t : Tok} {p : Int} (h : lookupTok l t = some p) : (t, p) ∈ l :=
  lookup_mem h

/-- tokens that `get_token_precedence` answers for: every token except an operator outside the binary table -/
def Defined (T : PrecTables) (t : Tok) : Prop := ∀ o, t = .op o → (lookupOp T.binary o).isSome

theorem tokPrec_of_not_op {T : PrecTables} {t : Tok} (hop : ∀ o, t ≠ .op o) :
    tokPrec T t = (lookupTok T.other t).getD (-1) := by
  cases t <;> first | rfl | exact absurd rfl (hop _)

theorem tokenPrecedence_defined {T : PrecTables} {s : PSt} (h : Defined T s.cur.tok) :
    tokenPrecedence T s = .ok (tokPrec T s.cur.tok) s := by
  unfold tokenPrecedence tokPrec
  cases ht : s.cur.tok with
  | op o =>
    obtain ⟨p, hl⟩ := Option.isSome_iff_exists.mp (h o ht)
    simp only [hl, Option.getD_some]
  | _ => rfl

theorem tokPrec_op_range {T : PrecTables} (hT : T.WF) {o : Operator} (hd : (lookupOp T.binary o).isSome)
    (hne : o ≠ .single '.') : 0 ≤ tokPrec T (.op o) ∧ tokPrec T (.op o) < dotPrec T := by
  obtain ⟨p, hl⟩ := Option.isSome_iff_exists.mp hd
  have := hT.2.1 _ (lookupOp_mem hl)
  simp only [tokPrec, hl, Option.getD_some]
  exact ⟨this.1, this.2 hne⟩

theorem tokPrec_other_range {T : PrecTables} (hT : T.WF) {t : Tok} (hop : ∀ o, t ≠ .op o)
    (hd : (lookupTok T.other t).isSome) : 0 ≤ tokPrec T t ∧ tokPrec T t < dotPrec T := by
  obtain ⟨p, hl⟩ := Option.isSome_iff_exists.mp hd
  rw [tokPrec_of_not_op hop, hl]
  exact hT.2.2.1 _ (lookupTok_mem hl)

theorem dotPrec_ge8 {T : PrecTables} (hT : T.WF) : 8 ≤ dotPrec T := hT.2.2.2.2.2.1

/-- the state begins with a token that ends an operand loop running at level `m`: it is not `(` (which would turn a
preceding identifier into a call), the parser answers a precedence for it, and that precedence is below `m` -/
def Stops (T : PrecTables) (m : Int) (s : PSt) : Prop :=
  s.cur.tok ≠ .lp ∧ ∃ tp, tokenPrecedence T s = .ok tp s ∧ tp < m

theorem Stops.mono {T : PrecTables} {m m' : Int} {s : PSt} (h : Stops T m s) (hle : m ≤ m') : Stops T m' s := by
  obtain ⟨h1, tp, h2, h3⟩ := h
  exact ⟨h1, tp, h2, by omega⟩

theorem Stops.of_tok {T : PrecTables} {m : Int} {s : PSt} (hlp : s.cur.tok ≠ .lp) (hd : Defined T s.cur.tok)
    (hlt : tokPrec T s.cur.tok < m) : Stops T m s :=
  ⟨hlp, _, tokenPrecedence_defined hd, hlt⟩

theorem Stops.loop {T : PrecTables} {m : Int} {s : PSt} (h : Stops T m s) (l : PExpr) : PR T m l s l s :=
  let ⟨_, _, h1, h2⟩ := h; PR_stop T h1 h2

theorem Stops.after {T : PrecTables} {m : Int} {s s' : PSt} {t : PExpr} (h : Stops T m s') (hu : PU T s t s') :
    PExprAt T m s t s' :=
  ⟨_, _, hu, h.loop t⟩

theorem delims_plain {t : Tok} (h : t ∈ delims) : t ≠ .lp ∧ ∀ o, t ≠ .op o := by
  simp only [delims, List.mem_cons, List.mem_nil_iff, or_false] at h
  rcases h with h | h | h | h | h | h | h <;> subst h <;> simp

theorem tokPrec_delim {T : PrecTables} (hT : T.WF) {t : Tok} (h : t ∈ delims) : tokPrec T t = -1 := by
  rw [tokPrec_of_not_op (delims_plain h).2, hT.2.2.2.2.1 t h]; rfl

theorem Stops.delim {T : PrecTables} (hT : T.WF) {m : Int} (hm : 0 ≤ m) {t : Tok} (h : t ∈ delims)
    (s : PSt) : Stops T m (push t s) :=
  Stops.of_tok (delims_plain h).1 (fun o ho => absurd ho ((delims_plain h).2 o)) (by rw [push_tok, tokPrec_delim hT h]; omega)

namespace RExpr
mutual
def size : RExpr → Nat
  | .lit _ => 1
  | .col _ _ => 1
  | .paren e => size e + 1
  | .bin _ l r => size l + size r + 1
  | .not e => size e + 1
  | .neg e => size e + 1
  | .index a i => size a + size i + 1
  | .cast e _ => size e + 1
  | .inList _ e v vs => size e + size v + sizes vs + 1
  | .call _ args => sizes args + 1
  | .star => 1
  | .countDistinct _ a as => size a + sizes as + 1
  | .array _ args => sizes args + 1
  | .extract _ e => size e + 1
  | .tuple a b more => size a + size b + sizes more + 1
  | .case c r more els => size c + size r + sizeClauses more + size els + 1
def sizes : List RExpr → Nat
  | [] => 0
  | e :: es => size e + sizes es + 1
def sizeClauses : List (RExpr × RExpr) → Nat
  | [] => 0
  | (c, r) :: rest => size c + size r + sizeClauses rest + 1
end

theorem size_pos (e : RExpr) : 0 < size e := by
  cases e <;> exact Nat.succ_pos _

theorem size_lt_sizes {x : RExpr} : ∀ {es : List RExpr}, x ∈ es → size x < sizes es
  | e :: es, h => by
    simp only [sizes]
    rcases List.mem_cons.mp h with rfl | h
    · omega
    · have := size_lt_sizes h; omega
theorem size_lt_sizeClauses {p : RExpr × RExpr} : ∀ {cs : List (RExpr × RExpr)}, p ∈ cs →
    size p.1 < sizeClauses cs ∧ size p.2 < sizeClauses cs
  | (c, r) :: cs, h => by
    simp only [sizeClauses]
    rcases List.mem_cons.mp h with rfl | h
    · dsimp only; omega
    · have := size_lt_sizeClauses h; omega
end RExpr

/-- one step along the left spine of an expression: what is applied to the expression built so far -/
inductive Sp where
  | bin (o : BOp) (r : RExpr)
  | idx (i : RExpr)
  | cast (t : VType)
  | inl (n : Bool) (v : RExpr) (vs : List RExpr)

namespace Sp
def tok : Sp → Tok
  | .bin o _ => o.tok
  | .idx _ => .lsq
  | .cast _ => .dcolon
  | .inl n _ _ => RExpr.inTok n
def lvl (T : PrecTables) (q : Sp) : Int := tokPrec T q.tok
def flat (T : PrecTables) : Sp → List Tok
  | .bin o r => o.tok :: RExpr.pr T (tokPrec T o.tok + 1) r
  | .idx i => .lsq :: (RExpr.pr T 0 i ++ [.rsq])
  | .cast t => [.dcolon, .ident (castName t)]
  | .inl n v vs => RExpr.inTok n :: .lp :: (RExpr.pr T 0 v ++ RExpr.prTail T vs ++ [.rp])
def plug (acc : RExpr) : Sp → RExpr
  | .bin o r => .bin o acc r
  | .idx i => .index acc i
  | .cast t => .cast acc t
  | .inl n v vs => .inList n acc v vs
end Sp

def flat (T : PrecTables) : List Sp → List Tok
  | [] => []
  | q :: ps => q.flat T ++ flat T ps

theorem flat_append (T : PrecTables) (a b : List Sp) : flat T (a ++ b) = flat T a ++ flat T b := by
  induction a with
  | nil => rfl
  | cons q ps ih => simp [flat, ih]

def plug (h : RExpr) (ps : List Sp) : RExpr := ps.foldl Sp.plug h

/-- left-spine decomposition of `e` in a context of level `m`: the head (an operand the loop starts from) and the
operator applications the loop at level `m` performs on it -/
def unspine (T : PrecTables) (m : Int) : RExpr → RExpr × List Sp
  | .bin o l r =>
    if tokPrec T o.tok < m then (.bin o l r, [])
    else ((unspine T (tokPrec T o.tok) l).1, (unspine T (tokPrec T o.tok) l).2 ++ [.bin o r])
  | .index a i =>
    if tokPrec T .lsq < m then (.index a i, [])
    else ((unspine T (tokPrec T .lsq) a).1, (unspine T (tokPrec T .lsq) a).2 ++ [.idx i])
  | .cast e t =>
    if tokPrec T .dcolon < m then (.cast e t, [])
    else ((unspine T (tokPrec T .dcolon) e).1, (unspine T (tokPrec T .dcolon) e).2 ++ [.cast t])
  | .inList n e v vs =>
    if tokPrec T (RExpr.inTok n) < m then (.inList n e v vs, [])
    else ((unspine T (tokPrec T (RExpr.inTok n)) e).1, (unspine T (tokPrec T (RExpr.inTok n)) e).2 ++ [.inl n v vs])
  | e => (e, [])

/-- the context level the head of a spine is printed in -/
def headCtx (T : PrecTables) (m : Int) : List Sp → Int
  | [] => m
  | q :: _ => q.lvl T

theorem headCtx_snoc (T : PrecTables) (m : Int) (ps : List Sp) (q : Sp) :
    headCtx T m (ps ++ [q]) = headCtx T (q.lvl T) ps := by
  cases ps <;> rfl

namespace RExpr
/-- nodes the operand loop builds (as opposed to what `parse_unary_operator` returns) -/
def isSpine : RExpr → Bool
  | .bin _ _ _ | .index _ _ | .cast _ _ | .inList _ _ _ _ => true
  | _ => false
end RExpr

def Sp.Smaller (n : Nat) : Sp → Prop
  | .bin _ r => r.size < n
  | .idx i => i.size < n
  | .cast _ => True
  | .inl _ v vs => v.size < n ∧ RExpr.sizes vs < n

theorem Sp.Smaller.mono {n n' : Nat} {q : Sp} (h : q.Smaller n) (hle : n ≤ n') : q.Smaller n' := by
  cases q <;> simp only [Sp.Smaller] at * <;> omega

/-! ### loop-built nodes are `q.plug a`

The facts about `bin`, `index`, `cast` and `inList` nodes that the decomposition needs are stated once for `q.plug a`. -/

theorem spine_cases (e : RExpr) : (∃ a q, e = Sp.plug a q) ∨ e.isSpine = false := by
  cases e with
  | bin o l r => exact .inl ⟨l, .bin o r, rfl⟩
  | index a i => exact .inl ⟨a, .idx i, rfl⟩
  | cast e t => exact .inl ⟨e, .cast t, rfl⟩
  | inList n e v vs => exact .inl ⟨e, .inl n v vs, rfl⟩
  | _ => exact .inr rfl

variable (T : PrecTables)

theorem level_plug (a : RExpr) (q : Sp) : (q.plug a).level T = some (q.lvl T) := by cases q <;> rfl

theorem needsParen_plug (a : RExpr) (q : Sp) (m : Int) : (q.plug a).needsParen T m = decide (q.lvl T < m) := by
  rw [RExpr.needsParen, level_plug]

theorem pr_plug (a : RExpr) (q : Sp) (m : Int) :
    (q.plug a).pr T m = RExpr.wrap (decide (q.lvl T < m)) (a.pr T (q.lvl T) ++ q.flat T) := by
  cases q <;>
    simp only [Sp.plug, RExpr.pr, Sp.flat, Sp.lvl, Sp.tok, List.append_assoc, List.cons_append, List.nil_append] <;> rfl

theorem size_plug (a : RExpr) (q : Sp) : a.size < (q.plug a).size ∧ q.Smaller (q.plug a).size := by
  cases q <;> simp only [Sp.plug, RExpr.size, Sp.Smaller, and_true] <;> omega

theorem unspine_plug (a : RExpr) (q : Sp) (m : Int) :
    unspine T m (q.plug a) = if q.lvl T < m then (q.plug a, [])
      else ((unspine T (q.lvl T) a).1, (unspine T (q.lvl T) a).2 ++ [q]) := by
  cases q <;> rfl

theorem unspine_atom {e : RExpr} (h : e.isSpine = false) (m : Int) : unspine T m e = (e, []) := by
  cases e <;> first | (cases h; done) | rfl

/-- Induction along `unspine`: the decomposition stops at `e` itself when `e` is not a loop-built node or has to be
parenthesised at level `m`; otherwise `e = q.plug a` and the step `q` comes after the decomposition of `a` at the level
of `q`. -/
theorem unspine_rec {P : Int → RExpr → RExpr → List Sp → Prop}
    (base : ∀ m e, (e.isSpine = true → e.needsParen T m = true) → P m e e [])
    (step : ∀ m a q h ps, ¬ q.lvl T < m → P (q.lvl T) a h ps → P m (q.plug a) h (ps ++ [q]))
    (m : Int) (e : RExpr) : P m e (unspine T m e).1 (unspine T m e).2 := by
  rcases spine_cases e with ⟨a, q, rfl⟩ | hs
  · rw [unspine_plug]
    split
    · exact base _ _ fun _ => by rw [needsParen_plug]; exact decide_eq_true ‹_›
    · exact step m a q _ _ ‹_› (unspine_rec base step _ a)
  · rw [unspine_atom T hs]
    exact base _ _ fun h => absurd h (by simp [hs])
termination_by e.size
decreasing_by subst e; exact (size_plug a q).1

theorem plug_unspine (T : PrecTables) : ∀ (m : Int) (e : RExpr), plug (unspine T m e).1 (unspine T m e).2 = e :=
  unspine_rec T (P := fun _ e h ps => plug h ps = e) (fun _ _ _ => rfl)
    fun _ a q h ps _ ih => by unfold plug at ih ⊢; rw [List.foldl_append, ih]; rfl

/-- the printed form splits into the head, printed in the context of the first spine step, and the steps -/
theorem pr_unspine (T : PrecTables) : ∀ (m : Int) (e : RExpr),
    RExpr.pr T m e = RExpr.pr T (headCtx T m (unspine T m e).2) (unspine T m e).1 ++ flat T (unspine T m e).2 :=
  unspine_rec T (P := fun m e h ps => RExpr.pr T m e = RExpr.pr T (headCtx T m ps) h ++ flat T ps)
    (fun _ _ _ => (List.append_nil _).symm)
    fun m a q h ps hn ih => by
      rw [pr_plug, decide_eq_false hn, headCtx_snoc, flat_append, ← List.append_assoc, ← ih]
      simp [RExpr.wrap, flat]

/-- every step binds at least as tight as the loop level and no later step binds tighter than an earlier one -/
def SpineOK (T : PrecTables) (m : Int) : List Sp → Prop
  | [] => True
  | q :: ps => m ≤ q.lvl T ∧ (∀ q' ∈ ps, q'.lvl T ≤ q.lvl T) ∧ SpineOK T m ps

variable {T}

theorem spine_snoc {m p : Int} (ps : List Sp) (q : Sp)
    (h : SpineOK T p ps) (hmp : m ≤ p) (hp : q.lvl T = p) : SpineOK T m (ps ++ [q]) := by
  induction ps with
  | nil => simp [SpineOK, hp, hmp]
  | cons q' qs ih =>
    obtain ⟨h1, h2, h3⟩ := h
    refine ⟨by omega, ?_, ih h3⟩
    intro x hx
    rcases List.mem_append.mp hx with hx | hx
    · exact h2 x hx
    · cases List.mem_singleton.mp hx; omega

theorem unspine_ok (T : PrecTables) : ∀ (m : Int) (e : RExpr), SpineOK T m (unspine T m e).2 :=
  unspine_rec T (P := fun m _ _ ps => SpineOK T m ps) (fun _ _ _ => trivial)
    fun _ _ q _ ps hn ih => spine_snoc ps q ih (by omega) rfl

theorem forall_mem_snoc {R : Sp → Prop} {ps : List Sp} {q : Sp} (h : ∀ x ∈ ps, R x) (hq : R q) : ∀ x ∈ ps ++ [q], R x :=
  List.forall_mem_append.mpr ⟨h, List.forall_mem_singleton.mpr hq⟩

theorem unspine_sizes (T : PrecTables) : ∀ (m : Int) (e : RExpr),
    (unspine T m e).1.size ≤ e.size ∧ ∀ q ∈ (unspine T m e).2, q.Smaller e.size :=
  unspine_rec T (P := fun _ e h ps => h.size ≤ e.size ∧ ∀ q ∈ ps, q.Smaller e.size)
    (fun _ _ _ => ⟨Nat.le_refl _, fun _ h => nomatch h⟩)
    fun _ a q _ _ _ ih =>
      have hs := size_plug a q
      ⟨by omega, forall_mem_snoc (fun x hx => (ih.2 x hx).mono (by omega)) hs.2⟩

theorem unspine_head_cases (T : PrecTables) : ∀ (m : Int) (e : RExpr),
    ((unspine T m e).1 = e ∧ (unspine T m e).2 = []) ∨ (unspine T m e).1.size < e.size :=
  unspine_rec T (P := fun _ e h ps => (h = e ∧ ps = []) ∨ h.size < e.size) (fun _ _ _ => .inl ⟨rfl, rfl⟩)
    fun _ a q _ _ _ ih => by
      have hs := (size_plug a q).1
      rcases ih with ⟨rfl, _⟩ | ih
      · exact .inr hs
      · exact .inr (by omega)

/-- a loop-built head is one that the printer parenthesises in its context -/
theorem unspine_head (T : PrecTables) : ∀ (m : Int) (e : RExpr), (unspine T m e).1.isSpine = true →
    (unspine T m e).1.needsParen T (headCtx T m (unspine T m e).2) = true :=
  unspine_rec T (P := fun m _ h ps => h.isSpine = true → h.needsParen T (headCtx T m ps) = true) (fun _ _ h => h)
    fun _ _ _ _ _ _ ih => by rw [headCtx_snoc]; exact ih

theorem unspine_head_lt (T : PrecTables) (m : Int) (e : RExpr) (hs : e.isSpine = true)
    (hnp : e.needsParen T m = false) : (unspine T m e).1.size < e.size := by
  rcases unspine_head_cases T m e with ⟨h1, h2⟩ | h
  · have := unspine_head T m e (by rw [h1]; exact hs)
    rw [h1, h2, headCtx, hnp] at this; cases this
  · exact h

def Sp.WF (T : PrecTables) : Sp → Prop
  | .bin o r => (∀ s, o = .sym s → s ≠ .single '.' ∧ (lookupOp T.binary s).isSome) ∧ RExpr.WF T r
  | .idx i => RExpr.WF T i
  | .cast t => ∀ u, t ≠ .array u
  | .inl _ v vs => RExpr.WF T v ∧ RExpr.WFs T vs

theorem WF_plug {a : RExpr} {q : Sp} (h : RExpr.WF T (q.plug a)) : RExpr.WF T a ∧ q.WF T := by
  cases q <;> simp only [Sp.plug, RExpr.WF, Sp.WF] at h ⊢
  · exact ⟨h.2.1, h.1, h.2.2⟩
  · exact h
  · exact h.symm
  · exact ⟨h.1, h.2⟩

theorem unspine_wf (T : PrecTables) : ∀ (m : Int) (e : RExpr), RExpr.WF T e →
    RExpr.WF T (unspine T m e).1 ∧ ∀ q ∈ (unspine T m e).2, q.WF T :=
  unspine_rec T (P := fun _ e h ps => RExpr.WF T e → RExpr.WF T h ∧ ∀ q ∈ ps, q.WF T) (fun _ _ _ h => ⟨h, fun _ h => nomatch h⟩)
    fun _ _ _ _ _ _ ih h => ⟨(ih (WF_plug h).1).1, forall_mem_snoc (ih (WF_plug h).1).2 (WF_plug h).2⟩

end Sqlgrep.Spec
