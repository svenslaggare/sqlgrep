import SqlgrepModel.Lemmas.ExecFT
import SqlgrepModel.Lemmas.ExecTLines
import SqlgrepModel.Lemmas.ExecTAgg
import SqlgrepModel.Lemmas.AggFollowExec
/-
The traced follow run against the traced batch run over the same lines (C11 with the result tables handed to the
printer instead of their text rendering):

* non-aggregate statement (no join; WHERE, DISTINCT, LIMIT included): the traced follow run IS the traced batch run over
  one file holding the lines — same `RunOut`, same print calls (`runFollowAllT_select_eq_runBatchT`);
* aggregate statement (no join, no LIMIT): the calls of the follow run are the tables `followTables` shows, one per line
  that WHERE admits (`runFollowAllT_agg`), and the table shown for the k-th line is THE table the batch run over the
  first k lines hands to the printer (`followT_agg_step`: `follow_exec_step` for print calls); the two runs also fail
  alike at the k-th line (`followT_agg_step_status`), and a failed batch run has made no print call
  (`runBatchT_agg_failed_calls`).
-/
set_option linter.unusedSimpArgs false
namespace Sqlgrep
open Value Spec.Agg Spec.Select

/-- **follow mode = batch mode for a non-aggregate statement** (no join — follow mode has none; WHERE, DISTINCT, LIMIT
included): over the same lines the traced follow run and the traced batch run over one file holding them are equal —
the same `RunOut`, the same calls of the printer -/
theorem runFollowAllT_select_eq_runBatchT (O : Oracles) (qy : Query) (q : SelectStmt) (hq : qy.stmt = .select q)
    (hj : qy.join = none) (joined : Option (List FileLine)) (lines : List Line) :
    runFollowAllT O qy none lines = runBatchT O qy joined [readableFile lines] := by
  unfold runFollowAllT runBatchT joinSetup runWithIndexT
  simp only [hj, hq, Bool.not_false, runFilesT_single]
  have e : (({} : TraceState).ls.stop || reachedLimit qy ({} : TraceState).ls.es) = reachedLimit qy ({} : EngineState) :=
    Bool.false_or _
  rw [e]
  by_cases h0 : reachedLimit qy ({} : EngineState) = true
  · simp only [h0, if_true]
    split <;> rfl
  · simp only [h0, Bool.false_eq_true, if_false]
    rw [runFollowT_select_eq_runFileT O qy q hq lines {} rfl (Bool.eq_false_iff.2 h0)]
    split <;> rfl

theorem runFollowT_agg_calls (O : Oracles) (qy : Query) (q : AggStmt) (hq : qy.stmt = .aggregate q) (hj : qy.join = none)
    (hlim : q.limit = none) (lines : List Line) (s : TraceState) {st : AggState} {ts : List RowOut}
    (h : followTables O q (followEnvs qy.table lines) s.ls.es.agg = .ok (st, ts)) :
    (runFollowT O qy none lines s).calls = s.calls ++ ts.map (fun r => { result := r, final := true }) := by
  induction lines generalizing s ts with
  | nil =>
    simp only [followEnvs, asFile, List.map_nil, envsOf, List.filter_nil, followTables, Outcome.ok.injEq, Prod.mk.injEq] at h
    obtain ⟨_, h2⟩ := h
    subst h2
    simp [runFollowT]
  | cons l rest ih =>
    have hnone : ((none : Option Nat) == some s.ls.consumed) = false := rfl
    have hu : isUpdated qy = true := by simp [isUpdated, hq]
    rw [followEnvs_cons] at h
    rw [runFollowT]
    simp only [hnone, Bool.false_eq_true, if_false]
    by_cases hadm : anyResult l.row = true
    · simp only [hadm, if_true, followTables] at h
      obtain ⟨⟨st1, r⟩, h1, h2⟩ := obind_ok h
      obtain ⟨⟨st2, ts2⟩, h3, h4⟩ := obind_ok h2
      simp only [Outcome.ok.injEq, Prod.mk.injEq] at h4
      obtain ⟨h4a, h4b⟩ := h4
      subst h4a; subst h4b
      rw [executeLine_follow_agg O qy q [] _ l hq hj hadm]
      simp only [h1, Outcome.bind, updateLimit, hlim]
      cases r with
      | none =>
        simp only []
        rw [ih _ (by simpa using h3)]
        simp
      | some out =>
        simp only [hu, Bool.false_eq_true, if_false]
        rw [ih _ (by simpa using h3)]
        simp
    · simp only [hadm, Bool.false_eq_true, if_false] at h
      rw [executeLine_noise O qy [] true _ l (Bool.eq_false_iff.2 hadm)]
      exact ih _ (by simpa using h)

/-- **the traced follow run of an aggregate statement** (no join, no LIMIT) whose steps do not fail: it prints and hands
to the printer exactly the tables `followTables` shows — one per line that WHERE admits, each with `single_result`
(= `output.updated`) set -/
theorem runFollowAllT_agg (O : Oracles) (qy : Query) (q : AggStmt) (hq : qy.stmt = .aggregate q) (hj : qy.join = none)
    (hlim : q.limit = none) (lines : List Line) {st : AggState} {ts : List RowOut}
    (h : followTables O q (followEnvs qy.table lines) {} = .ok (st, ts)) :
    runFollowAllT O qy none lines =
      { out := { printed := ts.flatMap (fun r => printResult r true), totalLines := lines.length },
        calls := ts.map (fun r => { result := r, final := true }) } := by
  have hout := runFollowAllT_out O qy none lines
  rw [runFollowAll_agg O qy q hq hj hlim lines h] at hout
  have hl : reachedLimit qy {} = false := by simp [reachedLimit, hq]
  have hcalls : (runFollowAllT O qy none lines).calls = ts.map (fun r => { result := r, final := true }) := by
    unfold runFollowAllT
    simp only [hl, Bool.false_eq_true, if_false]
    rw [runFollowT_agg_calls O qy q hq hj hlim lines {} h]
    rfl
  exact TraceOut.ext hout hcalls

/-- **the k-th line, both cases, for what reaches the printer.** `runFollowAllT` over the first k delivered lines and
`runBatchT` over the same lines as one file; neither reports a failure; the GROUP BY keys seen are exact; no LIMIT, no
JOIN. The follow run over the first k−1 lines did not fail either, the batch run makes exactly one print call — its
final table `r` — and
* if the k-th line is shown (admitted, WHERE admits its row), the follow run's calls are those over the first k−1 lines
  followed by exactly that call: the screen it shows is the table of the batch run over the first k lines;
* otherwise the follow run makes no call for it, and the batch run over the first k−1 lines (which does not fail
  either) makes the same call `r`: the table is unchanged. -/
theorem followT_agg_step (O : Oracles) (qy : Query) (q : AggStmt) (hq : qy.stmt = .aggregate q) (hj : qy.join = none)
    (hlim : q.limit = none) (joined : Option (List FileLine)) (pre : List Line) (l : Line)
    (hf : hasFailed (runFollowAllT O qy none (pre ++ [l])).out = false)
    (hb : hasFailed (runBatchT O qy joined [asFile (pre ++ [l])]).out = false)
    (hex : KeysExact (groupKeysOf O q (followEnvs qy.table (pre ++ [l])))) :
    hasFailed (runFollowAllT O qy none pre).out = false ∧
    ∃ r, (runBatchT O qy joined [asFile (pre ++ [l])]).calls = [{ result := r, final := true }] ∧
      (lineShown O qy q l →
        (runFollowAllT O qy none (pre ++ [l])).calls =
          (runFollowAllT O qy none pre).calls ++ [{ result := r, final := true }]) ∧
      (¬ lineShown O qy q l →
        (runFollowAllT O qy none (pre ++ [l])).calls = (runFollowAllT O qy none pre).calls ∧
        (runBatchT O qy joined [asFile pre]).calls = [{ result := r, final := true }] ∧
        hasFailed (runBatchT O qy joined [asFile pre]).out = false) := by
  rw [runFollowAllT_out] at hf
  rw [runBatchT_nojoin O qy hj joined, runBatchT_some_out] at hb
  obtain ⟨st2, ts, hft⟩ := runFollowAll_agg_ok O qy q hq hj hlim _ hf
  obtain ⟨sb, r, hrun, hfin⟩ := runBatch_agg_ok O qy q hq hj [] _ (asFile_readable _) hb
  obtain ⟨sf, ts0, hpre, hshown, hnot⟩ := followTables_line hlim pre l hft hrun hfin hex
  have hB : ∀ ls, aggRun O q (followEnvs qy.table ls) {} = .ok sb →
      runBatchT O qy joined [asFile ls] =
        { out := { printed := printResult r true, totalLines := [asFile ls].flatten.length },
          calls := [{ result := r, final := true }] } :=
    fun ls h => runBatchT_agg O qy q hq hj joined [asFile ls] (by simpa using asFile_readable _) (by simpa [followEnvs] using h) hfin
  rw [runFollowAllT_agg O qy q hq hj hlim _ hft, runFollowAllT_agg O qy q hq hj hlim pre hpre, hB _ hrun]
  refine ⟨rfl, r, rfl, fun hs => ?_, fun hns => ?_⟩
  · rw [hshown hs]
    simp
  · rw [(hnot hns).1, hB pre (hnot hns).2]
    exact ⟨rfl, rfl, rfl⟩

theorem follow_result_outcome_eq_batch {O : Oracles} {q : AggStmt} (hlim : q.limit = none) (pre : List Env) (env : Env)
    {sf sf1 sb : AggState}
    (hfollow : followRun O q pre {} = .ok sf) (hupd : aggUpdateRow O q sf env = .ok (sf1, true))
    (hbatch : aggRun O q (pre ++ [env]) {} = .ok sb)
    (hex : KeysExact (groupKeysOf O q (pre ++ [env]))) :
    (aggResult O q sf1).bind (fun r => .ok r.2) = finalResult O q { agg := sb } := by
  obtain ⟨rows, hr, hsim⟩ := sim2_snoc pre env hfollow hupd hbatch
  rw [aggResult_sim2 (O := O) hsim (hex.mono (keyedRows_keys hr))]
  simp only [finalResult, hlim, bind]
  cases aggResult O q sb <;> rfl

theorem runFollowT_snoc (O : Oracles) (qy : Query) (pre : List Line) (l : Line) (s : TraceState) (hs : s.ls.stop = false)
    (hp : (runFollowT O qy none pre s).ls.stop = false) :
    runFollowT O qy none (pre ++ [l]) s =
      (Mode.follow qy).after (runFollowT O qy none pre s) (executeLine O qy [] true (runFollowT O qy none pre s).ls.es l) := by
  rw [runFollowT_eq_drive _ _ _ _ _ hs, readableFile_append, drive_append, ← runFollowT_eq_drive _ _ _ _ _ hs]
  exact drive_cons _ _ _ _ [] (by rw [fileHalt_none]; exact hp)

theorem runFollowT_agg_snoc (O : Oracles) (qy : Query) (q : AggStmt) (hq : qy.stmt = .aggregate q) (hj : qy.join = none)
    (hlim : q.limit = none) (pre : List Line) (l : Line) (hadm : anyResult l.row = true) (s : TraceState)
    (hs : s.ls.stop = false) {sf : AggState} {ts0 : List RowOut}
    (h : followTables O q (followEnvs qy.table pre) s.ls.es.agg = .ok (sf, ts0)) :
    (runFollowT O qy none (pre ++ [l]) s).calls =
      s.calls ++ ts0.map (fun r => { result := r, final := true }) ++
        (match followStep O q sf (lineEnv qy.table l) with
          | .ok (_, some r) => [{ result := r, final := true }]
          | _ => []) ∧
    endStatus (runFollowT O qy none (pre ++ [l]) s).ls.out =
      endStatus (match followStep O q sf (lineEnv qy.table l) with
        | .ok _ => s.ls.out
        | o => failWith s.ls.out o) := by
  have hu : isUpdated qy = true := by simp [isUpdated, hq]
  have hls : (runFollowT O qy none pre s).ls = afterFollow s.ls sf ts0 pre.length := by
    rw [runFollowT_ls]; exact runFollow_agg O qy q hq hj hlim pre s.ls h
  have hT : runFollowT O qy none pre s =
      ⟨afterFollow s.ls sf ts0 pre.length, s.calls ++ ts0.map (fun r => { result := r, final := true })⟩ := by
    rw [← hls, ← runFollowT_agg_calls O qy q hq hj hlim pre s h]
  rw [runFollowT_snoc O qy pre l s hs (by rw [hls]; exact hs), hT, executeLine_follow_agg O qy q [] _ l hq hj hadm]
  rw [show (afterFollow s.ls sf ts0 pre.length).es.agg = sf from rfl]
  cases hfs : followStep O q sf (lineEnv qy.table l) with
  | ok p =>
    obtain ⟨st1, r⟩ := p
    cases r <;> simp [Outcome.bind, updateLimit, hlim, Mode.after, Mode.follow, Mode.calls, Mode.text, hu, endStatus, afterFollow]
  | _ => simp [Outcome.bind, Mode.after, lineFailed, followCounted, afterFollow, endStatus, failWith]

theorem followT_agg_snoc_trace (O : Oracles) (qy : Query) (q : AggStmt) (hq : qy.stmt = .aggregate q) (hj : qy.join = none)
    (hlim : q.limit = none) (pre : List Line) (l : Line) (hadm : anyResult l.row = true) {sf : AggState} {ts0 : List RowOut}
    (hF : followTables O q (followEnvs qy.table pre) {} = .ok (sf, ts0)) :
    (runFollowAllT O qy none (pre ++ [l])).calls =
      ts0.map (fun r => { result := r, final := true }) ++
        (match followStep O q sf (lineEnv qy.table l) with
          | .ok (_, some r) => [{ result := r, final := true }]
          | _ => []) ∧
    endStatus (runFollowAllT O qy none (pre ++ [l])).out =
      endStatus (match followStep O q sf (lineEnv qy.table l) with
        | .ok _ => ({} : RunOut)
        | o => failWith {} o) := by
  have hl : reachedLimit qy {} = false := by simp [reachedLimit, hq]
  have := runFollowT_agg_snoc O qy q hq hj hlim pre l hadm {} rfl hF
  unfold runFollowAllT
  simp only [hl, Bool.false_eq_true, if_false]
  exact ⟨by simpa using this.1, this.2⟩

/-- … so a run that carries an error after the k-th line has handed the printer nothing for it: the step failed -/
theorem followT_agg_snoc_failed_calls (O : Oracles) (qy : Query) (q : AggStmt) (hq : qy.stmt = .aggregate q) (hj : qy.join = none)
    (hlim : q.limit = none) (pre : List Line) (l : Line) (hadm : anyResult l.row = true) {sf : AggState} {ts0 : List RowOut}
    (hF : followTables O q (followEnvs qy.table pre) {} = .ok (sf, ts0)) (k : ErrKind)
    (hk : (runFollowAllT O qy none (pre ++ [l])).out.error = some k) :
    (runFollowAllT O qy none (pre ++ [l])).calls = ts0.map (fun r => { result := r, final := true }) := by
  obtain ⟨hcalls, hstat⟩ := followT_agg_snoc_trace O qy q hq hj hlim pre l hadm hF
  simp only [endStatus, Prod.mk.injEq] at hstat
  rw [hcalls]
  cases hs : followStep O q sf (lineEnv qy.table l) with
  | ok p =>
    rw [hs] at hstat
    rw [hstat.1] at hk
    cases hk
  | error k' => simp
  | panic k' => simp
  | oracleMissing k' => simp

/-- **failure agreement at the k-th line** (the result step): the rows of the first k−1 lines fed one at a time without
failure, the k-th line admitted and its update accepted by WHERE in follow mode, the batch updates over the first k lines
succeed, exact keys: then the executed follow run over the k lines and the executed batch run over them end alike — both
`Ok`, or both with the SAME error (or missing fact) raised by `execute_result` -/
theorem followT_agg_step_status (O : Oracles) (qy : Query) (q : AggStmt) (hq : qy.stmt = .aggregate q) (hj : qy.join = none)
    (hlim : q.limit = none) (joined : Option (List FileLine)) (pre : List Line) (l : Line) (hadm : anyResult l.row = true)
    {sf sf1 sb : AggState} {ts0 : List RowOut}
    (hF : followTables O q (followEnvs qy.table pre) {} = .ok (sf, ts0))
    (hupd : aggUpdateRow O q sf (lineEnv qy.table l) = .ok (sf1, true))
    (hB : aggRun O q (followEnvs qy.table (pre ++ [l])) {} = .ok sb)
    (hex : KeysExact (groupKeysOf O q (followEnvs qy.table (pre ++ [l])))) :
    endStatus (runFollowAllT O qy none (pre ++ [l])).out = endStatus (runBatchT O qy joined [asFile (pre ++ [l])]).out := by
  have he : followEnvs qy.table (pre ++ [l]) = followEnvs qy.table pre ++ [lineEnv qy.table l] := by
    rw [followEnvs_append, followEnvs_cons]
    simp [hadm, followEnvs, asFile, envsOf]
  have hB0 := hB
  rw [he] at hB hex
  have hkey := follow_result_outcome_eq_batch hlim _ _ (followRun_of_tables hF) hupd hB hex
  have hl : reachedLimit qy {} = false := by simp [reachedLimit, hq]
  have hfs : followStep O q sf (lineEnv qy.table l) = (aggResult O q sf1).bind (fun r => .ok (r.1, some r.2)) := by
    simp only [followStep, hupd, Outcome.bind, if_true]
  have hL := (followT_agg_snoc_trace O qy q hq hj hlim pre l hadm hF).2
  have hR : endStatus (runBatchT O qy joined [asFile (pre ++ [l])]).out =
      endStatus (match finalResult O q { agg := sb } with
        | .ok _ => ({} : RunOut)
        | o => failWith {} o) := by
    rw [runBatchT_agg_run O qy q hq hj joined [asFile (pre ++ [l])] (by simpa using asFile_readable _)
      (by simpa [followEnvs] using hB0)]
    cases finalResult O q { agg := sb } <;> simp [endStatus, failWith]
  rw [hL, hR, hfs, ← hkey]
  cases aggResult O q sf1 <;> simp [Outcome.bind, endStatus, failWith]

theorem runBatchT_agg_failed_calls (O : Oracles) (qy : Query) (q : AggStmt) (hq : qy.stmt = .aggregate q) (hj : qy.join = none)
    (joined : Option (List FileLine)) (files : List (List FileLine))
    (h : hasFailed (runBatchT O qy joined files).out = true) : (runBatchT O qy joined files).calls = [] := by
  have hC : (runFilesT O qy [] false files {}).calls = [] := runFilesT_agg_calls O qy q hq [] files {}
  unfold runBatchT joinSetup runWithIndexT at h ⊢
  simp only [hj, hq, Bool.not_true] at h ⊢
  split
  · exact hC
  · rename_i hnf
    simp only [hnf, Bool.false_eq_true, if_false] at h
    cases hfr : finalResult O q (runFilesT O qy [] false files {}).ls.es with
    | ok r =>
      rw [hfr] at h
      exact absurd h hnf
    | _ => exact hC

end Sqlgrep
