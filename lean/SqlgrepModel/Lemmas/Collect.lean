import SqlgrepModel.Spec.Agg
/-
`Spec.Agg.collect` (all answers, or `none` if one is missing): `collect l = some r` says `l = r.map some`, and the rest —
elements, lengths, concatenation, maps in two stages — follows from that. `OptPerm` is what `collect` makes of a
permutation of its argument (`collect_perm`). `List.mapM` into `Option` is `collect` of the list of answers (`mapM_eq_collect`),
so its facts are read off the same equation.
-/
namespace Sqlgrep
open Spec.Agg

theorem collect_cons_some {α : Type} (a : α) (rest : List (Option α)) :
    collect (some a :: rest) = (collect rest).map (a :: ·) := rfl

theorem collect_eq_some_iff {α : Type} {l : List (Option α)} {r : List α} : collect l = some r ↔ l = r.map some := by
  induction l generalizing r with
  | nil => cases r <;> simp [collect]
  | cons o os ih =>
    cases o <;> cases r <;> simp [collect, ih]
    exact and_comm

theorem collect_map_eq_some_iff {α β : Type} {f : β → Option α} {g : α → β} (hfg : ∀ v a, f v = some a ↔ v = g a)
    {xs : List β} {r : List α} : collect (xs.map f) = some r ↔ xs = r.map g := by
  rw [collect_eq_some_iff]
  induction xs generalizing r with
  | nil => cases r <;> simp
  | cons x xs ih => cases r <;> simp [ih, hfg]

theorem collect_eq_some_cons {α : Type} {a : α} {rest : List (Option α)} {l : List α}
    (h : collect (some a :: rest) = some l) : ∃ l', collect rest = some l' ∧ l = a :: l' := by
  cases l with
  | nil => simp [collect_eq_some_iff] at h
  | cons b l' =>
    simp only [collect_eq_some_iff, List.map_cons, List.cons.injEq, Option.some.injEq] at h
    exact ⟨l', collect_eq_some_iff.mpr h.2, by rw [h.1]⟩

theorem collect_length {α : Type} {l : List (Option α)} {r : List α} (h : collect l = some r) : r.length = l.length := by
  rw [collect_eq_some_iff.mp h, List.length_map]

theorem collect_mem {α : Type} {l : List (Option α)} {r : List α} (h : collect l = some r) : ∀ v ∈ r, some v ∈ l := by
  intro v hv
  rw [collect_eq_some_iff.mp h]
  exact List.mem_map_of_mem hv

theorem collect_some_mem {α : Type} {l : List (Option α)} {r : List α} (h : collect l = some r) :
    ∀ o ∈ l, ∃ a, o = some a := by
  intro o ho
  obtain ⟨a, _, e⟩ := List.mem_map.mp (collect_eq_some_iff.mp h ▸ ho)
  exact ⟨a, e.symm⟩

theorem collect_map_mem {α β : Type} {l : List α} {f : α → Option β} {r : List β} (h : collect (l.map f) = some r) :
    (∀ a ∈ l, ∃ b ∈ r, f a = some b) ∧ ∀ b ∈ r, ∃ a ∈ l, f a = some b := by
  have h := collect_eq_some_iff.mp h
  constructor
  · intro a ha
    obtain ⟨b, hb, e⟩ := List.mem_map.mp (h ▸ List.mem_map_of_mem ha : f a ∈ r.map some)
    exact ⟨b, hb, e.symm⟩
  · intro b hb
    exact List.mem_map.mp (h ▸ List.mem_map_of_mem hb : some b ∈ l.map f)

theorem collect_map_eq_nil {α β : Type} {f : β → Option α} {xs : List β} (hf : ∀ x ∈ xs, f x = none) {r : List α}
    (h : collect (xs.map f) = some r) : r = [] := by
  cases xs with
  | nil => simpa [collect] using h.symm
  | cons x xs => simp [collect, hf x (by simp)] at h

theorem collect_append_eq {α : Type} (a b : List (Option α)) :
    collect (a ++ b) = (collect a).bind (fun x => (collect b).map (x ++ ·)) := by
  induction a with
  | nil => simp [collect]
  | cons o os ih =>
    cases o with
    | none => rfl
    | some v =>
      simp only [List.cons_append, collect_cons_some, ih]
      cases collect os with
      | none => rfl
      | some x => cases collect b <;> rfl

theorem collect_append_inv {α : Type} {a b : List (Option α)} {r : List α} (h : collect (a ++ b) = some r) :
    ∃ x y, collect a = some x ∧ collect b = some y ∧ r = x ++ y := by
  rw [collect_eq_some_iff, eq_comm, List.map_eq_append_iff] at h
  obtain ⟨x, y, rfl, hx, hy⟩ := h
  exact ⟨x, y, collect_eq_some_iff.mpr hx.symm, collect_eq_some_iff.mpr hy.symm, rfl⟩

theorem collect_map_append_inv {α β : Type} {f : β → Option α} {a b : List β} {r : List α}
    (h : collect ((a ++ b).map f) = some r) :
    ∃ x y, collect (a.map f) = some x ∧ collect (b.map f) = some y ∧ r = x ++ y := by
  rw [List.map_append] at h; exact collect_append_inv h

theorem collect_map_map {α β γ : Type} (l : List α) (F : α → Option β) (π : β → γ) :
    (collect (l.map F)).map (List.map π) = collect (l.map (fun x => (F x).map π)) := by
  induction l with
  | nil => rfl
  | cons x xs ih =>
    cases hF : F x with
    | none => simp [collect, hF]
    | some b =>
      simp only [List.map_cons, hF, Option.map_some, collect_cons_some, ← ih]
      cases collect (xs.map F) <;> rfl

theorem collect_map_bind {α β γ : Type} (l : List α) (f : α → Option β) (g : β → Option γ) :
    collect (l.map (fun x => (f x).bind g)) = (collect (l.map f)).bind (fun ys => collect (ys.map g)) := by
  induction l with
  | nil => rfl
  | cons x xs ih =>
    simp only [List.map_cons]
    cases f x with
    | none => rfl
    | some y =>
      simp only [Option.bind_some, collect_cons_some]
      cases hg : g y with
      | none => cases collect (xs.map f) <;> simp [collect, hg]
      | some z =>
        rw [collect_cons_some, ih]
        cases collect (xs.map f) <;> simp [collect_cons_some, hg]

theorem collect_map_keys {α β : Type} {l : List α} {f : α → Option β} {g : α → List Value} {r : List (List Value × β)}
    (h : collect (l.map (fun x => (f x).map (fun y => (g x, y)))) = some r) :
    r.map (·.1) = l.map g ∧ ∀ x ∈ l, ∃ y, f x = some y ∧ (g x, y) ∈ r := by
  induction l generalizing r with
  | nil => simp [collect] at h; subst h; simp
  | cons x xs ih =>
    simp only [List.map_cons] at h
    cases hf : f x with
    | none => simp [hf, collect] at h
    | some y =>
      simp only [hf, Option.map_some] at h
      obtain ⟨r', hr', hr⟩ := collect_eq_some_cons h
      subst hr
      obtain ⟨hk, hm⟩ := ih hr'
      refine ⟨by simp [hk], ?_⟩
      intro z hz
      rcases List.mem_cons.mp hz with hz | hz
      · subst hz; exact ⟨y, hf, by simp⟩
      · obtain ⟨y', hy', hm'⟩ := hm z hz
        exact ⟨y', hy', by simp [hm']⟩

theorem collect_map_eq {α β : Type} {l : List α} {f : α → Option (List β)} {g : α → List Value} {r : List (List Value × List β)}
    (h : collect (l.map (fun x => (f x).map (fun y => (g x, y)))) = some r) :
    r = l.map (fun x => (g x, (f x).getD [])) := by
  induction l generalizing r with
  | nil => simp [collect] at h; subst h; rfl
  | cons x xs ih =>
    simp only [List.map_cons] at h
    cases hf : f x with
    | none => simp [hf, collect] at h
    | some y =>
      simp only [hf, Option.map_some] at h
      obtain ⟨r', hr', hr⟩ := collect_eq_some_cons h
      subst hr
      simp [hf, ih hr']

/-- `Z` is any function that zips by `c`, given by its two equations (`combineRow`, `combineS`) -/
theorem collect_zip3 {α β : Type} {c : α → β → β → β} {Z : List α → List β → List β → List β}
    (hnil : ∀ a b, Z [] a b = []) (hcons : ∀ x l u a v b, Z (x :: l) (u :: a) (v :: b) = c x u v :: Z l a b)
    {f g h : α → Option β} : ∀ {l : List α} {a b r : List β},
      (∀ x ∈ l, ∀ u v w, f x = some u → g x = some v → h x = some w → w = c x u v) →
      collect (l.map f) = some a → collect (l.map g) = some b → collect (l.map h) = some r → r = Z l a b
  | [], _, _, r, _, _, _, h3 => by rw [hnil]; cases r <;> simp_all [collect]
  | x :: l, a, b, r, hc, h1, h2, h3 => by
    simp only [List.map_cons] at h1 h2 h3
    cases hf : f x with
    | none => simp [hf, collect] at h1
    | some u =>
      cases hg : g x with
      | none => simp [hg, collect] at h2
      | some v =>
        cases hh : h x with
        | none => simp [hh, collect] at h3
        | some w =>
          rw [hf] at h1; rw [hg] at h2; rw [hh] at h3
          obtain ⟨a', ha', rfl⟩ := collect_eq_some_cons h1
          obtain ⟨b', hb', rfl⟩ := collect_eq_some_cons h2
          obtain ⟨r', hr', rfl⟩ := collect_eq_some_cons h3
          rw [hcons, hc x (by simp) u v w hf hg hh,
            collect_zip3 hnil hcons (fun y hy => hc y (by simp [hy])) ha' hb' hr']

def OptPerm {α : Type} : Option (List α) → Option (List α) → Prop
  | none, none => True
  | some a, some b => a.Perm b
  | _, _ => False

theorem OptPerm.refl {α : Type} (a : Option (List α)) : OptPerm a a := by
  cases a with
  | none => trivial
  | some l => exact List.Perm.refl l

theorem OptPerm.trans {α : Type} {a b c : Option (List α)} (h1 : OptPerm a b) (h2 : OptPerm b c) : OptPerm a c := by
  cases a <;> cases b <;> cases c <;> simp [OptPerm] at * 
  exact h1.trans h2

theorem collect_perm {α : Type} {l1 l2 : List (Option α)} (h : l1.Perm l2) : OptPerm (collect l1) (collect l2) := by
  induction h with
  | nil => exact OptPerm.refl _
  | @cons x m1 m2 _ ih =>
    cases x with
    | none => simp [collect, OptPerm]
    | some a =>
      simp only [collect]
      cases h1 : collect m1 <;> cases h2 : collect m2 <;> simp [h1, h2, OptPerm] at ih ⊢
      exact ih
  | swap x y l =>
    cases x <;> cases y <;> simp [collect, OptPerm]
    cases hl : collect l <;> simp
    exact List.Perm.swap _ _ _
  | trans _ _ ih1 ih2 => exact OptPerm.trans ih1 ih2

theorem optPerm_some_left {α : Type} {a : List α} {b : Option (List α)} (h : OptPerm (some a) b) :
    ∃ b', b = some b' ∧ a.Perm b' := by
  cases b with
  | none => simp [OptPerm] at h
  | some b' => exact ⟨b', rfl, h⟩

theorem optPerm_none_left {α : Type} {b : Option (List α)} (h : OptPerm none b) : b = none := by
  cases b with
  | none => rfl
  | some _ => exact h.elim

theorem OptPerm.bind_eq {α β : Type} {a b : Option (List α)} (h : OptPerm a b) {f : List α → Option β}
    (hf : ∀ l1 l2, a = some l1 → l1.Perm l2 → f l1 = f l2) : a.bind f = b.bind f := by
  cases a with
  | none => rw [optPerm_none_left h]
  | some l1 => obtain ⟨l2, rfl, hp⟩ := optPerm_some_left h; exact hf l1 l2 rfl hp

/-! ### `List.mapM` into `Option` is `collect` of the answers -/

theorem mapM_eq_collect {α β : Type} (f : α → Option β) (xs : List α) : xs.mapM f = collect (xs.map f) := by
  induction xs with
  | nil => rfl
  | cons x xs ih =>
    rw [List.mapM_cons, ih, List.map_cons]
    cases f x with
    | none => rfl
    | some y => rw [collect_cons_some]; cases collect (xs.map f) <;> rfl

theorem mapM_eq_some_iff {α β : Type} {f : α → Option β} {xs : List α} {ys : List β} :
    xs.mapM f = some ys ↔ xs.map f = ys.map some := by
  rw [mapM_eq_collect, collect_eq_some_iff]

theorem mapM_length {α β : Type} (f : α → Option β) (xs : List α) (ys : List β) (h : xs.mapM f = some ys) :
    ys.length = xs.length := by
  rw [collect_length (mapM_eq_collect f xs ▸ h), List.length_map]

theorem mapM_take {α β : Type} (f : α → Option β) (xs : List α) (ys : List β) (k : Nat) (h : xs.mapM f = some ys) :
    (xs.take k).mapM f = some (ys.take k) :=
  mapM_eq_some_iff.2 (by rw [List.map_take, mapM_eq_some_iff.1 h, List.map_take])

/-- every answer comes from an element … -/
theorem mapM_mem {α β : Type} {f : α → Option β} {xs : List α} {ys : List β} (h : xs.mapM f = some ys) {y : β}
    (hy : y ∈ ys) : ∃ x ∈ xs, f x = some y :=
  (collect_map_mem (mapM_eq_collect f xs ▸ h)).2 y hy

/-- … and every element has its answer -/
theorem mapM_mem_left {α β : Type} {f : α → Option β} {xs : List α} {ys : List β} (h : xs.mapM f = some ys) {x : α}
    (hx : x ∈ xs) : ∃ y ∈ ys, f x = some y :=
  (collect_map_mem (mapM_eq_collect f xs ▸ h)).1 x hx

theorem mapM_append_eq_some {α β : Type} {f : α → Option β} {a b : List α} {ys : List β} :
    (a ++ b).mapM f = some ys ↔ ∃ ya yb, a.mapM f = some ya ∧ b.mapM f = some yb ∧ ys = ya ++ yb := by
  rw [List.mapM_append]
  cases a.mapM f <;> cases b.mapM f <;> simp [eq_comm]

theorem mapM_cons_eq_some {α β : Type} {f : α → Option β} {x : α} {xs : List α} {ys : List β} :
    (x :: xs).mapM f = some ys ↔ ∃ y yr, f x = some y ∧ xs.mapM f = some yr ∧ ys = y :: yr := by
  rw [List.mapM_cons]
  cases f x <;> cases xs.mapM f <;> simp [eq_comm]

/-- a function that answers exactly where a test holds -/
theorem mapM_if {α β : Type} (f : α → Option β) (c : α → Bool) (g : α → β) (xs : List α)
    (h : ∀ x ∈ xs, f x = if c x then some (g x) else none) :
    xs.mapM f = if xs.all c then some (xs.map g) else none := by
  induction xs with
  | nil => rfl
  | cons x xs ih =>
    rw [List.mapM_cons, h x List.mem_cons_self, ih (fun y hy => h y (List.mem_cons_of_mem x hy)), List.all_cons]
    cases c x <;> cases xs.all c <;> rfl

/-! ### `Option.getD` read backwards -/

theorem getD_ne {α : Type} {o : Option α} {k x : α} (hk : k ≠ x) (ho : ∀ a, o = some a → a ≠ x) : o.getD k ≠ x := by
  cases o with
  | none => exact hk
  | some a => exact ho a rfl

theorem getD_eq_inv {α : Type} {o : Option α} {k x : α} (ho : ∀ a, o = some a → a ≠ x) (h : o.getD k = x) :
    o = none ∧ k = x := by
  cases o with
  | none => exact ⟨rfl, h⟩
  | some a => exact absurd h (ho a rfl)


end Sqlgrep
