import SqlgrepModel.Props.C04
import SqlgrepModel.Lemmas.ValueDecEq
/-
C04 — AVG over INTERVAL arguments: the cell is the EXACT total of nanoseconds divided by the count, truncated towards zero.

Finding **D74** (repaired in /repo ae3273b; found by the third independent review). The code used chrono's `TimeDelta / i32`
(`checked_div`), which divides the whole seconds and the nanosecond part APART and truncates twice, and took the count
`as i32`: over three rows whose intervals are 1.002 s, 0, 0 the program printed `00:00:00.333` (333 999 999 ns) where the
total 1 002 000 000 ns divided by 3 is exactly 334 000 000 ns; over −2 ms, 0, 0 it gave −666 667 ns (the truncated quotient
is −666 666 ns). The model (`Model/Engine.lean` `aggUpdate`, `.avg`), the specification (`Spec/Agg.lean` `avgOf`) and the
summaries lemma (`Lemmas/AggSumOf.lean` `avgFinish`) had always said `Int.tdiv` of the total — model and code differed
silently, and nothing sampled the difference: every generator produced whole-second, non-negative intervals (on which the two
divisions agree unless the count does not divide the seconds — and then chrono's carry is exact for whole seconds below
2^63/10^9), and the harness reference called chrono's own `/`. The repaired code forms the total in `i128`
(`num_seconds()·10^9 + subsec_nanos()`: the exact signed total, also for negative intervals, whose internal representation is
a negative second count and a non-negative nanosecond part), divides by the count in `i128` (Rust's `/` truncates towards
zero = `Int.tdiv`) and rebuilds the interval as `seconds(q / 10^9) + nanoseconds(q % 10^9)` (`reassembled_is_the_quotient`:
that sum is `q` again — both parts carry the sign of `q`, `|q / 10^9|` is at most the total's seconds, so neither constructor
nor the addition can leave chrono's range).

* `avg_of_intervals` — GENERAL: for a group whose non-NULL argument values are the intervals `ns` (total nanoseconds each,
  any signs, any magnitudes inside chrono's range; partial sums inside the range, else the code reports an error) the AVG
  cell is `Int.tdiv (Σ ns) n`.
* `avg_interval_quotient_characterised` — what "truncated towards zero" means without naming `tdiv`: the cell `q` satisfies
  `n·q + r = Σ ns` with `|r| < n` and `r` of the sign of the total (so `|q| = ⌊|Σ ns| / n⌋`).
* `engine_avg_of_intervals` — the engine's running fold (`update_aggregate` per row) shows that cell.
* `d74_*` — regression witnesses, kernel-evaluated, and `chronoDivBeforeRepair`: a transcription of chrono 0.4.39
  `TimeDelta::checked_div` used ONLY to state what the program used to print on the two witnesses.
-/
namespace Sqlgrep.Props.C04Avg
open Sqlgrep Sqlgrep.Value Sqlgrep.Spec.Agg

theorem tmod_nonpos {a : Int} (b : Int) (h : a ≤ 0) : a.tmod b ≤ 0 := by
  have := Int.tmod_nonneg b (show 0 ≤ -a by omega)
  rw [Int.neg_tmod] at this; omega
theorem tdiv_nonpos {a b : Int} (h : a ≤ 0) (hb : 0 ≤ b) : a.tdiv b ≤ 0 := by
  have := Int.tdiv_nonneg (show 0 ≤ -a by omega) hb
  rw [Int.neg_tdiv] at this; omega

theorem ints_interval_none (y : Int) (ys : List Value) : ints (Value.interval y :: ys) = none := by
  simp [ints, asInt, collect]
theorem reals_interval_none (y : Int) (ys : List Value) : reals (Value.interval y :: ys) = none := by
  simp [reals, asReal, collect]

/-- **AVG(INTERVAL) = tdiv (Σ ns) n.** For a group whose non-NULL argument values are the intervals `n :: ns` (signed total
nanoseconds) with every partial sum inside chrono's range (`inIv`; otherwise the running sum reports an error), the AVG cell
is the interval of `Int.tdiv (n + Σ ns) (count)` nanoseconds: the exact total divided by the count, truncated towards zero. -/
theorem avg_of_intervals (e : Expr) (vs : List Value) (n : Int) (ns : List Int)
    (h : nonNull vs = (n :: ns).map Value.interval) (hok : partialSumsOk inIv 0 (n :: ns) = true) :
    aggregate (.avg e) vs = some (.interval (Int.tdiv (intSum (n :: ns)) (n :: ns).length)) := by
  have hi : intervals (Value.interval n :: ns.map Value.interval) = some (n :: ns) := intervals_eq_some_iff.mpr rfl
  simp only [aggregate, h, avgOf, List.map_cons, ints_interval_none, reals_interval_none, hi, hok, if_true]

/-- **what the truncated quotient is** (no `tdiv` in the statement): with `S` the exact total and `c ≥ 1` the count, the
cell `q` is the unique integer with `c·q + r = S`, `|r| < c`, and `r` zero or of the sign of `S` — i.e. `|q| = ⌊|S| / c⌋`
with the sign of `S`; never rounded away from zero, never off by one nanosecond -/
theorem avg_interval_quotient_characterised (e : Expr) (vs : List Value) (n : Int) (ns : List Int)
    (h : nonNull vs = (n :: ns).map Value.interval) (hok : partialSumsOk inIv 0 (n :: ns) = true) :
    ∃ q r : Int, aggregate (.avg e) vs = some (.interval q) ∧
      ((n :: ns).length : Int) * q + r = intSum (n :: ns) ∧ r.natAbs < (n :: ns).length ∧
      (0 ≤ intSum (n :: ns) → 0 ≤ r) ∧ (intSum (n :: ns) ≤ 0 → r ≤ 0) := by
  refine ⟨Int.tdiv (intSum (n :: ns)) (n :: ns).length, Int.tmod (intSum (n :: ns)) (n :: ns).length,
    avg_of_intervals e vs n ns h hok, Int.mul_tdiv_add_tmod _ _, ?_, ?_, ?_⟩
  · have hpos : (0 : Int) < ((n :: ns).length : Int) := by simp only [List.length_cons]; omega
    have h1 := Int.tmod_lt_of_pos (intSum (n :: ns)) hpos
    have h2 := Int.lt_tmod_of_pos (intSum (n :: ns)) hpos
    omega
  · intro h0; exact Int.tmod_nonneg _ h0
  · intro h0; exact tmod_nonpos _ h0

/-- the engine's running computation (`update_aggregate` folded over the group's rows, NULL arguments skipped) shows that
very cell -/
theorem engine_avg_of_intervals (e : Expr) (vs : List Value) (n : Int) (ns : List Int) (hvs : vs ≠ [])
    (h : nonNull vs = (n :: ns).map Value.interval) (hok : partialSumsOk inIv 0 (n :: ns) = true) :
    ∃ c, foldV (.avg e) vs {} = .ok c ∧
      shownValue (.avg e) c = .interval (Int.tdiv (intSum (n :: ns)) (n :: ns).length) := by
  obtain ⟨c, hc, hs, _⟩ := Props.C04.aggregate_fold_refines (.avg e) vs _ hvs (avg_of_intervals e vs n ns h hok) rfl
  exact ⟨c, hc, hs⟩

/-- **the repaired code's reassembly is the identity**: `seconds(q / 10^9) + nanoseconds(q % 10^9)` (Rust's `/` and `%` on
`i128` truncate towards zero) has `q` total nanoseconds again; both parts have the sign of `q` and the seconds part is no
larger in magnitude than `q`'s own seconds, so neither `TimeDelta::seconds` nor the addition can fail inside chrono's range -/
theorem reassembled_is_the_quotient (q : Int) :
    Int.tdiv q 1000000000 * 1000000000 + Int.tmod q 1000000000 = q ∧
    (Int.tdiv q 1000000000).natAbs * 1000000000 ≤ q.natAbs ∧
    (0 ≤ q → 0 ≤ Int.tdiv q 1000000000 ∧ 0 ≤ Int.tmod q 1000000000) ∧
    (q ≤ 0 → Int.tdiv q 1000000000 ≤ 0 ∧ Int.tmod q 1000000000 ≤ 0) := by
  refine ⟨Int.tdiv_mul_add_tmod q 1000000000, ?_, ?_, ?_⟩
  · rw [Int.natAbs_tdiv]; exact Nat.div_mul_le_self q.natAbs 1000000000
  · intro hq
    exact ⟨Int.tdiv_nonneg hq (by decide), Int.tmod_nonneg _ hq⟩
  · intro hq
    exact ⟨tdiv_nonpos hq (by decide), tmod_nonpos _ hq⟩

/-! ### finding D74, repaired: regression witnesses (kernel-evaluated; the typed stream of `./check C04` samples the class) -/

/-- chrono 0.4.39 `TimeDelta::checked_div(rhs : i32)` on the internal representation (`secs` = floor of the seconds,
`nanos` ∈ [0, 10^9)): seconds and nanoseconds are divided APART (each truncating), the remainder of the seconds is carried
over as truncated nanoseconds, then the pair is normalised. NOT part of the model — the repaired code does not call it;
kept to state what the program printed before the repair. -/
def chronoDivBeforeRepair (ns : Int) (rhs : Int) : Int :=
  let secs := ns / 1000000000          -- floor
  let nanos := ns % 1000000000         -- in [0, 10^9)
  let s := Int.tdiv secs rhs
  let carry := Int.tmod secs rhs
  let extra := Int.tdiv (carry * 1000000000) rhs
  let n := Int.tdiv nanos rhs + extra
  s * 1000000000 + n

/-- **D74 regression, positive sub-second total.** AVG over the intervals 1.002 s, 0, 0 is exactly 0.334 s
(334 000 000 ns, printed `00:00:00.334`); dividing seconds and nanoseconds apart gave 333 999 999 ns (`00:00:00.333`) -/
theorem d74_avg_interval_exact :
    aggregate (.avg (.column "d")) [.interval 1002000000, .interval 0, .interval 0] = some (.interval 334000000) ∧
    chronoDivBeforeRepair 1002000000 3 = 333999999 :=
  ⟨by decide +kernel, by decide +kernel⟩

/-- **D74 regression, negative total.** AVG over −2 ms, 0, 0 is −666 666 ns (truncated towards zero); the old division gave
−666 667 ns. NULL arguments do not count: with a NULL row in between the cell is the same. -/
theorem d74_avg_negative_interval :
    aggregate (.avg (.column "d")) [.interval (-2000000), .interval 0, .interval 0] = some (.interval (-666666)) ∧
    aggregate (.avg (.column "d")) [.interval (-2000000), .null, .interval 0, .interval 0] = some (.interval (-666666)) ∧
    chronoDivBeforeRepair (-2000000) 3 = -666667 :=
  ⟨by decide +kernel, by decide +kernel, by decide +kernel⟩

/-- **beyond 64-bit nanoseconds.** Two intervals of 200 years and −50 years sum to 150 years ≈ 4.7·10^18 ns … and three of
200 years to 1.9·10^19 ns > 2^63: the total is formed exactly (the code: `i128`) and the average is 200 years again -/
theorem d74_avg_beyond_i64_nanoseconds :
    (2 : Int) ^ 63 < 3 * 6311520000000000000 ∧
    aggregate (.avg (.column "d")) [.interval 6311520000000000000, .interval 6311520000000000000, .interval 6311520000000000001] =
      some (.interval 6311520000000000000) :=
  ⟨by decide +kernel, by decide +kernel⟩

/-- the engine shows exactly the witness cell: three `update_aggregate` steps over 1.002 s, 0, 0 end with 0.334 s -/
theorem d74_engine :
    ∃ c, foldV (.avg (.column "d")) [.interval 1002000000, .interval 0, .interval 0] {} = .ok c ∧
      shownValue (.avg (.column "d")) c = .interval 334000000 := by
  obtain ⟨c, hc, hs, _⟩ := Props.C04.aggregate_fold_refines (.avg (.column "d"))
    [.interval 1002000000, .interval 0, .interval 0] (.interval 334000000) (by decide) d74_avg_interval_exact.1 rfl
  exact ⟨c, hc, hs⟩

/-- the hypotheses of `avg_of_intervals` hold on the witness (with a NULL row) and the general statement gives its cell -/
example : aggregate (.avg (.column "d")) [.interval 1002000000, .null, .interval 0, .interval 0] = some (.interval 334000000) :=
  avg_of_intervals _ _ 1002000000 [0, 0] rfl (by decide)

end Sqlgrep.Props.C04Avg
