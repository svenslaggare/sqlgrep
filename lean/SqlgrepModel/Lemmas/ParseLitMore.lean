import SqlgrepModel.Lemmas.ParseLit
/-
Characterisations of the remaining literal parsers of `Model/ParseLit.lean`: BOOLEAN, month names, `str::split(":")`
and INTERVAL — "what exactly is accepted", independent of the branch structure of the definitions.
-/
namespace Sqlgrep.Lit

theorem parseBool_iff (s : Text) (b : Bool) :
    parseBool s = some b ↔ (b = true ∧ s = [116, 114, 117, 101]) ∨ (b = false ∧ s = [102, 97, 108, 115, 101]) := by
  unfold parseBool
  by_cases h1 : s = [116, 114, 117, 101]
  · subst h1; cases b <;> simp
  · by_cases h2 : s = [102, 97, 108, 115, 101]
    · subst h2; cases b <;> simp
    · simp [h1, h2]

theorem splitColon_ne_nil : ∀ s : Text, splitColon s ≠ []
  | [] => by simp [splitColon]
  | b :: rest => by
    unfold splitColon
    split
    · simp
    · split <;> simp

theorem splitColon_spec : ∀ s : Text,
    (∀ p ∈ splitColon s, (58 : Nat) ∉ p) ∧ List.intercalate [58] (splitColon s) = s
  | [] => by simp [splitColon, List.intercalate]
  | b :: rest => by
    have ih := splitColon_spec rest
    unfold splitColon
    by_cases hb : (b == 58) = true
    · have hb' : b = 58 := by simpa using hb
      simp only [hb, if_true]
      refine ⟨?_, ?_⟩
      · intro p hp
        rcases List.mem_cons.1 hp with rfl | hp
        · simp
        · exact ih.1 p hp
      · cases hs : splitColon rest with
        | nil => exact absurd hs (splitColon_ne_nil rest)
        | cons q qs =>
          have := ih.2
          rw [hs] at this
          subst hb'
          simp [List.intercalate, List.intersperse] at this ⊢
          exact this
    · have hb' : b ≠ 58 := by simpa using hb
      simp only [hb]
      cases hs : splitColon rest with
      | nil => exact absurd hs (splitColon_ne_nil rest)
      | cons q qs =>
        have h1 := ih.1
        have h2 := ih.2
        rw [hs] at h1 h2
        refine ⟨?_, ?_⟩
        · intro p hp
          simp only [Bool.false_eq_true, if_false] at hp
          rcases List.mem_cons.1 hp with rfl | hp
          · intro hm
            rcases List.mem_cons.1 hm with h | h
            · exact hb' h.symm
            · exact h1 q List.mem_cons_self h
          · exact h1 p (List.mem_cons_of_mem _ hp)
        · simp only [Bool.false_eq_true, if_false]
          cases qs with
          | nil => simpa [List.intercalate, List.intersperse] using h2
          | cons r rs =>
            simp [List.intercalate, List.intersperse] at h2 ⊢
            exact h2

/-- a colon-free text in front joins the first piece -/
theorem splitColon_prepend (a : Text) (ha : (58 : Nat) ∉ a) {t q : Text} {qs : List Text} (ht : splitColon t = q :: qs) :
    splitColon (a ++ t) = (a ++ q) :: qs := by
  induction a with
  | nil => exact ht
  | cons x xs ih =>
    have hb : (x == 58) = false := by simpa using fun h : x = 58 => ha (by simp [h])
    rw [List.cons_append, splitColon, hb, ih fun h => ha (List.mem_cons_of_mem _ h)]
    rfl

theorem splitColon_append (a : Text) (ha : (58 : Nat) ∉ a) (rest : Text) :
    splitColon (a ++ 58 :: rest) = a :: splitColon rest := by
  rw [splitColon_prepend a ha (t := 58 :: rest) (by rw [splitColon]; rfl), List.append_nil]

theorem splitColon_nocolon (a : Text) (ha : (58 : Nat) ∉ a) : splitColon a = [a] := by
  simpa using splitColon_prepend a ha (t := []) rfl

theorem splitColon_three (s a b c : Text) :
    splitColon s = [a, b, c] ↔
      s = a ++ 58 :: (b ++ 58 :: c) ∧ (58 : Nat) ∉ a ∧ (58 : Nat) ∉ b ∧ (58 : Nat) ∉ c := by
  constructor
  · intro h
    have hs := splitColon_spec s
    rw [h] at hs
    refine ⟨?_, hs.1 a (by simp), hs.1 b (by simp), hs.1 c (by simp)⟩
    have := hs.2
    simp [List.intercalate, List.intersperse] at this
    rw [← this]
  · rintro ⟨rfl, ha, hb, hc⟩
    rw [splitColon_append a ha, splitColon_append b hb, splitColon_nocolon c hc]

/-- **INTERVAL literals**: exactly the texts `h:m:s` of three 64-bit integer literals whose parts and partial sums stay
within chrono's `TimeDelta` range; the value is the exact number of nanoseconds -/
theorem parseInterval_iff (s : Text) (v : Value) :
    parseInterval s = some v ↔
      ∃ a b c h m sec, s = a ++ 58 :: (b ++ 58 :: c) ∧ (58 : Nat) ∉ a ∧ (58 : Nat) ∉ b ∧ (58 : Nat) ∉ c ∧
        parseI64 a = some h ∧ parseI64 b = some m ∧ parseI64 c = some sec ∧
        deltaOk (h * 3600) = true ∧ deltaOk (m * 60) = true ∧ deltaOk (h * 3600 + m * 60) = true ∧ deltaOk sec = true ∧
        deltaOk (h * 3600 + m * 60 + sec) = true ∧
        v = .interval ((h * 3600 + m * 60 + sec) * 1000000000) := by
  constructor
  · intro hp
    unfold parseInterval at hp
    split at hp
    · rename_i a b c hsplit
      split at hp
      · rename_i h m sec ha hb hc
        split at hp
        · rename_i hok
          simp only [Bool.and_eq_true] at hok
          obtain ⟨⟨⟨⟨o1, o2⟩, o3⟩, o4⟩, o5⟩ := hok
          have := (splitColon_three s a b c).1 hsplit
          cases hp
          exact ⟨a, b, c, h, m, sec, this.1, this.2.1, this.2.2.1, this.2.2.2, ha, hb, hc, o1, o2, o3, o4, o5, rfl⟩
        · cases hp
      · cases hp
    · cases hp
  · rintro ⟨a, b, c, h, m, sec, hs, ha, hb, hc, pa, pb, pc, o1, o2, o3, o4, o5, rfl⟩
    have hsplit := (splitColon_three s a b c).2 ⟨hs, ha, hb, hc⟩
    unfold parseInterval
    rw [hsplit]
    simp [pa, pb, pc, o1, o2, o3, o4, o5]

theorem lookup_eq_some_of_nodup {α β : Type} [BEq α] [LawfulBEq α] :
    ∀ (l : List (α × β)) (k : α) (v : β), (l.map (·.1)).Nodup → (l.lookup k = some v ↔ (k, v) ∈ l)
  | [], k, v, _ => by simp
  | (k', v') :: l, k, v, hn => by
    simp only [List.map_cons, List.nodup_cons] at hn
    by_cases hk : k = k'
    · subst hk
      simp only [List.lookup_cons_self, Option.some.injEq, List.mem_cons, Prod.mk.injEq, true_and]
      constructor
      · intro h; exact .inl h.symm
      · rintro (h | h)
        · exact h.symm
        · exact absurd (List.mem_map.2 ⟨(k, v), h, rfl⟩) hn.1
    · have : (k == k') = false := by simpa using hk
      rw [List.lookup_cons, this]
      rw [lookup_eq_some_of_nodup l k v hn.2]
      simp [hk]

theorem monthTable_keys_nodup : (monthTable.map (·.1)).Nodup := by decide

/-- a text is a month name exactly when it is ASCII and its lower case is one of the fifteen spellings of the table -/
theorem monthOfName_iff (s : Text) (m : Nat) :
    monthOfName s = some m ↔ isAscii s = true ∧ (asciiLower s, m) ∈ monthTable := by
  unfold monthOfName
  by_cases ha : isAscii s = true
  · simp only [ha, if_true, true_and]
    exact lookup_eq_some_of_nodup monthTable _ _ monthTable_keys_nodup
  · simp [ha]

theorem monthTable_range : ∀ p ∈ monthTable, 1 ≤ p.2 ∧ p.2 ≤ 12 := by decide

end Sqlgrep.Lit
