import SqlgrepModel.Lemmas.ParseBind
/-
Termination half of C14: every loop turn and every recursive descent of the parser consumes a token or returns, so
the fuel `3·|tokens|+3` is never exhausted.

`PRes.Adv r n` : `r` is not the out-of-fuel answer and, when it is `ok _ s'`, fewer than `n` tokens remain in `s'`;
`PRes.Keep r n` : the same with "at most `n`", i.e. `r.Adv (n + 1)`.
A function body in `bind` form (`Lemmas/ParseBind.lean`) is walked once: `Adv.bind` is the sequence rule, every
primitive consumes one token (`next_adv` …), and what is left at each leaf and each call is linear arithmetic over
the numbers of remaining tokens. The six mutually recursive functions of the expression parser
(`Model/ParseExpr.lean`) are treated together (`FuelIH`), by induction on the fuel.
-/
namespace Sqlgrep

def PRes.Adv {α : Type} (r : PRes α) (n : Nat) : Prop := r ≠ .fuel ∧ ∀ a s', r = .ok a s' → s'.remaining < n
def PRes.Keep {α : Type} (r : PRes α) (n : Nat) : Prop := r ≠ .fuel ∧ ∀ a s', r = .ok a s' → s'.remaining ≤ n

namespace Parse
variable {α β : Type}

theorem rem_pos (s : PSt) : 1 ≤ s.remaining := by simp [PSt.remaining]

theorem mkErr_nofuel {α : Type} (s : PSt) (k : PErrKind) : (mkErr s k : PRes α) ≠ .fuel := by simp [mkErr]
theorem mkErr_notok {α : Type} (s : PSt) (k : PErrKind) (a : α) (s' : PSt) : (mkErr s k : PRes α) ≠ .ok a s' := by simp [mkErr]

theorem adv_err {α : Type} (e : PErr) (s : PSt) (n : Nat) : (PRes.err e s : PRes α).Adv n := by simp [PRes.Adv]
theorem adv_mkErr {α : Type} (s : PSt) (k : PErrKind) (n : Nat) : (mkErr s k : PRes α).Adv n := by simp [PRes.Adv, mkErr]
theorem keep_mkErr {α : Type} (s : PSt) (k : PErrKind) (n : Nat) : (mkErr s k : PRes α).Keep n := by simp [PRes.Keep, mkErr]
theorem adv_ok {α : Type} {a : α} {s : PSt} {n : Nat} (h : s.remaining < n) : (PRes.ok a s).Adv n := by
  simp [PRes.Adv]; omega
theorem keep_ok {α : Type} {a : α} {s : PSt} {n : Nat} (h : s.remaining ≤ n) : (PRes.ok a s).Keep n := by
  simp [PRes.Keep]; omega

theorem adv_succ {x : PRes α} {n : Nat} : x.Adv (n + 1) ↔ x.Keep n := by
  simp only [PRes.Adv, PRes.Keep, Nat.lt_succ_iff]

end Parse

theorem PRes.Adv.mono {α : Type} {x : PRes α} {m n : Nat} (hx : x.Adv m) (h : m ≤ n) : x.Adv n :=
  ⟨hx.1, fun a s' e => Nat.lt_of_lt_of_le (hx.2 a s' e) h⟩

theorem PRes.Adv.bind {α β : Type} {x : PRes α} {f : α → PSt → PRes β} {m n : Nat} (hx : x.Adv m)
    (hf : ∀ a s, s.remaining < m → (f a s).Adv n) : (x.bind f).Adv n := by
  cases x with
  | ok a s => exact hf a s (hx.2 a s rfl)
  | err e s => exact Parse.adv_err e s n
  | fuel => exact absurd rfl hx.1

theorem PRes.Adv.ite {α : Type} {c : Prop} [Decidable c] {x y : PRes α} {n : Nat} (hx : x.Adv n) (hy : y.Adv n) :
    (if c then x else y).Adv n := by
  split <;> assumption

/-- the one place where the parser looks at the state a failed sub-parse left behind (`( expr`) -/
theorem PRes.Adv.inspect {β : Type} {x : PRes PExpr} {fok : PExpr → PSt → PRes β} {ferr : PErr → PSt → PRes β}
    {m n : Nat} (hx : x.Adv m) (hok : ∀ a s, s.remaining < m → (fok a s).Adv n) (herr : ∀ e s, (ferr e s).Adv n) :
    (Parse.parsePrimary.match_1 (fun _ => PRes β) x (fun _ => .fuel) ferr fok).Adv n := by
  cases x with
  | ok a s => exact hok a s (hx.2 a s rfl)
  | err e s => exact herr e s
  | fuel => exact absurd rfl hx.1

namespace Parse

theorem next_adv (s : PSt) : (next s).Adv s.remaining := by
  unfold next
  split
  · exact adv_mkErr _ _ _
  · rename_i heq; exact adv_ok (by simp [PSt.remaining, heq])

theorem expectConsume_adv (t k) (s : PSt) : (expectConsume t k s).Adv s.remaining := by
  unfold expectConsume
  split
  · exact next_adv s
  · exact adv_mkErr _ _ _

theorem expectConsumeOp_adv (o) (s : PSt) : (expectConsumeOp o s).Adv s.remaining := expectConsume_adv _ _ s

theorem expectConsumeOp_nofuel (o) (s : PSt) : expectConsumeOp o s ≠ .fuel := (expectConsumeOp_adv o s).1

theorem consumeIdentifier_adv (s : PSt) : (consumeIdentifier s).Adv s.remaining := by
  unfold consumeIdentifier
  split
  · exact (next_adv s).bind fun _ _ h => adv_ok h
  · exact adv_mkErr _ _ _

theorem consumeString_adv (s : PSt) : (consumeString s).Adv s.remaining := by
  unfold consumeString
  split
  · exact (next_adv s).bind fun _ _ h => adv_ok h
  · exact adv_mkErr _ _ _

theorem consumeInt_adv (s : PSt) : (consumeInt s).Adv s.remaining := by
  unfold consumeInt
  split
  · exact (next_adv s).bind fun _ _ h => adv_ok h
  · exact adv_mkErr _ _ _

theorem tokenPrecedence_ok {T} {s : PSt} {a s'} (h : tokenPrecedence T s = .ok a s') : s' = s := by
  unfold tokenPrecedence mkErr at h
  split at h
  · split at h <;> simp_all
  · simp_all

theorem tokenPrecedence_keep (T) (s : PSt) : (tokenPrecedence T s).Keep s.remaining := by
  unfold tokenPrecedence
  split
  · split
    · exact keep_ok (Nat.le_refl _)
    · exact keep_mkErr _ _ _
  · exact keep_ok (Nat.le_refl _)

theorem optNext_keep (c : Prop) [Decidable c] (s : PSt) : (if c then next s else .ok () s).Keep s.remaining := by
  split
  · exact adv_succ.1 ((next_adv s).mono (Nat.le_succ _))
  · exact keep_ok (Nat.le_refl _)

/-- `adv_walk f [advs] [keeps]` unfolds `f`, brings its body into `bind` form and walks it, one rule per node: a `bind`
by the sequence rule (its continuation by `intro`), a call by its specification (of a primitive, one of `advs`, or one
of `keeps` read as `Adv` of the successor; as it stands where the call is the first part of a `bind`, weakened by
`Adv.mono` in tail position), a leaf by the rule for `ok`/`err`/`mkErr`, an `if` by `Adv.ite`, a `match` on tokens by
`split`; the arithmetic a rule leaves is `omega`'s. The rules are tried by `apply` at reducible transparency, so that
one which does not fit the node fails at once. -/
macro "adv_walk " f:ident " [" advs:term,* "]" " [" keeps:term,* "]" : tactic => `(tactic| (
  rw [$f:ident]
  simp only [parse_bind]
  repeat' first
  | with_reducible first
    | intro _ _ _
    | apply PRes.Adv.bind
    | apply next_adv
    | apply expectConsume_adv
    | (apply adv_ok; omega)
    | apply adv_err
    | apply adv_mkErr
    | apply consumeIdentifier_adv
    | apply expectConsumeOp_adv
    | apply consumeInt_adv
    | apply consumeString_adv
    $[| (apply $advs <;> omega)]*
    $[| (apply adv_succ.2 $keeps <;> omega)]*
    $[| (apply PRes.Adv.mono $advs <;> omega)]*
    $[| (apply PRes.Adv.mono (adv_succ.2 $keeps) <;> omega)]*
    | apply PRes.Adv.ite
    | apply PRes.Adv.inspect
    | intro _ _
  | split))

/-- How much fuel is enough, function by function. A token costs at most 3 units: the chain `parseExpr` → `parseUnary` →
`parsePrimary` that ends in consuming it, each call one unit further down (`fuel`, `fuel + 1`, `fuel + 2`). `parseRhs` is entered behind a consumed token of whose 3 units the caller spent
one: a turn spends 1 and reads an operand (`+ 2`; it need not advance: `Keep`). `parseList` spends 1 per element (`+ 1`). -/
structure FuelIH (T : PrecTables) (fuel : Nat) : Prop where
  e : ∀ s, 3 * s.remaining ≤ fuel → (parseExpr T fuel s).Adv s.remaining
  r : ∀ prec lhs s, 3 * s.remaining + 2 ≤ fuel → (parseRhs T fuel prec lhs s).Keep s.remaining
  u : ∀ s, 3 * s.remaining ≤ fuel + 1 → (parseUnary T fuel s).Adv s.remaining
  p : ∀ s, 3 * s.remaining ≤ fuel + 2 → (parsePrimary T fuel s).Adv s.remaining
  c : ∀ loc cl s, 3 * s.remaining ≤ fuel + 1 → (parseCase T fuel loc cl s).Adv s.remaining
  l : ∀ close acc s, 3 * s.remaining + 1 ≤ fuel → (parseList T fuel close acc s).Adv s.remaining

section
variable {T : PrecTables} {fuel : Nat} (ih : FuelIH T fuel)
include ih

theorem step_expr (s) (hb : 3 * s.remaining ≤ fuel + 1) : (parseExpr T (fuel + 1) s).Adv s.remaining := by
  adv_walk parseExpr [ih.u _ _] [ih.r _ _ _ _]

theorem step_rhs (prec lhs s) (hb : 3 * s.remaining + 2 ≤ fuel + 1) :
    (parseRhs T (fuel + 1) prec lhs s).Keep s.remaining := by
  rw [← adv_succ]
  adv_walk parseRhs [ih.e _ _, ih.u _ _, ih.l _ _ _ _] [tokenPrecedence_keep _ _, ih.r _ _ _ _]

theorem step_unary (s) (hb : 3 * s.remaining ≤ fuel + 1 + 1) : (parseUnary T (fuel + 1) s).Adv s.remaining := by
  adv_walk parseUnary [ih.u _ _, ih.p _ _] [ih.r _ _ _ _]

theorem step_primary (s) (hb : 3 * s.remaining ≤ fuel + 1 + 2) : (parsePrimary T (fuel + 1) s).Adv s.remaining := by
  adv_walk parsePrimary [ih.e _ _, ih.c _ _ _ _, ih.l _ _ _ _] [optNext_keep _ _]

theorem step_case (loc cl s) (hb : 3 * s.remaining ≤ fuel + 1 + 1) :
    (parseCase T (fuel + 1) loc cl s).Adv s.remaining := by
  adv_walk parseCase [ih.e _ _, ih.c _ _ _ _] []

theorem step_list (close acc s) (hb : 3 * s.remaining + 1 ≤ fuel + 1) :
    (parseList T (fuel + 1) close acc s).Adv s.remaining := by
  adv_walk parseList [ih.e _ _, ih.l _ _ _ _] []

end

theorem fuelIH_all (T : PrecTables) : ∀ fuel, FuelIH T fuel := by
  intro fuel
  induction fuel with
  | zero =>
    constructor
    all_goals (intros; have := rem_pos ‹PSt›; omega)
  | succ n ih => exact ⟨step_expr ih, step_rhs ih, step_unary ih, step_primary ih, step_case ih, step_list ih⟩

end Parse
end Sqlgrep
