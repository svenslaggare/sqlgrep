import SqlgrepModel.Lemmas.ParseFast
import SqlgrepModel.Props.C14
import SqlgrepModel.Props.C14Lex
/-
C14 — the sentence for the function a user calls: `parsing::parse(text)` = tokenizer, then parser, then lowering
(`Pipeline.parseText`, the first stage of the end-to-end model `Pipeline.runText` that the `e2e` driver executes).
The stage theorems (`Props/C14Lex.lean`: tokenizer; `Props/C14.lean`: parser and lowering) are composed here:

**for every text, `parseText` ends with a statement or with an error whose location lies inside the text, and an excerpt
of the text near that location can be produced; it never panics and never runs out of fuel** (`parseText_total`, with no
hypothesis on the shipped facts: a number text the case ships no `f64::from_str` fact for is converted by
`DecFloat.parseF64`, so the model's `missing` answer cannot occur).
-/
namespace Sqlgrep.Props.C14Text
open Sqlgrep Sqlgrep.Lex Sqlgrep.Parse Sqlgrep.Pipeline

/-- **C14, headline, a statement about the MODEL: for every text — any characters, any length, whatever number facts the
case ships — the model's `parseText` answers a statement or an error located inside the text.** No hypothesis on the
oracles: the tokenizer never answers `missing` (`C14Lex.tokenize_total_no_oracle`), so neither does `parseText`.

What this does and does not say about the program. The model's recursion is fuelled (`C14.parse_never_out_of_fuel`: the fuel
`Parser::parse` is modelled with, linear in the number of tokens, suffices for every token vector, so `.fuel` is excluded
without any depth or length bound *in the model*). The real program recurses on its MACHINE STACK — in the
recursive-descent parser (once per bracket level), in the lowering of the tree, in the evaluator and in `Drop` (once per
level of the TREE) — and the machine stack is outside the model. Two consequences, neither of which this theorem covers:
* FLAT operator chains (`1 + 1 + … + 1`, `a AND a AND …`, `- - - … 1`, `NOT NOT … true`, `x::int::int…`, `a[1][1]…`) have
  no bracket at all but a tree as deep as they are long: the real program aborts on them from a few hundred (debug build)
  or about ten thousand (release build) terms on. That is **finding D75** (open, `known_findings.json`), inside the
  property's "any length"; the C14 and C09 checks exhibit it in child processes and report it as a known finding.
  List-shaped long inputs (IN lists, array literals, arguments, projections, keys, columns, statements) are handled by
  loops and are parsed at any length (`harness/src/c14.rs` `long_flat`).
* BRACKET nesting (note D42: twenty thousand nested parentheses overflow the same stack) is bounded by the property
  sentence itself ("bracket nesting up to a documented depth bound"); the documented bound is 200 levels, exercised by the
  C14 check. It is not a finding. -/
theorem parseText_total (lo : Lex.Oracles) (rv : List Char → Bool) (text : List Char) :
    (∃ s, parseText lo rv text = .stmt s) ∨
    (∃ loc e, parseText lo rv text = .lexError loc e ∧ Inside text loc) ∨
    (∃ e, parseText lo rv text = .parseError e ∧ Inside text e.loc) ∨
    (∃ e, parseText lo rv text = .convertError e ∧ Inside text e.loc) := by
  unfold parseText
  rcases C14Lex.tokenize_total_no_oracle lo text with ⟨ts, init, l, ht, he, hin⟩ | ⟨loc, e, ht, hloc⟩
  · have hloc : ∀ l, l ∈ ts.map (·.loc) → Inside text l := by
      intro l hl
      obtain ⟨p, hp, rfl⟩ := List.mem_map.1 hl
      exact hin p hp
    rw [ht]
    simp only [parseToks]
    rcases C14.parse_and_lower_total PrecTables.code rv ts (by rw [he]; simp) with ⟨e, he⟩ | ⟨t, htree, hl⟩
    · rw [he]
      exact .inr (.inr (.inl ⟨e, rfl, hloc _ (C14.error_location_is_a_token_location _ ts e he)⟩))
    · rw [htree]
      simp only [lowerTree]
      rcases hl with ⟨s, hs⟩ | ⟨e, he⟩
      · rw [hs]; exact .inl ⟨s, rfl⟩
      · rw [he]
        exact .inr (.inr (.inr ⟨e, rfl, hloc _ (C14.conversion_error_location_is_a_token_location _ rv ts t e htree he)⟩))
  · rw [ht]
    exact .inr (.inl ⟨loc, e, rfl, hloc⟩)

/-- never a panic, never out of fuel -/
theorem parseText_never_panics (lo : Lex.Oracles) (rv : List Char → Bool) (text : List Char) :
    (∀ site, parseText lo rv text ≠ .panic site) ∧ parseText lo rv text ≠ .fuel := by
  rcases parseText_total lo rv text with ⟨s, h⟩ | ⟨l, e, h, _⟩ | ⟨e, h, _⟩ | ⟨e, h, _⟩ <;>
    rw [h] <;> exact ⟨fun _ hh => Parsed.noConfusion hh, fun hh => Parsed.noConfusion hh⟩

/-- … and for every located error the `near …` excerpt exists (`extract_near` never panics, whatever the location) -/
theorem parseText_error_excerpt (lo : Lex.Oracles) (text : List Char) (loc : Loc) :
    ∃ s, extractNear lo loc text = .text s := C14Lex.extract_near_total lo loc text

/-! ### non-vacuity: each kind of answer occurs -/

example : (match parseText Tables.asciiOnly (fun _ => true) "SELECT x FROM t".toList with
  | .stmt _ => true | _ => false) = true := by
  generalize h : parseText _ _ _ = p; rw [String.toList_ofList, parseText_eq_K] at h; subst h; decide +kernel
example : (match parseText Tables.asciiOnly (fun _ => true) "SELECT 1.2.3".toList with
  | .lexError ⟨0, 10⟩ .alreadyHasDot => true | _ => false) = true := by
  generalize h : parseText _ _ _ = p; rw [String.toList_ofList, parseText_eq_K] at h; subst h; decide +kernel
example : (match parseText Tables.asciiOnly (fun _ => true) "SELECT FROM".toList with
  | .parseError _ => true | _ => false) = true := by
  generalize h : parseText _ _ _ = p; rw [String.toList_ofList, parseText_eq_K] at h; subst h; decide +kernel
example : (match parseText Tables.asciiOnly (fun _ => true) "SELECT nosuchfunction(x) FROM t".toList with
  | .convertError _ => true | _ => false) = true := by
  generalize h : parseText _ _ _ = p; rw [String.toList_ofList, parseText_eq_K] at h; subst h; decide +kernel

/-- the rejections the sentence names, on whole texts (instances of `C14.wrong_aggregate_arity_projection_is_error`,
`C14.lower_invalid_pattern_is_error` — here with `Regex::new` rejecting exactly the pattern `(` —, the empty JSON path and
`C14Lex.int_out_of_range_is_error`): each is an error, none a statement. (In all these examples the kernel is handed the
character list by `String.toList_ofList` — it takes the characters of a string literal in quadratic time — and the tokenizer
with written-out word tables by `parseText_eq_K`, in the call taken out of its `match`, which the kernel compares by
evaluating both sides.) -/
example : (match parseText Tables.asciiOnly (fun _ => true) "SELECT string_agg(x) FROM t".toList with
  | .convertError _ => true | _ => false) = true := by
  generalize h : parseText _ _ _ = p; rw [String.toList_ofList, parseText_eq_K] at h; subst h; decide +kernel
example : (match parseText Tables.asciiOnly (fun _ => true) "SELECT percentile(x) FROM t".toList with
  | .convertError _ => true | _ => false) = true := by
  generalize h : parseText _ _ _ = p; rw [String.toList_ofList, parseText_eq_K] at h; subst h; decide +kernel
example : (match parseText Tables.asciiOnly (fun p => p != "(".toList) "CREATE TABLE t(line = '(', line[1] => x INT);".toList with
  | .convertError e => e.kind == .invalidPattern | _ => false) = true := by
  generalize h : parseText _ _ _ = p; rw [String.toList_ofList, String.toList_ofList, parseText_eq_K] at h; subst h; decide +kernel
example : (match parseText Tables.asciiOnly (fun p => p != "(".toList) "CREATE TABLE t(line = '(a)', line[1] => x INT);".toList with
  | .stmt _ => true | _ => false) = true := by
  generalize h : parseText _ _ _ = p; rw [String.toList_ofList, String.toList_ofList, parseText_eq_K] at h; subst h; decide +kernel
example : (match parseText Tables.asciiOnly (fun _ => true) "CREATE TABLE t({ } => x INT);".toList with
  | .stmt _ => false | _ => true) = true := by
  generalize h : parseText _ _ _ = p; rw [String.toList_ofList, parseText_eq_K] at h; subst h; decide +kernel
example : (match parseText Tables.asciiOnly (fun _ => true) "SELECT 9223372036854775808 FROM t".toList with
  | .lexError _ .intConvert => true | _ => false) = true := by
  generalize h : parseText _ _ _ = p; rw [String.toList_ofList, parseText_eq_K] at h; subst h; decide +kernel

end Sqlgrep.Props.C14Text
