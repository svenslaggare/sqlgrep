import SqlgrepModel.Props.C03
import SqlgrepModel.Lemmas.ValueOrder
/-
C03 (expression level, third file; audited with the other `Props/C03*.lean` by `./check C03`) —

* **NOT IN at full strength** (audit item M15). `Props/C03.lean` states `x NOT IN (…)` for literal members that `=`
  compares as they are (`notin_is_and_of_ne`, `notin_is_and_chain`); `IN` has the full statement (`in_is_or_of_eq`:
  arbitrary member expressions, values and errors). Here NOT IN gets the same: for ARBITRARY operand and member
  expressions (TEXT↔TIMESTAMP coercion, members of other types, members without a value, NULLs anywhere)
  - `notin_is_in_negated_unless_null`: NOT IN walks the members exactly as IN does — it has an error exactly when IN
    has one, the SAME error —; it is FALSE when IN is TRUE; when IN is FALSE it is TRUE unless NULL is involved (the
    operand or some member is NULL), in which case it is FALSE. With `C03.in_is_or_of_eq` this fixes every outcome;
  - `notin_is_and_chain_full`: against the sentence's `x != v1 AND x != v2` (the evaluator's own `!=` and its own
    two-valued, short-circuiting AND): NOT IN is that AND-chain — same value, same error — EXCEPT that an AND-chain
    that is FALSE stops at the member that made it FALSE (a NULL, or an equal member), while NOT IN stops only at an
    equal member: after a NULL operand / member it still evaluates (and, for a non-NULL operand, compares) the
    remaining members, so an error there surfaces although the conjunction is already FALSE. Never the other way round:
    `notin_value_is_and_chain_value` (whenever NOT IN has a value, it is the AND-chain's value) and
    `notin_true_iff_and_chain_true`.
    `5 NOT IN (NULL, 'a')` is the witness: a type error, where `5 != NULL AND 5 != 'a'` is FALSE (the sentence does
    not say whether that error surfaces; the C03 oracle abstains there — DESIGN.md §0, false alarm (1)).
  - `notin_empty`: the empty list (not produced by the parser — `parse_list` wants a first member —, only by a tree
    built through the API): `x NOT IN ()` is TRUE unless `x` is NULL, `x IN ()` is FALSE.

* **`e IS v` / `e IS NOT v` for a right-hand side that is not the literal NULL** (audit item L16). The parser accepts
  any expression after IS / IS NOT (`parse_binary_operator_rhs`, precedence 4); the evaluator compares the two VALUES
  with `Value`'s derived `==` (`NullableCompare`): `is_value_meaning`. That is equality of the derived total order
  (`is_is_order_equality`): same variant and same payload — so `1 IS 1.0` is FALSE although `1 = 1.0` is TRUE, `1 IS 'a'`
  is FALSE where `=` is a type error, NULL IS NULL is TRUE, `0.0 IS -0.0` is TRUE; never an error of its own
  (`is_value_never_fails`), never NULL. The sentence speaks about IS NULL / IS NOT NULL only (`C03.is_null_test`); on
  a non-NULL right-hand side the model mirrors the code and the correspondence check compares them
  (`oracle-abstains:is-value`).
-/
namespace Sqlgrep.Props.C03In
open Sqlgrep Sqlgrep.Props.C03

variable (O : Oracles) (env : Env)

/-- the member expression evaluates to NULL -/
def isNullMember (m : Expr) : Bool :=
  match eval O env m with
  | .ok v => v.isNull
  | _ => false

/-- some member expression evaluates to NULL -/
def anyNullMember (ms : List Expr) : Bool := ms.any (isNullMember O env)

/-- what NOT IN makes of the value of IN over the same operand and members: the negation, except that FALSE stays
FALSE when NULL is involved -/
def notInOfIn (nullInvolved : Bool) : Value → Value
  | .bool true => .bool false
  | _ => .bool (!nullInvolved)

theorem isNullMember_of_verdict (v : Value) (m : Expr) (w : Verdict) (h : memberVerdict O env v m = .ok w) :
    isNullMember O env m = (match w with | .null => true | _ => false) := by
  obtain ⟨x, hm, h⟩ := Outcome.bind_eq_ok h
  rw [isNullMember, hm]
  split at h
  · cases h; assumption
  · have hx : x.isNull = false := Bool.eq_false_iff.2 ‹_›
    split at h
    · cases h; exact hx
    · obtain ⟨p, _, h⟩ := Outcome.bind_eq_ok h
      split at h <;> cases h <;> exact hx

/-- the two walks over the members differ in what they answer only: same members evaluated, same comparisons, same
stopping point (the first member equal to the operand) -/
theorem evalIn_not_of_in (v : Value) : ∀ (ms : List Expr) (a a' : Bool),
    evalIn O env true v a ms =
      (evalIn O env false v a' ms).bind (fun r => .ok (notInOfIn (a || anyNullMember O env ms) r)) := by
  intro ms
  induction ms with
  | nil => intro a a'; simp [evalIn, notInOfIn, anyNullMember, Outcome.bind]
  | cons m ms ih =>
    intro a a'
    rw [evalIn_cons, evalIn_cons, Outcome.bind_assoc]
    refine Outcome.bind_congr fun w hw => ?_
    have hnm : anyNullMember O env (m :: ms) = (isNullMember O env m || anyNullMember O env ms) := List.any_cons
    rw [hnm, isNullMember_of_verdict O env v m w hw]
    cases w
    · rfl
    · rw [Bool.false_or]; exact ih a a'
    · rw [Bool.true_or, Bool.or_true, ← Bool.true_or (anyNullMember O env ms)]; exact ih true true

/-- NULL is involved in `e [NOT] IN (ms)`: the operand or some member evaluates to NULL -/
def nullInvolved (e : Expr) (ms : List Expr) : Bool := isNullMember O env e || anyNullMember O env ms

/-- **`x NOT IN (m1, …, mn)` is `x IN (m1, …, mn)` negated, unless NULL is involved** — for arbitrary operand and
member expressions. NOT IN evaluates and compares exactly what IN does (each member like `=`: timestamp text is parsed,
a member of another type is a type error), so it has an error — the same one — exactly when IN has one
(`C03.in_is_or_of_eq` says which: that of the OR-chain of `=`); it is FALSE when IN is TRUE; when IN is FALSE it is TRUE
if neither the operand nor any member is NULL, and FALSE otherwise. -/
theorem notin_is_in_negated_unless_null (e : Expr) (ms : List Expr) :
    eval O env (.inList true e ms) =
      (eval O env (.inList false e ms)).bind (fun r => .ok (notInOfIn (nullInvolved O env e ms) r)) := by
  rw [eval_inList, eval_inList, Outcome.bind_assoc]
  refine Outcome.bind_congr fun v he => ?_
  rw [evalIn_not_of_in O env v ms v.isNull v.isNull]
  simp only [nullInvolved, isNullMember, he]

theorem evalIn_bool (isNot : Bool) (v : Value) : ∀ (ms : List Expr) (a : Bool) (r : Value),
    evalIn O env isNot v a ms = .ok r → ∃ b, r = .bool b := by
  intro ms
  induction ms with
  | nil => intro a r h; exact ⟨_, (Outcome.ok.inj h).symm⟩
  | cons m ms ih =>
    intro a r h
    rw [evalIn_cons] at h
    obtain ⟨w, _, h⟩ := Outcome.bind_eq_ok h
    cases w
    · exact ⟨_, (Outcome.ok.inj h).symm⟩
    · exact ih _ _ h
    · exact ih _ _ h

/-- what NOT IN is, given the outcome of the AND-chain of `!=` over the same operand and members and the outcome of
IN: the chain's outcome — except that where the chain is FALSE (it stopped at the first NULL or equal member) NOT IN
went on to the first EQUAL member, as IN does, and has IN's error if IN has one -/
def notInOfChain (chain inOutcome : Outcome Value) : Outcome Value :=
  match chain with
  | .ok (.bool false) => inOutcome.bind (fun _ => .ok (.bool false))
  | o => o

theorem evalIn_false_of_true (v : Value) (ms : List Expr) :
    evalIn O env true v true ms = (evalIn O env false v true ms).bind (fun _ => .ok (.bool false)) := by
  rw [evalIn_not_of_in O env v ms true true]
  refine Outcome.bind_congr fun r hr => ?_
  obtain ⟨b, rfl⟩ := evalIn_bool O env false v ms true r hr
  cases b <;> rfl

/-- `notInOfChain` with the NULL flag the walk carries (`anyNull`: the operand or a member seen so far is NULL) -/
def notInOfChainAcc (a : Bool) (chain inOutcome : Outcome Value) : Outcome Value :=
  match chain with
  | .ok (.bool true) => .ok (.bool (!a))
  | .ok (.bool false) => inOutcome.bind (fun _ => .ok (.bool false))
  | o => o

theorem evalIn_notIn_chain (e : Expr) (v : Value) (he : eval O env e = .ok v) :
    ∀ (ms : List Expr) (a : Bool), (v.isNull = true → a = true) →
      evalIn O env true v a ms = notInOfChainAcc a (eval O env (andOfNe e ms)) (evalIn O env false v a ms) := by
  intro ms
  induction ms with
  | nil => intro a _; simp [evalIn, andOfNe, eval, notInOfChainAcc]
  | cons m ms ih =>
    intro a ha
    rw [eval_andOfNe_cons, eval_ne_member O env e m v he, evalIn_cons, evalIn_cons]
    cases memberVerdict O env v m with
    | ok w =>
      cases w with
      | hit => rfl
      -- a NULL member: `e != NULL` is FALSE, the chain stops; NOT IN goes on (the answer can only be FALSE or an error)
      | null => exact evalIn_false_of_true O env v ms
      | miss =>
        by_cases hv : v.isNull = true
        · -- a NULL operand: no comparison; `NULL != x` is FALSE
          have hat := ha hv
          subst hat
          simp only [Outcome.ok_bind, hv, Bool.not_true, condHolds_bool, Bool.false_eq_true, if_false, notInOfChainAcc]
          exact evalIn_false_of_true O env v ms
        · simp only [Outcome.ok_bind, hv, Bool.not_false, condHolds_bool, if_true]
          exact ih a ha
    | _ => rfl

/-- **`x NOT IN (m1, …, mn)` (n ≥ 1) against `x != m1 AND … AND x != mn`**, for arbitrary operand and member
expressions — the AND-chain built from the evaluator's own `!=` (FALSE on a NULL operand, timestamp text parsed, a
member of another type a type error) and its own two-valued, short-circuiting AND:

* the chain is TRUE: NOT IN is TRUE;
* the chain has no value (an operand or member without a value, a member `!=` cannot compare with `x`, reached before
  any `!=` was FALSE): NOT IN has no value, with the same error;
* the chain is FALSE: NOT IN is FALSE — unless a member AFTER the NULL (operand or member) that made the chain FALSE has
  no value, or cannot be compared with a non-NULL `x`, before a member equal to `x` is met: NOT IN does not stop at a
  NULL, only at an equal member, exactly as IN walks; it then has IN's error. (`5 NOT IN (NULL, 'a')`, below.) -/
theorem notin_is_and_chain_full (e m : Expr) (ms : List Expr) :
    eval O env (.inList true e (m :: ms)) =
      (eval O env e).bind (fun _ =>
        notInOfChain (eval O env (andOfNe e (m :: ms))) (eval O env (.inList false e (m :: ms)))) := by
  rw [eval_inList]
  refine Outcome.bind_congr fun v he => ?_
  rw [eval_inList, he, Outcome.ok_bind, evalIn_notIn_chain O env e v he (m :: ms) v.isNull (fun h => h)]
  by_cases hv : v.isNull = true
  · -- a NULL operand: the chain over a non-empty list is FALSE or has no value, never TRUE
    rw [eval_andOfNe_cons, eval_ne_member O env e m v he, hv]
    cases memberVerdict O env v m with
    | ok w => cases w <;> rfl
    | _ => rfl
  · have hv' : v.isNull = false := by simpa using hv
    rw [hv']
    cases hch : eval O env (andOfNe e (m :: ms)) with
    | ok r =>
      obtain ⟨b, rfl⟩ := eval_andOfNe_bool O env e (m :: ms) r hch
      cases b <;> rfl
    | _ => rfl

/-- **whenever NOT IN has a value it is the value of the AND-chain of `!=`** (never a different value: the deviation
of `notin_is_and_chain_full` is an error in place of FALSE, never a value in place of another) -/
theorem notin_value_is_and_chain_value (e m : Expr) (ms : List Expr) (r : Value)
    (h : eval O env (.inList true e (m :: ms)) = .ok r) : eval O env (andOfNe e (m :: ms)) = .ok r := by
  rw [notin_is_and_chain_full] at h
  obtain ⟨v, _, h⟩ := Outcome.bind_eq_ok h
  cases hch : eval O env (andOfNe e (m :: ms)) with
  | ok r' =>
    obtain ⟨b, rfl⟩ := eval_andOfNe_bool O env e (m :: ms) r' hch
    rw [hch] at h
    cases b with
    | true => exact h
    | false =>
      obtain ⟨_, _, h⟩ := Outcome.bind_eq_ok (show (eval O env (.inList false e (m :: ms))).bind _ = .ok r from h)
      exact h
  | _ => rw [hch] at h; cases h

/-- NOT IN is TRUE exactly when the AND-chain of `!=` is TRUE -/
theorem notin_true_iff_and_chain_true (e m : Expr) (ms : List Expr) :
    eval O env (.inList true e (m :: ms)) = .ok (.bool true) ↔ eval O env (andOfNe e (m :: ms)) = .ok (.bool true) := by
  refine ⟨notin_value_is_and_chain_value O env e m ms _, fun h => ?_⟩
  rw [notin_is_and_chain_full, h]
  cases he : eval O env e with
  | ok v => rfl
  | _ => rw [eval_andOfNe_cons] at h; simp [eval, he, bind, Outcome.bind] at h

/-- an AND-chain without a value (reached before any `!=` was FALSE) leaves NOT IN without a value: the same error -/
theorem notin_error_of_and_chain_error (e m : Expr) (ms : List Expr) (v : Value) (k : ErrKind)
    (he : eval O env e = .ok v) (h : eval O env (andOfNe e (m :: ms)) = .error k) :
    eval O env (.inList true e (m :: ms)) = .error k := by
  rw [notin_is_and_chain_full, he, h]; rfl

/-- the empty list (the parser never produces it: `parse_list` reads a first member before it looks for `)`): NOT IN is
TRUE unless the operand is NULL; IN is FALSE -/
theorem notin_empty (e : Expr) :
    eval O env (.inList true e []) = (eval O env e).bind (fun v => .ok (.bool (!v.isNull))) ∧
    eval O env (.inList false e []) = (eval O env e).bind (fun _ => .ok (.bool false)) := by
  cases he : eval O env e <;> simp [eval, evalIn, he, bind, Outcome.bind]

/-! #### examples (kernel-evaluated): the three cases of `notin_is_and_chain_full`, and the coercion -/

/-- `5 NOT IN (NULL, 'a')`: the AND-chain `5 != NULL AND 5 != 'a'` is FALSE (it stops at the NULL), IN is a type error
(`5 = 'a'`), and NOT IN is that type error — an error in place of FALSE, the one deviation from the AND-chain -/
example :
    eval {} {} (andOfNe (.value (.int 5)) [.value .null, .value (.text [97])]) = .ok (.bool false) ∧
    eval {} {} (.inList false (.value (.int 5)) [.value .null, .value (.text [97])]) = .error .typeError ∧
    eval {} {} (.inList true (.value (.int 5)) [.value .null, .value (.text [97])]) = .error .typeError := ⟨rfl, rfl, rfl⟩

/-- … with the members the other way round the chain has the error too (`5 != 'a'` comes first) -/
example :
    eval {} {} (andOfNe (.value (.int 5)) [.value (.text [97]), .value .null]) = .error .typeError ∧
    eval {} {} (.inList true (.value (.int 5)) [.value (.text [97]), .value .null]) = .error .typeError := ⟨rfl, rfl⟩

/-- an equal member stops both: `5 NOT IN (5, 'a')` is FALSE, no error -/
example : eval {} {} (.inList true (.value (.int 5)) [.value (.int 5), .value (.text [97])]) = .ok (.bool false) := rfl

/-- NULL involved, every member comparable: FALSE (`5 NOT IN (7, NULL)`, `NULL NOT IN (7)`), never NULL, never TRUE -/
example :
    eval {} {} (.inList true (.value (.int 5)) [.value (.int 7), .value .null]) = .ok (.bool false) ∧
    eval {} {} (.inList true (.value .null) [.value (.int 7)]) = .ok (.bool false) ∧
    eval {} {} (.inList true (.value (.int 5)) [.value (.int 7), .value (.int 9)]) = .ok (.bool true) := ⟨rfl, rfl, rfl⟩

/-- member expressions, INT with REAL: `5 NOT IN (2 + 3.0 …)` — here `5 NOT IN (4 + 1, 7)` is FALSE and `5 NOT IN (5.0)` is
FALSE (compared numerically, like `=`) -/
example :
    eval {} {} (.inList true (.value (.int 5)) [.arith .add (.value (.int 4)) (.value (.int 1)), .value (.int 7)]) = .ok (.bool false) ∧
    eval {} {} (.inList true (.value (.int 5)) [.value (.real 0x4014000000000000)]) = .ok (.bool false) := ⟨rfl, rfl⟩

/-- a member without a value: `5 NOT IN (7, 1 / 0)` is that error; `5 NOT IN (5, 1 / 0)` is FALSE (the equal member
comes first) -/
example :
    eval {} {} (.inList true (.value (.int 5)) [.value (.int 7), .arith .div (.value (.int 1)) (.value (.int 0))]) = .error .undefinedOperation ∧
    eval {} {} (.inList true (.value (.int 5)) [.value (.int 5), .arith .div (.value (.int 1)) (.value (.int 0))]) = .ok (.bool false) := ⟨rfl, rfl⟩

/-- TEXT↔TIMESTAMP: a TEXT member of a TIMESTAMP operand is parsed as a timestamp, as `=` does: 2021-03-04 05:06:07
`NOT IN ('2021-03-04 05:06:07')` is FALSE, `NOT IN ('2021-03-04 05:06:08')` is TRUE, and a text that is no timestamp is
the error `=` gives -/
example :
    (match eval {} {} (.inList true (.value (.timestamp 737853 18367 0)) [.value (.text (strBytes "2021-03-04 05:06:07"))]),
           eval {} {} (.inList true (.value (.timestamp 737853 18367 0)) [.value (.text (strBytes "2021-03-04 05:06:08"))]),
           eval {} {} (.inList true (.value (.timestamp 737853 18367 0)) [.value (.text (strBytes "noon"))]) with
     | .ok (.bool false), .ok (.bool true), .error .failedToParseTimestamp => true
     | _, _, _ => false) = true := by decide +kernel

/-- **`l IS r` is TRUE exactly when the two values are equal under `Value`'s derived `==`, `l IS NOT r` exactly when they
are not** — whatever the right-hand side is (the literal NULL is the special case `C03.is_null_test`). The operands are
NOT brought to a common type and nothing is parsed: no coercion, no type error. -/
theorem is_value_meaning (isNot : Bool) (l r : Expr) (lv rv : Value)
    (hl : eval O env l = .ok lv) (hr : eval O env r = .ok rv) :
    eval O env (.nullCmp isNot l r) = .ok (.bool (if isNot then !(Value.beq lv rv) else Value.beq lv rv)) := by
  simp only [eval, hl, hr, bind, Outcome.bind, pure]

/-- IS has no error of its own and is never NULL: when both operands have values the result is a BOOLEAN … -/
theorem is_value_never_fails (isNot : Bool) (l r : Expr) (lv rv : Value)
    (hl : eval O env l = .ok lv) (hr : eval O env r = .ok rv) : ∃ b, eval O env (.nullCmp isNot l r) = .ok (.bool b) :=
  ⟨_, is_value_meaning O env isNot l r lv rv hl hr⟩

/-- … and IS NOT is its negation -/
theorem is_not_negates_is (l r : Expr) (lv rv : Value) (hl : eval O env l = .ok lv) (hr : eval O env r = .ok rv) :
    ∃ b, eval O env (.nullCmp false l r) = .ok (.bool b) ∧ eval O env (.nullCmp true l r) = .ok (.bool (!b)) :=
  ⟨Value.beq lv rv, by simp [is_value_meaning O env _ l r lv rv hl hr]⟩

/-- the equality IS tests is the equality of the derived total order on values (the order of GROUP BY / DISTINCT /
`array_unique`, `Props/C16.lean`): two values are IS-equal exactly when neither is below the other -/
theorem is_is_order_equality (lv rv : Value) : Value.beq lv rv = true ↔ Value.cmp lv rv = .eq :=
  (Value.cmp_eq_iff_beq lv rv).symm

/-- IS-equal values are of the same variant: NULL with NULL, INT with INT, REAL with REAL, … — so `1 IS 1.0` and
`1 IS '1'` are FALSE (no numeric comparison, no parse, no error) -/
theorem is_equal_same_variant (lv rv : Value) (h : Value.beq lv rv = true) : lv.rank = rv.rank :=
  Value.rank_eq_of_cmp_eq ((Value.cmp_eq_iff_beq lv rv).2 h)

/-- values without a REAL inside: NULL, INT, BOOLEAN, TEXT, TIMESTAMP, INTERVAL -/
def plainScalar : Value → Bool
  | .real _ => false
  | .array _ _ => false
  | _ => true

/-- on such values IS-equality is identity of the values -/
theorem is_scalar_iff_eq (lv rv : Value) (h : plainScalar lv = true) : Value.beq lv rv = true ↔ lv = rv := by
  cases lv <;> cases rv <;> simp_all [Value.beq, plainScalar, and_assoc]

/-- on REALs it is `Float::eq`: the total order's equality (`-0.0` equals `0.0`, NaN equals NaN) -/
theorem is_real (a b : Nat) : Value.beq (.real a) (.real b) = (F64.cmp a b == .eq) := rfl

/-- on arrays: the same element type and IS-equal elements, position by position -/
theorem is_array (t u : VType) (xs ys : List Value) :
    Value.beq (.array t xs) (.array u ys) = (t == u && Value.beqList xs ys) := by
  simp [Value.beq]

/-- INT IS REAL is FALSE, IS NOT is TRUE, whatever the numbers -/
theorem is_int_real (l r : Expr) (x : Int) (b : Nat) (hl : eval O env l = .ok (.int x)) (hr : eval O env r = .ok (.real b)) :
    eval O env (.nullCmp false l r) = .ok (.bool false) ∧ eval O env (.nullCmp true l r) = .ok (.bool true) := by
  simp [is_value_meaning O env _ l r _ _ hl hr, Value.beq]

/-! #### examples: `x IS 5`, and where IS differs from `=` -/

/-- `v IS 5` on a row with v = 5 / v = 6 / v NULL; `v IS NOT 5` -/
example :
    eval {} { table := [("v", .int 5)] } (.nullCmp false (.column "v") (.value (.int 5))) = .ok (.bool true) ∧
    eval {} { table := [("v", .int 6)] } (.nullCmp false (.column "v") (.value (.int 5))) = .ok (.bool false) ∧
    eval {} { table := [("v", .null)] } (.nullCmp false (.column "v") (.value (.int 5))) = .ok (.bool false) ∧
    eval {} { table := [("v", .null)] } (.nullCmp true (.column "v") (.value (.int 5))) = .ok (.bool true) := ⟨rfl, rfl, rfl, rfl⟩

/-- `1 IS 1.0` is FALSE although `1 = 1.0` is TRUE; `1 IS 'a'` is FALSE where `1 = 'a'` is a type error;
`NULL IS NULL` is TRUE where `NULL = NULL` is FALSE; `0.0 IS -0.0` is TRUE -/
example :
    eval {} {} (.nullCmp false (.value (.int 1)) (.value (.real 0x3ff0000000000000))) = .ok (.bool false) ∧
    eval {} {} (.compare .eq (.value (.int 1)) (.value (.real 0x3ff0000000000000))) = .ok (.bool true) ∧
    eval {} {} (.nullCmp false (.value (.int 1)) (.value (.text [97]))) = .ok (.bool false) ∧
    eval {} {} (.compare .eq (.value (.int 1)) (.value (.text [97]))) = .error .typeError ∧
    eval {} {} (.nullCmp false (.value .null) (.value .null)) = .ok (.bool true) ∧
    eval {} {} (.compare .eq (.value .null) (.value .null)) = .ok (.bool false) ∧
    eval {} {} (.nullCmp false (.value (.real 0)) (.value (.real 0x8000000000000000))) = .ok (.bool true) := by
  refine ⟨rfl, ?_, rfl, rfl, rfl, rfl, ?_⟩ <;> rfl

example : plainScalar (.int 5) = true ∧ Value.beq (.int 5) (.int 5) = true := ⟨rfl, rfl⟩

end Sqlgrep.Props.C03In
