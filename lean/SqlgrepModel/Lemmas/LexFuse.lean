import SqlgrepModel.Lemmas.LexWords
/-
From tokens back to lexemes: the three fused tokens (`IsNot`, `NotIn`, `::`) are spelled as two lexemes each
(`unfuse`); fusing the lexemes' tokens gives the token list back unless the list contains a neighbouring pair that every
layout fuses (`badPair`).
-/
namespace Sqlgrep.Lex
open Sqlgrep

/-- the lexeme tokens that spell a token -/
def unfuseTok : Tok → List Tok
  | .kw .isNot => [.kw .is, .kw .not]
  | .kw .notIn => [.kw .not, .kw .in]
  | .dcolon => [.colon, .colon]
  | t => [t]

def unfuse (ts : List Tok) : List Tok := ts.flatMap unfuseTok

/-- neighbouring tokens that no layout can keep apart: whatever lies between them, the tokenizer fuses through the
last token (`IS`·`NOT`, `IS`·`NOT IN`, `NOT`·`IN`, `:`·`:`, `:`·`::`) -/
def badPair : Tok → Tok → Bool
  | .kw .is, .kw .not => true
  | .kw .is, .kw .notIn => true
  | .kw .not, .kw .in => true
  | .colon, .colon => true
  | .colon, .dcolon => true
  | _, _ => false

def NoBadPair : List Tok → Prop
  | [] => True
  | [_] => True
  | a :: b :: r => badPair a b = false ∧ NoBadPair (b :: r)

instance : (ts : List Tok) → Decidable (NoBadPair ts)
  | [] => isTrue trivial
  | [_] => isTrue trivial
  | a :: b :: r =>
    have := instDecidableNoBadPair (b :: r)
    inferInstanceAs (Decidable (badPair a b = false ∧ NoBadPair (b :: r)))

theorem push_unfuseTok (acc : List Tok) (t : Tok) (h : ∀ a, acc.head? = some a → badPair a t = false) :
    (unfuseTok t).foldl pushTok acc = t :: acc := by
  have ne (a : Tok) (hb : badPair a t = true) : acc.head? ≠ some a := fun e => by rw [h a e] at hb; cases hb
  unfold unfuseTok
  split
  · show pushTok (pushTok acc (.kw .is)) (.kw .not) = _
    rw [pushTok_plain acc (.kw .is) nofun nofun nofun]; rfl
  · show pushTok (pushTok acc (.kw .not)) (.kw .in) = _
    rw [pushTok_cons (t := .kw .not) (fun _ => ne (.kw .is) rfl) nofun nofun]; rfl
  · show pushTok (pushTok acc .colon) .colon = _
    rw [pushTok_cons (t := .colon) nofun nofun (fun _ => ne .colon rfl)]; rfl
  · exact pushTok_cons (fun e => ne (.kw .is) (by rw [e]; rfl)) (fun e => ne (.kw .not) (by rw [e]; rfl))
      (fun e => ne .colon (by rw [e]; rfl))

theorem foldl_unfuse (ts : List Tok) : ∀ acc : List Tok, NoBadPair (acc.take 1 ++ ts) →
    (unfuse ts).foldl pushTok acc = ts.reverse ++ acc := by
  induction ts with
  | nil => intro acc _; rfl
  | cons t ts ih =>
    intro acc h
    have h1 : (∀ a, acc.head? = some a → badPair a t = false) ∧ NoBadPair (t :: ts) := by
      cases acc with
      | nil => exact ⟨fun _ e => (nomatch e), h⟩
      | cons a r => exact ⟨fun _ e => Option.some.inj e ▸ h.1, h.2⟩
    rw [show unfuse (t :: ts) = unfuseTok t ++ unfuse ts from rfl, List.foldl_append, push_unfuseTok acc t h1.1,
      ih (t :: acc) h1.2, List.reverse_cons, List.append_assoc]
    rfl

theorem fuse_unfuse (ts : List Tok) (h : NoBadPair ts) : fuse (unfuse ts) = ts := by
  rw [fuse, foldl_unfuse ts [] h, List.append_nil, List.reverse_reverse]

end Sqlgrep.Lex
