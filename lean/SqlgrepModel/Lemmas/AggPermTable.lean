import SqlgrepModel.Lemmas.AggPerm
import SqlgrepModel.Lemmas.AggTable
/-
C15, table level: the specification's table is invariant under permutations of the input rows (`table_perm`).
-/
set_option linter.unusedSimpArgs false
namespace Sqlgrep
open Value Spec.Agg

/-- what C15 grants for statement `q` on the admitted rows `rows`: only order-insensitive aggregates; in every group,
values picked by order are exact and sums do not depend on the order -/
structure PermSafe (O : Oracles) (q : AggStmt) (rows : List (List Value × Env)) : Prop where
  kinds : ∀ kind ∈ slotKinds q, orderInsensitive kind = true
  groups : ∀ k kind vs, kind ∈ slotKinds q → arguments O q kind (rowsOfKey k rows) = some vs →
    (usesOrder kind = true → ValuesExact (nonNull vs)) ∧ (usesSums kind = true → SumsOrderFree (nonNull vs))

theorem groupValue_perm {O : Oracles} {q : AggStmt} {kind : AggKind} {g1 g2 : List Env} (h : g1.Perm g2)
    (hk : orderInsensitive kind = true)
    (hs : ∀ vs, arguments O q kind g1 = some vs →
      (usesOrder kind = true → ValuesExact (nonNull vs)) ∧ (usesSums kind = true → SumsOrderFree (nonNull vs))) :
    groupValue O q kind g1 = groupValue O q kind g2 := by
  unfold groupValue
  exact (arguments_perm O q kind h).bind_eq fun vs _ h1 hp => aggregate_perm kind hp hk (hs vs h1).1 (hs vs h1).2

theorem perGroup_perm {O : Oracles} {q : AggStmt} {k : List Value} {g1 g2 : List Env} (h : g1.Perm g2)
    (hk : ∀ kind ∈ slotKinds q, orderInsensitive kind = true)
    (hs : ∀ kind vs, kind ∈ slotKinds q → arguments O q kind g1 = some vs →
      (usesOrder kind = true → ValuesExact (nonNull vs)) ∧ (usesSums kind = true → SumsOrderFree (nonNull vs))) :
    perGroup O q (k, g1) = perGroup O q (k, g2) := by
  have hgv : ∀ kind ∈ slotKinds q, groupValue O q kind g1 = groupValue O q kind g2 :=
    fun kind hkind => groupValue_perm h (hk kind hkind) (fun vs hvs => hs kind vs hkind hvs)
  have hrow : row O q k g1 = row O q k g2 := by
    unfold row
    congr 1
    apply List.map_congr_left
    intro item hitem
    by_cases hkey : ∃ e c, item.kind = .groupKey e c
    · obtain ⟨e, c, he⟩ := hkey
      simp only [cell, he]
    · have hk' : ∀ e c, item.kind ≠ .groupKey e c := fun e c he => hkey ⟨e, c, he⟩
      rw [cell_nonkey O q k g1 item hk', cell_nonkey O q k g2 item hk']
      rw [hgv item.kind (by simp only [slotKinds, List.mem_append, List.mem_map]; exact Or.inl ⟨item, hitem, rfl⟩)]
  have hacc : accept O q k g1 = accept O q k g2 := by
    unfold accept
    cases q.having with
    | none => rfl
    | some hx =>
      simp only
      have : q.havingAggs.map (fun (x : Nat × AggKind) => (groupValue O q x.2 g1).map (fun v => (x.1, v))) =
          q.havingAggs.map (fun (x : Nat × AggKind) => (groupValue O q x.2 g2).map (fun v => (x.1, v))) := by
        apply List.map_congr_left
        intro p hp
        rw [hgv p.2 (by simp only [slotKinds, List.mem_append, List.mem_map]; exact Or.inr ⟨p, hp, rfl⟩)]
      rw [this]
  simp only [perGroup, hrow, hacc]

theorem tableOfRows_perm {O : Oracles} {q : AggStmt} {r1 r2 : List (List Value × Env)} (h : r1.Perm r2)
    (hex : KeysExact (r1.map (·.1))) (hsafe : PermSafe O q r1) :
    tableOfGroups O q (groups r1) = tableOfGroups O q (groups r2) := by
  rw [tableOfGroups_eq, tableOfGroups_eq]
  have hkeys : distinctKeys (r1.map (·.1)) = distinctKeys (r2.map (·.1)) := distinctKeys_perm (h.map _) hex
  have hmap : (groups r1).map (perGroup O q) = (groups r2).map (perGroup O q) := by
    simp only [groups, List.map_map, hkeys]
    apply List.map_congr_left
    intro k _
    simp only [Function.comp]
    exact perGroup_perm (rowsOfKey_perm k h) hsafe.kinds (fun kind vs hkind hvs => hsafe.groups k kind vs hkind hvs)
  rw [hmap]

/-- **`agg_perm_invariant` on the specification**: permuting the input rows does not change the table -/
theorem table_perm {O : Oracles} {q : AggStmt} {e1 e2 : List Env} (h : e1.Perm e2)
    (hsafe : ∀ rows, keyedRows O q e1 = some rows → PermSafe O q rows) :
    table O q e1 = table O q e2 := by
  unfold table
  have hk := keyedRows_perm O q h
  cases h1 : keyedRows O q e1 with
  | none => rw [h1] at hk; rw [optPerm_none_left hk]
  | some r1 =>
    obtain ⟨r2, hr2, hp⟩ := optPerm_some_left (h1 ▸ hk)
    simp only [hr2, ← hp.all_eq]
    split
    · rfl
    · rename_i hc
      simp only [Bool.or_eq_true, Bool.not_eq_true', not_or, Bool.not_eq_false] at hc
      exact tableOfRows_perm hp (keysExact_of_simple hc.2) (hsafe r1 h1)

end Sqlgrep
