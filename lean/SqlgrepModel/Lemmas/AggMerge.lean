import SqlgrepModel.Lemmas.AggTable
import SqlgrepModel.Lemmas.AggSumOf
/-
C15, input split at table level: the keyed result table over a concatenation of two inputs is the key-wise combination
(`mergeKeyed`) of the keyed tables over the parts, for statements of key columns, COUNT, SUM (INT), MIN and MAX. The
argument about keys is made once, for keyed tables of any per-group function (`keyedG_concat`).
-/
set_option linter.unusedSimpArgs false
namespace Sqlgrep
open Value Spec.Agg

/-- how the cells of one aggregate over two parts combine into the cell over the whole -/
def mergeCell : AggKind → Value → Value → Value
  | .groupKey _ _, x, _ => x
  | .count _ _, .int a, .int b => .int (a + b)
  | .sum _, x, y => mergeSum x y
  | .min _, x, y => mergeExt true x y
  | .max _, x, y => mergeExt false x y
  | _, x, _ => x

/-- the aggregates whose results over two parts determine the result over the whole -/
def mergeable : AggKind → Bool
  | .groupKey _ _ | .count _ false | .sum _ | .min _ | .max _ => true
  | _ => false

/-- **per aggregate**: the value over the concatenation of two argument lists is the combination of the values over
the parts (INT sums; for REAL sums this is the property's exactness proviso) -/
theorem aggregate_merge (k : AggKind) (hk : mergeable k = true) (v1 v2 : List Value) {a b r : Value}
    (h1 : aggregate k v1 = some a) (h2 : aggregate k v2 = some b) (h : aggregate k (v1 ++ v2) = some r)
    (hint : ∀ e, k = .sum e → (ints (nonNull v1)).isSome ∧ (ints (nonNull v2)).isSome) :
    r = mergeCell k a b := by
  cases k with
  | groupKey e c => simp [aggregate] at h
  | count col d =>
    cases d with
    | true => simp [mergeable] at hk
    | false =>
      cases col with
      | none =>
        simp only [aggregate, Bool.false_eq_true, if_false, Option.some.injEq] at h1 h2 h
        rw [← h1, ← h2, ← h]
        simp [mergeCell, List.length_append]
      | some cn =>
        simp only [aggregate, Option.some.injEq] at h1 h2 h
        rw [← h1, ← h2, ← h]
        simp [mergeCell, nonNull_append, List.length_append]
  | sum e =>
    obtain ⟨hi1, hi2⟩ := hint e rfl
    obtain ⟨is1, hs1⟩ := Option.isSome_iff_exists.mp hi1
    obtain ⟨is2, hs2⟩ := Option.isSome_iff_exists.mp hi2
    simp only [aggregate, nonNull_append, ints_eq hs1, ints_eq hs2] at h1 h2 h
    rw [← List.map_append] at h
    exact sumOf_append_ints h h1 h2
  | min e | max e =>
    simp only [aggregate] at h1 h2 h
    split at h1
    · split at h2
      · split at h
        · simp only [Option.some.injEq] at h1 h2 h
          rw [← h1, ← h2, ← h, nonNull_append]
          exact extreme_merge _ _ _ (nonNull_all v1) (nonNull_all v2)
        · simp at h
      · simp at h2
    · simp at h1
  | _ => simp [mergeable] at hk

/-- statements whose table over a concatenation is determined by the tables over the parts: key columns, COUNT,
SUM, MIN, MAX without arithmetic wrappers, no HAVING / DISTINCT / LIMIT -/
structure MergeableStmt (q : AggStmt) : Prop where
  kinds : ∀ item ∈ q.items, mergeable item.kind = true ∧ item.transform = none
  noHaving : q.having = none
  noDistinct : q.distinct = false
  noLimit : q.limit = none

def combineRow : List AggItem → List Value → List Value → List Value
  | item :: items, x :: xs, y :: ys => mergeCell item.kind x y :: combineRow items xs ys
  | _, _, _ => []

theorem cell_merge {O : Oracles} {q : AggStmt} {item : AggItem} (hm : mergeable item.kind = true) (ht : item.transform = none)
    (key : List Value) (g1 g2 : List Env) {a b r : Value}
    (h1 : cell O q key g1 item = some a) (h2 : cell O q key g2 item = some b) (h : cell O q key (g1 ++ g2) item = some r)
    (hint : ∀ e v1 v2, item.kind = .sum e → arguments O q item.kind g1 = some v1 → arguments O q item.kind g2 = some v2 →
      (ints (nonNull v1)).isSome ∧ (ints (nonNull v2)).isSome) :
    r = mergeCell item.kind a b := by
  by_cases hk : ∃ e c, item.kind = .groupKey e c
  · obtain ⟨e, c, hk⟩ := hk
    simp only [cell, hk] at h1 h
    rw [h1] at h
    simp only [Option.some.injEq] at h
    rw [hk, ← h]; rfl
  · have hk' : ∀ e c, item.kind ≠ .groupKey e c := fun e c he => hk ⟨e, c, he⟩
    rw [cell_nonkey O q key _ item hk'] at h1 h2 h
    simp only [ht, applyTransform, okOf] at h1 h2 h
    unfold groupValue at h1 h2 h
    cases ha1 : arguments O q item.kind g1 with
    | none => simp [ha1] at h1
    | some v1 =>
      cases ha2 : arguments O q item.kind g2 with
      | none => simp [ha2] at h2
      | some v2 =>
        rw [arguments_append ha1 ha2] at h
        simp only [ha1, ha2, Option.bind_some] at h1 h2 h
        cases hg1 : aggregate item.kind v1 with
        | none => simp [hg1] at h1
        | some a' =>
          cases hg2 : aggregate item.kind v2 with
          | none => simp [hg2] at h2
          | some b' =>
            cases hg : aggregate item.kind (v1 ++ v2) with
            | none => simp [hg] at h
            | some r' =>
              simp only [hg1, hg2, hg, Option.bind_some, Option.some.injEq] at h1 h2 h
              rw [← h1, ← h2, ← h]
              exact aggregate_merge item.kind hm v1 v2 hg1 hg2 hg (fun e he => hint e v1 v2 he ha1 ha2)

theorem row_merge {O : Oracles} {q : AggStmt} (key : List Value) (g1 g2 : List Env) (items : List AggItem)
    (hitems : ∀ item ∈ items, mergeable item.kind = true ∧ item.transform = none)
    (hint : ∀ item ∈ items, ∀ e v1 v2, item.kind = .sum e → arguments O q item.kind g1 = some v1 →
      arguments O q item.kind g2 = some v2 → (ints (nonNull v1)).isSome ∧ (ints (nonNull v2)).isSome)
    {a b r : List Value}
    (h1 : collect (items.map (cell O q key g1)) = some a) (h2 : collect (items.map (cell O q key g2)) = some b)
    (h : collect (items.map (cell O q key (g1 ++ g2))) = some r) :
    r = combineRow items a b := by
  exact collect_zip3 (c := fun it => mergeCell it.kind) (by intro a b; cases a <;> cases b <;> rfl) (fun _ _ _ _ _ _ => rfl)
    (fun item hi _ _ _ e1 e2 e => cell_merge (hitems item hi).1 (hitems item hi).2 key g1 g2 e1 e2 e (hint item hi)) h1 h2 h

def keyedG {γ : Type} (F : List Value → List Env → Option (List γ)) (rows : List (List Value × Env)) :
    Option (List (List Value × List γ)) :=
  collect ((groups rows).map (fun kg => (F kg.1 kg.2).map (fun r => (kg.1, r))))

def lookupG {γ : Type} (T : List (List Value × List γ)) (k : List Value) : Option (List γ) :=
  (T.find? (fun p => sameKey p.1 k)).map (·.2)

/-- the groups are the union; a group present in both parts combines (`comb`), a group present in one part is kept -/
def mergeG {γ : Type} (comb : List γ → List γ → List γ) (T1 T2 : List (List Value × List γ)) : List (List Value × List γ) :=
  (distinctKeys (T1.map (·.1) ++ T2.map (·.1))).map (fun k =>
    (k, match lookupG T1 k, lookupG T2 k with
      | some a, some b => comb a b
      | some a, none => a
      | none, some b => b
      | none, none => []))

theorem keyedG_lookup {γ : Type} {F : List Value → List Env → Option (List γ)} {rows : List (List Value × Env)}
    {T : List (List Value × List γ)} (h : keyedG F rows = some T) :
    T.map (·.1) = distinctKeys (rows.map (·.1)) ∧
    (∀ k ∈ distinctKeys (rows.map (·.1)), ∃ a, F k (rowsOfKey k rows) = some a ∧ lookupG T k = some a) ∧
    (∀ k, (∀ k' ∈ rows.map (·.1), cmpList k' k ≠ .eq) → lookupG T k = none) := by
  obtain ⟨hkeys, hmem⟩ := collect_map_keys (f := fun (kg : List Value × List Env) => F kg.1 kg.2)
    (g := fun (kg : List Value × List Env) => kg.1) h
  have hk : T.map (·.1) = distinctKeys (rows.map (·.1)) := by
    rw [hkeys]
    simp only [groups, List.map_map]
    exact List.map_id _
  refine ⟨hk, fun k hkm => ?_, fun k hno => ?_⟩
  · obtain ⟨a, ha, ham⟩ := hmem (k, rowsOfKey k rows) (List.mem_map.mpr ⟨k, hkm, rfl⟩)
    have hsorted : (T.map (·.1)).Pairwise KeyLt := by rw [hk]; exact distinctKeys_sorted _
    exact ⟨a, ha, by simp [lookupG, sameKey, find?_key_of_mem hsorted ham]⟩
  · have : T.find? (fun p => sameKey p.1 k) = none := by
      apply List.find?_eq_none.mpr
      intro p hp
      have hp1 : p.1 ∈ rows.map (·.1) := distinctKeys_sub _ _ (by rw [← hk]; exact List.mem_map.mpr ⟨p, hp, rfl⟩)
      simp [sameKey, hno p.1 hp1]
    simp [lookupG, this]

/-- a key of the whole input seen from one part: the part has the group and its table the entry, or neither -/
theorem keyedG_part {γ : Type} {F : List Value → List Env → Option (List γ)} {rows : List (List Value × Env)}
    {T : List (List Value × List γ)} (h : keyedG F rows = some T) {ks : List (List Value)} (hex : KeysExact ks)
    (hsub : ∀ x ∈ rows.map (·.1), x ∈ ks) {k : List Value} (hk : k ∈ ks) :
    (∃ a, F k (rowsOfKey k rows) = some a ∧ lookupG T k = some a) ∨
    (k ∉ rows.map (·.1) ∧ rowsOfKey k rows = [] ∧ lookupG T k = none) := by
  obtain ⟨_, hin, hout⟩ := keyedG_lookup h
  by_cases hm : k ∈ rows.map (·.1)
  · exact Or.inl (hin k ((distinctKeys_mem_iff (hex.mono hsub) k).mpr hm))
  · have habs : ∀ k' ∈ rows.map (·.1), cmpList k' k ≠ .eq :=
      fun k' hk' he => hm (hex k' (hsub k' hk') k hk he ▸ hk')
    exact Or.inr ⟨hm, rowsOfKey_nil_of_absent habs, hout k habs⟩

theorem keyedG_concat {γ : Type} {F : List Value → List Env → Option (List γ)} {comb : List γ → List γ → List γ} (r1 r2 : List (List Value × Env))
    (hex : KeysExact ((r1 ++ r2).map (·.1))) {T T1 T2 : List (List Value × List γ)}
    (hT : keyedG F (r1 ++ r2) = some T) (hT1 : keyedG F r1 = some T1) (hT2 : keyedG F r2 = some T2)
    (hmerge : ∀ k a b r, F k (rowsOfKey k r1) = some a → F k (rowsOfKey k r2) = some b →
      F k (rowsOfKey k r1 ++ rowsOfKey k r2) = some r → r = comb a b) :
    T = mergeG comb T1 T2 := by
  obtain ⟨_, hl, _⟩ := keyedG_lookup hT
  rw [collect_map_eq (f := fun (kg : List Value × List Env) => F kg.1 kg.2) (g := fun (kg : List Value × List Env) => kg.1) hT]
  rw [List.map_append] at hex hl
  unfold mergeG
  rw [(keyedG_lookup hT1).1, (keyedG_lookup hT2).1, distinctKeys_append hex]
  simp only [groups, List.map_map, List.map_append]
  apply List.map_congr_left
  intro k hk
  simp only [Function.comp]
  congr 1
  have hkmem := distinctKeys_sub _ _ hk
  obtain ⟨r, hr, _⟩ := hl k hk
  rw [rowsOfKey_append] at hr ⊢
  rcases keyedG_part hT1 hex (fun _ => List.mem_append_left _) hkmem with ⟨a, ha, hla⟩ | ⟨hn1, he1, hl1⟩
  · rcases keyedG_part hT2 hex (fun _ => List.mem_append_right _) hkmem with ⟨b, hb, hlb⟩ | ⟨_, he2, hl2⟩
    · rw [hla, hlb, hr]
      exact hmerge k a b r ha hb hr
    · rw [hla, hl2, he2, List.append_nil, ha]; rfl
  · rcases keyedG_part hT2 hex (fun _ => List.mem_append_right _) hkmem with ⟨b, hb, hlb⟩ | ⟨hn2, _, _⟩
    · rw [hl1, hlb, he1, List.nil_append, hb]; rfl
    · exact absurd (List.mem_append.mp hkmem) (by simp [hn1, hn2])

/-- the specification's table with the group key attached to every row (no HAVING / DISTINCT / LIMIT) -/
def keyedTable (O : Oracles) (q : AggStmt) (rows : List (List Value × Env)) : Option (List (List Value × List Value)) :=
  collect ((groups rows).map (fun kg => (row O q kg.1 kg.2).map (fun r => (kg.1, r))))

def lookupKey (T : List (List Value × List Value)) (k : List Value) : Option (List Value) :=
  (T.find? (fun p => sameKey p.1 k)).map (·.2)

/-- **the key-wise combination**: the groups are the union of the groups; a group present in both parts combines its
rows cell by cell (`combineRow`: counts and sums add, minima and maxima combine, key columns stay), a group present in
one part keeps its row -/
def mergeKeyed (q : AggStmt) (T1 T2 : List (List Value × List Value)) : List (List Value × List Value) :=
  (distinctKeys (T1.map (·.1) ++ T2.map (·.1))).map (fun k =>
    (k, match lookupKey T1 k, lookupKey T2 k with
      | some a, some b => combineRow q.items a b
      | some a, none => a
      | none, some b => b
      | none, none => []))

theorem mergeKeyed_eq (q : AggStmt) (T1 T2 : List (List Value × List Value)) :
    mergeKeyed q T1 T2 = mergeG (combineRow q.items) T1 T2 := by
  unfold mergeKeyed mergeG
  apply List.map_congr_left
  intro k _
  change (k, _) = (k, _)
  congr 1
  change (match lookupG T1 k, lookupG T2 k with
    | some a, some b => combineRow q.items a b
    | some a, none => a
    | none, some b => b
    | none, none => []) = _
  cases lookupG T1 k <;> cases lookupG T2 k <;> rfl

/-- **`agg_concat_merge`, table level.** For a statement made of key columns, COUNT, SUM (over INT), MIN and MAX
(no arithmetic wrapper, HAVING, DISTINCT, LIMIT) and two lists of admitted rows with exact keys: the keyed result table
over the concatenation is the key-wise combination (`mergeKeyed`) of the keyed tables over the parts. -/
theorem keyedTable_concat {O : Oracles} {q : AggStmt} (hm : MergeableStmt q) (r1 r2 : List (List Value × Env))
    (hex : KeysExact ((r1 ++ r2).map (·.1))) {T T1 T2 : List (List Value × List Value)}
    (hT : keyedTable O q (r1 ++ r2) = some T) (hT1 : keyedTable O q r1 = some T1) (hT2 : keyedTable O q r2 = some T2)
    (hint : ∀ k, ∀ item ∈ q.items, ∀ e v1 v2, item.kind = .sum e → arguments O q item.kind (rowsOfKey k r1) = some v1 →
      arguments O q item.kind (rowsOfKey k r2) = some v2 → (ints (nonNull v1)).isSome ∧ (ints (nonNull v2)).isSome) :
    T = mergeKeyed q T1 T2 := by
  rw [mergeKeyed_eq]
  exact keyedG_concat (F := row O q) r1 r2 hex hT hT1 hT2 (fun k _ _ _ ha hb hr =>
    row_merge k _ _ q.items hm.kinds (fun item hi e v1 v2 => hint k item hi e v1 v2) ha hb hr)

theorem tableOfGroups_mergeable {O : Oracles} {q : AggStmt} (hm : MergeableStmt q) (gs : List (List Value × List Env)) :
    tableOfGroups O q gs =
      (collect (gs.map (fun kg => (row O q kg.1 kg.2).map (fun r => (kg.1, r))))).map (fun T => T.map (·.2)) := by
  have hper : perGroup O q = fun kg => (row O q kg.1 kg.2).map (fun r => (r, true)) := by
    funext kg
    simp only [perGroup, accept, hm.noHaving]
    cases row O q kg.1 kg.2 <;> rfl
  have e2 : (collect (gs.map (fun kg => (row O q kg.1 kg.2).map (fun r => (kg.1, r))))).map (List.map (·.2)) =
      collect (gs.map (fun kg => row O q kg.1 kg.2)) := by
    rw [collect_map_map]
    simp only [Option.map_map, Function.comp_def, Option.map_id']
  rw [tableOfGroups_eq, hper, e2, ← collect_map_map gs (fun kg => row O q kg.1 kg.2)]
  simp only [hm.noDistinct, hm.noLimit, Bool.false_eq_true, if_false]
  cases collect (gs.map (fun kg => row O q kg.1 kg.2)) with
  | none => rfl
  | some rs => simp [keptRows, List.filter_map, Function.comp_def]

theorem keyed_of_table {O : Oracles} {q : AggStmt} (hm : MergeableStmt q) {envs : List Env} {t : List (List Value)}
    (h : table O q envs = some t) :
    ∃ rows T, keyedRows O q envs = some rows ∧ KeysExact (rows.map (·.1)) ∧ keyedTable O q rows = some T ∧ t = T.map (·.2) := by
  obtain ⟨rows, hr, _, hex, htab⟩ := table_eq_some h
  rw [tableOfGroups_mergeable hm] at htab
  cases hc : collect ((groups rows).map (fun kg => (row O q kg.1 kg.2).map (fun r => (kg.1, r)))) with
  | none => rw [hc] at htab; simp at htab
  | some T =>
    rw [hc] at htab
    simp only [Option.map_some, Option.some.injEq] at htab
    exact ⟨rows, T, hr, hex, hc, htab.symm⟩

theorem table_concat_merge_keyed {O : Oracles} {q : AggStmt} (hm : MergeableStmt q) (r₁ r₂ : List Env) {t t₁ t₂ : List (List Value)}
    (h : table O q (r₁ ++ r₂) = some t) (h₁ : table O q r₁ = some t₁) (h₂ : table O q r₂ = some t₂)
    (hint : ∀ k₁ k₂, keyedRows O q r₁ = some k₁ → keyedRows O q r₂ = some k₂ →
      ∀ k, ∀ item ∈ q.items, ∀ e v1 v2, item.kind = .sum e → arguments O q item.kind (rowsOfKey k k₁) = some v1 →
        arguments O q item.kind (rowsOfKey k k₂) = some v2 → (ints (nonNull v1)).isSome ∧ (ints (nonNull v2)).isSome) :
    ∃ k₁ k₂ T T₁ T₂, keyedRows O q r₁ = some k₁ ∧ keyedRows O q r₂ = some k₂ ∧ keyedRows O q (r₁ ++ r₂) = some (k₁ ++ k₂) ∧
      keyedTable O q (k₁ ++ k₂) = some T ∧ keyedTable O q k₁ = some T₁ ∧ keyedTable O q k₂ = some T₂ ∧
      t = T.map (·.2) ∧ t₁ = T₁.map (·.2) ∧ t₂ = T₂.map (·.2) ∧ T = mergeKeyed q T₁ T₂ := by
  obtain ⟨k, T, hk, hex, hT, ht⟩ := keyed_of_table hm h
  obtain ⟨k₁, T₁, hk₁, _, hT₁, ht₁⟩ := keyed_of_table hm h₁
  obtain ⟨k₂, T₂, hk₂, _, hT₂, ht₂⟩ := keyed_of_table hm h₂
  have happ := keyedRows_append O q r₁ r₂ hk₁ hk₂
  have hkk : k = k₁ ++ k₂ := by rw [hk] at happ; exact Option.some.inj happ
  subst hkk
  exact ⟨k₁, k₂, T, T₁, T₂, hk₁, hk₂, happ, hT, hT₁, hT₂, ht, ht₁, ht₂,
    keyedTable_concat hm k₁ k₂ hex hT hT₁ hT₂ (hint k₁ k₂ hk₁ hk₂)⟩

/-- **`agg_concat_merge`.** For a statement of key columns, COUNT, SUM over INT, MIN and MAX (any GROUP BY and WHERE) and
two inputs: if the specification fixes the tables over `r₁`, over `r₂` and over `r₁ ++ r₂`, then the table over the
concatenation is the key-wise combination of the tables over the parts: the groups are the union, counts and sums
add, minima and maxima combine. (The tables are taken with their group keys attached, `T.map (·.2)` being the tables
themselves — without the key, rows of different groups need not be distinguishable.) -/
theorem table_concat_merge {O : Oracles} {q : AggStmt} (hm : MergeableStmt q) (r₁ r₂ : List Env) {t t₁ t₂ : List (List Value)}
    (h : table O q (r₁ ++ r₂) = some t) (h₁ : table O q r₁ = some t₁) (h₂ : table O q r₂ = some t₂)
    (hint : ∀ k₁ k₂, keyedRows O q r₁ = some k₁ → keyedRows O q r₂ = some k₂ →
      ∀ k, ∀ item ∈ q.items, ∀ e v1 v2, item.kind = .sum e → arguments O q item.kind (rowsOfKey k k₁) = some v1 →
        arguments O q item.kind (rowsOfKey k k₂) = some v2 → (ints (nonNull v1)).isSome ∧ (ints (nonNull v2)).isSome) :
    ∃ T T₁ T₂, t = T.map (·.2) ∧ t₁ = T₁.map (·.2) ∧ t₂ = T₂.map (·.2) ∧ T = mergeKeyed q T₁ T₂ := by
  obtain ⟨_, _, T, T₁, T₂, _, _, _, _, _, _, ht, ht₁, ht₂, hT⟩ := table_concat_merge_keyed hm r₁ r₂ h h₁ h₂ hint
  exact ⟨T, T₁, T₂, ht, ht₁, ht₂, hT⟩

end Sqlgrep
