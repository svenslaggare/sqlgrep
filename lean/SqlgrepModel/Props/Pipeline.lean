import SqlgrepModel.Props.C04
import SqlgrepModel.Lemmas.Pipeline
import SqlgrepModel.Props.C20
import SqlgrepModel.Lemmas.ParseBlind
import SqlgrepModel.Props.Fixture
/-
END-TO-END theorems: the stage theorems composed over `Pipeline.runText` (`Model/Pipeline.lean`), the function the
compiled driver executes for every `e2e` case — raw definition text, raw query text, raw file bytes, output format
in; the lines handed to `Printer::println` (or the error) out. This file has no property id of its own; each
theorem says which properties it carries from their stage to the whole program:

* `runText_never_panics`, `runText_total`          C09 (no panic on any input) + C14 (parser / lowering total) + the
                                                   printer's index accesses (C17's model), over any texts and bytes
* `runText_select_is_spec`                         C03 C05 C07 C08: the run of the texts is the run of `Spec.Select`
* `runText_agg_is_spec`                            C04 (C07 C08 for aggregates): the run of the texts is `Spec.Agg`
* `lowered_aggregate_is_wellformed`                C04: the side condition `StmtWF` of the refinement theorem is
                                                   discharged by the lowering itself
* `printed_is_text_of_calls`                       C17 ↔ engine properties: the engine models' text output is the text
                                                   rendering of exactly the tables handed to the printer model
* `runText_depends_on_statements`, `location_blind`, `parseText_layout_invariance`, `same_statement_same_output`
                                                   C20: layout of the texts is irrelevant to the statement and to the run

Helper lemmas: `Lemmas/ExecT.lean`, `Lemmas/PipelineAligned.lean`, `Lemmas/Pipeline.lean`.
-/
namespace Sqlgrep.Props.Pipeline
open Sqlgrep Sqlgrep.Pipeline Sqlgrep.Spec.Pipeline

/-- **The whole program never panics** (supports C09, C14, C17). For every definition text, every query text, every
output format and display option, every list of input files with any bytes (valid UTF-8 or not), every state of the
file system around the joined file and ALL oracle tables — also wrong or incomplete ones — the end-to-end model never
answers `panic`: not in the tokenizer (`tokenize` is total), not in the parser (`parse_never_panics`,
`parse_never_out_of_fuel`, with `tokenize_ends_eof` discharging their non-emptiness hypothesis), not in the lowering
(`lower_never_panics`, with `no_empty_json_path_in_a_tree` discharging its hypothesis), not in the engines
(`runStatement_no_panic`: `runStatement_faults` — the engines' walk `runWithIndexT_faults` taken over the table lookups and
the missing-file / missing-table branches — read with `P := fun _ => False`, `callFunction_faults_np` for the functions), and not in `OutputPrinter::print`, whose two index accesses are in range because every result table the
engines emit is aligned (`runStatement_aligned`: one cell per column name). -/
theorem runText_never_panics (F : Facts) (defsText queryText : List Char) (fmt : Print.Format) (single : Bool)
    (files : List (List Nat)) : ∀ site, runText F defsText queryText fmt single files ≠ .panic site :=
  runText_no_panic F defsText queryText fmt single files

/-- **Totality, spelled out**: every invocation ends in printed records (with `Ok` or a reported error kind), in a
rejected text (a located tokenizer / parser / conversion error), in "not a CREATE TABLE" / "not a query", or — only
when the case did not ship a fact about the outside world the run needed — in `skip` -/
theorem runText_total (F : Facts) (defsText queryText : List Char) (fmt : Print.Format) (single : Bool)
    (files : List (List Nat)) :
    (∃ e n ls, runText F defsText queryText fmt single files = .records e n ls) ∨
    (∃ w p, runText F defsText queryText fmt single files = .rejected w p) ∨
    runText F defsText queryText fmt single files = .notCreateTable ∨
    runText F defsText queryText fmt single files = .notAQuery ∨
    (∃ w, runText F defsText queryText fmt single files = .skip w) := by
  have hp := runText_never_panics F defsText queryText fmt single files
  cases h : runText F defsText queryText fmt single files with
  | records e n ls => exact .inl ⟨e, n, ls, rfl⟩
  | rejected w p => exact .inr (.inl ⟨w, p, rfl⟩)
  | notCreateTable => exact .inr (.inr (.inl rfl))
  | notAQuery => exact .inr (.inr (.inr (.inl rfl)))
  | skip w => exact .inr (.inr (.inr (.inr ⟨w, rfl⟩)))
  | panic site => exact absurd h (hp site)

/-- **The engine text is the text of the printed tables** (supports C17 together with C03 C04 C05 C07 C08): on every
prepared run the lines `Model/Exec.lean` prints (the object of the engine theorems) are the text-format rendering of
exactly the sequence of result tables the end-to-end model hands to the printer model `Print.printAll`, and its
`RunOut` is `runBatch`'s — so what the engine theorems say about printed text records they say about the tables the
printer receives in any format. -/
theorem printed_is_text_of_calls (F : Facts) (tables : List Table) (stmt : Stmt) (fromTable : String) (join : Option LJoin)
    (files : List (List Nat)) (p : Prepared) (h : prepare F tables stmt fromTable join files = some p) :
    ∃ t, runStatement F tables stmt fromTable join files = some t ∧
      t.out = runBatch F.eval p.qy p.joined p.files none ∧
      renderCalls t.calls = (runBatch F.eval p.qy p.joined p.files none).printed ∧
      CallsAligned t.calls := by
  obtain ⟨hr, _⟩ := runStatement_of_prepare F tables stmt fromTable join files p h
  refine ⟨_, hr, runBatchT_some_out _ _ _ _, ?_, runBatchT_aligned _ _ _ _⟩
  rw [← runBatchT_some_out, runBatchT_printed]

/-- **End to end, a SELECT is its specification** (supports C03 — rows, `*`, `input`, column names as lowered —,
C05 with a join, C07 with LIMIT, C08 with DISTINCT). When the two texts parse and lower to table definitions and to a
non-aggregate statement, the tables it names exist (`prepare`), and the statement-level specification answers on the
rows extracted from the file bytes (`batchBlocks`: every line readable, every expression with a value), then the
end-to-end run reports `Ok`, has consumed exactly the lines the specification says, and prints — in the requested
format, through the printer model — a sequence of aligned result tables whose text rendering is exactly the
specification's output `Spec.Select.runOf` (by `runBatch_select_eq_spec`). The hypotheses `hc`, `hp`, `hr` only say
that the case shipped the facts the run needs (else the answer is `skip`). -/
theorem runText_select_is_spec (F : Facts) (defsText queryText : List Char) (fmt : Print.Format) (single : Bool)
    (files : List (List Nat)) (defs : LStmt) (tables : List Table) (s : SelectStmt) (fromTable : String)
    (file : Option String) (join : Option LJoin) (p : Prepared) (blocks : List (List (List Value)))
    (hc : classesCover F defsText = true ∧ classesCover F queryText = true)
    (hd : parseText (lexOracles F) (regexValidFn F) defsText = .stmt defs)
    (hp : (createPatterns defs).all (fun re => ((Utf8.decode re).bind (regexValidOf F)).isSome) = true)
    (hq : parseText (lexOracles F) (regexValidFn F) queryText = .stmt (.select s fromTable file join))
    (ht : addTables defs = some tables)
    (hprep : prepare F tables (.select s) fromTable join files = some p)
    (hb : Spec.Select.batchBlocks F.eval p.qy s p.joined p.files = some blocks)
    (hr : realsCover F (runBatchT F.eval p.qy (some p.joined) p.files).calls = true) :
    ∃ calls, runText F defsText queryText fmt single files =
        .records none (Spec.Select.runOf p.qy s blocks).totalLines
          ((Print.printAll (realOracle F) fmt true (printCalls single calls)).map Print.Line.bytes) ∧
      renderCalls calls = (Spec.Select.runOf p.qy s blocks).printed ∧ CallsAligned calls := by
  obtain ⟨_, hstmt⟩ := runStatement_of_prepare F tables (.select s) fromTable join files p hprep
  exact runText_records_of_prepared (front_eq_run_iff.2 ⟨defs, _, hc, hd, hp, hq, ht, rfl⟩) fmt single files p hprep _
    (runBatch_select_eq_spec F.eval p.qy s hstmt p.joined p.files blocks hb) rfl rfl hr

/-- **An aggregate statement that comes out of `parsing::parse` is well-formed** (supports C04): `StmtWF`, the side
condition of `batch_model_eq_spec` (the aggregates of HAVING listed as the HAVING walk meets them), holds for every
aggregate statement any text lowers to — so the refinement applies to the real front end, not only to statements
constructed by hand -/
theorem lowered_aggregate_is_wellformed (lo : Lex.Oracles) (rv : List Char → Bool) (text : List Char) (a : AggStmt)
    (f : String) (file : Option String) (j : Option LJoin) (h : parseText lo rv text = .stmt (.aggregate a f file j)) :
    StmtWF a :=
  parseText_aggregate_wf lo rv text a f file j h

/-- **End to end, an aggregate statement is its specification** (supports C04; C07 / C08 for aggregates). When the
texts lower to table definitions and to an aggregate statement, the FROM table exists, and `Spec.Agg.batch` answers on
the extracted rows without naming a known deviation class (D10, D15), the end-to-end run reports `Ok`, counts the
lines the specification counts, and prints — in the requested format — aligned result tables whose text rendering is
the specification's table (`batch_model_eq_spec`, with `StmtWF` discharged by `lowered_aggregate_is_wellformed`). -/
theorem runText_agg_is_spec (F : Facts) (defsText queryText : List Char) (fmt : Print.Format) (single : Bool)
    (files : List (List Nat)) (defs : LStmt) (tables : List Table) (a : AggStmt) (fromTable : String)
    (file : Option String) (join : Option LJoin) (p : Prepared) (ro : RunOut)
    (hc : classesCover F defsText = true ∧ classesCover F queryText = true)
    (hd : parseText (lexOracles F) (regexValidFn F) defsText = .stmt defs)
    (hp : (createPatterns defs).all (fun re => ((Utf8.decode re).bind (regexValidOf F)).isSome) = true)
    (hq : parseText (lexOracles F) (regexValidFn F) queryText = .stmt (.aggregate a fromTable file join))
    (ht : addTables defs = some tables)
    (hprep : prepare F tables (.aggregate a) fromTable join files = some p)
    (hb : Spec.Agg.batch F.eval p.qy a p.joined p.files = some (ro, ""))
    (hok : ro.error = none ∧ ro.skipped = none)
    (hr : realsCover F (runBatchT F.eval p.qy (some p.joined) p.files).calls = true) :
    ∃ calls, runText F defsText queryText fmt single files =
        .records none ro.totalLines
          ((Print.printAll (realOracle F) fmt true (printCalls single calls)).map Print.Line.bytes) ∧
      renderCalls calls = ro.printed ∧ CallsAligned calls := by
  obtain ⟨_, hstmt⟩ := runStatement_of_prepare F tables (.aggregate a) fromTable join files p hprep
  have hwf := lowered_aggregate_is_wellformed _ _ _ a fromTable file join hq
  exact runText_records_of_prepared (front_eq_run_iff.2 ⟨defs, _, hc, hd, hp, hq, ht, rfl⟩) fmt single files p hprep ro
    (Props.C04.batch_model_eq_spec hstmt hwf p.joined p.files hb) hok.1 hok.2 hr

/-- **Only the statements matter** (supports C20): two definition texts that lower to the same statement — whatever
their letter case, whitespace, line breaks, comments, trailing `;` — give the same end-to-end answer on every query,
every input and every format (likewise for two query texts: the run reads nothing of a text but the statement) -/
theorem runText_depends_on_statements (F : Facts) (defs₁ defs₂ query₁ query₂ : List Char) (fmt : Print.Format)
    (single : Bool) (files : List (List Nat)) (d q : LStmt)
    (hc₁ : classesCover F defs₁ = true ∧ classesCover F query₁ = true)
    (hc₂ : classesCover F defs₂ = true ∧ classesCover F query₂ = true)
    (hd₁ : parseText (lexOracles F) (regexValidFn F) defs₁ = .stmt d)
    (hd₂ : parseText (lexOracles F) (regexValidFn F) defs₂ = .stmt d)
    (hp : (createPatterns d).all (fun re => ((Utf8.decode re).bind (regexValidOf F)).isSome) = true)
    (hq₁ : parseText (lexOracles F) (regexValidFn F) query₁ = .stmt q)
    (hq₂ : parseText (lexOracles F) (regexValidFn F) query₂ = .stmt q) :
    runText F defs₁ query₁ fmt single files = runText F defs₂ query₂ fmt single files := by
  rw [runText_eq_runLowered F defs₁ query₁ fmt single files d q hc₁ hd₁ hp hq₁,
    runText_eq_runLowered F defs₂ query₂ fmt single files d q hc₂ hd₂ hp hq₂]

/-- what of a token vector the parser and the lowering are allowed to look at for the statement: the tokens, not
their locations (locations only ever enter error values and the `loc` fields of the parse tree, which the lowering
copies into conversion errors only) -/
def LocationBlind (rv : List Char → Bool) : Prop :=
  ∀ ts₁ ts₂ : List PTok, ts₁.map (·.tok) = ts₂.map (·.tok) → ∀ s, parseToks rv ts₁ = .stmt s → parseToks rv ts₂ = .stmt s

/-- **Parser and lowering are location-blind** (supports C20): proved for the six expression functions
(`Lemmas/ParseLoc.lean` `strip_all`), the whole statement parser — SELECT, JOIN, the clause loop, CREATE TABLE, column
definitions, types — (`Lemmas/ParseStripStmt.lean` `parseTokens_strip`: on the token vector with all locations reset
`Parser::parse` answers the same tree up to locations, or the same error kind) and the lowering
(`Lemmas/LowerStrip.lean` `lowerStatement_erase`: trees equal up to locations lower to the same statement, or to a
conversion error of the same kind). -/
theorem location_blind (rv : List Char → Bool) : LocationBlind rv :=
  fun ts₁ ts₂ h s h₁ => parseToks_stmt_of_same_tokens rv ts₁ ts₂ h s h₁

/-- … and in full: the same tokens at other locations give the same answer up to the locations inside errors — the
same statement, or a parser / conversion error of the same kind -/
theorem parse_answer_depends_on_tokens_only (rv : List Char → Bool) (ts₁ ts₂ : List PTok)
    (h : ts₁.map (·.tok) = ts₂.map (·.tok)) : (parseToks rv ts₁).stripLoc = (parseToks rv ts₂).stripLoc :=
  parseToks_locations_irrelevant rv ts₁ ts₂ h

/-- **Layout invariance of the front end** (supports C20): two texts that are layouts of the same lexemes
(`Props/C20.lean` `layout_invariance`: they differ in letter case of keywords, whitespace, line breaks, comments,
leading zeros, string escapes) parse and lower to the same statement — from the tokenizer's `layout_invariance`
(same tokens, other locations) and `location_blind`. -/
theorem parseText_layout_invariance (o : Lex.Oracles) (rv : List Char → Bool)
    (L₁ L₂ : Lex.Layout) (h₁ : L₁.Ok o) (h₂ : L₂.Ok o) (same : L₁.lexemes.map (·.tok o) = L₂.lexemes.map (·.tok o))
    (s : LStmt) (h : parseText o rv L₁.text = .stmt s) : parseText o rv L₂.text = .stmt s := by
  obtain ⟨ts₁, -, ht₁, -, -⟩ := parseText_stmt_inv h
  have hinv := Props.C20.layout_invariance o L₁ L₂ h₁ h₂ same
  unfold Lex.tokens at hinv
  rw [ht₁] at hinv
  cases ht₂ : Lex.tokenize o L₂.text with
  | ok ts₂ =>
    rw [ht₂] at hinv
    rw [parseText_of_tokenize ht₁] at h
    rw [parseText_of_tokenize ht₂]
    exact location_blind rv ts₁ ts₂ (Option.some.inj hinv) s h
  | error l e => rw [ht₂] at hinv; cases hinv
  | missing w => rw [ht₂] at hinv; cases hinv

/-- **Same statement, therefore same output** (C20 end to end): definition texts and query texts that are layouts of
the same lexemes (letter case of keywords, whitespace, line breaks, comments, …) give the same end-to-end answer — the
same printed records or the same error — on every input, every format and every state of the outside world, whenever
the first pair lowers to statements (`parseText_layout_invariance` for both texts, then
`runText_depends_on_statements`). -/
theorem same_statement_same_output (F : Facts) (D₁ D₂ Q₁ Q₂ : Lex.Layout)
    (hD₁ : D₁.Ok (lexOracles F)) (hD₂ : D₂.Ok (lexOracles F)) (hQ₁ : Q₁.Ok (lexOracles F)) (hQ₂ : Q₂.Ok (lexOracles F))
    (sameD : D₁.lexemes.map (·.tok (lexOracles F)) = D₂.lexemes.map (·.tok (lexOracles F)))
    (sameQ : Q₁.lexemes.map (·.tok (lexOracles F)) = Q₂.lexemes.map (·.tok (lexOracles F)))
    (fmt : Print.Format) (single : Bool) (files : List (List Nat)) (d q : LStmt)
    (hc₁ : classesCover F D₁.text = true ∧ classesCover F Q₁.text = true)
    (hc₂ : classesCover F D₂.text = true ∧ classesCover F Q₂.text = true)
    (hd : parseText (lexOracles F) (regexValidFn F) D₁.text = .stmt d)
    (hp : (createPatterns d).all (fun re => ((Utf8.decode re).bind (regexValidOf F)).isSome) = true)
    (hq : parseText (lexOracles F) (regexValidFn F) Q₁.text = .stmt q) :
    runText F D₁.text Q₁.text fmt single files = runText F D₂.text Q₂.text fmt single files :=
  runText_depends_on_statements F D₁.text D₂.text Q₁.text Q₂.text fmt single files d q hc₁ hc₂ hd
    (parseText_layout_invariance _ _ D₁ D₂ hD₁ hD₂ sameD d hd) hp hq
    (parseText_layout_invariance _ _ Q₁ Q₂ hQ₁ hQ₂ sameQ q hq)

/-! ### non-vacuity: a concrete run through every stage (kernel-evaluated) -/

/-- the whole pipeline on raw text and raw bytes: two records in the CSV format, the header once, before the first -/
example : recordsOf (runText exFacts exDefs "select k, v + 1, v + 1 from t where v > 0".toList (.csv [59]) false [strBytes "a;1\r\nb;2"]) =
    some (none, 2, [strBytes "k;p1;p2", strBytes "'a';2;2", strBytes "'b';3;3"]) := by
  rw [exRun, String.toList_ofList]; decide +kernel

/-- … and an aggregate statement in the JSON format -/
example : recordsOf (runText exFacts exDefs "SELECT COUNT(*), MAX(v) FROM t".toList .json true [strBytes "a;1\nb;2\n", strBytes "zzz\n"]) =
    some (none, 3, [strBytes "{\"count0\":2,\"max1\":2}"]) := by
  rw [exRun, String.toList_ofList]; decide +kernel

/-- a statement over a table that is not defined: `TableNotFound` after the first line -/
example : recordsOf (runText exFacts exDefs "SELECT x FROM nosuch".toList .text false [strBytes "a;1\n"]) =
    some (some .tableNotFound, 1, []) := by
  rw [exRun, String.toList_ofList]; decide +kernel

/-- the hypotheses of `runText_select_is_spec` hold together on a concrete invocation: both texts lower, the table
exists, the specification answers on the extracted rows, every REAL rendering needed is there -/
def exSelectHyps (F : Facts) (defsText queryText : List Char) (files : List (List Nat)) : Bool :=
  classesCover F defsText && classesCover F queryText &&
  match parseText (lexOracles F) (regexValidFn F) defsText, parseText (lexOracles F) (regexValidFn F) queryText with
  | .stmt defs, .stmt (.select s fromTable _ join) =>
    (createPatterns defs).all (fun re => ((Utf8.decode re).bind (regexValidOf F)).isSome) &&
    match addTables defs with
    | some tables =>
      match prepare F tables (.select s) fromTable join files with
      | some p => (Spec.Select.batchBlocks F.eval p.qy s p.joined p.files).isSome &&
          realsCover F (runBatchT F.eval p.qy (some p.joined) p.files).calls
      | none => false
    | none => false
  | _, _ => false

example : exSelectHyps exFacts exDefs "select distinct k, v + 1 from t where v > 0 limit 5".toList [strBytes "a;1\r\nb;2", strBytes "zzz\na;1\n"] = true := by
  unfold exDefs; rw [String.toList_ofList, String.toList_ofList, exFacts_eq]
  unfold exSelectHyps; simp only [parseText_eq_K]
  decide +kernel

/-- … and those of `runText_agg_is_spec` (the specification answers with an empty deviation class) -/
def exAggHyps (F : Facts) (defsText queryText : List Char) (files : List (List Nat)) : Bool :=
  classesCover F defsText && classesCover F queryText &&
  match parseText (lexOracles F) (regexValidFn F) defsText, parseText (lexOracles F) (regexValidFn F) queryText with
  | .stmt defs, .stmt (.aggregate a fromTable _ join) =>
    (createPatterns defs).all (fun re => ((Utf8.decode re).bind (regexValidOf F)).isSome) &&
    match addTables defs with
    | some tables =>
      match prepare F tables (.aggregate a) fromTable join files with
      | some p =>
        (match Spec.Agg.batch F.eval p.qy a p.joined p.files with
          | some (ro, cls) => cls == "" && ro.error.isNone && ro.skipped.isNone && ro.totalLines == 3
          | none => false) &&
          realsCover F (runBatchT F.eval p.qy (some p.joined) p.files).calls
      | none => false
    | none => false
  | _, _ => false

example : exAggHyps exFacts exDefs "SELECT k, COUNT(*), MAX(v) FROM t GROUP BY k HAVING COUNT(*) > 0".toList [strBytes "a;1\nb;2\n", strBytes "a;1"] = true := by
  unfold exDefs; rw [String.toList_ofList, String.toList_ofList, exFacts_eq]
  unfold exAggHyps; simp only [parseText_eq_K]
  decide +kernel

/-- `runText_depends_on_statements` on two layouts of the same texts (keyword case, line breaks, a comment, `;`) -/
example :
    recordsOf (runText exFacts exDefs "SELECT k FROM t WHERE v > 1".toList .text false [strBytes "a;1\nb;2\n"]) =
    recordsOf (runText exFacts "create table t(line =\n'^([a-z]+);([0-9]+)$', -- the pattern\n line[1] => k text, line[2] => v int) ;".toList
      "select k\nfrom t -- rows\n where v > 1;".toList .text false [strBytes "a;1\nb;2\n"]) := by
  rw [exRun, String.toList_ofList, String.toList_ofList, String.toList_ofList, exFacts_eq, runText_eq_K]; decide +kernel

end Sqlgrep.Props.Pipeline
