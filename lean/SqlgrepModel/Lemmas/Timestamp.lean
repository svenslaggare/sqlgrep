import SqlgrepModel.Model.ExtractSpec
import SqlgrepModel.Lemmas.Civil
/-
`create_timestamp` never alters a part: the civil fields read back from the timestamp value are the
numbers that were put in (year, month, day, hour, minute, second, microsecond incl. the leap-second form).
The second half is extraction specification: `storeParts` (the listed parts as integers that fit their fields) and the
two directions between it and a TIMESTAMP column (`specTsFrom_of_stored`, `specTsFrom_nonnull`), for C01.
-/
namespace Sqlgrep.Extract
open Lit

/-- the civil fields of a TIMESTAMP value in UTC (inverse of `mkTimestamp`) -/
def tsFields : Value → Option TsParts
  | .timestamp d s f =>
    let c := Civil.civilOfDays d
    some { year := c.1, month := c.2.1, day := c.2.2,
           hour := s.toNat / 3600, minute := s.toNat % 3600 / 60, second := s.toNat % 60,
           micro := f.toNat / 1000 }
  | _ => none

theorem mkTimestamp_some_iff (y : Int) (mo d h mi s us : Nat) (t : Value) :
    mkTimestamp y mo d h mi s us = some t ↔
      Civil.validDate y mo d = true ∧ us * 1000 < 4294967296 ∧ Civil.validTimeNano h mi s (us * 1000) = true ∧
      t = .timestamp (Civil.daysFromCE y mo d) ((h * 3600 + mi * 60 + s : Nat) : Int) ((us * 1000 : Nat) : Int) := by
  unfold mkTimestamp
  split
  · rename_i hc
    simp only [Bool.and_eq_true, decide_eq_true_eq] at hc
    simp only [Option.some.injEq]
    constructor
    · intro h; exact ⟨hc.1.1, hc.1.2, hc.2, h.symm⟩
    · intro h; exact h.2.2.2.symm
  · rename_i hc
    simp only [Bool.and_eq_true, decide_eq_true_eq] at hc
    simp only [reduceCtorEq, false_iff]
    intro h
    exact hc ⟨⟨h.1, h.2.1⟩, h.2.2.1⟩

theorem mkTimestamp_fields (y : Int) (mo d h mi s us : Nat) (t : Value)
    (hm : mkTimestamp y mo d h mi s us = some t) :
    tsFields t = some { year := y, month := mo, day := d, hour := h, minute := mi, second := s, micro := us } := by
  obtain ⟨hd, _, ht, rfl⟩ := (mkTimestamp_some_iff y mo d h mi s us t).1 hm
  unfold Civil.validTimeNano at ht
  simp only [Bool.and_eq_true, decide_eq_true_eq] at ht
  obtain ⟨⟨⟨hh, hmi⟩, hs⟩, _⟩ := ht
  have hc := Civil.civilOfDays_daysFromCE y mo d hd
  unfold tsFields
  dsimp only
  rw [hc, Int.toNat_natCast, Int.toNat_natCast]
  have e : (h * 3600 + mi * 60 + s) / 3600 = h ∧ (h * 3600 + mi * 60 + s) % 3600 / 60 = mi ∧
      (h * 3600 + mi * 60 + s) % 60 = s := by omega
  rw [e.1, e.2.1, e.2.2, Nat.mul_div_cancel us (by decide)]

/-- all listed parts denote integers that fit their fields: the stored parts -/
def storeParts (micros : Bool) : List PartVal → Nat → TsParts → Option TsParts
  | [], _, p => some p
  | .num n :: rest, idx, p =>
    match setPart micros idx n p with
    | some p' => storeParts micros rest (idx + 1) p'
    | none => none
  | _ :: _, _, _ => none

theorem specTsFrom_of_stored (c : Column) :
    ∀ (parts : List PartVal) (idx : Nat) (p p' : TsParts) (t : Value),
      storeParts c.options.microseconds parts idx p = some p' →
      mkTimestamp p'.year p'.month p'.day p'.hour p'.minute p'.second p'.micro = some t →
      specTsFrom c parts idx p = t := by
  intro parts
  induction parts with
  | nil =>
    intro idx p p' t hs hm
    simp only [storeParts, Option.some.injEq] at hs
    subst hs
    simp only [specTsFrom, hm]
  | cons a rest ih =>
    intro idx p p' t hs hm
    cases a with
    | absent => simp [storeParts] at hs
    | notLit => simp [storeParts] at hs
    | num n =>
      simp only [storeParts] at hs
      simp only [specTsFrom]
      cases hsp : setPart c.options.microseconds idx n p with
      | none => rw [hsp] at hs; cases hs
      | some q => rw [hsp] at hs; exact ih (idx + 1) q p' t hs hm

theorem specTsFrom_nonnull (c : Column) (hd : c.defaultValue = .null) :
    ∀ (parts : List PartVal) (idx : Nat) (p : TsParts),
      (specTsFrom c parts idx p).isNull = false →
      ∃ p', storeParts c.options.microseconds parts idx p = some p' ∧
        mkTimestamp p'.year p'.month p'.day p'.hour p'.minute p'.second p'.micro = some (specTsFrom c parts idx p) ∧
        tsFields (specTsFrom c parts idx p) = some p' := by
  intro parts
  induction parts with
  | nil =>
    intro idx p h
    simp only [specTsFrom] at h ⊢
    cases hm : mkTimestamp p.year p.month p.day p.hour p.minute p.second p.micro with
    | none => rw [hm, hd] at h; cases h
    | some t => exact ⟨p, rfl, hm, mkTimestamp_fields _ _ _ _ _ _ _ t hm⟩
  | cons a rest ih =>
    intro idx p h
    cases a with
    | absent => simp [specTsFrom, Value.isNull] at h
    | notLit => simp [specTsFrom, Value.isNull] at h
    | num n =>
      simp only [specTsFrom] at h ⊢
      cases hsp : setPart c.options.microseconds idx n p with
      | none => rw [hsp, hd] at h; cases h
      | some q =>
        rw [hsp] at h
        simp only [storeParts, hsp]
        exact ih (idx + 1) q h

end Sqlgrep.Extract
