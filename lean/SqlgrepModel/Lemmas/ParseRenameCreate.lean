import SqlgrepModel.Lemmas.ParseRenameStmt
import SqlgrepModel.Lemmas.ParseRenameTree
/-
`parse_multiple_create_table` / `parse_create_table` — pattern definitions with `split` / `match`, columns read from
pattern groups, from a pattern of their own, from a JSON path; `parse_define_column` with NOT NULL / DEFAULT / TRIM /
CONVERT / MICROSECONDS; `parse_type` — under a morphism of the parser's input (`Lemmas/ParseMorph.lean` for the
expression parser behind DEFAULT). For the relabelling with the locations left alone: `Parser::parse` on a token vector
that starts with CREATE is equivariant under respelling identifiers: on the vector with EVERY identifier `n` replaced by
`ρ n` the answer is the tree with every name respelled (`POp.renCreate`: table, pattern, column names, JSON fields;
types, modes and options are the same) or the error with its payload respelled.

What `ρ` must satisfy beyond `NameMap`: `NotDefinedType` quotes `name ++ "[]"…` — `ρ` commutes with the appended
brackets (`brackets`); the parser makes up pattern names `_pattern<n>` — `ρ` fixes them (`inline`). Both hold for
lower-casing (`createNameMap_lowerChars`) and for every respelling of letters only.
-/
namespace Sqlgrep

def PRegexRef.renAll (ρ : List Char → List Char) (r : PRegexRef) : PRegexRef := { r with pattern := ρ r.pattern }

def PJsonStep.renAll (ρ : List Char → List Char) : PJsonStep → PJsonStep
  | .field n => .field (ρ n)
  | .index i => .index i

def PColParsing.renAll (ρ : List Char → List Char) : PColParsing → PColParsing
  | .regex r => .regex (r.renAll ρ)
  | .multiRegex rs => .multiRegex (rs.map (PRegexRef.renAll ρ))
  | .json p => .json (p.map (PJsonStep.renAll ρ))

def PColDef.renAll (ρ : List Char → List Char) (c : PColDef) : PColDef :=
  { c with parsing := c.parsing.renAll ρ, name := ρ c.name }

def renPatterns (ρ : List Char → List Char) (ps : Parse.Patterns) : Parse.Patterns := ps.map (fun p => (ρ p.1, p.2))

def PCreate.renAll (ρ : List Char → List Char) (c : PCreate) : PCreate :=
  { c with name := ρ c.name, patterns := renPatterns ρ c.patterns, columns := c.columns.map (PColDef.renAll ρ) }

/-- respell every name of a CREATE TABLE tree: the table, the patterns, the columns, the JSON fields -/
def POp.renCreate (ρ : List Char → List Char) : POp → POp
  | .createTable c => .createTable (c.renAll ρ)
  | .multiple cs => .multiple (cs.map (PCreate.renAll ρ))
  | t => t

def ParseOutcome.renCreate (ρ : List Char → List Char) : ParseOutcome → ParseOutcome
  | .tree t => .tree (t.renCreate ρ)
  | .error e => .error (e.ren ρ)
  | .fuel => .fuel
  | .panic => .panic

def PCreate.relabelAll (ℓ : Loc → Loc) (ρ : List Char → List Char) (c : PCreate) : PCreate :=
  { c.renAll ρ with loc := ℓ c.loc, endLoc := ℓ c.endLoc }

/-- what the CREATE TABLE parser needs of a respelling -/
structure CreateNameMap (ρ : List Char → List Char) : Prop where
  names : NameMap ρ
  brackets : ∀ n k, ρ (n ++ Parse.bracketSuffix k) = ρ n ++ Parse.bracketSuffix k
  inline : ∀ k, ρ (Parse.inlinePatternName k) = Parse.inlinePatternName k

namespace Parse

variable {ρ : List Char → List Char}

theorem mkErr_ren_any {α} (s : PSt) (k : PErrKind) (hk : k.ren ρ = k) (f : α → α) :
    (mkErr (s.ren ρ) k : PRes α) = (mkErr s k).ren ρ f := mkErr_ren ρ s k f hk

theorem PJsonStep.renAll_id (j : PJsonStep) : j.renAll id = j := by cases j <;> rfl

theorem PColDef.renAll_id : PColDef.renAll id = id := by
  funext c
  have hp : c.parsing.renAll id = c.parsing := by
    cases c.parsing with
    | regex r => rfl
    | multiRegex rs => exact congrArg PColParsing.multiRegex (List.map_id' rs)
    | json p => exact congrArg PColParsing.json ((List.map_congr_left fun j _ => PJsonStep.renAll_id j).trans (List.map_id' p))
  rw [PColDef.renAll, hp]; rfl

theorem createNameMap_id : CreateNameMap id := ⟨nameMap_id, fun _ _ => rfl, fun _ => rfl⟩

variable {ℓ : Loc → Loc} {β : Type}

theorem parseRegexMode.match_1_ren (t : Tok) (a1 : List Char → β) (a2 : Tok → β) :
    parseRegexMode.match_1 (fun _ => β) (t.ren ρ) a1 a2 =
      parseRegexMode.match_1 (fun _ => β) t (fun i => a1 (ρ i)) (fun t => a2 (t.ren ρ)) := by
  cases t <;> rfl

theorem parseDefineColumn.match_4_ren (t : Tok) (a1 a2 : Unit → β) (a3 : List Char → β) (a4 : Tok → β) :
    parseDefineColumn.match_4 (fun _ => β) (t.ren ρ) a1 a2 a3 a4 =
      parseDefineColumn.match_4 (fun _ => β) t a1 a2 (fun i => a3 (ρ i)) (fun t => a4 (t.ren ρ)) := by
  cases t <;> try rfl
  rename_i k; cases k <;> rfl

theorem parseDefineColumn.match_1_relabel (e : PExpr) (a1 : Loc → Value → β) (a2 : PExpr → β) :
    parseDefineColumn.match_1 (fun _ => β) (e.mapAll ℓ ρ ρ) a1 a2 =
      parseDefineColumn.match_1 (fun _ => β) e (fun l v => a1 (ℓ l) v) (fun e => a2 (e.mapAll ℓ ρ ρ)) := by
  cases e <;> rfl

theorem colItem.match_9_ren (t : Tok) (a1 a2 : List Char → β) (a3 a4 : Unit → β) (a5 : Tok → β) :
    colItem.match_9 (fun _ => β) (t.ren ρ) a1 a2 a3 a4 a5 =
      colItem.match_9 (fun _ => β) t (fun i => a1 (ρ i)) a2 a3 a4 (fun t => a5 (t.ren ρ)) := by
  cases t <;> rfl

/-- boundary tokens are none of the tokens `parse_define_column` looks for behind the type -/
theorem boundary_ne {t : Tok} (h : Boundary t) : t ≠ .kw .not ∧ t ≠ .kw .default ∧ ∀ i, t ≠ .ident i := by
  rcases boundary_cases h with e | e | e | e | e | e | e | e <;> subst e <;> simp

theorem parseRegexMode_atB {s : PSt} (h : Boundary s.cur.tok) : parseRegexMode s = .ok .captures s := by
  unfold parseRegexMode
  rcases boundary_cases h with h | h | h | h | h | h | h | h <;> rw [h]

theorem colItem_atB (T : PrecTables) (n : Nat) (ps : Patterns) (cs : List PColDef) {s : PSt} (h : Boundary s.cur.tok) :
    colItem T n ps cs s = mkErr s .expectedColumnDefinitionStart := by
  unfold colItem
  rcases boundary_cases h with h | h | h | h | h | h | h | h <;> rw [h]

theorem parsingOfRefs_ren (rs : List PRegexRef) :
    parsingOfRefs (rs.map (PRegexRef.renAll ρ)) = (parsingOfRefs rs).renAll ρ := by
  cases rs with
  | nil => rfl
  | cons r rs => cases rs <;> rfl

theorem renPatterns_length (ps : Patterns) : (renPatterns ρ ps).length = ps.length := by simp [renPatterns]

/-- the value `colItem` returns, respelled -/
def renItem (ρ : List Char → List Char) (r : Option (Patterns × List PColDef)) : Option (Patterns × List PColDef) :=
  r.map (fun pc => (renPatterns ρ pc.1, pc.2.map (PColDef.renAll ρ)))

theorem colLoop.match_1_ren (r : Option (Patterns × List PColDef)) (a1 : Unit → β) (a2 : Patterns × List PColDef → β) :
    colLoop.match_1 (fun _ => β) (renItem ρ r) a1 a2 =
      colLoop.match_1 (fun _ => β) r a1 (fun pc => a2 (renPatterns ρ pc.1, pc.2.map (PColDef.renAll ρ))) := by
  cases r <;> rfl

/-! ### `parse_create_table` under a morphism of the input

Up to the closing `;` the functions commute with every morphism whose respelling is a `CreateNameMap`; `parse_create_table`
itself and the loop over the statements read the `;` and need a morphism without opaque tokens. -/

section create
variable {T : PrecTables} (τ : Morph T)

theorem parseRegexMode_morph (s : PSt) : τ.res id (parseRegexMode s) = parseRegexMode (τ.g s) := by
  by_cases ho : τ.Opq s.cur.tok
  · rw [parseRegexMode_atB (τ.opq_boundary _ ho), parseRegexMode_atB (τ.opq_boundary _ (τ.opq s ho))]; rfl
  · have hco : ∀ n, lowerChars (τ.ρ n) = lowerChars n := τ.names.caseOnly
    unfold parseRegexMode
    simp only [parse_bind, τ.tok s ho, parseRegexMode.match_1_ren, hco]
    morph_walk τ [] []

theorem typeBrackets_morph : ∀ (n k : Nat) (s : PSt), τ.res id (typeBrackets n k s) = typeBrackets n k (τ.g s)
  | 0, _, _ => by rw [typeBrackets, typeBrackets]; rfl
  | n + 1, k, s => by
    rw [typeBrackets, typeBrackets]
    simp only [parse_bind]
    morph_walk τ [typeBrackets_morph n _ _] []

theorem refLoop_morph : ∀ (n : Nat) (acc : List PRegexRef) (s : PSt), ¬ τ.Opq s.cur.tok →
    τ.res (List.map (PRegexRef.renAll τ.ρ)) (refLoop n acc s) = refLoop n (acc.map (PRegexRef.renAll τ.ρ)) (τ.g s)
  | 0, _, _, _ => by rw [refLoop, refLoop]; rfl
  | n + 1, acc, s, hnb => by
    have ih : ∀ acc r s, ¬ τ.Opq s.cur.tok → τ.res (List.map (PRegexRef.renAll τ.ρ)) (refLoop n (acc ++ [r]) s) =
        refLoop n (acc.map (PRegexRef.renAll τ.ρ) ++ [r.renAll τ.ρ]) (τ.g s) := fun acc r s h =>
      (refLoop_morph n _ s h).trans (by rw [List.map_append]; rfl)
    rw [refLoop, refLoop]
    simp only [parse_bind]
    morph_walk τ [τ.consumeInt _, ih _ _ _ ‹_›] []
    simp only [PRes.map, List.map_append]; rfl

theorem optRefs_morph (n : Nat) (first : PRegexRef) (s : PSt) :
    τ.res (List.map (PRegexRef.renAll τ.ρ)) (optRefs n first s) = optRefs n (first.renAll τ.ρ) (τ.g s) := by
  unfold optRefs
  morph_walk τ [refLoop_morph τ n [_] _ ‹_›] []

theorem jsonLoop_morph : ∀ (n : Nat) (acc : List PJsonStep) (s : PSt),
    τ.res (List.map (PJsonStep.renAll τ.ρ)) (jsonLoop n acc s) = jsonLoop n (acc.map (PJsonStep.renAll τ.ρ)) (τ.g s)
  | 0, _, _ => by rw [jsonLoop, jsonLoop]; rfl
  | n + 1, acc, s => by
    have ih : ∀ acc r s, τ.res (List.map (PJsonStep.renAll τ.ρ)) (jsonLoop n (acc ++ [r]) s) =
        jsonLoop n (acc.map (PJsonStep.renAll τ.ρ) ++ [r.renAll τ.ρ]) (τ.g s) := fun acc r s =>
      (jsonLoop_morph n _ s).trans (by rw [List.map_append]; rfl)
    rw [jsonLoop, jsonLoop]
    simp only [parse_bind]
    morph_walk τ [τ.consumeInt _, ih _ _ _] []

variable (hρ : CreateNameMap τ.ρ)
include hρ

theorem parseType_morph (n : Nat) (s : PSt) : τ.res id (parseType n s) = parseType n (τ.g s) := by
  have hco : ∀ n, lowerChars (τ.ρ n) = lowerChars n := τ.names.caseOnly
  unfold parseType
  simp only [parse_bind]
  morph_walk τ [typeBrackets_morph τ n 0 _] [hco, τ.loc]
  exact congrArg (fun m => PRes.err ⟨_, .notDefinedType m⟩ _) (hρ.brackets _ _)

theorem parseDefineColumn_morph (n : Nat) (p : PColParsing) (s : PSt) :
    τ.res (PColDef.renAll τ.ρ) (parseDefineColumn T n p s) = parseDefineColumn T n (p.renAll τ.ρ) (τ.g s) := by
  have hco : ∀ n, lowerChars (τ.ρ n) = lowerChars n := τ.names.caseOnly
  unfold parseDefineColumn
  simp only [parse_bind]
  refine map_bind (τ.consumeIdentifier _) fun _ _ _ => map_bind (parseType_morph τ hρ n _) fun _ s2 _ => ?_
  -- the token behind the type
  by_cases ho : τ.Opq s2.cur.tok
  · have e1 := boundary_ne (τ.opq_boundary _ ho)
    have e2 := boundary_ne (τ.opq_boundary _ (τ.opq s2 ho))
    split
    · rename_i heq; exact absurd heq e1.1
    · rename_i heq; exact absurd heq e1.2.1
    · rename_i i heq; exact absurd heq (e1.2.2 i)
    · split
      · rename_i heq; exact absurd heq e2.1
      · rename_i heq; exact absurd heq e2.2.1
      · rename_i i heq; exact absurd heq (e2.2.2 i)
      · rfl
  · simp only [id_eq, τ.tok s2 ho, parseDefineColumn.match_4_ren, hco]
    split
    all_goals morph_walk τ [(morph_all τ n).p _] [parseDefineColumn.match_1_relabel]

theorem colItem_morph (n : Nat) (ps : Patterns) (cs : List PColDef) (s : PSt) :
    τ.res (renItem τ.ρ) (colItem T n ps cs s) =
      colItem T n (renPatterns τ.ρ ps) (cs.map (PColDef.renAll τ.ρ)) (τ.g s) := by
  have hcol := parseDefineColumn_morph τ hρ n
  have hrefs : ∀ refs s, τ.res (PColDef.renAll τ.ρ) (parseDefineColumn T n (parsingOfRefs refs) s) =
      parseDefineColumn T n (parsingOfRefs (refs.map (PRegexRef.renAll τ.ρ))) (τ.g s) := fun refs s => by
    rw [parsingOfRefs_ren]; exact hcol _ s
  have hown : ∀ k s, τ.res (PColDef.renAll τ.ρ) (parseDefineColumn T n (.regex ⟨inlinePatternName k, 1⟩) s) =
      parseDefineColumn T n (.regex ⟨inlinePatternName k, 1⟩) (τ.g s) := fun k s => by
    have h := hcol (.regex ⟨inlinePatternName k, 1⟩) s
    rwa [PColParsing.renAll, PRegexRef.renAll, hρ.inline] at h
  by_cases ho : τ.Opq s.cur.tok
  · rw [colItem_atB T n ps cs (τ.opq_boundary _ ho), colItem_atB T n _ _ (τ.opq_boundary _ (τ.opq s ho))]
    exact τ.mkErr s rfl _
  · unfold colItem
    simp +decide only [parse_bind, τ.tok s ho, colItem.match_9_ren, renPatterns_length]
    split
    · morph_walk τ [parseRegexMode_morph τ _, τ.consumeString _, τ.consumeInt _, optRefs_morph τ n ⟨_, _⟩ _, hrefs _ _] []
      all_goals simp [PRes.map, renItem, renPatterns]
    · morph_walk τ [hown _ _] []
      simp [PRes.map, renItem, renPatterns, hρ.inline]
    · morph_walk τ [jsonLoop_morph τ n [] _, hcol (.json _) _] [List.isEmpty_map]
      simp [PRes.map, renItem]
    · morph_walk τ [] []
    · exact τ.mkErr s rfl _

theorem colLoop_morph : ∀ (n : Nat) (ps : Patterns) (cs : List PColDef) (s : PSt),
    τ.res (fun pc => (renPatterns τ.ρ pc.1, pc.2.map (PColDef.renAll τ.ρ))) (colLoop T n ps cs s) =
      colLoop T n (renPatterns τ.ρ ps) (cs.map (PColDef.renAll τ.ρ)) (τ.g s)
  | 0, _, _, _ => by rw [colLoop, colLoop]; rfl
  | n + 1, ps, cs, s => by
    rw [colLoop, colLoop]
    simp only [parse_bind]
    morph_walk τ [colItem_morph τ hρ n _ _ _, colLoop_morph n _ _ _] [colLoop.match_1_ren]

variable (hτ : ∀ t, ¬ τ.Opq t)
include hτ

theorem parseCreateTable_morph (n : Nat) (s : PSt) :
    τ.res (PCreate.relabelAll τ.ℓ τ.ρ) (parseCreateTable T n s) = parseCreateTable T n (τ.g s) := by
  unfold parseCreateTable
  simp only [parse_bind]
  morph_walk τ [τ.next _ (hτ _), colLoop_morph τ hρ n [] [] _, τ.expectConsume (hτ _) (tok_ren_eq _ rfl) rfl _] [τ.loc]

/-- `fop` may be any map of statement trees that relabels the trees `parse_multiple_create_table` answers -/
theorem multiCreateLoop_morph {fop : POp → POp}
    (hcr : ∀ cs, fop (opOfCreates cs) = opOfCreates (cs.map (PCreate.relabelAll τ.ℓ τ.ρ))) : ∀ (n : Nat) (acc : List PCreate)
    (s : PSt), τ.res fop (multiCreateLoop T n acc s) =
      multiCreateLoop T n (acc.map (PCreate.relabelAll τ.ℓ τ.ρ)) (τ.g s)
  | 0, _, _ => by rw [multiCreateLoop, multiCreateLoop]; rfl
  | n + 1, acc, s => by
    have ih : ∀ acc c s, τ.res fop (multiCreateLoop T n (acc ++ [c]) s) =
        multiCreateLoop T n (acc.map (PCreate.relabelAll τ.ℓ τ.ρ) ++ [c.relabelAll τ.ℓ τ.ρ]) (τ.g s) := fun acc c s =>
      (multiCreateLoop_morph hcr n _ s).trans (by rw [List.map_append]; rfl)
    rw [multiCreateLoop, multiCreateLoop]
    simp only [parse_bind, ne_eq, ite_not]
    morph_walk τ [parseCreateTable_morph τ hρ hτ n _, ih _ _ _] []
    exact congrArg (PRes.ok · _) ((hcr _).trans (by rw [List.map_append]; rfl))

/-- the statement parser `Parser::parse` dispatches to -/
theorem parseStatement_morph {fop : POp → POp} (hsel : ∀ q, fop (.select q) = .select (q.relabelAll τ.ℓ τ.ρ))
    (hcr : ∀ cs, fop (opOfCreates cs) = opOfCreates (cs.map (PCreate.relabelAll τ.ℓ τ.ρ))) (n : Nat) (s : PSt) :
    τ.res fop (parseStatement T n s) = parseStatement T n (τ.g s) := by
  unfold parseStatement
  exact τ.ite (hτ _) (tok_ren_eq _ rfl) (fun _ _ => parseSelect_morph τ hτ hsel n s)
    (fun _ => multiCreateLoop_morph τ hρ hτ hcr n [] s)

end create

theorem opOfCreates_ren (cs : List PCreate) : opOfCreates (cs.map (PCreate.renAll ρ)) = (opOfCreates cs).renCreate ρ := by
  cases cs with
  | nil => rfl
  | cons c cs => cases cs <;> rfl

theorem parseTokens_create_ren (hρ : CreateNameMap ρ) {T : PrecTables} (hT : NoIdentOps T) (toks : List PTok)
    (hs : toks.head?.map (·.tok) = some (.kw .create)) :
    parseTokens T (toks.map (PTok.ren ρ)) = (parseTokens T toks).renCreate ρ := by
  refine (parseTokens_relabel (ℓ := id) (fop := POp.renCreate ρ) fun t ts ht n => parseOp_relabel ?_).trans ?_
  · have ht' : t.tok = .kw .create := by simpa [ht] using hs
    unfold parseStatement
    simp +decide only [relabel_cur_tok, ht', Tok.ren, if_false]
    exact multiCreateLoop_morph (Morph.relabel id hρ.names fun i => (hT _).trans (hT i).symm) hρ (fun _ h => h)
      (fun cs => (opOfCreates_ren cs).symm) n [] _
  · cases parseTokens T toks <;> rfl

theorem lowerChars_idem (s : List Char) : lowerChars (lowerChars s) = lowerChars s :=
  lowerChars_of_fixed _ (lowerChars_out_fixed s)

theorem lowerChars_bracketSuffix : ∀ k, lowerChars (bracketSuffix k) = bracketSuffix k
  | 0 => rfl
  | k + 1 => by
    have ih := lowerChars_bracketSuffix k
    show lowerChars ('[' :: ']' :: bracketSuffix k) = _
    rw [lowerChars_cons, lowerChars_cons ']', ih]
    rfl

theorem digit_fixed {c : Char} (h : c.isDigit = true) : lowerFixed c := by
  have hA : ('A' : Char).toNat = 65 := by decide
  have hZ : ('Z' : Char).toNat = 90 := by decide
  simp only [Char.isDigit, Bool.and_eq_true, decide_eq_true_eq] at h
  unfold lowerFixed
  simp only [char_le_iff, hA, hZ]
  have h0 : c.val.toNat = c.toNat := rfl
  have : c.toNat ≤ 57 := by have := h.2; rw [UInt32.le_iff_toNat_le] at this; simpa [h0] using this
  omega

theorem lowerChars_inlinePatternName (k : Nat) : lowerChars (inlinePatternName k) = inlinePatternName k := by
  apply lowerChars_of_fixed
  intro c hc
  unfold inlinePatternName at hc
  rcases List.mem_append.mp hc with h | h
  · have : ∀ c ∈ "_pattern".toList, lowerFixed c := by decide
    exact this c h
  · rw [Nat.toString_eq_ofList_toDigits] at h
    simp only [String.toList_ofList] at h
    exact digit_fixed (Nat.isDigit_of_mem_toDigits (by decide) (by decide) h)

/-- **spelling every identifier in lower case is a respelling the CREATE TABLE parser is equivariant under** -/
theorem createNameMap_lowerChars : CreateNameMap lowerChars where
  names :=
    { caseOnly := lowerChars_idem
      dot := fun a b => by rw [lowerChars_append, lowerChars_append]; rfl
      createArray := by decide
      extract := fun p => by
        rw [lowerChars_append, lowerChars_idem]
        have : lowerChars "timestamp_extract_".toList = "timestamp_extract_".toList := by decide
        rw [this] }
  brackets := fun n k => by rw [lowerChars_append, lowerChars_bracketSuffix]
  inline := lowerChars_inlinePatternName

end Parse
end Sqlgrep
