import SqlgrepModel.Lemmas.SelectEngine
import SqlgrepModel.Lemmas.Drive
/-
The batch loop (`runFile`, `runFiles`, `runBatch`) on a non-aggregate statement equals the specification
`Spec.Select.runOf` whenever the specification decides the run (`Spec.Select.batchBlocks = some _`):
induction over the lines with the invariant "memory = rows output so far, counter = their number, counter
below the limit".
-/
namespace Sqlgrep
open Sqlgrep.Spec.Select

/-- the rows of a line that LIMIT lets through when `k` rows were output before -/
def truncRows (lim : Option Nat) (k : Nat) (kept : List (List Value)) : List (List Value) :=
  match lim with
  | some n => kept.take (n - k)
  | none => kept

def reachedAt (lim : Option Nat) (k : Nat) : Bool :=
  match lim with
  | some n => decide (k ≥ n)
  | none => false

theorem printBlock_nil (names : List String) : printBlock names [] = [] := rfl

theorem updateLimit_tableOf (lim : Option Nat) (es : EngineState) (names : List String) (kept : List (List Value)) :
    (updateLimit true lim es (tableOf names kept)).1 =
        { es with numOut := es.numOut + (truncRows lim es.numOut kept).length } ∧
    piece (updateLimit true lim es (tableOf names kept)).2 = printBlock names (truncRows lim es.numOut kept) ∧
    (updateLimit true lim es (tableOf names kept)).2.reachedLimit =
        reachedAt lim (es.numOut + (truncRows lim es.numOut kept).length) := by
  cases kept with
  | nil => cases lim <;> simp [updateLimit, tableOf, appendRows, truncRows, piece, printBlock_nil, reachedAt]
  | cons x xs =>
    cases lim <;> simp [updateLimit, tableOf, appendRows, truncRows, piece, printBlock, reachedAt]

def keptBlocks (d : Bool) (seen : List (List Value)) (blocks : List (List (List Value))) : List (List (List Value)) :=
  if d then dedupBlocks tupleSame seen blocks else blocks

theorem keptBlocks_cons (d : Bool) (seen : List (List Value)) (b : List (List Value)) (bs : List (List (List Value))) :
    keptBlocks d seen (b :: bs) =
      keepRows d seen b :: keptBlocks d (seenAfter d seen (keepRows d seen b)) bs := by
  cases d <;> simp [keptBlocks, dedupBlocks, keepRows, seenAfter]

def limBlocks (lim : Option Nat) (k : Nat) (B : List (List (List Value))) : List (List (List Value)) :=
  match lim with
  | some n => takeBlocks (n - k) B
  | none => B

def limConsumed (lim : Option Nat) (k : Nat) (B : List (List (List Value))) : Nat :=
  match lim with
  | some n => consumed (n - k) B
  | none => B.length

theorem linesRows_cons_ok (O : Oracles) (qy : Query) (q : SelectStmt) (idx : JoinIndex) (l : Line) (ls : List Line)
    (blocks : List (List (List Value))) (h : linesRows O qy q idx (l :: ls) = .ok blocks) :
    ∃ b bs, lineRows O qy q idx l = .ok b ∧ linesRows O qy q idx ls = .ok bs ∧ blocks = b :: bs := by
  obtain ⟨b, hb, h⟩ := Outcome.bind_eq_ok h
  obtain ⟨bs, hbs, h⟩ := Outcome.bind_eq_ok h
  exact ⟨b, bs, hb, hbs, (Outcome.ok.inj h).symm⟩

theorem linesRows_length (O : Oracles) (qy : Query) (q : SelectStmt) (idx : JoinIndex) (ls : List Line)
    (blocks : List (List (List Value))) (h : linesRows O qy q idx ls = .ok blocks) : blocks.length = ls.length := by
  induction ls generalizing blocks with
  | nil => simp only [linesRows, Outcome.ok.injEq] at h; subst h; rfl
  | cons l ls ih =>
    obtain ⟨b, bs, _, h2, rfl⟩ := linesRows_cons_ok O qy q idx l ls blocks h
    simp [ih bs h2]

theorem keptBlocks_nil (d : Bool) (seen : List (List Value)) : keptBlocks d seen [] = [] := by
  cases d <;> rfl

theorem lim_nil (names : List String) (lim : Option Nat) (k : Nat) :
    render names (limBlocks lim k []) = [] ∧ limConsumed lim k [] = 0 := by
  cases lim with
  | none => exact ⟨rfl, rfl⟩
  | some n => exact ⟨rfl, by rw [limConsumed]; cases n - k <;> rfl⟩

/-- LIMIT at a block: with `k` rows out and the limit not reached, the block is cut to what is left (`truncRows`); if that
reaches the limit nothing follows and no further line is consumed, otherwise the rest goes on from `k` plus the block -/
theorem lim_cons (names : List String) (lim : Option Nat) (k : Nat) (kept : List (List Value)) (B : List (List (List Value)))
    (hk : reachedAt lim k = false) :
    render names (limBlocks lim k (kept :: B)) =
      printBlock names (truncRows lim k kept) ++
        (if reachedAt lim (k + (truncRows lim k kept).length) then []
         else render names (limBlocks lim (k + (truncRows lim k kept).length) B)) ∧
    limConsumed lim k (kept :: B) =
      1 + (if reachedAt lim (k + (truncRows lim k kept).length) then 0
           else limConsumed lim (k + (truncRows lim k kept).length) B) := by
  cases lim with
  | none => exact ⟨rfl, Nat.add_comm _ _⟩
  | some n =>
    have hlt : k < n := by simpa [reachedAt] using hk
    obtain ⟨m, hm⟩ : ∃ m, n - k = m + 1 := ⟨n - k - 1, by omega⟩
    simp only [limBlocks, limConsumed, truncRows, reachedAt, render, takeBlocks, List.flatMap_cons, List.length_take, hm, consumed]
    by_cases hreach : m + 1 ≤ kept.length
    · -- this block reaches the limit
      have hz : m + 1 - kept.length = 0 := by omega
      have hge : n ≤ k + (m + 1) := by omega
      simp [hreach, hz, hge, takeBlocks_zero_flatMap _ (printBlock_nil _)]
    · have hmin : min (m + 1) kept.length = kept.length := by omega
      have hlt' : ¬ k + kept.length ≥ n := by omega
      have e : n - (k + kept.length) = m + 1 - kept.length := by omega
      simp [hreach, hmin, hlt', e]

/-- **the loop in closed form.** Over readable lines with candidate rows `blocks`, started with memory `seen`,
`k` rows output so far and the limit not yet reached, the loop prints the blocks that DISTINCT keeps, cut to what
is left of LIMIT, counts the lines up to the one that reaches the limit and changes nothing else in its output (`.out`;
that it stops exactly when the limit is reached is `executeLine_select_reached`). -/
theorem runFile_select (O : Oracles) (qy : Query) (q : SelectStmt) (hq : qy.stmt = .select q) (idx : JoinIndex)
    (w : Bool) (fls : List FileLine) (hr : ∀ fl ∈ fls, fl.readable = true) :
    ∀ (blocks : List (List (List Value))) (ls : LoopState),
      linesRows O qy q idx (fls.map (·.line)) = .ok blocks →
      reachedAt q.limit ls.es.numOut = false →
      (runFile O qy idx w none fls ls).out =
        { ls.out with
          printed := ls.out.printed ++
            render (columnsOf qy q) (limBlocks q.limit ls.es.numOut (keptBlocks q.distinct ls.es.seen blocks))
          totalLines := ls.out.totalLines +
            limConsumed q.limit ls.es.numOut (keptBlocks q.distinct ls.es.seen blocks) } := by
  induction fls with
  | nil =>
    intro blocks ls hb _
    obtain rfl := Outcome.ok.inj hb
    obtain ⟨e1, e2⟩ := lim_nil (columnsOf qy q) q.limit ls.es.numOut
    rw [keptBlocks_nil, e1, e2, runFile, List.append_nil, Nat.add_zero]
  | cons fl rest ih =>
    intro blocks ls hb hk
    simp only [List.map_cons] at hb
    obtain ⟨b, bs, hb1, hb2, rfl⟩ := linesRows_cons_ok O qy q idx fl.line (rest.map (·.line)) blocks hb
    have hrl : fl.readable = true := hr fl (List.mem_cons_self ..)
    have hrest : ∀ x ∈ rest, x.readable = true := fun x hx => hr x (List.mem_cons_of_mem _ hx)
    have hx := executeLine_select O qy q hq idx w ls.es fl.line
    rw [hb1] at hx
    simp only [Outcome.bind] at hx
    obtain ⟨h1, h2, h3⟩ := updateLimit_tableOf q.limit
      { ls.es with seen := seenAfter q.distinct ls.es.seen (keepRows q.distinct ls.es.seen b) }
      (columnsOf qy q) (keepRows q.distinct ls.es.seen b)
    rw [keptBlocks_cons]
    generalize hkept : keepRows q.distinct ls.es.seen b = kept at *
    generalize hU : updateLimit true q.limit { ls.es with seen := seenAfter q.distinct ls.es.seen kept }
      (tableOf (columnsOf qy q) kept) = U at hx h1 h2 h3
    obtain ⟨es1, lo⟩ := U
    simp only at h1 h2 h3
    obtain ⟨e1, e2⟩ := lim_cons (columnsOf qy q) q.limit ls.es.numOut kept
      (keptBlocks q.distinct (seenAfter q.distinct ls.es.seen kept) bs) hk
    rw [runFile_cons_ok O qy idx w fl rest ls es1 lo hrl hx, h3, e1, e2]
    cases hra : reachedAt q.limit (ls.es.numOut + (truncRows q.limit ls.es.numOut kept).length) with
    | true => simp only [if_true, advance, h2, List.append_nil, Nat.add_zero]
    | false =>
      have := ih hrest bs (advance ls es1 lo) hb2 (by rw [advance, h1]; exact hra)
      simp only [Bool.false_eq_true, if_false]
      rw [this]
      simp only [advance, h1, h2, List.append_assoc, Nat.add_assoc]

theorem runFiles_select_flatten (O : Oracles) (qy : Query) (q : SelectStmt) (_hq : qy.stmt = .select q)
    (idx : JoinIndex) (w : Bool) (files : List (List FileLine)) (ls : LoopState) (hs : ls.stop = false)
    (h0 : reachedLimit qy ls.es = false) :
    runFiles O qy idx w none files ls = runFile O qy idx w none files.flatten ls := by
  rw [runFiles_eq, hs, h0]; rfl

theorem runBatch_eq (O : Oracles) (qy : Query) (joined : List FileLine) (files : List (List FileLine)) (sa : Option Nat) :
    runBatch O qy joined files sa = runWithIndex O qy (joinIndexOf qy joined) files sa := rfl

theorem runBatch_select_out (O : Oracles) (qy : Query) (q : SelectStmt) (hq : qy.stmt = .select q)
    (joined : List FileLine) (files : List (List FileLine)) (idx : JoinIndex) (hj : joinIndexOf qy joined = .ok idx) :
    runBatch O qy joined files none = (runFiles O qy idx true none files {}).out := by
  rw [runBatch_eq, hj]
  simp only [runWithIndex, hq]
  split <;> rfl

theorem runBatch_join_failed (O : Oracles) (qy : Query) (joined : List FileLine) (files : List (List FileLine))
    (h : ∀ idx, joinIndexOf qy joined ≠ .ok idx) : hasFailed (runBatch O qy joined files none) = true := by
  rw [runBatch_eq]
  cases hj : joinIndexOf qy joined with
  | ok idx => exact absurd hj (h idx)
  | _ => exact failWith_hasFailed _ nofun

/-- **refinement**: whenever the specification decides a batch run of a non-aggregate statement, the model's run
is the specified one — same records in the same order with the same grouping, same number of lines consumed,
no error -/
theorem runBatch_select_eq_spec (O : Oracles) (qy : Query) (q : SelectStmt) (hq : qy.stmt = .select q)
    (joined : List FileLine) (files : List (List FileLine)) (blocks : List (List (List Value)))
    (hb : batchBlocks O qy q joined files = some blocks) :
    runBatch O qy joined files none = runOf qy q blocks := by
  unfold batchBlocks at hb
  cases hj : joinIndexOf qy joined with
  | ok idx =>
    rw [hj] at hb
    simp only at hb
    by_cases hr : files.flatten.all (·.readable) = true
    · rw [if_pos hr] at hb
      cases hl : linesRows O qy q idx (files.flatten.map (·.line)) with
      | ok bl =>
        rw [hl] at hb
        simp only [Option.some.injEq] at hb
        subst hb
        rw [runBatch_select_out O qy q hq joined files idx hj]
        by_cases h0 : reachedLimit qy ({} : LoopState).es = true
        · -- LIMIT 0: nothing is read
          have hlim : q.limit = some 0 := by
            simp only [reachedLimit, hq] at h0
            cases hlm : q.limit with
            | none => rw [hlm] at h0; cases h0
            | some n =>
              rw [hlm] at h0
              have : n = 0 := by simpa using h0
              rw [this]
          have : runFiles O qy idx true none files {} = {} := by
            cases files with
            | nil => rfl
            | cons f rest => simp only [runFiles, h0, Bool.or_true, if_true]
          rw [this]
          simp only [runOf, outBlocks, applyLimit, linesConsumed, hlim, render,
            takeBlocks_zero_flatMap _ (printBlock_nil _), consumed]
        · have h0' : reachedLimit qy ({} : LoopState).es = false := by simpa using h0
          rw [runFiles_eq, if_neg (by simp [h0'])]
          have hk : reachedAt q.limit ({} : LoopState).es.numOut = false := by
            simp only [reachedLimit, hq] at h0'
            simp only [reachedAt]
            cases hlm : q.limit with
            | none => rfl
            | some n => rw [hlm] at h0'; exact h0'
          rw [runFile_select O qy q hq idx true files.flatten
            (fun fl hfl => by simpa using (List.all_eq_true.1 hr) fl hfl) bl {} hl hk]
          simp only [runOf, outBlocks, applyLimit, applyDistinct, linesConsumed, limBlocks, limConsumed, keptBlocks]
          cases q.limit <;> cases q.distinct <;> simp
      | _ => rw [hl] at hb; cases hb
    · rw [if_neg hr] at hb; cases hb
  | _ => rw [hj] at hb; cases hb

end Sqlgrep
