import SqlgrepModel.Lemmas.PipelineAligned
import SqlgrepModel.Spec.Pipeline
import SqlgrepModel.Props.C14
import SqlgrepModel.Lemmas.LexPos
import SqlgrepModel.Lemmas.AggTable
import SqlgrepModel.Lemmas.SelectRun
import SqlgrepModel.Lemmas.ReaderExec
import SqlgrepModel.Lemmas.Collect
/-
Glue lemmas of the end-to-end model (`Model/Pipeline.lean`): each stage theorem lifted to the composition. The model is
cut at three places, each with its equation: `runStatement` over a defined FROM table (`runStatement_defined`; the files it
reads in closed form, `mapM_fileLines`; the two as one function of the files, `runStatement_over`; the specification's reading
of it, `prepare_iff`) and over one that is not defined (`runStatement_undefined`), what stands between a traced run and
its records (`blocked`, `answerOf_eq`), and what the two texts come to before any input is read (`front`, `runText_eq_front`).
-/
namespace Sqlgrep.Pipeline
open Sqlgrep Sqlgrep.Spec.Pipeline

section
open Sqlgrep.Extract Sqlgrep.Reader

/-- a line of an input file as the statement sees it: its text and **`Extract.extractRow` of the table definition on the
facts shipped for the line** (the object of C01 / C02) -/
def extractedLine (F : Facts) (d : TableDef) (l : List Nat) : Line :=
  { text := l, row := extractRow (extractOracles F) d (lineOracle l ((F.lines.lookup l).getD {})) }

/-- the case shipped every fact extraction asks for about this item of `BufRead::lines` -/
def itemCovered (F : Facts) (d : TableDef) : Except Unit (List Nat) → Bool
  | .ok l => factsCover F d l
  | .error _ => true

/-- … about every line of every file -/
def filesCovered (F : Facts) (d : TableDef) (files : List (List Nat)) : Bool :=
  files.all (fun b => (lines b).all (itemCovered F d))

theorem mkLine_eq (F : Facts) (d : TableDef) (x : Except Unit (List Nat)) :
    mkLine F d x = if itemCovered F d x then some (toFileLine (extractedLine F d) x) else none := by
  cases x with
  | error u => rfl
  | ok l => rfl

theorem fileLines_eq (F : Facts) (d : TableDef) (bytes : List Nat) :
    fileLines F d bytes =
      if (lines bytes).all (itemCovered F d) then some (fileOf (extractedLine F d) bytes) else none := by
  unfold fileLines fileOf
  exact mapM_if _ _ _ _ (fun x _ => mkLine_eq F d x)

theorem mapM_fileLines (F : Facts) (d : TableDef) (files : List (List Nat)) :
    files.mapM (fileLines F d) =
      if filesCovered F d files then some (files.map (fileOf (extractedLine F d))) else none :=
  mapM_if _ _ _ files (fun b _ => fileLines_eq F d b)

theorem fileOf_row {mk : List Nat → Line} (hmk : ∀ l, (mk l).text = l) {items : List (Except Unit (List Nat))} {fl : FileLine}
    (hfl : fl ∈ items.map (toFileLine mk)) (hr : fl.readable = true) : fl.line = mk fl.line.text := by
  obtain ⟨x, _, rfl⟩ := List.mem_map.1 hfl
  cases x with
  | ok l => exact congrArg mk (hmk l).symm
  | error u => cases hr

end

theorem lowerTree_no_panic (rv : List Char → Bool) (t : POp) (h : t.PathsOk) : ∀ site, lowerTree rv t ≠ .panic site := by
  intro site
  unfold lowerTree
  have hp := Props.C14.lower_never_panics rv t h
  cases hl : Lower.lowerStatement rv t with
  | ok s => simp
  | err e => simp
  | panic s => exact absurd hl (hp s)

theorem lowerTree_ne_fuel (rv : List Char → Bool) (t : POp) : lowerTree rv t ≠ .fuel := by
  unfold lowerTree; split <;> simp

theorem parseToks_total (rv : List Char → Bool) (ts : List PTok) (hne : ts ≠ []) :
    (∀ site, parseToks rv ts ≠ .panic site) ∧ parseToks rv ts ≠ .fuel := by
  unfold parseToks
  have h1 := Props.C14.parse_never_out_of_fuel PrecTables.code ts
  have h2 := Props.C14.parse_never_panics PrecTables.code ts hne
  cases hp : Parse.parseTokens PrecTables.code ts with
  | tree t =>
    exact ⟨lowerTree_no_panic rv t (Props.C14.no_empty_json_path_in_a_tree PrecTables.code ts t hp), lowerTree_ne_fuel rv t⟩
  | error e => simp
  | fuel => exact absurd hp h1
  | panic => exact absurd hp h2

/-- `parsing::parse` on any text never panics and never runs out of fuel (what is left: a statement, one of the three kinds
of located error, or a missing number fact) -/
theorem parseText_total (lo : Lex.Oracles) (rv : List Char → Bool) (text : List Char) :
    (∀ site, parseText lo rv text ≠ .panic site) ∧ parseText lo rv text ≠ .fuel := by
  unfold parseText
  cases ht : Lex.tokenize lo text with
  | ok ts =>
    obtain ⟨init, loc, he⟩ := Lex.tokenize_ends_eof lo text ts ht
    have hne : ts ≠ [] := by rw [he]; simp
    exact parseToks_total rv ts hne
  | error loc e => simp
  | missing w => simp

theorem runWithIndexT_error (O : Oracles) (qy : Query) (k : ErrKind) (files : List (List FileLine)) :
    (runWithIndexT O qy (.error k) files).out.panicked = false := rfl

theorem setupJoin_error (t : TableInfo) (j : JoinInfo) (k : ErrKind) : ∃ k', setupJoin t j (.error k) = .error k' := by
  unfold setupJoin
  cases indexOf? t.columns j.joinerColumn with
  | none => exact ⟨_, rfl⟩
  | some i => exact ⟨_, rfl⟩

theorem joinSetup_none_file (qy : Query) (j : JoinInfo) (hj : qy.join = some j) : ∃ k, joinSetup qy none = .error k := by
  unfold joinSetup
  rw [hj]
  simp only
  have : ∃ k, (loadJoinFileI j none none).bind (fun p => Outcome.ok p.1) = .error k := by
    unfold loadJoinFileI
    cases indexOf? j.joined.columns j.joinedColumn with
    | none => exact ⟨_, rfl⟩
    | some ki => exact ⟨_, rfl⟩
  obtain ⟨k, hk⟩ := this
  rw [hk]
  exact setupJoin_error _ _ _

theorem _root_.Sqlgrep.RunOut.FaultsIn.no_panic {M : String → Prop} {ro : RunOut} (h : ro.FaultsIn (fun _ => False) M) :
    ro.panicked = false :=
  eq_false_of_ne_true fun hp => (h.1 hp).elim fun _ hf => hf

theorem _root_.Sqlgrep.RunOut.FaultsIn.not_skipped {P : String → Prop} {ro : RunOut} (h : ro.FaultsIn P (fun _ => False)) :
    ro.skipped = none :=
  Option.eq_none_iff_forall_ne_some.2 h.2

section
open NoPanicEngine
variable {Pp M : String → Prop}

/-- what `execute_joined_table` leaves is a join index or a reported error -/
theorem joinSetup_faults (qy : Query) (joined : Option (List FileLine)) : (joinSetup qy joined).FaultsIn Pp M := by
  cases hj : qy.join with
  | none => rw [joinSetup, hj]; trivial
  | some j =>
    cases joined with
    | none => obtain ⟨k, hk⟩ := joinSetup_none_file qy j hj; rw [hk]; trivial
    | some jl => rw [joinSetup, hj]; dsimp only; rw [loadJoinFileI_none]; exact setupJoin_faults ..

variable (O : Oracles) (ok : Func → Bool) (hc : ∀ f, ok f = true → ∀ args, (callFunction O f args).FaultsIn Pp M)
include hc

theorem runWithIndexT_faults (qy : Query) (idxO : Outcome JoinIndex) (hidx : idxO.FaultsIn Pp M) (files : List (List FileLine))
    (hq : qy.stmt.allFuncs ok = true) : (runWithIndexT O qy idxO files).out.FaultsIn Pp M := by
  rw [runWithIndexT_out]
  exact runWithIndex_faults O ok hc qy idxO hidx files none hq

end

theorem runBatchT_no_panic (O : Oracles) (qy : Query) (joined : Option (List FileLine)) (files : List (List FileLine)) :
    (runBatchT O qy joined files).out.panicked = false :=
  (runWithIndexT_faults O anyFunc (fun f _ => callFunction_faults_np O f) qy _ (joinSetup_faults qy joined) files
    (Stmt.allFuncs_any _)).no_panic

/-- the engine-level run of a statement whose FROM table `t` is defined, over the prepared input files `fs` -/
def runDefined (F : Facts) (tables : List Table) (stmt : Stmt) (t : Table) (join : Option LJoin)
    (fs : List (List FileLine)) : Option TraceOut :=
  match join with
  | none => some (runBatchT F.eval { stmt := stmt, table := t.info, join := none } none fs)
  | some j =>
    match getTable tables j.joinedTable with
    | none =>
      let ji := joinInfo j { name := j.joinedTable, columns := [] }
      some (runWithIndexT F.eval { stmt := stmt, table := t.info, join := some ji } (setupJoin t.info ji (.error .tableNotFound)) fs)
    | some u =>
      match openJoined F j with
      | none => some (runBatchT F.eval { stmt := stmt, table := t.info, join := some (joinInfo j u.info) } none fs)
      | some bytes =>
        (fileLines F u.defn bytes).map
          (fun jl => runBatchT F.eval { stmt := stmt, table := t.info, join := some (joinInfo j u.info) } (some jl) fs)

theorem runStatement_defined (F : Facts) (tables : List Table) (stmt : Stmt) (fromTable : String) (join : Option LJoin)
    (files : List (List Nat)) (t : Table) (hg : getTable tables fromTable = some t) :
    runStatement F tables stmt fromTable join files =
      (files.mapM (fileLines F t.defn)).bind (runDefined F tables stmt t join) := by
  unfold runStatement runDefined
  rw [hg]
  cases join with
  | none =>
    simp only [bind, pure]
  | some j =>
    simp only [bind, pure]
    cases files.mapM (fileLines F t.defn) with
    | none => rfl
    | some fs =>
      simp only [Option.bind]
      cases getTable tables j.joinedTable with
      | none => rfl
      | some u =>
        simp only
        cases openJoined F j with
        | none => rfl
        | some bytes =>
          simp only
          cases fileLines F u.defn bytes <;> rfl

theorem runStatement_undefined (F : Facts) (tables : List Table) (stmt : Stmt) (fromTable : String) (join : Option LJoin)
    (files : List (List Nat)) (hg : getTable tables fromTable = none) :
    runStatement F tables stmt fromTable join files =
      some (match join with
        | none => runNoTable F.eval stmt fromTable files
        | some _ => { out := { error := some .tableNotFound } }) := by
  unfold runStatement
  rw [hg]
  cases join <;> rfl

/-- whatever the join, the run over prepared files is `runWithIndexT` of a query and of a join set-up — a join index or a
reported error — that do not depend on the input files (or a fact about the joined file is missing) -/
theorem runDefined_cases {Pp M : String → Prop} (F : Facts) (tables : List Table) (stmt : Stmt) (t : Table) (join : Option LJoin) :
    (∀ fs, runDefined F tables stmt t join fs = none) ∨
    ∃ qy idxO, qy.stmt = stmt ∧ idxO.FaultsIn Pp M ∧
      ∀ fs, runDefined F tables stmt t join fs = some (runWithIndexT F.eval qy idxO fs) := by
  have batch : ∀ (qy : Query) joined, qy.stmt = stmt → ∃ qy' idxO, qy'.stmt = stmt ∧ idxO.FaultsIn Pp M ∧
      ∀ fs, some (runBatchT F.eval qy joined fs) = some (runWithIndexT F.eval qy' idxO fs) :=
    fun qy joined hq => ⟨qy, _, hq, joinSetup_faults qy joined, fun _ => rfl⟩
  unfold runDefined
  cases join with
  | none => exact .inr (batch _ _ rfl)
  | some j =>
    dsimp only
    cases getTable tables j.joinedTable with
    | none =>
      obtain ⟨k, hk⟩ := setupJoin_error t.info (joinInfo j { name := j.joinedTable, columns := [] }) .tableNotFound
      exact .inr ⟨_, _, rfl, by rw [hk]; trivial, fun fs => rfl⟩
    | some u =>
      dsimp only
      cases openJoined F j with
      | none => exact .inr (batch _ _ rfl)
      | some bytes =>
        dsimp only
        cases fileLines F u.defn bytes with
        | none => exact .inl (fun fs => rfl)
        | some jl => exact .inr (batch _ _ rfl)

theorem runDefined_shape (F : Facts) (tables : List Table) (stmt : Stmt) (t : Table) (join : Option LJoin) :
    (∀ fs, runDefined F tables stmt t join fs = none) ∨
    ∃ qy idxO, qy.stmt = stmt ∧ ∀ fs, runDefined F tables stmt t join fs = some (runWithIndexT F.eval qy idxO fs) := by
  rcases runDefined_cases (Pp := fun _ => True) (M := fun _ => True) F tables stmt t join with h | ⟨qy, idxO, hq, -, h⟩
  · exact .inl h
  · exact .inr ⟨qy, idxO, hq, h⟩

/-- **a statement over a defined FROM table, as a function of its input files**: no run at all (a fact about the joined file
is missing), or — when the facts about the lines of the files are shipped — `runWithIndexT` over those lines, of a query and a
join set-up (a join index or a reported error) that are the same for all files -/
theorem runStatement_over (F : Facts) (tables : List Table) (stmt : Stmt) (fromTable : String) (join : Option LJoin)
    (t : Table) (hg : getTable tables fromTable = some t) :
    (∀ files, runStatement F tables stmt fromTable join files = none) ∨
    ∃ qy idxO, qy.stmt = stmt ∧ idxO.FaultsIn (fun _ => False) (fun _ => False) ∧
      ∀ files, runStatement F tables stmt fromTable join files =
        if filesCovered F t.defn files then
          some (runWithIndexT F.eval qy idxO (files.map (fileOf (extractedLine F t.defn))))
        else none := by
  rcases runDefined_cases F tables stmt t join with hn | ⟨qy, idxO, hq, hidx, hs⟩
  · refine .inl fun files => ?_
    rw [runStatement_defined F tables stmt fromTable join files t hg, funext hn]
    cases files.mapM (fileLines F t.defn) <;> rfl
  · refine .inr ⟨qy, idxO, hq, hidx, fun files => ?_⟩
    rw [runStatement_defined F tables stmt fromTable join files t hg, mapM_fileLines, funext hs]
    split <;> rfl

theorem runBatchT_aligned (O : Oracles) (qy : Query) (joined : Option (List FileLine)) (files : List (List FileLine)) :
    CallsAligned (runBatchT O qy joined files).calls := runWithIndexT_aligned O qy _ files

/-- **every run of a statement** is a traced run of it over a join set-up that is a join index or a reported error, or it
printed nothing and ended with an error at most (a table that is not defined, an unreadable first line) -/
theorem runStatement_cases {Pp M : String → Prop} {F : Facts} {tables : List Table} {stmt : Stmt} {fromTable : String}
    {join : Option LJoin} {files : List (List Nat)} {t : TraceOut}
    (h : runStatement F tables stmt fromTable join files = some t) :
    (∃ qy idxO fs, qy.stmt = stmt ∧ idxO.FaultsIn Pp M ∧ t = runWithIndexT F.eval qy idxO fs) ∨
    (t.calls = [] ∧ t.out.panicked = false ∧ t.out.skipped = none) := by
  have batch : ∀ (qy : Query) joined fs, qy.stmt = stmt → ∃ qy' idxO fs', qy'.stmt = stmt ∧ idxO.FaultsIn Pp M ∧
      runBatchT F.eval qy joined fs = runWithIndexT F.eval qy' idxO fs' :=
    fun qy joined fs hq => ⟨qy, _, fs, hq, joinSetup_faults qy joined, rfl⟩
  cases hg : getTable tables fromTable with
  | none =>
    rw [runStatement_undefined F tables stmt fromTable join files hg] at h
    cases h
    cases join with
    | some j => exact .inr ⟨rfl, rfl, rfl⟩
    | none =>
      unfold runNoTable
      dsimp only
      split
      · exact .inl (batch _ _ _ rfl)
      · split
        · exact .inl (batch _ _ _ rfl)
        · exact .inr ⟨rfl, rfl, rfl⟩
        · exact .inr ⟨rfl, rfl, rfl⟩
  | some tb =>
    rcases runStatement_over F tables stmt fromTable join tb hg with hn | ⟨qy, idxO, hq, hidx, hs⟩
    · rw [hn] at h; cases h
    · rw [hs] at h
      split at h
      · cases h; exact .inl ⟨qy, idxO, _, hq, hidx.mono (fun _ => False.elim) (fun _ => False.elim), rfl⟩
      · cases h

/-- **the engine part of the end-to-end run stops abnormally only where a function call does**: `runBatch_faults`, lifted
over the table lookups. C09's "never panics" and "never skipped" are its two readings. -/
theorem runStatement_faults {Pp M : String → Prop} (F : Facts) (ok : Func → Bool)
    (hc : ∀ f, ok f = true → ∀ args, (callFunction F.eval f args).FaultsIn Pp M)
    (tables : List Table) (stmt : Stmt) (fromTable : String) (join : Option LJoin) (files : List (List Nat)) (t : TraceOut)
    (hq : stmt.allFuncs ok = true) (h : runStatement F tables stmt fromTable join files = some t) : t.out.FaultsIn Pp M := by
  rcases runStatement_cases (Pp := Pp) (M := M) h with ⟨qy, idxO, fs, rfl, hidx, rfl⟩ | ⟨-, hp, hs⟩
  · exact runWithIndexT_faults F.eval ok hc qy idxO hidx fs hq
  · exact ⟨fun h' => (nomatch hp.symm.trans h'), fun w h' => (nomatch hs.symm.trans h')⟩

theorem runStatement_no_panic (F : Facts) (tables : List Table) (stmt : Stmt) (fromTable : String) (join : Option LJoin)
    (files : List (List Nat)) (t : TraceOut) (h : runStatement F tables stmt fromTable join files = some t) :
    t.out.panicked = false :=
  (runStatement_faults F anyFunc (fun f _ => callFunction_faults_np F.eval f) tables stmt fromTable join files t
    (Stmt.allFuncs_any _) h).no_panic

theorem runStatement_aligned (F : Facts) (tables : List Table) (stmt : Stmt) (fromTable : String) (join : Option LJoin)
    (files : List (List Nat)) (t : TraceOut) (h : runStatement F tables stmt fromTable join files = some t) :
    CallsAligned t.calls := by
  rcases runStatement_cases (Pp := fun _ => True) (M := fun _ => True) h with ⟨qy, idxO, fs, -, -, rfl⟩ | ⟨hc, -, -⟩
  · exact runWithIndexT_aligned F.eval qy idxO fs
  · rw [hc]; exact fun _ h => nomatch h

theorem calls_no_print_panic (fmt : Print.Format) {calls : List PrintCall} (h : CallsAligned calls) :
    calls.any (fun c => Print.resultPanics fmt (toResultRow c.result)) = false := by
  rw [List.any_eq_false]
  intro c hc
  rw [show Print.resultPanics fmt (toResultRow c.result) = false from aligned_no_print_panic fmt c.result (h c hc)]
  exact Bool.false_ne_true

theorem havingAggs_eq (v : List HavingRef) : Lower.havingAggs v = v.filterMap havingAggOf := by
  induction v with
  | nil => rfl
  | cons r rest ih =>
    cases r with
    | key c => simp only [Lower.havingAggs, List.filterMap_cons, havingAggOf, ih]
    | agg id k => simp only [Lower.havingAggs, List.filterMap_cons, havingAggOf, ih]

theorem parseToks_stmt_inv {rv : List Char → Bool} {ts : List PTok} {s : LStmt} (h : parseToks rv ts = .stmt s) :
    ∃ op, Parse.parseTokens PrecTables.code ts = .tree op ∧ Lower.lowerStatement rv op = .ok s := by
  unfold parseToks at h
  split at h
  · rename_i op hop
    unfold lowerTree at h
    split at h
    · rename_i s' hs
      cases h
      exact ⟨op, hop, hs⟩
    · cases h
    · cases h
  · cases h
  · cases h
  · cases h

theorem parseText_stmt_inv {lo : Lex.Oracles} {rv : List Char → Bool} {text : List Char} {s : LStmt}
    (h : parseText lo rv text = .stmt s) :
    ∃ ts op, Lex.tokenize lo text = .ok ts ∧ Parse.parseTokens PrecTables.code ts = .tree op ∧
      Lower.lowerStatement rv op = .ok s := by
  unfold parseText at h
  split at h
  · rename_i ts hts
    obtain ⟨op, hop, hs⟩ := parseToks_stmt_inv h
    exact ⟨ts, op, hts, hop, hs⟩
  · cases h
  · cases h

theorem parseText_aggregate_wf (lo : Lex.Oracles) (rv : List Char → Bool) (text : List Char) (a : AggStmt) (f : String)
    (file : Option String) (j : Option LJoin) (h : parseText lo rv text = .stmt (.aggregate a f file j)) : StmtWF a := by
  obtain ⟨ts, op, -, -, hs⟩ := parseText_stmt_inv h
  rcases Lower.lowerStatement_ok_cases hs with ⟨_, _, _, _, e⟩ | ⟨_, _, _, _, e, hv, hn⟩ | ⟨_, _, _, _, _, e, _⟩ | ⟨_, _, _, e, _⟩ <;>
    cases e
  exact ⟨by rw [hv, havingAggs_eq], fun h => by rw [hv, hn h]; rfl⟩

/-- the joined half of a prepared run: the joined table is defined, the joined file exists and the facts about its lines
are shipped -/
def JoinedAs (F : Facts) (tables : List Table) : Option LJoin → Option JoinInfo → List FileLine → Prop
  | none, ji, jl => ji = none ∧ jl = []
  | some j, ji, jl => ∃ u bytes, getTable tables j.joinedTable = some u ∧ openJoined F j = some bytes ∧
      (Reader.lines bytes).all (itemCovered F u.defn) = true ∧ ji = some (joinInfo j u.info) ∧
      jl = fileOf (extractedLine F u.defn) bytes

theorem prepare_iff {F : Facts} {tables : List Table} {stmt : Stmt} {fromTable : String} {join : Option LJoin}
    {files : List (List Nat)} {p : Prepared} :
    prepare F tables stmt fromTable join files = some p ↔
      ∃ t ji jl, getTable tables fromTable = some t ∧ filesCovered F t.defn files = true ∧ JoinedAs F tables join ji jl ∧
        p = { qy := { stmt := stmt, table := t.info, join := ji }, joined := jl,
              files := files.map (fileOf (extractedLine F t.defn)) } := by
  unfold prepare
  cases hg : getTable tables fromTable with
  | none => exact ⟨nofun, fun ⟨_, _, _, h, _⟩ => nomatch h⟩
  | some t =>
    simp only [mapM_fileLines]
    cases hc : filesCovered F t.defn files with
    | false => exact ⟨nofun, fun ⟨t', _, _, ht', h, _⟩ => by cases ht'; rw [hc] at h; cases h⟩
    | true =>
      rw [if_pos rfl]
      cases join with
      | none =>
        exact ⟨fun h => ⟨t, none, [], rfl, hc, ⟨rfl, rfl⟩, (Option.some.inj h).symm⟩,
          fun ⟨t', _, _, ht', _, ⟨e1, e2⟩, h⟩ => by cases ht'; subst e1 e2; exact congrArg some h.symm⟩
      | some j =>
        dsimp only [JoinedAs]
        constructor
        · intro h
          split at h
          · cases h
          · next u hu =>
            split at h
            · cases h
            · next bytes ho =>
              rw [fileLines_eq] at h
              cases hcj : (Reader.lines bytes).all (itemCovered F u.defn) with
              | false => rw [hcj] at h; cases h
              | true =>
                rw [hcj] at h
                exact ⟨t, _, _, rfl, hc, ⟨u, bytes, hu, ho, hcj, rfl, rfl⟩, (Option.some.inj h).symm⟩
        · rintro ⟨t', _, _, ht', _, ⟨u, bytes, hu, ho, hcj, rfl, rfl⟩, rfl⟩
          cases ht'
          simp only [hu, ho, fileLines_eq, hcj, if_true]

theorem runStatement_of_prepare (F : Facts) (tables : List Table) (stmt : Stmt) (fromTable : String) (join : Option LJoin)
    (files : List (List Nat)) (p : Prepared) (h : prepare F tables stmt fromTable join files = some p) :
    runStatement F tables stmt fromTable join files = some (runBatchT F.eval p.qy (some p.joined) p.files) ∧
    p.qy.stmt = stmt := by
  obtain ⟨t, ji, jl, hg, hc, hj, rfl⟩ := prepare_iff.1 h
  rw [runStatement_defined F tables stmt fromTable join files t hg, mapM_fileLines, if_pos hc]
  cases join with
  | none =>
    obtain ⟨rfl, rfl⟩ := hj
    exact ⟨congrArg some (runBatchT_nojoin F.eval _ rfl none _), rfl⟩
  | some j =>
    obtain ⟨u, bytes, hu, ho, hcj, rfl, rfl⟩ := hj
    simp only [Option.bind, runDefined, hu, ho, fileLines_eq, hcj, if_true, Option.map]
    exact ⟨trivial, trivial⟩

/-- the answer once the run of the statement is known -/
def answerOf (F : Facts) (fmt : Print.Format) (single : Bool) (t : TraceOut) : Answer :=
  if t.out.skipped.isSome then .skip (t.out.skipped.getD "")
  else if t.out.panicked then .panic "engine"
  else if !realsCover F t.calls then .skip "REAL rendering"
  else
    let calls := printCalls single t.calls
    if calls.any (fun c => Print.resultPanics fmt c.1) then .panic "OutputPrinter::print index"
    else .records t.out.error t.out.totalLines ((Print.printAll (realOracle F) fmt true calls).map Print.Line.bytes)

def answerOfOpt (F : Facts) (fmt : Print.Format) (single : Bool) : Option TraceOut → Answer
  | none => .skip "line facts"
  | some t => answerOf F fmt single t

theorem runLowered_eq_opt (F : Facts) (defs query : LStmt) (fmt : Print.Format) (single : Bool) (files : List (List Nat))
    (tables : List Table) (stmt : Stmt) (fromTable : String) (join : Option LJoin)
    (ht : addTables defs = some tables) (hs : stmtOf query = some (stmt, fromTable, join)) :
    runLowered F defs query fmt single files = answerOfOpt F fmt single (runStatement F tables stmt fromTable join files) := by
  unfold runLowered
  rw [ht]; simp only
  rw [hs]; simp only
  cases runStatement F tables stmt fromTable join files <;> rfl

theorem runLowered_eq (F : Facts) (defs query : LStmt) (fmt : Print.Format) (single : Bool) (files : List (List Nat))
    (tables : List Table) (stmt : Stmt) (fromTable : String) (join : Option LJoin) (t : TraceOut)
    (ht : addTables defs = some tables) (hs : stmtOf query = some (stmt, fromTable, join))
    (hr : runStatement F tables stmt fromTable join files = some t) :
    runLowered F defs query fmt single files = answerOf F fmt single t := by
  rw [runLowered_eq_opt F defs query fmt single files tables stmt fromTable join ht hs, hr]
  rfl

/-- what keeps a traced run from being answered with its records, asked for in the order of `answerOf`: a fact the
evaluator needed, a panic of the engine, the rendering of a printed REAL, an index of `OutputPrinter::print` out of range -/
def blocked (F : Facts) (fmt : Print.Format) (t : TraceOut) : Option Answer :=
  if t.out.skipped.isSome then some (.skip (t.out.skipped.getD ""))
  else if t.out.panicked then some (.panic "engine")
  else if !realsCover F t.calls then some (.skip "REAL rendering")
  else if t.calls.any (fun c => Print.resultPanics fmt (toResultRow c.result)) then some (.panic "OutputPrinter::print index")
  else none

theorem answerOf_eq (F : Facts) (fmt : Print.Format) (single : Bool) (t : TraceOut) :
    answerOf F fmt single t = (blocked F fmt t).getD (.records t.out.error t.out.totalLines
      ((Print.printAll (realOracle F) fmt true (printCalls single t.calls)).map Print.Line.bytes)) := by
  have hany : (printCalls single t.calls).any (fun c => Print.resultPanics fmt c.1) =
      t.calls.any (fun c => Print.resultPanics fmt (toResultRow c.result)) := by
    rw [printCalls, List.any_map]; rfl
  unfold answerOf blocked
  dsimp only
  rw [hany]
  cases t.out.skipped.isSome <;> cases t.out.panicked <;> cases realsCover F t.calls <;>
    cases t.calls.any (fun c => Print.resultPanics fmt (toResultRow c.result)) <;> rfl

theorem blocked_eq_none_iff {F : Facts} {fmt : Print.Format} {t : TraceOut} :
    blocked F fmt t = none ↔ t.out.skipped = none ∧ t.out.panicked = false ∧ realsCover F t.calls = true ∧
      t.calls.any (fun c => Print.resultPanics fmt (toResultRow c.result)) = false := by
  unfold blocked
  cases t.out.skipped with
  | some w => simp
  | none =>
    cases t.out.panicked <;> cases realsCover F t.calls <;>
      cases t.calls.any (fun c => Print.resultPanics fmt (toResultRow c.result)) <;> decide

theorem blocked_eq_some {F : Facts} {fmt : Print.Format} {t : TraceOut} {a : Answer} (h : blocked F fmt t = some a) :
    (∃ w, a = .skip w) ∨ ∃ s, a = .panic s := by
  unfold blocked at h
  by_cases h1 : t.out.skipped.isSome = true
  · rw [if_pos h1] at h; exact .inl ⟨_, (Option.some.inj h).symm⟩
  · rw [if_neg h1] at h
    by_cases h2 : t.out.panicked = true
    · rw [if_pos h2] at h; exact .inr ⟨_, (Option.some.inj h).symm⟩
    · rw [if_neg h2] at h
      by_cases h3 : (!realsCover F t.calls) = true
      · rw [if_pos h3] at h; exact .inl ⟨_, (Option.some.inj h).symm⟩
      · rw [if_neg h3] at h
        by_cases h4 : t.calls.any (fun c => Print.resultPanics fmt (toResultRow c.result)) = true
        · rw [if_pos h4] at h; exact .inr ⟨_, (Option.some.inj h).symm⟩
        · rw [if_neg h4] at h; cases h

theorem blocked_ne_panic {F : Facts} {fmt : Print.Format} {t : TraceOut} (hp : t.out.panicked = false)
    (ha : CallsAligned t.calls) (site : String) : blocked F fmt t ≠ some (.panic site) := by
  unfold blocked
  simp only [hp, calls_no_print_panic fmt ha, Bool.false_eq_true, if_false]
  split
  · simp
  · split <;> simp

theorem answerOf_no_panic (F : Facts) (fmt : Print.Format) (single : Bool) (t : TraceOut)
    (hp : t.out.panicked = false) (ha : CallsAligned t.calls) : ∀ site, answerOf F fmt single t ≠ .panic site := by
  intro site
  rw [answerOf_eq]
  exact getD_ne Answer.noConfusion fun a hb e => blocked_ne_panic hp ha site (e ▸ hb)

theorem answerOf_records (F : Facts) (fmt : Print.Format) (single : Bool) (t : TraceOut)
    (hp : t.out.panicked = false) (ha : CallsAligned t.calls) (hs : t.out.skipped = none) (hc : realsCover F t.calls = true) :
    answerOf F fmt single t = .records t.out.error t.out.totalLines
      ((Print.printAll (realOracle F) fmt true (printCalls single t.calls)).map Print.Line.bytes) := by
  rw [answerOf_eq, blocked_eq_none_iff.2 ⟨hs, hp, hc, calls_no_print_panic fmt ha⟩]
  rfl

theorem answerOf_records_inv {F : Facts} {fmt : Print.Format} {single : Bool} {t : TraceOut} {e : Option ErrKind} {n : Nat}
    {ls : List Print.Bytes} (h : answerOf F fmt single t = .records e n ls) :
    blocked F fmt t = none ∧ e = t.out.error ∧ n = t.out.totalLines ∧
      ls = (Print.printAll (realOracle F) fmt true (printCalls single t.calls)).map Print.Line.bytes := by
  rw [answerOf_eq] at h
  obtain ⟨hb, hk⟩ := getD_eq_inv (fun a ha => by
    rcases blocked_eq_some ha with ⟨w, rfl⟩ | ⟨s, rfl⟩ <;> exact Answer.noConfusion) h
  cases hk
  exact ⟨hb, rfl, rfl, rfl⟩

theorem answerOf_eq_records (F : Facts) (fmt : Print.Format) (single : Bool) (t : TraceOut) (e : Option ErrKind) (n : Nat)
    (ls : List Print.Bytes) (h : answerOf F fmt single t = .records e n ls) :
    t.out.skipped = none ∧ realsCover F t.calls = true ∧ e = t.out.error ∧ n = t.out.totalLines ∧
      ls = (Print.printAll (realOracle F) fmt true (printCalls single t.calls)).map Print.Line.bytes := by
  obtain ⟨hb, he⟩ := answerOf_records_inv h
  obtain ⟨hs, -, hc, -⟩ := blocked_eq_none_iff.1 hb
  exact ⟨hs, hc, he⟩

theorem runText_eq_runLowered (F : Facts) (defsText queryText : List Char) (fmt : Print.Format) (single : Bool)
    (files : List (List Nat)) (defs query : LStmt)
    (hc : classesCover F defsText = true ∧ classesCover F queryText = true)
    (hd : parseText (lexOracles F) (regexValidFn F) defsText = .stmt defs)
    (hp : (createPatterns defs).all (fun re => ((Utf8.decode re).bind (regexValidOf F)).isSome) = true)
    (hq : parseText (lexOracles F) (regexValidFn F) queryText = .stmt query) :
    runText F defsText queryText fmt single files = runLowered F defs query fmt single files := by
  unfold runText
  simp only [hc.1, hc.2, Bool.not_true, Bool.or_self, Bool.false_eq_true, if_false, hd, hp, hq]

/-- the answers that are given before any input is read. There is no `panic`: neither text is answered with one
(`parseText_total`). -/
inductive Early where
  | skip (what : String)
  | rejected (w : Which) (p : Parsed)
  | notCreateTable
  | notAQuery

def Early.answer : Early → Answer
  | .skip w => .skip w
  | .rejected w p => .rejected w p
  | .notCreateTable => .notCreateTable
  | .notAQuery => .notAQuery

/-- what the definitions text and the query text come to: the half of `runText` that `followLines` shares with it -/
inductive Front where
  | early (e : Early)
  | run (tables : List Table) (stmt : Stmt) (fromTable : String) (join : Option LJoin)

/-- a text that is not lowered to a statement -/
def Front.ofRejected (w : Which) : Parsed → Front
  | .missing m => .early (.skip m)
  | p => .early (.rejected w p)

def Front.ofLowered (defs query : LStmt) : Front :=
  match addTables defs with
  | none => .early .notCreateTable
  | some tables =>
    match stmtOf query with
    | none => .early .notAQuery
    | some (stmt, fromTable, join) => .run tables stmt fromTable join

/-- what the two texts come to when a text is read by `parse` -/
def frontWith (parse : List Char → Parsed) (F : Facts) (defsText queryText : List Char) : Front :=
  if !classesCover F defsText || !classesCover F queryText then .early (.skip "character class")
  else
    match parse defsText with
    | .stmt defs =>
      if !(createPatterns defs).all (fun re => ((Utf8.decode re).bind (regexValidOf F)).isSome) then .early (.skip "Regex::new")
      else
        match parse queryText with
        | .stmt query => .ofLowered defs query
        | p => .ofRejected .query p
    | p => .ofRejected .definitions p

def front (F : Facts) (defsText queryText : List Char) : Front :=
  frontWith (parseText (lexOracles F) (regexValidFn F)) F defsText queryText

/-- the answer of either mode: `early` what it makes of an early answer, `run` of a statement over defined tables -/
def Front.answer {α : Type} (early : Early → α) (run : List Table → Stmt → String → Option LJoin → α) : Front → α
  | .early e => early e
  | .run ts s f j => run ts s f j

theorem Front.answer_rel {α β : Type} (R : α → β → Prop) {ea : Early → α} {eb : Early → β} (he : ∀ e, R (ea e) (eb e))
    {ra : List Table → Stmt → String → Option LJoin → α} {rb : List Table → Stmt → String → Option LJoin → β} (fr : Front)
    (h : ∀ ts s f j, fr = .run ts s f j → R (ra ts s f j) (rb ts s f j)) : R (fr.answer ea ra) (fr.answer eb rb) := by
  cases fr with
  | early e => exact he e
  | run ts s f j => exact h ts s f j rfl

theorem runText_eq_front (F : Facts) (defsText queryText : List Char) (fmt : Print.Format) (single : Bool)
    (files : List (List Nat)) :
    runText F defsText queryText fmt single files =
      (front F defsText queryText).answer Early.answer
        (fun ts s f j => answerOfOpt F fmt single (runStatement F ts s f j files)) := by
  have hdt := parseText_total (lexOracles F) (regexValidFn F) defsText
  have hqt := parseText_total (lexOracles F) (regexValidFn F) queryText
  unfold runText front frontWith
  split
  · rfl
  · cases hd : parseText (lexOracles F) (regexValidFn F) defsText with
    | stmt defs =>
      dsimp only
      split
      · rfl
      · cases hq : parseText (lexOracles F) (regexValidFn F) queryText with
        | stmt query =>
          dsimp only [Front.ofLowered]
          cases ht : addTables defs with
          | none => unfold runLowered; rw [ht]; rfl
          | some tables =>
            cases hs : stmtOf query with
            | none => unfold runLowered; rw [ht]; dsimp only; rw [hs]; rfl
            | some p => exact runLowered_eq_opt F defs query fmt single files tables p.1 p.2.1 p.2.2 ht hs
        | panic s => exact absurd hq (hqt.1 s)
        | fuel => exact absurd hq hqt.2
        | _ => rfl
    | panic s => exact absurd hd (hdt.1 s)
    | fuel => exact absurd hd hdt.2
    | _ => rfl

theorem Front.ofLowered_eq_run_iff {defs query : LStmt} {ts : List Table} {s : Stmt} {f : String} {j : Option LJoin} :
    Front.ofLowered defs query = .run ts s f j ↔ addTables defs = some ts ∧ stmtOf query = some (s, f, j) := by
  unfold Front.ofLowered
  cases addTables defs with
  | none => simp
  | some tables =>
    cases stmtOf query with
    | none => simp
    | some p => simp [Prod.ext_iff]

theorem front_eq_run_iff {F : Facts} {defsText queryText : List Char} {ts : List Table} {s : Stmt} {f : String}
    {j : Option LJoin} :
    front F defsText queryText = .run ts s f j ↔ ∃ defs query,
      (classesCover F defsText = true ∧ classesCover F queryText = true) ∧
      parseText (lexOracles F) (regexValidFn F) defsText = .stmt defs ∧
      (createPatterns defs).all (fun re => ((Utf8.decode re).bind (regexValidOf F)).isSome) = true ∧
      parseText (lexOracles F) (regexValidFn F) queryText = .stmt query ∧
      addTables defs = some ts ∧ stmtOf query = some (s, f, j) := by
  have rejected : ∀ w p, Front.ofRejected w p ≠ .run ts s f j := by
    intro w p
    cases p <;> exact Front.noConfusion
  constructor
  · intro h
    unfold front frontWith at h
    split at h
    · cases h
    · rename_i hc
      split at h
      · rename_i defs hd
        split at h
        · cases h
        · rename_i hp
          split at h
          · rename_i query hq
            exact ⟨defs, query, by simpa using hc, hd, by simpa only [Bool.not_eq_true', Bool.not_eq_false] using hp, hq,
              Front.ofLowered_eq_run_iff.1 h⟩
          · exact absurd h (rejected _ _)
      · exact absurd h (rejected _ _)
  · rintro ⟨defs, query, hc, hd, hp, hq, hl⟩
    unfold front frontWith
    simp only [hc.1, hc.2, hd, hp, hq, Bool.not_true, Bool.or_self, Bool.false_eq_true, if_false]
    exact Front.ofLowered_eq_run_iff.2 hl

theorem front_run_query {F : Facts} {defsText queryText : List Char} {ts : List Table} {s : Stmt} {f : String}
    {j : Option LJoin} (h : front F defsText queryText = .run ts s f j) :
    ∃ query, parseText (lexOracles F) (regexValidFn F) queryText = .stmt query ∧ stmtOf query = some (s, f, j) := by
  obtain ⟨_, query, -, -, -, hq, -, hs⟩ := front_eq_run_iff.1 h
  exact ⟨query, hq, hs⟩

theorem runText_of_front {F : Facts} {defsText queryText : List Char} {ts : List Table} {s : Stmt} {f : String}
    {j : Option LJoin} (h : front F defsText queryText = .run ts s f j) (fmt : Print.Format) (single : Bool)
    (files : List (List Nat)) :
    runText F defsText queryText fmt single files = answerOfOpt F fmt single (runStatement F ts s f j files) := by
  rw [runText_eq_front, h]; rfl

/-- a prepared statement whose run `ro` ended `Ok`, nothing skipped, all renderings shipped: the answer is the records
printed for the calls of the traced run, and these calls render to what `ro` printed -/
theorem runText_records_of_prepared {F : Facts} {defsText queryText : List Char} {ts : List Table} {s : Stmt} {f : String}
    {j : Option LJoin} (h : front F defsText queryText = .run ts s f j) (fmt : Print.Format) (single : Bool)
    (files : List (List Nat)) (p : Prepared) (hprep : prepare F ts s f j files = some p) (ro : RunOut)
    (hrun : runBatch F.eval p.qy p.joined p.files none = ro) (he : ro.error = none) (hs : ro.skipped = none)
    (hr : realsCover F (runBatchT F.eval p.qy (some p.joined) p.files).calls = true) :
    ∃ calls, runText F defsText queryText fmt single files =
        .records none ro.totalLines
          ((Print.printAll (realOracle F) fmt true (printCalls single calls)).map Print.Line.bytes) ∧
      renderCalls calls = ro.printed ∧ CallsAligned calls := by
  rw [← runBatchT_some_out] at hrun
  refine ⟨(runBatchT F.eval p.qy (some p.joined) p.files).calls, ?_, ?_, runBatchT_aligned _ _ _ _⟩
  · rw [runText_of_front h, (runStatement_of_prepare F ts s f j files p hprep).1, answerOfOpt,
      answerOf_records F fmt single _ (runBatchT_no_panic _ _ _ _) (runBatchT_aligned _ _ _ _) (hrun ▸ hs) hr,
      hrun, he]
  · rw [← runBatchT_printed, hrun]

theorem runText_no_panic(F : Facts) (defsText queryText : List Char) (fmt : Print.Format) (single : Bool)
    (files : List (List Nat)) : ∀ site, runText F defsText queryText fmt single files ≠ .panic site := by
  intro site
  rw [runText_eq_front]
  cases front F defsText queryText with
  | run ts s f j =>
    cases hr : runStatement F ts s f j files with
    | none => simp [Front.answer, answerOfOpt, hr]
    | some t =>
      simp only [Front.answer, answerOfOpt, hr]
      exact answerOf_no_panic F fmt single t (runStatement_no_panic F ts s f j files t hr)
        (runStatement_aligned F ts s f j files t hr) site
  | early e => cases e <;> exact Answer.noConfusion

theorem runNoTable_printed (O : Oracles) (stmt : Stmt) (fromTable : String) (files : List (List Nat)) :
    (runNoTable O stmt fromTable files).out.printed = renderCalls (runNoTable O stmt fromTable files).calls := by
  unfold runNoTable
  simp only
  split
  · exact runBatchT_printed ..
  · split
    · exact runBatchT_printed ..
    · rfl
    · rfl

end Sqlgrep.Pipeline
