import SqlgrepModel.Lemmas.PrintChars
import SqlgrepModel.Lemmas.PrintLines
import SqlgrepModel.Lemmas.JsonGrammar
import SqlgrepModel.Lemmas.Utf8Encode
/-
The JSON printer of `Model/Print.lean` against the RFC 8259 grammar of `Spec/JsonGrammar.lean`.

The printer works on UTF-8 bytes, the grammar on Unicode characters; RFC 8259 §8.1 ties them: a JSON text
is exchanged as the UTF-8 encoding (`Utf8.encode`, Model/Text.lean) of its characters. Every statement
here has the form "the printed bytes are `Utf8.encode line` for a character text `line` that the grammar
derives (and that denotes ...)".
-/
namespace Sqlgrep.Print
open Sqlgrep.Utf8 Sqlgrep.JsonGrammar

/-- two lists related element by element -/
inductive AllRel {α β : Type} (R : α → β → Prop) : List α → List β → Prop
  | nil : AllRel R [] []
  | cons {a : α} {b : β} {as : List α} {bs : List β} : R a b → AllRel R as bs → AllRel R (a :: as) (b :: bs)

theorem AllRel.length_eq {α β : Type} {R : α → β → Prop} {as : List α} {bs : List β} (h : AllRel R as bs) :
    as.length = bs.length := by
  induction h with
  | nil => rfl
  | cons _ _ ih => simp [ih]

/-- a byte string that is the UTF-8 encoding of some sequence of characters (every Rust `String` is) -/
def IsUtf8 (s : Bytes) : Prop := ∃ cs : List Char, encode cs = s

/-- the characters of an ASCII byte string -/
def chars (bs : Bytes) : List Char := bs.map Char.ofNat

def Ascii (bs : Bytes) : Prop := ∀ b ∈ bs, b < 128

theorem encode_chars {bs : Bytes} (h : Ascii bs) : encode (chars bs) = bs := by
  induction bs with
  | nil => rfl
  | cons b bs ih =>
    have hb : b < 128 := h b (List.mem_cons_self ..)
    have := ih (fun x hx => h x (List.mem_cons_of_mem _ hx))
    simp only [chars, List.map_cons] at this ⊢
    rw [encode_cons, encodeChar_ascii hb, this]; rfl

theorem chars_append (a b : Bytes) : chars (a ++ b) = chars a ++ chars b := by simp [chars]

theorem isUtf8_ascii {bs : Bytes} (h : Ascii bs) : IsUtf8 bs := ⟨chars bs, encode_chars h⟩

theorem encode_singleton_ascii {b : Nat} (h : b < 128) : encode [Char.ofNat b] = [b] := by
  rw [encode_cons, encodeChar_ascii h]; rfl

/-- what serde_json's escaping does to one character: ASCII characters go through `escapeByte`, every
other character is copied -/
def escapeChar (c : Char) : List Char := if c.toNat < 128 then chars (escapeByte c.toNat) else [c]

theorem hexDigit_lt (n : Nat) (h : n < 16) : hexDigit n < 128 := by
  unfold hexDigit; split <;> omega

theorem ascii_cons {b : Nat} {bs : Bytes} (hb : b < 128) (h : Ascii bs) : Ascii (b :: bs) :=
  List.forall_mem_cons.2 ⟨hb, h⟩

theorem escapeByte_ascii {b : Nat} : b < 128 → Ascii (escapeByte b) := by
  refine escapeByte_elim (P := fun b l => b < 128 → Ascii l) ?_ ?_ ?_ b
  · exact fun p hp _ => (by decide : ∀ p ∈ escapePairs, ∀ b ∈ [92, p.2], b < 128) p hp
  · intro b hb _
    have h1 := hexDigit_lt (b / 16) (Nat.div_lt_of_lt_mul (Nat.lt_trans hb (by decide)))
    have h2 := hexDigit_lt (b % 16) (Nat.mod_lt b (by decide))
    exact ascii_cons (by decide) (ascii_cons (by decide) (ascii_cons (by decide) (ascii_cons (by decide)
      (ascii_cons h1 (ascii_cons h2 nofun)))))
  · exact fun b _ _ _ h => ascii_cons h nofun

theorem escapeByte_high {b : Nat} : 128 ≤ b → escapeByte b = [b] :=
  escapeByte_elim (P := fun b l => 128 ≤ b → l = [b])
    (fun p hp h => absurd h ((by decide : ∀ p ∈ escapePairs, ¬ 128 ≤ p.1) p hp))
    (fun _ hb h => absurd (Nat.lt_of_lt_of_le hb (Nat.le_trans (by decide) h)) (Nat.lt_irrefl _)) (fun _ _ _ _ _ => rfl) b

theorem jsonEscape_cons (b : Nat) (s : Bytes) : jsonEscape (b :: s) = escapeByte b ++ jsonEscape s := rfl

theorem jsonEscape_append (a b : Bytes) : jsonEscape (a ++ b) = jsonEscape a ++ jsonEscape b := List.flatMap_append

theorem jsonEscape_high : ∀ {s : Bytes}, (∀ b ∈ s, 128 ≤ b) → jsonEscape s = s
  | [], _ => rfl
  | b :: s, h => by
    rw [jsonEscape_cons, escapeByte_high (h b List.mem_cons_self),
      jsonEscape_high fun x hx => h x (List.mem_cons_of_mem _ hx)]; rfl

theorem jsonEscape_encodeChar (c : Char) : jsonEscape (encodeChar c) = encode (escapeChar c) := by
  unfold escapeChar
  by_cases h : c.toNat < 128
  · rw [if_pos h, encode_chars (escapeByte_ascii h), encodeChar_eq, encodeNat_of_lt_80 h]
    exact List.append_nil _
  · rw [if_neg h, encode_cons, encode_nil, List.append_nil, encodeChar_eq,
      jsonEscape_high (encodeNat_high (Nat.not_lt.1 h))]

theorem jsonEscape_encode (cs : List Char) : jsonEscape (encode cs) = encode (cs.flatMap escapeChar) := by
  induction cs with
  | nil => rfl
  | cons c cs ih =>
    rw [encode_cons, jsonEscape_append, jsonEscape_encodeChar, ih, List.flatMap_cons, encode_append]

theorem hex4_escape : ∀ n, n < 32 →
    hex4 '0' '0' (Char.ofNat (hexDigit (n / 16))) (Char.ofNat (hexDigit (n % 16))) = some n := by
  decide

theorem escapeByte_denotes (n : Nat) : n < 128 → StrCharD (chars (escapeByte n)) (Char.ofNat n) := by
  refine escapeByte_elim (P := fun n l => n < 128 → StrCharD (chars l) (Char.ofNat n)) ?_ ?_ ?_ n
  · exact fun p hp _ =>
      .escape ((by decide : ∀ p ∈ escapePairs, (Char.ofNat p.2, Char.ofNat p.1) ∈ escapeTable) p hp)
  · exact fun n h _ => .unicode (hex4_escape n h) (Or.inl (Nat.lt_trans h (by decide)))
  · intro n h hq hb hn
    exact .unescaped (by unfold Unescaped; rw [toNat_ofNat_small (Nat.lt_trans hn (by decide))]; exact ⟨h, hq, hb⟩)

theorem escapeChar_denotes (c : Char) : StrCharD (escapeChar c) c := by
  unfold escapeChar
  by_cases h : c.toNat < 128
  · rw [if_pos h]
    have := escapeByte_denotes c.toNat h
    rwa [Char.ofNat_toNat] at this
  · rw [if_neg h]; exact .unescaped (by unfold Unescaped; omega)

theorem escape_denotes (cs : List Char) : CharsD (cs.flatMap escapeChar) cs := by
  induction cs with
  | nil => exact .nil
  | cons c cs ih => rw [List.flatMap_cons]; exact .cons (escapeChar_denotes c) ih

theorem renderString_encode (cs : List Char) :
    renderString (encode cs) = encode ('"' :: (cs.flatMap escapeChar ++ ['"'])) := by
  have hq : encodeChar '"' = [34] := by decide
  rw [renderString, jsonEscape_encode, encode_cons, encode_append, encode_cons, encode_nil, hq]
  rfl

theorem renderString_denotes (cs : List Char) :
    ∃ t, encode t = renderString (encode cs) ∧ StrD t cs :=
  ⟨'"' :: (cs.flatMap escapeChar ++ ['"']), (renderString_encode cs).symm, .mk (escape_denotes cs)⟩

theorem toNat_digit {n : Nat} (h : n < 10) : (Char.ofNat (48 + n)).toNat = 48 + n :=
  toNat_ofNat_small (Nat.lt_trans (Nat.add_lt_add_left h 48) (by decide))

theorem chars_digit {n : Nat} (h : n < 10) : Digit (Char.ofNat (48 + n)) := by
  unfold Digit; rw [toNat_digit h]; exact digit_range h

theorem digitsVal_append (a : List Char) (c : Char) : digitsVal (a ++ [c]) = 10 * digitsVal a + (c.toNat - 0x30) := by
  simp [digitsVal, List.foldl_append]

theorem natDigits_pos (n : Nat) : 0 < n →
    ∃ d ds, chars (natDigits n) = d :: ds ∧ Digit19 d ∧ Digits ds ∧ digitsVal (d :: ds) = n := by
  induction n using natDigits.induct with
  | case1 n h =>
    intro hp
    rw [natDigits_lt h]
    refine ⟨Char.ofNat (48 + n), [], rfl, ?_, Digits.nil, ?_⟩
    · unfold Digit19; rw [toNat_digit h]; exact ⟨Nat.add_le_add_left hp 48, (digit_range h).2⟩
    · rw [← List.nil_append [_], digitsVal_append, toNat_digit h, Nat.add_sub_cancel_left]; exact Nat.zero_add n
  | case2 n h ih =>
    intro _
    have hm : n % 10 < 10 := Nat.mod_lt n (by decide)
    obtain ⟨d, ds, he, hd, hds, hv⟩ := ih (Nat.div_pos (Nat.not_lt.1 h) (by decide))
    rw [natDigits_ge h, chars_append, he]
    refine ⟨d, ds ++ [Char.ofNat (48 + n % 10)], rfl, hd, List.forall_mem_append.2 ⟨hds, ?_⟩, ?_⟩
    · intro c hc; rw [List.mem_singleton.1 hc]; exact chars_digit hm
    · rw [← List.cons_append, digitsVal_append, hv, toNat_digit hm, Nat.add_sub_cancel_left]
      exact Nat.div_add_mod n 10

theorem natDigits_int (n : Nat) : IntPart (chars (natDigits n)) ∧ digitsVal (chars (natDigits n)) = n := by
  by_cases h : n = 0
  · subst h; rw [natDigits_lt (by decide)]; exact ⟨.zero, rfl⟩
  · obtain ⟨d, ds, he, hd, hds, hv⟩ := natDigits_pos n (Nat.pos_of_ne_zero h)
    rw [he]; exact ⟨.nonzero hd hds, hv⟩

/-- `intText_is_json_number`: the decimal rendering of ANY integer (`Display for i64`, serde_json's integer
numbers) is a `number` of RFC 8259 §6, and the number it denotes is that integer (× 10^0) -/
theorem renderInt_denotes (i : Int) : NumD (chars (renderInt i)) ⟨i, 0⟩ := by
  obtain ⟨hi, hv⟩ := natDigits_int i.natAbs
  have key := @NumD.pos _ [] [] [] 0 hi FracD.none ExpD.none
  have keyn := @NumD.neg _ [] [] [] 0 hi FracD.none ExpD.none
  simp only [List.append_nil, hv, List.length_nil] at key keyn
  by_cases h : i < 0
  · rw [show (-(i.natAbs : Int)) = i by omega] at keyn
    rw [renderInt_neg h]; exact keyn
  · rw [show ((i.natAbs : Nat) : Int) = i by omega] at key
    rw [renderInt_nonneg h]; exact key

theorem Plain.ascii {c : Nat} : Plain c → c < 128 :=
  Plain.rec' (P := fun c => c < 128) (fun _ _ h => by omega) (by decide)

theorem renderInt_ascii (i : Int) : Ascii (renderInt i) := fun _ hb => (mem_renderInt hb).ascii

/-- "the shipped text is a JSON number": the decidable assumption on the REAL oracle's text -/
def isJsonNumberBytes (bs : Bytes) : Bool := bs.all (fun b => decide (b < 128)) && isJsonNumber (chars bs)

theorem isJsonNumberBytes_sound {bs : Bytes} (h : isJsonNumberBytes bs = true) :
    Ascii bs ∧ ∃ d, numValue (chars bs) = some d ∧ NumD (chars bs) d := by
  simp only [isJsonNumberBytes, Bool.and_eq_true, List.all_eq_true, decide_eq_true_eq] at h
  exact ⟨h.1, isJsonNumber_denotes h.2⟩

theorem isJsonNumberBytes_renderInt (i : Int) : isJsonNumberBytes (renderInt i) = true := by
  simp only [isJsonNumberBytes, Bool.and_eq_true, List.all_eq_true, decide_eq_true_eq]
  refine ⟨renderInt_ascii i, ?_⟩
  unfold isJsonNumber
  rw [numValue_complete (renderInt_denotes i)]; rfl

mutual
/-- all REAL bit patterns of a value (the cell itself or array elements at any depth) -/
def allReals : Value → List Nat
  | .real b => [b]
  | .array _ xs => allRealsList xs
  | _ => []
def allRealsList : List Value → List Nat
  | [] => []
  | x :: xs => allReals x ++ allRealsList xs
end

/-- what is assumed of the ryu oracle, for the REALs of one value: the text shipped for each finite REAL
is a JSON number (decidable; the `print` driver evaluates it on every case) -/
def RealTextsOk (o : RealOracle) (v : Value) : Prop :=
  ∀ b ∈ allReals v, isFinite b = true → isJsonNumberBytes (o.json b) = true

instance (o : RealOracle) : DecidablePred (RealTextsOk o) := fun v => by unfold RealTextsOk; infer_instance

/-- the same for every REAL whatsoever -/
def RealTextOk (o : RealOracle) : Prop := ∀ b, isFinite b = true → isJsonNumberBytes (o.json b) = true

theorem RealTextOk.value {o : RealOracle} (h : RealTextOk o) (v : Value) : RealTextsOk o v := fun b _ hf => h b hf

/-- the printed bytes of the document `j` are the UTF-8 encoding of a `value` text that denotes `x` -/
def Renders (j : Json) (x : JVal) : Prop := ∃ cs, encode cs = j.render ∧ ValD cs x

theorem renders_null : Renders .null .null := ⟨_, by decide, .null⟩
theorem renders_bool (b : Bool) : Renders (.bool b) (.bool b) := by
  cases b
  · exact ⟨_, by decide, .false⟩
  · exact ⟨_, by decide, .true⟩

theorem renders_num {tok : Bytes} {d : Dec} (ha : Ascii tok) (hd : NumD (chars tok) d) :
    Renders (.num tok) (.num d) := ⟨chars tok, encode_chars ha, .number hd⟩

theorem renders_str (cs : List Char) : Renders (.str (encode cs)) (.str cs) := by
  obtain ⟨t, ht, hs⟩ := renderString_denotes cs
  exact ⟨t, ht, .string hs⟩

/-- a printed comma-separated sequence denotes by the two rules `one`, `cons` that `ElemsD` and `MembersD` share, if every
printed item denotes; `tail` is the printer of the items after the first, known by its two equations -/
theorem commaTail_denotes {α β : Type} {R : α → β → Prop} {D : List Char → β → Prop} {Ds : List Char → List β → Prop}
    {render : α → Bytes} {tail : List α → Bytes} (hnil : tail [] = [])
    (hcons : ∀ a as, tail (a :: as) = 44 :: (render a ++ tail as)) (one : ∀ {v x}, D v x → Ds v [x])
    (cons : ∀ {v s vs x xs}, D v x → Sep ',' s → Ds vs xs → Ds (v ++ s ++ vs) (x :: xs))
    (hR : ∀ {a b}, R a b → ∃ cs, encode cs = render a ∧ D cs b) {a0 : α} {b0 : β} (h0 : R a0 b0) {as : List α}
    {bs : List β} (h : AllRel R as bs) : ∃ cs, encode cs = render a0 ++ tail as ∧ Ds cs (b0 :: bs) := by
  induction h generalizing a0 b0 with
  | nil =>
    obtain ⟨cs, hc, hv⟩ := hR h0
    exact ⟨cs, by rw [hnil, List.append_nil, hc], one hv⟩
  | @cons a b as bs hab _ ih =>
    obtain ⟨cs, hc, hv⟩ := hR h0
    obtain ⟨ts, ht, hts⟩ := ih hab
    refine ⟨cs ++ [','] ++ ts, ?_, cons hv (sep_bare ',') hts⟩
    have hcomma : encode [','] = [44] := by decide
    rw [encode_append, encode_append, hc, ht, hcomma, hcons, List.append_assoc, List.singleton_append]

theorem renderTail_elems (x0 : Json) (y0 : JVal) (h0 : Renders x0 y0) (xs : List Json) (ys : List JVal)
    (h : AllRel Renders xs ys) : ∃ cs, encode cs = x0.render ++ Json.renderTail xs ∧ ElemsD cs (y0 :: ys) :=
  commaTail_denotes (by rw [Json.renderTail]) (fun _ _ => by rw [Json.renderTail]) .one .cons id h0 h

theorem renders_arr {xs : List Json} {ys : List JVal} (h : AllRel Renders xs ys) : Renders (.arr xs) (.arr ys) := by
  have hopen : encode ['['] = [91] := by decide
  have hclose : encode [']'] = [93] := by decide
  cases h with
  | nil =>
    refine ⟨['['] ++ [']'], by decide, .array (.empty (sep_bare '[') (sep_bare ']'))⟩
  | @cons a b as bs hab hrest =>
    obtain ⟨ts, ht, hts⟩ := renderTail_elems a b hab as bs hrest
    refine ⟨['['] ++ ts ++ [']'], ?_, .array (.elements (sep_bare '[') hts (sep_bare ']'))⟩
    rw [encode_append, encode_append, hopen, hclose, ht]
    simp [Json.render]

/-- what a JSON value says about a cell — the reading of "values recover the row exactly":
NULL → `null`; BOOLEAN → `true`/`false`; INT `i` → the number `i` (`i × 10^0`); a finite REAL → the number
that the shipped (ryu) text denotes; a non-finite REAL → `null`; TEXT → the string of exactly its
characters; arrays → arrays, element by element; TIMESTAMP / INTERVAL → the string of their text form -/
inductive CellDoc (o : RealOracle) : Value → JVal → Prop
  | null : CellDoc o .null .null
  | int (i : Int) : CellDoc o (.int i) (.num ⟨i, 0⟩)
  | real {b : Nat} {d : Dec} : isFinite b = true → numValue (chars (o.json b)) = some d →
      CellDoc o (.real b) (.num d)
  | realNonFinite {b : Nat} : isFinite b = false → CellDoc o (.real b) .null
  | bool (b : Bool) : CellDoc o (.bool b) (.bool b)
  | text {s : Bytes} {cs : List Char} : encode cs = s → CellDoc o (.text s) (.str cs)
  | array {t : VType} {xs : List Value} {ys : List JVal} : AllRel (CellDoc o) xs ys →
      CellDoc o (.array t xs) (.arr ys)
  | timestamp {d s f : Int} {cs : List Char} : encode cs = renderTimestamp d s f →
      CellDoc o (.timestamp d s f) (.str cs)
  | interval {n : Int} {cs : List Char} : encode cs = renderInterval n → CellDoc o (.interval n) (.str cs)

theorem renderTimestamp_ascii (d s f : Int) : Ascii (renderTimestamp d s f) :=
  fun _ hb => (mem_renderTimestamp hb).ascii

theorem renderInterval_ascii (n : Int) : Ascii (renderInterval n) := fun _ hb => (mem_renderInterval hb).ascii

theorem renders_ascii_str {s : Bytes} (h : Ascii s) : Renders (.str s) (.str (chars s)) := by
  have := renders_str (chars s)
  rwa [encode_chars h] at this

mutual
theorem cell_renders (o : RealOracle) : ∀ v : Value, RealTextsOk o v → (∀ s ∈ allTexts v, IsUtf8 s) →
    ∃ x, CellDoc o v x ∧ Renders (jsonValue o v) x
  | .null, _, _ => ⟨_, .null, renders_null⟩
  | .int i, _, _ => ⟨_, .int i, renders_num (renderInt_ascii i) (renderInt_denotes i)⟩
  | .real b, ho, _ => by
    rw [jsonValue]
    cases hf : isFinite b with
    | true =>
      obtain ⟨ha, d, hd, hD⟩ := isJsonNumberBytes_sound (ho b List.mem_cons_self hf)
      exact ⟨_, .real hf hd, renders_num ha hD⟩
    | false => exact ⟨_, .realNonFinite hf, renders_null⟩
  | .bool b, _, _ => ⟨_, .bool b, renders_bool b⟩
  | .text s, _, h => by
    obtain ⟨cs, rfl⟩ := h s List.mem_cons_self
    exact ⟨_, .text rfl, renders_str cs⟩
  | .array _ xs, ho, h => by
    obtain ⟨ys, h1, h2⟩ := cells_render o xs ho h
    exact ⟨_, .array h1, renders_arr h2⟩
  | .timestamp d s f, _, _ =>
    ⟨_, .timestamp (encode_chars (renderTimestamp_ascii d s f)), renders_ascii_str (renderTimestamp_ascii d s f)⟩
  | .interval n, _, _ =>
    ⟨_, .interval (encode_chars (renderInterval_ascii n)), renders_ascii_str (renderInterval_ascii n)⟩
theorem cells_render (o : RealOracle) : ∀ xs : List Value,
    (∀ b ∈ allRealsList xs, isFinite b = true → isJsonNumberBytes (o.json b) = true) →
    (∀ s ∈ allTextsList xs, IsUtf8 s) →
    ∃ ys, AllRel (CellDoc o) xs ys ∧ AllRel Renders (jsonValues o xs) ys
  | [], _, _ => ⟨[], .nil, .nil⟩
  | x :: xs, ho, h => by
    obtain ⟨y, h1, h2⟩ := cell_renders o x (fun b hb => ho b (List.mem_append_left _ hb))
      (fun s hs => h s (List.mem_append_left _ hs))
    obtain ⟨ys, h3, h4⟩ := cells_render o xs (fun b hb => ho b (List.mem_append_right _ hb))
      (fun s hs => h s (List.mem_append_right _ hs))
    exact ⟨y :: ys, .cons h1 h3, .cons h2 h4⟩
end

def MemberRenders (kv : Bytes × Json) (m : List Char × JVal) : Prop := encode m.1 = kv.1 ∧ Renders kv.2 m.2

theorem renderMember_denotes {kv : Bytes × Json} {m : List Char × JVal} (h : MemberRenders kv m) :
    ∃ cs, encode cs = renderMember kv ∧ MemberD cs m := by
  obtain ⟨k, j⟩ := kv
  obtain ⟨name, x⟩ := m
  obtain ⟨hk, cs, hc, hv⟩ := h
  simp only at hk hc
  obtain ⟨t, ht, hs⟩ := renderString_denotes name
  refine ⟨t ++ [':'] ++ cs, ?_, .mk hs (sep_bare ':') hv⟩
  have hcolon : encode [':'] = [58] := by decide
  rw [encode_append, encode_append, ht, hc, hcolon, hk]
  simp [renderMember]

theorem renderMembersTail_denotes (kv0 : Bytes × Json) (m0 : List Char × JVal) (h0 : MemberRenders kv0 m0)
    (kvs : List (Bytes × Json)) (ms : List (List Char × JVal)) (h : AllRel MemberRenders kvs ms) :
    ∃ cs, encode cs = renderMember kv0 ++ renderMembersTail kvs ∧ MembersD cs (m0 :: ms) :=
  commaTail_denotes (R := MemberRenders) (tail := renderMembersTail) rfl (fun _ _ => rfl) .one .cons
    renderMember_denotes h0 h

theorem renderObject_denotes {kvs : List (Bytes × Json)} {ms : List (List Char × JVal)}
    (h : AllRel MemberRenders kvs ms) : ∃ cs, encode cs = renderObject kvs ∧ ObjD cs ms := by
  have hopen : encode ['{'] = [123] := by decide
  have hclose : encode ['}'] = [125] := by decide
  cases h with
  | nil => exact ⟨['{'] ++ ['}'], by decide, .empty (sep_bare '{') (sep_bare '}')⟩
  | @cons a b as bs hab hrest =>
    obtain ⟨ts, ht, hts⟩ := renderMembersTail_denotes a b hab as bs hrest
    refine ⟨['{'] ++ ts ++ ['}'], ?_, .members (sep_bare '{') hts (sep_bare '}')⟩
    rw [encode_append, encode_append, hopen, hclose, ht]
    simp [renderObject]

theorem insertKV_forall {Q : Bytes → Prop} {R : Json → Prop} (m : List (Bytes × Json)) (k : Bytes) (v : Json)
    (hm : ∀ kv ∈ m, Q kv.1 ∧ R kv.2) (hk : Q k) (hv : R v) : ∀ kv ∈ insertKV m k v, Q kv.1 ∧ R kv.2 := by
  induction m with
  | nil => intro kv hkv; simp only [insertKV, List.mem_singleton] at hkv; subst hkv; exact ⟨hk, hv⟩
  | cons kv' m ih =>
    obtain ⟨k', v'⟩ := kv'
    have h' := hm (k', v') (List.mem_cons_self ..)
    intro kv hkv
    simp only [insertKV] at hkv
    split at hkv
    · cases hkv with
      | head => exact ⟨h'.1, hv⟩
      | tail _ hkv => exact hm kv (List.mem_cons_of_mem _ hkv)
    · cases hkv with
      | head => exact h'
      | tail _ hkv => exact ih (fun x hx => hm x (List.mem_cons_of_mem _ hx)) kv hkv

theorem foldl_insertKV_forall {Q : Bytes → Prop} {R : Json → Prop} : ∀ (kvs m : List (Bytes × Json)),
    (∀ kv ∈ m, Q kv.1 ∧ R kv.2) → (∀ kv ∈ kvs, Q kv.1 ∧ R kv.2) →
      ∀ kv ∈ kvs.foldl (fun m kv => insertKV m kv.1 kv.2) m, Q kv.1 ∧ R kv.2
  | [], _, hm, _ => hm
  | x :: xs, m, hm, hx =>
    foldl_insertKV_forall xs _
      (insertKV_forall m x.1 x.2 hm (hx x List.mem_cons_self).1 (hx x List.mem_cons_self).2)
      fun y hy => hx y (List.mem_cons_of_mem _ hy)

theorem mapFromList_forall {Q : Bytes → Prop} {R : Json → Prop} (kvs : List (Bytes × Json))
    (h : ∀ kv ∈ kvs, Q kv.1 ∧ R kv.2) : ∀ kv ∈ mapFromList kvs, Q kv.1 ∧ R kv.2 :=
  foldl_insertKV_forall kvs [] nofun h

theorem allRel_of_forall {α β : Type} {R : α → β → Prop} (as : List α) (h : ∀ a ∈ as, ∃ b, R a b) :
    ∃ bs, AllRel R as bs := by
  induction as with
  | nil => exact ⟨[], .nil⟩
  | cons a as ih =>
    obtain ⟨b, hb⟩ := h a (List.mem_cons_self ..)
    obtain ⟨bs, hbs⟩ := ih (fun x hx => h x (List.mem_cons_of_mem _ hx))
    exact ⟨b :: bs, .cons hb hbs⟩

theorem record_is_object (o : RealOracle) (cols : List Bytes) (row : List Value)
    (ho : ∀ v ∈ row, RealTextsOk o v) (hcols : ∀ c ∈ cols, IsUtf8 c) (htexts : ∀ v ∈ row, ∀ s ∈ allTexts v, IsUtf8 s) :
    ∃ (line : List Char) (ms : List (List Char × JVal)),
      encode line = renderRecord o .json cols row ∧ ObjD line ms := by
  rw [renderRecord_json]
  have hall : ∀ kv ∈ mapFromList (jsonMembers o cols row), IsUtf8 kv.1 ∧ ∃ x, Renders kv.2 x := by
    apply mapFromList_forall (Q := IsUtf8) (R := fun j => ∃ x, Renders j x)
    intro kv hkv
    obtain ⟨⟨c, v⟩, hmem, rfl⟩ := List.mem_map.1 hkv
    have := List.of_mem_zip hmem
    obtain ⟨x, _, hx⟩ := cell_renders o v (ho v this.2) (htexts v this.2)
    exact ⟨hcols c this.1, x, hx⟩
  obtain ⟨ms, hms⟩ := allRel_of_forall (R := MemberRenders) (mapFromList (jsonMembers o cols row)) (by
    intro kv hkv
    obtain ⟨⟨name, hn⟩, x, hx⟩ := hall kv hkv
    exact ⟨(name, x), hn, hx⟩)
  obtain ⟨cs, hc, hobj⟩ := renderObject_denotes hms
  exact ⟨cs, ms, hc, hobj⟩

theorem allRel_zip_members (o : RealOracle) :
    ∀ (names : List (List Char)) (row : List Value) (xs : List JVal), names.length = row.length →
      AllRel (fun v x => CellDoc o v x ∧ Renders (jsonValue o v) x) row xs →
      AllRel MemberRenders (jsonMembers o (names.map encode) row) (names.zip xs)
  | [], [], _, _, h => by cases h; exact .nil
  | n :: names, v :: row, _, hl, h => by
    cases h with
    | cons h1 h2 =>
      simp only [List.length_cons, Nat.add_right_cancel_iff] at hl
      exact .cons ⟨rfl, h1.2⟩ (allRel_zip_members o names row _ hl h2)
  | [], _ :: _, _, hl, _ => by simp at hl
  | _ :: _, [], _, hl, _ => by simp at hl

theorem isUtf8_names {cols : List Bytes} (h : ∀ c ∈ cols, IsUtf8 c) : ∃ names : List (List Char), names.map encode = cols := by
  induction cols with
  | nil => exact ⟨[], rfl⟩
  | cons c cols ih =>
    obtain ⟨n, hn⟩ := h c (List.mem_cons_self ..)
    obtain ⟨ns, hns⟩ := ih (fun x hx => h x (List.mem_cons_of_mem _ hx))
    exact ⟨n :: ns, by simp [hn, hns]⟩

theorem allRel_and_left {α β : Type} {R S : α → β → Prop} {as : List α} {bs : List β}
    (h : AllRel (fun a b => R a b ∧ S a b) as bs) : AllRel R as bs := by
  induction h with
  | nil => exact .nil
  | cons h _ ih => exact .cons h.1 ih

theorem rows_render (o : RealOracle) (row : List Value) (ho : ∀ v ∈ row, RealTextsOk o v)
    (htexts : ∀ v ∈ row, ∀ s ∈ allTexts v, IsUtf8 s) :
    ∃ xs, AllRel (fun v x => CellDoc o v x ∧ Renders (jsonValue o v) x) row xs :=
  allRel_of_forall row (fun v hv => by
    obtain ⟨x, h1, h2⟩ := cell_renders o v (ho v hv) (htexts v hv)
    exact ⟨x, h1, h2⟩)

theorem record_denotes_row (o : RealOracle) (cols : List Bytes) (row : List Value)
    (ho : ∀ v ∈ row, RealTextsOk o v) (hd : cols.Nodup) (hl : cols.length = row.length)
    (hcols : ∀ c ∈ cols, IsUtf8 c) (htexts : ∀ v ∈ row, ∀ s ∈ allTexts v, IsUtf8 s) :
    ∃ (line : List Char) (names : List (List Char)) (xs : List JVal),
      encode line = renderRecord o .json cols row ∧ ObjD line (names.zip xs)
      ∧ names.map encode = cols ∧ AllRel (CellDoc o) row xs := by
  obtain ⟨names, hnames⟩ := isUtf8_names hcols
  obtain ⟨xs, hxs⟩ := rows_render o row ho htexts
  have hl' : names.length = row.length := by rw [← hl, ← hnames, List.length_map]
  have hm := allRel_zip_members o names row xs hl' hxs
  rw [hnames] at hm
  obtain ⟨cs, hc, hobj⟩ := renderObject_denotes hm
  refine ⟨cs, names, xs, ?_, hobj, hnames, allRel_and_left hxs⟩
  rw [renderRecord_json, mapFromList_jsonMembers o hd hl]; exact hc

mutual
/-- what a reader of the JSON value knows of the cell: numbers with exponent 0 are INT, strings are TEXT
(their UTF-8 bytes), arrays lose their static element type (set to `int`, as in `jsonMeaning`) -/
def cellOfJVal : JVal → Option Value
  | .null => some .null
  | .bool b => some (.bool b)
  | .num d => if d.exp = 0 then some (.int d.mant) else none
  | .str s => some (.text (encode s))
  | .arr xs =>
    match cellsOfJVals xs with
    | some vs => some (.array .int vs)
    | none => none
  | .obj _ => none
def cellsOfJVals : List JVal → Option (List Value)
  | [] => some []
  | x :: xs =>
    match cellOfJVal x, cellsOfJVals xs with
    | some v, some vs => some (v :: vs)
    | _, _ => none
end

mutual
theorem cellOfJVal_cellDoc (o : RealOracle) : ∀ (v : Value) (x : JVal), CellDoc o v x → noReal v = true →
    cellOfJVal x = some (jsonMeaning v)
  | _, _, .null, _ => rfl
  | _, _, .int i, _ => by simp [cellOfJVal, jsonMeaning]
  | _, _, .real _ _, h => by simp [noReal] at h
  | _, _, .realNonFinite _, h => by simp [noReal] at h
  | _, _, .bool b, _ => rfl
  | _, _, .text h, _ => by subst h; rfl
  | _, _, .array h, hn => by
    simp only [noReal] at hn
    simp only [cellOfJVal, cellsOfJVals_cellDocs o _ _ h hn, jsonMeaning]
  | _, _, .timestamp h, _ => by simp only [cellOfJVal, h, jsonMeaning]
  | _, _, .interval h, _ => by simp only [cellOfJVal, h, jsonMeaning]
theorem cellsOfJVals_cellDocs (o : RealOracle) : ∀ (vs : List Value) (xs : List JVal), AllRel (CellDoc o) vs xs →
    noRealAll vs = true → cellsOfJVals xs = some (jsonMeanings vs)
  | _, _, .nil, _ => rfl
  | _, _, .cons h hs, hn => by
    simp only [noRealAll, Bool.and_eq_true] at hn
    simp only [cellsOfJVals, cellOfJVal_cellDoc o _ _ h hn.1, cellsOfJVals_cellDocs o _ _ hs hn.2, jsonMeanings]
end

theorem map_cellOfJVal (o : RealOracle) {row : List Value} {xs : List JVal} (h : AllRel (CellDoc o) row xs)
    (hn : ∀ v ∈ row, noReal v = true) : xs.map cellOfJVal = row.map (fun v => some (jsonMeaning v)) := by
  induction h with
  | nil => rfl
  | @cons v x vs xs h _ ih =>
    simp only [List.map_cons]
    rw [cellOfJVal_cellDoc o v x h (hn v (List.mem_cons_self ..)), ih (fun w hw => hn w (List.mem_cons_of_mem _ hw))]

mutual
theorem noReal_allReals : ∀ {v : Value}, noReal v = true → allReals v = []
  | .null, _ => rfl
  | .int _, _ => rfl
  | .real _, h => by simp [noReal] at h
  | .bool _, _ => rfl
  | .text _, _ => rfl
  | .array _ xs, h => by simp only [noReal] at h; simp only [allReals, noRealAll_allReals h]
  | .timestamp _ _ _, _ => rfl
  | .interval _, _ => rfl
theorem noRealAll_allReals : ∀ {xs : List Value}, noRealAll xs = true → allRealsList xs = []
  | [], _ => rfl
  | x :: xs, h => by
    simp only [noRealAll, Bool.and_eq_true] at h
    simp only [allRealsList, noReal_allReals h.1, noRealAll_allReals h.2, List.append_nil]
end

theorem mem_printAll_json (o : RealOracle) (l : Line) :
    ∀ (first : Bool) (seq : List (ResultRow × Bool)), l ∈ printAll o .json first seq →
      l = .separator ∨ ∃ cr ∈ allRows seq, l = .record (renderRecord o .json cr.1 cr.2) :=
  fun first seq h => (mem_printAll o .json l first seq h).imp id
    fun ⟨cr, hcr, hl⟩ => ⟨cr, hcr, hl.elim (fun h => nomatch h) id⟩

end Sqlgrep.Print
