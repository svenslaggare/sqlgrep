import SqlgrepModel.Lemmas.ParseRenameStmt
import SqlgrepModel.Lemmas.LowerNames
/-
When a respelling fixes every case-SENSITIVE name of a SELECT tree (column names, aliases, the table, the join's table
and column names), respelling all names (`renAll`, what the parser does to the tree when all identifier tokens are
respelled) is respelling the call names only (`renameCalls`, under which the lowering is invariant:
`Lemmas/LowerNames.lean`). Then the respellings the C20 statements are applied with: `segwise ρ₀`, a respelling of plain
names extended to qualified names `a.b`; `respell pairs`, the respelling given by a table of (spelling, other spelling), which
is a `NameMap` when every entry is a change of letter case of a word with an upper-case letter (`RespellTable`,
`nameMap_respell`); `lowerFixed`, the characters `lowerChars` leaves alone (the words it answers consist of them).
-/
namespace Sqlgrep

mutual
/-- `ρ` fixes every column name of the tree -/
def PExpr.colsFixed (ρ : List Char → List Char) : PExpr → Bool
  | .value _ _ => true
  | .column _ n => decide (ρ n = n)
  | .wildcard _ => true
  | .tuple _ vs => PExpr.colsFixedList ρ vs
  | .binop _ _ a b => a.colsFixed ρ && b.colsFixed ρ
  | .boolop _ _ a b => a.colsFixed ρ && b.colsFixed ρ
  | .unop _ _ e => e.colsFixed ρ
  | .invert _ e => e.colsFixed ρ
  | .nullcmp _ _ a b => a.colsFixed ρ && b.colsFixed ρ
  | .inList _ _ e vs => e.colsFixed ρ && PExpr.colsFixedList ρ vs
  | .call _ _ args _ => PExpr.colsFixedList ρ args
  | .index _ a i => a.colsFixed ρ && i.colsFixed ρ
  | .cast _ e _ => e.colsFixed ρ
  | .case _ cs els => PExpr.colsFixedClauses ρ cs && els.colsFixed ρ
def PExpr.colsFixedList (ρ : List Char → List Char) : List PExpr → Bool
  | [] => true
  | x :: xs => x.colsFixed ρ && PExpr.colsFixedList ρ xs
def PExpr.colsFixedClauses (ρ : List Char → List Char) : List (PExpr × PExpr) → Bool
  | [] => true
  | (c, r) :: xs => c.colsFixed ρ && r.colsFixed ρ && PExpr.colsFixedClauses ρ xs
end

def PJoin.namesFixed (ρ : List Char → List Char) (j : PJoin) : Bool :=
  decide (ρ j.joinerTable = j.joinerTable) && decide (ρ j.leftTable = j.leftTable) && decide (ρ j.leftColumn = j.leftColumn) &&
  decide (ρ j.rightTable = j.rightTable) && decide (ρ j.rightColumn = j.rightColumn)

/-- `ρ` fixes every case-sensitive name of the SELECT tree: column names, aliases, the table, the names of the join -/
def PSelect.namesFixed (ρ : List Char → List Char) (q : PSelect) : Bool :=
  q.projections.all (fun p => (match p.1 with | some a => decide (ρ a = a) | none => true) && p.2.colsFixed ρ) &&
  decide (ρ q.fromTable = q.fromTable) &&
  (match q.filter with | some e => e.colsFixed ρ | none => true) &&
  (match q.groupBy with | some ks => PExpr.colsFixedList ρ ks | none => true) &&
  (match q.having with | some e => e.colsFixed ρ | none => true) &&
  (match q.join with | some j => j.namesFixed ρ | none => true)

def POp.namesFixed (ρ : List Char → List Char) : POp → Bool
  | .select q => q.namesFixed ρ
  | _ => true

theorem renAll_eq_renameCalls (ρ : List Char → List Char) :
    (∀ e : PExpr, e.colsFixed ρ = true → e.renAll ρ = e.renameCalls ρ) ∧
    (∀ es, PExpr.colsFixedList ρ es = true → PExpr.renAllList ρ es = PExpr.renameCallsList ρ es) ∧
    (∀ cs, PExpr.colsFixedClauses ρ cs = true → PExpr.renAllClauses ρ cs = PExpr.renameCallsClauses ρ cs) := by
  apply PExpr.induct3
  all_goals intros
  all_goals simp_all only [PExpr.colsFixed, PExpr.colsFixedList, PExpr.colsFixedClauses, Bool.and_eq_true, decide_eq_true_eq,
    PExpr.renAll, PExpr.renameCalls, PExpr.renAllList, PExpr.renameCallsList, PExpr.renAllClauses, PExpr.renameCallsClauses]

theorem PJoin.renAll_of_fixed {ρ : List Char → List Char} {j : PJoin} (h : j.namesFixed ρ = true) : j.renAll ρ = j := by
  simp only [PJoin.namesFixed, Bool.and_eq_true, decide_eq_true_eq] at h
  obtain ⟨⟨⟨⟨h1, h2⟩, h3⟩, h4⟩, h5⟩ := h
  cases j
  simp_all [PJoin.renAll]

theorem PSelect.renAll_of_fixed {ρ : List Char → List Char} {q : PSelect} (h : q.namesFixed ρ = true) :
    q.renAll ρ = q.renameCalls ρ := by
  simp only [PSelect.namesFixed, Bool.and_eq_true, decide_eq_true_eq, List.all_eq_true] at h
  obtain ⟨⟨⟨⟨⟨hp, ht⟩, hf⟩, hg⟩, hh⟩, hj⟩ := h
  have e1 : renProj ρ q.projections = q.projections.map (fun p => (p.1, p.2.renameCalls ρ)) := by
    unfold renProj
    apply List.map_congr_left
    intro p hpm
    obtain ⟨ha, hc⟩ := hp p hpm
    rw [(renAll_eq_renameCalls ρ).1 _ hc]
    cases hp1 : p.1 with
    | none => rfl
    | some a => rw [hp1] at ha; simp only [decide_eq_true_eq] at ha; simp [ha]
  have e2 : q.filter.map (PExpr.renAll ρ) = q.filter.map (PExpr.renameCalls ρ) := by
    cases hq : q.filter with
    | none => rfl
    | some e => rw [hq] at hf; simp [(renAll_eq_renameCalls ρ).1 e hf]
  have e3 : q.groupBy.map (PExpr.renAllList ρ) = q.groupBy.map (PExpr.renameCallsList ρ) := by
    cases hq : q.groupBy with
    | none => rfl
    | some ks => rw [hq] at hg; simp [(renAll_eq_renameCalls ρ).2.1 ks hg]
  have e4 : q.having.map (PExpr.renAll ρ) = q.having.map (PExpr.renameCalls ρ) := by
    cases hq : q.having with
    | none => rfl
    | some e => rw [hq] at hh; simp [(renAll_eq_renameCalls ρ).1 e hh]
  have e5 : q.join.map (PJoin.renAll ρ) = q.join := by
    cases hq : q.join with
    | none => rfl
    | some j => rw [hq] at hj; simp [PJoin.renAll_of_fixed hj]
  unfold PSelect.renAll PSelect.renameCalls
  rw [e1, e2, e3, e4, e5, ht]

theorem POp.renAll_of_fixed {ρ : List Char → List Char} {t : POp} (h : t.namesFixed ρ = true) :
    t.renAll ρ = t.renameCalls ρ := by
  cases t with
  | select q => simp only [POp.renAll, POp.renameCalls]; rw [PSelect.renAll_of_fixed h]
  | createTable c => rfl
  | multiple cs => rfl

/-- apply `ρ₀` to every `.`-separated part of a name (`acc`: the part being read, reversed) -/
def segwiseGo (ρ₀ : List Char → List Char) : List Char → List Char → List Char
  | [], acc => ρ₀ acc.reverse
  | c :: cs, acc => if c = '.' then ρ₀ acc.reverse ++ '.' :: segwiseGo ρ₀ cs [] else segwiseGo ρ₀ cs (c :: acc)

/-- `segwise ρ₀ "a.b" = ρ₀ "a" ++ "." ++ ρ₀ "b"` -/
def segwise (ρ₀ : List Char → List Char) (n : List Char) : List Char := segwiseGo ρ₀ n []

theorem segwiseGo_dot (ρ₀ : List Char → List Char) : ∀ (a b acc : List Char),
    segwiseGo ρ₀ (a ++ ['.'] ++ b) acc = segwiseGo ρ₀ a acc ++ ['.'] ++ segwiseGo ρ₀ b [] := by
  intro a
  induction a with
  | nil => intro b acc; simp [segwiseGo]
  | cons c cs ih =>
    intro b acc
    simp only [List.cons_append, segwiseGo]
    by_cases hc : c = '.'
    · simp only [hc, if_true]; rw [ih]; simp
    · simp only [hc, if_false]; exact ih b _

theorem segwise_dot (ρ₀ : List Char → List Char) (a b : List Char) :
    segwise ρ₀ (a ++ ['.'] ++ b) = segwise ρ₀ a ++ ['.'] ++ segwise ρ₀ b := segwiseGo_dot ρ₀ a b []

/-- on a name without `.` (every identifier token: the tokenizer reads letters, digits and `_`) it is `ρ₀` -/
theorem segwiseGo_plain (ρ₀ : List Char → List Char) : ∀ (n acc : List Char), '.' ∉ n →
    segwiseGo ρ₀ n acc = ρ₀ (acc.reverse ++ n) := by
  intro n
  induction n with
  | nil => intro acc _; simp [segwiseGo]
  | cons c cs ih =>
    intro acc h
    simp only [List.mem_cons, not_or] at h
    have hc : c ≠ '.' := fun e => h.1 e.symm
    simp only [segwiseGo, hc, if_false]
    rw [ih _ h.2]; simp

theorem segwise_plain (ρ₀ : List Char → List Char) (n : List Char) (h : '.' ∉ n) : segwise ρ₀ n = ρ₀ n := by
  unfold segwise; rw [segwiseGo_plain ρ₀ n [] h]; rfl

theorem lowerChars_append (a b : List Char) : lowerChars (a ++ b) = lowerChars a ++ lowerChars b := by
  simp [lowerChars]

theorem lowerChars_cons (c : Char) (cs : List Char) : lowerChars (c :: cs) = lowerChars [c] ++ lowerChars cs :=
  lowerChars_append [c] cs

theorem segwiseGo_case (ρ₀ : List Char → List Char) (h : CaseOnly ρ₀) : ∀ (n acc : List Char),
    lowerChars (segwiseGo ρ₀ n acc) = lowerChars (acc.reverse ++ n) := by
  intro n
  induction n with
  | nil => intro acc; simp [segwiseGo, h _]
  | cons c cs ih =>
    intro acc
    simp only [segwiseGo]
    by_cases hc : c = '.'
    · subst hc
      simp only [if_true]
      rw [lowerChars_append, lowerChars_append, h, lowerChars_cons '.' (segwiseGo ρ₀ cs []), lowerChars_cons '.' cs, ih]
      simp
    · simp only [hc, if_false]; rw [ih]; simp

theorem nameMap_segwise (ρ₀ : List Char → List Char) (h : CaseOnly ρ₀)
    (h1 : ρ₀ "create_array".toList = "create_array".toList)
    (h2 : ∀ p, segwise ρ₀ ("timestamp_extract_".toList ++ lowerChars p) = "timestamp_extract_".toList ++ lowerChars p) :
    NameMap (segwise ρ₀) where
  caseOnly := fun n => by unfold segwise; rw [segwiseGo_case ρ₀ h]; rfl
  dot := segwise_dot ρ₀
  createArray := by rw [segwise_plain _ _ (by decide)]; exact h1
  extract := h2

/-- an ASCII upper-case letter -/
def isUpperAZ (c : Char) : Bool := decide ('A' ≤ c ∧ c ≤ 'Z')

theorem ofNat_toNat_small (b : Nat) (h : b < 0xD800) : (Char.ofNat b).toNat = b := by
  simp [Char.ofNat, Nat.isValidChar, h, Char.toNat, Char.ofNatAux]

theorem char_le_iff (a b : Char) : a ≤ b ↔ a.toNat ≤ b.toNat := by
  rw [Char.le_def, UInt32.le_iff_toNat_le]; rfl

namespace Parse

/-- a character `lowerChars` leaves alone -/
def lowerFixed (c : Char) : Prop := ¬ ('A' ≤ c ∧ c ≤ 'Z') ∧ c.toNat ≠ 0x212A ∧ c.toNat ≠ 0x130

instance : DecidablePred lowerFixed := fun c =>
  inferInstanceAs (Decidable (¬ ('A' ≤ c ∧ c ≤ 'Z') ∧ c.toNat ≠ 0x212A ∧ c.toNat ≠ 0x130))

theorem lowerChars_of_fixed : ∀ (w : List Char), (∀ c ∈ w, lowerFixed c) → lowerChars w = w
  | [], _ => rfl
  | c :: cs, h => by
    have hc := h c (by simp)
    have ih := lowerChars_of_fixed cs (fun d hd => h d (List.mem_cons_of_mem _ hd))
    rw [lowerChars_cons, ih]
    simp [lowerChars, hc.1, hc.2.1, hc.2.2]

theorem lowerChars_out_fixed (s : List Char) : ∀ c ∈ lowerChars s, lowerFixed c := by
  intro c hc
  simp only [lowerChars, List.mem_flatMap] at hc
  obtain ⟨d, _, hcd⟩ := hc
  have hA : ('A' : Char).toNat = 65 := by decide
  have hZ : ('Z' : Char).toNat = 90 := by decide
  unfold lowerFixed
  simp only [char_le_iff, hA, hZ]
  split at hcd
  · rename_i hu
    simp only [char_le_iff, hA, hZ] at hu
    simp only [List.mem_singleton] at hcd
    subst hcd
    rw [ofNat_toNat_small _ (by omega)]
    omega
  · split at hcd
    · simp only [List.mem_singleton] at hcd; subst hcd; decide
    · split at hcd
      · simp only [List.mem_cons, List.mem_nil_iff, or_false] at hcd
        rcases hcd with rfl | rfl
        · decide
        · rw [ofNat_toNat_small _ (by decide)]; omega
      · rename_i hu h1 h2
        simp only [char_le_iff, hA, hZ] at hu
        simp only [List.mem_singleton] at hcd; subst hcd
        exact ⟨hu, h1, h2⟩

end Parse

open Parse in
theorem lowerChars_noUpper (s : List Char) : ∀ c ∈ lowerChars s, isUpperAZ c = false :=
  fun c hc => decide_eq_false (lowerChars_out_fixed s c hc).1

theorem segwiseGo_fix (ρ₀ : List Char → List Char) (hfix : ∀ w, (∀ c ∈ w, isUpperAZ c = false) → ρ₀ w = w) :
    ∀ (n acc : List Char), (∀ c ∈ n, isUpperAZ c = false) → (∀ c ∈ acc, isUpperAZ c = false) →
      segwiseGo ρ₀ n acc = acc.reverse ++ n := by
  intro n
  induction n with
  | nil => intro acc _ ha; simp only [segwiseGo, List.append_nil]; exact hfix _ (fun c hc => ha c (List.mem_reverse.mp hc))
  | cons c cs ih =>
    intro acc hn ha
    have hcs : ∀ x ∈ cs, isUpperAZ x = false := fun x hx => hn x (List.mem_cons_of_mem _ hx)
    simp only [segwiseGo]
    by_cases hc : c = '.'
    · simp only [hc, if_true]
      rw [hfix _ (fun x hx => ha x (List.mem_reverse.mp hx)), ih [] hcs (by simp)]
      simp
    · simp only [hc, if_false]
      rw [ih (c :: acc) hcs (by intro x hx; rcases List.mem_cons.mp hx with rfl | hx; exact hn _ (by simp); exact ha x hx)]
      simp

/-- the respelling given by a table of (spelling in the first text, spelling in the second text) -/
def respell (pairs : List (List Char × List Char)) (n : List Char) : List Char := (pairs.lookup n).getD n

/-- every entry of the table is a change of letter case, of a word that contains an upper-case letter -/
def RespellTable (pairs : List (List Char × List Char)) : Bool :=
  pairs.all (fun p => decide (lowerChars p.2 = lowerChars p.1) && p.1.any isUpperAZ)

theorem lookup_mem {α β : Type} [BEq α] [LawfulBEq α] : ∀ (l : List (α × β)) (a : α) (b : β), l.lookup a = some b → (a, b) ∈ l
  | [], a, b, h => by simp at h
  | (x, y) :: l, a, b, h => by
    simp only [List.lookup_cons] at h
    by_cases hx : a == x
    · simp only [hx] at h
      have : a = x := by simpa using hx
      simp only [Option.some.injEq] at h
      subst this; subst h; simp
    · simp only [hx] at h
      exact List.mem_cons_of_mem _ (lookup_mem l a b h)

/-- **a table of case changes gives a name map**: e.g. `[("COUNT", "count"), ("INT", "int")]` -/
theorem nameMap_respell (pairs : List (List Char × List Char)) (h : RespellTable pairs = true) :
    NameMap (segwise (respell pairs)) := by
  simp only [RespellTable, List.all_eq_true, Bool.and_eq_true, decide_eq_true_eq] at h
  have hcase : CaseOnly (respell pairs) := by
    intro n
    unfold respell
    cases hl : pairs.lookup n with
    | none => rfl
    | some b => exact (h _ (lookup_mem _ _ _ hl)).1
  have hfix : ∀ w, (∀ c ∈ w, isUpperAZ c = false) → respell pairs w = w := by
    intro w hw
    unfold respell
    cases hl : pairs.lookup w with
    | none => rfl
    | some b =>
      exfalso
      obtain ⟨c, hc, hu⟩ := List.any_eq_true.mp (h _ (lookup_mem _ _ _ hl)).2
      rw [hw c hc] at hu
      cases hu
  refine nameMap_segwise _ hcase (hfix _ (by decide)) ?_
  intro p
  unfold segwise
  rw [segwiseGo_fix _ hfix _ [] ?_ (by simp)]
  · rfl
  · intro c hc
    rcases List.mem_append.mp hc with hc' | hc'
    · have : ∀ c ∈ "timestamp_extract_".toList, isUpperAZ c = false := by decide
      exact this c hc'
    · exact lowerChars_noUpper p c hc'

end Sqlgrep
