import SqlgrepModel.Lemmas.NoiseStep
import SqlgrepModel.Lemmas.ExecT
/-
Noise invariance of the loops: a loop over lines equals, in everything but the line counters — the recorded print
calls included —, the loop over the lines that are not noise (a simulation relation between the two loops, kept by
every line: `step_noise`, for the batch loop and the follow loop alike); the same for whole batch runs.
-/
namespace Sqlgrep
open Sqlgrep.Spec.Select

/-- two loop states that differ at most in the line counters -/
structure Sim (a b : LoopState) : Prop where
  es : a.es = b.es
  stop : a.stop = b.stop
  printed : a.out.printed = b.out.printed
  error : a.out.error = b.out.error
  panicked : a.out.panicked = b.out.panicked
  skipped : a.out.skipped = b.out.skipped

/-- two run outcomes that differ at most in `totalLines` -/
structure SameOut (a b : RunOut) : Prop where
  printed : a.printed = b.printed
  error : a.error = b.error
  panicked : a.panicked = b.panicked
  skipped : a.skipped = b.skipped

theorem SameOut.refl (a : RunOut) : SameOut a a := ⟨rfl, rfl, rfl, rfl⟩
theorem SameOut.symm {a b : RunOut} (h : SameOut a b) : SameOut b a := ⟨h.1.symm, h.2.symm, h.3.symm, h.4.symm⟩
theorem SameOut.trans {a b c : RunOut} (h : SameOut a b) (h' : SameOut b c) : SameOut a c :=
  ⟨h.1.trans h'.1, h.2.trans h'.2, h.3.trans h'.3, h.4.trans h'.4⟩

theorem Sim.sameOut {a b : LoopState} (h : Sim a b) : SameOut a.out b.out := ⟨h.printed, h.error, h.panicked, h.skipped⟩

theorem sameOut_failWith {α : Type} {a b : RunOut} (h : SameOut a b) (o : Outcome α) :
    SameOut (failWith a o) (failWith b o) := by
  cases o with
  | ok x => exact h
  | error k => exact ⟨h.1, rfl, h.3, h.4⟩
  | panic s => exact ⟨h.1, h.2, rfl, h.4⟩
  | oracleMissing s => exact ⟨h.1, h.2, h.3, rfl⟩

theorem hasFailed_sameOut {a b : RunOut} (h : SameOut a b) : hasFailed a = hasFailed b := by
  simp only [hasFailed, h.error, h.panicked, h.skipped]

/-- two traced states that differ at most in the line counters -/
structure TSim (a b : TraceState) : Prop where
  ls : Sim a.ls b.ls
  calls : a.calls = b.calls

theorem TSim.after (m : Mode) {a b : TraceState} (h : TSim a b) (o : Outcome (EngineState × LineOut)) :
    TSim (m.after a o) (m.after b o) := by
  rcases Outcome.ok_or_not o with ⟨p, rfl⟩ | ho
  · exact ⟨⟨rfl, rfl, by simp only [Mode.after, h.ls.printed], h.ls.error, h.ls.panicked, h.ls.skipped⟩,
      by simp only [Mode.after, h.calls]⟩
  · rw [Mode.after_fail m a ho, Mode.after_fail m b ho]
    have hc : SameOut (followCounted a.ls).out (followCounted b.ls).out :=
      ⟨h.ls.printed, h.ls.error, h.ls.panicked, h.ls.skipped⟩
    have := sameOut_failWith hc o
    exact ⟨⟨h.ls.es, rfl, this.1, this.2, this.3, this.4⟩, h.calls⟩

/-- what the two loops keep, with `flag` the limit flag as a function of the engine state: they agree but for the
counters, and — where the loop looks at the flag of an answer without result — the flag is down while they run. The batch
loop (`lazy = false`) reads `reachedLimit` of every answer, so a noise line would end it were the flag up; the follow loop
reads it only next to a result, which a noise line never has: there the clause is not needed. -/
def NoiseInv (m : Mode) (flag : EngineState → Bool) (a b : TraceState) : Prop :=
  TSim a b ∧ (m.lazy = false → a.ls.stop = false → flag a.ls.es = false)

/-- **one line**: an admitted line is executed by both loops from the same engine state; a noise line is counted
by the first loop, which goes on from the same state, and never seen by the second; an unreadable line is not
noise -/
theorem step_noise (m : Mode) (x : Machine) (flag : EngineState → Bool)
    (hnoise : ∀ es l, anyResult l.row = false → ∃ f, x es l = .ok (es, { result := none, reachedLimit := f }))
    (hflag : m.lazy = false → ∀ es es1 l lo, x es l = .ok (es1, lo) → lo.reachedLimit = flag es1)
    (fl : FileLine) (a b : TraceState) (h : NoiseInv m flag a b) :
    NoiseInv m flag (untilStop (fun s => fileHalt none s.ls) (m.step x) a fl)
      (if !isNoise fl then untilStop (fun s => fileHalt none s.ls) (m.step x) b fl else b) := by
  obtain ⟨hs, h0⟩ := h
  unfold untilStop
  simp only [fileHalt_none, ← hs.ls.stop]
  by_cases hst' : a.ls.stop = true
  · simp only [hst', if_true, ite_self]
    exact ⟨hs, fun _ h => absurd hst' (by simp [h])⟩
  · have hst : a.ls.stop = false := Bool.eq_false_iff.2 hst'
    simp only [hst, Bool.false_eq_true, if_false, Mode.step, isNoise, ← hs.ls.es]
    cases hr : fl.readable with
    | false =>
      exact ⟨⟨⟨hs.ls.es, rfl, hs.ls.printed, rfl, hs.ls.panicked, hs.ls.skipped⟩, hs.calls⟩, fun _ h => by cases h⟩
    | true =>
      cases ha : anyResult fl.line.row with
      | true =>
        refine ⟨hs.after m _, fun hl hst' => ?_⟩
        simp only [if_true] at hst' ⊢
        cases hx : x a.ls.es fl.line with
        | ok p =>
          rw [hx] at hst'
          have : m.cut p.2 = p.2.reachedLimit := by simp [Mode.cut, hl]
          exact (hflag hl _ _ _ _ hx).symm.trans (this.symm.trans hst')
        | _ => rw [hx] at hst'; cases hst'
      | false =>
        obtain ⟨f, hx⟩ := hnoise a.ls.es fl.line ha
        have hcut : m.cut { result := none, reachedLimit := f } = false := by
          cases hl : m.lazy with
          | true => simp [Mode.cut, hl]
          | false => simpa [Mode.cut, hl] using (hflag hl _ _ _ _ hx).trans (h0 hl hst)
        simp only [hx, if_true, Bool.not_false, Bool.and_true, Bool.not_true, Bool.false_eq_true, if_false, Mode.after, hcut]
        exact ⟨⟨⟨hs.ls.es, hst.symm ▸ hs.ls.stop, by simp [Mode.text, hs.ls.printed], hs.ls.error, hs.ls.panicked,
          hs.ls.skipped⟩, by simp [Mode.calls, hs.calls]⟩, fun hl _ => h0 hl hst⟩

theorem denoise_flatten (files : List (List FileLine)) : (files.map denoise).flatten = denoise files.flatten := by
  unfold denoise
  rw [List.filter_flatten]

theorem drive_noise (m : Mode) (x : Machine) (flag : EngineState → Bool)
    (hnoise : ∀ es l, anyResult l.row = false → ∃ f, x es l = .ok (es, { result := none, reachedLimit := f }))
    (hflag : m.lazy = false → ∀ es es1 l lo, x es l = .ok (es1, lo) → lo.reachedLimit = flag es1)
    (fls : List FileLine) (a b : TraceState) (h : NoiseInv m flag a b) :
    TSim (drive m x none fls a) (drive m x none (denoise fls) b) := by
  unfold drive
  rw [denoise, List.foldl_filter]
  exact (List.foldl_rel (r := NoiseInv m flag) h fun fl _ a b h => step_noise m x flag hnoise hflag fl a b h).1

theorem executeLine_noise_answer (O : Oracles) (qy : Query) (idx : JoinIndex) (w : Bool) (es : EngineState) (l : Line)
    (h : anyResult l.row = false) : ∃ f, executeLine O qy idx w es l = .ok (es, { result := none, reachedLimit := f }) :=
  ⟨_, executeLine_noise O qy idx w es l h⟩

theorem runFilesT_noise (O : Oracles) (qy : Query) (idx : JoinIndex) (w : Bool) (flag : EngineState → Bool)
    (hflag : ∀ es es1 l lo, executeLine O qy idx w es l = .ok (es1, lo) → lo.reachedLimit = flag es1)
    (hreach : ∀ es, reachedLimit qy es = false → flag es = false)
    (files : List (List FileLine)) (a b : TraceState) (hs : TSim a b) :
    TSim (runFilesT O qy idx w files a) (runFilesT O qy idx w (files.map denoise) b) := by
  rw [runFilesT_eq_drive, runFilesT_eq_drive, denoise_flatten, ← hs.ls.es, ← hs.ls.stop]
  split
  · exact hs
  · next h =>
    exact drive_noise .batch _ flag (executeLine_noise_answer O qy idx w) (fun _ => hflag) _ a b
      ⟨hs, fun _ _ => hreach _ (Bool.or_eq_false_iff.1 (Bool.eq_false_iff.2 h)).2⟩

/-- two traced runs that differ at most in `totalLines`: same print calls, same text, same way of ending -/
structure TSame (a b : TraceOut) : Prop where
  out : SameOut a.out b.out
  calls : a.calls = b.calls

theorem TSame.refl (a : TraceOut) : TSame a a := ⟨SameOut.refl _, rfl⟩
theorem TSame.symm {a b : TraceOut} (h : TSame a b) : TSame b a := ⟨h.1.symm, h.2.symm⟩
theorem TSame.trans {a b c : TraceOut} (h : TSame a b) (h' : TSame b c) : TSame a c := ⟨h.1.trans h'.1, h.2.trans h'.2⟩

theorem endRun_same (O : Oracles) (qy : Query) {a b : TraceState} (h : TSim a b) : TSame (endRun O qy a) (endRun O qy b) := by
  unfold endRun
  rw [← hasFailed_sameOut h.ls.sameOut, ← h.ls.es]
  split
  · exact ⟨h.ls.sameOut, h.calls⟩
  · cases qy.stmt with
    | select q => exact ⟨h.ls.sameOut, h.calls⟩
    | aggregate q =>
      dsimp only
      cases finalResult O q a.ls.es with
      | ok r => exact ⟨⟨by simp only [h.ls.printed], h.ls.error, h.ls.panicked, h.ls.skipped⟩, by simp only [h.calls]⟩
      | error k => exact ⟨sameOut_failWith h.ls.sameOut (.error k : Outcome RowOut), h.calls⟩
      | panic w => exact ⟨sameOut_failWith h.ls.sameOut (.panic w : Outcome RowOut), h.calls⟩
      | oracleMissing w => exact ⟨sameOut_failWith h.ls.sameOut (.oracleMissing w : Outcome RowOut), h.calls⟩

/-- in the mode the batch loop runs a statement in, the flag of an answer is a function of the engine state after it
that is down below the limit -/
theorem batch_flag (O : Oracles) (qy : Query) (idx : JoinIndex) :
    ∃ flag : EngineState → Bool,
      (∀ es es1 l lo, executeLine O qy idx (!isUpdated qy) es l = .ok (es1, lo) → lo.reachedLimit = flag es1) ∧
      ∀ es, reachedLimit qy es = false → flag es = false := by
  cases hq : qy.stmt with
  | select q =>
    exact ⟨reachedLimit qy, fun es es1 l lo hx => executeLine_select_reached O qy q hq idx _ es es1 l lo hx, fun _ h => h⟩
  | aggregate q =>
    refine ⟨fun _ => false, fun es es1 l lo hx => ?_, fun _ _ => rfl⟩
    rw [show isUpdated qy = true by simp [isUpdated, hq]] at hx
    exact (executeLine_agg_update_out O qy hq idx es es1 l lo hx).2.1

theorem runWithIndexT_noise (O : Oracles) (qy : Query) (idxO : Outcome JoinIndex) (files : List (List FileLine)) :
    TSame (runWithIndexT O qy idxO files) (runWithIndexT O qy idxO (files.map denoise)) := by
  cases idxO with
  | ok idx =>
    obtain ⟨flag, hflag, hreach⟩ := batch_flag O qy idx
    rw [runWithIndexT_ok, runWithIndexT_ok]
    exact endRun_same O qy (runFilesT_noise O qy idx _ flag hflag hreach files {} {} ⟨⟨rfl, rfl, rfl, rfl, rfl, rfl⟩, rfl⟩)
  | _ => exact TSame.refl _

/-- **the whole batch run**: every statement kind, with or without join, LIMIT, DISTINCT -/
theorem runBatch_noise (O : Oracles) (qy : Query) (joined : List FileLine) (files : List (List FileLine)) :
    SameOut (runBatch O qy joined files none) (runBatch O qy (denoise joined) (files.map denoise) none) := by
  rw [runBatch_eq, runBatch_eq]
  have hj : joinIndexOf qy (denoise joined) = joinIndexOf qy joined := by
    unfold joinIndexOf
    cases qy.join with
    | none => rfl
    | some j => simp only [loadJoinFile_noise]
  rw [hj, ← runWithIndexT_out, ← runWithIndexT_out]
  exact (runWithIndexT_noise O qy _ files).out

/-- the files that hold at least one line -/
def dropEmpty (files : List (List FileLine)) : List (List FileLine) := files.filter (fun f => !f.isEmpty)

/-- files without lines (also: files that consist of noise only, once denoised) are invisible -/
theorem runFiles_dropEmpty (O : Oracles) (qy : Query) (idx : JoinIndex) (w : Bool) (stopAt : Option Nat)
    (files : List (List FileLine)) (ls : LoopState) :
    runFiles O qy idx w stopAt (dropEmpty files) ls = runFiles O qy idx w stopAt files ls := by
  -- `dropEmpty` is `Spec.Select.nonEmpty` of files
  have h : (dropEmpty files).flatten = files.flatten := by
    rw [← List.flatMap_id, ← List.flatMap_id (L := files)]
    exact flatMap_nonEmpty id rfl files
  rw [runFiles_eq, runFiles_eq, h]

theorem runBatch_dropEmpty (O : Oracles) (qy : Query) (joined : List FileLine) (files : List (List FileLine)) :
    runBatch O qy joined (dropEmpty files) none = runBatch O qy joined files none := by
  rw [runBatch_eq, runBatch_eq]
  cases joinIndexOf qy joined with
  | ok idx => simp only [runWithIndex, runFiles_dropEmpty]
  | _ => rfl

end Sqlgrep
