import SqlgrepModel.Model.ExtractSpec
import SqlgrepModel.Lemmas.ParseLitMore
/-
The executable model of extraction equals the specification functions of `Model/ExtractSpec.lean`, column by column
(`columnValue_eq_spec`) and row by row (`extractLoop_eq`); C01, C02 and C06 read their statements off these.
-/
namespace Sqlgrep.Extract
open Lit

theorem applyTrim_not_text (c : Column) (v : Value) (h : ∀ s, v ≠ .text s) : applyTrim c v = v := by
  unfold applyTrim
  split
  · split
    · rename_i s; exact absurd rfl (h s)
    · rfl
  · rfl

theorem literal_eq (o : Oracles) (ty : VType) (t : Text) : fromOption (parseValue o ty t) = literal o ty t := by
  cases ty <;> simp only [parseValue, literal, fromOption]
  · cases parseI64 t <;> rfl
  · cases o.parseF64 t <;> rfl
  · cases parseBool t <;> rfl
  · cases parseTimestampLit t <;> rfl
  · cases parseInterval t <;> rfl

theorem extractUsingRegex_eq (o : Oracles) (ty : VType) (inp : ParsingInput) (r : Ref) (d : Value) :
    extractUsingRegex o ty inp r d = specScalar o ty inp r d := by
  unfold extractUsingRegex specScalar patternPresent groupText
  cases h : inp.regex.lookup r.pattern with
  | none => simp
  | some res =>
    simp only [Option.isSome_some, Bool.not_true, Bool.false_eq_true, if_false]
    by_cases hb : (ty == VType.bool) = true
    · simp [hb]
    · simp only [hb, Bool.false_eq_true, if_false]
      cases res.group r.group with
      | none => rfl
      | some t => exact literal_eq o ty t

theorem monthOfName_bound {t : Text} {m : Nat} (h : monthOfName t = some m) : 1 ≤ m ∧ m ≤ 12 :=
  monthTable_range _ ((monthOfName_iff t m).1 h).2

theorem specScalar_nonbool (o : Oracles) (ty : VType) (inp : ParsingInput) (r : Ref) (d : Value)
    (hb : (ty == VType.bool) = false) :
    specScalar o ty inp r d = match groupText inp r with | none => d | some t => literal o ty t := by
  unfold specScalar patternPresent groupText
  cases h : inp.regex.lookup r.pattern with
  | none => simp
  | some res =>
    simp only [Option.isSome_some, Bool.not_true, Bool.false_eq_true, if_false, hb]
    cases res.group r.group <;> rfl

theorem tsStep_spec (o : Oracles) (c : Column) (inp : ParsingInput) (idx : Nat) (r : Ref) (p : TsParts) :
    tsStep o c inp idx r p =
      match specPart inp idx r with
      | .absent => .ret .null
      | .notLit => .ret .null
      | .num n =>
        match setPart c.options.microseconds idx n p with
        | some p' => .cont p'
        | none => .ret c.defaultValue := by
  unfold tsStep specPart
  rw [extractUsingRegex_eq, extractUsingRegex_eq, specScalar_nonbool _ _ _ _ _ (by decide),
    specScalar_nonbool _ _ _ _ _ (by decide)]
  cases hg : groupText inp r with
  | none => simp
  | some t =>
    simp only [literal]
    cases hp : parseI64 t with
    | some n =>
      -- an integer part: position by position the code is `setPart`
      simp only []
      unfold setPart
      rcases idx with _|_|_|_|_|_|_|k
      · cases fitsI32 n <;> rfl
      · cases fitsU32 n <;> rfl
      · cases fitsU32 n <;> rfl
      · cases fitsU32 n <;> rfl
      · cases fitsU32 n <;> rfl
      · cases fitsU32 n <;> rfl
      · cases fitsU32 n
        · rfl
        · cases c.options.microseconds
          · by_cases h : n.toNat * 1000 ≤ 4294967295
            · simp only [h]; rfl
            · simp only [h]; rfl
          · rfl
      · cases fitsU32 n <;> rfl
    | none =>
      simp only []
      by_cases h1 : (idx == 1) = true
      · simp only [h1, if_true]
        cases hm : monthOfName t with
        | none => rfl
        | some m =>
          have hb := monthOfName_bound hm
          have h1' : idx = 1 := by simpa using h1
          subst h1'
          simp only [setPart]
          have hf : fitsU32 (m : Int) = true := by simp [fitsU32]; omega
          simp [hf]
      · simp [h1]

theorem tsLoop_eq (o : Oracles) (c : Column) (inp : ParsingInput) :
    ∀ (rs : List Ref) (idx : Nat) (p : TsParts),
      tsLoop o c inp rs idx p = specTsFrom c (specParts inp rs idx) idx p := by
  intro rs
  induction rs with
  | nil => intro idx p; rfl
  | cons r rs ih =>
    intro idx p
    simp only [tsLoop, specParts]
    rw [tsStep_spec]
    cases hs : specPart inp idx r with
    | absent => simp [specTsFrom]
    | notLit => simp [specTsFrom]
    | num n =>
      simp only [specTsFrom]
      cases hsp : setPart c.options.microseconds idx n p with
      | none => rfl
      | some p' => exact ih (idx + 1) p'

theorem getValue_eq_followPath (a : JsonAccess) : ∀ j : Json, a.getValue j = followPath a.steps j := by
  induction a with
  | last s =>
    intro j
    simp only [JsonAccess.getValue, JsonAccess.steps, followPath]
    cases JsonAccess.step j s <;> rfl
  | cons s inner ih =>
    intro j
    simp only [JsonAccess.getValue, JsonAccess.steps, followPath]
    cases JsonAccess.step j s with
    | none => rfl
    | some v => exact ih v

theorem convertFromJson_eq_noCoercion (ty : VType) : ∀ j : Json, convertFromJson ty j = noCoercion ty j := by
  induction ty with
  | int =>
    intro j
    cases j with
    | num n =>
      cases n with
      | posInt n f =>
        simp only [convertFromJson, noCoercion, Json.asI64]
        by_cases h : n ≤ 9223372036854775807 <;> simp [h]
      | negInt n f => rfl
      | float b => rfl
    | _ => rfl
  | real =>
    intro j
    cases j with
    | num n => cases n <;> rfl
    | _ => rfl
  | bool => intro j; cases j <;> rfl
  | text => intro j; cases j <;> rfl
  | timestamp => intro j; cases j <;> rfl
  | interval => intro j; cases j <;> rfl
  | array e ih =>
    intro j
    cases j with
    | arr xs =>
      simp only [convertFromJson, noCoercion, Json.asArray]
      congr 1
      exact List.map_congr_left (fun x _ => ih x)
    | _ => rfl

theorem any_not_isNull (vs : List Value) : vs.any (fun v => !v.isNull) = !vs.all Value.isNull := by
  induction vs with
  | nil => rfl
  | cons v vs ih => simp only [List.any_cons, List.all_cons, ih, Bool.not_and]

theorem columnValue_eq_spec (o : Oracles) (c : Column) (inp : ParsingInput) :
    columnValue o c inp = specColumn o c inp := by
  unfold columnValue specColumn extractColumn
  congr 1
  cases c.parsing with
  | regex r => exact extractUsingRegex_eq o c.type inp r c.defaultValue
  | multi rs =>
    simp only []
    cases c.type with
    | array e =>
      simp only []
      have hm : rs.map (fun r => extractUsingRegex o e inp r .null) = rs.map (fun r => specScalar o e inp r .null) :=
        List.map_congr_left (fun r _ => extractUsingRegex_eq o e inp r .null)
      rw [hm, any_not_isNull]
      cases (rs.map (fun r => specScalar o e inp r .null)).all Value.isNull <;> rfl
    | timestamp => exact tsLoop_eq o c inp rs 0 {}
    | _ => rfl
  | json a =>
    simp only []
    rw [getValue_eq_followPath]
    cases followPath a.steps inp.json with
    | none => rfl
    | some v =>
      simp only []
      cases c.options.convert with
      | false => exact convertFromJson_eq_noCoercion c.type v
      | true =>
        simp only [if_true]
        cases v <;> first | rfl | exact literal_eq o c.type _

theorem extractLoop_eq (o : Oracles) (inp : ParsingInput) (cols : List Column) :
    extractLoop o inp cols =
      if cols.any (fun c => (columnValue o c inp).isNull && !c.options.nullable) then none
      else some (cols.map (fun c => columnValue o c inp)) := by
  induction cols with
  | nil => rfl
  | cons c cs ih =>
    rw [extractLoop, ih, List.any_cons]
    cases (columnValue o c inp).isNull && !c.options.nullable
    · simp only [Bool.false_eq_true, if_false, Bool.false_or, List.map_cons]
      cases cs.any fun c => (columnValue o c inp).isNull && !c.options.nullable <;> rfl
    · rfl

theorem extractLoop_some (o : Oracles) (inp : ParsingInput) (cols : List Column) (vs : List Value)
    (h : extractLoop o inp cols = some vs) : vs = cols.map (fun c => columnValue o c inp) := by
  rw [extractLoop_eq] at h
  split at h
  · cases h
  · exact (Option.some.inj h).symm

theorem extractLoop_none_iff (o : Oracles) (inp : ParsingInput) (cols : List Column) :
    extractLoop o inp cols = none ↔
      ∃ c ∈ cols, c.options.nullable = false ∧ (columnValue o c inp).isNull = true := by
  rw [extractLoop_eq]
  constructor
  · intro h
    split at h
    · next ha =>
      obtain ⟨c, hc, hv⟩ := List.any_eq_true.1 ha
      rw [Bool.and_eq_true, Bool.not_eq_true'] at hv
      exact ⟨c, hc, hv.2, hv.1⟩
    · cases h
  · rintro ⟨c, hc, hn, hv⟩
    rw [if_pos (List.any_eq_true.2 ⟨c, hc, by rw [hv, hn]; rfl⟩)]

end Sqlgrep.Extract
