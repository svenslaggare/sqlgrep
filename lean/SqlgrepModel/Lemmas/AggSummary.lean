import SqlgrepModel.Lemmas.AggMerge
import SqlgrepModel.Lemmas.AggPerm
/-
C15, input split for ALL order-insensitive aggregates: every aggregate is the `finishSummary` of a part-wise `Summary`
(count; set of distinct values; sum; sum and count; sum, sum of squares and count; extreme; conjunction/disjunction;
sorted multiset), and the summary of a concatenation is the `combine` of the summaries of the parts.
-/
set_option linter.unusedSimpArgs false
namespace Sqlgrep
open Value Spec.Agg

/-- the part-wise summary of one aggregate over one group -/
inductive Summary where
  | key                                   -- a key column: nothing to remember
  | count (n : Nat)                       -- COUNT(*), COUNT(c)
  | distinct (xs : List Value)            -- COUNT(DISTINCT c): the distinct non-NULL values
  | sum (s : Value)                       -- SUM: the partial sum (NULL = no addend)
  | avg (s : Value) (n : Nat)             -- AVG: sum and count
  | moments (s q : Value) (n : Nat)       -- STDDEV / VARIANCE: sum, sum of squares, count
  | extreme (v : Value)                   -- MIN / MAX (NULL = no value)
  | bool (b : Option Bool)                -- BOOL_AND / BOOL_OR
  | sorted (xs : List Value)              -- PERCENTILE: the non-NULL values, ascending
  deriving Inhabited

def summarize (k : AggKind) (vs : List Value) : Option Summary :=
  match k with
  | .groupKey _ _ => some .key
  | .count none d => if d then none else some (.count vs.length)
  | .count (some _) false => some (.count (nonNull vs).length)
  | .count (some _) true => some (.distinct (firstOccs (nonNull vs)))
  | .sum _ => (sumOf (nonNull vs)).map .sum
  | .avg _ => (sumOf (nonNull vs)).map (fun s => .avg s (nonNull vs).length)
  | .stddev _ _ =>
    match squaresOf (nonNull vs) with
    | none => none
    | some sq =>
      match sumOf (nonNull vs), sumOf sq with
      | some s, some q => some (.moments s q (nonNull vs).length)
      | _, _ => none
  | .min _ => if sameType (nonNull vs) then some (.extreme (extreme true (nonNull vs))) else none
  | .max _ => if sameType (nonNull vs) then some (.extreme (extreme false (nonNull vs))) else none
  | .percentile _ p => if unitInterval p && sameType (nonNull vs) then some (.sorted (sortValues (nonNull vs))) else none
  | .boolAnd _ => (bools (nonNull vs)).map (fun bs => .bool (if bs.isEmpty then none else some (bs.all id)))
  | .boolOr _ => (bools (nonNull vs)).map (fun bs => .bool (if bs.isEmpty then none else some (bs.any id)))
  | .arrayAgg _ => none
  | .stringAgg _ _ => none

/-- the aggregate's value from its summary -/
def finishSummary (k : AggKind) (s : Summary) : Option Value :=
  match k, s with
  | .count _ _, .count n => some (.int n)
  | .count _ _, .distinct xs => some (.int xs.length)
  | .sum _, .sum v => some v
  | .avg _, .avg v n => avgFinish v n
  | .stddev _ isVar, .moments a b n => sdFinish isVar a b n
  | .min _, .extreme v => some v
  | .max _, .extreme v => some v
  | .boolAnd _, .bool b => some (match b with
    | some x => .bool x
    | none => .null)
  | .boolOr _, .bool b => some (match b with
    | some x => .bool x
    | none => .null)
  | .percentile _ p, .sorted xs => some ((xs[min (f64ToNat (F64.mul p (F64.ofInt xs.length))) (xs.length - 1)]?).getD .null)
  | _, _ => none

theorem aggregate_eq_finish (k : AggKind) (hk : orderInsensitive k = true) (vs : List Value) :
    aggregate k vs = (summarize k vs).bind (finishSummary k) := by
  cases k with
  | groupKey e c => rfl
  | count col d =>
    cases col with
    | none => cases d <;> rfl
    | some cn => cases d <;> rfl
  | sum e =>
    simp only [aggregate, summarize]
    cases sumOf (nonNull vs) <;> rfl
  | avg e =>
    simp only [aggregate, summarize, avgOf_eq]
    cases sumOf (nonNull vs) <;> rfl
  | stddev e isVar =>
    simp only [aggregate, summarize, stddevOf_eq]
    cases squaresOf (nonNull vs) with
    | none => rfl
    | some sq =>
      simp only [Option.bind_some]
      cases sumOf (nonNull vs) <;> cases sumOf sq <;> rfl
  | min e => simp only [aggregate, summarize]; split <;> rfl
  | max e => simp only [aggregate, summarize]; split <;> rfl
  | percentile e p =>
    simp only [aggregate, summarize, percentileOf]
    cases unitInterval p <;> cases sameType (nonNull vs) <;> simp [finishSummary, sortValues_length]
  | boolAnd e =>
    simp only [aggregate, summarize]
    cases bools (nonNull vs) with
    | none => rfl
    | some bs => cases bs <;> rfl
  | boolOr e =>
    simp only [aggregate, summarize]
    cases bools (nonNull vs) with
    | none => rfl
    | some bs => cases bs <;> rfl
  | arrayAgg e => simp [orderInsensitive] at hk
  | stringAgg e d => simp [orderInsensitive] at hk

def mergeBool (isAnd : Bool) : Option Bool → Option Bool → Option Bool
  | none, y => y
  | x, none => x
  | some a, some b => some (if isAnd then a && b else a || b)

def isMin : AggKind → Bool
  | .min _ => true
  | _ => false
def isAnd : AggKind → Bool
  | .boolAnd _ => true
  | _ => false

/-- the summary over a concatenation from the summaries over the parts: counts add, distinct sets unite, sums (and sums
of squares) add with NULL neutral, extremes combine with NULL neutral, conjunctions / disjunctions combine, sorted
multisets merge -/
def combine (k : AggKind) : Summary → Summary → Summary
  | .key, _ => .key
  | .count a, .count b => .count (a + b)
  | .distinct a, .distinct b => .distinct (a ++ b.filter (fun x => !a.any (fun y => Value.beq y x)))
  | .sum a, .sum b => .sum (mergeSum a b)
  | .avg a n, .avg b m => .avg (mergeSum a b) (n + m)
  | .moments a q n, .moments b r m => .moments (mergeSum a b) (mergeSum q r) (n + m)
  | .extreme a, .extreme b => .extreme (mergeExt (isMin k) a b)
  | .bool a, .bool b => .bool (mergeBool (isAnd k) a b)
  | .sorted a, .sorted b => .sorted (sortValues (a ++ b))
  | x, _ => x

theorem mergeBool_all (b1 b2 : List Bool) :
    (if (b1 ++ b2).isEmpty then none else some ((b1 ++ b2).all id)) =
      mergeBool true (if b1.isEmpty then none else some (b1.all id)) (if b2.isEmpty then none else some (b2.all id)) := by
  cases b1 <;> cases b2 <;> simp [mergeBool, Bool.and_assoc]

theorem mergeBool_any (b1 b2 : List Bool) :
    (if (b1 ++ b2).isEmpty then none else some ((b1 ++ b2).any id)) =
      mergeBool false (if b1.isEmpty then none else some (b1.any id)) (if b2.isEmpty then none else some (b2.any id)) := by
  cases b1 <;> cases b2 <;> simp [mergeBool, Bool.or_assoc]

/-- **monoid homomorphism, per aggregate**: the summary of a concatenation of two argument lists is the combination
of the summaries of the parts — counts add, distinct sets unite, sums and sums of squares add (REAL: under the
exactness proviso), extremes combine, conjunctions/disjunctions combine, sorted multisets merge (exact values) -/
theorem summarize_append (k : AggKind) (v1 v2 : List Value) {s s1 s2 : Summary}
    (h : summarize k (v1 ++ v2) = some s) (h1 : summarize k v1 = some s1) (h2 : summarize k v2 = some s2)
    (hsplit : usesSums k = true → SplitExact (nonNull v1) (nonNull v2))
    (hex : (∃ e p, k = .percentile e p) → ValuesExact (nonNull (v1 ++ v2))) :
    s = combine k s1 s2 := by
  cases k with
  | groupKey e c =>
    simp only [summarize, Option.some.injEq] at h h1 h2
    rw [← h, ← h1]; rfl
  | count col d =>
    cases col with
    | none =>
      cases d with
      | true => simp [summarize] at h
      | false =>
        simp only [summarize, Bool.false_eq_true, if_false, Option.some.injEq] at h h1 h2
        rw [← h, ← h1, ← h2]; simp [combine, List.length_append]
    | some cn =>
      cases d with
      | false =>
        simp only [summarize, Option.some.injEq] at h h1 h2
        rw [← h, ← h1, ← h2]; simp [combine, nonNull_append, List.length_append]
      | true =>
        simp only [summarize, Option.some.injEq] at h h1 h2
        rw [← h, ← h1, ← h2, nonNull_append, firstOccs_append]; rfl
  | sum e =>
    simp only [summarize, nonNull_append, Option.map_eq_some_iff] at h h1 h2
    obtain ⟨r, ha, rfl⟩ := h; obtain ⟨a, hb, rfl⟩ := h1; obtain ⟨b, hc, rfl⟩ := h2
    rw [sumOf_append ha hb hc (hsplit rfl).sums]; rfl
  | avg e =>
    simp only [summarize, nonNull_append, Option.map_eq_some_iff] at h h1 h2
    obtain ⟨r, ha, rfl⟩ := h; obtain ⟨a, hb, rfl⟩ := h1; obtain ⟨b, hc, rfl⟩ := h2
    rw [sumOf_append ha hb hc (hsplit rfl).sums, List.length_append]; rfl
  | stddev e isVar =>
    simp only [summarize, nonNull_append] at h h1 h2
    cases hq : squaresOf (nonNull v1 ++ nonNull v2) with
    | none => simp [hq] at h
    | some sq =>
      obtain ⟨sq1, sq2, hq1, hq2, rfl⟩ := squaresOf_append_inv hq
      simp only [hq, hq1, hq2] at h h1 h2
      cases ha : sumOf (nonNull v1 ++ nonNull v2) <;> cases ha' : sumOf (sq1 ++ sq2) <;> simp only [ha, ha'] at h <;> try (simp at h)
      cases hb : sumOf (nonNull v1) <;> cases hb' : sumOf sq1 <;> simp only [hb, hb'] at h1 <;> try (simp at h1)
      cases hc : sumOf (nonNull v2) <;> cases hc' : sumOf sq2 <;> simp only [hc, hc'] at h2 <;> try (simp at h2)
      rw [← h, ← h1, ← h2, sumOf_append ha hb hc (hsplit rfl).sums,
        sumOf_append ha' hb' hc' ((hsplit rfl).squares sq1 sq2 hq1 hq2)]; rfl
  | min e | max e =>
    simp only [summarize] at h h1 h2
    rw [← (some_of_ite h).2, ← (some_of_ite h1).2, ← (some_of_ite h2).2, nonNull_append,
      extreme_merge _ _ _ (nonNull_all v1) (nonNull_all v2)]; rfl
  | percentile e p =>
    simp only [summarize] at h h1 h2
    rw [← (some_of_ite h).2, ← (some_of_ite h1).2, ← (some_of_ite h2).2]
    simp only [combine]
    congr 1
    have hexact := hex ⟨e, p, rfl⟩
    apply sortValues_eq_of_perm _ hexact
    rw [nonNull_append]
    exact List.Perm.append (sortValues_perm _).symm (sortValues_perm _).symm
  | boolAnd e =>
    simp only [summarize, nonNull_append, Option.map_eq_some_iff] at h h1 h2
    obtain ⟨bs, hb, rfl⟩ := h; obtain ⟨b1, hb1, rfl⟩ := h1; obtain ⟨b2, hb2, rfl⟩ := h2
    obtain ⟨c1, c2, hc1, hc2, rfl⟩ := collect_map_append_inv hb
    cases hb1.symm.trans hc1; cases hb2.symm.trans hc2
    rw [mergeBool_all]; rfl
  | boolOr e =>
    simp only [summarize, nonNull_append, Option.map_eq_some_iff] at h h1 h2
    obtain ⟨bs, hb, rfl⟩ := h; obtain ⟨b1, hb1, rfl⟩ := h1; obtain ⟨b2, hb2, rfl⟩ := h2
    obtain ⟨c1, c2, hc1, hc2, rfl⟩ := collect_map_append_inv hb
    cases hb1.symm.trans hc1; cases hb2.symm.trans hc2
    rw [mergeBool_any]; rfl
  | arrayAgg e => simp [summarize] at h
  | stringAgg e d => simp [summarize] at h

end Sqlgrep
