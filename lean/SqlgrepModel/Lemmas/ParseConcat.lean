import SqlgrepModel.Lemmas.ParseCreateSwap
import SqlgrepModel.Lemmas.ParseSemicolon
/-
`Parser::parse` on a token vector that is one definition text's tokens followed by another's.

1. `parse_create_table` reads exactly up to the first `;` and does not look at what follows it, except for the location
   of the next token (`parseCreateTable_tail`): from the barrier form of prefix determinism (`createBody_swapB`) — applied
   with the input's own tail it shows that the body stops AT the first boundary token, applied with another tail it gives
   the run on the other input.
2. `parse_multiple_create_table` (`createsLoop`: the statements as a list) over `X ++ tail`, where a run over `X ++ [End]`
   consumed exactly `X`: the same statements, then whatever the loop makes of the tail (`createsLoop_tail`).
3. `Parser::parse` on `A' ++ B` where `A' ++ [End]` is accepted as CREATE TABLE statements and ends in `) ;`, and `B`
   starts with CREATE: the statements of `A'` followed by those of `B`, or `B`'s error (`parseTokens_append`).
-/
namespace Sqlgrep
namespace Parse
namespace Concat

theorem getLast?_append_cons {α : Type} (A : List α) (b : α) (Z : List α) : (A ++ b :: Z).getLast? = (b :: Z).getLast? := by
  rw [List.getLast?_append]
  cases h : (b :: Z).getLast? with
  | none => simp at h
  | some v => rfl

variable {T : PrecTables}

theorem createBody_within {f : Nat} {s : PSt} {toks : List PTok} (h : s.Suffix toks) : (createBody T f s).Within toks := by
  loc_walk createBody [colLoop_within _ _ _]

theorem createBody_tail (hT : InertBoundary T) (f : Nat) (c : PTok) (r : List PTok) (hc : ¬ Boundary c.tok)
    (v : List Char × Patterns × List PColDef) (s1 : PSt) (h : createBody T f ⟨c, r⟩ = .ok v s1) (hb1 : Boundary s1.cur.tok) :
    ∃ pre, r = pre ++ s1.cur :: s1.rest ∧ (∀ t ∈ pre, ¬ Boundary t.tok) ∧
      ∀ (b' : PTok) (R' : List PTok), Boundary b'.tok → b'.loc = s1.cur.loc →
        createBody T f ⟨c, pre ++ b' :: R'⟩ = .ok v ⟨b', R'⟩ := by
  have hsw := fun (t2 : PSt) (h2 : Boundary t2.cur.tok) => createBody_swapB hT h2 f ⟨c, r⟩ hc
  obtain ⟨body, hbody, hnb⟩ := noadv_generic hsw (fun _ _ => createBody_within) h
  cases body with
  | nil => exact absurd (show Boundary c.tok from (show c = s1.cur from congrArg PSt.cur hbody) ▸ hb1) hc
  | cons c' pre =>
    obtain ⟨rfl, hr⟩ : c = c' ∧ r = pre ++ s1.cur :: s1.rest := by
      have := congrArg PSt.toks hbody; simpa [PSt.toks, PSt.prepend] using this
    refine ⟨pre, hr, fun t ht => hnb t (by simp [ht]), fun b' R' hb' hloc => ?_⟩
    have := tail_generic hnb hb1 (hbody ▸ h) ⟨b', R'⟩ (hbody ▸ hsw ⟨b', R'⟩ hb')
    rwa [← hloc] at this

/-- **`parse_create_table` does not depend on what follows the closing `;`** (beyond the location of the next token):
a successful run from `CREATE` on `c :: r` consumed `pre ++ [;]` (`pre` free of boundary tokens) and stopped on the next
token `x`; on `c :: pre ++ ; :: x' :: R'` it gives the same statement and stops on `x'`, for every `x'` at `x`'s location
and every `R'`. -/
theorem parseCreateTable_tail (hT : InertBoundary T) (f : Nat) (c : PTok) (r : List PTok) (hc : c.tok = .kw .create)
    (cr : PCreate) (s2 : PSt) (h : parseCreateTable T f ⟨c, r⟩ = .ok cr s2) :
    ∃ pre b, r = pre ++ b :: s2.cur :: s2.rest ∧ (∀ t ∈ pre, ¬ Boundary t.tok) ∧ b.tok = .semi ∧
      ∀ (x' : PTok) (R' : List PTok), x'.loc = s2.cur.loc →
        parseCreateTable T f ⟨c, pre ++ b :: x' :: R'⟩ = .ok cr ⟨x', R'⟩ := by
  have hcb : ¬ Boundary c.tok := by rw [hc]; decide
  rw [parseCreateTable_eq] at h
  obtain ⟨npc, s1, hbody, h⟩ := bind_eq_ok h
  simp only [PRes.bind] at h
  -- the `;`
  have hsemi : s1.cur.tok = .semi := by
    by_cases hne : s1.cur.tok = .semi
    · exact hne
    · simp [expectConsume, hne, mkErr] at h
  have hnext : expectConsume .semi .expectedSemiColon s1 = next s1 := by simp [expectConsume, hsemi]
  rw [hnext] at h
  cases hr : s1.rest with
  | nil => simp [next, hr, mkErr] at h
  | cons x R1 =>
    simp only [next, hr, PRes.ok.injEq] at h
    obtain ⟨hcr, hs2⟩ := h
    obtain ⟨pre, hrr, hpre, htail⟩ := createBody_tail hT f c r hcb npc s1 hbody (by rw [hsemi]; simp [Boundary])
    refine ⟨pre, s1.cur, ?_, hpre, hsemi, ?_⟩
    · rw [hrr, hr, ← hs2]
    · intro x' R' hloc
      rw [parseCreateTable_eq, htail s1.cur (x' :: R') (by rw [hsemi]; simp [Boundary]) rfl]
      simp only [PRes.bind, expectConsume, hsemi, if_true, next]
      rw [← hcr]
      simp only [PRes.ok.injEq, and_true]
      rw [← hs2] at hloc
      simp only at hloc
      simp [hloc]

theorem createsLoop_mono (T : PrecTables) : ∀ (f : Nat) (s : PSt), PLe (createsLoop T f s) (createsLoop T (f + 1) s) := by
  intro f
  induction f with
  | zero => intro s; rw [createsLoop]; exact PLe.fuel _
  | succ f ih =>
    intro s
    rw [createsLoop, createsLoop]
    rcases parseCreateTable_mono T f s with h | h
    · rw [h]; exact PLe.fuel _
    · rw [h]
      cases parseCreateTable T (f + 1) s with
      | err e s' => exact PLe.refl _
      | fuel => exact PLe.refl _
      | ok c s1 =>
        simp only []
        by_cases hk : s1.cur.tok = .kw .create
        · simp only [hk, ne_eq, not_true_eq_false, if_false]
          rcases ih s1 with h1 | h1
          · rw [h1]; exact PLe.fuel _
          · rw [h1]; exact PLe.refl _
        · simp only [hk, ne_eq, not_false_eq_true, if_true]; exact PLe.refl _

theorem createsLoop_mono_le (T : PrecTables) {f f' : Nat} (h : f ≤ f') (s : PSt) :
    PLe (createsLoop T f s) (createsLoop T f' s) :=
  PLe.of_step (fun n => createsLoop_mono T n s) h

/-- **the loop over `X ++ tail`**: a run of the loop from `CREATE` that ended on the token `sEnd.cur` consumed a non-empty
`X` that ends in `;`; over `X ++ y :: Y`, with any fuel at least as large, it reads the same statements and then goes on
with `y :: Y` if `y` is `CREATE` (with the fuel that is left), and stops on `y` otherwise. -/
theorem createsLoop_tail (hT : InertBoundary T) : ∀ (f : Nat) (c : PTok) (r : List PTok) (cs : List PCreate) (sEnd : PSt),
    c.tok = .kw .create → createsLoop T f ⟨c, r⟩ = .ok cs sEnd →
    ∃ X : List PTok, r = X ++ sEnd.cur :: sEnd.rest ∧ (∃ b, (c :: X).getLast? = some b ∧ b.tok = .semi) ∧ cs ≠ [] ∧
      cs.length ≤ X.length ∧ sEnd.cur.tok ≠ .kw .create ∧
      ∀ (f' : Nat) (y : PTok) (Y : List PTok), f ≤ f' → y.loc = sEnd.cur.loc →
        createsLoop T f' ⟨c, X ++ y :: Y⟩ =
          if y.tok = .kw .create then prependCreates cs (createsLoop T (f' - cs.length) ⟨y, Y⟩) else .ok cs ⟨y, Y⟩ := by
  intro f
  induction f with
  | zero => intro c r cs sEnd _ h; rw [createsLoop] at h; cases h
  | succ f ih =>
    intro c r cs sEnd hc h
    rw [createsLoop] at h
    cases hp : parseCreateTable T f ⟨c, r⟩ with
    | err e s' => rw [hp] at h; cases h
    | fuel => rw [hp] at h; cases h
    | ok cr s2 =>
      rw [hp] at h
      simp only [] at h
      obtain ⟨pre, b, hr, hpre, hbt, htail⟩ := parseCreateTable_tail hT f c r hc cr s2 hp
      -- the same statement from any larger fuel
      have hstep : ∀ (g : Nat) (x' : PTok) (R' : List PTok), f ≤ g → x'.loc = s2.cur.loc →
          parseCreateTable T g ⟨c, pre ++ b :: x' :: R'⟩ = .ok cr ⟨x', R'⟩ := by
        intro g x' R' hg hloc
        have := (parseCreateTable_mono_le T hg ⟨c, pre ++ b :: x' :: R'⟩).eq_of_ne (by rw [htail x' R' hloc]; simp)
        rw [this, htail x' R' hloc]
      have hlast : ∀ Z : List PTok, (c :: (pre ++ b :: Z)).getLast? = (b :: Z).getLast? := by
        intro Z
        rw [show c :: (pre ++ b :: Z) = (c :: pre) ++ (b :: Z) by simp]
        exact getLast?_append_cons _ _ _
      by_cases hk : s2.cur.tok = .kw .create
      · -- more statements follow
        simp only [hk, ne_eq, not_true_eq_false, if_false] at h
        cases hrec : createsLoop T f s2 with
        | err e s' => rw [hrec] at h; cases h
        | fuel => rw [hrec] at h; cases h
        | ok cs' s3 =>
          rw [hrec] at h
          simp only [PRes.ok.injEq] at h
          obtain ⟨hcs, hs3⟩ := h
          subst hcs; subst hs3
          obtain ⟨X', hX', ⟨b', hb'last, hb'tok⟩, hne', hlen', hend', hrun'⟩ := ih s2.cur s2.rest cs' s3 hk (by simpa using hrec)
          refine ⟨pre ++ b :: s2.cur :: X', ?_, ?_, by simp, by simp; omega, hend', ?_⟩
          · rw [hr, hX']; simp
          · refine ⟨b', ?_, hb'tok⟩
            rw [hlast, ← hb'last]
            simp [List.getLast?_cons_cons]
          · intro f' y Y hf hloc
            obtain ⟨g, rfl⟩ : ∃ g, f' = g + 1 := ⟨f' - 1, by omega⟩
            have hg : f ≤ g := by omega
            rw [createsLoop]
            have : pre ++ b :: s2.cur :: X' ++ y :: Y = pre ++ b :: s2.cur :: (X' ++ y :: Y) := by simp
            rw [this, hstep g s2.cur (X' ++ y :: Y) hg rfl]
            simp only [hk, ne_eq, not_true_eq_false, if_false]
            rw [hrun' g y Y hg hloc]
            by_cases hy : y.tok = .kw .create
            · simp only [hy, if_true, List.length_cons]
              have : g + 1 - (cs'.length + 1) = g - cs'.length := by omega
              rw [this]
              cases createsLoop T (g - cs'.length) ⟨y, Y⟩ <;> simp [prependCreates]
            · simp only [hy, if_false]
      · -- the last statement
        simp only [hk, ne_eq, not_false_eq_true, if_true, PRes.ok.injEq] at h
        obtain ⟨hcs, hs2⟩ := h
        subst hcs; subst hs2
        refine ⟨pre ++ [b], ?_, ⟨b, ?_, hbt⟩, by simp, by simp, hk, ?_⟩
        · rw [hr]; simp
        · rw [show c :: (pre ++ [b]) = (c :: pre) ++ [b] by simp, getLast?_append_cons]; rfl
        · intro f' y Y hf hloc
          obtain ⟨g, rfl⟩ : ∃ g, f' = g + 1 := ⟨f' - 1, by omega⟩
          have hg : f ≤ g := by omega
          rw [createsLoop]
          have : pre ++ [b] ++ y :: Y = pre ++ b :: y :: Y := by simp
          rw [this, hstep g y Y hg hloc]
          by_cases hy : y.tok = .kw .create
          · simp only [hy, ne_eq, not_true_eq_false, if_false, if_true, List.length_cons, List.length_nil]
            have : g + 1 - (0 + 1) = g := by omega
            rw [this]
            cases createsLoop T g ⟨y, Y⟩ <;> simp [prependCreates]
          · simp only [hy, ne_eq, not_false_eq_true, if_true, if_false]

/-- the CREATE TABLE statements of a parsed statement -/
def createsOf : POp → List PCreate
  | .createTable c => [c]
  | .multiple cs => cs
  | .select _ => []

theorem createsOf_opOfCreates (cs : List PCreate) (h : cs ≠ []) : createsOf (opOfCreates cs) = cs := by
  unfold opOfCreates
  cases cs with
  | nil => exact absurd rfl h
  | cons c rest => cases rest <;> rfl

theorem parseOp_create (T : PrecTables) (f : Nat) (s : PSt) (hs : s.cur.tok = .kw .create) :
    parseOp T f s =
      (match createsLoop T f s with
       | .fuel => .fuel
       | .ok cs s1 =>
         (match optSemi s1 with
          | .ok _ s2 => if s2.rest.isEmpty then .ok (opOfCreates cs) s2 else mkErr s2 .tooManyTokens
          | .err e s' => .err e s'
          | .fuel => .fuel)
       | .err e s1 =>
         (match optSemi s1 with
          | .ok _ s2 => .err e s2
          | .err e' s' => .err e' s'
          | .fuel => .fuel)) := by
  unfold parseOp parseStatement
  have hne : (Tok.kw Keyword.create = Tok.kw Keyword.select) = False := by simp
  simp only [hs, ne_eq, not_true_eq_false, and_false, if_false, hne]
  rw [multiCreateLoop_eq]
  cases createsLoop T f s with
  | fuel => rfl
  | ok cs s1 => simp only [opResult, List.nil_append]; cases optSemi s1 <;> rfl
  | err e s1 => simp only [opResult]; cases optSemi s1 <;> rfl

/-- **`Parser::parse` on the tokens of one accepted definition text followed by those of another.**
`A' ++ [e]` (`e` = `End`) starts with `CREATE`, is read as CREATE TABLE statements `opA` and ends in `) ;`; `y :: Y` starts
with `CREATE` (`y` at `e`'s location — all locations equal in the location-free reading). Then the parser reads
`A' ++ y :: Y` as the statements of `A'` followed by the statements of `y :: Y` — or fails with the error `y :: Y` alone
fails with. -/
theorem parseTokens_append (hT : InertBoundary T) (c : PTok) (r' : List PTok) (e y : PTok) (Y : List PTok) (opA : POp)
    (hc : c.tok = .kw .create) (hy : y.tok = .kw .create) (hloc : y.loc = e.loc)
    (hend : ∃ A0 p q, c :: r' = A0 ++ [p, q] ∧ p.tok = .rp ∧ q.tok = .semi)
    (hA : parseTokens T (c :: r' ++ [e]) = .tree opA) :
    parseTokens T (c :: r' ++ y :: Y) =
      match parseTokens T (y :: Y) with
      | .tree opB => .tree (opOfCreates (createsOf opA ++ createsOf opB))
      | o => o := by
  -- the run over `A'`
  unfold parseTokens parseTokensFuel at hA
  simp only [List.cons_append] at hA
  rw [parseOp_create T _ _ hc] at hA
  cases hcl : createsLoop T (fuelBound (c :: (r' ++ [e])).length) ⟨c, r' ++ [e]⟩ with
  | fuel => rw [hcl] at hA; cases hA
  | err e1 s1 => rw [hcl] at hA; simp only [] at hA; revert hA; cases optSemi s1 <;> intro hA <;> cases hA
  | ok csA sEnd =>
    rw [hcl] at hA
    simp only [] at hA
    obtain ⟨X, hX, ⟨bl, hbl, hblt⟩, hne, hlen, hendc, hrun⟩ := createsLoop_tail hT _ c (r' ++ [e]) csA sEnd hc hcl
    -- the loop ended on `End`, having consumed `A'`
    have hfin : X = r' ∧ sEnd = ⟨e, []⟩ ∧ opA = opOfCreates csA := by
      unfold optSemi at hA
      by_cases hsm : sEnd.cur.tok = .semi
      · -- `; ;` at the end: excluded by `) ;`
        exfalso
        simp only [hsm, if_true] at hA
        cases hr : sEnd.rest with
        | nil => simp [next, hr, mkErr] at hA
        | cons z Z =>
          simp only [next, hr] at hA
          cases Z with
          | cons z2 Z2 => simp [mkErr] at hA
          | nil =>
            rw [hr] at hX
            obtain ⟨A0, p, q, hApq, hp, hq⟩ := hend
            -- `c :: r' ++ [e] = c :: X ++ [sEnd.cur, z]`, so `c :: r' = (c :: X) ++ [sEnd.cur]` ends in `bl, sEnd.cur` with `bl = ;`
            have h1 : c :: r' ++ [e] = (c :: X ++ [sEnd.cur]) ++ [z] := by
              simp only [List.cons_append, List.append_assoc, List.cons.injEq, true_and]
              rw [hX]; simp
            have h2 : c :: r' = c :: X ++ [sEnd.cur] := List.append_inj_left' h1 rfl
            rw [h2] at hApq
            have h3 : c :: X ++ [sEnd.cur] = (A0 ++ [p]) ++ [q] := by rw [hApq]; simp
            have h4 : c :: X = A0 ++ [p] := List.append_inj_left' h3 rfl
            rw [h4] at hbl
            simp at hbl
            rw [← hbl] at hblt
            rw [hp] at hblt
            cases hblt
      · simp only [hsm, if_false] at hA
        cases hr : sEnd.rest with
        | cons z Z => simp [hr, mkErr] at hA
        | nil =>
          simp only [hr, List.isEmpty_nil, if_true, ParseOutcome.tree.injEq] at hA
          rw [hr] at hX
          have h1 : r' ++ [e] = X ++ [sEnd.cur] := hX
          have hXr : r' = X := List.append_inj_left' h1 rfl
          have he : [e] = [sEnd.cur] := List.append_inj_right' h1 rfl
          refine ⟨hXr.symm, ?_, hA.symm⟩
          cases sEnd
          simp only [List.cons.injEq, and_true] at he
          simp_all
    obtain ⟨hXr, hsE, hop⟩ := hfin
    subst hXr; subst hsE; subst hop
    -- the run over `A' ++ y :: Y`
    unfold parseTokens parseTokensFuel
    simp only [List.cons_append]
    rw [parseOp_create T _ _ hc, parseOp_create T _ ⟨y, Y⟩ hy]
    have hfuel : fuelBound (c :: (X ++ [e])).length ≤ fuelBound (c :: (X ++ y :: Y)).length := by
      simp only [fuelBound, List.length_cons, List.length_append, List.length_nil]; omega
    rw [hrun _ y Y hfuel hloc]
    simp only [hy, if_true]
    -- the loop over `y :: Y` with the fuel that is left answers as with the fuel of `y :: Y` alone
    have hB : createsLoop T (fuelBound (c :: (X ++ y :: Y)).length - csA.length) ⟨y, Y⟩ =
        createsLoop T (fuelBound (y :: Y).length) ⟨y, Y⟩ := by
      have hle : fuelBound (y :: Y).length ≤ fuelBound (c :: (X ++ y :: Y)).length - csA.length := by
        simp only [fuelBound, List.length_cons, List.length_append]; omega
      have hnf : createsLoop T (fuelBound (y :: Y).length) ⟨y, Y⟩ ≠ .fuel := by
        intro hf
        have hadv := (multiCreateLoop_adv T (fuelBound (y :: Y).length) [] ⟨y, Y⟩ (by simp only [fuelBound, PSt.remaining, List.length_cons]; omega)).1
        rw [multiCreateLoop_eq, hf] at hadv
        exact hadv rfl
      exact (createsLoop_mono_le T hle ⟨y, Y⟩).eq_of_ne hnf
    rw [hB]
    rw [createsOf_opOfCreates csA hne]
    cases hlb : createsLoop T (fuelBound (y :: Y).length) ⟨y, Y⟩ with
    | fuel => rfl
    | err e1 s1 => simp only [prependCreates]; cases optSemi s1 <;> rfl
    | ok csB sB =>
      simp only [prependCreates]
      have hneB : csB ≠ [] := createsLoop_ne_nil hlb
      cases optSemi sB with
      | err e' s' => rfl
      | fuel => rfl
      | ok u s2 =>
        simp only []
        by_cases hemp : s2.rest.isEmpty = true
        · simp only [hemp, if_true, createsOf_opOfCreates csB hneB]
        · simp only [hemp, Bool.false_eq_true, if_false]; rfl

end Concat
end Parse
end Sqlgrep
