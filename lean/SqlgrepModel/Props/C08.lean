import SqlgrepModel.Lemmas.DistinctAgg
import SqlgrepModel.Lemmas.LimitSelect
/-
C08 — DISTINCT emits each distinct output tuple once, at its first occurrence.

Model: `distinctAdd` / `tupleSame` (Model/Engine.lean: `DistinctValues`, an `FnvHashSet<Vec<Value>>` — two tuples
fall together iff they feed the same hash stream and are `==`), consulted by `selectOne` after projection with a
memory that lives as long as the engine, and by `resultRows` (aggregate result table) with a fresh memory per
table, with and without HAVING. `runBatch` / `executeLine` / `aggResult` are the definitions the driver executes.

Vocabulary (Spec/Select.lean): `dedupFirst same xs` keeps each element of `xs` exactly when no earlier kept
element is the same (`dedupFirst_snoc`); the survivors are a sublist of `xs` (order and content unchanged).
`dedupBlocks` is `dedupFirst` on the row stream grouped by input line (`distinct_stream`).

What "the same tuple of values" means is a theorem, not a definition: `same_tuple_is_value_equality` — equal
length and `Value.beq` (the implementation's `==`) position by position; the hash part is implied (C16:
equal ⇒ same hash stream), so NULL = NULL, -0.0 = 0.0, NaN = NaN, nested arrays element-wise, and `tupleSame`
is an equivalence. KNOWN FINDING D45 (open; INT vs REAL in `Value`'s derived order/equality): the sentence says
"numbers by value", but an INT and a REAL of the same numeric value are different tuples for DISTINCT (`Value`'s
derived `==` compares the variants first) — `d45_int_real_not_same_tuple` below is the kernel-checked witness; all
other clauses of `same_tuple_is_value_equality` are as the sentence demands. It needs an output column that is INT
on one row and REAL on another (e.g. a CASE with branches of both types); a typed column never mixes them.

Runs whose version without DISTINCT (and without LIMIT) fails are outside the sentence (errors do not depend on
DISTINCT — projections are evaluated before the memory is consulted — so this is the same hypothesis as in C07).
Only this file states property theorems; helper lemmas live in `Lemmas/`.
-/
namespace Sqlgrep.Props.C08
open Sqlgrep Sqlgrep.Spec.Select

/-- two output tuples are "the same" for DISTINCT iff they have the same number of columns and are equal by
`==` in every position (equal values always feed equal hash streams, so the hash set adds no condition) -/
theorem same_tuple_is_value_equality (a b : List Value) :
    tupleSame a b = true ↔
      a.length = b.length ∧ ∀ i (ha : i < a.length) (hb : i < b.length), Value.beq a[i] b[i] = true := by
  rw [tupleSame_eq_beqList]; exact beqList_iff a b

/-- "the same tuple" is an equivalence relation on tuples (reflexive also for NaN and NULL) -/
theorem same_tuple_equivalence :
    (∀ a, tupleSame a a = true) ∧ (∀ a b, tupleSame a b = true → tupleSame b a = true) ∧
    (∀ a b c, tupleSame a b = true → tupleSame b c = true → tupleSame a c = true) :=
  ⟨tupleSame_isEquiv.refl, tupleSame_isEquiv.symm, tupleSame_isEquiv.trans⟩

/-- **a row is output exactly when no earlier output row has the same tuple**: extending the input of DISTINCT
by one row `x` extends its output by `x` iff none of the rows output so far is the same as `x` — equivalently
(the relation being an equivalence) iff no earlier row at all is the same; the earlier output is unchanged -/
theorem row_output_iff_no_earlier_same (xs : List (List Value)) (x : List Value) :
    dedupFirst tupleSame (xs ++ [x]) =
        dedupFirst tupleSame xs ++ (if (dedupFirst tupleSame xs).any (tupleSame x) then [] else [x]) ∧
    (dedupFirst tupleSame xs).any (tupleSame x) = xs.any (tupleSame x) :=
  ⟨dedupFirst_snoc tupleSame xs x, dedupFirst_any_eq tupleSame tupleSame_isEquiv xs x⟩

/-- **otherwise nothing changes**: the surviving rows are rows of the input, in their order, unchanged; no two
of them are the same; and every input row is represented by a survivor -/
theorem survivors_keep_order_and_content (xs : List (List Value)) :
    (dedupFirst tupleSame xs).Sublist xs ∧
    (dedupFirst tupleSame xs).Pairwise (fun a b => tupleSame a b = false) ∧
    (∀ x ∈ xs, (dedupFirst tupleSame xs).any (tupleSame x) = true) := by
  refine ⟨dedupFrom_sublist tupleSame [] xs, (dedupFrom_pairwise tupleSame tupleSame_isEquiv [] xs).1, ?_⟩
  intro x hx
  have := dedupFrom_covers tupleSame tupleSame_isEquiv [] xs x hx
  simpa [dedupFirst] using this

/-- grouping the stream by input line changes neither rows nor order -/
theorem distinct_stream (blocks : List (List (List Value))) :
    (dedupBlocks tupleSame [] blocks).flatten = dedupFirst tupleSame blocks.flatten :=
  dedupBlocks_flatten tupleSame [] blocks

/-- **SELECT DISTINCT = first occurrences of the output without DISTINCT**, for every list of files, every join
index (several rows per line), every LIMIT. If the run without DISTINCT and LIMIT does not fail and `blocks` are
the row blocks it prints, then the run with DISTINCT prints the blocks `dedupBlocks tupleSame [] blocks` — whose
row stream is `dedupFirst tupleSame` of the stream of `blocks` — cut by LIMIT n to their first n rows, and
reports no error. -/
theorem distinct_is_first_occurrences (O : Oracles) (qy : Query) (q : SelectStmt) (joined : List FileLine)
    (files : List (List FileLine))
    (hu : hasFailed (runBatch O (qy.withSelect ((q.withLimit none).withDistinct false)) joined files none) = false) :
    ∃ blocks : List (List (List Value)),
      batchBlocks O qy q joined files = some blocks ∧
      runBatch O (qy.withSelect ((q.withLimit none).withDistinct false)) joined files none =
        { printed := render (columnsOf qy q) blocks, totalLines := blocks.length } ∧
      runBatch O (qy.withSelect (q.withDistinct true)) joined files none =
        { printed := render (columnsOf qy q) (applyLimit q.limit (dedupBlocks tupleSame [] blocks)),
          totalLines := linesConsumed q.limit (dedupBlocks tupleSame [] blocks) } ∧
      (applyLimit q.limit (dedupBlocks tupleSame [] blocks)).flatten =
        (match q.limit with
          | some n => (dedupFirst tupleSame blocks.flatten).take n
          | none => dedupFirst tupleSame blocks.flatten) := by
  have hs0 : SameRows q ((q.withLimit none).withDistinct false) := ⟨rfl, rfl, rfl⟩
  obtain ⟨blocks, hb⟩ := batchBlocks_of_unlimited_ok O (qy.withSelect ((q.withLimit none).withDistinct false))
    ((q.withLimit none).withDistinct false) rfl rfl joined files hu
  rw [batchBlocks_same O qy q _ hs0] at hb
  refine ⟨blocks, hb, runBatch_of_sameRows O qy hs0 joined files hb,
    runBatch_of_sameRows O qy (sameRows_distinct q true) joined files hb, ?_⟩
  cases q.limit with
  | none => exact dedupBlocks_flatten tupleSame [] blocks
  | some n => exact (takeBlocks_flatten n _).trans (congrArg _ (dedupBlocks_flatten tupleSame [] blocks))

/-- **every result table separately**: for any aggregation state (any history of lines, any number of earlier
result tables), the result table computed with DISTINCT is the table computed without DISTINCT with each
distinct row kept once, at its first occurrence (same columns, same state afterwards, the same error if a
cell or HAVING cannot be evaluated) — with or without HAVING. The memory is fresh for every table: the
statement has no memory parameter at all. -/
theorem agg_distinct_each_table (O : Oracles) (q : AggStmt) (st : AggState) :
    aggResult O (q.withDistinct true) st =
      Outcome.mapOk (fun p => (p.1, dedupTable p.2)) (aggResult O (q.withDistinct false) st) :=
  aggResult_distinct O (q := q.withDistinct false) (q' := q.withDistinct true) ⟨rfl, rfl, rfl, rfl, rfl, rfl⟩ rfl rfl st

/-- the row list itself, for any starting memory: with DISTINCT = `dedupFrom` of the rows without -/
theorem agg_distinct_rows (O : Oracles) (q : AggStmt) (groups : List (List Value × List (Nat × Value)))
    (seen : List (List Value)) :
    resultRows O (q.withDistinct true) groups seen =
      Outcome.mapOk (dedupFrom tupleSame seen) (resultRows O (q.withDistinct false) groups []) :=
  resultRows_distinct O (q := q.withDistinct false) (q' := q.withDistinct true) ⟨rfl, rfl, rfl, rfl, rfl, rfl⟩ rfl rfl
    groups seen []

/-- **batch mode**: the run with DISTINCT reads the same lines and prints the table printed without DISTINCT
(and LIMIT) with every distinct row once at its first occurrence, cut by LIMIT afterwards -/
theorem agg_distinct_batch (O : Oracles) (qy : Query) (q : AggStmt) (joined : List FileLine)
    (files : List (List FileLine))
    (hu : hasFailed (runBatch O (qy.withAgg ((q.withLimit none).withDistinct false)) joined files none) = false) :
    ∃ r : RowOut,
      runBatch O (qy.withAgg ((q.withLimit none).withDistinct false)) joined files none =
        { runBatch O (qy.withAgg ((q.withLimit none).withDistinct false)) joined files none with
          printed := r.rows.map (renderRecord r.columns) } ∧
      runBatch O (qy.withAgg (q.withDistinct true)) joined files none =
        { runBatch O (qy.withAgg ((q.withLimit none).withDistinct false)) joined files none with
          printed := ((match q.limit with
            | some n => (dedupFirst tupleSame r.rows).take n
            | none => dedupFirst tupleSame r.rows)).map (renderRecord r.columns) } :=
  runBatch_agg_distinct O qy q joined files hu

/-- **follow mode / line-at-a-time** (update + result): a step returns its result table (`stepTable`: every
environment of the line — one per join partner, exactly one without a join — updates the state, then one table iff one of
them updated), and with DISTINCT that table is the table without DISTINCT, deduplicated on its own -/
theorem agg_distinct_step_tables (O : Oracles) (qy : Query) (q : AggStmt) (hq : qy.stmt = .aggregate q)
    (idx : JoinIndex) (es : EngineState) (l : Line) (envs : List (Env × List String)) :
    (executeLine O qy idx true es l =
      if !anyResult l.row then .ok (updateLimit false q.limit es none)
      else (lineEnvs qy idx false l).bind (fun envs =>
        (stepTable O q envs es.agg).bind (fun t =>
          .ok (updateLimit false q.limit { es with agg := t.1 } t.2)))) ∧
    stepTable O (q.withDistinct true) envs es.agg =
      Outcome.mapOk (fun t => (t.1, t.2.map dedupTable)) (stepTable O (q.withDistinct false) envs es.agg) :=
  ⟨executeLine_agg_result O qy q hq idx es l,
   stepTable_distinct O (q := q.withDistinct false) (q' := q.withDistinct true) ⟨rfl, rfl, rfl, rfl, rfl, rfl⟩ rfl rfl
     envs es.agg⟩

/-! ### non-vacuity and concrete behaviour -/

-- NULL equals NULL, -0.0 equals 0.0, NaN equals NaN
example : tupleSame [.null, .int 1] [.null, .int 1] = true := by decide +kernel
example : tupleSame [.real 0x8000000000000000] [.real 0] = true := by decide +kernel
example : tupleSame [.real 0x7ff8000000000000] [.real 0x7ff8000000000001] = true := by decide +kernel
/-- KNOWN FINDING D45, instance for DISTINCT (kept as a kernel-checked witness): INT 1 and REAL 1.0 are not the
same tuple although they are the same number — `Value`'s derived equality distinguishes the types -/
theorem d45_int_real_not_same_tuple : tupleSame [.int 1] [.real 0x3ff0000000000000] = false := by decide +kernel
example : tupleSame [.int 1, .null] [.int 1, .int 2] = false := by decide +kernel
-- first occurrences: a tuple recurring after a gap, tuples differing in one column / only by NULL
example : dedupFirst tupleSame [[.int 1, .null], [.int 1, .int 2], [.null, .null], [.int 1, .null], [.int 1, .int 2]] =
    [[.int 1, .null], [.int 1, .int 2], [.null, .null]] := by rfl

def exTable : TableInfo := { name := "t", columns := ["v", "w"] }
def exQuery (lim : Option Nat) (d : Bool) : Query :=
  { stmt := .select { projections := [("v", .column "v")], wildcard := false, filter := none, limit := lim, distinct := d },
    table := exTable, join := none }
def exLine (v : Value) : FileLine := { readable := true, line := { text := [], row := [v, .int 7] } }
def exFiles : List (List FileLine) := [[exLine (.int 1), exLine .null], [exLine (.int 1), exLine .null, exLine (.int 2)]]

-- the hypothesis of `distinct_is_first_occurrences` holds here; DISTINCT keeps 1, NULL, 2 (memory across files)
example : hasFailed (runBatch {} (exQuery none false) [] exFiles none) = false := by decide +kernel
example : (runBatch {} (exQuery none true) [] exFiles none).printed = ["v: 1", "v: NULL", "v: 2"] := by decide +kernel

end Sqlgrep.Props.C08
