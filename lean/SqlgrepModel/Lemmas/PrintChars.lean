import SqlgrepModel.Lemmas.PrintRecord
/- Which bytes can occur in a rendered cell: the bytes `Display` writes itself, the TEXT payloads, and
the oracle's REAL rendering. Used to express the CSV / text guard in terms of the TEXT values. -/
namespace Sqlgrep.Print

/-- bytes `impl Display for Value` writes by itself: digits, `- + : . space { } , '` and the letters of
`NULL`, `true`, `false` -/
def Structural (c : Nat) : Prop :=
  (48 ≤ c ∧ c ≤ 57) ∨ c ∈ [45, 43, 58, 46, 32, 123, 125, 44, 39, 78, 85, 76, 116, 114, 117, 101, 102, 97, 108, 115]

instance : DecidablePred Structural := fun c => by unfold Structural; infer_instance

/-- bytes of the numeric / temporal renderings: digits and `- + : . space` -/
def Plain (c : Nat) : Prop := (48 ≤ c ∧ c ≤ 57) ∨ c ∈ [45, 43, 58, 46, 32]

instance : DecidablePred Plain := fun c => by unfold Plain; infer_instance

theorem Plain.structural {c : Nat} (h : Plain c) : Structural c :=
  h.imp id fun h => List.mem_append_left [123, 125, 44, 39, 78, 85, 76, 116, 114, 117, 101, 102, 97, 108, 115] h

theorem Plain.rec' {P : Nat → Prop} (hd : ∀ c, 48 ≤ c → c ≤ 57 → P c) (hl : ∀ c ∈ [45, 43, 58, 46, 32], P c)
    {c : Nat} (h : Plain c) : P c :=
  h.elim (fun h => hd c h.1 h.2) (hl c)

mutual
/-- all TEXT payloads of a value (the cell itself or array elements at any depth) -/
def allTexts : Value → List Bytes
  | .text s => [s]
  | .array _ xs => allTextsList xs
  | _ => []
def allTextsList : List Value → List Bytes
  | [] => []
  | x :: xs => allTexts x ++ allTextsList xs
end

theorem mem_natDigits {c n : Nat} (h : c ∈ natDigits n) : Plain c :=
  Or.inl (natDigits_digits n c h)

theorem mem_cons_plain {c b : Nat} {s : Bytes} (hb : Plain b) (hs : ∀ c ∈ s, Plain c) (h : c ∈ b :: s) : Plain c :=
  (List.mem_cons.1 h).elim (fun e => e ▸ hb) (hs c)

theorem mem_renderInt {c : Nat} {i : Int} (h : c ∈ renderInt i) : Plain c := by
  by_cases hi : i < 0
  · rw [renderInt_neg hi] at h; exact mem_cons_plain (by decide) (fun _ => mem_natDigits) h
  · rw [renderInt_nonneg hi] at h; exact mem_natDigits h

theorem mem_padLeft {c w : Nat} {s : Bytes} (hs : ∀ c ∈ s, Plain c) (h : c ∈ padLeft 48 w s) : Plain c := by
  rcases List.mem_append.1 h with h | h
  · rw [(List.mem_replicate.1 h).2]; exact Or.inl (by decide)
  · exact hs c h

theorem mem_padInt {c w : Nat} {i : Int} (h : c ∈ padLeft 48 w (renderInt i)) : Plain c :=
  mem_padLeft (fun _ => mem_renderInt) h

theorem mem_padNat {c w n : Nat} (h : c ∈ padLeft 48 w (natDigits n)) : Plain c :=
  mem_padLeft (fun _ => mem_natDigits) h

theorem mem_renderIntervalAbs {c : Nat} {n : Int} (h : c ∈ renderIntervalAbs n) : Plain c := by
  simp only [renderIntervalAbs, List.mem_append, List.mem_singleton] at h
  rcases h with ((((((h | rfl) | h) | rfl) | h) | rfl) | h)
  · exact mem_padInt h
  · decide
  · exact mem_padInt h
  · decide
  · exact mem_padInt h
  · decide
  · exact mem_padInt h

theorem mem_renderInterval {c : Nat} {n : Int} (h : c ∈ renderInterval n) : Plain c := by
  unfold renderInterval at h
  split at h
  · exact mem_cons_plain (by decide) (fun _ => mem_renderIntervalAbs) h
  · exact mem_renderIntervalAbs h

theorem mem_renderYear {c : Nat} {y : Int} (h : c ∈ renderYear y) : Plain c := by
  unfold renderYear at h
  split at h
  · exact mem_padNat h
  · split at h <;> exact mem_cons_plain (by decide) (fun _ => mem_padNat) h

theorem mem_twoDigits {c : Nat} {n : Int} (h : c ∈ twoDigits n) : Plain c := mem_padNat h

theorem mem_renderTimestamp {c : Nat} {d s f : Int} (h : c ∈ renderTimestamp d s f) : Plain c := by
  unfold renderTimestamp at h
  generalize civil d = p at h
  obtain ⟨y, m, dd⟩ := p
  simp only [List.mem_append, List.mem_singleton] at h
  rcases h with ((((((((((((h | rfl) | h) | rfl) | h) | rfl) | h) | rfl) | h) | rfl) | h) | rfl) | h)
  · exact mem_renderYear h
  · decide
  · exact mem_twoDigits h
  · decide
  · exact mem_twoDigits h
  · decide
  · exact mem_twoDigits h
  · decide
  · exact mem_twoDigits h
  · decide
  · exact mem_twoDigits h
  · decide
  · exact mem_padNat h

theorem mem_joinWith {c : Nat} {sep : Bytes} {xs : List Bytes} : c ∈ joinWith sep xs →
    c ∈ sep ∨ ∃ x ∈ xs, c ∈ x := by
  fun_induction joinWith sep xs with
  | case1 => nofun
  | case2 x => exact fun h => Or.inr ⟨x, List.mem_singleton_self x, h⟩
  | case3 x y rest ih =>
    intro h
    rcases List.mem_append.1 h with h | h
    · rcases List.mem_append.1 h with h | h
      · exact Or.inr ⟨x, List.mem_cons_self, h⟩
      · exact Or.inl h
    · exact (ih h).imp id fun ⟨z, hz, hc⟩ => ⟨z, List.mem_cons_of_mem _ hz, hc⟩

/-- where a byte of a rendered value can come from -/
def Source (o : RealOracle) (texts : List Bytes) (c : Nat) : Prop :=
  Structural c ∨ (∃ s ∈ texts, c ∈ s) ∨ (∃ b, c ∈ o.fixed2 b)

theorem Source.mono {o : RealOracle} {t1 t2 : List Bytes} {c : Nat} (h : Source o t1 c)
    (hs : ∀ s ∈ t1, s ∈ t2) : Source o t2 c := by
  rcases h with (h | ⟨s, hs1, hc⟩ | h)
  · exact Or.inl h
  · exact Or.inr (Or.inl ⟨s, hs s hs1, hc⟩)
  · exact Or.inr (Or.inr h)

theorem Source.of_lit {o : RealOracle} {t : List Bytes} {l : Bytes} (hl : ∀ c ∈ l, Structural c) {c : Nat}
    (h : c ∈ l) : Source o t c := Or.inl (hl c h)

mutual
theorem mem_displayValue (o : RealOracle) : ∀ (v : Value) (c : Nat), c ∈ displayValue o v →
    Source o (allTexts v) c
  | .null, _, h => .of_lit (l := sNULL) (by decide) h
  | .int _, _, h => Or.inl (mem_renderInt h).structural
  | .real b, _, h => Or.inr (Or.inr ⟨b, h⟩)
  | .bool true, _, h => .of_lit (l := sTrue) (by decide) h
  | .bool false, _, h => .of_lit (l := sFalse) (by decide) h
  | .text s, c, h => by
    rcases List.mem_cons.1 h with rfl | h
    · exact Or.inl (by decide)
    rcases List.mem_append.1 h with h | h
    · exact Or.inr (Or.inl ⟨s, List.mem_singleton_self s, h⟩)
    · exact .of_lit (l := [39]) (by decide) h
  | .array _ xs, c, h => by
    rcases List.mem_cons.1 h with rfl | h
    · exact Or.inl (by decide)
    rcases List.mem_append.1 h with h | h
    · rcases mem_joinWith h with h | ⟨x, hx, hc⟩
      · exact .of_lit (l := [44, 32]) (by decide) h
      · exact mem_displayAll o xs x hx c hc
    · exact .of_lit (l := [125]) (by decide) h
  | .timestamp _ _ _, _, h => Or.inl (mem_renderTimestamp h).structural
  | .interval _, _, h => Or.inl (mem_renderInterval h).structural
theorem mem_displayAll (o : RealOracle) : ∀ (xs : List Value) (x : Bytes), x ∈ displayAll o xs →
    ∀ c, c ∈ x → Source o (allTextsList xs) c
  | [], _, h, _, _ => nomatch h
  | v :: vs, x, h, c, hc => by
    rcases List.mem_cons.1 h with rfl | h
    · exact (mem_displayValue o v c hc).mono fun s => List.mem_append_left _
    · exact (mem_displayAll o vs x h c hc).mono fun s => List.mem_append_right _
end

theorem not_mem_displayValue (o : RealOracle) (d : Nat) (v : Value) (hd : ¬ Structural d)
    (ht : ∀ s ∈ allTexts v, d ∉ s) (ho : ∀ b, d ∉ o.fixed2 b) : d ∉ displayValue o v := by
  intro h
  rcases mem_displayValue o v d h with (h | ⟨s, hs, hc⟩ | ⟨b, hb⟩)
  · exact hd h
  · exact ht s hs hc
  · exact ho b hb

def spaced : List Bytes → List Bytes
  | [] => []
  | x :: rest => x :: rest.map (32 :: ·)

theorem joinWith_cons_head (sep : Bytes) (a : Nat) (y : Bytes) (t : List Bytes) :
    joinWith sep ((a :: y) :: t) = a :: joinWith sep (y :: t) := by
  cases t <;> rfl

theorem joinWith_comma_space (xs : List Bytes) : joinWith [44, 32] xs = joinWith [44] (spaced xs) := by
  fun_induction joinWith [44, 32] xs with
  | case1 => rfl
  | case2 x => rfl
  | case3 x y rest ih =>
    show _ = x ++ [44] ++ joinWith [44] ((32 :: y) :: rest.map (32 :: ·))
    rw [ih, joinWith_cons_head, List.append_assoc, List.append_assoc]; rfl

theorem zip_map_pairs (o : RealOracle) (cols : List Bytes) (row : List Value) :
    ∀ p ∈ (cols.zip row).map (fun nv => nv.1 ++ ([58, 32] ++ displayValue o nv.2)),
      ∃ n ∈ cols, ∃ v ∈ row, p = n ++ ([58, 32] ++ displayValue o v) := by
  intro p hp
  obtain ⟨nv, hnv, rfl⟩ := List.mem_map.1 hp
  exact ⟨nv.1, (List.of_mem_zip hnv).1, nv.2, (List.of_mem_zip hnv).2, rfl⟩

theorem spaced_ne_nil {ps : List Bytes} (h : ps ≠ []) : spaced ps ≠ [] := by
  cases ps with
  | nil => exact absurd rfl h
  | cons x rest => exact List.cons_ne_nil _ _

theorem mem_spaced {P : Bytes → Prop} {ps : List Bytes} (h : ∀ p ∈ ps, P p) (h32 : ∀ p ∈ ps, P (32 :: p)) :
    ∀ c ∈ spaced ps, P c := by
  cases ps with
  | nil => nofun
  | cons x rest =>
    intro c hc
    rcases List.mem_cons.1 hc with rfl | hc
    · exact h _ List.mem_cons_self
    · obtain ⟨y, hy, rfl⟩ := List.mem_map.1 hc
      exact h32 y (List.mem_cons_of_mem _ hy)

theorem splitOn_text_record (o : RealOracle) (cols : List Bytes) (row : List Value)
    (hlone : loneInput .text cols row = false) (hne : cols ≠ []) (hl : cols.length = row.length)
    (hnames : ∀ n ∈ cols, 44 ∉ n) (hfree : ∀ v ∈ row, 44 ∉ displayValue o v) :
    splitOn 44 (renderRecord o .text cols row)
      = spaced ((cols.zip row).map fun nv => nv.1 ++ ([58, 32] ++ displayValue o nv.2)) := by
  rw [renderRecord_text o hlone, joinWith_comma_space]
  have hp : ∀ p ∈ (cols.zip row).map (fun nv => nv.1 ++ ([58, 32] ++ displayValue o nv.2)), 44 ∉ p := by
    intro p hpm
    obtain ⟨n, hn, v, hv, rfl⟩ := zip_map_pairs o cols row p hpm
    intro h
    rcases List.mem_append.1 h with h | h
    · exact hnames n hn h
    · rcases List.mem_append.1 h with h | h
      · revert h; decide
      · exact hfree v hv h
  apply splitOn_joinWith
  · exact spaced_ne_nil (zip_map_ne_nil _ hne hl)
  · exact mem_spaced hp fun p hpm h => (List.mem_cons.1 h).elim (by decide) (hp p hpm)

end Sqlgrep.Print
