import SqlgrepModel.Lemmas.ValueOrder
import SqlgrepModel.Lemmas.FloatOrder
import SqlgrepModel.Lemmas.NumericOrder
import SqlgrepModel.Lemmas.UniqueValues
import SqlgrepModel.Lemmas.CompareIntFloat
/-
C16 — value equality, ordering and hashing agree and form a total order.

Model: `Sqlgrep.Value.cmp` (what `#[derive(Ord)]` generates for `Value`, with `Float`'s
hand-written `Ord`), `Value.beq` (`#[derive(PartialEq)]`), `Value.hashRepr` (`#[derive(Hash)]`
stream). Group keys, DISTINCT tuples and PERCENTILE/array_unique use the same functions on
`Vec<Value>` (`cmpList`, `beqList`, `hashList`). All theorems quantify over *all* values:
every type, NULL, nested arrays, every one of the 2^64 REAL bit patterns (NaN payloads, ±0, ±inf).
Only this file states property theorems; helper lemmas live in `Lemmas/`.
-/
namespace Sqlgrep.Props.C16
open Sqlgrep Sqlgrep.Value

/-- exactly one of `a < b`, `a = b`, `a > b` holds, and `=` is the equality used for grouping -/
theorem trichotomy (a b : Value) :
    (cmp a b = .lt ∧ cmp b a = .gt ∧ beq a b = false) ∨
    (cmp a b = .eq ∧ cmp b a = .eq ∧ beq a b = true) ∨
    (cmp a b = .gt ∧ cmp b a = .lt ∧ beq a b = false) := by
  have hs := cmp_swap a b
  have he := cmp_eq_iff_beq a b
  cases h : cmp a b <;> rw [h] at hs he <;> simp [Ordering.swap] at hs he ⊢ <;> simp [hs, he]

/-- the order is transitive (strict part) -/
theorem lt_trans (a b c : Value) (h1 : cmp a b = .lt) (h2 : cmp b c = .lt) : cmp a c = .lt :=
  (cmp_T a b c).1 h1 h2

/-- the order is transitive (non-strict part) -/
theorem le_trans (a b c : Value) (h1 : cmp a b ≠ .gt) (h2 : cmp b c ≠ .gt) : cmp a c ≠ .gt :=
  cmp_ne_gt_trans h1 h2

/-- equal values are indistinguishable by the order -/
theorem eq_congr (a b c : Value) (h : cmp a b = .eq) : cmp a c = cmp b c := (cmp_T a b c).2.1 h

/-- antisymmetry: neither smaller ⇒ equal (by `==`) -/
theorem antisymm (a b : Value) (h1 : cmp a b ≠ .gt) (h2 : cmp b a ≠ .gt) : beq a b = true := by
  rw [cmp_swap a b] at h2
  rw [← cmp_eq_iff_beq]
  cases h : cmp a b <;> simp_all [Ordering.swap]

/-- `==` is reflexive for every value, including NaN -/
theorem beq_refl (a : Value) : beq a a = true := (cmp_eq_iff_beq a a).1 (cmp_refl a)

/-- the order is consistent with equality -/
theorem cmp_eq_iff_eq (a b : Value) : cmp a b = .eq ↔ beq a b = true := cmp_eq_iff_beq a b

/-- equal values hash equally (they feed the same stream to the hasher) -/
theorem eq_hash (a b : Value) (h : beq a b = true) : hashRepr a = hashRepr b :=
  hashRepr_eq_of_beq a b h

/-- tuples (group keys, DISTINCT rows, join keys): same laws for `Vec<Value>` -/
theorem tuple_lt_trans (a b c : List Value) (h1 : cmpList a b = .lt) (h2 : cmpList b c = .lt) :
    cmpList a c = .lt := (cmpList_T a b c).1 h1 h2
theorem tuple_cmp_eq_iff_eq (a b : List Value) : cmpList a b = .eq ↔ beqList a b = true :=
  cmpList_eq_iff_beqList a b
theorem tuple_eq_hash (a b : List Value) (h : beqList a b = true) : hashList a = hashList b :=
  hashList_eq_of_beqList a b h

/-- any two values placed in one group (same B-tree key: `cmp = Equal`), deduplicated or joined
(same hash bucket and `==`) are equal -/
theorem grouped_are_equal (a b : List Value) (h : cmpList a b = .eq) : beqList a b = true :=
  (cmpList_eq_iff_beqList a b).1 h

/-! REAL special values do not break the laws (consequences, stated for visibility) -/
def nan : Value := .real 0x7ff8000000000000
def negZero : Value := .real 0x8000000000000000
def posZero : Value := .real 0
def posInf : Value := .real 0x7ff0000000000000
def negInf : Value := .real 0xfff0000000000000
def one : Value := .real 0x3ff0000000000000

example : cmp nan nan = .eq ∧ beq nan nan = true := by decide +kernel
example : cmp one nan = .lt ∧ cmp posInf nan = .lt ∧ cmp negInf one = .lt := by decide +kernel
example : beq negZero posZero = true ∧ hashRepr negZero = hashRepr posZero := by decide +kernel
-- non-vacuity of the transitivity hypotheses on a non-trivial triple
example : cmp negInf negZero = .lt ∧ cmp negZero one = .lt ∧ cmp negInf one = .lt := by decide +kernel
example : cmpList [.int 1, .null] [.int 1, .text [97]] = .lt := by decide +kernel

/-! ## REAL values compare by numeric value (review gap 1)

The exact value of a finite REAL bit pattern is the dyadic number `F64.value n = (±mantissa, exponent)`
(`Lemmas/FloatOrder.lean`; mantissa/exponent from `F64.mantExp`, the decomposition the model also uses
for `cmpIntReal` and `{:.2}`), ordered by `Dy.cmp` / `<` / `Dy.Eqv` (cross-scaling with powers of two;
`Dy.cmp_eq_scale`: independent of the common exponent, so it is the order of the numbers `m·2^e`).
The theorems hold for every `Nat` pattern (only sign, exponent and fraction fields are looked at). -/

/-- `F64.cmp` on finite patterns IS the comparison of the exact values. -/
theorem real_cmp_is_value_cmp (a b : Nat) (ha : F64.isFinite a = true) (hb : F64.isFinite b = true) :
    cmp (.real a) (.real b) = Dy.cmp (F64.value a) (F64.value b) := by
  simp only [cmp]; exact F64.cmp_eq_value_cmp a b ha hb

/-- a REAL is smaller in the order exactly when its value is smaller -/
theorem real_lt_iff_value_lt (a b : Nat) (ha : F64.isFinite a = true) (hb : F64.isFinite b = true) :
    cmp (.real a) (.real b) = .lt ↔ F64.value a < F64.value b := by
  rw [real_cmp_is_value_cmp a b ha hb]; exact Iff.rfl

/-- two REALs are equal in the order exactly when their values are equal -/
theorem real_eq_iff_value_eq (a b : Nat) (ha : F64.isFinite a = true) (hb : F64.isFinite b = true) :
    cmp (.real a) (.real b) = .eq ↔ Dy.Eqv (F64.value a) (F64.value b) := by
  rw [real_cmp_is_value_cmp a b ha hb]; exact Iff.rfl

/-- ... so `-0.0 = +0.0` and no other two distinct (non-NaN) bit patterns are equal -/
theorem real_eq_iff_same_bits_or_zeros (a b : Nat) (ha : a < 2 ^ 64) (hb : b < 2 ^ 64)
    (na : F64.isNaN a = false) (nb : F64.isNaN b = false) :
    cmp (.real a) (.real b) = .eq ↔ (a = b ∨ (F64.mag a = 0 ∧ F64.mag b = 0)) := by
  -- a 64-bit pattern is its magnitude and its sign bit
  have bits : ∀ n, n < 2 ^ 64 → n = F64.mag n + 2 ^ 63 * (if F64.signBit n then 1 else 0) := by
    intro n hn
    unfold F64.mag F64.signBit
    have q : n / 2 ^ 63 = 0 ∨ n / 2 ^ 63 = 1 := by omega
    rcases q with q | q <;> simp only [q] <;> simp <;> omega
  simp only [cmp]
  rw [F64.cmp_eq_iff_bits a b na nb]
  constructor
  · rintro ⟨hm, hs | h0⟩
    · exact .inl (by rw [bits a ha, bits b hb, hm, hs])
    · exact .inr ⟨h0, hm ▸ h0⟩
  · rintro (rfl | ⟨h0, h0'⟩)
    · exact ⟨rfl, .inl rfl⟩
    · exact ⟨h0.trans h0'.symm, .inr h0⟩

/-- `-inf` is below every finite REAL and `+inf`; `+inf` is above every finite REAL -/
theorem real_infinities (i j a : Nat) (hi : F64.isInf i = true) (si : F64.signBit i = true)
    (hj : F64.isInf j = true) (sj : F64.signBit j = false) (ha : F64.isFinite a = true) :
    cmp (.real i) (.real a) = .lt ∧ cmp (.real a) (.real j) = .lt ∧ cmp (.real i) (.real j) = .lt := by
  simp only [cmp]
  exact ⟨F64.neg_inf_lt_finite i a hi si ha, F64.finite_lt_pos_inf j a hj sj ha, F64.neg_inf_lt_pos_inf i j hi si hj sj⟩

/-- NaN (what `impl Ord for Float` does after the REAL total-order repair: `partial_cmp`, and for
unordered operands `is_nan().cmp(is_nan())`): any NaN pattern equals any NaN pattern (payload and
sign are ignored) and is greater than every non-NaN REAL, `+inf` included. -/
theorem real_nan (n m a : Nat) (hn : F64.isNaN n = true) (hm : F64.isNaN m = true) (ha : F64.isNaN a = false) :
    cmp (.real n) (.real m) = .eq ∧ cmp (.real a) (.real n) = .lt ∧ cmp (.real n) (.real a) = .gt := by
  simp only [cmp]
  exact ⟨F64.cmp_nan_nan n m hn hm, F64.cmp_lt_nan a n ha hn, F64.cmp_nan_gt n a hn ha⟩

/-- the value order used above is a genuine strict total order on numbers, not on representations -/
theorem value_order_laws (a b c : Dy) :
    ((a < b ∧ ¬ Dy.Eqv a b ∧ ¬ b < a) ∨ (¬ a < b ∧ Dy.Eqv a b ∧ ¬ b < a) ∨ (¬ a < b ∧ ¬ Dy.Eqv a b ∧ b < a)) ∧
    (a < b → b < c → a < c) ∧ (Dy.Eqv a b → Dy.Eqv b c → Dy.Eqv a c) :=
  ⟨Dy.trichotomy a b, Dy.lt_trans, Dy.eqv_trans⟩

/-- ... and it does not depend on how a number is written: `(m·2^j)·2^e` and `m·2^(e+j)` are equal,
and integers embed with their own order -/
theorem value_representation_independent (m e : Int) (j : Nat) (x y : Int) :
    Dy.Eqv ⟨m * 2 ^ j, e⟩ ⟨m, e + j⟩ ∧ (Dy.ofInt x < Dy.ofInt y ↔ x < y) ∧ (Dy.Eqv (Dy.ofInt x) (Dy.ofInt y) ↔ x = y) :=
  ⟨Dy.eqv_shift m e j, Dy.ofInt_lt x y, Dy.ofInt_eqv x y⟩

-- non-vacuity and concrete values: 1.5 = 3·2^51 · 2^-52, -0.0, smallest subnormal 2^-1074, largest subnormal, 2^53
example : F64.value 0x3ff8000000000000 = ⟨0x18000000000000, -52⟩ := by decide +kernel
example : Dy.Eqv (F64.value 0x3ff8000000000000) ⟨3, -1⟩ := by decide +kernel
example : F64.value 0x8000000000000000 = ⟨0, -1074⟩ ∧ Dy.Eqv (F64.value 0x8000000000000000) (F64.value 0) := by decide +kernel
example : F64.value 1 = ⟨1, -1074⟩ ∧ F64.value 0x000fffffffffffff = ⟨2 ^ 52 - 1, -1074⟩ := by decide +kernel
example : Dy.Eqv (F64.value 0x4340000000000000) (Dy.ofInt (2 ^ 53)) := by decide +kernel
example : F64.isFinite 0x3ff8000000000000 = true ∧ F64.isFinite 0x8000000000000001 = true ∧
    cmp (.real 0x8000000000000001) (.real 0x3ff8000000000000) = .lt ∧
    F64.value 0x8000000000000001 < F64.value 0x3ff8000000000000 := by decide +kernel
-- largest subnormal < smallest normal; largest finite < +inf
example : cmp (.real 0x000fffffffffffff) (.real 0x0010000000000000) = .lt ∧
    F64.value 0x000fffffffffffff < F64.value 0x0010000000000000 := by decide +kernel
example : F64.isInf 0xfff0000000000000 = true ∧ F64.signBit 0xfff0000000000000 = true ∧
    F64.isInf 0x7ff0000000000000 = true ∧ F64.signBit 0x7ff0000000000000 = false ∧
    F64.isFinite 0x7fefffffffffffff = true := by decide +kernel
example : F64.isNaN 0x7ff8000000000000 = true ∧ F64.isNaN 0xfff0000000000001 = true ∧ F64.isNaN 0x7ff0000000000000 = false := by decide +kernel
example : F64.isNaN 0x8000000000000000 = false ∧ (0x8000000000000000 : Nat) < 2 ^ 64 ∧ F64.mag 0x8000000000000000 = 0 := by decide +kernel

/-! ## INT × REAL — the WHERE order (`compareValues`, used by `Compare` and `IN`) (review gap 2)

`compareValues` is `Value.cmp` except for an INT against a REAL, which go through `F64.cmpIntReal`
(`compare_int_float`). `numValue v` is the exact value of a finite number (`Dy.ofInt i` / `F64.value n`);
`numClass`/`numUnits` (Lemmas/NumericOrder.lean) are the order key of any number: class −1 (−inf), 0 (INT,
finite REAL), 1 (+inf), 2 (NaN), then the exact value in units of 2^-1074. INT is any `Int` (no i64 bound needed). -/

/-- **Numbers compare by numeric value**: any mix of INT and finite REAL is ordered by `compareValues`
exactly as the exact values are; in particular an INT and a REAL of equal value are equal (not ordered by
type), and `2^53 + 1 > 2^53 as REAL` although `(2^53+1) as f64 == 2^53`. -/
theorem numbers_compare_by_value (a b : Value) (ha : isFiniteNumber a = true) (hb : isFiniteNumber b = true) :
    compareValues a b = Dy.cmp (numValue a) (numValue b) ∧
    (compareValues a b = .lt ↔ numValue a < numValue b) ∧
    (compareValues a b = .eq ↔ Dy.Eqv (numValue a) (numValue b)) ∧
    (compareValues a b = .gt ↔ numValue b < numValue a) := by
  have h := compareValues_eq_value_cmp a b ha hb
  refine ⟨h, by rw [h]; exact Iff.rfl, by rw [h]; exact Iff.rfl, ?_⟩
  rw [h, Dy.lt_def, Dy.cmp_swap (numValue a) (numValue b)]
  cases Dy.cmp (numValue a) (numValue b) <;> simp [Ordering.swap]

/-- INT = REAL exactly when the REAL is finite and its value is that integer -/
theorem int_eq_real_iff (i : Int) (b : Nat) :
    compareValues (.int i) (.real b) = .eq ↔ (F64.isFinite b = true ∧ Dy.Eqv (F64.value b) (Dy.ofInt i)) := by
  rcases F64.classify b with ⟨fb, ib, nb⟩ | ⟨fb, ib, nb⟩ | ⟨fb, ib, nb⟩
  · have h := compareValues_eq_value_cmp (.int i) (.real b) rfl fb
    rw [h]; simp only [fb, true_and, numValue]
    exact ⟨Dy.eqv_symm, Dy.eqv_symm⟩
  · simp only [compareValues, F64.cmpIntReal_inf i b ib, fb]
    cases F64.signBit b <;> simp
  · simp [compareValues, F64.cmpIntReal_nan i b nb, fb]

/-- non-finite REAL operands against an INT: `-inf` is below and `+inf` above every INT; NaN is ABOVE
every INT (`compare_int_float` answers `Less` for a NaN right operand, and the REAL-on-the-left case is its
mirror image), consistently with NaN being the greatest REAL in the derived order. -/
theorem int_vs_nonfinite_real (i : Int) (b : Nat) :
    (F64.isNaN b = true → compareValues (.int i) (.real b) = .lt ∧ compareValues (.real b) (.int i) = .gt) ∧
    (F64.isInf b = true → F64.signBit b = false →
      compareValues (.int i) (.real b) = .lt ∧ compareValues (.real b) (.int i) = .gt) ∧
    (F64.isInf b = true → F64.signBit b = true →
      compareValues (.int i) (.real b) = .gt ∧ compareValues (.real b) (.int i) = .lt) := by
  refine ⟨fun h => ?_, fun h s => ?_, fun h s => ?_⟩
  · simp [compareValues, F64.cmpIntReal_nan i b h, Ordering.swap]
  · simp [compareValues, F64.cmpIntReal_inf i b h, s, Ordering.swap]
  · simp [compareValues, F64.cmpIntReal_inf i b h, s, Ordering.swap]

/-- **The algorithm `compare_int_float` runs is the exact comparison** (audit-2 M8). `F64.cmpIntReal`, which
`compareValues` calls and the theorems above are about, is written as the specification (cross-multiplied exact integer
arithmetic). `F64.compareIntFloatAlgo` (`Model/CompareIntFloat.lean`) is the code's algorithm step by step on the bit
pattern: `is_nan`, the threshold tests `y >= 2^63` and `y < -2^63` (IEEE comparisons), `trunc` (mantissa shifted by the
exponent, fraction bits dropped), the saturating cast `as i64`, `x.cmp(..)`, and on equality the sign of the dropped
fraction `y - trunc y`. For EVERY i64 `i` and EVERY bit pattern `n` the two are equal, so every INT×REAL comparison
`compareValues` makes is the one the algorithm computes. The driver executes `compareIntFloatAlgo` for the `cmpir` cases
of C16 (INT edges × neighbouring REALs, answered by the real `compare_values`): the correspondence check ties the
ALGORITHM to the code, this theorem ties it to the specification. -/
theorem int_real_comparison_algorithm_is_exact (i : Int) (n : Nat) (hi : -2 ^ 63 ≤ i ∧ i < 2 ^ 63) :
    F64.compareIntFloatAlgo i n = F64.cmpIntReal i n ∧
    compareValues (.int i) (.real n) = F64.compareIntFloatAlgo i n ∧
    compareValues (.real n) (.int i) = (F64.compareIntFloatAlgo i n).swap := by
  have h := F64.compareIntFloatAlgo_eq_cmpIntReal i n hi
  exact ⟨h, by rw [h]; rfl, by rw [h]; rfl⟩

/-- … hence, on finite REALs, the algorithm's answer is the comparison of the exact values -/
theorem int_real_algorithm_compares_values (i : Int) (n : Nat) (hi : -2 ^ 63 ≤ i ∧ i < 2 ^ 63)
    (hn : F64.isFinite n = true) : F64.compareIntFloatAlgo i n = Dy.cmp (Dy.ofInt i) (F64.value n) := by
  rw [F64.compareIntFloatAlgo_eq_cmpIntReal i n hi, F64.cmpIntReal_eq_value_cmp i n hn]

/-- the side condition is satisfiable and the algorithm separates `2^53 + 1` from `2^53` -/
example : (-2 ^ 63 ≤ (9007199254740993 : Int) ∧ (9007199254740993 : Int) < 2 ^ 63) ∧
    F64.compareIntFloatAlgo 9007199254740993 0x4340000000000000 = .gt := by decide +kernel

/-- **The WHERE order is a total preorder on numbers** — all INTs and all REAL bit patterns (±0, subnormals,
±inf and NaN included, NaN being one class above everything), across all eight INT/REAL mixes of a triple:
reflexive; `b ? a` is the mirror image of `a ? b` (so exactly one of <, =, > holds and it is antisymmetric up
to numeric equality); `<` is transitive; `=` is a congruence (`a = b` ⇒ `a ? c` is `b ? c`, `c ? a` is `c ? b`);
`≤` is transitive. It is the order of the integer key `(numClass, numUnits)`. -/
theorem where_order_is_total_on_numbers (a b c : Value)
    (ha : isNumber a = true) (hb : isNumber b = true) (hc : isNumber c = true) :
    compareValues a a = .eq ∧
    compareValues b a = (compareValues a b).swap ∧
    (compareValues a b = .lt → compareValues b c = .lt → compareValues a c = .lt) ∧
    (compareValues a b = .eq → compareValues a c = compareValues b c) ∧
    (compareValues b c = .eq → compareValues a c = compareValues a b) ∧
    (compareValues a b ≠ .gt → compareValues b c ≠ .gt → compareValues a c ≠ .gt) ∧
    compareValues a b = (compare (numClass a) (numClass b)).then (compare (numUnits a) (numUnits b)) := by
  have t := compareValues_T a b c ha hb hc
  exact ⟨compareValues_refl a, compareValues_swap a b, t.1, t.2.1, t.2.2, T.le_trans t, compareValues_eq_key a b ha hb⟩

/-- **The WHERE order agrees with the GROUP BY / MIN / MAX / array_unique order on operands of one type**
(and on every other pair that is not an INT/REAL mix): `compareValues` IS `Value.cmp` there, so all laws
above (`trichotomy`, `lt_trans`, …) are laws of WHERE comparisons of same-type operands. (For an INT against
a REAL the two orders differ: finding D45 below.) -/
theorem where_order_agrees_with_group_order_same_type (a b : Value)
    (h : a.valueType = b.valueType ∨ a.rank = b.rank) : compareValues a b = cmp a b := by
  apply compareValues_eq_cmp
  rintro (⟨i, n, rfl, rfl⟩ | ⟨i, n, rfl, rfl⟩) <;> simp [valueType, rank] at h

/-- the only pairs on which the two orders can differ are INT/REAL mixes -/
theorem where_order_differs_only_on_int_real (a b : Value)
    (h : ¬ ((∃ i n, a = .int i ∧ b = .real n) ∨ (∃ i n, a = .real n ∧ b = .int i))) :
    compareValues a b = cmp a b := compareValues_eq_cmp a b h

-- non-vacuity: 2^53+1 as INT vs 2^53 as REAL (0x4340000000000000); 2 vs 1.5; 0 vs -0.0; mixes in a chain
example : isFiniteNumber (.int (2 ^ 53 + 1)) = true ∧ isFiniteNumber (.real 0x4340000000000000) = true ∧
    compareValues (.int (2 ^ 53 + 1)) (.real 0x4340000000000000) = .gt ∧
    compareValues (.int (2 ^ 53)) (.real 0x4340000000000000) = .eq ∧
    numValue (.real 0x4340000000000000) < numValue (.int (2 ^ 53 + 1)) := by decide +kernel
example : compareValues (.int 2) (.real 0x3ff8000000000000) = .gt ∧ compareValues (.real 0x3ff8000000000000) (.int 2) = .lt ∧
    compareValues (.int 0) (.real 0x8000000000000000) = .eq := by decide +kernel
example : F64.isFinite 0x4340000000000000 = true ∧ Dy.Eqv (F64.value 0x4340000000000000) (Dy.ofInt (2 ^ 53)) := by decide +kernel
-- a (REAL, INT, REAL) triple for transitivity: 1.5 < 2 < 2.5 (0x4004000000000000)
example : compareValues (.real 0x3ff8000000000000) (.int 2) = .lt ∧ compareValues (.int 2) (.real 0x4004000000000000) = .lt ∧
    compareValues (.real 0x3ff8000000000000) (.real 0x4004000000000000) = .lt := by decide +kernel
-- an (INT, REAL, INT) triple with equality: 3 = 3.0 (0x4008000000000000) = 3
example : compareValues (.int 3) (.real 0x4008000000000000) = .eq ∧ compareValues (.real 0x4008000000000000) (.int 3) = .eq := by decide +kernel
example : F64.isNaN 0x7ff8000000000000 = true ∧ compareValues (.int (2 ^ 63 - 1)) (.real 0x7ff8000000000000) = .lt ∧
    compareValues (.int (-(2 ^ 63))) (.real 0xfff0000000000000) = .gt := by decide +kernel
example : (Value.int 1).valueType = (Value.int 2).valueType ∧ (Value.real 0).rank = (Value.real 1).rank := by decide +kernel
example : isNumber (.real 0x7ff8000000000000) = true ∧ isNumber (.int (-5)) = true ∧ isNumber (.real 0xfff0000000000000) = true := by decide +kernel
-- a pair that is not an INT/REAL mix although the types differ (the derived order compares the variant rank)
example : compareValues (.text [97]) (.int 1) = cmp (.text [97]) (.int 1) := rfl

/-! ## array_unique (review gap 5)

`uniqueValues xs` (Model/Eval.lean: fold of `insertUnique` into an ascending list = `BTreeSet::from_iter(xs)
.into_iter()`; an insert of a value equal to a member REPLACES the member: std collects, sorts stably and keeps the later
of two equal neighbours) — the function `array_unique` executes. It uses the derived order `Value.cmp`; its equality
`cmp = Equal` is `==` (`cmp_eq_iff_eq`). The `array_unique` stream of the C16 check runs it on arrays holding equal but
not identical values (`-0.0` and `0.0`, NaNs of different payloads), where keeping the first or the last shows. -/

/-- **what array_unique returns**: the result is strictly ascending in the order (SORTED order, not occurrence
order; hence no two results are equal), and its members are exactly the LAST occurrences of the equality classes
of the input — `v` is returned iff `v` stands in `xs` at a position after which no value `==`-equal to `v` stands.
So of `[0.0, -0.0]` the `-0.0` is kept, of `[-0.0, 0.0]` the `0.0`. A strictly ascending list is determined by its
members, so this characterises the result completely. -/
theorem array_unique_characterisation (xs : List Value) :
    (uniqueValues xs).Pairwise (fun a b => cmp a b = .lt) ∧
    ∀ v, v ∈ uniqueValues xs ↔ ∃ pre post, xs = pre ++ v :: post ∧ ∀ u ∈ post, beq u v = false := by
  refine ⟨Unique.sorted_uniqueValues xs, fun v => ?_⟩
  rw [Unique.mem_uniqueValues_iff]
  unfold Unique.LastOcc
  constructor
  · rintro ⟨pre, post, h, hp⟩
    refine ⟨pre, post, h, fun u hu => ?_⟩
    have := hp u hu
    rw [Ne, cmp_eq_iff_beq] at this
    simpa using this
  · rintro ⟨pre, post, h, hp⟩
    refine ⟨pre, post, h, fun u hu => ?_⟩
    rw [Ne, cmp_eq_iff_beq, hp u hu]; simp

/-- **any two values deduplicated are equal, and only equal values are**: every input value is represented in the
result by exactly one member, which is `==`-equal to it (the latest equal input value); consequently two input
values share their representative iff they are equal — as for groups (`grouped_are_equal`, here on one-element
keys: `cmpList [u] [x] = Equal`). -/
theorem array_unique_merges_exactly_equal_values (xs : List Value) (x : Value) (hx : x ∈ xs) :
    (∃ u ∈ uniqueValues xs, beq u x = true ∧ cmpList [u] [x] = .eq) ∧
    (∀ u w, u ∈ uniqueValues xs → w ∈ uniqueValues xs → beq u x = true → beq w x = true → u = w) ∧
    (∀ y u, y ∈ xs → u ∈ uniqueValues xs → beq u x = true → (beq u y = true ↔ beq x y = true)) := by
  refine ⟨?_, ?_, ?_⟩
  · obtain ⟨u, hu, hf⟩ := Unique.exists_lastOcc xs x hx
    refine ⟨u, (Unique.mem_uniqueValues_iff xs u).2 hf, (cmp_eq_iff_beq u x).1 hu, ?_⟩
    simp [cmpList, hu, Ordering.then]
  · intro u w hu hw hux hwx
    rw [← cmp_eq_iff_beq] at hux hwx
    have huw : cmp u w = .eq := Std.TransCmp.eq_trans hux (Std.OrientedCmp.eq_symm hwx)
    rcases Unique.pairwise_mem (Unique.sorted_uniqueValues xs) hu hw with h | h | h
    · exact h
    · rw [huw] at h; exact absurd h (by decide)
    · rw [Std.OrientedCmp.eq_symm huw] at h; exact absurd h (by decide)
  · intro y u _ _ hux
    rw [← cmp_eq_iff_beq] at hux ⊢
    rw [← cmp_eq_iff_beq, (cmp_T u x y).2.1 hux]

/-- nothing is invented and nothing is lost: the result's members are input values, and it is empty only for an
empty input -/
theorem array_unique_members_are_inputs (xs : List Value) (v : Value) (h : v ∈ uniqueValues xs) : v ∈ xs := by
  obtain ⟨pre, post, hx, _⟩ := (Unique.mem_uniqueValues_iff xs v).1 h
  rw [hx]; simp

-- non-vacuity: sorted output, last of equal values kept (-0.0 / 0.0; NaN payloads), INT/REAL not merged (D45)
example : uniqueValues [.int 3, .int 1, .int 3, .int 2] = [.int 1, .int 2, .int 3] := rfl
example : Value.int 3 ∈ [Value.int 3, .int 1, .int 3, .int 2] := List.mem_cons_self
example : uniqueValues [negZero, posZero, one, posZero] = [posZero, one] ∧ uniqueValues [posZero, negZero] = [negZero] ∧
    uniqueValues [posZero, negZero, posZero, negZero] = [negZero] := ⟨rfl, rfl, rfl⟩
example : uniqueValues [.real 0x7ff8000000000001, nan, one] = [one, nan] := rfl
example : uniqueValues [.text [98], .text [97], .text [98]] = [.text [97], .text [98]] := rfl

/-- KNOWN FINDING D45 (kept as a kernel-checked witness): in the *derived* order, used for GROUP BY
keys, MIN/MAX, PERCENTILE and array_unique, an INT and a REAL are ordered by their type, not by
value: `Int(5) < Float(1.0)`. (WHERE comparisons go through `compare_int_float`, see C03.) -/
theorem d45_int_real_ordered_by_type : cmp (.int 5) one = .lt := by decide +kernel

end Sqlgrep.Props.C16
