import SqlgrepModel.Lemmas.LexRun
import SqlgrepModel.Generated.Keywords
import SqlgrepModel.Generated.LexOps
/-
Table obligations of the tokenizer model: the tables regenerated from the running code on every run
(`Generated/Keywords.lean`, `Generated/LexOps.lean`, written by `harness tables`) equal the tables the model uses.
All by kernel evaluation (`decide`): a change of `KEYWORDS`, of `TWO_CHAR_OPERATORS`, of the `=>` rule, of the
`--` comment rule or of the set of characters with a token of their own breaks one of these at build time.
(For the pair table, what the model does with two operator characters is taken from `tokens_op_pair`, and what the
generated tables say of a pair from the table equalities `fused_dual_eq` … `fused_nothing_else`: no pair is evaluated.)
-/
namespace Sqlgrep.Lex.Tables
open Sqlgrep Sqlgrep.Lex

/-- an oracle record for texts that are pure ASCII (neither component is consulted) -/
def asciiOnly : Oracles := { ext := fun c => { alpha := false, numeric := false, alnum := false, white := false, lower := [c] }, fparse := fun _ => .missing }

/-- `KEYWORDS`, word for word, with the keyword each word produces in the running code -/
theorem keywords_eq : Generated.keywords = keywordTable := by decide +kernel

/-- every word of `KEYWORDS` tokenizes to exactly one keyword token in the running code -/
theorem keywords_no_anomaly : Generated.keywordAnomalies = [] := by decide +kernel

/-- the literal words are exactly `false`, `null`, `true` -/
theorem literal_words_eq : Generated.literalWords = [(wFalse, .fls), (wNull, .null), (wTrue, .tru)] := by decide +kernel

/-- the model's two-character operators, the comment opener removed, are the pairs the code fuses into `Dual` -/
theorem fused_dual_eq : Generated.fusedDual = twoCharOps.filter (· ≠ ('-', '-')) := by decide +kernel

/-- `--` is a two-character operator in the model, and the only adjacent pair the code turns into a comment -/
theorem fused_comment_eq : Generated.fusedComment = twoCharOps.filter (· = ('-', '-')) := by decide +kernel

/-- `=>` is the only pair that becomes `RightArrow` -/
theorem fused_arrow_eq : Generated.fusedArrow = [('=', '>')] := by decide +kernel

/-- no other adjacent pair of operator characters is treated specially, and none fuses across whitespace -/
theorem fused_nothing_else : Generated.fusedOther = [] ∧ Generated.fusedWhenSeparated = [] := by decide +kernel

/-- printable ASCII -/
def printable : List Char := (List.range 94).map (fun n => Char.ofNat (n + 33))

/-- the operator alphabet as the *model* computes it: printable ASCII characters that tokenize to a single operator -/
def modelOpAlphabet : List Char :=
  printable.filter (fun c => tokens asciiOnly [c] == some [.op (.single c), .eof])

/-- the characters that are operators on their own are the same in the code and in the model -/
theorem op_alphabet_eq : Generated.opAlphabet = modelOpAlphabet := by decide +kernel

/-- what the *model* does with an adjacent pair of operator characters: 0 = two single operators, 1 = `Dual`,
2 = `RightArrow`, 3 = nothing (a comment), 4 = anything else -/
def modelPairClass (a b : Char) : Nat :=
  match tokens asciiOnly [a, b] with
  | some ts =>
    if ts == [.op (.single a), .op (.single b), .eof] then 0
    else if ts == [.op (.dual a b), .eof] then 1
    else if ts == [.rarrow, .eof] then 2
    else if ts == [.eof] then 3
    else 4
  | none => 4

def allPairs : List (Char × Char) := Generated.opAlphabet.flatMap (fun a => Generated.opAlphabet.map (fun b => (a, b)))

/-- the pairs the model treats specially, with their class -/
def modelSpecialPairs : List ((Char × Char) × Nat) :=
  (allPairs.map (fun ab => (ab, modelPairClass ab.1 ab.2))).filter (fun x => x.2 != 0)

def generatedSpecialPairs : List ((Char × Char) × Nat) :=
  (allPairs.map (fun ab => (ab,
    if Generated.fusedDual.contains ab then 1 else if Generated.fusedArrow.contains ab then 2
    else if Generated.fusedComment.contains ab then 3 else if Generated.fusedOther.contains ab then 4 else 0))).filter (fun x => x.2 != 0)

def pairClass (a b : Char) : Nat :=
  if a = '=' ∧ b = '>' then 2 else if isTwoChar a b then (if (a, b) = ('-', '-') then 3 else 1) else 0

theorem modelPairClass_eq {a b : Char} (ha : isOpChar asciiOnly a = true) (hb : isOpChar asciiOnly b = true) :
    modelPairClass a b = pairClass a b := by
  unfold modelPairClass pairClass
  rw [tokens_op_pair asciiOnly ha hb]
  simp only [pairToks]
  by_cases h1 : a = '=' ∧ b = '>' <;> by_cases h2 : isTwoChar a b = true <;> by_cases h3 : (a, b) = ('-', '-') <;>
    simp [h1, h2, h3]

theorem opAlphabet_isOp : ∀ c ∈ Generated.opAlphabet, isOpChar asciiOnly c = true := by decide +kernel

/-- the class that `generatedSpecialPairs` gives a pair (written out there) -/
def genClass (ab : Char × Char) : Nat :=
  if Generated.fusedDual.contains ab then 1 else if Generated.fusedArrow.contains ab then 2
  else if Generated.fusedComment.contains ab then 3 else if Generated.fusedOther.contains ab then 4 else 0

theorem genClass_eq (a b : Char) : genClass (a, b) = pairClass a b := by
  unfold genClass pairClass isTwoChar
  rw [fused_dual_eq, fused_comment_eq, fused_arrow_eq, fused_nothing_else.1]
  simp only [List.contains_eq_mem, List.mem_filter, List.mem_singleton, decide_eq_true_eq, List.not_mem_nil, decide_false,
    Bool.false_eq_true, if_false, Prod.mk.injEq, decide_not, Bool.not_eq_eq_eq_not, Bool.not_true, decide_eq_false_iff_not]
  by_cases h1 : a = '=' ∧ b = '>'
  · obtain ⟨rfl, rfl⟩ := h1
    simp [show ('=', '>') ∉ twoCharOps by decide]
  · by_cases h2 : (a, b) ∈ twoCharOps <;> by_cases h3 : a = '-' ∧ b = '-' <;> simp [h1, h2, h3]

theorem mem_allPairs {ab : Char × Char} (h : ab ∈ allPairs) : ab.1 ∈ Generated.opAlphabet ∧ ab.2 ∈ Generated.opAlphabet := by
  obtain ⟨a, ha, hm⟩ := List.mem_flatMap.mp h
  obtain ⟨b, hb, rfl⟩ := List.mem_map.mp hm
  exact ⟨ha, hb⟩

/-- the model, run on every adjacent pair of the operator alphabet, treats exactly the pairs specially that the
running code treats specially, in the same way (all other pairs stay two single operators on both sides) -/
theorem model_pairs_eq : modelSpecialPairs = generatedSpecialPairs := by
  unfold modelSpecialPairs generatedSpecialPairs
  exact congrArg _ (List.map_congr_left fun ab hab => by
    rw [modelPairClass_eq (opAlphabet_isOp _ (mem_allPairs hab).1) (opAlphabet_isOp _ (mem_allPairs hab).2), ← genClass_eq]; rfl)

end Sqlgrep.Lex.Tables
