import SqlgrepModel.Lemmas.TreeMap
import SqlgrepModel.Lemmas.ParseBind
/-
Transformed runs of the parser. `PRes.map` transforms the value, the error and the state of a result; with the parser's
functions in `bind` form (`Lemmas/ParseBind.lean`) "the run on the transformed input answers the transformed result" is
proved by walking a body once: `map_bind` at each call, `map_ite` at each test, `map_inspect` at the one place where the
result of a failed call is looked at.

The transformations of tokens and trees: every location `l` replaced by `ℓ l`, every identifier `n` by `ρ n`
(`PTok.relabelAll`, `PSt.relabelAll`; on trees `PExpr.mapAll ℓ ρ ρ` of `Lemmas/TreeMap.lean`: column names AND call names);
with `ℓ = id` respelling (`Tok.ren`, `PSt.ren`, `PExpr.renAll`). `NameMap ρ` is what the parser needs of a respelling.
-/
namespace Sqlgrep
variable {α α' β β' : Type}

def PRes.map (fa : α → β) (fe : PErr → PErr) (g : PSt → PSt) : PRes α → PRes β
  | .ok a s => .ok (fa a) (g s)
  | .err e s => .err (fe e) (g s)
  | .fuel => .fuel

namespace Parse
variable {fe : PErr → PErr} {g : PSt → PSt}

theorem map_bind {x : PRes α} {x' : PRes α'} {K : α → PSt → PRes β} {K' : α' → PSt → PRes β'} {fa : α → α'}
    {fb : β → β'}
    (hx : x.map fa fe g = x') (hK : ∀ a s, x = .ok a s → (K a s).map fb fe g = K' (fa a) (g s)) :
    (x.bind K).map fb fe g = x'.bind K' := by
  subst hx
  cases x with
  | ok a s => exact hK a s rfl
  | err e s => rfl
  | fuel => rfl

theorem map_ok {a : α} {a' : β} {f : α → β} {s : PSt} (h : f a = a') : (PRes.ok a s).map f fe g = .ok a' (g s) :=
  h ▸ rfl

theorem map_ite {c : Prop} [Decidable c] {a b : PRes α} {a' b' : PRes β} {f : α → β}
    (ha : c → a.map f fe g = a') (hb : ¬ c → b.map f fe g = b') :
    (if c then a else b).map f fe g = if c then a' else b' := by
  split
  · exact ha ‹_›
  · exact hb ‹_›

/-- the `( expr` site of `parsePrimary`, where the state left by a failed sub-parse is inspected -/
theorem map_inspect {x x' : PRes PExpr} {K : PExpr → PSt → PRes α} {K' : PExpr → PSt → PRes β}
    {E : PErr → PSt → PRes α} {E' : PErr → PSt → PRes β} {fx : PExpr → PExpr} {f : α → β} (hx : x.map fx fe g = x')
    (hK : ∀ a s, (K a s).map f fe g = K' (fx a) (g s)) (hE : ∀ e s, (E e s).map f fe g = E' (fe e) (g s)) :
    (parsePrimary.match_1 (fun _ => PRes α) x (fun _ => .fuel) E K).map f fe g =
      parsePrimary.match_1 (fun _ => PRes β) x' (fun _ => .fuel) E' K' := by
  subst hx
  cases x with
  | ok a s => exact hK a s
  | err e s => exact hE e s
  | fuel => rfl

end Parse

/-- respell an identifier token -/
def Tok.ren (ρ : List Char → List Char) : Tok → Tok
  | .ident n => .ident (ρ n)
  | t => t

def Tok.isIdent : Tok → Bool
  | .ident _ => true
  | _ => false

def PTok.ren (ρ : List Char → List Char) (t : PTok) : PTok := ⟨t.loc, t.tok.ren ρ⟩
def PSt.ren (ρ : List Char → List Char) (s : PSt) : PSt := ⟨s.cur.ren ρ, s.rest.map (PTok.ren ρ)⟩

/-- the one parser error that quotes an identifier: `NotDefinedType` -/
def PErrKind.ren (ρ : List Char → List Char) : PErrKind → PErrKind
  | .notDefinedType n => .notDefinedType (ρ n)
  | k => k
def PErr.ren (ρ : List Char → List Char) (e : PErr) : PErr := ⟨e.loc, e.kind.ren ρ⟩

def PRes.ren {α : Type} (ρ : List Char → List Char) (f : α → α) : PRes α → PRes α
  | .ok a s => .ok (f a) (s.ren ρ)
  | .err e s => .err (e.ren ρ) (s.ren ρ)
  | .fuel => .fuel

mutual
/-- respell every name of a tree: column names and call names -/
def PExpr.renAll (ρ : List Char → List Char) : PExpr → PExpr
  | .value l v => .value l v
  | .column l n => .column l (ρ n)
  | .wildcard l => .wildcard l
  | .tuple l vs => .tuple l (PExpr.renAllList ρ vs)
  | .binop l o a b => .binop l o (a.renAll ρ) (b.renAll ρ)
  | .boolop l o a b => .boolop l o (a.renAll ρ) (b.renAll ρ)
  | .unop l o e => .unop l o (e.renAll ρ)
  | .invert l e => .invert l (e.renAll ρ)
  | .nullcmp l n a b => .nullcmp l n (a.renAll ρ) (b.renAll ρ)
  | .inList l n e vs => .inList l n (e.renAll ρ) (PExpr.renAllList ρ vs)
  | .call l n args d => .call l (ρ n) (PExpr.renAllList ρ args) d
  | .index l a i => .index l (a.renAll ρ) (i.renAll ρ)
  | .cast l e t => .cast l (e.renAll ρ) t
  | .case l cs els => .case l (PExpr.renAllClauses ρ cs) (els.renAll ρ)
def PExpr.renAllList (ρ : List Char → List Char) : List PExpr → List PExpr
  | [] => []
  | x :: xs => x.renAll ρ :: PExpr.renAllList ρ xs
def PExpr.renAllClauses (ρ : List Char → List Char) : List (PExpr × PExpr) → List (PExpr × PExpr)
  | [] => []
  | (c, r) :: xs => (c.renAll ρ, r.renAll ρ) :: PExpr.renAllClauses ρ xs
end

def PTok.relabelAll (ℓ : Loc → Loc) (ρ : List Char → List Char) (t : PTok) : PTok := ⟨ℓ t.loc, t.tok.ren ρ⟩
def PSt.relabelAll (ℓ : Loc → Loc) (ρ : List Char → List Char) (s : PSt) : PSt :=
  ⟨s.cur.relabelAll ℓ ρ, s.rest.map (PTok.relabelAll ℓ ρ)⟩
def PErr.relabelAll (ℓ : Loc → Loc) (ρ : List Char → List Char) (e : PErr) : PErr := ⟨ℓ e.loc, e.kind.ren ρ⟩

@[reducible] def PRes.relabelAll {α β : Type} (ℓ : Loc → Loc) (ρ : List Char → List Char) (f : α → β) (x : PRes α) : PRes β :=
  x.map f (PErr.relabelAll ℓ ρ) (PSt.relabelAll ℓ ρ)

/-- no identifier is an operator of the precedence tables (true of the code's: `noIdentOps_code`) -/
def NoIdentOps (T : PrecTables) : Prop := ∀ n, lookupTok T.other (.ident n) = none

theorem noIdentOps_code : NoIdentOps PrecTables.code := by
  intro n; simp [lookupTok, PrecTables.code]

theorem Tok.ren_id (t : Tok) : t.ren id = t := by cases t <;> rfl

theorem PErrKind.ren_id (k : PErrKind) : k.ren id = k := by cases k <;> rfl

theorem PExpr.renAll_eq_mapAll (ρ : List Char → List Char) :
    (∀ e : PExpr, e.renAll ρ = e.mapAll id ρ ρ) ∧ (∀ es, PExpr.renAllList ρ es = PExpr.mapAllList id ρ ρ es) ∧
      (∀ cs, PExpr.renAllClauses ρ cs = PExpr.mapAllClauses id ρ ρ cs) := by
  apply PExpr.induct3
  all_goals intros
  all_goals simp only [PExpr.mapAll, PExpr.mapAllList, PExpr.mapAllClauses, PExpr.renAll, PExpr.renAllList,
    PExpr.renAllClauses, id, *]

theorem PErr.relabelAll_id : PErr.relabelAll id id = id := funext fun e => by
  simp [PErr.relabelAll, PErrKind.ren_id]

namespace Parse

variable (ρ : List Char → List Char)

theorem ren_ok {α} (f : α → α) (a : α) (s : PSt) : (PRes.ok a s).ren ρ f = .ok (f a) (s.ren ρ) := rfl
theorem ren_err {α} (f : α → α) (e : PErr) (s : PSt) : (PRes.err e s : PRes α).ren ρ f = .err (e.ren ρ) (s.ren ρ) := rfl
theorem ren_fuel {α} (f : α → α) : (PRes.fuel : PRes α).ren ρ f = .fuel := rfl

@[simp] theorem ren_cur_tok (s : PSt) : (s.ren ρ).cur.tok = s.cur.tok.ren ρ := rfl
@[simp] theorem ren_cur_loc (s : PSt) : (s.ren ρ).cur.loc = s.cur.loc := rfl

theorem isIdent_eq_false {X : Tok} (hX : ∀ n, X ≠ .ident n) : X.isIdent = false := by
  cases X <;> first | rfl | exact absurd rfl (hX _)

theorem tok_ren_eq {X : Tok} (hX : X.isIdent = false) (t : Tok) : (t.ren ρ = X) = (t = X) := by
  cases t <;> try rfl
  cases X <;> first | (simp [Tok.ren]; done) | cases hX

theorem tok_ren_eq_kw (k : Keyword) (t : Tok) : (t.ren ρ = .kw k) = (t = .kw k) := tok_ren_eq ρ rfl t
theorem tok_ren_eq_op (o : Operator) (t : Tok) : (t.ren ρ = .op o) = (t = .op o) := tok_ren_eq ρ rfl t
theorem tok_ren_eq_rp (t : Tok) : (t.ren ρ = .rp) = (t = .rp) := tok_ren_eq ρ rfl t
theorem tok_ren_eq_lsq (t : Tok) : (t.ren ρ = .lsq) = (t = .lsq) := tok_ren_eq ρ rfl t
theorem tok_ren_eq_comma (t : Tok) : (t.ren ρ = .comma) = (t = .comma) := tok_ren_eq ρ rfl t
theorem tok_ren_eq_semi (t : Tok) : (t.ren ρ = .semi) = (t = .semi) := tok_ren_eq ρ rfl t
theorem tok_ren_eq_dcolon (t : Tok) : (t.ren ρ = .dcolon) = (t = .dcolon) := tok_ren_eq ρ rfl t
theorem tok_ren_eq_eof (t : Tok) : (t.ren ρ = .eof) = (t = .eof) := tok_ren_eq ρ rfl t

theorem tok_ren_beq {X : Tok} (hX : X.isIdent = false) (t : Tok) : (t.ren ρ == X) = (t == X) := by
  rw [Bool.eq_iff_iff, beq_iff_eq, beq_iff_eq, tok_ren_eq ρ hX]

/-- `tok_ren_eq` for a token variable known not to be an identifier (the closing token of `parse_list`) -/
theorem tok_ren_eq_of {X : Tok} (hX : X.ren ρ = X ∧ ∀ n, X ≠ .ident n) (t : Tok) : (t.ren ρ = X) = (t = X) :=
  tok_ren_eq ρ (isIdent_eq_false hX.2) t

theorem renAllList_append (a b : List PExpr) :
    PExpr.renAllList ρ (a ++ b) = PExpr.renAllList ρ a ++ PExpr.renAllList ρ b := by
  induction a with
  | nil => rfl
  | cons x xs ih => simp only [List.cons_append, PExpr.renAllList, ih]

def renExc : Except PErr PExpr → Except PErr PExpr
  | .ok t => .ok (t.renAll ρ)
  | .error e => .error (e.ren ρ)

theorem renExc_ok (t : PExpr) : renExc ρ (.ok t) = .ok (t.renAll ρ) := rfl
theorem renExc_error (e : PErr) : renExc ρ (.error e) = .error (e.ren ρ) := rfl

variable {ρ}

theorem perr_ren_mk (ρ : List Char → List Char) (l : Loc) (k : PErrKind) : PErr.ren ρ ⟨l, k⟩ = ⟨l, k.ren ρ⟩ := rfl

variable {α β : Type} {ℓ : Loc → Loc}

theorem relabel_cur_tok (s : PSt) : (s.relabelAll ℓ ρ).cur.tok = s.cur.tok.ren ρ := rfl

theorem next_relabel (s : PSt) : (next s).relabelAll ℓ ρ id = next (s.relabelAll ℓ ρ) := by
  obtain ⟨c, r⟩ := s
  cases r <;> rfl

theorem combine_relabel (hρ : NameMap ρ) (loc : Loc) (op : Tok) (l r : PExpr) :
    combine (ℓ loc) (op.ren ρ) (l.mapAll ℓ ρ ρ) (r.mapAll ℓ ρ ρ) =
      match combine loc op l r with
      | .ok t => .ok (t.mapAll ℓ ρ ρ)
      | .error e => .error (e.relabelAll ℓ ρ) := by
  have hop : combine (ℓ loc) (op.ren ρ) (l.mapAll ℓ ρ ρ) (r.mapAll ℓ ρ ρ) = combine (ℓ loc) op (l.mapAll ℓ ρ ρ) (r.mapAll ℓ ρ ρ) := by
    cases op <;> rfl
  rw [hop]
  unfold combine
  split
  · cases l with
    | column _ a => cases r <;> first | rfl | exact congrArg (fun n => Except.ok (PExpr.column _ n)) (hρ.dot _ _).symm
    | _ => rfl
  · cases r <;> try rfl
    simp only [PExpr.mapAll, hρ.caseOnly _]
    split <;> rfl
  all_goals rfl

/-! ### a `match` on the respelled token is the `match` on the token, the identifier alternative taking the
respelled name -/

theorem parsePrimary.match_5_ren (t : Tok) (a1 : Int → β) (a2 : Nat → β) (a3 : List Char → β) (a4 a5 a6 : Unit → β)
    (a7 : List Char → β) (a8 a9 a10 : Unit → β) (a11 : Tok → β) :
    parsePrimary.match_5 (fun _ => β) (t.ren ρ) a1 a2 a3 a4 a5 a6 a7 a8 a9 a10 a11 =
      parsePrimary.match_5 (fun _ => β) t a1 a2 a3 a4 a5 a6 (fun n => a7 (ρ n)) a8 a9 a10 (fun t => a11 (t.ren ρ)) := by
  cases t <;> try rfl
  rename_i k; cases k <;> rfl

theorem parseUnary.match_1_ren (t : Tok) (a1 : Operator → β) (a2 : Unit → β) (a3 : Tok → β) :
    parseUnary.match_1 (fun _ => β) (t.ren ρ) a1 a2 a3 = parseUnary.match_1 (fun _ => β) t a1 a2 (fun t => a3 (t.ren ρ)) := by
  cases t <;> try rfl
  rename_i k; cases k <;> rfl

theorem parseRhs.match_11_ren (t : Tok) (a1 a2 a3 : Unit → β) (a4 : Tok → β) :
    parseRhs.match_11 (fun _ => β) (t.ren ρ) a1 a2 a3 a4 = parseRhs.match_11 (fun _ => β) t a1 a2 a3 (fun t => a4 (t.ren ρ)) := by
  cases t <;> try rfl
  rename_i k; cases k <;> rfl

end Parse
end Sqlgrep
