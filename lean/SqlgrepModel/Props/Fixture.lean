import SqlgrepModel.Lemmas.PipelineFront
import SqlgrepModel.Lemmas.StrBytes
import SqlgrepModel.Lemmas.ValueDecEq
/-
The fixture of the kernel-evaluated runs: the facts `exFacts` about three lines, the definitions text `exDefs` of one
table over them, and both in evaluated form (`exTables`, `exFactsE`), so that an evaluated run over the fixture pays for
its query text and its input only (`exRun`).

How the evaluated examples of `Props/` are proved. The kernel takes the characters of a string literal in quadratic time
(`"…".toList`, `strBytes "…"`), and `Model/Lex.lean` spells its word tables as such literals. So before `decide +kernel`
a proof hands the kernel lists: one `rw [String.toList_ofList]` per text (`strBytes_ofList` per long byte string; the
kernel reads a literal as `String.ofList` of its characters, the list is found by unification), `exRun` for a run over the
fixture, `runText_eq_K` / `parseText_eq_K` / `Lex.tokenize_eq_K` for any other text (`Lemmas/PipelineFront.lean`,
`Lemmas/ParseFast.lean`, `Lemmas/LexFast.lean`). The order matters: literals and facts are rewritten while every `match`
over them is still folded inside a definition, and a definition whose body is a `match` is unfolded by `rw [f]`, not by
`unfold f`. Matchers are reducible for the kernel, so when it has to compare `match a with …` with `match b with …` for
`a`, `b` equal by evaluation only (a literal against its list; `f x` against the body of `f`), it evaluates both. For a
statement that itself is `match runText … with …` the call is taken out first (`generalize h : runText _ _ _ _ _ _ = r`),
rewritten in `h`, and put back (`subst h`). Follow mode: `exFollowLines` / `ranOf` in `Props/PipelineFollow.lean`, over
`followLines_eq_K` / `followLines_of_defsTables` (`Lemmas/PipelineFollow.lean`). The expected value of a new example is
obtained first with `#eval` (removed again): with a wrong right-hand side `decide +kernel` was seen not to answer but to
exhaust the machine's memory without a message.
-/
namespace Sqlgrep.Props.Pipeline
open Sqlgrep Sqlgrep.Pipeline

/-- facts about `a;1`, `b;2` and `zzz` under the pattern `^([a-z]+);([0-9]+)$` (what the `regex` crate answers) -/
def exFacts : Facts :=
  { regexValid := [("^([a-z]+);([0-9]+)$".toList, true)]
    lines := [(strBytes "a;1", { captures := [(strBytes "^([a-z]+);([0-9]+)$", some [some (strBytes "a;1"), some (strBytes "a"), some (strBytes "1")])] }),
              (strBytes "b;2", { captures := [(strBytes "^([a-z]+);([0-9]+)$", some [some (strBytes "b;2"), some (strBytes "b"), some (strBytes "2")])] }),
              (strBytes "zzz", { captures := [(strBytes "^([a-z]+);([0-9]+)$", none)] })] }

def exDefs : List Char := "CREATE TABLE t(line = '^([a-z]+);([0-9]+)$', line[1] => k TEXT, line[2] => v INT);".toList

/-- the observable part of an answer that is a run -/
def recordsOf : Answer → Option (Option ErrKind × Nat × List (List Nat))
  | .records e n ls => some (e, n, ls)
  | _ => none

instance : DecidableEq (Option (Option ErrKind × Nat × List (List Nat))) := inferInstance

/-- the pattern of `exFacts` and `exDefs`, as bytes -/
def exPattern : List Nat := [94, 40, 91, 97, 45, 122, 93, 43, 41, 59, 40, 91, 48, 45, 57, 93, 43, 41, 36]

/-- the table `exDefs` defines -/
def exTables : List Table :=
  [{ name := "t",
     defn := { patterns := [{ name := [108, 105, 110, 101], regex := exPattern, mode := .captures }],
               columns := [{ parsing := .regex { pattern := [108, 105, 110, 101], group := 1 }, type := .text, options := {} },
                           { parsing := .regex { pattern := [108, 105, 110, 101], group := 2 }, type := .int, options := {} }] },
     columns := ["k", "v"] }]

/-- `exFacts` with its texts evaluated -/
def exFactsE : Facts :=
  { regexValid := [(exPattern.map Char.ofNat, true)]
    lines := [([97, 59, 49], { captures := [(exPattern, some [some [97, 59, 49], some [97], some [49]])] }),
              ([98, 59, 50], { captures := [(exPattern, some [some [98, 59, 50], some [98], some [50]])] }),
              ([122, 122, 122], { captures := [(exPattern, none)] })] }

theorem exFacts_eq : exFacts = exFactsE := by
  unfold exFacts
  rw [String.toList_ofList, strBytes_ofList, strBytes_ofList, strBytes_ofList, strBytes_ofList, strBytes_ofList,
    strBytes_ofList, strBytes_ofList, strBytes_ofList]
  rfl

deriving instance DecidableEq for Extract.Pattern, Extract.Parsing, Extract.Options, Extract.Column, Extract.TableDef, Table

/-- the one evaluation of `exDefs`, under any facts that read texts as `exFacts` does -/
theorem exDefs_tables {F : Facts} (hc : F.classes = []) (hn : F.numbers = []) (hr : F.regexValid = exFacts.regexValid) :
    defsTables F exDefs = some exTables :=
  (defsTables_congr hc hn hr exDefs).trans (by unfold exDefs; rw [String.toList_ofList]; decide +kernel)

/-- every run over the fixture is the run of the query text over `exTables`, nothing of `exDefs` or `exFacts` left to evaluate -/
theorem exRun (queryText : List Char) (fmt : Print.Format) (single : Bool) (files : List (List Nat)) :
    runText exFacts exDefs queryText fmt single files = runQuery exFactsE exTables queryText fmt single files := by
  rw [runText_of_defsTables (exDefs_tables rfl rfl rfl), exFacts_eq]

end Sqlgrep.Props.Pipeline
