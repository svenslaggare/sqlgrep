import SqlgrepModel.Model.JsonDoc
import SqlgrepModel.Lemmas.DecFloat
/-
`JsonDoc.docOfLine` (the Lean computation of `serde_json::from_str::<Value>(line)`) and RFC 8259.

* `parseJsonL_erase`: the lexeme-keeping parser is `Lemmas/JsonParser.parseJson` — same control flow, `.num` carries the
  text of the number instead of its denotation;
* `parseJsonL_grammar` / `parseJsonL_complete`: hence (by `parseJson_iff`) `parseJsonL cs = some l` exactly when `cs` is a
  `JSON-text` of RFC 8259 whose denotation is `l.erase`;
* `docOfLine_some_iff`, `docOfLine_rfc8259`, `not_rfc8259_not_json`: a line has a document iff its bytes are UTF-8 of a
  `JSON-text`, within serde_json's two limits (nesting ≤ 127, numbers in the REAL range);
* `serdeNumber_spec`, `toJson_nums`, `nums_followPath`: every number found in the document at a path is serde_json's
  reading of a number lexeme of the text, and its REAL is `decToF64` of the lexeme's denotation `Dec` (hence the nearest REAL:
  `DecFloat.decToF64_nearest`).
-/
namespace Sqlgrep
namespace JsonDoc
open JsonGrammar

def eV (p : LVal × List Char) : JVal × List Char := (p.1.erase, p.2)
def eMs (p : List (List Char × LVal) × List Char) : List (List Char × JVal) × List Char := (LVal.eraseMembers p.1, p.2)
def eM (p : (List Char × LVal) × List Char) : (List Char × JVal) × List Char := ((p.1.1, p.1.2.erase), p.2)
def eEs (p : List LVal × List Char) : List JVal × List Char := (LVal.eraseList p.1, p.2)

/- Both parsers branch on the same tests: the erasure is pushed into the branches (`apply_ite`) and the tests are
peeled off both sides together (`ite_congr`). -/
mutual
theorem parseValL_erase : ∀ fuel cs, (parseValL fuel cs).map eV = parseVal fuel cs
  | 0, _ => rfl
  | f + 1, cs => by
    rw [parseValL, parseVal]
    cases dropWs cs with
    | nil => rfl
    | cons c t =>
      simp only [apply_ite (Option.map eV)]
      refine ite_congr rfl (fun _ => ?_) fun _ => ite_congr rfl (fun _ => ?_) fun _ => ite_congr rfl (fun _ => ?_) fun _ =>
        ite_congr rfl (fun _ => ?_) fun _ => ite_congr rfl (fun _ => ?_) fun _ => ite_congr rfl (fun _ => ?_) fun _ => ?_
      · cases parseChars t <;> rfl
      · cases dropWs t with
        | nil => rfl
        | cons c2 t2 =>
          simp only [apply_ite (Option.map eV)]
          refine ite_congr rfl (fun _ => rfl) fun _ => ?_
          rw [← parseMembersL_erase f]
          cases parseMembersL f (c2 :: t2) <;> rfl
      · cases dropWs t with
        | nil => rfl
        | cons c2 t2 =>
          simp only [apply_ite (Option.map eV)]
          refine ite_congr rfl (fun _ => rfl) fun _ => ?_
          rw [← parseElemsL_erase f]
          cases parseElemsL f (c2 :: t2) <;> rfl
      · cases stripLit ['r', 'u', 'e'] t <;> rfl
      · cases stripLit ['a', 'l', 's', 'e'] t <;> rfl
      · cases stripLit ['u', 'l', 'l'] t <;> rfl
      · cases hn : numValue (spanNum (c :: t)).1 with
        | none => rfl
        | some d => simp only [Option.map_some, eV, LVal.erase, hn, Option.getD_some]
theorem parseMembersL_erase : ∀ fuel cs, (parseMembersL fuel cs).map eMs = parseMembers fuel cs
  | 0, _ => rfl
  | f + 1, cs => by
    rw [parseMembersL, parseMembers, ← parseMemberL_erase f]
    obtain _ | ⟨m, _ | ⟨c, t⟩⟩ := parseMemberL f cs <;> try rfl
    simp only [Option.map_some, eM, apply_ite (Option.map eMs)]
    refine ite_congr rfl (fun _ => rfl) fun _ => ite_congr rfl (fun _ => ?_) fun _ => rfl
    rw [← parseMembersL_erase f]
    cases parseMembersL f t <;> rfl
theorem parseMemberL_erase : ∀ fuel cs, (parseMemberL fuel cs).map eM = parseMember fuel cs
  | 0, _ => rfl
  | f + 1, cs => by
    rw [parseMemberL, parseMember]
    cases dropWs cs with
    | nil => rfl
    | cons c t =>
      simp only [apply_ite (Option.map eM)]
      refine ite_congr rfl (fun _ => ?_) fun _ => rfl
      obtain _ | ⟨k, r⟩ := parseChars t
      · rfl
      dsimp only
      cases dropWs r with
      | nil => rfl
      | cons c2 t2 =>
        simp only [apply_ite (Option.map eM)]
        refine ite_congr rfl (fun _ => ?_) fun _ => rfl
        rw [← parseValL_erase f]
        cases parseValL f t2 <;> rfl
theorem parseElemsL_erase : ∀ fuel cs, (parseElemsL fuel cs).map eEs = parseElems fuel cs
  | 0, _ => rfl
  | f + 1, cs => by
    rw [parseElemsL, parseElems, ← parseValL_erase f]
    obtain _ | ⟨x, _ | ⟨c, t⟩⟩ := parseValL f cs <;> try rfl
    simp only [Option.map_some, eV, apply_ite (Option.map eEs)]
    refine ite_congr rfl (fun _ => rfl) fun _ => ite_congr rfl (fun _ => ?_) fun _ => rfl
    rw [← parseElemsL_erase f]
    cases parseElemsL f t <;> rfl
end

theorem parseJsonL_erase (cs : List Char) : (parseJsonL cs).map LVal.erase = parseJson cs := by
  unfold parseJsonL parseJson
  rw [← parseValL_erase]
  obtain _ | ⟨x, _ | _⟩ := parseValL (cs.length + 1) cs <;> rfl

theorem parseJsonL_grammar {cs : List Char} {l : LVal} (h : parseJsonL cs = some l) : JsonTextD cs l.erase := by
  have := parseJsonL_erase cs
  rw [h] at this
  exact (parseJson_iff cs l.erase).1 this.symm

theorem parseJsonL_complete {cs : List Char} {x : JVal} (h : JsonTextD cs x) : ∃ l, parseJsonL cs = some l ∧ l.erase = x := by
  have hp := (parseJson_iff cs x).2 h
  rw [← parseJsonL_erase] at hp
  exact Option.map_eq_some_iff.1 hp

theorem docOfLine_some_iff (line : List Nat) (j : Json) :
    docOfLine line = some j ↔
      ∃ cs l, Utf8.decode line = some cs ∧ parseJsonL cs = some l ∧ l.depth ≤ maxDepth ∧ toJson l = some j := by
  unfold docOfLine docOfChars
  constructor
  · intro h
    split at h
    · next cs hd =>
      split at h
      · next l hl =>
        split at h
        · exact ⟨cs, l, hd, hl, ‹_›, h⟩
        · cases h
      · cases h
    · cases h
  · rintro ⟨cs, l, hd, hl, hdep, hj⟩
    simp only [hd, hl, if_pos hdep, hj]

/-- **a document comes from an RFC 8259 text**: if the line has a document, its bytes are the UTF-8 encoding of a
`JSON-text` (`Spec/JsonGrammar.lean`, written from the RFC), and the document is serde_json's classification
(`toJson`: integer / float numbers, UTF-8 strings, repeated keys) of a tree that denotes the text's value -/
theorem docOfLine_rfc8259 (line : List Nat) (j : Json) (h : docOfLine line = some j) :
    ∃ cs l, Utf8.decode line = some cs ∧ JsonTextD cs l.erase ∧ l.depth ≤ maxDepth ∧ toJson l = some j := by
  obtain ⟨cs, l, hd, hl, hdep, hj⟩ := (docOfLine_some_iff line j).1 h
  exact ⟨cs, l, hd, parseJsonL_grammar hl, hdep, hj⟩

theorem not_rfc8259_not_json (line : List Nat) (cs : List Char) (hd : Utf8.decode line = some cs)
    (h : ¬ ∃ x, JsonTextD cs x) : docOfLine line = none := by
  cases hdoc : docOfLine line with
  | none => rfl
  | some j =>
    obtain ⟨cs', l, hd', hg, _, _⟩ := docOfLine_rfc8259 line j hdoc
    rw [hd] at hd'
    cases hd'
    exact absurd ⟨_, hg⟩ h

theorem not_utf8_not_json (line : List Nat) (hd : Utf8.decode line = none) : docOfLine line = none := by
  unfold docOfLine; rw [hd]

/-- conversely, a `JSON-text` within serde_json's limits has a document -/
theorem rfc8259_has_doc (line : List Nat) (cs : List Char) (x : JVal) (hd : Utf8.decode line = some cs)
    (h : JsonTextD cs x) :
    ∃ l, l.erase = x ∧ docOfLine line = (if l.depth ≤ maxDepth then toJson l else none) := by
  obtain ⟨l, hl, he⟩ := parseJsonL_complete h
  refine ⟨l, he, ?_⟩
  unfold docOfLine docOfChars
  rw [hd]; simp only; rw [hl]

/-- what `serdeNumber` answers: the literal is a `number` of the grammar with denotation `d`, the number's REAL
(`as_f64`) is `decToF64` of `d` with the literal's sign, and that REAL is finite -/
theorem serdeNumber_spec (lex : List Char) (n : JNum) (h : serdeNumber lex = some n) :
    ∃ d, numValue lex = some d ∧ (Json.num n).asF64 = some (realOfDec (lexNeg lex) d) ∧
      realOfDec (lexNeg lex) d % 2 ^ 63 ≠ DecFloat.infBits := by
  revert h
  fun_cases serdeNumber lex
  all_goals (intro h; cases h)
  all_goals exact ⟨_, ‹numValue lex = some _›, rfl, ‹¬ _›⟩

theorem realOfDec_mag (neg : Bool) (d : Dec) :
    realOfDec neg d % 2 ^ 63 = DecFloat.decToF64 false d.mant.natAbs d.exp := by
  unfold realOfDec
  have hle := DecFloat.decToF64_pos_le d.mant.natAbs d.exp
  unfold DecFloat.infBits at hle
  cases neg with
  | false => omega
  | true => rw [DecFloat.decToF64_neg]; unfold DecFloat.signMask; omega

mutual
def LVal.lexemes : LVal → List (List Char)
  | .num lex => [lex]
  | .arr xs => LVal.lexemesList xs
  | .obj ms => LVal.lexemesMembers ms
  | _ => []
def LVal.lexemesList : List LVal → List (List Char)
  | [] => []
  | x :: xs => x.lexemes ++ LVal.lexemesList xs
def LVal.lexemesMembers : List (List Char × LVal) → List (List Char)
  | [] => []
  | (_, x) :: ms => x.lexemes ++ LVal.lexemesMembers ms
end

mutual
def nums : Json → List JNum
  | .num n => [n]
  | .arr xs => numsList xs
  | .obj kvs => numsMembers kvs
  | _ => []
def numsList : List Json → List JNum
  | [] => []
  | x :: xs => nums x ++ numsList xs
def numsMembers : List (List Nat × Json) → List JNum
  | [] => []
  | (_, x) :: kvs => nums x ++ numsMembers kvs
end

theorem nums_getIndex {xs : List Json} {i : Nat} {v : Json} (h : xs[i]? = some v) : ∀ n ∈ nums v, n ∈ numsList xs := by
  induction xs generalizing i with
  | nil => simp at h
  | cons x xs ih =>
    intro n hn
    rw [numsList]
    cases i with
    | zero => simp at h; subst h; exact List.mem_append_left _ hn
    | succ i => exact List.mem_append_right _ (ih (by simpa using h) n hn)

theorem nums_lookup {kvs : List (List Nat × Json)} {k : List Nat} {v : Json} (h : kvs.lookup k = some v) :
    ∀ n ∈ nums v, n ∈ numsMembers kvs := by
  induction kvs with
  | nil => simp [List.lookup] at h
  | cons kv kvs ih =>
    obtain ⟨k', x⟩ := kv
    intro n hn
    rw [numsMembers]
    rw [List.lookup] at h
    split at h
    · cases h; exact List.mem_append_left _ hn
    · exact List.mem_append_right _ (ih h n hn)

theorem nums_step {j w : Json} {s : JsonStep} (h : JsonAccess.step j s = some w) : ∀ n ∈ nums w, n ∈ nums j := by
  cases s with
  | field name =>
    cases j with
    | obj kvs => exact nums_lookup h
    | _ => cases h
  | index i =>
    cases j with
    | arr xs => exact nums_getIndex h
    | _ => cases h

theorem nums_followPath : ∀ (steps : List JsonStep) (j v : Json), followPath steps j = some v → ∀ n ∈ nums v, n ∈ nums j
  | [], j, v, h => by cases h; exact fun n hn => hn
  | s :: rest, j, v, h => by
    rw [followPath] at h
    split at h
    · next w hs => exact fun n hn => nums_step hs n (nums_followPath rest w v h n hn)
    · cases h

theorem nums_insertMember (m : List (List Nat × Json)) (k : List Nat) (v : Json) :
    ∀ n ∈ numsMembers (insertMember m k v), n ∈ numsMembers m ∨ n ∈ nums v := by
  induction m with
  | nil => intro n hn; simp [insertMember, numsMembers] at hn; exact Or.inr hn
  | cons kv m ih =>
    obtain ⟨k', v'⟩ := kv
    intro n hn
    rw [insertMember] at hn
    split at hn
    · rw [numsMembers, List.mem_append] at hn
      rw [numsMembers, List.mem_append]
      rcases hn with h | h
      · exact Or.inr h
      · exact Or.inl (Or.inr h)
    · rw [numsMembers, List.mem_append] at hn
      rw [numsMembers, List.mem_append]
      rcases hn with h | h
      · exact Or.inl (Or.inl h)
      · rcases ih n h with h' | h'
        · exact Or.inl (Or.inr h')
        · exact Or.inr h'

theorem nums_dedupe (kvs : List (List Nat × Json)) (acc : List (List Nat × Json)) :
    ∀ n ∈ numsMembers (kvs.foldl (fun m kv => insertMember m kv.1 kv.2) acc), n ∈ numsMembers acc ∨ n ∈ numsMembers kvs := by
  induction kvs generalizing acc with
  | nil => intro n hn; exact Or.inl hn
  | cons kv kvs ih =>
    intro n hn
    rw [List.foldl] at hn
    obtain ⟨k, v⟩ := kv
    rw [numsMembers, List.mem_append]
    rcases ih _ n hn with h | h
    · rcases nums_insertMember acc k v n h with h' | h'
      · exact Or.inl h'
      · exact Or.inr (Or.inl h')
    · exact Or.inr (Or.inr h)

theorem toJsonList_cons (x : LVal) (xs : List LVal) :
    toJsonList (x :: xs) = (toJson x).bind fun v => (toJsonList xs).map (v :: ·) := by
  rw [toJsonList]; cases toJson x <;> cases toJsonList xs <;> rfl

theorem toJsonMembers_cons (k : List Char) (x : LVal) (ms : List (List Char × LVal)) :
    toJsonMembers ((k, x) :: ms) = (toJson x).bind fun v => (toJsonMembers ms).map ((Utf8.encode k, v) :: ·) := by
  rw [toJsonMembers]; cases toJson x <;> cases toJsonMembers ms <;> rfl

theorem toJsonList_cons_eq_none {x : LVal} {xs : List LVal} :
    toJsonList (x :: xs) = none ↔ toJson x = none ∨ toJsonList xs = none := by
  rw [toJsonList_cons]; cases toJson x <;> cases toJsonList xs <;> simp

theorem toJsonMembers_cons_eq_none {k : List Char} {x : LVal} {ms : List (List Char × LVal)} :
    toJsonMembers ((k, x) :: ms) = none ↔ toJson x = none ∨ toJsonMembers ms = none := by
  rw [toJsonMembers_cons]; cases toJson x <;> cases toJsonMembers ms <;> simp

mutual
/-- every number of the document is serde_json's reading of a number lexeme of the text -/
theorem toJson_nums : ∀ (l : LVal) (j : Json), toJson l = some j → ∀ n ∈ nums j, ∃ lex ∈ l.lexemes, serdeNumber lex = some n
  | .null, j, h => by cases h; exact fun n hn => nomatch hn
  | .bool b, j, h => by cases h; exact fun n hn => nomatch hn
  | .str s, j, h => by cases h; exact fun n hn => nomatch hn
  | .num lex, j, h => by
    rw [toJson] at h
    obtain ⟨m, hs, rfl⟩ := Option.map_eq_some_iff.1 h
    intro n hn
    cases List.mem_singleton.1 hn
    exact ⟨lex, List.mem_singleton_self _, hs⟩
  | .arr xs, j, h => by
    rw [toJson] at h
    obtain ⟨vs, hx, rfl⟩ := Option.map_eq_some_iff.1 h
    exact toJsonList_nums xs vs hx
  | .obj ms, j, h => by
    rw [toJson] at h
    obtain ⟨kvs, hx, rfl⟩ := Option.map_eq_some_iff.1 h
    intro n hn
    rcases nums_dedupe kvs [] n hn with h' | h'
    · cases h'
    · exact toJsonMembers_nums ms kvs hx n h'
theorem toJsonList_nums : ∀ (xs : List LVal) (vs : List Json), toJsonList xs = some vs →
    ∀ n ∈ numsList vs, ∃ lex ∈ LVal.lexemesList xs, serdeNumber lex = some n
  | [], vs, h => by cases h; exact fun n hn => nomatch hn
  | x :: xs, vs, h => by
    rw [toJsonList_cons] at h
    obtain ⟨v, h1, h⟩ := Option.bind_eq_some_iff.1 h
    obtain ⟨vs', h2, rfl⟩ := Option.map_eq_some_iff.1 h
    intro n hn
    rw [numsList, List.mem_append] at hn
    rw [LVal.lexemesList]
    rcases hn with hn | hn
    · obtain ⟨lex, hl, hs⟩ := toJson_nums x v h1 n hn
      exact ⟨lex, List.mem_append_left _ hl, hs⟩
    · obtain ⟨lex, hl, hs⟩ := toJsonList_nums xs vs' h2 n hn
      exact ⟨lex, List.mem_append_right _ hl, hs⟩
theorem toJsonMembers_nums : ∀ (ms : List (List Char × LVal)) (kvs : List (List Nat × Json)), toJsonMembers ms = some kvs →
    ∀ n ∈ numsMembers kvs, ∃ lex ∈ LVal.lexemesMembers ms, serdeNumber lex = some n
  | [], kvs, h => by cases h; exact fun n hn => nomatch hn
  | (k, x) :: ms, kvs, h => by
    rw [toJsonMembers_cons] at h
    obtain ⟨v, h1, h⟩ := Option.bind_eq_some_iff.1 h
    obtain ⟨kvs', h2, rfl⟩ := Option.map_eq_some_iff.1 h
    intro n hn
    rw [numsMembers, List.mem_append] at hn
    rw [LVal.lexemesMembers]
    rcases hn with hn | hn
    · obtain ⟨lex, hl, hs⟩ := toJson_nums x v h1 n hn
      exact ⟨lex, List.mem_append_left _ hl, hs⟩
    · obtain ⟨lex, hl, hs⟩ := toJsonMembers_nums ms kvs' h2 n hn
      exact ⟨lex, List.mem_append_right _ hl, hs⟩
end

end JsonDoc
end Sqlgrep
