import SqlgrepModel.Lemmas.ExtractJson
import SqlgrepModel.Lemmas.JsonDoc
import SqlgrepModel.Lemmas.JsonDocPath
import SqlgrepModel.Lemmas.Utf8Encode
/-
C02 — JSON-path extraction yields exactly the addressed JSON value, typed.

Model: `JsonAccess.getValue` / `fromLinear`, `convertFromJson`, the `Json` branch of `Extract.extractColumn`
and `ParsingInput.new` (`serde_json::from_str(line).unwrap_or(Null)` once per line iff the table has JSON columns),
mirroring /repo HEAD. The JSON tree is a parameter (`LineOracle.json`, `none` = not JSON): all theorems of the first sections
hold for every tree, every definition and every oracle answer; the last section starts from the BYTES of the line
(`Model/JsonDoc.lean` `docOfLine`: the RFC 8259 grammar of `Spec/JsonGrammar.lean` plus serde_json's number classification). Specification: `followPath` (the value reached by following
the path), `noCoercion` (the decision table) and `specColumn`.
-/
namespace Sqlgrep.Props.C02
open Sqlgrep Sqlgrep.Extract Sqlgrep.Lit

/-- **json_get_spec.** `get_value` returns the value reached by following the path step by step (object member by
name, array element by index); it is `none` iff some step is absent from the value reached so far. -/
theorem json_get_spec (a : JsonAccess) (j : Json) :
    a.getValue j = followPath a.steps j ∧
    (a.getValue j = none ↔
      ∃ (pre : List JsonStep) (s : JsonStep) (post : List JsonStep) (v : Json),
        a.steps = pre ++ s :: post ∧ followPath pre j = some v ∧ JsonAccess.step v s = none) := by
  refine ⟨getValue_eq_followPath a j, ?_⟩
  rw [getValue_eq_followPath a j]
  exact followPath_none_iff a.steps j

/-- paths compose: following `pre ++ post` is following `post` from where `pre` leads -/
theorem json_path_compose (pre post : List JsonStep) (j : Json) :
    followPath (pre ++ post) j = (followPath pre j).bind (followPath post) :=
  followPath_append pre post j

/-- one step: a field step works on objects only (first member of that name in the parsed tree, where serde_json
has already kept the last duplicate), an index step on arrays only -/
theorem json_step_spec (j : Json) (name : List Nat) (i : Nat) :
    (JsonAccess.step j (.field name) = match j with | .obj kvs => kvs.lookup name | _ => none) ∧
    (JsonAccess.step j (.index i) = match j with | .arr xs => xs[i]? | _ => none) := by
  constructor <;> cases j <;> rfl

/-- `from_linear` builds exactly the written path; it is total on non-empty part lists (the empty list is D30,
rejected by the parser) -/
theorem fromLinear_total_partial (parts : List JsonStep) :
    (parts = [] → JsonAccess.fromLinear parts = none) ∧
    (parts ≠ [] → ∃ a, JsonAccess.fromLinear parts = some a ∧ a.steps = parts) :=
  fromLinear_spec parts

/-- **json_convert_no_coercion.** `convert_from_json` is the decision table `noCoercion`. -/
theorem json_convert_no_coercion (ty : VType) (j : Json) : convertFromJson ty j = noCoercion ty j :=
  convertFromJson_eq_noCoercion ty j

/-- INT only from integers that fit 64 bits -/
theorem int_only_from_integers (j : Json) (n : Int) :
    convertFromJson .int j = .int n ↔
      (∃ u f, j = .num (.posInt u f) ∧ u ≤ 9223372036854775807 ∧ n = (u : Int)) ∨ (∃ f, j = .num (.negInt n f)) := by
  rw [convertFromJson_eq_noCoercion]
  constructor
  · intro h
    cases j with
    | num x =>
      cases x with
      | posInt u f =>
        simp only [noCoercion] at h
        split at h
        · rename_i hu; injection h with h; exact .inl ⟨u, f, rfl, hu, h.symm⟩
        · cases h
      | negInt m f => injection h with h; subst h; exact .inr ⟨f, rfl⟩
      | float b => cases h
    | _ => cases h
  · rintro (⟨u, f, rfl, hu, rfl⟩ | ⟨f, rfl⟩)
    · exact if_pos hu
    · rfl

/-- a JSON value of another kind, a float, or an integer beyond `i64` is NULL for INT — never rounded or wrapped -/
theorem int_otherwise_null (j : Json) (h : ∀ n, convertFromJson .int j ≠ .int n) : convertFromJson .int j = .null := by
  rw [convertFromJson_eq_noCoercion] at *
  cases j with
  | num x =>
    cases x with
    | posInt u f =>
      simp only [noCoercion] at *
      split
      · rename_i hu; exact absurd (by simp [hu]) (h u)
      · rfl
    | negInt m f => exact absurd rfl (h m)
    | float b => rfl
  | _ => rfl

/-- REAL from any number (integers through `as f64`), from nothing else -/
theorem real_from_any_number (j : Json) :
    (∀ x, j = .num x → ∃ b, convertFromJson .real j = .real b) ∧
    ((∀ x, j ≠ .num x) → convertFromJson .real j = .null) := by
  constructor
  · intro x hx; subst hx; cases x <;> exact ⟨_, rfl⟩
  · intro h
    cases j with
    | num x => exact absurd rfl (h x)
    | _ => rfl

/-- TEXT only from strings, BOOLEAN only from booleans: everything else is NULL -/
theorem text_bool_only_from_own_kind (j : Json) :
    (convertFromJson .text j = match j with | .str s => .text s | _ => .null) ∧
    (convertFromJson .bool j = match j with | .bool b => .bool b | _ => .null) := by
  constructor <;> cases j <;> rfl

/-- arrays element-wise: a JSON array becomes an array of the element conversions (position and length kept,
wrong-typed elements NULL); anything else is NULL -/
theorem array_elementwise (e : VType) (j : Json) :
    convertFromJson (.array e) j =
      match j with
      | .arr xs => .array e (xs.map (convertFromJson e))
      | _ => .null := by
  cases j <;> rfl

/-- TIMESTAMP / INTERVAL columns get nothing from a JSON value without CONVERT -/
theorem timestamp_interval_null (j : Json) :
    convertFromJson .timestamp j = .null ∧ convertFromJson .interval j = .null := by
  constructor <;> cases j <;> rfl

/-- **json_column_spec.** The value of a JSON column: DEFAULT (NULL if none) iff the path is absent (also when the
line is not JSON: then the tree is `null`); otherwise, with CONVERT, the JSON string parsed as a literal of the
declared type (NULL for non-strings and non-literals), without CONVERT the un-coerced conversion; then TRIM. -/
theorem json_column_spec (o : Oracles) (c : Column) (inp : ParsingInput) (a : JsonAccess) (hp : c.parsing = .json a) :
    columnValue o c inp =
      applyTrim c (match followPath a.steps inp.json with
        | none => c.defaultValue
        | some v =>
          if c.options.convert then (match v with | .str s => literal o c.type s | _ => .null)
          else noCoercion c.type v) := by
  rw [columnValue_eq_spec]
  unfold specColumn
  rw [hp]
  simp only []
  cases followPath a.steps inp.json with
  | none => rfl
  | some v =>
    simp only []
    cases c.options.convert with
    | false => rfl
    | true => cases v <;> rfl

/-- DEFAULT is used only when the path is absent: when the path leads somewhere, the declared default is irrelevant -/
theorem json_default_only_when_absent (o : Oracles) (c : Column) (inp : ParsingInput) (a : JsonAccess) (v : Json)
    (hp : c.parsing = .json a) (hv : followPath a.steps inp.json = some v) (dflt : Option Value) :
    columnValue o c inp = columnValue o { c with options := { c.options with default := dflt } } inp := by
  rw [json_column_spec o c inp a hp,
    json_column_spec o { c with options := { c.options with default := dflt } } inp a hp, hv]
  rfl

/-- a path has at least one step, and `null` has neither members nor elements -/
theorem followPath_null (a : JsonAccess) : followPath a.steps .null = none := by
  cases a with
  | last s => cases s <;> rfl
  | cons s inner => cases s <;> rfl

/-- a line that is not JSON (or a table without JSON columns) presents the tree `null`, on which every path is absent -/
theorem not_json_is_absent (d : TableDef) (lo : LineOracle) (hn : lo.json = none) (a : JsonAccess) :
    followPath a.steps (ParsingInput.new d lo).json = none := by
  have hj : (ParsingInput.new d lo).json = .null := by
    unfold ParsingInput.new
    simp only [hn, Option.getD_none]
    split <;> rfl
  rw [hj, followPath_null]

/-- **json_columns_independent.** A JSON column's value is a function of its own definition and the line's JSON
tree alone — not of any other column, pattern or pattern result; and position `i` of a kept row is column `i`. -/
theorem json_columns_independent (o : Oracles) (c : Column) (inp inp' : ParsingInput) (hj : c.isJson = true)
    (h : inp.json = inp'.json) : columnValue o c inp = columnValue o c inp' :=
  json_columnValue_congr o c inp inp' hj h

theorem row_is_columnwise (o : Oracles) (d : TableDef) (lo : LineOracle)
    (hkeep : ¬ cutBy o (ParsingInput.new d lo) d.columns) (i : Nat) (c : Column) (hc : d.columns[i]? = some c) :
    (extractRow o d lo)[i]? = some (columnValue o c (ParsingInput.new d lo)) := by
  unfold extractRow
  rw [extractWith_kept o d _ hkeep, List.getElem?_map, hc]
  rfl

/-- **regex_columns_unaffected.** The regex columns of a mixed table have the values they have in the same table
without its JSON columns: the regex side keeps working on the raw line. -/
theorem regex_columns_unaffected (o : Oracles) (d : TableDef) (lo : LineOracle) :
    (withoutJson d).columns.map (fun c => columnValue o c (ParsingInput.new (withoutJson d) lo)) =
    (d.columns.filter (fun c => !c.isJson)).map (fun c => columnValue o c (ParsingInput.new d lo)) := by
  unfold withoutJson
  simp only []
  apply List.map_congr_left
  intro c hc
  have hj : c.isJson = false := by
    have := (List.mem_filter.1 hc).2
    simpa using this
  exact (regex_column_same_input o d lo c hj).symm

/-! ### from the bytes of the line

The statements above start from a JSON tree given as a parameter (`LineOracle.json` = what `serde_json::from_str`
answered). `JsonDoc.docOfLine` (`Model/JsonDoc.lean`) computes that tree from the bytes of the line, so the statements
below start from the bytes; "the line parsed as one JSON document" is RFC 8259
(`Spec/JsonGrammar.lean`) through `parseJson_iff`. -/

/-- the regex side does not look at the JSON tree of the line -/
theorem buildResults_json (lo : LineOracle) (j : Option Json) (ps : List Pattern) (acc : List (Text × RegexResult)) :
    buildResults { lo with json := j } ps acc = buildResults lo ps acc := by
  induction ps generalizing acc with
  | nil => rfl
  | cons p ps ih =>
    unfold buildResults
    cases p.mode with
    | captures =>
      simp only []
      cases lo.captures p.regex with
      | none => exact ih acc
      | some gs => exact ih _
    | split => exact ih _

theorem input_from_text (d : TableDef) (lo : LineOracle) (hj : d.anyJson = true) :
    ParsingInput.new d (JsonDoc.withDoc lo) =
      { regex := (ParsingInput.new d lo).regex, json := (JsonDoc.docOfLine lo.line).getD .null } := by
  unfold ParsingInput.new JsonDoc.withDoc
  simp only [hj, if_true]
  rw [buildResults_json]

/-- **json_column_from_text.** The value of a JSON-path column of a line, from the BYTES of the line: it is `specColumn`
— the sentence of C02 written as a function — applied to `JsonDoc.docOfLine line`, the Lean computation of
`serde_json::from_str::<Value>(line)` (`Value::Null` when the line has no document). -/
theorem json_column_from_text (o : Oracles) (d : TableDef) (lo : LineOracle) (c : Column) (hj : d.anyJson = true) :
    columnValue o c (ParsingInput.new d (JsonDoc.withDoc lo)) =
      specColumn o c { regex := (ParsingInput.new d lo).regex, json := (JsonDoc.docOfLine lo.line).getD .null } := by
  rw [input_from_text d lo hj, columnValue_eq_spec]

/-- … spelled out: DEFAULT iff the path is absent from the document of the line, else the addressed value, typed -/
theorem json_column_from_text_spec (o : Oracles) (d : TableDef) (lo : LineOracle) (c : Column) (a : JsonAccess)
    (hj : d.anyJson = true) (hp : c.parsing = .json a) :
    columnValue o c (ParsingInput.new d (JsonDoc.withDoc lo)) =
      applyTrim c (match followPath a.steps ((JsonDoc.docOfLine lo.line).getD .null) with
        | none => c.defaultValue
        | some v =>
          if c.options.convert then (match v with | .str s => literal o c.type s | _ => .null)
          else noCoercion c.type v) := by
  rw [input_from_text d lo hj, json_column_spec o c _ a hp]

/-- **the document of a line is the RFC 8259 reading of its bytes**: when a JSON column found a value `v` at its path,
the bytes of the line are the UTF-8 encoding of a `JSON-text` of RFC 8259 (`JsonTextD`, the grammar with denotation of
`Spec/JsonGrammar.lean`; `parseJson_iff` makes the parser that produced the tree sound and complete for it), the tree
the path was followed through is serde_json's classification (`JsonDoc.toJson`) of a tree `l` denoting the text's
value, nested no deeper than serde_json's limit. -/
theorem json_value_comes_from_rfc8259_text (lo : LineOracle) (a : JsonAccess) (v : Json)
    (hv : followPath a.steps ((JsonDoc.docOfLine lo.line).getD .null) = some v) :
    ∃ cs l j, Utf8.decode lo.line = some cs ∧ JsonGrammar.JsonTextD cs l.erase ∧ l.depth ≤ JsonDoc.maxDepth ∧
      JsonDoc.toJson l = some j ∧ followPath a.steps j = some v := by
  cases hd : JsonDoc.docOfLine lo.line with
  | none => rw [hd, Option.getD_none, followPath_null] at hv; cases hv
  | some j =>
    rw [hd] at hv
    obtain ⟨cs, l, h1, h2, h3, h4⟩ := JsonDoc.docOfLine_rfc8259 lo.line j hd
    exact ⟨cs, l, j, h1, h2, h3, h4, hv⟩

theorem column_default_of_no_document (o : Oracles) (d : TableDef) (lo : LineOracle) (c : Column) (a : JsonAccess)
    (hj : d.anyJson = true) (hp : c.parsing = .json a) (hdoc : JsonDoc.docOfLine lo.line = none) :
    columnValue o c (ParsingInput.new d (JsonDoc.withDoc lo)) = applyTrim c c.defaultValue := by
  rw [json_column_from_text_spec o d lo c a hj hp, hdoc, Option.getD_none, followPath_null]

/-- the document of a line whose text parses: serde_json's two limits remain -/
theorem docOfLine_of_parse {line : List Nat} {cs : List Char} {l : JsonDoc.LVal} (hd : Utf8.decode line = some cs)
    (hl : JsonDoc.parseJsonL cs = some l) :
    JsonDoc.docOfLine line = if l.depth ≤ JsonDoc.maxDepth then JsonDoc.toJson l else none := by
  unfold JsonDoc.docOfLine JsonDoc.docOfChars
  rw [hd]; simp only; rw [hl]

/-- a line that is not UTF-8, or whose text is not a `JSON-text` of RFC 8259, gives every JSON column its DEFAULT -/
theorem not_rfc8259_line_is_default (o : Oracles) (d : TableDef) (lo : LineOracle) (c : Column) (a : JsonAccess)
    (hj : d.anyJson = true) (hp : c.parsing = .json a)
    (hn : Utf8.decode lo.line = none ∨ ∃ cs, Utf8.decode lo.line = some cs ∧ ¬ ∃ x, JsonGrammar.JsonTextD cs x) :
    columnValue o c (ParsingInput.new d (JsonDoc.withDoc lo)) = applyTrim c c.defaultValue := by
  apply column_default_of_no_document o d lo c a hj hp
  rcases hn with h | ⟨cs, h1, h2⟩
  · exact JsonDoc.not_utf8_not_json _ h
  · exact JsonDoc.not_rfc8259_not_json _ cs h1 h2

theorem real_of_number (n : JNum) (b : Nat) (h : (Json.num n).asF64 = some b) : noCoercion .real (.num n) = .real b := by
  cases n <;> (simp only [Json.asF64, Option.some.injEq] at h; subst h; rfl)

/-- **json_real_is_nearest.** A REAL column fed from a JSON number holds THE nearest REAL to the decimal number the
RFC 8259 grammar gives the number's text. Precisely: if the line has a document and the column's path leads to a number in
it, then the bytes of the line are the UTF-8 of a `JSON-text` (`JsonTextD cs l.erase`), the number is one of the
text's `number` literals `lex` whose denotation by the grammar is the decimal `dec = mant · 10^exp`
(`JsonGrammar.numValue`, the executable form of `NumD`), and the column's value is the REAL with the literal's sign whose
magnitude `r = decToF64 false |mant| exp` is finite and at least as close to `|mant| · 10^exp` as every REAL `y`
(distances in units of 2^-1074 over the common denominator, `DecFloat.decToF64_nearest`; a tie goes to the even
mantissa, `DecFloat.decToF64_tie_even`). Since /repo 265d413 (serde_json `float_roundtrip`); before it the value could
be one unit in the last place off (finding D66). -/
theorem json_real_is_nearest (o : Oracles) (d : TableDef) (lo : LineOracle) (c : Column) (a : JsonAccess)
    (hj : d.anyJson = true) (hp : c.parsing = .json a) (ht : c.type = .real) (hc : c.options.convert = false)
    (j : Json) (n : JNum) (hdoc : JsonDoc.docOfLine lo.line = some j) (hv : followPath a.steps j = some (.num n)) :
    ∃ (cs : List Char) (l : JsonDoc.LVal) (lex : List Char) (dec : JsonGrammar.Dec),
      Utf8.decode lo.line = some cs ∧ JsonGrammar.JsonTextD cs l.erase ∧ lex ∈ l.lexemes ∧
      JsonGrammar.numValue lex = some dec ∧
      columnValue o c (ParsingInput.new d (JsonDoc.withDoc lo)) = .real (JsonDoc.realOfDec (JsonDoc.lexNeg lex) dec) ∧
      JsonDoc.realOfDec (JsonDoc.lexNeg lex) dec % 2 ^ 63 = DecFloat.decToF64 false dec.mant.natAbs dec.exp ∧
      F64.isFinite (DecFloat.decToF64 false dec.mant.natAbs dec.exp) = true ∧
      ∀ y, DecFloat.adist (DecFloat.numOf dec.mant.natAbs dec.exp * DecFloat.unitScale)
              (F64.umag (DecFloat.decToF64 false dec.mant.natAbs dec.exp) * DecFloat.denOf dec.exp) ≤
           DecFloat.adist (DecFloat.numOf dec.mant.natAbs dec.exp * DecFloat.unitScale) (F64.umag y * DecFloat.denOf dec.exp) := by
  obtain ⟨cs, l, h1, h2, _, h4⟩ := JsonDoc.docOfLine_rfc8259 lo.line j hdoc
  have hn : n ∈ JsonDoc.nums j := JsonDoc.nums_followPath a.steps j (.num n) hv n (by simp [JsonDoc.nums])
  obtain ⟨lex, hl, hs⟩ := JsonDoc.toJson_nums l j h4 n hn
  obtain ⟨dec, hd, hf, hfin⟩ := JsonDoc.serdeNumber_spec lex n hs
  have hmag := JsonDoc.realOfDec_mag (JsonDoc.lexNeg lex) dec
  have hne : DecFloat.decToF64 false dec.mant.natAbs dec.exp ≠ DecFloat.infBits := by rw [← hmag]; exact hfin
  have near := fun y => DecFloat.decToF64_nearest dec.mant.natAbs dec.exp y hne
  refine ⟨cs, l, lex, dec, h1, h2, hl, hd, ?_, hmag, (near 0).1, fun y => (near y).2⟩
  rw [json_column_from_text_spec o d lo c a hj hp, hdoc]
  simp only [Option.getD_some, hv, hc, ht]
  rw [real_of_number n _ hf]
  simp only [Bool.false_eq_true, if_false]
  rw [applyTrim_not_text c (.real _) fun _ h => nomatch h]

/-! ### which NUMBER a JSON number literal becomes ("INT only from integers within 64 bits, REAL from any number")

The statements above take the number node as serde_json classified it. These start from the LITERAL: a text `lex`
that the RFC 8259 grammar derives from `number` with the denotation `d = mant · 10^exp` (`JsonGrammar.NumD lex d`;
`C17Json.isJsonNumber_exact`: `numValue` decides it), and say what `JsonDoc.serdeNumber` — the function `docOfLine`
executes for every number of a line — makes of it, and what an INT / REAL column then holds. -/

open JsonGrammar in
/-- **number_literal_real (M1 a, L1).** For EVERY number literal — integer literals of any length, fractions,
exponents — read as REAL (`as_f64`, which is what a REAL column takes):
* if the magnitude `|mant| · 10^exp` rounds to infinity the literal is no number at all (serde_json's
  `NumberOutOfRange`; the whole line is then not JSON: `out_of_range_literal_line_is_default`);
* otherwise the REAL is the nearest REAL of the literal's exact decimal value, `JsonDoc.nearestReal d`
  (`nearestReal_is_nearest`), for every literal but the zeros written with a minus — `-0`, `-0.0`, `-0e3` —, whose REAL
  is `-0.0`: the sign of a zero is the sign of the text (the denotation `⟨0, e⟩` has none). -/
theorem number_literal_real {lex : List Char} {d : Dec} (h : NumD lex d) :
    (DecFloat.decToF64 false d.mant.natAbs d.exp = DecFloat.infBits → JsonDoc.serdeNumber lex = none) ∧
    (DecFloat.decToF64 false d.mant.natAbs d.exp ≠ DecFloat.infBits →
      ∃ n, JsonDoc.serdeNumber lex = some n ∧
        (Json.num n).asF64 =
          some (if JsonDoc.lexNeg lex = true ∧ d.mant = 0 then DecFloat.signMask else JsonDoc.nearestReal d) ∧
        convertFromJson .real (.num n) =
          .real (if JsonDoc.lexNeg lex = true ∧ d.mant = 0 then DecFloat.signMask else JsonDoc.nearestReal d)) := by
  refine ⟨(JsonDoc.serdeNumber_none_iff h).2, fun hfin => ?_⟩
  cases hs : JsonDoc.serdeNumber lex with
  | none => exact absurd ((JsonDoc.serdeNumber_none_iff h).1 hs) hfin
  | some n =>
    refine ⟨n, rfl, ?_, ?_⟩
    · rw [JsonDoc.serdeNumber_asF64 h n hs, JsonDoc.litReal_eq h]
    · rw [JsonDoc.real_of_literal h n hs, JsonDoc.litReal_eq h]

/-- `nearestReal d` is THE nearest REAL: its sign bit is the sign of `d`, its magnitude is `decToF64` of `|d|`, and
when that is finite no REAL `y` is closer to `|mant| · 10^exp` (distances in units of 2^-1074 over the common
denominator; a tie goes to the even mantissa: `DecFloat.decToF64_tie_even`) -/
theorem nearestReal_is_nearest (d : JsonGrammar.Dec) :
    JsonDoc.nearestReal d = (if d.mant < 0 then DecFloat.signMask else 0) + DecFloat.decToF64 false d.mant.natAbs d.exp ∧
    (DecFloat.decToF64 false d.mant.natAbs d.exp ≠ DecFloat.infBits →
      F64.isFinite (DecFloat.decToF64 false d.mant.natAbs d.exp) = true ∧
      ∀ y, DecFloat.adist (DecFloat.numOf d.mant.natAbs d.exp * DecFloat.unitScale)
              (F64.umag (DecFloat.decToF64 false d.mant.natAbs d.exp) * DecFloat.denOf d.exp) ≤
           DecFloat.adist (DecFloat.numOf d.mant.natAbs d.exp * DecFloat.unitScale) (F64.umag y * DecFloat.denOf d.exp)) := by
  constructor
  · unfold JsonDoc.nearestReal
    by_cases hneg : d.mant < 0
    · simp only [hneg, decide_true, if_true]; exact DecFloat.decToF64_neg _ _
    · simp only [hneg, decide_false, if_false, Nat.zero_add]
  · intro hfin
    exact ⟨(DecFloat.decToF64_nearest _ _ 0 hfin).1, fun y => (DecFloat.decToF64_nearest _ _ y hfin).2⟩

open JsonGrammar in
/-- a literal is out of range exactly when its exact value is at least `(2^54 − 1) · 2^970 = 2^1024 − 2^970`, the
IEEE-754 overflow threshold (half a unit in the last place above the largest finite REAL) -/
theorem number_literal_out_of_range_iff {lex : List Char} {d : Dec} (h : NumD lex d) :
    JsonDoc.serdeNumber lex = none ↔
      (2 ^ 54 - 1) * DecFloat.topHalfUlp * DecFloat.denOf d.exp ≤ DecFloat.numOf d.mant.natAbs d.exp * DecFloat.unitScale := by
  rw [JsonDoc.serdeNumber_none_iff h, DecFloat.decToF64_overflow_iff]

open JsonGrammar in
/-- **number_literal_classification (M1 b).** serde_json's three kinds of number, from the literal:
* `PosInt(n)` exactly for an integer literal (no fraction, no exponent: `integer_literal_iff`) without a minus sign whose
  value `n ≤ u64::MAX`;
* `NegInt(n)` exactly for an integer literal of negative value `n ≥ i64::MIN`;
* `Float` for every other literal in range: a fraction or an exponent makes a float even when the value is integral
  (`1.0`, `1e2`), so does an integer literal above `u64::MAX` or below `i64::MIN`, and so does `-0`;
and an integer literal that fits `u64` is never out of range. -/
theorem number_literal_classification {lex : List Char} {d : Dec} (h : NumD lex d) :
    (∀ u f, JsonDoc.serdeNumber lex = some (.posInt u f) ↔
      JsonDoc.isIntLiteral lex = true ∧ JsonDoc.lexNeg lex = false ∧ d.mant = (u : Int) ∧ u ≤ JsonDoc.u64Max ∧
        f = JsonDoc.realOfDec false d) ∧
    (∀ m f, JsonDoc.serdeNumber lex = some (.negInt m f) ↔
      JsonDoc.isIntLiteral lex = true ∧ d.mant = m ∧ m < 0 ∧ -9223372036854775808 ≤ m ∧ f = JsonDoc.realOfDec true d) ∧
    (∀ b, JsonDoc.serdeNumber lex = some (.float b) ↔
      DecFloat.decToF64 false d.mant.natAbs d.exp ≠ DecFloat.infBits ∧ b = JsonDoc.realOfDec (JsonDoc.lexNeg lex) d ∧
        ¬ (JsonDoc.isIntLiteral lex = true ∧ JsonDoc.lexNeg lex = false ∧ d.mant ≤ (JsonDoc.u64Max : Int)) ∧
        ¬ (JsonDoc.isIntLiteral lex = true ∧ d.mant < 0 ∧ -9223372036854775808 ≤ d.mant)) := by
  have hs := JsonDoc.lexNeg_of_numD h
  -- an integer literal has exponent 0, so one that fits `u64` (or `i64`) is in range
  have hfit : JsonDoc.isIntLiteral lex = true → d.mant.natAbs ≤ JsonDoc.u64Max →
      DecFloat.decToF64 false d.mant.natAbs d.exp ≠ DecFloat.infBits := by
    intro hint hu
    obtain ⟨i, _, ⟨_, hd⟩ | ⟨_, hd⟩⟩ := JsonDoc.intLiteral_shape h hint <;>
      (have he : d.exp = 0 := by rw [hd]
       rw [he]; exact JsonDoc.u64_finite _ hu)
  -- the four branches of `serdeNumber_classify`; in each, one description holds and the other two contradict the guard
  rw [JsonDoc.serdeNumber_classify h]
  by_cases hinf : DecFloat.decToF64 false d.mant.natAbs d.exp = DecFloat.infBits
  · rw [if_pos hinf]
    exact ⟨fun u f => ⟨nofun, fun ⟨hi, _, hm, hu, _⟩ => absurd hinf (hfit hi (by omega))⟩,
      fun m f => ⟨nofun, fun ⟨hi, hm, hlt, hb, _⟩ => absurd hinf (hfit hi (by unfold JsonDoc.u64Max; omega))⟩,
      fun b => ⟨nofun, fun hb => absurd hinf hb.1⟩⟩
  rw [if_neg hinf]
  by_cases hA : JsonDoc.isIntLiteral lex = true ∧ JsonDoc.lexNeg lex = false ∧ d.mant ≤ (JsonDoc.u64Max : Int)
  · rw [if_pos hA]
    have h0 := hs.2 hA.2.1
    have hu := hA.2.2
    refine ⟨fun u f => ?_, fun m f => ⟨nofun, fun ⟨_, hm, hlt, _⟩ => by omega⟩, fun b => ⟨nofun, fun hb => absurd hA hb.2.2.1⟩⟩
    rw [Option.some.injEq, JNum.posInt.injEq, hA.2.1]
    exact ⟨fun ⟨hm, hf⟩ => ⟨hA.1, rfl, by omega, by omega, hf.symm⟩, fun ⟨_, _, hm, _, hf⟩ => ⟨by omega, hf.symm⟩⟩
  rw [if_neg hA]
  by_cases hB : JsonDoc.isIntLiteral lex = true ∧ d.mant < 0 ∧ -9223372036854775808 ≤ d.mant
  · rw [if_pos hB]
    have hneg : JsonDoc.lexNeg lex = true := by
      cases hn : JsonDoc.lexNeg lex with
      | true => rfl
      | false => have := hs.2 hn; omega
    refine ⟨fun u f => ⟨nofun, fun hp => ?_⟩, fun m f => ?_, fun b => ⟨nofun, fun hb => absurd hB hb.2.2.2⟩⟩
    · rw [hneg] at hp; cases hp.2.1
    · rw [Option.some.injEq, JNum.negInt.injEq, hneg]
      exact ⟨fun ⟨hm, hf⟩ => ⟨hB.1, hm, by omega, by omega, hf.symm⟩, fun ⟨_, hm, _, _, hf⟩ => ⟨hm, hf.symm⟩⟩
  rw [if_neg hB]
  refine ⟨fun u f => ⟨nofun, fun ⟨hi, hn, hm, hu, _⟩ => absurd ⟨hi, hn, by omega⟩ hA⟩,
    fun m f => ⟨nofun, fun ⟨hi, hm, hlt, hb, _⟩ => absurd ⟨hi, by omega, by omega⟩ hB⟩, fun b => ?_⟩
  rw [Option.some.injEq, JNum.float.injEq]
  exact ⟨fun hb => ⟨hinf, hb.symm, hA, hB⟩, fun hb => hb.2.1.symm⟩

open JsonGrammar in
/-- **integer_literal_iff.** "integer literal" (`JsonDoc.isIntLiteral`) is: the `number` is an `int` of the grammar with an
optional minus in front — equivalently, the text contains no decimal point and no exponent marker —, and then it denotes
that integer with exponent 0. -/
theorem integer_literal_iff {lex : List Char} {d : Dec} (h : NumD lex d) :
    (JsonDoc.isIntLiteral lex = true ↔
      ∃ i, IntPart i ∧ ((lex = i ∧ d = ⟨digitsVal i, 0⟩) ∨ (lex = '-' :: i ∧ d = ⟨-(digitsVal i : Int), 0⟩))) ∧
    (JsonDoc.isIntLiteral lex = true ↔ ∀ c ∈ lex, c ≠ '.' ∧ c ≠ 'e' ∧ c ≠ 'E') := by
  refine ⟨⟨JsonDoc.intLiteral_shape h, ?_⟩, JsonDoc.intLiteral_iff_chars h⟩
  rintro ⟨i, hi, ⟨rfl, _⟩ | ⟨rfl, _⟩⟩
  · exact (JsonDoc.intLiteral_of_int hi).1
  · exact (JsonDoc.intLiteral_of_int hi).2.1

open JsonGrammar in
/-- **int_column_from_literal (M1 b, column level).** What `convert_from_json` (`as_i64`) gives an INT column for a number
literal in range: the integer `d.mant`, exactly, when the literal is an integer literal with
`i64::MIN ≤ d.mant ≤ i64::MAX` other than `-0`; NULL for every other number literal — `1.0` and `1e2` (floats for
serde_json although integral: the sentence's "INT only from integers" does not say whether `1.0` is one; the code says
it is not), `0.5`, the `u64` band `9223372036854775808 … 18446744073709551615`, anything longer, anything below
`i64::MIN` — never a rounded, truncated or wrapped value. The literal `-0` also gives NULL (serde_json keeps it as the
float `-0.0`), although `0` gives 0: observation N1 of DESIGN.md section 0 — the sentence's clauses are one-directional
("INT only from integers", "NULL when the JSON value has another type") and do not decide the literals whose VALUE is an
integer within 64 bits but which are written `-0`, `1.0`, `1e2`; this theorem states what the code does with them
(serde_json's classification), the property oracle of the harness accepts NULL or the INT of the same value there
(`oracle-accepts-either:int-from-integral-literal`), and the correspondence check reports any change of behaviour. -/
theorem int_column_from_literal {lex : List Char} {d : Dec} (h : NumD lex d) (n : JNum)
    (hn : JsonDoc.serdeNumber lex = some n) :
    convertFromJson .int (.num n) =
      if JsonDoc.isIntLiteral lex = true ∧ -9223372036854775808 ≤ d.mant ∧ d.mant ≤ 9223372036854775807 ∧
          ¬ (JsonDoc.lexNeg lex = true ∧ d.mant = 0) then .int d.mant
      else .null :=
  JsonDoc.int_of_literal h n hn

/-! #### … at the line level: from the bytes of the line to the column (M1 c) -/

/-- what a column of type `ty` (without CONVERT) holds when its path addresses the number literal `lex` denoting `d`:
REAL — the nearest REAL of `d` (`-0.0` for a zero written with a minus); INT — `d.mant` for an integer literal within
`i64` other than `-0`, else NULL; every other type — NULL ("NULL when the JSON value has another type") -/
def numberCell (ty : VType) (lex : List Char) (d : JsonGrammar.Dec) : Value :=
  match ty with
  | .real => .real (if JsonDoc.lexNeg lex = true ∧ d.mant = 0 then DecFloat.signMask else JsonDoc.nearestReal d)
  | .int =>
    if JsonDoc.isIntLiteral lex = true ∧ -9223372036854775808 ≤ d.mant ∧ d.mant ≤ 9223372036854775807 ∧
        ¬ (JsonDoc.lexNeg lex = true ∧ d.mant = 0) then .int d.mant
    else .null
  | _ => .null

theorem numberCell_not_text (ty : VType) (lex : List Char) (d : JsonGrammar.Dec) : ∀ s, numberCell ty lex d ≠ .text s := by
  intro s
  unfold numberCell
  cases ty <;> simp only [ne_eq, reduceCtorEq, not_false_eq_true]
  split <;> simp

open JsonGrammar in
theorem number_cell (c : Column) {lex : List Char} {d : Dec} (h : NumD lex d) (n : JNum)
    (hn : JsonDoc.serdeNumber lex = some n) :
    applyTrim c (noCoercion c.type (.num n)) = numberCell c.type lex d := by
  have hv : noCoercion c.type (.num n) = numberCell c.type lex d := by
    rw [← convertFromJson_eq_noCoercion]
    cases hty : c.type with
    | real => simp only [numberCell]; rw [JsonDoc.real_of_literal h n hn, JsonDoc.litReal_eq h]
    | int => simp only [numberCell]; exact JsonDoc.int_of_literal h n hn
    | bool => rfl
    | text => rfl
    | array e => rfl
    | timestamp => rfl
    | interval => rfl
  rw [hv, applyTrim_not_text c _ (numberCell_not_text _ _ _)]

open JsonGrammar in
/-- **json_number_column_from_text (M1 c).** A JSON-path column (no CONVERT) whose path found a number in the document of
the line: the bytes of the line are the UTF-8 of a `JSON-text` of RFC 8259 with the tree `l` (`JsonTextD cs l.erase`);
following the column's path through that tree — object members by name, the LAST one of a repeated name, array
elements by index: `JsonDoc.followL`, on the grammar's denotation `JsonDoc.followV` — ends at a `number` literal `lex`
denoting `d`; and the column holds `numberCell`: the nearest REAL of `d` (sign of zero from the text) in a REAL column,
the integer `d.mant` in an INT column exactly for an integer literal within `i64` other than `-0`, NULL otherwise. -/
theorem json_number_column_from_text (o : Oracles) (d : TableDef) (lo : LineOracle) (c : Column) (a : JsonAccess)
    (hj : d.anyJson = true) (hp : c.parsing = .json a) (hc : c.options.convert = false)
    (j : Json) (n : JNum) (hdoc : JsonDoc.docOfLine lo.line = some j) (hv : followPath a.steps j = some (.num n)) :
    ∃ (cs : List Char) (l : JsonDoc.LVal) (lex : List Char) (dec : Dec),
      Utf8.decode lo.line = some cs ∧ JsonTextD cs l.erase ∧
      JsonDoc.followL a.steps l = some (.num lex) ∧ JsonDoc.followV a.steps l.erase = some (.num dec) ∧
      NumD lex dec ∧ JsonDoc.serdeNumber lex = some n ∧
      columnValue o c (ParsingInput.new d (JsonDoc.withDoc lo)) = numberCell c.type lex dec := by
  obtain ⟨cs, l, h1, h2, _, h4⟩ := (JsonDoc.docOfLine_some_iff lo.line j).1 hdoc
  obtain ⟨lex, hl, hs⟩ := (JsonDoc.followPath_num a.steps l j h4 n).1 hv
  obtain ⟨dec, hd, _, _⟩ := JsonDoc.serdeNumber_spec lex n hs
  have hD := numValue_sound hd
  refine ⟨cs, l, lex, dec, h1, JsonDoc.parseJsonL_grammar h2, hl, ?_, hD, hs, ?_⟩
  · rw [← JsonDoc.followL_erase, hl]
    simp only [Option.map_some, JsonDoc.LVal.erase, hd, Option.getD_some]
  · rw [json_column_from_text_spec o d lo c a hj hp, hdoc]
    simp only [Option.getD_some, hv, hc, Bool.false_eq_true, if_false]
    exact number_cell c hD n hs

open JsonGrammar in
/-- **json_number_column_from_bytes (M1 c, from the text).** The same from the other end: the bytes of the line decode to
the text `cs`, which the RFC 8259 parser reads as the tree `l` (`parseJsonL cs = some l`, i.e. `JsonTextD cs l.erase`:
`JsonDoc.parseJsonL_grammar` / `_complete`), nested within serde_json's limit. Then
* if some number literal of the text is out of the REAL range, the line is not JSON for sqlgrep and EVERY JSON column
  of it has its DEFAULT (`1e400` anywhere in the line voids the whole line — observation N2 of DESIGN.md section 0:
  `{"x":1,"y":1e400}` is a JSON-text of RFC 8259 in which `.x` is the integer 1, yet column `x` is NULL / DEFAULT. Decided
  reading of the sentence's "the line is not valid JSON": valid = accepted by the JSON parser the program uses, serde_json,
  with its documented limits — every number a finite REAL, at most 127 nested containers (`recursion limit 128`); the
  hypothesis `hdep` is the second limit, `nested_beyond_limit_line_is_default` its other side, `line_is_json_iff` the
  whole reading in one statement);
* otherwise a column whose path addresses a number literal `lex` of the text (denoting `dec`) holds
  `numberCell c.type lex dec`. -/
theorem json_number_column_from_bytes (o : Oracles) (d : TableDef) (lo : LineOracle) (c : Column) (a : JsonAccess)
    (hj : d.anyJson = true) (hp : c.parsing = .json a) (hc : c.options.convert = false)
    (cs : List Char) (l : JsonDoc.LVal) (hd : Utf8.decode lo.line = some cs) (hl : JsonDoc.parseJsonL cs = some l)
    (hdep : l.depth ≤ JsonDoc.maxDepth) :
    ((∃ lex ∈ l.lexemes, JsonDoc.serdeNumber lex = none) →
      columnValue o c (ParsingInput.new d (JsonDoc.withDoc lo)) = applyTrim c c.defaultValue) ∧
    ((∀ lex ∈ l.lexemes, JsonDoc.serdeNumber lex ≠ none) →
      ∀ lex dec, JsonDoc.followL a.steps l = some (.num lex) → NumD lex dec →
        columnValue o c (ParsingInput.new d (JsonDoc.withDoc lo)) = numberCell c.type lex dec) := by
  constructor
  · intro hov
    apply column_default_of_no_document o d lo c a hj hp
    rw [docOfLine_of_parse hd hl, if_pos hdep]
    exact (JsonDoc.toJson_none_iff l).2 hov
  · intro hin lex dec hfl hD
    cases hjs : JsonDoc.toJson l with
    | none =>
      obtain ⟨lx, hlx, hnx⟩ := (JsonDoc.toJson_none_iff l).1 hjs
      exact absurd hnx (hin lx hlx)
    | some j =>
      have hdoc : JsonDoc.docOfLine lo.line = some j :=
        (JsonDoc.docOfLine_some_iff lo.line j).2 ⟨cs, l, hd, hl, hdep, hjs⟩
      have hmem : lex ∈ l.lexemes := JsonDoc.followL_lexeme a.steps l lex hfl
      cases hs : JsonDoc.serdeNumber lex with
      | none => exact absurd hs (hin lex hmem)
      | some n =>
        have hv : followPath a.steps j = some (.num n) := (JsonDoc.followPath_num a.steps l j hjs n).2 ⟨lex, hfl, hs⟩
        rw [json_column_from_text_spec o d lo c a hj hp, hdoc]
        simp only [Option.getD_some, hv, hc, Bool.false_eq_true, if_false]
        exact number_cell c hD n hs

/-- a line with a number literal out of range anywhere gives every JSON column its DEFAULT (corollary, spelled out).
Observation N2 (DESIGN.md section 0), not a finding: the text may well be a JSON-text of RFC 8259 in which this column's
path addresses a perfectly good value (`{"x":1,"y":1e400}`); "the line is not valid JSON" of the sentence is read as
"rejected by the JSON parser the program uses (serde_json) with its documented limits": a number must be a finite REAL
(`number_literal_out_of_range_iff`: magnitude below `2^1024 − 2^970`), containers nest at most 127 deep. -/
theorem out_of_range_literal_line_is_default (o : Oracles) (d : TableDef) (lo : LineOracle) (c : Column) (a : JsonAccess)
    (hj : d.anyJson = true) (hp : c.parsing = .json a)
    (cs : List Char) (l : JsonDoc.LVal) (hd : Utf8.decode lo.line = some cs) (hl : JsonDoc.parseJsonL cs = some l)
    (lex : List Char) (hmem : lex ∈ l.lexemes) (hov : JsonDoc.serdeNumber lex = none) :
    columnValue o c (ParsingInput.new d (JsonDoc.withDoc lo)) = applyTrim c c.defaultValue := by
  apply column_default_of_no_document o d lo c a hj hp
  rw [docOfLine_of_parse hd hl]
  split
  · exact (JsonDoc.toJson_none_iff l).2 ⟨lex, hmem, hov⟩
  · rfl

/-- **nested_beyond_limit_line_is_default (observation N2, the nesting limit).** A line whose text is a JSON-text of
RFC 8259 (`parseJsonL cs = some l`) but nests more than 127 containers — arrays AND objects count, `LVal.depth` — is not
JSON for sqlgrep (serde_json's `recursion limit 128`: `remaining_depth` starts at 128 and must stay positive), and every
JSON column of it has its DEFAULT, also a column whose own path stays at the surface (`{"x":1,"y":[[[…128…]]]}`). -/
theorem nested_beyond_limit_line_is_default (o : Oracles) (d : TableDef) (lo : LineOracle) (c : Column) (a : JsonAccess)
    (hj : d.anyJson = true) (hp : c.parsing = .json a)
    (cs : List Char) (l : JsonDoc.LVal) (hd : Utf8.decode lo.line = some cs) (hl : JsonDoc.parseJsonL cs = some l)
    (hdeep : JsonDoc.maxDepth < l.depth) :
    columnValue o c (ParsingInput.new d (JsonDoc.withDoc lo)) = applyTrim c c.defaultValue := by
  apply column_default_of_no_document o d lo c a hj hp
  rw [docOfLine_of_parse hd hl, if_neg (Nat.not_le.2 hdeep)]

/-- **line_is_json_iff (observation N2, the decided reading of "valid JSON").** A line is JSON for sqlgrep — has a
document, `docOfLine` — exactly when its bytes are UTF-8, the text is a JSON-text of RFC 8259 (`parseJsonL`, sound and
complete for `Spec/JsonGrammar.lean`), it nests at most 127 containers, and every number literal of it is in the REAL
range (`serdeNumber lex ≠ none`; by `number_literal_out_of_range_iff`: magnitude below `2^1024 − 2^970`). The last two
are serde_json's documented limits, not RFC 8259's: "valid JSON" in the sentence of C02 is read as "accepted by the JSON
parser the program uses, with its documented limits". -/
theorem line_is_json_iff (line : List Nat) :
    (JsonDoc.docOfLine line).isSome = true ↔
      ∃ cs l, Utf8.decode line = some cs ∧ JsonDoc.parseJsonL cs = some l ∧ l.depth ≤ JsonDoc.maxDepth ∧
        ∀ lex ∈ l.lexemes, JsonDoc.serdeNumber lex ≠ none := by
  constructor
  · intro h
    cases hj : JsonDoc.docOfLine line with
    | none => rw [hj] at h; cases h
    | some j =>
      obtain ⟨cs, l, h1, h2, h3, h4⟩ := (JsonDoc.docOfLine_some_iff line j).1 hj
      refine ⟨cs, l, h1, h2, h3, ?_⟩
      intro lex hmem hnone
      have := (JsonDoc.toJson_none_iff l).2 ⟨lex, hmem, hnone⟩
      rw [this] at h4; cases h4
  · rintro ⟨cs, l, h1, h2, h3, h4⟩
    cases hjs : JsonDoc.toJson l with
    | none =>
      obtain ⟨lx, hlx, hnx⟩ := (JsonDoc.toJson_none_iff l).1 hjs
      exact absurd hnx (h4 lx hlx)
    | some j =>
      rw [(JsonDoc.docOfLine_some_iff line j).2 ⟨cs, l, h1, h2, h3, hjs⟩]; rfl

/-! ### non-vacuity -/

/-- `{"a": {"b": [10, "x"]}, "n": 18446744073709551616}` as serde_json presents it -/
def exTree : Json :=
  .obj [([97], .obj [([98], .arr [.num (.posInt 10 0x4024000000000000), .str [120]])]),
        ([110], .num (.float 0x43f0000000000000))]

def pathAB0 : JsonAccess := .cons (.field [97]) (.cons (.field [98]) (.last (.index 0)))

example : JsonAccess.fromLinear [.field [97], .field [98], .index 0] = some pathAB0 := by decide +kernel
example : pathAB0.getValue exTree = some (.num (.posInt 10 0x4024000000000000)) := by rfl
example : (JsonAccess.cons (.field [97]) (.last (.field [122]))).getValue exTree = none := by rfl
example : convertFromJson .int (.num (.posInt 10 0x4024000000000000)) = .int 10 := by rfl
example : convertFromJson .int (.num (.float 0x43f0000000000000)) = .null := by rfl
example : convertFromJson .int (.num (.posInt 9223372036854775808 0x43e0000000000000)) = .null := by rfl
example : convertFromJson .real (.num (.posInt 10 0x4024000000000000)) = .real 0x4024000000000000 := by rfl
example : convertFromJson .text (.num (.posInt 10 0x4024000000000000)) = .null := by rfl
example : convertFromJson (.array .int) (.arr [.num (.posInt 10 0x4024000000000000), .str [120]]) = .array .int [.int 10, .null] := by rfl

def exCol : Column := { parsing := .json pathAB0, type := .int, options := { default := some (.int 7) } }
def exInp : ParsingInput := { regex := [], json := exTree }
example : columnValue { parseF64 := fun _ => none } exCol exInp = .int 10 := by rfl
example : columnValue { parseF64 := fun _ => none } exCol { regex := [], json := .null } = .int 7 := by rfl
example : followPath pathAB0.steps exInp.json = some (.num (.posInt 10 0x4024000000000000)) := by rfl

/-- from bytes: the line `{"a":{"b":[10,"x"]},"a":{"b":[7]}}` — a repeated key keeps the last value -/
def exLine : List Nat := "{\"a\":{\"b\":[10,\"x\"]}, \"a\" : {\"b\":[7, 1.5, -0, 1e400]}}".toUTF8.toList.map (·.toNat)
def exLine2 : List Nat := " {\"a\":{\"b\":[10,1.5,-0,18446744073709551616]}}\n".toUTF8.toList.map (·.toNat)

theorem docOfLine_lit (cs : List Char) (h : ∀ c ∈ cs, c.toNat < 128) :
    JsonDoc.docOfLine ((String.ofList cs).toUTF8.toList.map (·.toNat)) = JsonDoc.docOfChars cs := by
  rw [JsonDoc.docOfLine, decode_lit cs h]

example : JsonDoc.docOfLine exLine = none := by                     -- `1e400` is out of range: not a document
  rw [exLine, docOfLine_lit _ (by decide +kernel)]; decide +kernel
example : ((JsonDoc.docOfLine exLine2).bind (followPath pathAB0.steps)).bind Json.asI64 = some 10 := by
  rw [exLine2, docOfLine_lit _ (by decide +kernel)]; decide +kernel
example : ((JsonDoc.docOfLine exLine2).bind (followPath pathAB0.steps)).bind Json.asF64 = some 0x4024000000000000 := by
  rw [exLine2, docOfLine_lit _ (by decide +kernel)]; decide +kernel
example : ((JsonDoc.docOfLine exLine2).bind (followPath [.field [97], .field [98], .index 2])).bind Json.asI64 = none := by   -- `-0` is the float -0.0
  rw [exLine2, docOfLine_lit _ (by decide +kernel)]; decide +kernel
example : ((JsonDoc.docOfLine exLine2).bind (followPath [.field [97], .field [98], .index 2])).bind Json.asF64 = some 0x8000000000000000 := by
  rw [exLine2, docOfLine_lit _ (by decide +kernel)]; decide +kernel
example : ((JsonDoc.docOfLine exLine2).bind (followPath [.field [97], .field [98], .index 3])).bind Json.asF64 = some 0x43f0000000000000 := by   -- above `u64::MAX`: a float
  rw [exLine2, docOfLine_lit _ (by decide +kernel)]; decide +kernel
example : JsonDoc.docOfLine [0x7b, 0xff, 0x7d] = none := by decide +kernel           -- not UTF-8

/-- the two literals of finding D66: the JSON REAL is now `f64::from_str` of the literal (before /repo 265d413 serde_json
answered `…6d` and `0x0010000000000000`) -/
example : ((JsonDoc.docOfLine ("{\"x\":239.21e-27}".toUTF8.toList.map (·.toNat))).bind (followPath [.field [120]])).bind Json.asF64
    = some 0x3ad2820acce1ed6c := by
  rw [docOfLine_lit _ (by decide +kernel)]; decide +kernel
example : (JsonDoc.docOfLine ("2.2250738585072011e-308".toUTF8.toList.map (·.toNat))).bind Json.asF64 = some 0x000fffffffffffff := by
  rw [docOfLine_lit _ (by decide +kernel)]; decide +kernel

/-! #### number literals (M1, L1): the literals of the audit, evaluated by the kernel -/

section literals
open JsonGrammar JsonDoc

/-- what `serdeNumber` makes of a literal, flattened for comparison: kind, integer payload, REAL bits -/
def litView (s : String) : Option (String × Int × Nat) :=
  match serdeNumber s.toList with
  | some (.posInt u f) => some ("PosInt", (u : Int), f)
  | some (.negInt m f) => some ("NegInt", m, f)
  | some (.float b) => some ("Float", 0, b)
  | none => none

/-- The kernel reads a string literal as `String.ofList` of its characters at no cost, whereas evaluating `String.toList`
on it takes time quadratic in its length: the examples on long literals rewrite with this, or with
`String.toList_ofList`, before they evaluate. -/
theorem litView_ofList (cs : List Char) :
    litView (String.ofList cs) =
      match serdeNumber cs with
      | some (.posInt u f) => some ("PosInt", (u : Int), f)
      | some (.negInt m f) => some ("NegInt", m, f)
      | some (.float b) => some ("Float", 0, b)
      | none => none := by
  rw [litView, String.toList_ofList]

-- the denotations (hypothesis `NumD lex d` of every theorem of this section), by the complete recogniser
example : NumD "18446744073709551615".toList ⟨18446744073709551615, 0⟩ := numValue_sound (by rw [String.toList_ofList]; decide +kernel)
example : NumD "-9223372036854775809".toList ⟨-9223372036854775809, 0⟩ := numValue_sound (by rw [String.toList_ofList]; decide +kernel)
example : NumD "1e2".toList ⟨1, 2⟩ := numValue_sound (by decide +kernel)
example : NumD "1.0".toList ⟨10, -1⟩ := numValue_sound (by decide +kernel)
example : NumD "0.1".toList ⟨1, -1⟩ := numValue_sound (by decide +kernel)
example : NumD "-0".toList ⟨0, 0⟩ ∧ NumD "-0.0".toList ⟨0, -1⟩ := ⟨numValue_sound (by decide +kernel), numValue_sound (by decide +kernel)⟩
example : NumD "1e400".toList ⟨1, 400⟩ := numValue_sound (by decide +kernel)

-- integer literals: `u64::MAX` is a `PosInt` (REAL 2^64), one more is a float; `i64::MIN` is a `NegInt`, one less a float
example : litView "18446744073709551615" = some ("PosInt", 18446744073709551615, 0x43f0000000000000) := by
  rw [litView_ofList]; decide +kernel
example : litView "18446744073709551616" = some ("Float", 0, 0x43f0000000000000) := by
  rw [litView_ofList]; decide +kernel
example : litView "9223372036854775808" = some ("PosInt", 9223372036854775808, 0x43e0000000000000) := by
  rw [litView_ofList]; decide +kernel
example : litView "9223372036854775807" = some ("PosInt", 9223372036854775807, 0x43e0000000000000) := by
  rw [litView_ofList]; decide +kernel
example : litView "-9223372036854775808" = some ("NegInt", -9223372036854775808, 0xc3e0000000000000) := by
  rw [litView_ofList]; decide +kernel
example : litView "-9223372036854775809" = some ("Float", 0, 0xc3e0000000000000) := by
  rw [litView_ofList]; decide +kernel
-- a fraction or an exponent makes a float, integral value or not
example : litView "1e2" = some ("Float", 0, 0x4059000000000000) := by decide +kernel       -- 100.0
example : litView "1.0" = some ("Float", 0, 0x3ff0000000000000) := by decide +kernel
example : litView "0.1" = some ("Float", 0, 0x3fb999999999999a) := by decide +kernel
-- the sign of zero: `-0` and `-0.0` are the float -0.0, `0` is the integer 0, `0.0` the float +0.0
example : litView "-0" = some ("Float", 0, 0x8000000000000000) := by decide +kernel
example : litView "-0.0" = some ("Float", 0, 0x8000000000000000) := by decide +kernel
example : litView "0" = some ("PosInt", 0, 0) ∧ litView "0.0" = some ("Float", 0, 0) := by decide +kernel
-- out of range: no number; the largest finite REAL and the last literal below the overflow threshold are in range
example : litView "1e400" = none ∧ litView "1.7976931348623159e308" = none := by
  rw [litView_ofList, litView_ofList]; decide +kernel
example : litView "1.7976931348623157e308" = some ("Float", 0, 0x7fefffffffffffff)
    ∧ litView "1.7976931348623158e308" = some ("Float", 0, 0x7fefffffffffffff) := by
  rw [litView_ofList, litView_ofList]; decide +kernel
-- the integer-literal test
example : isIntLiteral "-12".toList = true ∧ isIntLiteral "1e2".toList = false ∧ isIntLiteral "1.0".toList = false := by decide +kernel

-- the cells (`numberCell`, the right-hand side of `json_number_column_from_text`), flattened for comparison
def cellView : Value → Option (String × Int)
  | .int n => some ("INT", n)
  | .real b => some ("REAL", (b : Int))
  | .null => some ("NULL", 0)
  | _ => none

example : cellView (numberCell .int "9223372036854775807".toList ⟨9223372036854775807, 0⟩) = some ("INT", 9223372036854775807) := by
  rw [String.toList_ofList]; decide +kernel
example : cellView (numberCell .int "-9223372036854775808".toList ⟨-9223372036854775808, 0⟩) = some ("INT", -9223372036854775808) := by
  rw [String.toList_ofList]; decide +kernel
example : cellView (numberCell .int "9223372036854775808".toList ⟨9223372036854775808, 0⟩) = some ("NULL", 0) := by
  rw [String.toList_ofList]; decide +kernel
example : cellView (numberCell .int "18446744073709551615".toList ⟨18446744073709551615, 0⟩) = some ("NULL", 0) := by
  rw [String.toList_ofList]; decide +kernel
example : cellView (numberCell .int "-9223372036854775809".toList ⟨-9223372036854775809, 0⟩) = some ("NULL", 0) := by
  rw [String.toList_ofList]; decide +kernel
example : cellView (numberCell .int "1.0".toList ⟨10, -1⟩) = some ("NULL", 0)
    ∧ cellView (numberCell .int "1e2".toList ⟨1, 2⟩) = some ("NULL", 0) := by decide +kernel
example : cellView (numberCell .int "0".toList ⟨0, 0⟩) = some ("INT", 0)
    ∧ cellView (numberCell .int "-0".toList ⟨0, 0⟩) = some ("NULL", 0) := by decide +kernel   -- observation N1
example : cellView (numberCell .real "-0".toList ⟨0, 0⟩) = some ("REAL", 0x8000000000000000)
    ∧ cellView (numberCell .real "-0.0".toList ⟨0, -1⟩) = some ("REAL", 0x8000000000000000)
    ∧ cellView (numberCell .real "0.0".toList ⟨0, -1⟩) = some ("REAL", 0) := by decide +kernel
example : cellView (numberCell .real "0.1".toList ⟨1, -1⟩) = some ("REAL", 0x3fb999999999999a)
    ∧ cellView (numberCell .real "18446744073709551615".toList ⟨18446744073709551615, 0⟩) = some ("REAL", 0x43f0000000000000)
    ∧ cellView (numberCell .real "-9223372036854775809".toList ⟨-9223372036854775809, 0⟩) = some ("REAL", 0xc3e0000000000000) := by
  rw [String.toList_ofList, String.toList_ofList, String.toList_ofList]; decide +kernel
example : cellView (numberCell .text "1".toList ⟨1, 0⟩) = some ("NULL", 0)
    ∧ cellView (numberCell .bool "1".toList ⟨1, 0⟩) = some ("NULL", 0) := by decide +kernel

/-- the line `{"a":[1.0,-0,18446744073709551615],"a":[1e2,-0.0,9223372036854775808,-9223372036854775809]}`: a repeated key -/
def exLine3 : List Nat :=
  "{\"a\":[1.0,-0,18446744073709551615],\"a\":[1e2,-0.0,9223372036854775808,-9223372036854775809]}".toUTF8.toList.map (·.toNat)

/-- the literal a path addresses in the text of `exLine3` -/
def litAt (steps : List JsonStep) : Option (List Char) :=
  match ((Utf8.decode exLine3).bind parseJsonL).bind (followL steps) with
  | some (.num lex) => some lex
  | _ => none

theorem litAt_eq (steps : List JsonStep) (cs : List Char) (h : Utf8.decode exLine3 = some cs) :
    litAt steps =
      match (parseJsonL cs).bind (followL steps) with
      | some (.num lex) => some lex
      | _ => none := by
  rw [litAt, h]; rfl

-- hypotheses of `json_number_column_from_bytes` on it: the text decodes, parses, every literal is in range, and the
-- path `a[0]` addresses the literal `1e2` of the LAST member named `a`
example : ((Utf8.decode exLine3).bind parseJsonL).isSome = true := by
  rw [exLine3, decode_lit _ (by decide +kernel)]; decide +kernel
example : (match (Utf8.decode exLine3).bind parseJsonL with
    | some l => decide (l.depth ≤ maxDepth) && l.lexemes.all (fun lex => (serdeNumber lex).isSome) | none => false) = true := by
  have h : Utf8.decode exLine3 = some _ := decode_lit _ (by decide +kernel)
  rw [h]; decide +kernel
example : litAt [.field [97], .index 0] = some "1e2".toList ∧ litAt [.field [97], .index 2] = some "9223372036854775808".toList
    ∧ litAt [.field [97], .index 3] = some "-9223372036854775809".toList ∧ litAt [.field [97], .index 4] = none := by
  have h : Utf8.decode exLine3 = some _ := decode_lit _ (by decide +kernel)
  rw [litAt_eq _ _ h, litAt_eq _ _ h, litAt_eq _ _ h, litAt_eq _ _ h, String.toList_ofList, String.toList_ofList,
    String.toList_ofList]
  decide +kernel
-- … and of `json_number_column_from_text`: the document has numbers there, with the values the theorems predict
example : ((docOfLine exLine3).bind (followPath [.field [97], .index 0])).bind Json.asI64 = none
    ∧ ((docOfLine exLine3).bind (followPath [.field [97], .index 0])).bind Json.asF64 = some 0x4059000000000000
    ∧ ((docOfLine exLine3).bind (followPath [.field [97], .index 1])).bind Json.asF64 = some 0x8000000000000000
    ∧ ((docOfLine exLine3).bind (followPath [.field [97], .index 2])).bind Json.asI64 = none
    ∧ ((docOfLine exLine3).bind (followPath [.field [97], .index 2])).bind Json.asF64 = some 0x43e0000000000000
    ∧ ((docOfLine exLine3).bind (followPath [.field [97], .index 3])).bind Json.asF64 = some 0xc3e0000000000000 := by
  rw [exLine3, docOfLine_lit _ (by decide +kernel)]; decide +kernel
-- a literal out of range anywhere voids the line (`out_of_range_literal_line_is_default`)
example : docOfLine ("{\"a\":1,\"b\":[2e308]}".toUTF8.toList.map (·.toNat)) = none := by
  rw [docOfLine_lit _ (by decide +kernel)]; decide +kernel

/-- observation N2, the nesting limit: `{"x":1,"y":[[[…]]]}` with `k` arrays around nothing (total depth `k + 1`) and
`{"x":1,"y":{"a":{"a":…null…}}}` with `k` objects -/
def nestedArrays (k : Nat) : List Nat :=
  "{\"x\":1,\"y\":".toUTF8.toList.map (·.toNat) ++ List.replicate k 91 ++ List.replicate k 93 ++ [125]
def nestedObjects (k : Nat) : List Nat :=
  "{\"x\":1,\"y\":".toUTF8.toList.map (·.toNat) ++ (List.replicate k [123, 34, 97, 34, 58]).flatten ++ [110, 117, 108, 108] ++
    List.replicate k 125 ++ [125]

-- total depth 127 (126 inner containers): a document, `.x` is the integer 1 …
example : ((docOfLine (nestedArrays 126)).bind (followPath [.field [120]])).bind Json.asI64 = some 1 := by decide +kernel
example : ((docOfLine (nestedObjects 126)).bind (followPath [.field [120]])).bind Json.asI64 = some 1 := by decide +kernel
-- … total depth 128: RFC 8259 still derives the text (`parseJsonL`), serde_json's recursion limit rejects the line —
-- arrays and objects alike (`nested_beyond_limit_line_is_default`)
theorem depth_of_line {line : List Nat} {k : Nat} (h : ((Utf8.decode line).bind parseJsonL).map LVal.depth = some k) :
    (match (Utf8.decode line).bind parseJsonL with | some l => l.depth | none => 0) = k ∧
      (maxDepth < k → docOfLine line = none) := by
  cases hd : Utf8.decode line with
  | none => rw [hd] at h; cases h
  | some cs =>
    rw [hd, Option.bind_some] at h; rw [Option.bind_some]
    cases hl : parseJsonL cs with
    | none => rw [hl] at h; cases h
    | some l =>
      rw [hl, Option.map_some, Option.some.injEq] at h
      exact ⟨h, fun hk => by rw [docOfLine_of_parse hd hl, if_neg (by omega)]⟩

theorem nestedArrays_depth : ((Utf8.decode (nestedArrays 127)).bind parseJsonL).map LVal.depth = some 128 := by
  decide +kernel
theorem nestedObjects_depth : ((Utf8.decode (nestedObjects 127)).bind parseJsonL).map LVal.depth = some 128 := by
  decide +kernel

example : docOfLine (nestedArrays 127) = none ∧ docOfLine (nestedObjects 127) = none :=
  ⟨(depth_of_line nestedArrays_depth).2 (by decide), (depth_of_line nestedObjects_depth).2 (by decide)⟩
example : (match (Utf8.decode (nestedArrays 127)).bind parseJsonL with | some l => l.depth | none => 0) = 128
    ∧ (match (Utf8.decode (nestedObjects 127)).bind parseJsonL with | some l => l.depth | none => 0) = 128 :=
  ⟨(depth_of_line nestedArrays_depth).1, (depth_of_line nestedObjects_depth).1⟩

end literals

end Sqlgrep.Props.C02
