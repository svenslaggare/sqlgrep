import SqlgrepModel.Model.Lower
import SqlgrepModel.Model.ParseStmt
import SqlgrepModel.Lemmas.ParseTokens
/-
An aggregate statement that comes from a text has at least one select-list item (third review, M6).

`AggregateExecutionEngine::execute_result` reads `result_rows_by_column[0].len()`
(/repo/src/execution/aggregate_execution.rs:276) — an index into the vector of result columns, one per select-list item
of the aggregate statement. It is in range iff the statement has at least one item. The engine model (`Model/Engine.lean`
`aggResult`) has no panic site there; this file shows why none is needed for statements that come from a text:

* the parser's projection loop runs at least once before it can succeed (`projLoop_nonempty`), so the tree of a parsed
  SELECT has at least one projection (`parseTokensFuel_projections`);
* `create_aggregate_statement` makes exactly one item per projection (`lowerItems_length`, `lowerAggregateStmt_items`);
* hence `lowered_aggregate_has_items`: whatever token vector is parsed and lowered, an aggregate statement that results
  has `items ≠ []`.
(The API would let a caller build an `AggregateStatement` with no aggregates by hand; that is outside "accepted statements".)
-/
namespace Sqlgrep
open Parse Lower

theorem lowerItems_length : ∀ (ps : List (Option (List Char) × PExpr)) (i : Nat) (items : List AggItem),
    lowerItems ps i = .ok items → items.length = ps.length := by
  intro ps
  induction ps with
  | nil => intro i items h; rw [lowerItems] at h; cases h; rfl
  | cons p rest ih =>
    intro i items h
    obtain ⟨name, tree⟩ := p
    rw [lowerItems] at h
    split at h
    · split at h
      · rename_i its hr
        cases h
        simp only [List.length_cons, ih _ _ hr]
      · cases h
      · cases h
    · cases h
    · cases h

theorem lowerAggregateStmt_items (q : PSelect) (a : AggStmt) (t : String) (f : Option String) (j : Option LJoin)
    (h : lowerAggregateStmt q = .ok (.aggregate a t f j)) : a.items.length = q.projections.length := by
  unfold lowerAggregateStmt at h
  cases hi : lowerItems q.projections 0 with
  | ok items =>
    rw [hi] at h
    dsimp only at h
    repeat' (first | cases h | split at h)
    exact lowerItems_length _ _ _ hi
  | err e => rw [hi] at h; cases h
  | panic s => rw [hi] at h; cases h

theorem lowerSelect_not_aggregate (q : PSelect) (a : AggStmt) (t : String) (f : Option String) (j : Option LJoin) :
    lowerSelect q ≠ .ok (.aggregate a t f j) := by
  intro h
  unfold lowerSelect at h
  repeat' (first | cases h | split at h)

theorem projLoop_nonempty (T : PrecTables) : ∀ (fuel : Nat) (acc : List (Option (List Char) × PExpr)) (s s' : PSt)
    (r : List (Option (List Char) × PExpr)), projLoop T fuel acc s = .ok r s' → r ≠ [] := by
  intro fuel
  induction fuel with
  | zero => intro acc s s' r h; rw [projLoop] at h; cases h
  | succ n ih =>
    intro acc s s' r h
    rw [projLoop] at h
    repeat' (first | cases h | split at h | (dsimp only at h))
    · exact ih _ _ _ _ h
    · simp

def POp.ProjOk : POp → Prop
  | .select q => q.projections ≠ []
  | _ => True

theorem parseSelect_projOk (T : PrecTables) (fuel : Nat) (s s' : PSt) (op : POp)
    (h : parseSelect T fuel s = .ok op s') : POp.ProjOk op := by
  unfold parseSelect at h
  repeat' (first | cases h | split at h | (dsimp only at h))
  exact projLoop_nonempty T _ _ _ _ _ (by assumption)

theorem opOfCreates_projOk (l : List PCreate) : POp.ProjOk (opOfCreates l) := by
  unfold opOfCreates
  split <;> exact True.intro

theorem multiCreateLoop_projOk (T : PrecTables) : ∀ (fuel : Nat) (acc : List PCreate) (s s' : PSt) (op : POp),
    multiCreateLoop T fuel acc s = .ok op s' → POp.ProjOk op := by
  intro fuel
  induction fuel with
  | zero => intro acc s s' op h; rw [multiCreateLoop] at h; cases h
  | succ n ih =>
    intro acc s s' op h
    rw [multiCreateLoop] at h
    repeat' (first | cases h | split at h | (dsimp only at h))
    · exact opOfCreates_projOk _
    · exact ih _ _ _ _ h

theorem parseTokensFuel_projections (T : PrecTables) (fuel : Nat) (toks : List PTok) (op : POp)
    (h : parseTokensFuel T fuel toks = .tree op) : POp.ProjOk op := by
  obtain ⟨t, ts, s', rfl, hp⟩ := parseTokensFuel_eq_tree_iff.1 h
  obtain ⟨sF, hst⟩ := parseOp_ok_inv hp
  unfold parseStatement at hst
  split at hst
  · exact parseSelect_projOk T _ _ _ _ hst
  · exact multiCreateLoop_projOk T _ _ _ _ _ hst

/-- **an aggregate statement that comes from a text has at least one item**: whatever tokens are parsed (any fuel) and
whatever the lowering answers, if the result is an aggregate statement then `items ≠ []` — so
`result_rows_by_column[0]` of `execute_result` is in range -/
theorem lowered_aggregate_has_items (T : PrecTables) (fuel : Nat) (toks : List PTok) (op : POp)
    (rv : List Char → Bool) (a : AggStmt) (t : String) (f : Option String) (j : Option LJoin)
    (hp : parseTokensFuel T fuel toks = .tree op) (hl : lowerStatement rv op = .ok (.aggregate a t f j)) :
    a.items ≠ [] := by
  have hok := parseTokensFuel_projections T fuel toks op hp
  cases op with
  | select q =>
    have hne : q.projections ≠ [] := hok
    have hagg : lowerAggregateStmt q = .ok (.aggregate a t f j) := by
      simp only [lowerStatement] at hl
      by_cases h1 : q.groupBy.isSome = true
      · rw [if_pos h1] at hl; exact hl
      · rw [if_neg h1] at hl
        by_cases h2 : anyAggregates q.projections = true
        · rw [if_pos h2] at hl; exact hl
        · rw [if_neg h2] at hl
          by_cases h3 : q.having.isSome = true
          · rw [if_pos h3] at hl; cases hl
          · rw [if_neg h3] at hl; exact absurd hl (lowerSelect_not_aggregate q a t f j)
    have hlen := lowerAggregateStmt_items q a t f j hagg
    intro he
    rw [he] at hlen
    exact hne (List.length_eq_zero_iff.1 hlen.symm)
  | createTable c =>
    simp only [lowerStatement, lowerCreate] at hl
    repeat' (first | cases hl | split at hl)
  | multiple cs =>
    simp only [lowerStatement] at hl
    repeat' (first | cases hl | split at hl)

end Sqlgrep
