import SqlgrepModel.Lemmas.AggBatch
import SqlgrepModel.Lemmas.AggSplitSummaries
/-
What the specification says about line order and input split (C15), carried through the C04 refinement
(`batch_refines_spec_nojoin`) to the executed batch run.
-/
set_option linter.unusedSimpArgs false
namespace Sqlgrep
open Value Spec.Agg

/-- **the executed batch run ignores line order**: for an aggregate statement without join, two files whose lines are
permutations of each other, `runBatch` prints the same and counts the same — whenever the specification answers for the
first with an empty deviation class and `PermSafe` holds for its admitted rows. (That the second file is outside D10 / D15
as well is not a hypothesis: the class is a function of the multiset of the lines, `deviationClass_perm`.) -/
theorem runBatch_perm_invariant {O : Oracles} {qy : Query} {q : AggStmt} (hq : qy.stmt = .aggregate q) (hwf : StmtWF q)
    (hj : qy.join = none) (joined : List FileLine) {l1 l2 : List FileLine} (hp : l1.Perm l2)
    (hsafe : ∀ keyed, keyedRows O q (envsOf qy.table l1) = some keyed → PermSafe O q keyed)
    {ro : RunOut} (h1 : Spec.Agg.batch O qy q joined [l1] = some (ro, "")) :
    runBatch O qy joined [l1] none = runBatch O qy joined [l2] none := by
  have hp' : [l1].flatten.Perm [l2].flatten := by simpa using hp
  have h2 : Spec.Agg.batch O qy q joined [l2] = some (ro, "") :=
    specBatch_perm hj joined hp' (by simpa using hsafe) h1
  rw [batch_refines_spec_nojoin hq hwf hj joined [l1] h1, batch_refines_spec_nojoin hq hwf hj joined [l2] h2]

/-- **the executed batch run over a split input** (`runBatch` = the `FileExecutor` loop the driver runs): under the
hypotheses of `specBatch_concat_merge_summaries` with empty deviation classes (C04: D10 / D15) for the two PARTS (the class
of the whole is then empty too: `specBatch_concat_class`), what `runBatch` prints for
the whole is the table of the merged summaries of the two parts, every line counted; and what it prints for each part is the
table of that part's summaries -/
theorem runBatch_concat_merge_summaries {O : Oracles} {qy : Query} {q : AggStmt} (hq : qy.stmt = .aggregate q) (hwf : StmtWF q)
    (hj : qy.join = none) (hOI : ∀ kind ∈ slotKinds q, orderInsensitive kind = true) (joined : List FileLine)
    {f f₁ f₂ : List (List FileLine)} (hf : f.flatten = f₁.flatten ++ f₂.flatten) {ro ro₁ ro₂ : RunOut} {cls : String}
    (h : Spec.Agg.batch O qy q joined f = some (ro, cls)) (h₁ : Spec.Agg.batch O qy q joined f₁ = some (ro₁, ""))
    (h₂ : Spec.Agg.batch O qy q joined f₂ = some (ro₂, ""))
    (hsafe : ∀ k₁ k₂, keyedRows O q (envsOf qy.table f₁.flatten) = some k₁ → keyedRows O q (envsOf qy.table f₂.flatten) = some k₂ →
      ∀ k, SplitSafe O q (rowsOfKey k k₁) (rowsOfKey k k₂)) :
    ∃ S₁ S₂ t₁ t₂ t,
      partSummaries O q (envsOf qy.table f₁.flatten) = some S₁ ∧ partSummaries O q (envsOf qy.table f₂.flatten) = some S₂ ∧
      tableOfSummaries O q S₁ = some t₁ ∧ tableOfSummaries O q S₂ = some t₂ ∧
      tableOfSummaries O q (mergeSummaries q S₁ S₂) = some t ∧
      runBatch O qy joined f₁ none = tableOut q t₁ f₁.flatten.length ∧
      runBatch O qy joined f₂ none = tableOut q t₂ f₂.flatten.length ∧
      runBatch O qy joined f none = tableOut q t (f₁.flatten.length + f₂.flatten.length) := by
  have hcls := specBatch_concat_class hwf hj hOI joined hf h h₁ h₂
  subst hcls
  obtain ⟨S₁, S₂, t₁, t₂, t, hS₁, hS₂, _, hT₁, hT₂, hT, _, _, _, e₁, e₂, e⟩ :=
    specBatch_concat_merge_summaries hwf hj hOI joined hf h h₁ h₂ hsafe
  refine ⟨S₁, S₂, t₁, t₂, t, hS₁, hS₂, hT₁, hT₂, hT, ?_, ?_, ?_⟩
  · rw [batch_refines_spec_nojoin hq hwf hj joined f₁ h₁]; exact e₁
  · rw [batch_refines_spec_nojoin hq hwf hj joined f₂ h₂]; exact e₂
  · rw [batch_refines_spec_nojoin hq hwf hj joined f h]; exact e

end Sqlgrep
