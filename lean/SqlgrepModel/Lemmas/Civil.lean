import SqlgrepModel.Model.Civil
/- Calendar lemmas: the civil date recovered from the day number of a valid date is that date. -/
namespace Sqlgrep

/-- Euclidean division read off `r + q * k` with `0 ≤ r < k`; keeps `omega` away from `/` and `%`. -/
theorem divmod (k q r : Int) (h0 : 0 ≤ r) (h1 : r < k) : (r + q * k) / k = q ∧ (r + q * k) % k = r :=
  (Int.ediv_emod_unique (Int.lt_of_le_of_lt h0 h1)).2 ⟨by rw [Int.mul_comm], h0, h1⟩

theorem ediv_pred (y k : Int) (hk : 0 < k) : y / k = (y - 1) / k + if y % k = 0 then 1 else 0 := by
  have e := Int.emod_add_mul_ediv y k
  rw [Int.mul_comm] at e
  have h0 := Int.emod_nonneg y (Int.ne_of_gt hk)
  have h1 := Int.emod_lt_of_pos y hk
  generalize y / k = q at *
  generalize y % k = r at *
  subst e
  by_cases h : r = 0
  · have e : r + q * k - 1 = (k - 1) + (q - 1) * k := by rw [Int.sub_mul]; omega
    rw [if_pos h, e, (divmod k (q - 1) (k - 1) (Int.sub_nonneg_of_le hk) (Int.sub_lt_self k (by decide))).1,
      Int.sub_add_cancel]
  · have e : r + q * k - 1 = (r - 1) + q * k ∧ 0 ≤ r - 1 ∧ r - 1 < k := by omega
    rw [if_neg h, e.1, (divmod k q (r - 1) e.2.1 e.2.2).1, Int.add_zero]

/-- the quotient by `K` capped at 3: the last of four blocks is one unit longer (`r = K` only there) -/
theorem capDiv (K q r : Int) (hq : 0 ≤ q ∧ q ≤ 3) (hr : 0 ≤ r ∧ r ≤ K) (hl : r = K → q = 3) (hK : 0 < K) :
    (if (r + q * K) / K ≥ 4 then 3 else (r + q * K) / K) = q := by
  by_cases h : r = K
  · have e : r + q * K = 0 + 4 * K := by rw [hl h, h]; omega
    rw [e, (divmod K 4 0 (Int.le_refl 0) hK).1, if_pos (Int.le_refl 4), hl h]
  · rw [(divmod K q r hr.1 (by omega)).1, if_neg (by omega)]

theorem capSplit (K N : Int) (hK : 0 < K) (h : 0 ≤ N ∧ N ≤ 4 * K) :
    ∃ q r : Int, (0 ≤ q ∧ q ≤ 3) ∧ (0 ≤ r ∧ r ≤ K) ∧ (r = K → q = 3) ∧ N = r + q * K := by
  by_cases hN : N = 4 * K
  · exact ⟨3, K, by decide, by omega, fun _ => rfl, by omega⟩
  · have hlt := Int.emod_lt_of_pos N hK
    exact ⟨N / K, N % K, ⟨Int.ediv_nonneg h.1 (Int.le_of_lt hK), Int.le_of_lt_add_one (Int.ediv_lt_of_lt_mul hK (by omega))⟩,
      ⟨Int.emod_nonneg N (Int.ne_of_gt hK), Int.le_of_lt hlt⟩, fun e => absurd e (Int.ne_of_lt hlt),
      (Int.emod_add_mul_ediv N K).symm.trans (by rw [Int.mul_comm])⟩

namespace CivilE

theorem twelve (m : Nat) (h : 1 ≤ m ∧ m ≤ 12) :
    m = 1 ∨ m = 2 ∨ m = 3 ∨ m = 4 ∨ m = 5 ∨ m = 6 ∨ m = 7 ∨ m = 8 ∨ m = 9 ∨ m = 10 ∨ m = 11 ∨ m = 12 := by
  omega

end CivilE

namespace Civil

/-- A day of a 400-year era: century `b`, four-year cycle `c`, year `d`, day of year `k`. Only the fourth year of a
cycle has a 366th day, and not in the last cycle of the first three centuries. -/
structure EraSplit (b c d k : Int) : Prop where
  hb : 0 ≤ b ∧ b ≤ 3
  hc : 0 ≤ c ∧ c ≤ 24
  hd : 0 ≤ d ∧ d ≤ 3
  hk : 0 ≤ k ∧ k ≤ 365
  hl : k = 365 → d = 3 ∧ (c ≠ 24 ∨ b = 3)

theorem yearOfDays_era (a b c d k : Int) (h : EraSplit b c d k) :
    yearOfDays (k + d * 365 + c * 1461 + b * 36524 + a * 146097 + 1) = 400 * a + 100 * b + 4 * c + d + 1 := by
  obtain ⟨hb, hc, hd, hk, hl⟩ := h
  obtain ⟨q1, r1⟩ := divmod 146097 a (k + d * 365 + c * 1461 + b * 36524) (by omega) (by omega)
  have c1 := capDiv 36524 b (k + d * 365 + c * 1461) hb (by omega) (by omega) (by decide)
  obtain ⟨q2, r2⟩ := divmod 1461 c (k + d * 365) (by omega) (by omega)
  have c2 := capDiv 365 d k hd hk (by omega) (by decide)
  unfold yearOfDays
  simp only [Int.add_sub_cancel, q1, r1, c1, q2, r2, c2]

theorem year_digits (y : Int) : ∃ a b c d : Int, (0 ≤ b ∧ b ≤ 3) ∧ (0 ≤ c ∧ c ≤ 24) ∧ (0 ≤ d ∧ d ≤ 3) ∧
    y = 400 * a + 100 * b + 4 * c + d + 1 :=
  ⟨(y - 1) / 400, (y - 1) % 400 / 100, (y - 1) % 100 / 4, (y - 1) % 4, by omega⟩

theorem dby_digits (a b c d : Int) (hb : 0 ≤ b ∧ b ≤ 3) (hc : 0 ≤ c ∧ c ≤ 24) (hd : 0 ≤ d ∧ d ≤ 3) :
    daysBeforeYear (400 * a + 100 * b + 4 * c + d + 1) = d * 365 + c * 1461 + b * 36524 + a * 146097 := by
  unfold daysBeforeYear
  omega

theorem isLeap_digits (a b c d : Int) (hb : 0 ≤ b ∧ b ≤ 3) (hc : 0 ≤ c ∧ c ≤ 24) (hd : 0 ≤ d ∧ d ≤ 3) :
    isLeap (400 * a + 100 * b + 4 * c + d + 1) = true ↔ d = 3 ∧ (c ≠ 24 ∨ b = 3) := by
  unfold isLeap
  simp only [Bool.and_eq_true, Bool.or_eq_true, beq_iff_eq, bne_iff_ne, ne_eq]
  omega

theorem lt_yearLen (y k : Int) (hk : k < (yearLen y : Int)) : k ≤ 365 ∧ (k = 365 → isLeap y = true) := by
  unfold yearLen at hk
  by_cases h : isLeap y = true
  · rw [if_pos h] at hk; exact ⟨by omega, fun _ => h⟩
  · rw [if_neg h] at hk; exact ⟨by omega, by omega⟩

theorem yearOfDays_dby (y : Int) (k : Int) (hk0 : 0 ≤ k) (hk : k < (yearLen y : Int)) :
    yearOfDays (daysBeforeYear y + k + 1) = y := by
  obtain ⟨h365, hl⟩ := lt_yearLen y k hk
  obtain ⟨a, b, c, d, hb, hc, hd, rfl⟩ := year_digits y
  have h := yearOfDays_era a b c d k ⟨hb, hc, hd, ⟨hk0, h365⟩, fun e => (isLeap_digits a b c d hb hc hd).1 (hl e)⟩
  rw [dby_digits a b c d hb hc hd, ← h]
  congr 1
  omega

/-- the Gregorian rule counted: multiples of 4, less those of 100, plus those of 400 -/
theorem yearLen_eq (y : Int) : (yearLen y : Int) =
    365 + ((if y % 4 = 0 then 1 else 0) - (if y % 100 = 0 then 1 else 0) + (if y % 400 = 0 then 1 else 0)) := by
  have h1 : y % 400 = 0 → y % 100 = 0 := by omega
  have h2 : y % 100 = 0 → y % 4 = 0 := by omega
  unfold yearLen isLeap
  by_cases h4 : y % 4 = 0
  · by_cases h100 : y % 100 = 0
    · by_cases h400 : y % 400 = 0
      · simp [h4, h100, h400]
      · simp [h4, h100, h400]
    · have h400 : ¬ y % 400 = 0 := fun h => h100 (h1 h)
      simp [h4, h100, h400]
  · have h100 : ¬ y % 100 = 0 := fun h => h4 (h2 h)
    have h400 : ¬ y % 400 = 0 := fun h => h100 (h1 h)
    simp [h4, h100, h400]

theorem dby_succ (y : Int) : daysBeforeYear (y + 1) = daysBeforeYear y + (yearLen y : Int) := by
  unfold daysBeforeYear
  rw [Int.add_sub_cancel, ediv_pred y 4 (by decide), ediv_pred y 100 (by decide), ediv_pred y 400 (by decide), yearLen_eq]
  omega

theorem dby_mono (y y' : Int) (h : y ≤ y') : daysBeforeYear y ≤ daysBeforeYear y' := by
  obtain ⟨n, rfl⟩ := Int.le.dest h
  clear h
  induction n with
  | zero => rw [Int.natCast_zero, Int.add_zero]; exact Int.le_refl _
  | succ n ih =>
    rw [Int.natCast_succ, ← Int.add_assoc, dby_succ]
    exact Int.le_trans ih (Int.le_add_of_nonneg_right (Int.natCast_nonneg _))

theorem daysBeforeMonth_one (y : Int) : daysBeforeMonth y 1 = 0 := rfl

theorem daysBeforeMonth_succ (y : Int) (m : Nat) (hm : 1 ≤ m ∧ m < 12) :
    daysBeforeMonth y (m + 1) = daysBeforeMonth y m + monthLen y m := by
  unfold daysBeforeMonth monthLen
  rcases CivilE.twelve m ⟨hm.1, Nat.le_of_lt hm.2⟩ with h | h | h | h | h | h | h | h | h | h | h | h <;> subst h <;>
    first | (cases isLeap y <;> rfl) | exact absurd hm.2 (by decide)

theorem yearLen_eq_months (y : Int) : yearLen y = daysBeforeMonth y 12 + monthLen y 12 := by
  unfold yearLen daysBeforeMonth monthLen
  cases isLeap y <;> rfl

theorem dbm_mono (y : Int) (m m' : Nat) (h1 : 1 ≤ m) (h : m ≤ m') (h2 : m' ≤ 12) :
    daysBeforeMonth y m ≤ daysBeforeMonth y m' := by
  induction m' with
  | zero => rw [Nat.le_zero.1 h]; exact Nat.le_refl _
  | succ k ih =>
    rcases Nat.lt_or_ge k m with hk | hk
    · rw [Nat.le_antisymm h hk]; exact Nat.le_refl _
    · rw [daysBeforeMonth_succ y k ⟨Nat.le_trans h1 hk, h2⟩]
      exact Nat.le_trans (ih hk (Nat.le_of_succ_le h2)) (Nat.le_add_right _ _)

theorem dbm_add_le (y : Int) (m d : Nat) (hm : 1 ≤ m ∧ m ≤ 12) (hd : 1 ≤ d ∧ d ≤ monthLen y m) :
    daysBeforeMonth y m + d ≤ yearLen y := by
  have h := dbm_mono y m 12 hm.1 hm.2 (Nat.le_refl 12)
  rw [yearLen_eq_months]
  rcases Nat.lt_or_ge m 12 with hlt | hge
  · have := dbm_mono y (m + 1) 12 (Nat.le_add_left 1 m) hlt (Nat.le_refl 12)
    rw [daysBeforeMonth_succ y m ⟨hm.1, hlt⟩] at this
    omega
  · rw [Nat.le_antisymm hm.2 hge] at hd ⊢
    omega

theorem ite_le_eq {doy t a r k : Nat} (hk : (if doy ≤ t then a else r) = k) : (doy ≤ t ∧ a = k) ∨ (t < doy ∧ r = k) := by
  by_cases c : doy ≤ t
  · exact .inl ⟨c, (if_pos c).symm.trans hk⟩
  · exact .inr ⟨Nat.lt_of_not_le c, (if_neg c).symm.trans hk⟩

theorem monthOfDoy_bounds (y : Int) (doy : Nat) (h : 1 ≤ doy) :
    (1 ≤ monthOfDoy y doy ∧ monthOfDoy y doy ≤ 12) ∧ daysBeforeMonth y (monthOfDoy y doy) < doy ∧
      (monthOfDoy y doy < 12 → doy ≤ daysBeforeMonth y (monthOfDoy y doy + 1)) := by
  generalize hk : monthOfDoy y doy = k
  unfold monthOfDoy at hk
  rcases ite_le_eq hk with ⟨c, rfl⟩ | ⟨c2, hk⟩
  · exact ⟨by decide, h, fun _ => c⟩
  rcases ite_le_eq hk with ⟨c, rfl⟩ | ⟨c3, hk⟩
  · exact ⟨by decide, c2, fun _ => c⟩
  rcases ite_le_eq hk with ⟨c, rfl⟩ | ⟨c4, hk⟩
  · exact ⟨by decide, c3, fun _ => c⟩
  rcases ite_le_eq hk with ⟨c, rfl⟩ | ⟨c5, hk⟩
  · exact ⟨by decide, c4, fun _ => c⟩
  rcases ite_le_eq hk with ⟨c, rfl⟩ | ⟨c6, hk⟩
  · exact ⟨by decide, c5, fun _ => c⟩
  rcases ite_le_eq hk with ⟨c, rfl⟩ | ⟨c7, hk⟩
  · exact ⟨by decide, c6, fun _ => c⟩
  rcases ite_le_eq hk with ⟨c, rfl⟩ | ⟨c8, hk⟩
  · exact ⟨by decide, c7, fun _ => c⟩
  rcases ite_le_eq hk with ⟨c, rfl⟩ | ⟨c9, hk⟩
  · exact ⟨by decide, c8, fun _ => c⟩
  rcases ite_le_eq hk with ⟨c, rfl⟩ | ⟨c10, hk⟩
  · exact ⟨by decide, c9, fun _ => c⟩
  rcases ite_le_eq hk with ⟨c, rfl⟩ | ⟨c11, hk⟩
  · exact ⟨by decide, c10, fun _ => c⟩
  rcases ite_le_eq hk with ⟨c, rfl⟩ | ⟨c12, rfl⟩
  · exact ⟨by decide, c11, fun _ => c⟩
  · exact ⟨by decide, c12, fun h => absurd h (by decide)⟩

/-- the thresholds increase, so the month of a day of month `m` can be neither before nor after `m` -/
theorem monthOfDoy_spec (y : Int) (m d : Nat) (hm : 1 ≤ m ∧ m ≤ 12) (hd : 1 ≤ d ∧ d ≤ monthLen y m) :
    monthOfDoy y (daysBeforeMonth y m + d) = m := by
  obtain ⟨⟨k1, k12⟩, lo, hi⟩ := monthOfDoy_bounds y (daysBeforeMonth y m + d) (by omega)
  generalize monthOfDoy y (daysBeforeMonth y m + d) = k at *
  rcases Nat.lt_trichotomy k m with hlt | heq | hgt
  · have := dbm_mono y (k + 1) m (by omega) hlt hm.2
    have := hi (by omega)
    omega
  · exact heq
  · have := dbm_mono y (m + 1) k (by omega) hgt k12
    rw [daysBeforeMonth_succ y m ⟨hm.1, by omega⟩] at this
    omega

theorem validDate_iff (y : Int) (m d : Nat) :
    validDate y m d = true ↔ (minYear ≤ y ∧ y ≤ maxYear) ∧ (1 ≤ m ∧ m ≤ 12) ∧ (1 ≤ d ∧ d ≤ monthLen y m) := by
  unfold validDate
  simp only [Bool.and_eq_true, decide_eq_true_eq, and_assoc]

/-- no date field is altered: the civil date of the day number of a valid date is that date -/
theorem civilOfDays_daysFromCE (y : Int) (m d : Nat) (h : validDate y m d = true) :
    civilOfDays (daysFromCE y m d) = (y, m, d) := by
  obtain ⟨_, hm, hd⟩ := (validDate_iff y m d).1 h
  have hle := dbm_add_le y m d hm hd
  -- day `daysBeforeMonth y m + d` of year `y`, counted from 1
  have hk : (0 ≤ (daysBeforeMonth y m : Int) + d - 1 ∧ (daysBeforeMonth y m : Int) + d - 1 < (yearLen y : Int)) ∧
      daysFromCE y m d = daysBeforeYear y + ((daysBeforeMonth y m : Int) + d - 1) + 1 ∧
      (daysFromCE y m d - daysBeforeYear y).toNat = daysBeforeMonth y m + d := by
    unfold daysFromCE
    omega
  have hyear : yearOfDays (daysFromCE y m d) = y := by
    rw [hk.2.1]
    exact yearOfDays_dby y _ hk.1.1 hk.1.2
  unfold civilOfDays
  simp only [hyear, hk.2.2, monthOfDoy_spec y m d hm hd, Nat.add_sub_cancel_left]

end Civil
end Sqlgrep
