import SqlgrepModel.Lemmas.AggSpecFacts
/-
The specification's sums (`Spec.Agg.sumOf`, `avgOf`, `stddevOf`): SUM on a list of one numeric type, AVG and STDDEV /
VARIANCE as SUM finished differently; the laws of REAL addition that order-independence needs (`AddLaws`); sums of a
concatenation (`mergeSum`, `sumOf_append`) and under permutation (`SumsOrderFree`, `sumOf_perm`, `avgOf_perm`, `stddevOf_perm`).
-/
set_option linter.unusedSimpArgs false
namespace Sqlgrep
open Value Spec.Agg

/-- AVG from sum and count (INT and INTERVAL truncate, as in the code) -/
def avgFinish (s : Value) (n : Nat) : Option Value :=
  match s with
  | .null => some .null
  | .int x => some (.int (Int.tdiv x n))
  | .real x => some (.real (F64.div x (F64.ofInt n)))
  | .interval x => some (.interval (Int.tdiv x n))
  | _ => none

/-- the squares STDDEV / VARIANCE sums up (INT: each within range; REAL); `none` for other types -/
def squaresOf (xs : List Value) : Option (List Value) :=
  match ints xs, reals xs with
  | some is, _ => if (is.map (fun x => x * x)).all inI64 then some ((is.map (fun x => x * x)).map Value.int) else none
  | _, some rs => some ((rs.map (fun x => F64.mul x x)).map Value.real)
  | _, _ => none

def sdFinish (isVar : Bool) (s q : Value) (n : Nat) : Option Value :=
  match s, q with
  | .null, _ => some .null
  | .int a, .int b => some (.real (spreadInt n isVar a b))
  | .real a, .real b => some (.real (spread n isVar a b))
  | _, _ => none

theorem sumOf_nil : sumOf [] = some .null := rfl

/-- SUM over INT values: NULL for none, else their sum (when no partial sum overflows) -/
def intSumValue (is : List Int) : Value := if is.isEmpty then .null else .int (intSum is)

theorem sumOf_ints_if (is : List Int) :
    sumOf (is.map Value.int) = if partialSumsOk inI64 0 is then some (intSumValue is) else none := by
  cases is with
  | nil => rfl
  | cons i is =>
    have h : ints (Value.int i :: is.map Value.int) = some (i :: is) := ints_eq_some_iff.mpr rfl
    simp only [sumOf, List.map_cons, h, intSumValue, List.isEmpty_cons, Bool.false_eq_true, if_false]

theorem sumOf_ints (is : List Int) (hok : partialSumsOk inI64 0 is = true) :
    sumOf (is.map Value.int) = some (intSumValue is) := by rw [sumOf_ints_if, hok]; rfl

def realSumValue (rs : List Nat) : Value := if rs.isEmpty then .null else .real (realSum rs)

theorem sumOf_reals_if (rs : List Nat) :
    sumOf (rs.map Value.real) = if zeroNeutral rs then some (realSumValue rs) else none := by
  cases rs with
  | nil => rfl
  | cons y rs =>
    have h1 : ints (Value.real y :: rs.map Value.real) = none := rfl
    have h2 : reals (Value.real y :: rs.map Value.real) = some (y :: rs) := reals_eq_some_iff.mpr rfl
    simp only [sumOf, List.map_cons, h1, h2, realSumValue, List.isEmpty_cons, Bool.false_eq_true, if_false]

def ivSumValue (ns : List Int) : Value := if ns.isEmpty then .null else .interval (intSum ns)

theorem sumOf_intervals_if (ns : List Int) :
    sumOf (ns.map Value.interval) = if partialSumsOk inIv 0 ns then some (ivSumValue ns) else none := by
  cases ns with
  | nil => rfl
  | cons n ns =>
    have h1 : ints (Value.interval n :: ns.map Value.interval) = none := rfl
    have h2 : reals (Value.interval n :: ns.map Value.interval) = none := rfl
    have h3 : intervals (Value.interval n :: ns.map Value.interval) = some (n :: ns) := intervals_eq_some_iff.mpr rfl
    simp only [sumOf, List.map_cons, h1, h2, h3, ivSumValue, List.isEmpty_cons, Bool.false_eq_true, if_false]

theorem some_of_ite {α : Type} {c : Prop} [Decidable c] {x y : α} (h : (if c then some x else none) = some y) : c ∧ x = y :=
  by simpa using h

theorem zeroNeutral_cons {y : Nat} {ys : List Nat} (h : zeroNeutral (y :: ys) = true) : F64.add F64.zero y = y := by
  simpa [zeroNeutral] using h

theorem avgOf_eq (xs : List Value) : avgOf xs = (sumOf xs).bind (avgFinish · xs.length) := by
  cases xs with
  | nil => rfl
  | cons x xs =>
    simp only [avgOf, sumOf]
    cases hi : ints (x :: xs) with
    | some is =>
      have hl : is.length = (x :: xs).length := by rw [ints_eq_some_iff.mp hi, List.length_map]
      simp only; split <;> simp [avgFinish, hl]
    | none =>
      cases hr : reals (x :: xs) with
      | some rs =>
        have hl : rs.length = (x :: xs).length := by rw [reals_eq_some_iff.mp hr, List.length_map]
        simp only; split <;> simp [avgFinish, hl]
      | none =>
        cases hn : intervals (x :: xs) with
        | some ns =>
          have hl : ns.length = (x :: xs).length := by rw [intervals_eq_some_iff.mp hn, List.length_map]
          simp only; split <;> simp [avgFinish, hl]
        | none => rfl

theorem stddevOf_eq (isVar : Bool) (xs : List Value) :
    stddevOf isVar xs = (squaresOf xs).bind fun sq => (sumOf xs).bind fun s => (sumOf sq).bind fun q =>
      sdFinish isVar s q xs.length := by
  cases xs with
  | nil => rfl
  | cons x xs =>
    simp only [stddevOf, squaresOf]
    cases hi : ints (x :: xs) with
    | some is =>
      have hx := ints_eq_some_iff.mp hi
      cases is with
      | nil => simp at hx
      | cons i is =>
        simp only [hx, List.length_map]
        by_cases hsq : ((i :: is).map (fun x => x * x)).all inI64 = true
        · simp only [hsq, if_true, Option.bind_some, sumOf_ints_if, Bool.true_and]
          by_cases h1 : partialSumsOk inI64 0 (i :: is) = true
          · simp only [h1, if_true, Option.bind_some, Bool.true_and]
            by_cases h2 : partialSumsOk inI64 0 ((i :: is).map (fun x => x * x)) = true
            · simp only [h2, if_true, Option.bind_some]; rfl
            · simp only [h2, if_false, Bool.false_eq_true]; rfl
          · simp only [h1, if_false, Bool.false_eq_true, Bool.false_and]; rfl
        · simp only [hsq, if_false, Bool.false_eq_true, Bool.false_and]; rfl
    | none =>
      cases hr : reals (x :: xs) with
      | some rs =>
        have hx := reals_eq_some_iff.mp hr
        cases rs with
        | nil => simp at hx
        | cons y rs =>
          have e1 := sumOf_reals_if (y :: rs)
          have e2 := sumOf_reals_if ((y :: rs).map (fun x => F64.mul x x))
          simp only [List.map_cons] at e1 e2
          simp only [hx, List.map_cons, List.length_cons, List.length_map, Option.bind_some, e1, e2]
          by_cases h1 : zeroNeutral (y :: rs) = true
          · by_cases h2 : zeroNeutral (F64.mul y y :: rs.map (fun x => F64.mul x x)) = true
            · simp only [h1, h2, if_true, Option.bind_some, Bool.true_and]; rfl
            · simp only [h1, h2, if_true, if_false, Option.bind_some, Bool.false_eq_true, Bool.and_false]; rfl
          · simp only [h1, if_false, Bool.false_eq_true, Bool.false_and]; rfl
      | none => rfl

theorem intSum_append (a b : List Int) : intSum (a ++ b) = intSum a + intSum b := by
  have : ∀ (l : List Int) (s : Int), l.foldl (· + ·) s = s + l.foldl (· + ·) 0 := by
    intro l
    induction l with
    | nil => intro s; simp
    | cons x xs ih => intro s; simp only [List.foldl_cons]; rw [ih (s + x), ih (0 + x)]; omega
  simp only [intSum, List.foldl_append]
  rw [this b]

theorem intSum_perm {l1 l2 : List Int} (h : l1.Perm l2) : intSum l1 = intSum l2 :=
  h.foldl_eq' (fun _ _ _ _ _ => by omega) 0

/-! ### REAL sums: algebraic laws of the addition on the values at hand

`F64.add` is correctly rounded addition (`Model/FloatArith.lean`: exact integer arithmetic on units of 2^-1074, then
rounding), so it is not associative in general. What C15 needs from it is stated as explicit laws, restricted to the
values that actually arise when the addends `rs` of one group are summed in some order — NOT as "the sum does not depend
on the order" (which is the conclusion). `Lemmas/RealSums.lean` proves the laws for addends all of whose sub-multiset sums
are REALs (`realAddLaws_of_exactSums`). The laws and the proofs below are generic in the addition (`Props/C15.lean`
instantiates them with exact addition as well). -/

/-- `l` uses each addend of `rs` at most as often as it occurs in `rs` -/
def SubMulti (l rs : List Nat) : Prop := ∃ rest, (l ++ rest).Perm rs

/-- the sum of `l` added up from the left, starting at `z0` (for `F64.add`, `F64.zero` this is `Spec.Agg.realSum`) -/
def fsum (add : Nat → Nat → Nat) (z0 : Nat) (l : List Nat) : Nat := l.foldl add z0

/-- **what is needed of the addition, on the values at hand** (the addends `rs` of one group, and the partial sums
`fsum a` of lists `a` of some of them):
* `zeroAdd`: `0.0 + y = y` for every addend (IEEE: false only for `y = -0.0`, and for a NaN with another payload);
* `comm`: `x + y = y + x` for two addends (IEEE addition is commutative on non-NaN operands);
* `assoc`: `(A + B) + C = A + (B + C)` for the partial sums `A`, `B`, `C` of three lists (`B`, `C` non-empty) that together
  use each addend at most as often as it occurs — this is what "the sums are exactly representable" buys: IEEE addition returns the exact
  sum when it is representable, and exact addition is associative. It fails as soon as some partial sum is rounded. -/
structure AddLaws (add : Nat → Nat → Nat) (z0 : Nat) (rs : List Nat) : Prop where
  zeroAdd : ∀ y ∈ rs, add z0 y = y
  comm : ∀ x ∈ rs, ∀ y ∈ rs, add x y = add y x
  assoc : ∀ a b c, b ≠ [] → c ≠ [] → SubMulti (a ++ b ++ c) rs →
    add (add (fsum add z0 a) (fsum add z0 b)) (fsum add z0 c) =
      add (fsum add z0 a) (add (fsum add z0 b) (fsum add z0 c))

theorem SubMulti.perm {l l' rs : List Nat} (h : SubMulti l rs) (hp : l.Perm l') : SubMulti l' rs := by
  obtain ⟨rest, hr⟩ := h
  exact ⟨rest, (hp.symm.append_right rest).trans hr⟩

theorem SubMulti.left {a b rs : List Nat} (h : SubMulti (a ++ b) rs) : SubMulti a rs := by
  obtain ⟨rest, hr⟩ := h
  exact ⟨b ++ rest, by rw [← List.append_assoc]; exact hr⟩

theorem SubMulti.right {a b rs : List Nat} (h : SubMulti (a ++ b) rs) : SubMulti b rs :=
  (h.perm List.perm_append_comm).left

theorem SubMulti.mem {l rs : List Nat} (h : SubMulti l rs) {x : Nat} (hx : x ∈ l) : x ∈ rs := by
  obtain ⟨rest, hr⟩ := h
  exact hr.mem_iff.mp (List.mem_append_left _ hx)

theorem SubMulti.refl (rs : List Nat) : SubMulti rs rs := ⟨[], by simp⟩

theorem SubMulti.of_perm {l rs : List Nat} (h : l.Perm rs) : SubMulti l rs := ⟨[], by simpa using h⟩

theorem AddLaws.perm {add : Nat → Nat → Nat} {z0 : Nat} {rs rs' : List Nat} (h : AddLaws add z0 rs) (hp : rs.Perm rs') :
    AddLaws add z0 rs' :=
  ⟨fun y hy => h.zeroAdd y (hp.mem_iff.mpr hy),
   fun x hx y hy => h.comm x (hp.mem_iff.mpr hx) y (hp.mem_iff.mpr hy),
   fun a b c hb hc hs => h.assoc a b c hb hc (by obtain ⟨rest, hr⟩ := hs; exact ⟨rest, hr.trans hp.symm⟩)⟩

theorem fsum_snoc (add : Nat → Nat → Nat) (z0 : Nat) (l : List Nat) (x : Nat) :
    fsum add z0 (l ++ [x]) = add (fsum add z0 l) x := by
  simp [fsum, List.foldl_append]

theorem fsum_single {add : Nat → Nat → Nat} {z0 : Nat} {rs : List Nat} (h : AddLaws add z0 rs) {x : Nat} (hx : x ∈ rs) :
    fsum add z0 [x] = x := by
  simp only [fsum, List.foldl_cons, List.foldl_nil]; exact h.zeroAdd x hx

theorem AddLaws.right_comm {add : Nat → Nat → Nat} {z0 : Nat} {rs : List Nat} (h : AddLaws add z0 rs)
    (pre : List Nat) (x y : Nat) (hs : SubMulti (pre ++ [x] ++ [y]) rs) :
    add (add (fsum add z0 pre) x) y = add (add (fsum add z0 pre) y) x := by
  have hx : x ∈ rs := hs.mem (by simp)
  have hy : y ∈ rs := hs.mem (by simp)
  have hs' : SubMulti (pre ++ [y] ++ [x]) rs := hs.perm (by
    simp only [List.append_assoc]
    exact List.Perm.append_left pre (List.Perm.swap y x []))
  have e1 := h.assoc pre [x] [y] (by simp) (by simp) hs
  have e2 := h.assoc pre [y] [x] (by simp) (by simp) hs'
  rw [fsum_single h hx, fsum_single h hy] at e1 e2
  rw [e1, e2, h.comm x hx y hy]

/-- **the sum of the addends is the same in every order** — from the laws, by the swaps that generate a permutation; the
accumulator in front of the two swapped addends is always a partial sum at hand -/
theorem foldl_perm_of_laws {add : Nat → Nat → Nat} {z0 : Nat} {rs : List Nat} (h : AddLaws add z0 rs) {l1 l2 : List Nat}
    (hp : l1.Perm l2) : ∀ pre, SubMulti (pre ++ l1) rs →
      l1.foldl add (fsum add z0 pre) = l2.foldl add (fsum add z0 pre) := by
  induction hp with
  | nil => intro _ _; rfl
  | cons x _ ih =>
    intro pre hs
    simp only [List.foldl_cons]
    rw [← fsum_snoc add z0 pre x]
    exact ih (pre ++ [x]) (by simpa [List.append_assoc] using hs)
  | swap x y l =>
    intro pre hs
    simp only [List.foldl_cons]
    have hs' : SubMulti (pre ++ [y] ++ [x]) rs := by
      have : pre ++ y :: x :: l = (pre ++ [y] ++ [x]) ++ l := by simp
      rw [this] at hs
      exact hs.left
    rw [h.right_comm pre y x hs']
  | trans hp1 _ ih1 ih2 =>
    intro pre hs
    rw [ih1 pre hs]
    exact ih2 pre (hs.perm (List.Perm.append_left pre hp1))

theorem fsum_perm_of_laws {add : Nat → Nat → Nat} {z0 : Nat} {rs l : List Nat} (h : AddLaws add z0 rs) (hp : l.Perm rs) :
    fsum add z0 l = fsum add z0 rs :=
  foldl_perm_of_laws h hp [] (SubMulti.of_perm hp)

/-- adding a non-empty run of addends one by one to a partial sum, or adding their own sum to it, is the same -/
theorem foldl_eq_add_fsum {add : Nat → Nat → Nat} {z0 : Nat} {rs : List Nat} (h : AddLaws add z0 rs) (m : List Nat) :
    m ≠ [] → ∀ pre, SubMulti (pre ++ m) rs →
      m.foldl add (fsum add z0 pre) = add (fsum add z0 pre) (fsum add z0 m) := by
  induction m with
  | nil => intro hne; exact absurd rfl hne
  | cons x m' ih =>
    intro _ pre hs
    have hx : x ∈ rs := hs.mem (by simp)
    cases m' with
    | nil => simp only [List.foldl_cons, List.foldl_nil, fsum_single h hx]
    | cons y m'' =>
      have hne : y :: m'' ≠ [] := by simp
      have hs1 : SubMulti ((pre ++ [x]) ++ (y :: m'')) rs := by simpa [List.append_assoc] using hs
      have hs2 : SubMulti ([x] ++ (y :: m'')) rs := by
        have : pre ++ x :: y :: m'' = pre ++ ([x] ++ (y :: m'')) := by simp
        rw [this] at hs
        exact hs.right
      have e1 := ih hne (pre ++ [x]) hs1
      have e2 := ih hne [x] hs2
      have e3 := h.assoc pre [x] (y :: m'') (by simp) (by simp) (by simpa [List.append_assoc] using hs)
      have hfx : fsum add z0 (x :: y :: m'') = (y :: m'').foldl add (fsum add z0 [x]) := rfl
      rw [List.foldl_cons, ← fsum_snoc add z0 pre x, e1, fsum_snoc, hfx, e2]
      rw [fsum_single h hx] at e3 ⊢
      exact e3

theorem fsum_append_of_laws {add : Nat → Nat → Nat} {z0 : Nat} {r1 r2 : List Nat} (h : AddLaws add z0 (r1 ++ r2))
    (hne : r2 ≠ []) : fsum add z0 (r1 ++ r2) = add (fsum add z0 r1) (fsum add z0 r2) := by
  have : fsum add z0 (r1 ++ r2) = r2.foldl add (fsum add z0 r1) := by simp [fsum, List.foldl_append]
  rw [this]
  exact foldl_eq_add_fsum h r2 hne r1 (SubMulti.refl _)

/-- the laws for the model's REAL addition on the addends `rs` (they hold when the sums are exactly representable:
`Lemmas/RealSums.lean`) -/
def RealAddLaws (rs : List Nat) : Prop := AddLaws F64.add F64.zero rs

theorem realSum_eq_fsum (l : List Nat) : realSum l = fsum F64.add F64.zero l := rfl

theorem realSum_perm_of_laws {rs l : List Nat} (h : RealAddLaws rs) (hp : l.Perm rs) : realSum l = realSum rs :=
  fsum_perm_of_laws h hp

theorem realSum_append_of_laws {r1 r2 : List Nat} (h : RealAddLaws (r1 ++ r2)) (hne : r2 ≠ []) :
    realSum (r1 ++ r2) = F64.add (realSum r1) (realSum r2) :=
  fsum_append_of_laws h hne

/-- combination of two partial sums: NULL is neutral -/
def mergeSum : Value → Value → Value
  | .null, x => x
  | x, .null => x
  | .int a, .int b => .int (a + b)
  | .real a, .real b => .real (F64.add a b)
  | .interval a, .interval b => .interval (a + b)
  | x, _ => x

theorem intSumValue_append (a b : List Int) : intSumValue (a ++ b) = mergeSum (intSumValue a) (intSumValue b) := by
  cases a with
  | nil => cases b <;> simp [intSumValue, mergeSum]
  | cons x xs =>
    cases b with
    | nil => simp [intSumValue, mergeSum]
    | cons y ys =>
      simp only [intSumValue, List.cons_append, List.isEmpty_cons, Bool.false_eq_true, if_false, mergeSum]
      rw [← List.cons_append, intSum_append]

theorem ivSumValue_append (a b : List Int) : ivSumValue (a ++ b) = mergeSum (ivSumValue a) (ivSumValue b) := by
  cases a with
  | nil => cases b <;> simp [ivSumValue, mergeSum]
  | cons x xs =>
    cases b with
    | nil => simp [ivSumValue, mergeSum]
    | cons y ys =>
      simp only [ivSumValue, List.cons_append, List.isEmpty_cons, Bool.false_eq_true, if_false, mergeSum]
      rw [← List.cons_append, intSum_append]

/-- the property's proviso for REAL sums, for two parts: the addition obeys `RealAddLaws` (`0.0 + y = y`
and commutativity on the addends, associativity on the partial sums at hand; it holds when the sums are exactly
representable: `Lemmas/RealSums.lean`) on the addends of both parts together. That the partial sums of the parts add up to the sum of the whole is
DERIVED from it (`realSum_append_of_laws`). -/
def RealSplitExact (xs ys : List Value) : Prop :=
  ∀ rs1 rs2, reals xs = some rs1 → reals ys = some rs2 → RealAddLaws (rs1 ++ rs2)

theorem realSumValue_append {r1 r2 : List Nat} (h : RealAddLaws (r1 ++ r2)) :
    realSumValue (r1 ++ r2) = mergeSum (realSumValue r1) (realSumValue r2) := by
  cases r1 with
  | nil => cases r2 <;> rfl
  | cons x xs =>
    cases r2 with
    | nil => simp [realSumValue, mergeSum]
    | cons y ys =>
      simp only [realSumValue, List.cons_append, List.isEmpty_cons, Bool.false_eq_true, if_false, mergeSum]
      rw [← List.cons_append, realSum_append_of_laws h (by simp)]

/-- three INT sums that all answer: none overflowed, so each is the INT sum value -/
theorem sumOf_append_ints {is1 is2 : List Int} {a b r : Value} (h : sumOf ((is1 ++ is2).map Value.int) = some r)
    (h1 : sumOf (is1.map Value.int) = some a) (h2 : sumOf (is2.map Value.int) = some b) : r = mergeSum a b := by
  rw [sumOf_ints_if] at h h1 h2
  rw [← (some_of_ite h).2, ← (some_of_ite h1).2, ← (some_of_ite h2).2, intSumValue_append]

theorem sumOf_append {xs ys : List Value} {a b r : Value}
    (h : sumOf (xs ++ ys) = some r) (h1 : sumOf xs = some a) (h2 : sumOf ys = some b) (hreal : RealSplitExact xs ys) :
    r = mergeSum a b := by
  cases hi : ints (xs ++ ys) with
  | some is =>
    obtain ⟨is1, is2, hi1, hi2, rfl⟩ := collect_map_append_inv hi
    rw [ints_eq_some_iff.mp hi] at h
    rw [ints_eq_some_iff.mp hi1] at h1
    rw [ints_eq_some_iff.mp hi2] at h2
    exact sumOf_append_ints h h1 h2
  | none =>
    cases hr : reals (xs ++ ys) with
    | some rs =>
      obtain ⟨rs1, rs2, hr1, hr2, rfl⟩ := collect_map_append_inv hr
      rw [reals_eq_some_iff.mp hr, sumOf_reals_if] at h
      rw [reals_eq_some_iff.mp hr1, sumOf_reals_if] at h1
      rw [reals_eq_some_iff.mp hr2, sumOf_reals_if] at h2
      rw [← (some_of_ite h).2, ← (some_of_ite h1).2, ← (some_of_ite h2).2, realSumValue_append (hreal rs1 rs2 hr1 hr2)]
    | none =>
      cases hn : intervals (xs ++ ys) with
      | some ns =>
        obtain ⟨ns1, ns2, hn1, hn2, rfl⟩ := collect_map_append_inv hn
        rw [intervals_eq_some_iff.mp hn, sumOf_intervals_if] at h
        rw [intervals_eq_some_iff.mp hn1, sumOf_intervals_if] at h1
        rw [intervals_eq_some_iff.mp hn2, sumOf_intervals_if] at h2
        rw [← (some_of_ite h).2, ← (some_of_ite h1).2, ← (some_of_ite h2).2, ivSumValue_append]
      | none =>
        generalize xs ++ ys = zs at h hi hr hn
        cases zs with
        | nil => cases hi
        | cons z zs => simp [sumOf, hi, hr, hn] at h

theorem squaresOf_reals {l : List Value} {r : List Nat} (h : reals l = some r) :
    squaresOf l = some ((r.map (fun x => F64.mul x x)).map Value.real) := by
  have hl := reals_eq_some_iff.mp h
  cases r with
  | nil => cases hl; rfl
  | cons y r =>
    have hi : ints (Value.real y :: r.map Value.real) = none := rfl
    rw [hl] at h ⊢
    simp only [List.map_cons] at h
    simp only [squaresOf, List.map_cons, hi, h]

theorem squaresOf_append_inv {a b sq : List Value} (h : squaresOf (a ++ b) = some sq) :
    ∃ s1 s2, squaresOf a = some s1 ∧ squaresOf b = some s2 ∧ sq = s1 ++ s2 := by
  unfold squaresOf at h
  cases hi : ints (a ++ b) with
  | some is =>
    obtain ⟨i1, i2, (h1 : ints a = some i1), (h2 : ints b = some i2), rfl⟩ := collect_map_append_inv hi
    simp only [hi] at h
    obtain ⟨hall, hsq⟩ := some_of_ite h
    simp only [List.map_append, List.all_append, Bool.and_eq_true] at hall hsq
    exact ⟨_, _, by simp only [squaresOf, h1, hall.1, if_true], by simp only [squaresOf, h2, hall.2, if_true], hsq.symm⟩
  | none =>
    cases hr : reals (a ++ b) with
    | some rs =>
      obtain ⟨r1, r2, (h1 : reals a = some r1), (h2 : reals b = some r2), rfl⟩ := collect_map_append_inv hr
      simp only [hi, hr, Option.some.injEq] at h
      exact ⟨_, _, squaresOf_reals h1, squaresOf_reals h2, by rw [← h]; simp [List.map_append]⟩
    | none => simp [hi, hr] at h

/-- the provisos of the property for the sums of two parts: for REAL addends (and their squares) the laws of
`RealSplitExact` -/
structure SplitExact (x1 x2 : List Value) : Prop where
  sums : RealSplitExact x1 x2
  squares : ∀ s1 s2, squaresOf x1 = some s1 → squaresOf x2 = some s2 → RealSplitExact s1 s2

/-- what the property grants about the sums of the non-NULL values `xs` of a group: INT (and INTERVAL) partial sums
stay in range in every order; for REAL addends the addition obeys `RealAddLaws` on them (and on their squares, for
STDDEV/VARIANCE), from which order-independence is PROVED -/
structure SumsOrderFree (xs : List Value) : Prop where
  intOk : ∀ is, ints xs = some is → ∀ l, l.Perm is → partialSumsOk inI64 0 l = true
  intSqOk : ∀ is, ints xs = some is → ∀ l, l.Perm (is.map (fun x => x * x)) → partialSumsOk inI64 0 l = true
  ivOk : ∀ ns, intervals xs = some ns → ∀ l, l.Perm ns → partialSumsOk inIv 0 l = true
  realLaws : ∀ rs, reals xs = some rs → RealAddLaws rs
  realSqLaws : ∀ rs, reals xs = some rs → RealAddLaws (rs.map (fun x => F64.mul x x))

theorem SumsOrderFree.realSum {xs : List Value} (hs : SumsOrderFree xs) (rs : List Nat) (h : reals xs = some rs)
    (l : List Nat) (hp : l.Perm rs) : realSum l = realSum rs :=
  realSum_perm_of_laws (hs.realLaws rs h) hp

theorem SumsOrderFree.realSqSum {xs : List Value} (hs : SumsOrderFree xs) (rs : List Nat) (h : reals xs = some rs)
    (l : List Nat) (hp : l.Perm (rs.map (fun x => F64.mul x x))) :
    Spec.Agg.realSum l = Spec.Agg.realSum (rs.map (fun x => F64.mul x x)) :=
  realSum_perm_of_laws (hs.realSqLaws rs h) hp

theorem SumsOrderFree.realZero {xs : List Value} (hs : SumsOrderFree xs) (rs : List Nat) (h : reals xs = some rs)
    (y : Nat) (hy : y ∈ rs) : F64.add F64.zero y = y ∧ F64.add F64.zero (F64.mul y y) = F64.mul y y :=
  ⟨(hs.realLaws rs h).zeroAdd y hy, (hs.realSqLaws rs h).zeroAdd _ (List.mem_map.mpr ⟨y, hy, rfl⟩)⟩

theorem zeroNeutral_of_all {l : List Nat} (h : ∀ y ∈ l, F64.add F64.zero y = y) : zeroNeutral l = true := by
  cases l with
  | nil => rfl
  | cons y ys => simp [zeroNeutral, h y (by simp)]

theorem perm_nil_iff {α : Type} {xs ys : List α} (h : xs.Perm ys) : xs = [] ↔ ys = [] := by
  constructor
  · intro he; subst he; exact (List.Perm.nil_eq h).symm
  · intro he; subst he; exact List.Perm.eq_nil h

theorem sumOf_perm {xs ys : List Value} (h : xs.Perm ys) (hs : SumsOrderFree xs) : sumOf xs = sumOf ys := by
  cases xs with
  | nil => rw [List.Perm.nil_eq h]
  | cons x xs' =>
    cases ys with
    | nil => exact absurd h.length_eq (by simp)
    | cons y ys' =>
      simp only [sumOf]
      have hi := ints_perm h
      have hr := reals_perm h
      have hn := intervals_perm h
      cases h1 : ints (x :: xs') with
      | some is =>
        obtain ⟨js, hjs, hp⟩ := optPerm_some_left (h1 ▸ hi)
        simp only [hjs, hs.intOk is h1 is (List.Perm.refl _), hs.intOk is h1 js hp.symm, if_true, intSum_perm hp]
      | none =>
        rw [h1] at hi
        cases h2 : reals (x :: xs') with
        | some rs =>
          obtain ⟨ss, hss, hp⟩ := optPerm_some_left (h2 ▸ hr)
          have hz1 := zeroNeutral_of_all (fun y hy => (hs.realZero rs h2 y hy).1)
          have hz2 := zeroNeutral_of_all (l := ss) (fun y hy => (hs.realZero rs h2 y (hp.mem_iff.mpr hy)).1)
          simp only [optPerm_none_left hi, hss, hz1, hz2, if_true, hs.realSum rs h2 ss hp.symm]
        | none =>
          rw [h2] at hr
          cases h3 : intervals (x :: xs') with
          | some ns =>
            obtain ⟨ms, hms, hp⟩ := optPerm_some_left (h3 ▸ hn)
            simp only [optPerm_none_left hi, optPerm_none_left hr, hms, hs.ivOk ns h3 ns (List.Perm.refl _),
              hs.ivOk ns h3 ms hp.symm, if_true, intSum_perm hp]
          | none =>
            rw [h3] at hn
            simp only [optPerm_none_left hi, optPerm_none_left hr, optPerm_none_left hn]

theorem avgOf_perm {xs ys : List Value} (h : xs.Perm ys) (hs : SumsOrderFree xs) : avgOf xs = avgOf ys := by
  rw [avgOf_eq, avgOf_eq, sumOf_perm h hs, h.length_eq]

theorem stddevOf_perm (isVar : Bool) {xs ys : List Value} (h : xs.Perm ys) (hs : SumsOrderFree xs) :
    stddevOf isVar xs = stddevOf isVar ys := by
  cases xs with
  | nil => rw [List.Perm.nil_eq h]
  | cons x xs' =>
    cases ys with
    | nil => exact absurd h.length_eq (by simp)
    | cons y ys' =>
      simp only [stddevOf]
      have hi := ints_perm h
      have hr := reals_perm h
      cases h1 : ints (x :: xs') with
      | some is =>
        obtain ⟨js, hjs, hp⟩ := optPerm_some_left (h1 ▸ hi)
        have hpsq : (is.map (fun x => x * x)).Perm (js.map (fun x => x * x)) := hp.map _
        simp only [hjs, hs.intOk is h1 is (List.Perm.refl _), hs.intOk is h1 js hp.symm,
          hs.intSqOk is h1 _ (List.Perm.refl _), hs.intSqOk is h1 _ hpsq.symm, intSum_perm hp, intSum_perm hpsq, hp.length_eq,
          hpsq.all_eq]
      | none =>
        rw [h1] at hi
        cases h2 : reals (x :: xs') with
        | some rs =>
          obtain ⟨ss, hss, hp⟩ := optPerm_some_left (h2 ▸ hr)
          have hpsq : (rs.map (fun x => F64.mul x x)).Perm (ss.map (fun x => F64.mul x x)) := hp.map _
          have hz : ∀ l : List Nat, l.Perm rs → zeroNeutral l = true ∧ zeroNeutral (l.map (fun x => F64.mul x x)) = true := by
            intro l hl
            refine ⟨zeroNeutral_of_all fun y hy => (hs.realZero rs h2 y (hl.mem_iff.mp hy)).1, zeroNeutral_of_all fun y hy => ?_⟩
            obtain ⟨z, hz, rfl⟩ := List.mem_map.mp hy
            exact (hs.realZero rs h2 z (hl.mem_iff.mp hz)).2
          simp only [optPerm_none_left hi, hss, hz rs (List.Perm.refl _), hz ss hp.symm, Bool.and_self, if_true,
            hs.realSum rs h2 ss hp.symm, hs.realSqSum rs h2 _ hpsq.symm, hp.length_eq]
        | none =>
          rw [h2] at hr
          simp only [optPerm_none_left hi, optPerm_none_left hr]
end Sqlgrep
