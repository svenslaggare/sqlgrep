import SqlgrepModel.Lemmas.NoSkipEngine
import SqlgrepModel.Lemmas.PipelineFollow
import SqlgrepModel.Props.Fixture
/-
END-TO-END theorems, part three: FOLLOW MODE. `Pipeline.followText` (`Model/PipelineFollow.lean`) is the whole program
`sqlgrep -d <definitions> -c <query> --format <fmt> --follow [--head] <file>`: definition TEXT, query TEXT, output
format, the content of the file at start-up and a schedule — the writer's appends (byte chunks), the reader's polls
(with short reads) and an interrupt, in any interleaving — in; what is written to the terminal (erase-display
sequences and printed lines) and how `FollowFileExecutor::execute` ends out. It is the function the compiled driver
executes for every `e2ef` case (`harness/src/e2ef.rs`: the real `FollowFileExecutor` on a real growing file). Like the
other `Props/Pipeline*.lean` files this one has no property id of its own; each theorem names the property it carries:

* `followText_never_panics`                                   C09 / C14 / C17 for follow mode: no panic on any texts,
  any bytes, any schedule, any oracle tables.
* C10 at program level — `statement_is_given_the_complete_lines`, `quiescent_schedule_delivers_every_complete_line`,
  `chunking_and_polls_are_irrelevant`: what the statement is given are exactly the complete lines of the content from
  the start offset (`--head`: of the whole file), each once, in order, whatever the chunking and the interleaving.
* C11 at program level — `follow_select_prints_batch_output` (non-aggregate statement, WHERE / DISTINCT / LIMIT
  included: everything follow mode writes is what the batch program prints over the same lines, same status),
  `follow_screen_is_batch_output` (aggregate statement without LIMIT and join, every format: the k-th delivered
  line either refreshes the screen with exactly the output of the batch program over the first k lines, or — WHERE or
  the admission rule rejects it — leaves everything as it is and the batch output over k lines is the one over k−1;
  `shown_line_screen_is_batch_output`: the last screen after a shown line IS that batch output;
  `follow_screens_are_batch_outputs`: every screen ever shown is the batch output over a prefix;
  `quiescent_followText_is_run_over_complete_lines`: these are statements about `followText` on caught-up schedules;
  `follow_table_failure_is_batch_table_failure_partial`: `execute_result` fails for the k-th line iff the batch program
  over k lines fails, with the same error — given the updates succeed in both modes; `exScreenHyps`: all hypotheses
  at once, by the kernel).
  Side conditions, exactly (`PlainLine`): the batch reader must read the delivered lines as the same texts — valid
  UTF-8 (follow mode does NOT end on an invalid line and reports nothing: the line's text is `from_utf8_lossy`, an
  external fact; batch mode ends with `FailReadFile`) and no `\r` before the `\n` (follow mode keeps it as content).
  In CSV format every refreshed table has its header (the printer is told `start_table()` after each clear): D65,
  repaired in /repo e80a2b6; regression witness `d65_repaired_csv_header_on_every_screen`.
* C19 at program level — `interrupt_is_run_over_lines_delivered_before`, `interrupted_output_is_a_prefix`: an
  interrupt anywhere in the schedule leaves what was written a prefix of what the uninterrupted schedule writes (for an
  aggregate statement: a prefix of its sequence of screens) and adds no error.
* C06 at program level — `follow_noise_lines_invisible`, `noise_in_followed_bytes_invisible`: complete lines that
  yield no row, inserted into what is delivered / into the followed bytes at line boundaries, change nothing that is
  written and not the status.

Helper lemmas: `Lemmas/ExecFT.lean`, `Lemmas/ExecFTBatch.lean`, `Lemmas/PipelineFollow.lean`.
-/
namespace Sqlgrep.Props.PipelineFollow
open Sqlgrep Sqlgrep.Pipeline Sqlgrep.Spec.Pipeline Sqlgrep.Reader Sqlgrep.Extract Sqlgrep.Spec.Agg
open Sqlgrep.Props.Pipeline (exFacts exDefs exFactsE exTables exDefs_tables exFacts_eq exRun)

/-- **Follow mode never panics** (C09, C14, C17): for every definition text, query text, format, `--head` or not, every
content at start-up and every schedule of appends, polls and interrupts, and ALL oracle tables — also wrong or
incomplete ones — the end-to-end model never answers `panic`. -/
theorem followText_never_panics (F : Facts) (defsText queryText : List Char) (fmt : Print.Format) (head : Bool)
    (initial : List Nat) (ops : List FollowOp) : ∀ site, followText F defsText queryText fmt head initial ops ≠ .panic site :=
  followLines_no_panic F defsText queryText fmt _ _

/-- **What the statement is given** (C10 at program level). The program's answer is a function of the lines the
iterator has delivered and of the number delivered when the flag was cleared (`followText` = `followLines` of them, by
definition), and — whatever the chunking of the writer's appends, the placement of the polls and the sizes of the reads
— the delivered lines are a prefix of the complete (newline-terminated) lines of the content from the start offset:
the first byte of the file with `--head`, the first byte appended after start-up otherwise. Each line once, in order,
byte for byte; an unterminated tail is never among them. -/
theorem statement_is_given_the_complete_lines (F : Facts) (defsText queryText : List Char) (fmt : Print.Format) (head : Bool)
    (initial : List Nat) (ops : List FollowOp) :
    followText F defsText queryText fmt head initial ops =
      followLines F defsText queryText fmt (deliveredBy head initial ops) (interruptPoint head initial ops) ∧
    deliveredBy head initial ops <+: completeLines (followedContent head initial ops) :=
  ⟨rfl, deliveredBy_prefix head initial ops⟩

/-- **… all of them, once the reader has caught up**: a schedule that ends with as many polls as there were bytes
pending has delivered EVERY complete line of the followed content -/
theorem quiescent_schedule_delivers_every_complete_line (head : Bool) (initial : List Nat) (ops : List FollowOp) (ks : List Nat)
    (hi : FollowOp.interrupt ∉ ops)
    (hn : pending (Props.C10.reached initial head followCap (readerOps ops)) ≤ ks.length) :
    deliveredBy head initial (ops ++ ks.map .poll) = completeLines (followedContent head initial ops) :=
  deliveredBy_quiescent head initial ops ks hi hn

/-- **Chunking and polls are irrelevant** (C10): two uninterrupted schedules over the same start-up content that append
the same bytes — cut into appends anywhere, polled anyhow — and both end caught up give the same answer: the same
screens / records, the same status -/
theorem chunking_and_polls_are_irrelevant (F : Facts) (defsText queryText : List Char) (fmt : Print.Format) (head : Bool)
    (initial : List Nat) (ops₁ ops₂ : List FollowOp) (ks₁ ks₂ : List Nat)
    (hsame : appendedBytes ops₁ = appendedBytes ops₂)
    (hi₁ : FollowOp.interrupt ∉ ops₁) (hi₂ : FollowOp.interrupt ∉ ops₂)
    (hn₁ : pending (Props.C10.reached initial head followCap (readerOps ops₁)) ≤ ks₁.length)
    (hn₂ : pending (Props.C10.reached initial head followCap (readerOps ops₂)) ≤ ks₂.length) :
    followText F defsText queryText fmt head initial (ops₁ ++ ks₁.map .poll) =
      followText F defsText queryText fmt head initial (ops₂ ++ ks₂.map .poll) := by
  have n₁ : FollowOp.interrupt ∉ ops₁ ++ ks₁.map FollowOp.poll := by simp [hi₁]
  have n₂ : FollowOp.interrupt ∉ ops₂ ++ ks₂.map FollowOp.poll := by simp [hi₂]
  unfold followText
  rw [deliveredBy_quiescent head initial ops₁ ks₁ hi₁ hn₁, deliveredBy_quiescent head initial ops₂ ks₂ hi₂ hn₂,
    interruptPoint_none _ _ _ n₁, interruptPoint_none _ _ _ n₂]
  unfold followedContent
  rw [hsame]

/-- the statement of the query text is a non-aggregate statement without join -/
def QuerySelectNoJoin (F : Facts) (queryText : List Char) : Prop :=
  ∀ query stmt fromTable join, parseText (lexOracles F) (regexValidFn F) queryText = .stmt query →
    stmtOf query = some (stmt, fromTable, join) → (∃ s, stmt = .select s) ∧ join = none

/-- **A non-aggregate statement in follow mode prints the batch output** (C11 at program level; WHERE, DISTINCT and
LIMIT included). For every definition text, every non-aggregate query text without join, every format and every list
of delivered lines that the batch reader reads as the same texts (`PlainLine`): what follow mode writes — it never
clears the screen — and how it ends is exactly what the batch program prints and how it ends over the one file
holding those lines; rejected texts, an undefined table, missing facts answer alike in both modes. Taken for every
prefix of the delivered lines: the records written for the k-th line are those by which the batch output over k lines
extends the one over k−1. -/
theorem follow_select_prints_batch_output (F : Facts) (defsText queryText : List Char) (fmt : Print.Format)
    (ls : List (List Nat)) (hplain : ∀ l ∈ ls, PlainLine l) (hsel : QuerySelectNoJoin F queryText) :
    followLines F defsText queryText fmt ls none = batchAsFollow (runText F defsText queryText fmt false [wire ls]) := by
  rw [followLines_eq_front, runText_eq_front]
  refine Front.answer_rel (fun a b => a = batchAsFollow b) (fun e => by cases e <;> rfl) _ fun tables stmt fromTable join hf => ?_
  obtain ⟨query, hq, hs⟩ := front_run_query hf
  obtain ⟨⟨s, rfl⟩, rfl⟩ := hsel query stmt fromTable join hq hs
  cases hg : getTable tables fromTable with
  | none =>
    rw [followStatement_undefined F tables _ fromTable ls none hg, runStatement_undefined F tables _ fromTable none _ hg,
      followNoTable_select_eq_runNoTable F.eval s fromTable ls hplain]
    apply followAnswerOf_no_clear
    rw [← followNoTable_select_eq_runNoTable F.eval s fromTable ls hplain, followNoTable_calls]
    nofun
  | some t =>
    rw [followStatement_plain F tables _ fromTable t hg ls (fun l hl => (hplain l hl).2.1),
      runStatement_wire F tables _ fromTable t hg ls hplain]
    split
    · rw [runFollowAllT_select_eq_runBatchT F.eval _ s rfl rfl none]
      apply followAnswerOf_no_clear
      rw [← runFollowAllT_select_eq_runBatchT F.eval _ s rfl rfl none]
      exact runFollowAllT_calls_final F.eval _ _
    · rfl

/-- the k-th line at the level of the two runs: `qy` an aggregate query without join and LIMIT, `P ++ [x]` the lines handed to
follow mode and held by the batch file, both runs `Ok` -/
theorem agg_screen_step (F : Facts) (fmt : Print.Format) (single : Bool) (qy : Query) (a : AggStmt)
    (hq : qy.stmt = .aggregate a) (hj : qy.join = none) (hlim : a.limit = none) (P : List Line) (x : Line)
    (hex : KeysExact (groupKeysOf F.eval a (followEnvs qy.table (P ++ [x]))))
    (w : List TermItem) (hf : followAnswerOf F fmt (some (.ran (runFollowAllT F.eval qy none (P ++ [x])))) = .ran none w)
    (n : Nat) (ls : List Print.Bytes)
    (hb : answerOf F fmt single (runBatchT F.eval qy none [readableFile (P ++ [x])]) = .records none n ls) :
    ∃ w₀, followAnswerOf F fmt (some (.ran (runFollowAllT F.eval qy none P))) = .ran none w₀ ∧
      (lineShown F.eval qy a x → w = w₀ ++ TermItem.clear :: ls.map TermItem.line) ∧
      (¬ lineShown F.eval qy a x → w = w₀ ∧
        ∃ n', answerOf F fmt single (runBatchT F.eval qy none [readableFile P]) = .records none n' ls) := by
  obtain ⟨tf, htf, hfs, hfr, hfe, hfw⟩ := followAnswerOf_eq_ran F fmt _ none w hf
  simp only [Option.some.injEq, FollowRun.ran.injEq] at htf
  subst htf
  obtain ⟨hbs, hbr, hbe, _, hbl⟩ := answerOf_eq_records F fmt single _ none n ls hb
  have hff : hasFailed (runFollowAllT F.eval qy none (P ++ [x])).out = false :=
    NoSkipEngine.not_failed_of_clean ⟨hfe.symm, runFollowAllT_no_panic _ _ _ _, hfs⟩
  have hbf : hasFailed (runBatchT F.eval qy none [readableFile (P ++ [x])]).out = false :=
    NoSkipEngine.not_failed_of_clean ⟨hbe.symm, runBatchT_no_panic _ _ _ _, hbs⟩
  obtain ⟨hpf, r, hbc, hshown, hnot⟩ := followT_agg_step F.eval qy a hq hj hlim none P x hff hbf hex
  simp only [show ∀ ls, asFile ls = readableFile ls from fun _ => rfl] at hbc hnot
  have hls : ls = ((Print.printResult (realOracle F) fmt true (toResultRow r) true).1).map Print.Line.bytes := by
    rw [hbl, hbc]
    simp [printCalls, Print.printAll]
  obtain ⟨he, _, hsk⟩ := NoSkipEngine.clean_of_not_failed hpf
  have hpre_ok : (runFollowAllT F.eval qy none P).calls <+: (runFollowAllT F.eval qy none (P ++ [x])).calls →
      followAnswerOf F fmt (some (.ran (runFollowAllT F.eval qy none P))) =
        .ran none (termItems (realOracle F) fmt true (runFollowAllT F.eval qy none P).calls) := by
    intro hcalls
    rw [followAnswerOf_ran F fmt _ (runFollowAllT_no_panic _ _ _ _) (runFollowAllT_aligned _ _ _ _) hsk
      (realsCover_prefix F hcalls hfr), he]
  by_cases hs : lineShown F.eval qy a x
  · have hcalls := hshown hs
    refine ⟨_, hpre_ok (by rw [hcalls]; exact List.prefix_append _ _), fun _ => ?_, fun hns => absurd hs hns⟩
    rw [hfw, hcalls, termItems_append]
    congr 1
    simp only [termItems, if_true, List.append_nil, List.singleton_append, Bool.true_or]
    rw [hls, List.map_map]
    rfl
  · obtain ⟨hcalls, hbc', hbf'⟩ := hnot hs
    refine ⟨_, hpre_ok (by rw [hcalls]; exact List.prefix_refl _), fun hs' => absurd hs' hs,
      fun _ => ⟨by rw [hfw, hcalls], (runBatchT F.eval qy none [readableFile P]).out.totalLines, ?_⟩⟩
    obtain ⟨he', _, hsk'⟩ := NoSkipEngine.clean_of_not_failed hbf'
    rw [answerOf_records F fmt single _ (runBatchT_no_panic _ _ _ _) (runBatchT_aligned _ _ _ _) hsk'
      (by rw [hbc', ← hbc]; exact hbr), he', hbc', hls]
    simp [printCalls, Print.printAll]

/-- **The k-th delivered line and the screen** (C11 at program level, aggregate statements). Definition text and
aggregate query text without join and without LIMIT, any output format (text, JSON, CSV); `pre ++ [l]` the lines delivered so far, all
read as the same texts by the batch reader; follow mode over them ends `Ok` having written `w`; the batch program over
the one file holding them ends `Ok` having printed `ls`; the GROUP BY keys seen are exact (else D60). Then follow mode
over the first k−1 lines ended `Ok` too, having written `w₀`, and
* if the k-th line is shown (admitted, and WHERE admits its row): `w` is `w₀`, a clear of the screen, and exactly the
  lines `ls` — the screen after the k-th line is the batch output over the first k lines;
* otherwise nothing was written for it, and the batch output over the first k−1 lines is `ls` already.
Applied to every prefix: every screen follow mode ever shows is the batch output over the lines consumed up to it, and
the last screen is the batch output over all delivered lines up to the last one that is shown. -/
theorem follow_screen_is_batch_output (F : Facts) (defsText queryText : List Char) (fmt : Print.Format) (single : Bool)
    (pre : List (List Nat)) (l : List Nat) (hplain : ∀ x ∈ pre ++ [l], PlainLine x)
    (defs : LStmt) (tables : List Table) (a : AggStmt) (fromTable : String) (file : Option String) (t : Table)
    (hc : classesCover F defsText = true ∧ classesCover F queryText = true)
    (hd : parseText (lexOracles F) (regexValidFn F) defsText = .stmt defs)
    (hp : (createPatterns defs).all (fun re => ((Utf8.decode re).bind (regexValidOf F)).isSome) = true)
    (hq : parseText (lexOracles F) (regexValidFn F) queryText = .stmt (.aggregate a fromTable file none))
    (ht : addTables defs = some tables) (hg : getTable tables fromTable = some t) (hlim : a.limit = none)
    (hex : KeysExact (groupKeysOf F.eval a (followEnvs t.info ((pre ++ [l]).map (extractedLine F t.defn)))))
    (w : List TermItem) (hf : followLines F defsText queryText fmt (pre ++ [l]) none = .ran none w)
    (n : Nat) (ls : List Print.Bytes)
    (hb : runText F defsText queryText fmt single [wire (pre ++ [l])] = .records none n ls) :
    ∃ w₀, followLines F defsText queryText fmt pre none = .ran none w₀ ∧
      (lineShown F.eval { stmt := .aggregate a, table := t.info, join := none } a (extractedLine F t.defn l) →
        w = w₀ ++ TermItem.clear :: ls.map TermItem.line) ∧
      (¬ lineShown F.eval { stmt := .aggregate a, table := t.info, join := none } a (extractedLine F t.defn l) →
        w = w₀ ∧ ∃ n', runText F defsText queryText fmt single [wire pre] = .records none n' ls) := by
  have hplain' : ∀ x ∈ pre, PlainLine x := fun x hx => hplain x (by simp [hx])
  have hfront := front_eq_run_iff.2 ⟨defs, _, hc, hd, hp, hq, ht, rfl⟩
  rw [followLines_of_front hfront,
    followStatement_plain F tables _ fromTable t hg _ (fun x hx => (hplain x hx).2.1)] at hf
  rw [runText_of_front hfront,
    runStatement_wire F tables _ fromTable t hg _ hplain] at hb
  by_cases hcov : (pre ++ [l]).all (factsCover F t.defn) = true
  · have hcov' : pre.all (factsCover F t.defn) = true := by
      rw [List.all_append, Bool.and_eq_true] at hcov; exact hcov.1
    rw [if_pos hcov, List.map_append, List.map_cons, List.map_nil] at hf hb
    rw [List.map_append, List.map_cons, List.map_nil] at hex
    obtain ⟨w₀, h0, h1, h2⟩ := agg_screen_step F fmt single { stmt := .aggregate a, table := t.info, join := none } a rfl rfl
      hlim _ _ hex w hf n ls hb
    refine ⟨w₀, ?_, h1, fun hs => ⟨(h2 hs).1, ?_⟩⟩
    · rw [followLines_of_front hfront,
        followStatement_plain F tables _ fromTable t hg _ (fun x hx => (hplain' x hx).2.1), if_pos hcov']
      exact h0
    · obtain ⟨n', hn'⟩ := (h2 hs).2
      refine ⟨n', ?_⟩
      rw [runText_of_front hfront,
        runStatement_wire F tables _ fromTable t hg _ hplain', if_pos hcov']
      exact hn'
  · rw [if_neg hcov] at hf
    simp [followAnswerOf] at hf

/-- **… in the words of the sentence**: when the k-th delivered line is shown, the screen follow mode shows after it — the
last screen of what it has written — is exactly the output of the batch program over the first k lines; in particular
the final screen of a follow run whose last delivered line is shown is the batch output over all delivered lines -/
theorem shown_line_screen_is_batch_output (F : Facts) (defsText queryText : List Char) (fmt : Print.Format) (single : Bool)
    (pre : List (List Nat)) (l : List Nat) (hplain : ∀ x ∈ pre ++ [l], PlainLine x)
    (defs : LStmt) (tables : List Table) (a : AggStmt) (fromTable : String) (file : Option String) (t : Table)
    (hc : classesCover F defsText = true ∧ classesCover F queryText = true)
    (hd : parseText (lexOracles F) (regexValidFn F) defsText = .stmt defs)
    (hp : (createPatterns defs).all (fun re => ((Utf8.decode re).bind (regexValidOf F)).isSome) = true)
    (hq : parseText (lexOracles F) (regexValidFn F) queryText = .stmt (.aggregate a fromTable file none))
    (ht : addTables defs = some tables) (hg : getTable tables fromTable = some t) (hlim : a.limit = none)
    (hex : KeysExact (groupKeysOf F.eval a (followEnvs t.info ((pre ++ [l]).map (extractedLine F t.defn)))))
    (w : List TermItem) (hf : followLines F defsText queryText fmt (pre ++ [l]) none = .ran none w)
    (n : Nat) (ls : List Print.Bytes)
    (hb : runText F defsText queryText fmt single [wire (pre ++ [l])] = .records none n ls)
    (hs : lineShown F.eval { stmt := .aggregate a, table := t.info, join := none } a (extractedLine F t.defn l)) :
    (screens w).getLast? = some ls := by
  obtain ⟨w₀, _, h1, _⟩ := follow_screen_is_batch_output F defsText queryText fmt single pre l hplain defs tables a fromTable
    file t hc hd hp hq ht hg hlim hex w hf n ls hb
  rw [h1 hs]
  exact (screens_last_after_clear w₀ ls).1

/-- **Every screen is a batch output** (C11 at program level, all prefixes at once). Aggregate query text without join and
LIMIT, any format; `ls` the delivered lines, all read as the same texts by the batch reader; follow mode over them ends
`Ok` having written `w`; for every k from 1 to the number of lines the batch program over the file holding the first k
lines ends `Ok` and prints `B k`; exact GROUP BY keys. Then nothing is written before the first clear, and EVERY screen
follow mode has shown is `B k` for some k — the output of the batch program over the prefix of lines consumed when the
screen was drawn. -/
theorem follow_screens_are_batch_outputs (F : Facts) (defsText queryText : List Char) (fmt : Print.Format) (single : Bool)
    (ls : List (List Nat)) (hplain : ∀ x ∈ ls, PlainLine x)
    (defs : LStmt) (tables : List Table) (a : AggStmt) (fromTable : String) (file : Option String) (t : Table)
    (hc : classesCover F defsText = true ∧ classesCover F queryText = true)
    (hd : parseText (lexOracles F) (regexValidFn F) defsText = .stmt defs)
    (hp : (createPatterns defs).all (fun re => ((Utf8.decode re).bind (regexValidOf F)).isSome) = true)
    (hq : parseText (lexOracles F) (regexValidFn F) queryText = .stmt (.aggregate a fromTable file none))
    (ht : addTables defs = some tables) (hg : getTable tables fromTable = some t) (hlim : a.limit = none)
    (hex : KeysExact (groupKeysOf F.eval a (followEnvs t.info (ls.map (extractedLine F t.defn)))))
    (B : Nat → List Print.Bytes)
    (hb : ∀ k, 1 ≤ k → k ≤ ls.length → ∃ n, runText F defsText queryText fmt single [wire (ls.take k)] = .records none n (B k))
    (w : List TermItem) (hf : followLines F defsText queryText fmt ls none = .ran none w) :
    (screens w).head? = some [] ∧ ∀ s ∈ (screens w).tail, ∃ k, 1 ≤ k ∧ k ≤ ls.length ∧ s = B k := by
  have hfront := front_eq_run_iff.2 ⟨defs, _, hc, hd, hp, hq, ht, rfl⟩
  have key : ∀ m, m ≤ ls.length → ∀ w, followLines F defsText queryText fmt (ls.take m) none = .ran none w →
      (screens w).head? = some [] ∧ ∀ s ∈ (screens w).tail, ∃ k, 1 ≤ k ∧ k ≤ m ∧ s = B k := by
    intro m
    induction m with
    | zero =>
      intro _ w hw
      rw [List.take_zero, followLines_of_front hfront,
        followStatement_plain F tables _ fromTable t hg _ (fun x hx => by cases hx)] at hw
      simp only [List.all_nil, if_true, List.map_nil] at hw
      obtain ⟨tf, htf, _, _, _, hfw⟩ := followAnswerOf_eq_ran F fmt _ none w hw
      simp only [Option.some.injEq, FollowRun.ran.injEq] at htf
      subst htf
      have : (runFollowAllT F.eval { stmt := .aggregate a, table := t.info, join := none } none []).calls = [] := by
        unfold runFollowAllT; split <;> rfl
      rw [hfw, this]
      exact ⟨rfl, fun s hs => by cases hs⟩
    | succ m ih =>
      intro hm w hw
      have htake : ls.take (m + 1) = ls.take m ++ [ls[m]] := List.take_succ_eq_append_getElem hm
      rw [htake] at hw
      obtain ⟨n, hbm⟩ := hb (m + 1) (by omega) hm
      rw [htake] at hbm
      have hpl : ∀ x ∈ ls.take m ++ [ls[m]], PlainLine x := by
        intro x hx; rw [← htake] at hx; exact hplain x (List.mem_of_mem_take hx)
      have hexm : KeysExact (groupKeysOf F.eval a (followEnvs t.info ((ls.take m ++ [ls[m]]).map (extractedLine F t.defn)))) := by
        -- the keys of the first lines come first among the keys of all lines
        refine hex.mono fun k hk => ?_
        rw [← htake] at hk
        rw [← List.take_append_drop (m + 1) ls, List.map_append, followEnvs_append, groupKeysOf, List.filterMap_append]
        exact List.mem_append_left _ hk
      obtain ⟨w₀, hw₀, hshown, hnot⟩ := follow_screen_is_batch_output F defsText queryText fmt single (ls.take m) ls[m] hpl
        defs tables a fromTable file t hc hd hp hq ht hg hlim hexm w hw n (B (m + 1)) hbm
      obtain ⟨ih1, ih2⟩ := ih (by omega) w₀ hw₀
      by_cases hs : lineShown F.eval { stmt := .aggregate a, table := t.info, join := none } a (extractedLine F t.defn ls[m])
      · -- one more screen after those of `w₀`, of which there is at least the one before the first clear
        rw [hshown hs, screens_append_clear, List.head?_append, List.tail_append_of_ne_nil (screens_ne_nil _)]
        refine ⟨by rw [ih1]; rfl, fun s hs' => ?_⟩
        rcases List.mem_append.1 hs' with h1 | h1
        · obtain ⟨k, hk1, hk2, hk3⟩ := ih2 s h1
          exact ⟨k, hk1, by omega, hk3⟩
        · exact ⟨m + 1, by omega, by omega, List.mem_singleton.1 h1⟩
      · rw [(hnot hs).1]
        refine ⟨ih1, fun s hs' => ?_⟩
        obtain ⟨k, hk1, hk2, hk3⟩ := ih2 s hs'
        exact ⟨k, hk1, by omega, hk3⟩
  have := key ls.length (Nat.le_refl _) w (by rw [List.take_length]; exact hf)
  exact this

/-- **… over `followText`**: an uninterrupted schedule that ends caught up (any chunking, any polls) is the run over all
complete lines of the followed content — so `follow_screen_is_batch_output`, `follow_screens_are_batch_outputs` and
`follow_select_prints_batch_output` speak about `followText` with `ls` = those lines -/
theorem quiescent_followText_is_run_over_complete_lines (F : Facts) (defsText queryText : List Char) (fmt : Print.Format)
    (head : Bool) (initial : List Nat) (ops : List FollowOp) (ks : List Nat) (hi : FollowOp.interrupt ∉ ops)
    (hn : pending (Props.C10.reached initial head followCap (readerOps ops)) ≤ ks.length) :
    followText F defsText queryText fmt head initial (ops ++ ks.map .poll) =
      followLines F defsText queryText fmt (completeLines (followedContent head initial ops)) none := by
  have n₁ : FollowOp.interrupt ∉ ops ++ ks.map FollowOp.poll := by simp [hi]
  unfold followText
  rw [deliveredBy_quiescent head initial ops ks hi hn, interruptPoint_none _ _ _ n₁]

/-- failure agreement at the k-th line at the level of the two runs (`qy` an aggregate query without join and LIMIT) -/
theorem agg_failure_step (F : Facts) (fmt : Print.Format) (single : Bool) (qy : Query) (a : AggStmt)
    (hq : qy.stmt = .aggregate a) (hj : qy.join = none) (hlim : a.limit = none) (P : List Line) (x : Line)
    (hadm : Sqlgrep.anyResult x.row = true) {sf sf1 sb : AggState} {ts0 : List RowOut}
    (hF : followTables F.eval a (followEnvs qy.table P) {} = .ok (sf, ts0))
    (hupd : aggUpdateRow F.eval a sf (lineEnv qy.table x) = .ok (sf1, true))
    (hB : aggRun F.eval a (followEnvs qy.table (P ++ [x])) {} = .ok sb)
    (hex : KeysExact (groupKeysOf F.eval a (followEnvs qy.table (P ++ [x]))))
    (w₀ : List TermItem) (hw₀ : followAnswerOf F fmt (some (.ran (runFollowAllT F.eval qy none P))) = .ran none w₀)
    (e : ErrKind) :
    followAnswerOf F fmt (some (.ran (runFollowAllT F.eval qy none (P ++ [x])))) = .ran (some e) w₀ ↔
      ∃ n, answerOf F fmt single (runBatchT F.eval qy none [readableFile (P ++ [x])]) = .records (some e) n [] := by
  -- the run over the first k-1 lines: its calls are the tables shown, with all renderings shipped
  obtain ⟨tp, htp, _, hrp, _, hwp⟩ := followAnswerOf_eq_ran F fmt _ none w₀ hw₀
  simp only [Option.some.injEq, FollowRun.ran.injEq] at htp
  subst htp
  rw [runFollowAllT_agg F.eval qy a hq hj hlim P hF] at hrp hwp
  simp only at hrp hwp
  have hagree : endStatus (runFollowAllT F.eval qy none (P ++ [x])).out =
      endStatus (runBatchT F.eval qy none [readableFile (P ++ [x])]).out :=
    followT_agg_step_status F.eval qy a hq hj hlim none P x hadm hF hupd hB hex
  simp only [endStatus, Prod.mk.injEq] at hagree
  constructor
  · intro h
    obtain ⟨tf, htf, hfs, _, hfe, _⟩ := followAnswerOf_eq_ran F fmt _ (some e) w₀ h
    simp only [Option.some.injEq, FollowRun.ran.injEq] at htf
    subst htf
    have hbe : (runBatchT F.eval qy none [readableFile (P ++ [x])]).out.error = some e := by
      rw [← hagree.1]; exact hfe.symm
    have hbs : (runBatchT F.eval qy none [readableFile (P ++ [x])]).out.skipped = none := by
      rw [← hagree.2.2]; exact hfs
    have hbc := runBatchT_agg_failed_calls F.eval qy a hq hj none [readableFile (P ++ [x])] (by simp [hasFailed, hbe])
    refine ⟨(runBatchT F.eval qy none [readableFile (P ++ [x])]).out.totalLines, ?_⟩
    rw [answerOf_records F fmt single _ (runBatchT_no_panic _ _ _ _) (runBatchT_aligned _ _ _ _) hbs (by rw [hbc]; rfl),
      hbe, hbc]
    rfl
  · rintro ⟨n, h⟩
    obtain ⟨hbs, _, hbe, _, _⟩ := answerOf_eq_records F fmt single _ (some e) n [] h
    have hfe : (runFollowAllT F.eval qy none (P ++ [x])).out.error = some e := by
      rw [hagree.1]; exact hbe.symm
    have hfs : (runFollowAllT F.eval qy none (P ++ [x])).out.skipped = none := by
      rw [hagree.2.2]; exact hbs
    -- the follow run carries the error: the step for the k-th line failed, nothing more was handed to the printer
    have hc' := followT_agg_snoc_failed_calls F.eval qy a hq hj hlim P x hadm hF e hfe
    rw [followAnswerOf_ran F fmt _ (runFollowAllT_no_panic _ _ _ _) (runFollowAllT_aligned _ _ _ _) hfs
      (by rw [hc']; exact hrp), hfe, hc', hwp]

/-- **Failure agreement at the k-th line — the result step** (C11 at program level; partial). The first k−1 delivered
lines were fed without failure (follow mode over them ended `Ok`, having written `w₀`), the k-th line is admitted and
`execute_update` accepts it in follow mode, and `execute_update` succeeds on all k lines in batch mode. Then
`execute_result` fails for the k-th line in follow mode iff the final result of the batch program over the first k lines
fails, with the SAME error — follow mode then has written `w₀` and nothing more, the batch program prints nothing.
FULL statement wanted: "follow mode reports an error at line k iff the batch program over the first k lines does", with
no hypothesis on the updates (`hupd`, `hB`). Missing: the UPDATE step — that `execute_update` fails on the follow-mode
state iff it fails on the batch-mode state. The two states differ in published PERCENTILE values only (`Sim2`,
`Lemmas/AggFollowSim.lean`); `cellStep_sim` gives the direction follow ⇒ batch for one cell, the lift through
`updateAggregates` / `havingUpdates` and the converse direction are not proved. -/
theorem follow_table_failure_is_batch_table_failure_partial (F : Facts) (defsText queryText : List Char) (fmt : Print.Format)
    (single : Bool) (pre : List (List Nat)) (l : List Nat) (hplain : ∀ x ∈ pre ++ [l], PlainLine x)
    (defs : LStmt) (tables : List Table) (a : AggStmt) (fromTable : String) (file : Option String) (t : Table)
    (hc : classesCover F defsText = true ∧ classesCover F queryText = true)
    (hd : parseText (lexOracles F) (regexValidFn F) defsText = .stmt defs)
    (hp : (createPatterns defs).all (fun re => ((Utf8.decode re).bind (regexValidOf F)).isSome) = true)
    (hq : parseText (lexOracles F) (regexValidFn F) queryText = .stmt (.aggregate a fromTable file none))
    (ht : addTables defs = some tables) (hg : getTable tables fromTable = some t) (hlim : a.limit = none)
    (hcov : (pre ++ [l]).all (factsCover F t.defn) = true)
    (hadm : Sqlgrep.anyResult (extractedLine F t.defn l).row = true)
    {sf sf1 sb : AggState} {ts0 : List RowOut}
    (hF : followTables F.eval a (followEnvs t.info (pre.map (extractedLine F t.defn))) {} = .ok (sf, ts0))
    (hupd : aggUpdateRow F.eval a sf (lineEnv t.info (extractedLine F t.defn l)) = .ok (sf1, true))
    (hB : aggRun F.eval a (followEnvs t.info ((pre ++ [l]).map (extractedLine F t.defn))) {} = .ok sb)
    (hex : KeysExact (groupKeysOf F.eval a (followEnvs t.info ((pre ++ [l]).map (extractedLine F t.defn)))))
    (w₀ : List TermItem) (hw₀ : followLines F defsText queryText fmt pre none = .ran none w₀) (e : ErrKind) :
    followLines F defsText queryText fmt (pre ++ [l]) none = .ran (some e) w₀ ↔
      ∃ n, runText F defsText queryText fmt single [wire (pre ++ [l])] = .records (some e) n [] := by
  have hplain' : ∀ x ∈ pre, PlainLine x := fun x hx => hplain x (by simp [hx])
  have hcov' : pre.all (factsCover F t.defn) = true := by
    rw [List.all_append, Bool.and_eq_true] at hcov; exact hcov.1
  have hfront := front_eq_run_iff.2 ⟨defs, _, hc, hd, hp, hq, ht, rfl⟩
  rw [followLines_of_front hfront,
    followStatement_plain F tables _ fromTable t hg _ (fun x hx => (hplain' x hx).2.1), if_pos hcov'] at hw₀
  rw [followLines_of_front hfront,
    followStatement_plain F tables _ fromTable t hg _ (fun x hx => (hplain x hx).2.1), if_pos hcov,
    runText_of_front hfront,
    runStatement_wire F tables _ fromTable t hg _ hplain, if_pos hcov]
  simp only [answerOfOpt, List.map_append, List.map_cons, List.map_nil]
  rw [List.map_append, List.map_cons, List.map_nil] at hB hex
  exact agg_failure_step F fmt single { stmt := .aggregate a, table := t.info, join := none } a rfl rfl hlim _ _ hadm hF hupd
    hB hex w₀ hw₀ e

/-- **An interrupted follow run is the run over the lines delivered before the interrupt** (C19, on delivered lines):
the loop finds the flag cleared when it is handed the next line, so no further line is executed (nor are facts about
later lines needed); the answer is the answer of the uninterrupted program over exactly the first `k` delivered lines -/
theorem interrupt_is_run_over_lines_delivered_before (F : Facts) (defsText queryText : List Char) (fmt : Print.Format)
    (dl : List (List Nat)) (k : Nat) :
    followLines F defsText queryText fmt dl (some k) = followLines F defsText queryText fmt (dl.take k) none := by
  rw [followLines_eq_front, followLines_eq_front]
  refine Front.answer_rel (· = ·) (fun _ => rfl) _ fun tables stmt fromTable join _ => ?_
  cases join with
  | some j => rfl
  | none =>
    cases hg : getTable tables fromTable with
    | none =>
      rw [followStatement_undefined F tables stmt fromTable dl _ hg, followStatement_undefined F tables stmt fromTable _ _ hg,
        followNoTable_stopAt, List.length_take]
    | some t =>
      rw [followStatement_defined F tables stmt fromTable dl _ t hg, followStatement_defined F tables stmt fromTable _ _ t hg]
      simp only [handedLines]
      cases hm : (dl.take k).mapM (mkFollowLine F t.defn) with
      | none => rfl
      | some ls =>
        simp only [Option.map_some]
        rw [runFollowAllT_stopAt]
        have hlen : ls.length ≤ k := by
          have h1 := mapM_length _ _ _ hm
          rw [h1, List.length_take]
          exact Nat.min_le_left _ _
        rw [List.take_of_length_le hlen]

/-- follow mode over the first `k` of the lines against follow mode over all of them: it has written a prefix, and it
ended `Ok` or, having failed, is already the whole run -/
theorem followLines_take_prefix (F : Facts) (defsText queryText : List Char) (fmt : Print.Format)
    (dl : List (List Nat)) (k : Nat) (e e' : Option ErrKind) (w w' : List TermItem)
    (hi : followLines F defsText queryText fmt (dl.take k) none = .ran e w)
    (hu : followLines F defsText queryText fmt dl none = .ran e' w') :
    w <+: w' ∧ (e = none ∨ (e = e' ∧ w = w')) := by
  revert e e' w w' hi hu
  rw [followLines_eq_front, followLines_eq_front]
  refine Front.answer_rel (fun x y : FollowAnswer => ∀ e e' w w', x = .ran e w → y = .ran e' w' →
    w <+: w' ∧ (e = none ∨ (e = e' ∧ w = w'))) (fun a e e' w w' h1 h2 => ?_) _ fun tables stmt fromTable join _ e e' w w' h1 h2 => ?_
  · cases h1.symm.trans h2
    exact ⟨List.prefix_refl _, .inr ⟨rfl, rfl⟩⟩
  obtain ⟨t1, ht1, _, _, he1, hw1⟩ := followAnswerOf_eq_ran F fmt _ e w h1
  obtain ⟨t2, ht2, _, _, he2, hw2⟩ := followAnswerOf_eq_ran F fmt _ e' w' h2
  -- it has handed the printer a prefix of the tables, and once it has failed it is the whole run
  suffices h : t1.calls <+: t2.calls ∧ (t1.out.error = none ∨ t1 = t2) by
    rw [hw1, hw2, he1, he2]
    exact ⟨termItems_prefix _ _ _ h.1, h.2.imp id fun h => by rw [h]; exact ⟨rfl, rfl⟩⟩
  cases join with
  | some j => simp [followStatement] at ht1
  | none =>
    cases hg : getTable tables fromTable with
    | none =>
      rw [followStatement_undefined F tables stmt fromTable _ _ hg] at ht1 ht2
      simp only [Option.some.injEq, FollowRun.ran.injEq] at ht1 ht2
      subst ht1; subst ht2
      rcases followNoTable_of_le stmt fromTable (List.length_take_le' k dl) with h | h
      · rw [h]; exact ⟨List.nil_prefix, .inl rfl⟩
      · rw [h]; exact ⟨List.prefix_refl _, .inr rfl⟩
    | some t =>
      rw [followStatement_defined F tables stmt fromTable _ _ t hg] at ht1 ht2
      simp only [handedLines] at ht1 ht2
      cases hm : dl.mapM (mkFollowLine F t.defn) with
      | none => rw [hm] at ht2; cases ht2
      | some ls =>
        rw [hm] at ht2
        rw [mapM_take _ dl ls k hm] at ht1
        simp only [Option.map_some, Option.some.injEq, FollowRun.ran.injEq] at ht1 ht2
        subst ht1; subst ht2
        generalize ({ stmt := stmt, table := t.info, join := none } : Query) = qy
        refine ⟨?_, ?_⟩
        · rw [← runFollowAllT_stopAt]
          exact runFollowAllT_calls_prefix F.eval qy k ls
        · cases hx : (runFollowAllT F.eval qy none (ls.take k)).out.error with
          | none => exact .inl rfl
          | some kind => exact .inr (runFollowAllT_take_failed F.eval qy k ls (by simp [hasFailed, hx]))

/-- **What an interrupted run has written is a prefix of what the uninterrupted run writes, and the interrupt adds no
error** (C19, on delivered lines): with `.ran e w` the answer when the flag is found cleared after `k` delivered lines
and `.ran e' w'` the answer without interrupt, `w` is a prefix of `w'` — for an aggregate statement a prefix of the
sequence of screens, each complete — and either the interrupted run ended `Ok`, or it had already ended on its own
with the very error (and output) of the uninterrupted run. -/
theorem interrupted_output_is_a_prefix (F : Facts) (defsText queryText : List Char) (fmt : Print.Format)
    (dl : List (List Nat)) (k : Nat) (e e' : Option ErrKind) (w w' : List TermItem)
    (hi : followLines F defsText queryText fmt dl (some k) = .ran e w)
    (hu : followLines F defsText queryText fmt dl none = .ran e' w') :
    w <+: w' ∧ (e = none ∨ (e = e' ∧ w = w')) := by
  rw [interrupt_is_run_over_lines_delivered_before] at hi
  exact followLines_take_prefix F defsText queryText fmt dl k e e' w w' hi hu

/-- **The interrupt of a schedule** (C19 over `followText`). `pre` is a schedule without interrupt; then the user
interrupts; `rest` is whatever happens afterwards (appends, polls, further interrupts). What had been delivered stays
delivered, the flag is found cleared after exactly the lines `pre` had delivered, and the answer of the program is the
answer of the program over the schedule `pre` alone: no further input line is executed, everything written is what had
been written when the interrupt came, no error is added. -/
theorem interrupted_follow_run_is_the_run_so_far (F : Facts) (defsText queryText : List Char) (fmt : Print.Format) (head : Bool)
    (initial : List Nat) (pre rest : List FollowOp) (hi : FollowOp.interrupt ∉ pre) :
    deliveredBy head initial pre <+: deliveredBy head initial (pre ++ FollowOp.interrupt :: rest) ∧
    interruptPoint head initial (pre ++ FollowOp.interrupt :: rest) = some (deliveredBy head initial pre).length ∧
    followText F defsText queryText fmt head initial (pre ++ FollowOp.interrupt :: rest) =
      followText F defsText queryText fmt head initial pre := by
  have hp := deliveredBy_stable head initial pre (FollowOp.interrupt :: rest) hi
  have hk := interruptPoint_split head initial pre rest hi
  refine ⟨hp, hk, ?_⟩
  unfold followText
  rw [hk, interruptPoint_none head initial pre hi, interrupt_is_run_over_lines_delivered_before,
    ← List.prefix_iff_eq_take.1 hp]

/-- **… against the uninterrupted schedule** (C19 over `followText`): with `.ran e w` the answer of the interrupted
schedule `pre ++ interrupt :: rest` and `.ran e' w'` the answer of the same schedule without the interrupt,
`pre ++ rest`: `w` is a prefix of `w'` (for an aggregate statement: a prefix of its sequence of complete screens) and the
interrupted run ended `Ok` — or had already ended on its own, with the error and the output of the uninterrupted run. -/
theorem interrupted_follow_output_is_a_prefix (F : Facts) (defsText queryText : List Char) (fmt : Print.Format) (head : Bool)
    (initial : List Nat) (pre rest : List FollowOp) (hi : FollowOp.interrupt ∉ pre) (hr : FollowOp.interrupt ∉ rest)
    (e e' : Option ErrKind) (w w' : List TermItem)
    (h1 : followText F defsText queryText fmt head initial (pre ++ FollowOp.interrupt :: rest) = .ran e w)
    (h2 : followText F defsText queryText fmt head initial (pre ++ rest) = .ran e' w') :
    w <+: w' ∧ (e = none ∨ (e = e' ∧ w = w')) := by
  rw [(interrupted_follow_run_is_the_run_so_far F defsText queryText fmt head initial pre rest hi).2.2] at h1
  have hp := deliveredBy_stable head initial pre rest hi
  have hn : FollowOp.interrupt ∉ pre ++ rest := by simp [hi, hr]
  unfold followText at h1 h2
  rw [interruptPoint_none head initial pre hi] at h1
  rw [interruptPoint_none head initial _ hn] at h2
  rw [List.prefix_iff_eq_take.1 hp] at h1
  exact followLines_take_prefix F defsText queryText fmt _ _ e e' w w' h1 h2

/-- **An interrupted follow run returns** (C19 "stops promptly", in the model; /repo caa9e23 = the repair of D70). After
the interrupt the iterator looks at the flag whenever it finds no complete line: if the schedule goes on with more polls
than there were bytes pending — the file may stay idle for ever —, `next()` has returned `None`, `execute` has returned
`Ok`, and the answer is the one of `interrupted_follow_run_is_the_run_so_far`. (The schedule model has no time: "promptly"
is "within the polls that drain what is pending, plus one"; before caa9e23 the iterator never looked at the flag and
`iteratorEnded` would be false on every idle continuation.) -/
theorem interrupted_follow_run_returns (F : Facts) (defsText queryText : List Char) (fmt : Print.Format) (head : Bool)
    (initial : List Nat) (pre : List FollowOp) (ks : List Nat) (hi : FollowOp.interrupt ∉ pre)
    (hn : pending (Props.C10.reached initial head followCap (readerOps pre)) < ks.length) :
    iteratorEnded head initial (pre ++ FollowOp.interrupt :: ks.map FollowOp.poll) = true ∧
    interruptedRunReturned head initial (pre ++ FollowOp.interrupt :: ks.map FollowOp.poll) = true ∧
    followText F defsText queryText fmt head initial (pre ++ FollowOp.interrupt :: ks.map FollowOp.poll) =
      followText F defsText queryText fmt head initial pre := by
  have h := iteratorEnded_after_interrupt head initial pre ks hi hn
  refine ⟨h, ?_, (interrupted_follow_run_is_the_run_so_far F defsText queryText fmt head initial pre _ hi).2.2⟩
  unfold interruptedRunReturned
  rw [h]
  rfl

/-- **Delivered lines that yield no row are invisible** (C06 at program level, follow mode). `ns` are delivered lines
whose text is known, whose facts are shipped and for which `Extract.admitted` is false for the FROM table `t`
(`noRowFollow`); inserted anywhere into what is delivered they change nothing: the same screens / records in every
format, the same status. (The table must be defined: see `Props/PipelineLines.lean`.) -/
theorem follow_noise_lines_invisible (F : Facts) (defsText queryText : List Char) (fmt : Print.Format)
    (a ns b : List (List Nat)) (t : Table) (ht : queriedTable F defsText queryText = some t)
    (hnoise : ∀ l ∈ ns, noRowFollow F t.defn l = true) :
    followLines F defsText queryText fmt (a ++ ns ++ b) none = followLines F defsText queryText fmt (a ++ b) none := by
  rw [followLines_eq_front, followLines_eq_front]
  refine Front.answer_rel (· = ·) (fun _ => rfl) _ fun tables stmt fromTable join hf => ?_
  rw [queriedTable_of_front hf] at ht
  cases join with
  | some j => rfl
  | none =>
    rw [followStatement_defined F tables stmt fromTable _ _ t ht, followStatement_defined F tables stmt fromTable _ _ t ht]
    simp only [handedLines]
    rcases mapM_noise F t.defn a ns b hnoise with ⟨h1, h2⟩ | ⟨x, y, h1, h2, h3⟩
    · rw [h1, h2]
    · rw [h1, h2]
      simp only [Option.map_some]
      obtain ⟨c1, o1⟩ := runFollowAllT_noise F.eval { stmt := stmt, table := t.info, join := none } x
      obtain ⟨c2, o2⟩ := runFollowAllT_noise F.eval { stmt := stmt, table := t.info, join := none } y
      rw [h3] at c1 o1
      have hc := c1.symm.trans c2
      have ho := o1.symm.trans o2
      unfold followAnswerOf
      simp only [hc, ho.error, ho.panicked, ho.skipped]

/-- **… stated on the followed bytes**: two uninterrupted, caught-up schedules (any chunking, any polls) whose followed
contents are `wire a ++ wire ns ++ rest` and `wire a ++ rest` — whole lines `ns` that yield no row inserted at a line
boundary of what is followed — give the same answer -/
theorem noise_in_followed_bytes_invisible (F : Facts) (defsText queryText : List Char) (fmt : Print.Format) (head : Bool)
    (initial₁ initial₂ : List Nat) (ops₁ ops₂ : List FollowOp) (a ns : List (List Nat)) (rest : List Nat) (t : Table)
    (ht : queriedTable F defsText queryText = some t) (hnoise : ∀ l ∈ ns, noRowFollow F t.defn l = true)
    (ha : ∀ l ∈ a, nl ∉ l) (hns : ∀ l ∈ ns, nl ∉ l)
    (hc₁ : followedContent head initial₁ ops₁ = wire a ++ wire ns ++ rest)
    (hc₂ : followedContent head initial₂ ops₂ = wire a ++ rest)
    (hd₁ : deliveredBy head initial₁ ops₁ = completeLines (followedContent head initial₁ ops₁))
    (hd₂ : deliveredBy head initial₂ ops₂ = completeLines (followedContent head initial₂ ops₂))
    (hi₁ : FollowOp.interrupt ∉ ops₁) (hi₂ : FollowOp.interrupt ∉ ops₂) :
    followText F defsText queryText fmt head initial₁ ops₁ = followText F defsText queryText fmt head initial₂ ops₂ := by
  unfold followText
  rw [hd₁, hd₂, hc₁, hc₂, interruptPoint_none _ _ _ hi₁, interruptPoint_none _ _ _ hi₂,
    List.append_assoc, completeLines_wire_append a _ ha, completeLines_wire_append ns _ hns, completeLines_wire_append a _ ha,
    ← List.append_assoc]
  exact follow_noise_lines_invisible F defsText queryText fmt a ns (completeLines rest) t ht hnoise

/-! ### non-vacuity and concrete behaviour (kernel-evaluated; `exFacts` / `exDefs` of `Props/Fixture.lean`) -/

/-- the observable part of a follow-mode answer -/
def ranOf : FollowAnswer → Option (Option ErrKind × List TermItem)
  | .ran e w => some (e, w)
  | _ => none

theorem exFollowLines (queryText : List Char) (fmt : Print.Format) (dl : List (List Nat)) (sa : Option Nat) :
    followLines exFacts exDefs queryText fmt dl sa = followQuery exFactsE exTables queryText fmt dl sa := by
  rw [followLines_of_defsTables (exDefs_tables rfl rfl rfl), exFacts_eq]

/-- a line split over three appends with polls in between, then a second line and an unterminated tail: two refreshes,
each the batch output (`n: 1`, `n: 2`); the tail `zz` is never delivered -/
example : ranOf (followText exFacts exDefs "select count(*) as n from t".toList .text true []
    [.append (strBytes "a"), .poll 8191, .poll 8191, .append (strBytes ";"), .poll 8191, .append (strBytes "1\nb;2\nzz"),
     .poll 8191, .poll 8191, .poll 8191, .poll 8191]) =
    some (none, [.clear, .line (strBytes "n: 1"), .clear, .line (strBytes "n: 2")]) := by
  rw [followText, exFollowLines, String.toList_ofList]; decide +kernel

/-- the same bytes in one append: the same answer (`chunking_and_polls_are_irrelevant`) -/
example : ranOf (followText exFacts exDefs "select count(*) as n from t".toList .text true []
    [.append (strBytes "a;1\nb;2\nzz"), .poll 8191, .poll 8191, .poll 8191]) =
    some (none, [.clear, .line (strBytes "n: 1"), .clear, .line (strBytes "n: 2")]) := by
  rw [followText, exFollowLines, String.toList_ofList]; decide +kernel

/-- facts for a line with a two-byte character -/
def exFactsMb : Facts :=
  { exFacts with lines := (strBytes "é;7", { captures := [(strBytes "^([a-z]+);([0-9]+)$", none)] }) :: exFacts.lines }

/-- a multi-byte character split between two appends: the line is delivered whole; it matches nothing (`é` is not in
`[a-z]`), is not admitted, so nothing is shown for it; `select input` would print it — here `k` of the next line -/
example : ranOf (followText exFactsMb exDefs "select k from t".toList .json true []
    [.append [195], .poll 8191, .append ([169] ++ strBytes ";7\na;1\n"), .poll 8191, .poll 8191, .poll 8191]) =
    some (none, [.line (strBytes "{\"k\":\"a\"}")]) := by
  rw [followText, followLines_of_defsTables (exDefs_tables (F := exFactsMb) rfl rfl rfl), String.toList_ofList, exFactsMb, exFacts_eq]
  decide +kernel

/-- without `--head` the content at start-up — also its unterminated tail — is skipped: the first line delivered is
what completes it (`;1` after `old a`? no: the bytes after the start offset only), here `b;2` -/
example : deliveredBy false (strBytes "a;1\nxx") [.append (strBytes "\nb;2\n"), .poll 8191, .poll 8191, .poll 8191] =
    [[], strBytes "b;2"] := by decide +kernel

/-- a HAVING that empties the table: the second refresh leaves an EMPTY screen (not the previous table), the third
shows the table again — each screen the batch output over the prefix -/
example : ranOf (followText exFacts exDefs "select k, count(*) from t group by k having count(*) < 2".toList .text true
    (strBytes "a;1\na;1\nb;2\n") [.poll 8191, .poll 8191, .poll 8191, .poll 8191]) =
    some (none, [.clear, .line (strBytes "k: 'a', count1: 1"), .clear, .clear, .line (strBytes "k: 'b', count1: 1")]) := by
  rw [followText, exFollowLines, String.toList_ofList]; decide +kernel

/-- an interrupt after the first line was delivered: the second line is not executed; a prefix, no error -/
example : ranOf (followText exFacts exDefs "select count(*) as n from t".toList .text true []
    [.append (strBytes "a;1\n"), .poll 8191, .poll 8191, .interrupt, .append (strBytes "b;2\n"), .poll 8191, .poll 8191]) =
    some (none, [.clear, .line (strBytes "n: 1")]) := by
  rw [followText, exFollowLines, String.toList_ofList]; decide +kernel

/-- a statement with a join is refused before anything is read; an undefined table is asked for by the first line -/
example : (match followText exFacts exDefs "select t.k from t inner join u::'f' on t.k = u.k".toList .text true (strBytes "a;1\n") [.poll 8191] with
    | .joinNotSupported => true
    | _ => false) = true := by
  generalize h : followText _ _ _ _ _ _ _ = r
  rw [followText, exFollowLines, String.toList_ofList] at h; subst h; decide +kernel
example : ranOf (followText exFacts exDefs "select k from nosuch".toList .text true (strBytes "a;1\n") [.poll 8191, .poll 8191]) =
    some (some .tableNotFound, []) := by
  rw [followText, exFollowLines, String.toList_ofList]; decide +kernel

/-- a table that admits every line (`(.*)`), `SELECT input`, without `--head`: the start-up content — also its unterminated
tail `ta` — is skipped; the printed records are exactly the complete lines appended after the start offset (`il` completes
nothing: it IS the first line), each once, in order, the empty line included, the tail `rest` never -/
def exAllFacts : Facts :=
  { regexValid := [("(.*)".toList, true)]
    lines := [(strBytes "il", { captures := [(strBytes "(.*)", some [some (strBytes "il"), some (strBytes "il")])] }),
              (strBytes "ab", { captures := [(strBytes "(.*)", some [some (strBytes "ab"), some (strBytes "ab")])] }),
              (strBytes "", { captures := [(strBytes "(.*)", some [some (strBytes ""), some (strBytes "")])] }),
              (strBytes "c d", { captures := [(strBytes "(.*)", some [some (strBytes "c d"), some (strBytes "c d")])] })] }
example : ranOf (followText exAllFacts "CREATE TABLE t(line = '(.*)', line[1] => x TEXT);".toList "select input from t".toList .text false
    (strBytes "old\nta") [.append (strBytes "il\nab\n"), .poll 8191, .append (strBytes "\nc d\nrest"), .poll 8191, .poll 8191,
      .poll 8191, .poll 8191, .poll 8191]) =
    some (none, [.line (strBytes "'il'"), .line (strBytes "'ab'"), .line (strBytes "''"), .line (strBytes "'c d'")]) := by
  rw [String.toList_ofList, String.toList_ofList, followText, followLines_eq_K]; decide +kernel

/-- hypotheses of `follow_select_prints_batch_output` / `follow_screen_is_batch_output`: plain lines -/
example : ∀ l ∈ [strBytes "a;1", strBytes "zzz", strBytes "b;2"], PlainLine l := by decide +kernel

/-- ALL hypotheses of `follow_screen_is_batch_output` (and, with `pre ++ [l]` for `ls`, of `follow_screens_are_batch_outputs`
for its last prefix) as one decidable check: both texts lower, the patterns are valid by the facts, the statement is an
aggregate statement without join and LIMIT, the FROM table is defined, the lines are plain, the GROUP BY keys seen are
exact (every key value NULL, INT, TEXT, BOOLEAN …: `keysExact_of_simple`), follow mode over the lines ends `Ok`, the
batch program over the file holding them ends `Ok` -/
def exScreenHyps (F : Facts) (defsText queryText : List Char) (fmt : Print.Format) (single : Bool) (pre : List (List Nat))
    (l : List Nat) : Bool :=
  classesCover F defsText && classesCover F queryText && decide (∀ x ∈ pre ++ [l], PlainLine x) &&
  match parseText (lexOracles F) (regexValidFn F) defsText, parseText (lexOracles F) (regexValidFn F) queryText with
  | .stmt defs, .stmt (.aggregate a fromTable _ none) =>
    (createPatterns defs).all (fun re => ((Utf8.decode re).bind (regexValidOf F)).isSome) && a.limit.isNone &&
    match addTables defs with
    | some tables =>
      match getTable tables fromTable with
      | some t =>
        (groupKeysOf F.eval a (followEnvs t.info ((pre ++ [l]).map (extractedLine F t.defn)))).all (fun k => k.all Spec.Agg.simpleValue) &&
        (match followLines F defsText queryText fmt (pre ++ [l]) none with
          | .ran none _ => true
          | _ => false) &&
        (match runText F defsText queryText fmt single [wire (pre ++ [l])] with
          | .records none _ _ => true
          | _ => false)
      | none => false
    | none => false
  | _, _ => false

/-- … discharged by the kernel on a GROUP BY statement with HAVING in the CSV format, two lines delivered, a third (shown)
arriving; and what the theorem then says, evaluated: the screens written for two lines, a clear, the batch output over
three lines -/
example : exScreenHyps exFacts exDefs "select k, count(*), max(v) from t group by k having count(*) > 0".toList (.csv [59]) false
    [strBytes "a;1", strBytes "zzz"] (strBytes "b;2") = true := by
  rw [String.toList_ofList, exScreenHyps, exFollowLines, exRun, parseText_eq_K, parseText_eq_K,
    show exDefs = _ from String.toList_ofList, exFacts_eq]
  decide +kernel
example :
    ranOf (followLines exFacts exDefs "select k, count(*), max(v) from t group by k having count(*) > 0".toList (.csv [59])
      [strBytes "a;1", strBytes "zzz", strBytes "b;2"] none) =
      some (none, [.clear, .line (strBytes "k;count1;max2"), .line (strBytes "'a';1;1"),
                   .clear, .line (strBytes "k;count1;max2"), .line (strBytes "'a';1;1"), .line (strBytes "'b';1;2")]) ∧
    Props.Pipeline.recordsOf (runText exFacts exDefs "select k, count(*), max(v) from t group by k having count(*) > 0".toList (.csv [59]) false
      [wire [strBytes "a;1", strBytes "zzz", strBytes "b;2"]]) =
      some (none, 3, [strBytes "k;count1;max2", strBytes "'a';1;1", strBytes "'b';1;2"]) := by
  rw [exFollowLines, exRun, String.toList_ofList]; decide +kernel

/-- a noise line among the delivered lines (hypothesis of `follow_noise_lines_invisible`), and the two answers -/
theorem exNoiseLine_checked :
    ((queriedTable exFacts exDefs "select k from t".toList).map (fun t => noRowFollow exFacts t.defn (strBytes "zzz"))) = some true := by
  unfold exDefs
  rw [String.toList_ofList, String.toList_ofList, exFacts_eq, queriedTable, parseText_eq_K, parseText_eq_K]
  decide +kernel
example : ((queriedTable exFacts exDefs "select k from t".toList).map (fun t => noRowFollow exFacts t.defn (strBytes "zzz"))) = some true :=
  exNoiseLine_checked
example : ranOf (followLines exFacts exDefs "select k from t".toList .text [strBytes "a;1", strBytes "zzz", strBytes "b;2"] none) =
    ranOf (followLines exFacts exDefs "select k from t".toList .text [strBytes "a;1", strBytes "b;2"] none) := by
  have h := exNoiseLine_checked
  cases ht : queriedTable exFacts exDefs "select k from t".toList with
  | none => rw [ht] at h; cases h
  | some t =>
    rw [ht] at h
    exact congrArg ranOf (follow_noise_lines_invisible exFacts _ _ .text [strBytes "a;1"] [strBytes "zzz"] [strBytes "b;2"] t ht
      (fun l hl => by rw [List.mem_singleton.1 hl]; exact Option.some.inj h))

/-- **D65, repaired** (regression witness; /repo e80a2b6): follow mode, CSV format, aggregate statement. After every clear
of the screen the one `OutputPrinter` is told to start a new table, so EVERY refresh shows header and rows — the second
screen is the batch program's output over the first two lines. (Before the repair the printer kept `first_line = false`
across the clears and the second screen was the row `2` alone.) -/
theorem d65_repaired_csv_header_on_every_screen :
    ranOf (followText exFacts exDefs "select count(*) as n from t".toList (.csv [59]) true (strBytes "a;1\nb;2\n")
      [.poll 8191, .poll 8191, .poll 8191]) =
      some (none, [.clear, .line (strBytes "n"), .line (strBytes "1"), .clear, .line (strBytes "n"), .line (strBytes "2")]) ∧
    Props.Pipeline.recordsOf (runText exFacts exDefs "select count(*) as n from t".toList (.csv [59]) false [strBytes "a;1\nb;2\n"]) =
      some (none, 2, [strBytes "n", strBytes "2"]) := by
  rw [followText, exFollowLines, exRun, String.toList_ofList]; decide +kernel

end Sqlgrep.Props.PipelineFollow
