import SqlgrepModel.Model.Lex
import SqlgrepModel.Lemmas.LexLayout
/-
Plumbing for proofs about the tokenizer fold: `R` is sticky on failure, `run` distributes over `++`; `Leads o P text Q`
(from a state satisfying `P` the text leads to one satisfying `Q`) with its rules for concatenation, one character and
the end of the text, in which the rendering proof is written; what each function
of the model does to a state (`step_cases`, `bodyCore_cases`, `flush_cases`, `TokOp`), on which the invariants of the
other files rest; ASCII characters have computed classes; equations for `bodyCore`, `classify`, `operator`; and the
behaviour of `body` on the kinds of states the rendering proof meets (`Mode`: `Clean` between tokens, `InStr` inside a
string literal, …).
-/
namespace Sqlgrep.Lex
open Sqlgrep

@[simp] theorem R.bind_run (st : St) (f : St → R) : (R.run st).bind f = f st := rfl
@[simp] theorem R.bind_fail (l : Loc) (e : LexErr) (f : St → R) : (R.fail l e).bind f = .fail l e := rfl
@[simp] theorem R.bind_missing (w : List Char) (f : St → R) : (R.missing w).bind f = .missing w := rfl

theorem R.bind_assoc (r : R) (f g : St → R) : (r.bind f).bind g = r.bind (fun st => (f st).bind g) := by
  cases r <;> rfl

theorem foldl_stepR (o : Oracles) (cs : List Char) : ∀ r : R, cs.foldl (stepR o) r = r.bind (fun st => run o st cs) := by
  induction cs with
  | nil => intro r; cases r <;> rfl
  | cons c cs ih =>
    intro r
    cases r with
    | run st => rfl
    | fail l e => exact ih _
    | missing w => exact ih _

@[simp] theorem run_nil (o : Oracles) (st : St) : run o st [] = .run st := rfl

theorem run_cons (o : Oracles) (st : St) (c : Char) (cs : List Char) :
    run o st (c :: cs) = (step o st c).bind (fun st' => run o st' cs) :=
  foldl_stepR o cs (step o st c)

theorem run_append (o : Oracles) (st : St) (a b : List Char) :
    run o st (a ++ b) = (run o st a).bind (fun st' => run o st' b) := by
  unfold run
  rw [List.foldl_append, foldl_stepR]
  rfl

theorem run_preserves (o : Oracles) {I : St → Prop} (hs : ∀ st c st', I st → step o st c = .run st' → I st')
    (text : List Char) : ∀ {st st' : St}, I st → run o st text = .run st' → I st' := by
  induction text with
  | nil => intro st st' h hr; cases hr; exact h
  | cons c cs ih =>
    intro st st' h hr
    rw [run_cons] at hr
    cases hst : step o st c with
    | run s1 => rw [hst] at hr; exact ih (hs _ _ _ h hst) hr
    | fail l e => rw [hst] at hr; cases hr
    | missing w => rw [hst] at hr; cases hr

theorem flush_of_pend_none (o : Oracles) {st : St} (hp : st.pend = .none) : flush o st = .run st := by
  unfold flush; rw [hp]

theorem finish_of_pend_none (o : Oracles) {st : St} (hp : st.pend = .none) : finish o st = .run st.close := by
  unfold finish; rw [flush_of_pend_none o hp]; rfl

theorem step_of_pend_none (o : Oracles) (st : St) (c : Char) (h : st.pend = .none) :
    step o st c = .run (body o st c) := by
  unfold step; rw [h]

def Leads (o : Oracles) (P : St → Prop) (text : List Char) (Q : St → Prop) : Prop :=
  ∀ st, P st → ∃ st', run o st text = .run st' ∧ Q st'

section
variable {o : Oracles} {P Q R : St → Prop} {a b cs : List Char} {c : Char}

theorem Leads.refl : Leads o P [] P := fun st hp => ⟨st, rfl, hp⟩

theorem Leads.weaken (h : Leads o P a Q) (hq : ∀ st, Q st → R st) : Leads o P a R := fun st hp => by
  obtain ⟨s1, hr1, h1⟩ := h st hp
  exact ⟨s1, hr1, hq _ h1⟩

theorem Leads.append (h1 : Leads o P a Q) (h2 : Leads o Q b R) : Leads o P (a ++ b) R := fun st hp => by
  obtain ⟨s1, hr1, hq⟩ := h1 st hp
  obtain ⟨s2, hr2, hr⟩ := h2 s1 hq
  exact ⟨s2, by rw [run_append, hr1]; exact hr2, hr⟩

theorem Leads.step (h1 : ∀ st, P st → ∃ st', step o st c = .run st' ∧ Q st') (h2 : Leads o Q cs R) : Leads o P (c :: cs) R :=
  fun st hp => by
    obtain ⟨s1, hs, hq⟩ := h1 st hp
    obtain ⟨s2, hr2, hr⟩ := h2 s1 hq
    exact ⟨s2, by rw [run_cons, hs]; exact hr2, hr⟩

theorem Leads.char (hp : ∀ st, P st → st.pend = .none) (h1 : ∀ st, P st → Q (body o st c)) (h2 : Leads o Q cs R) :
    Leads o P (c :: cs) R :=
  .step (fun st h => ⟨_, step_of_pend_none o st c (hp st h), h1 st h⟩) h2

theorem Leads.finish (h : Leads o P a Q) (hf : ∀ st, Q st → ∃ st', finish o st = .run st' ∧ R st') :
    ∀ st, P st → ∃ st', (run o st a).bind (finish o) = .run st' ∧ R st' := fun st hp => by
  obtain ⟨s1, hr1, hq⟩ := h st hp
  rw [hr1]; exact hf s1 hq

end

theorem step_cases (o : Oracles) (st : St) (c : Char) :
    (∃ p, p ≠ .none ∧ st.pend ≠ .none ∧ (isWordCont o c = true ∨ (o.info c).numeric = true ∨ c = '.') ∧
      step o st c = .run { st with pend := p, col := st.col + 1 }) ∨
    (st.pend ≠ .none ∧ step o st c = .fail ⟨st.line, st.col⟩ .alreadyHasDot) ∨
    step o st c = (flush o st).bind (fun s => .run (body o s c)) := by
  unfold step
  cases hp : st.pend with
  | none => exact .inr (.inr (by rw [flush_of_pend_none o hp]; rfl))
  | ident r =>
    dsimp only
    by_cases h : ((o.info c).alnum || decide (c = '_')) = true
    · rw [if_pos h]; exact .inl ⟨_, Pending.noConfusion, Pending.noConfusion, .inl h, rfl⟩
    · rw [if_neg h]; exact .inr (.inr rfl)
  | number r d =>
    dsimp only
    by_cases h : (o.info c).numeric = true
    · rw [if_pos h]; exact .inl ⟨_, Pending.noConfusion, Pending.noConfusion, .inr (.inl h), rfl⟩
    · rw [if_neg h]
      by_cases h2 : c = '.'
      · rw [if_pos h2]
        cases d
        · exact .inl ⟨_, Pending.noConfusion, Pending.noConfusion, .inr (.inr h2), rfl⟩
        · exact .inr (.inl ⟨Pending.noConfusion, rfl⟩)
      · rw [if_neg h2]; exact .inr (.inr rfl)

theorem St.close_toks (st : St) :
    st.close.toks = ⟨⟨st.line, st.start⟩, .eof⟩ :: (if st.lastTok = some dashDash then st.toks.tail else st.toks) := by
  unfold St.close; split <;> rfl

def answer (r : R) : Result :=
  match r with
  | .run st => .ok st.toks.reverse
  | .fail l e => .error l e
  | .missing w => .missing w

theorem tokenize_eq (o : Oracles) (text : List Char) : tokenize o text = answer ((run o {} text).bind (finish o)) := rfl

theorem tokenize_ok (o : Oracles) (text : List Char) (ts : List PTok) :
    tokenize o text = .ok ts ↔
      ∃ st st', run o {} text = .run st ∧ flush o st = .run st' ∧ ts = st'.close.toks.reverse := by
  rw [tokenize_eq]
  unfold finish
  constructor
  · intro h
    cases hr : run o {} text with
    | run st =>
      cases hf : flush o st with
      | run st' => rw [hr, R.bind_run, hf] at h; exact ⟨st, st', rfl, hf, (Result.ok.inj h).symm⟩
      | _ => rw [hr, R.bind_run, hf] at h; cases h
    | _ => rw [hr] at h; cases h
  · rintro ⟨st, st', hr, hf, rfl⟩
    rw [hr, R.bind_run, hf]; rfl

/-- the loop body behind `next_char` and the `--` check -/
def bodyCore (o : Oracles) (adj : Bool) (st : St) (c : Char) : St :=
  if st.com then
    if c = '\n' then { st with com := false } else st
  else if c = '\\' ∧ st.esc = false then { st with esc := true }
  else if c = '\'' ∧ st.esc = false then quote st
  else
    match st.cur with
    | some s => { st with esc := false, cur := some (c :: s) }
    | none => classify o { st with esc := false } adj c

theorem body_eq (o : Oracles) (st : St) (c : Char) :
    body o st c = bodyCore o st.prevOp (st.advance c).dashCheck c := rfl

theorem advance_toks (st : St) (c : Char) : (st.advance c).toks = st.toks := by
  unfold St.advance; split <;> rfl
theorem advance_cur (st : St) (c : Char) : (st.advance c).cur = st.cur := by
  unfold St.advance; split <;> rfl
theorem advance_esc (st : St) (c : Char) : (st.advance c).esc = st.esc := by
  unfold St.advance; split <;> rfl
theorem advance_com (st : St) (c : Char) : (st.advance c).com = st.com := by
  unfold St.advance; split <;> rfl
theorem advance_pend (st : St) (c : Char) : (st.advance c).pend = st.pend := by
  unfold St.advance; split <;> rfl
theorem advance_lastTok (st : St) (c : Char) : (st.advance c).lastTok = st.lastTok := by
  unfold St.lastTok; rw [advance_toks]

theorem dashCheck_pend (st : St) : st.dashCheck.pend = st.pend := by
  unfold St.dashCheck; split <;> rfl

theorem lastTok_eq (st : St) : st.lastTok = (st.toks.map (·.tok)).head? := by
  unfold St.lastTok; cases st.toks <;> rfl

theorem toks_ne_nil_of_lastTok {st : St} {t : Tok} (h : st.lastTok = some t) : st.toks ≠ [] := by
  intro he; rw [St.lastTok, he] at h; cases h

/-- `;` takes part in no fusion: a state whose last token is `;` behaves like one with no token yet -/
def SameLast (a b : St) : Prop := a.lastTok = b.lastTok ∨ a.lastTok = some .semi ∧ b.lastTok = none

/-- the same token operation on two states: a token (never `End`) added at each state's own position, or the last
token rewritten -/
inductive TokOp (a b : St) : St → St → Prop
  | add (t : Tok) : t ≠ .eof → TokOp a b (a.add t) (b.add t)
  | addOp (c : Char) : TokOp a b (addOp a c) (addOp b c)
  | setLast (t : Tok) : t ≠ .eof → b.toks ≠ [] → TokOp a b (a.setLast t) (b.setLast t)

theorem ite_ite {α : Sort _} {M : α → α → Prop} {c : Prop} [Decidable c] {x y x' y' : α} (h1 : c → M x y) (h2 : ¬ c → M x' y') :
    M (if c then x else x') (if c then y else y') := by
  by_cases h : c
  · rw [if_pos h, if_pos h]; exact h1 h
  · rw [if_neg h, if_neg h]; exact h2 h

theorem operator_tokOp {a b : St} (h : SameLast a b) (adj : Bool) (c : Char) :
    TokOp a b (operator a adj c) (operator b adj c) := by
  unfold operator
  cases adj
  · exact .addOp c
  · rcases h with h | ⟨ha, hb⟩
    · rw [if_pos rfl, if_pos rfl, h]
      cases hb : b.lastTok with
      | none => exact .addOp c
      | some t =>
        have hne := toks_ne_nil_of_lastTok hb
        cases t with
        | op x =>
          cases x with
          | single x =>
            exact ite_ite (fun _ => .setLast _ Tok.noConfusion hne) fun _ => ite_ite (fun _ => .setLast _ Tok.noConfusion hne) fun _ => .addOp c
          | dual x y => exact .addOp c
        | _ => exact .addOp c
    · rw [ha, hb]; exact .addOp c

theorem addKeyword_add {st : St} {k : Keyword} (h1 : ¬ (k = .not ∧ st.lastTok = some (.kw .is)))
    (h2 : ¬ (k = .in ∧ st.lastTok = some (.kw .not))) : addKeyword st k = st.add (.kw k) := by
  unfold addKeyword
  split
  · exact absurd ⟨rfl, ‹_›⟩ h1
  · exact absurd ⟨rfl, ‹_›⟩ h2
  · rfl

theorem addKeyword_isNot {st : St} (h : st.lastTok = some (.kw .is)) : addKeyword st .not = st.setLast (.kw .isNot) := by
  unfold addKeyword; rw [h]

theorem addKeyword_notIn {st : St} (h : st.lastTok = some (.kw .not)) : addKeyword st .in = st.setLast (.kw .notIn) := by
  unfold addKeyword; rw [h]

theorem addKeyword_tokOp {a b : St} (h : SameLast a b) (k : Keyword) : TokOp a b (addKeyword a k) (addKeyword b k) := by
  rcases h with h | ⟨ha, hb⟩
  · unfold addKeyword
    rw [h]
    split
    · exact .setLast _ nofun (toks_ne_nil_of_lastTok ‹_›)
    · exact .setLast _ nofun (toks_ne_nil_of_lastTok ‹_›)
    · exact .add _ nofun
  · rw [addKeyword_add (by rw [ha]; nofun) (by rw [ha]; nofun), addKeyword_add (by rw [hb]; nofun) (by rw [hb]; nofun)]
    exact .add _ nofun

theorem flushIdent_tokOp (o : Oracles) {a b : St} (h : SameLast a b) (w : List Char) :
    TokOp a b (flushIdent o a w) (flushIdent o b w) := by
  unfold flushIdent
  dsimp only
  cases keywordOf (lower o w) with
  | some k => exact addKeyword_tokOp h k
  | none =>
    exact ite_ite (fun _ => .add _ nofun) fun _ => ite_ite (fun _ => .add _ nofun) fun _ => ite_ite (fun _ => .add _ nofun) fun _ => .add _ nofun

theorem classify_cases (o : Oracles) {a b : St} (h : SameLast a b) (adj : Bool) (c : Char) :
    (classify o a adj c = a ∧ classify o b adj c = b) ∨
    (∃ p, classify o a adj c = { a with pend := p } ∧ classify o b adj c = { b with pend := p }) ∨
    TokOp a b (classify o a adj c) (classify o b adj c) := by
  let M (a' b' : St) : Prop := (a' = a ∧ b' = b) ∨ (∃ p, a' = { a with pend := p } ∧ b' = { b with pend := p }) ∨ TokOp a b a' b'
  have pend (p : Pending) : M { a with pend := p } { b with pend := p } := .inr (.inl ⟨p, rfl, rfl⟩)
  have add (t : Tok) (ht : t ≠ .eof) : M (a.add t) (b.add t) := .inr (.inr (.add t ht))
  have colon : M (match a.lastTok with | some .colon => a.setLast .dcolon | _ => a.add .colon)
      (match b.lastTok with | some .colon => b.setLast .dcolon | _ => b.add .colon) := by
    rcases h with h | ⟨ha, hb⟩
    · rw [h]
      split
      · exact .inr (.inr (.setLast _ nofun (toks_ne_nil_of_lastTok ‹_›)))
      · exact add _ nofun
    · rw [ha, hb]; exact add _ nofun
  show M _ _
  unfold classify
  exact ite_ite (fun _ => pend _) fun _ => ite_ite (fun _ => pend _) fun _ =>
    ite_ite (fun _ => add _ nofun) fun _ => ite_ite (fun _ => add _ nofun) fun _ =>
    ite_ite (fun _ => add _ nofun) fun _ => ite_ite (fun _ => add _ nofun) fun _ =>
    ite_ite (fun _ => add _ nofun) fun _ => ite_ite (fun _ => add _ nofun) fun _ =>
    ite_ite (fun _ => add _ nofun) fun _ => ite_ite (fun _ => add _ nofun) fun _ =>
    ite_ite (fun _ => colon) fun _ => ite_ite (fun _ => .inl ⟨rfl, rfl⟩) fun _ => .inr (.inr (operator_tokOp h adj c))

theorem SameLast.refl (st : St) : SameLast st st := .inl rfl

/-- the token operation starts from `s` with the string buffer emptied (the closing quote) or the escape flag cleared
(the classification chain) -/
theorem bodyCore_cases (o : Oracles) (adj : Bool) (s : St) (c : Char) :
    (∃ cur esc com p, bodyCore o adj s c = { s with cur, esc, com, pend := p }) ∨
    ∃ cur esc, TokOp { s with cur, esc } { s with cur, esc } (bodyCore o adj s c) (bodyCore o adj s c) := by
  let M (a' b' : St) : Prop :=
    (∃ cur esc com p, a' = { s with cur, esc, com, pend := p }) ∨ ∃ cur esc, TokOp { s with cur, esc } { s with cur, esc } a' b'
  have flags (cur esc com p) : M { s with cur, esc, com, pend := p } { s with cur, esc, com, pend := p } := .inl ⟨_, _, _, _, rfl⟩
  show M _ _
  unfold bodyCore
  refine ite_ite (fun _ => ite_ite (fun _ => flags ..) fun _ => flags ..) fun _ => ite_ite (fun _ => flags ..) fun _ =>
    ite_ite (fun _ => ?_) fun _ => ?_
  · unfold quote
    cases s.cur with
    | some w => exact .inr ⟨none, s.esc, .add _ nofun⟩
    | none => exact flags ..
  · cases s.cur with
    | some w => exact flags ..
    | none =>
      rcases classify_cases o (SameLast.refl { s with cur := none, esc := false }) adj c with ⟨h, _⟩ | ⟨p, h, _⟩ | h
      · exact .inl ⟨none, false, s.com, s.pend, h⟩
      · exact .inl ⟨none, false, s.com, p, h⟩
      · exact .inr ⟨none, false, h⟩

theorem flushNumber_cases (o : Oracles) (st : St) (w : List Char) (d : Bool) :
    (∃ t, t ≠ .eof ∧ flushNumber o st w d = .run (st.add t)) ∨ ∃ e, flushNumber o st w d = .fail ⟨st.line, st.col⟩ e := by
  unfold flushNumber
  cases d with
  | true =>
    rw [if_pos rfl]
    cases o.fparse w with
    | bits x => exact .inl ⟨.float x, nofun, rfl⟩
    | err => exact .inr ⟨_, rfl⟩
    | missing =>
      cases DecFloat.parseF64 w with
      | some x => exact .inl ⟨.float x, nofun, rfl⟩
      | none => exact .inr ⟨_, rfl⟩
  | false =>
    rw [if_neg nofun]
    cases Lit.parseI64 (w.map Char.toNat) with
    | some i => exact .inl ⟨.int i, nofun, rfl⟩
    | none => exact .inr ⟨_, rfl⟩

theorem flush_cases (o : Oracles) (st : St) :
    (st.pend = .none ∧ flush o st = .run st) ∨
    (st.pend ≠ .none ∧
      ((∃ s', TokOp { st with pend := .none } { st with pend := .none } s' s' ∧ flush o st = .run s') ∨
       ∃ e, flush o st = .fail ⟨st.line, st.col⟩ e)) := by
  unfold flush
  cases st.pend with
  | none => exact .inl ⟨rfl, rfl⟩
  | ident r => exact .inr ⟨nofun, .inl ⟨_, flushIdent_tokOp o (.refl _) _, rfl⟩⟩
  | number r d =>
    refine .inr ⟨nofun, ?_⟩
    rcases flushNumber_cases o { st with pend := .none } r.reverse d with ⟨t, ht, h⟩ | ⟨e, h⟩
    · exact .inl ⟨_, .add t ht, h⟩
    · exact .inr ⟨e, h⟩

theorem TokOp.pend {a b a' b' : St} (h : TokOp a b a' b') : a'.pend = a.pend := by
  cases h with
  | add t _ => rfl
  | addOp c => rfl
  | setLast t _ _ => unfold St.setLast; split <;> rfl

theorem flush_pend (o : Oracles) {st st' : St} (h : flush o st = .run st') : st'.pend = .none := by
  rcases flush_cases o st with ⟨hp, hf⟩ | ⟨_, ⟨s', ht, hf⟩ | ⟨e, hf⟩⟩ <;> rw [hf] at h
  · cases h; exact hp
  · cases h; exact ht.pend
  · cases h

theorem step_of_noCont (o : Oracles) (st : St) {c : Char} (hw : ∀ r, st.pend = .ident r → isWordCont o c = false)
    (hn : ∀ r d, st.pend = .number r d → (o.info c).numeric = false ∧ c ≠ '.') :
    step o st c = (flush o st).bind (fun s => .run (body o s c)) := by
  unfold step
  cases hp : st.pend with
  | none => rw [flush_of_pend_none o hp]; rfl
  | ident r => exact if_neg (Bool.eq_false_iff.mp (hw r hp))
  | number r d => dsimp only; rw [if_neg (Bool.eq_false_iff.mp (hn r d hp).1), if_neg (hn r d hp).2]

theorem step_preserves (o : Oracles) {I : St → Prop} (hbody : ∀ st c, st.pend = .none → I st → I (body o st c))
    (hflush : ∀ st st', I st → flush o st = .run st' → I st')
    (hcont : ∀ st p, st.pend ≠ .none → p ≠ .none → I st → I { st with pend := p, col := st.col + 1 })
    {st st' : St} {c : Char} (h : I st) (hs : step o st c = .run st') : I st' := by
  rcases step_cases o st c with ⟨p, hp, hst, _, e⟩ | ⟨_, e⟩ | e <;> rw [e] at hs
  · cases hs; exact hcont st p hst hp h
  · cases hs
  · cases hf : flush o st with
    | run s => rw [hf] at hs; cases hs; exact hbody s c (flush_pend o hf) (hflush st s h hf)
    | fail l e => rw [hf] at hs; cases hs
    | missing w => rw [hf] at hs; cases hs

theorem info_of_ascii (o : Oracles) (c : Char) (h : c.toNat < 128) : o.info c = asciiInfo c := if_pos h

/-- the ASCII characters that the loop body and the layout conditions test by equality -/
def marks : List Char := ['\n', '_', '-', '.', '=', '>'] ++ special

theorem asciiInfo_marks : ∀ c ∈ marks, c.toNat < 128 ∧ (asciiInfo c).alpha = false ∧ (asciiInfo c).numeric = false ∧
    (asciiInfo c).alnum = false ∧ (c ≠ '\n' → (asciiInfo c).white = false) := by decide

theorem info_special (o : Oracles) (c : Char) (h : c ∈ marks) :
    (o.info c).alpha = false ∧ (o.info c).numeric = false ∧ (o.info c).alnum = false ∧ (c ≠ '\n' → (o.info c).white = false) := by
  obtain ⟨h0, hi⟩ := asciiInfo_marks c h
  rw [info_of_ascii o c h0]; exact hi

theorem not_special_of_alpha (o : Oracles) {c : Char} (h : (o.info c).alpha = true) : c ∉ special := by
  intro hm; rw [(info_special o c (List.mem_append_right _ hm)).1] at h; cases h

theorem not_special_of_numeric (o : Oracles) {c : Char} (h : (o.info c).numeric = true) : c ∉ special := by
  intro hm; rw [(info_special o c (List.mem_append_right _ hm)).2.1] at h; cases h

theorem not_special_of_space (o : Oracles) {c : Char} (h : isSpace o c = true) : c ∉ special ∧ c ≠ '_' ∧ c ≠ '.' := by
  have key : ∀ m ∈ marks, m ≠ '\n' → c ≠ m := by
    rintro m hm hn rfl
    rw [isSpace, (info_special o c hm).2.2.2 hn] at h
    cases h
  exact ⟨fun hm => key c (List.mem_append_right _ hm) (fun e => absurd (e ▸ hm) (by decide)) rfl,
    key _ (by decide) (by decide), key _ (by decide) (by decide)⟩

theorem not_special_of_op (o : Oracles) {c : Char} (h : isOpChar o c = true) : c ∉ special ∧ c ≠ '\n' := by
  constructor
  · intro hm
    rw [isOpChar, List.contains_eq_mem, decide_eq_true hm, Bool.not_true, Bool.and_false] at h
    cases h
  · rintro rfl
    rw [isOpChar, info_of_ascii o _ (by decide)] at h
    revert h; decide

theorem not_quote {c : Char} (h : c ∉ special) : c ≠ '\\' ∧ c ≠ '\'' :=
  ⟨fun e => h (e ▸ .head _), fun e => h (e ▸ .tail _ (.head _))⟩

theorem bodyCore_com (o : Oracles) (adj : Bool) {s : St} (c : Char) (h : s.com = true) :
    bodyCore o adj s c = if c = '\n' then { s with com := false } else s := by
  unfold bodyCore; rw [if_pos h]

theorem bodyCore_backslash (o : Oracles) (adj : Bool) {s : St} (hm : s.com = false) (he : s.esc = false) :
    bodyCore o adj s '\\' = { s with esc := true } := by
  unfold bodyCore; rw [if_neg (by rw [hm]; nofun), if_pos ⟨rfl, he⟩]

theorem bodyCore_quote (o : Oracles) (adj : Bool) {s : St} (hm : s.com = false) (he : s.esc = false) :
    bodyCore o adj s '\'' = quote s := by
  unfold bodyCore; rw [if_neg (by rw [hm]; nofun), if_neg (fun h => absurd h.1 (by decide)), if_pos ⟨rfl, he⟩]

theorem bodyCore_plain (o : Oracles) (adj : Bool) {s : St} {c : Char} (hm : s.com = false)
    (hc : s.esc = true ∨ c ≠ '\\' ∧ c ≠ '\'') :
    bodyCore o adj s c =
      match s.cur with
      | some w => { s with esc := false, cur := some (c :: w) }
      | none => classify o { s with esc := false } adj c := by
  have h1 : ¬ (c = '\\' ∧ s.esc = false) := fun ⟨e1, e2⟩ => hc.elim (fun h => by rw [e2] at h; cases h) (fun h => h.1 e1)
  have h2 : ¬ (c = '\'' ∧ s.esc = false) := fun ⟨e1, e2⟩ => hc.elim (fun h => by rw [e2] at h; cases h) (fun h => h.2 e1)
  unfold bodyCore; rw [if_neg (by rw [hm]; nofun), if_neg h1, if_neg h2]

theorem classify_other (o : Oracles) (st : St) (adj : Bool) {c : Char} (ha : (o.info c).alpha = false)
    (hn : (o.info c).numeric = false) (hs : c ∉ special) :
    classify o st adj c = if (o.info c).white then st else operator st adj c := by
  simp only [special, List.mem_cons, List.not_mem_nil, or_false, not_or] at hs
  obtain ⟨_, _, h1, h2, h3, h4, h5, h6, h7, h8, h9⟩ := hs
  unfold classify
  dsimp only
  rw [if_neg (by rw [ha]; nofun), if_neg (by rw [hn]; nofun), if_neg h1, if_neg h2, if_neg h3, if_neg h4, if_neg h5,
    if_neg h6, if_neg h7, if_neg h8, if_neg h9]

theorem classify_space (o : Oracles) (st : St) (adj : Bool) {c : Char} (h : isSpace o c = true) :
    classify o st adj c = st := by
  have hs := (not_special_of_space o h).1
  simp only [isSpace, Bool.and_eq_true, Bool.not_eq_eq_eq_not, Bool.not_true] at h
  rw [classify_other o st adj h.1.1.2 h.1.2 hs, if_pos h.1.1.1]

theorem classify_op (o : Oracles) (st : St) (adj : Bool) {c : Char} (h : isOpChar o c = true) :
    classify o st adj c = operator st adj c := by
  have hs := (not_special_of_op o h).1
  simp only [isOpChar, Bool.and_eq_true, Bool.not_eq_eq_eq_not, Bool.not_true] at h
  rw [classify_other o st adj h.1.1.1 h.1.1.2 hs, if_neg (by rw [h.1.2]; nofun)]

theorem classify_alpha (o : Oracles) (st : St) (adj : Bool) {c : Char} (h : (o.info c).alpha = true) :
    classify o st adj c = { st with pend := .ident [c] } := by
  unfold classify; exact if_pos h

theorem classify_numeric (o : Oracles) (st : St) (adj : Bool) {c : Char} (h0 : (o.info c).alpha = false)
    (h : (o.info c).numeric = true) : classify o st adj c = { st with pend := .number [c] false } := by
  unfold classify; dsimp only; rw [if_neg (by rw [h0]; nofun), if_pos h]

theorem Punct.char_special (p : Punct) : p.char ∈ special ∧ p.char ≠ '\\' ∧ p.char ≠ '\'' := by
  cases p <;> decide +kernel

theorem classify_punct (o : Oracles) (st : St) (adj : Bool) (p : Punct) :
    classify o st adj p.char =
      if p = .colon then (if st.lastTok = some .colon then st.setLast .dcolon else st.add .colon) else st.add p.tok := by
  have hi := info_special o p.char (List.mem_append_right _ p.char_special.1)
  unfold classify
  dsimp only
  rw [if_neg (by rw [hi.1]; nofun), if_neg (by rw [hi.2.1]; nofun)]
  cases p
  case colon =>
    simp only [Punct.char, Char.reduceEq, reduceIte]
    split
    · next e => rw [if_pos e]
    · next h => rw [if_neg (h · )]
  all_goals rfl

theorem operator_addOp {st : St} {adj : Bool} {c : Char}
    (h : ∀ a, adj = true → st.lastTok = some (.op (.single a)) → ¬ (a = '=' ∧ c = '>') ∧ isTwoChar a c = false) :
    operator st adj c = addOp st c := by
  unfold operator
  cases adj with
  | false => rfl
  | true =>
    rw [if_pos rfl]
    split
    · next a hl =>
      obtain ⟨h1, h2⟩ := h a rfl hl
      rw [if_neg h1, if_neg (by rw [h2]; nofun)]
    · rfl

theorem operator_dual {st : St} {a c : Char} (hl : st.lastTok = some (.op (.single a)))
    (h1 : ¬ (a = '=' ∧ c = '>')) (h2 : isTwoChar a c = true) : operator st true c = st.setLast (.op (.dual a c)) := by
  unfold operator; rw [if_pos rfl, hl]; dsimp only; rw [if_neg h1, if_pos h2]

theorem operator_arrow {st : St} (hl : st.lastTok = some (.op (.single '='))) :
    operator st true '>' = st.setLast .rarrow := by
  unfold operator; rw [if_pos rfl, hl]; exact if_pos ⟨rfl, rfl⟩

theorem isOpChar_dash (o : Oracles) : isOpChar o '-' = true := by
  rw [isOpChar, info_of_ascii o _ (by decide)]; decide

/-- the flags of a state and its tokens `T` (last first), the last of which is not the comment opener -/
structure Mode (st : St) (T : List Tok) (cur : Option (List Char)) (esc com prevOp : Bool) (pend : Pending) : Prop where
  toks : st.toks.map (·.tok) = T
  nodash : T.head? ≠ some dashDash
  cur : st.cur = cur
  esc : st.esc = esc
  com : st.com = com
  prevOp : st.prevOp = prevOp
  pend : st.pend = pend

/-- between tokens; `p` = `previous_was_operator` -/
abbrev Clean (st : St) (T : List Tok) (p : Bool) : Prop := Mode st T none false false p .none

/-- inside a string literal: `s` = the content so far (reversed), `e` = the escape flag -/
abbrev InStr (st : St) (T : List Tok) (s : List Char) (e : Bool) : Prop := Mode st T (some s) e false false .none

abbrev InCom (st : St) (T : List Tok) : Prop := Mode st T none false true false .none

/-- a word is being collected: `r` = its characters so far, reversed -/
abbrev PendW (st : St) (T : List Tok) (r : List Char) : Prop := Mode st T none false false false (.ident r)

abbrev PendN (st : St) (T : List Tok) (r : List Char) (d : Bool) : Prop := Mode st T none false false false (.number r d)

/-- directly after the second `-`: the comment opener is the last token, `T` are the tokens below it -/
structure Dashed (st : St) (T : List Tok) : Prop where
  last : st.lastTok = some dashDash
  rest : Clean { st with toks := st.toks.tail } T false

section
variable {st : St} {T : List Tok} {cur : Option (List Char)} {esc com q : Bool} {pend : Pending}

theorem Mode.lastTok (h : Mode st T cur esc com q pend) : st.lastTok = T.head? := by
  rw [lastTok_eq, h.toks]

theorem Mode.advance (h : Mode st T cur esc com q pend) (c : Char) : Mode (st.advance c) T cur esc com false pend := by
  unfold St.advance
  split <;> exact ⟨h.toks, h.nodash, h.cur, h.esc, h.com, rfl, h.pend⟩

theorem Mode.pend_ne (h : Mode st T cur esc com q pend) {p : Pending} (hne : pend ≠ p) : st.pend ≠ p :=
  fun e => hne (h.pend.symm.trans e)

/-- the `--` check does nothing -/
theorem Mode.body (o : Oracles) (h : Mode st T cur esc com q pend) (c : Char) :
    body o st c = bodyCore o q (st.advance c) c := by
  rw [body_eq, h.prevOp, St.dashCheck, (h.advance c).lastTok, if_neg h.nodash]

theorem Mode.unpend (h : Mode st T cur esc com q pend) : Mode { st with pend := .none } T cur esc com q .none :=
  ⟨h.toks, h.nodash, h.cur, h.esc, h.com, h.prevOp, rfl⟩

theorem Mode.add (h : Mode st T cur esc com q pend) {t : Tok} (ht : t ≠ dashDash) :
    Mode (st.add t) (t :: T) cur esc com q pend :=
  ⟨congrArg (t :: ·) h.toks, fun e => ht (Option.some.inj e), h.cur, h.esc, h.com, h.prevOp, h.pend⟩

theorem Mode.addOp (h : Mode st T cur esc com q pend) (c : Char) :
    Mode (addOp st c) (.op (.single c) :: T) cur esc com true pend :=
  ⟨congrArg (_ :: ·) h.toks, nofun, h.cur, h.esc, h.com, rfl, h.pend⟩

theorem setLast_tail (st : St) (t : Tok) : (st.setLast t).toks.tail = st.toks.tail := by
  unfold St.setLast
  split
  · rfl
  · next p rest hs => rw [hs]; rfl

theorem setLast_lastTok {st : St} (t : Tok) (h : st.toks ≠ []) : (st.setLast t).lastTok = some t := by
  unfold St.setLast
  split
  · next hs => exact absurd hs h
  · rfl

theorem setLast_with_toks (st : St) (t : Tok) (ts : List PTok) : { st.setLast t with toks := ts } = { st with toks := ts } := by
  unfold St.setLast
  split <;> rfl

theorem Mode.setLast {t0 : Tok} (h : Mode st (t0 :: T) cur esc com q pend) {t : Tok} (ht : t ≠ dashDash) :
    Mode (st.setLast t) (t :: T) cur esc com q pend := by
  have ht0 := h.toks
  unfold St.setLast
  split
  · next hs => rw [hs] at ht0; cases ht0
  · next p rest hs =>
    rw [hs] at ht0
    exact ⟨congrArg (t :: ·) (List.cons.inj ht0).2, fun e => ht (Option.some.inj e), h.cur, h.esc, h.com, h.prevOp, h.pend⟩

theorem Mode.finish (o : Oracles) (h : Mode st T cur esc com q .none) :
    ∃ st', finish o st = .run st' ∧ st'.toks.map (·.tok) = .eof :: T :=
  ⟨_, finish_of_pend_none o h.pend, by rw [St.close_toks, h.lastTok, if_neg h.nodash]; exact congrArg (Tok.eof :: ·) h.toks⟩

end

theorem Leads.mode {o : Oracles} {T : List Tok} {cur : Option (List Char)} {esc com q : Bool} {c : Char} {cs : List Char}
    {Q R : St → Prop} (h1 : ∀ st, Mode st T cur esc com q .none → Q (body o st c)) (h2 : Leads o Q cs R) :
    Leads o (Mode · T cur esc com q .none) (c :: cs) R :=
  .char (fun _ h => h.pend) h1 h2

section
variable {st : St} {T : List Tok}

theorem body_clean (o : Oracles) {p : Bool} (h : Clean st T p) {c : Char} (hc : c ≠ '\\' ∧ c ≠ '\'') :
    body o st c = classify o (st.advance c) p c := by
  have ha := h.advance c
  rw [h.body, bodyCore_plain o p ha.com (.inr hc)]
  generalize st.advance c = s at ha
  obtain ⟨_, _, _, _, cur, esc, _, _, _⟩ := s
  cases ha.cur; cases ha.esc
  rfl

theorem body_open (o : Oracles) {p : Bool} (h : Clean st T p) : InStr (body o st '\'') T [] false := by
  have ha := h.advance '\''
  rw [h.body, bodyCore_quote o p ha.com ha.esc, quote, ha.cur]
  exact ⟨ha.toks, ha.nodash, rfl, ha.esc, ha.com, ha.prevOp, ha.pend⟩

theorem body_close (o : Oracles) {s : List Char} (h : InStr st T s false) :
    Clean (body o st '\'') (.str s.reverse :: T) false := by
  have ha := h.advance '\''
  rw [h.body, bodyCore_quote o false ha.com ha.esc, quote, ha.cur]
  have h0 : Clean { st.advance '\'' with cur := none } T false := ⟨ha.toks, ha.nodash, rfl, ha.esc, ha.com, ha.prevOp, ha.pend⟩
  exact h0.add nofun

theorem body_instr_backslash (o : Oracles) {s : List Char} (h : InStr st T s false) : InStr (body o st '\\') T s true := by
  have ha := h.advance '\\'
  rw [h.body, bodyCore_backslash o false ha.com ha.esc]
  exact ⟨ha.toks, ha.nodash, ha.cur, rfl, ha.com, ha.prevOp, ha.pend⟩

theorem body_instr_push (o : Oracles) {s : List Char} {e : Bool} {c : Char} (h : InStr st T s e)
    (hc : e = true ∨ c ≠ '\\' ∧ c ≠ '\'') : InStr (body o st c) T (c :: s) false := by
  have ha := h.advance c
  rw [h.body, bodyCore_plain o false ha.com (by rw [ha.esc]; exact hc), ha.cur]
  exact ⟨ha.toks, ha.nodash, rfl, rfl, ha.com, ha.prevOp, ha.pend⟩

theorem bodyCore_incom (o : Oracles) (adj : Bool) {s : St} (c : Char) (h : InCom s T) :
    (c = '\n' → Clean (bodyCore o adj s c) T false) ∧ (c ≠ '\n' → InCom (bodyCore o adj s c) T) := by
  rw [bodyCore_com o adj c h.com]
  constructor <;> intro hc
  · rw [if_pos hc]; exact ⟨h.toks, h.nodash, h.cur, h.esc, rfl, h.prevOp, h.pend⟩
  · rw [if_neg hc]; exact h

theorem body_incom (o : Oracles) (c : Char) (h : InCom st T) :
    (c = '\n' → Clean (body o st c) T false) ∧ (c ≠ '\n' → InCom (body o st c) T) := by
  rw [h.body]; exact bodyCore_incom o false c (h.advance c)

/-- the character after `--` (whatever it is) removes the opener; a line break ends the comment at once -/
theorem body_dashed (o : Oracles) (c : Char) (h : Dashed st T) :
    (c = '\n' → Clean (body o st c) T false) ∧ (c ≠ '\n' → InCom (body o st c) T) := by
  have hd : InCom (st.advance c).dashCheck T := by
    rw [St.dashCheck, advance_lastTok, h.last, if_pos rfl]
    unfold St.advance
    split <;> exact ⟨h.rest.toks, h.rest.nodash, h.rest.cur, h.rest.esc, rfl, rfl, h.rest.pend⟩
  rw [body_eq]; exact bodyCore_incom o _ c hd

theorem Dashed.finish (o : Oracles) (h : Dashed st T) :
    ∃ st', finish o st = .run st' ∧ st'.toks.map (·.tok) = .eof :: T :=
  ⟨_, finish_of_pend_none o h.rest.pend, by rw [St.close_toks, if_pos h.last]; exact congrArg (Tok.eof :: ·) h.rest.toks⟩

theorem isTwoChar_dash {a : Char} (h : isTwoChar a '-' = true) : a = '-' := by
  simp [isTwoChar, twoCharOps] at h
  exact h

theorem body_dash1 (o : Oracles) {p : Bool} (h : Clean st T p) (hp : p = true → T.head? ≠ some (.op (.single '-'))) :
    Clean (body o st '-') (.op (.single '-') :: T) true := by
  have ha := h.advance '-'
  rw [body_clean o h (by decide), classify_op o _ _ (isOpChar_dash o), operator_addOp]
  · exact ha.addOp '-'
  · intro a hpt hl
    rw [ha.lastTok] at hl
    refine ⟨fun e => absurd e.2 (by decide), Bool.eq_false_iff.mpr fun h2 => ?_⟩
    rw [isTwoChar_dash h2] at hl
    exact hp hpt hl

theorem body_dash2 (o : Oracles) (h : Clean st (.op (.single '-') :: T) true) (hT : T.head? ≠ some dashDash) :
    Dashed (body o st '-') T := by
  have ha := h.advance '-'
  have hne : (st.advance '-').toks ≠ [] := fun e => by have := ha.toks; rw [e] at this; cases this
  rw [body_clean o h (by decide), classify_op o _ _ (isOpChar_dash o),
    operator_dual (a := '-') (by rw [ha.lastTok]; rfl) (by decide) (by decide)]
  refine ⟨setLast_lastTok _ hne, ?_⟩
  rw [setLast_tail, setLast_with_toks]
  exact ⟨by rw [List.map_tail, ha.toks]; rfl, hT, ha.cur, ha.esc, ha.com, ha.prevOp, ha.pend⟩

theorem init_clean : Clean ({} : St) [] false := ⟨rfl, nofun, rfl, rfl, rfl, rfl, rfl⟩

theorem tokens_of_finish (o : Oracles) {text : List Char} {st' : St} {T : List Tok}
    (h : (run o {} text).bind (finish o) = .run st') (ht : st'.toks.map (·.tok) = .eof :: T) :
    tokens o text = some (T.reverse ++ [.eof]) := by
  unfold tokens tokenize
  rw [h]
  exact congrArg some (by rw [List.map_reverse, ht, List.reverse_cons])

def OpAdj (o : Oracles) (T : List Tok) (p : Bool) (c : Char) : Prop :=
  p = true → ∃ a, T.head? = some (.op (.single a)) ∧ AdjOk o (.op a) c

theorem body_op1 (o : Oracles) {st : St} {T : List Tok} {p : Bool} (h : Clean st T p) {c : Char}
    (hc : isOpChar o c = true) (hadj : OpAdj o T p c) : Clean (body o st c) (.op (.single c) :: T) true := by
  have ha := h.advance c
  rw [body_clean o h (not_quote (not_special_of_op o hc).1), classify_op o _ _ hc, operator_addOp]
  · exact ha.addOp c
  · intro a hp hl
    obtain ⟨a', hl', hadj'⟩ := hadj hp
    rw [ha.lastTok, hl'] at hl
    cases hl
    exact hadj'

theorem body_op2 (o : Oracles) {st : St} {T : List Tok} {a b : Char} {t : Tok} (h : Clean st (.op (.single a) :: T) true)
    (hb : isOpChar o b = true) (ht : t ≠ dashDash)
    (hop : ∀ s : St, s.lastTok = some (.op (.single a)) → operator s true b = s.setLast t) :
    Clean (body o st b) (t :: T) false := by
  have ha := h.advance b
  rw [body_clean o h (not_quote (not_special_of_op o hb).1), classify_op o _ _ hb, hop _ ha.lastTok]
  exact ha.setLast ht

def pairToks (a b : Char) : List Tok :=
  if a = '=' ∧ b = '>' then [.rarrow, .eof]
  else if isTwoChar a b then (if (a, b) = ('-', '-') then [.eof] else [.op (.dual a b), .eof])
  else [.op (.single a), .op (.single b), .eof]

theorem tokens_op_pair (o : Oracles) {a b : Char} (ha : isOpChar o a = true) (hb : isOpChar o b = true) :
    tokens o [a, b] = some (pairToks a b) := by
  -- the second character from the state behind the first, then the end of the text
  have two {Q : St → Prop} (h2 : ∀ st, Clean st [.op (.single a)] true → Q (body o st b)) : Leads o (Clean · [] false) [a, b] Q :=
    .mode (Q := (Clean · [.op (.single a)] true)) (fun _ h => body_op1 o h ha nofun) (.mode h2 .refl)
  have fin {T : List Tok} {p : Bool} (h2 : ∀ st, Clean st [.op (.single a)] true → Clean (body o st b) T p) :
      tokens o [a, b] = some (T.reverse ++ [.eof]) := by
    obtain ⟨st', hr, ht⟩ := (two (Q := (Clean · T p)) h2).finish (fun _ h => h.finish o) {} init_clean
    exact tokens_of_finish o hr ht
  unfold pairToks
  by_cases h : a = '=' ∧ b = '>'
  · obtain ⟨rfl, rfl⟩ := h
    rw [if_pos ⟨rfl, rfl⟩]
    exact fin fun _ h1 => body_op2 o (t := .rarrow) h1 hb nofun (fun s hl => operator_arrow hl)
  rw [if_neg h]
  by_cases h2 : isTwoChar a b = true
  · rw [if_pos h2]
    by_cases h3 : (a, b) = ('-', '-')
    · cases h3
      rw [if_pos rfl]
      obtain ⟨st', hr, ht⟩ := (two (Q := (Dashed · [])) fun _ h1 => body_dash2 o h1 nofun).finish (fun _ h => h.finish o) {} init_clean
      exact tokens_of_finish o hr ht
    · rw [if_neg h3]
      exact fin fun _ h1 => body_op2 o (t := .op (.dual a b)) h1 hb (fun e => h3 (by cases e; rfl)) (fun s hl => operator_dual hl h h2)
  · rw [if_neg h2]
    exact fin fun _ h1 => body_op1 o h1 hb (fun _ => ⟨a, rfl, h, Bool.eq_false_iff.mpr h2⟩)

end
end Sqlgrep.Lex
