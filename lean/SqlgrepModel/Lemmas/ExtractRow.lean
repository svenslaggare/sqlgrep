import SqlgrepModel.Lemmas.Extract
/-
Row level: the NOT NULL cut, `any_result` / admission (exported for C06), and non-interference
(a column value depends on its own definition, on the results of the patterns it names and — for
JSON columns — on the JSON tree; on nothing else).
-/
namespace Sqlgrep.Extract
open Lit

/-- some NOT NULL column is NULL -/
def cutBy (o : Oracles) (inp : ParsingInput) (cols : List Column) : Prop :=
  ∃ c ∈ cols, c.options.nullable = false ∧ (columnValue o c inp).isNull = true

theorem extractWith_cut (o : Oracles) (d : TableDef) (inp : ParsingInput) (h : cutBy o inp d.columns) :
    extractWith o d inp = [] := by
  unfold extractWith
  rw [(extractLoop_none_iff o inp d.columns).2 h]
  rfl

theorem extractWith_kept (o : Oracles) (d : TableDef) (inp : ParsingInput) (h : ¬ cutBy o inp d.columns) :
    extractWith o d inp = d.columns.map (fun c => columnValue o c inp) := by
  unfold extractWith
  cases he : extractLoop o inp d.columns with
  | none => exact absurd ((extractLoop_none_iff o inp d.columns).1 he) h
  | some vs => simp [extractLoop_some o inp _ _ he]

theorem anyResult_map (o : Oracles) (inp : ParsingInput) (cols : List Column) :
    anyResult (cols.map (fun c => columnValue o c inp)) = true ↔
      ∃ c ∈ cols, (columnValue o c inp).isNull = false := by
  unfold anyResult
  simp only [List.any_map, List.any_eq_true, Function.comp, Bool.not_eq_true']

theorem admitted_iff_columnValue (o : Oracles) (d : TableDef) (lo : LineOracle) :
    admitted o d lo = true ↔
      (∃ c ∈ d.columns, (columnValue o c (ParsingInput.new d lo)).isNull = false) ∧
      (∀ c ∈ d.columns, c.options.nullable = false → (columnValue o c (ParsingInput.new d lo)).isNull = false) := by
  unfold admitted extractRow
  by_cases hc : cutBy o (ParsingInput.new d lo) d.columns
  · rw [extractWith_cut o d _ hc]
    constructor
    · intro h; simp [anyResult] at h
    · intro h
      obtain ⟨c, hm, hn, hnull⟩ := hc
      have := h.2 c hm hn
      rw [this] at hnull
      cases hnull
  · rw [extractWith_kept o d _ hc, anyResult_map]
    constructor
    · intro h
      refine ⟨h, ?_⟩
      intro c hm hn
      cases hv : (columnValue o c (ParsingInput.new d lo)).isNull with
      | false => rfl
      | true => exact absurd ⟨c, hm, hn, hv⟩ hc
    · intro h; exact h.1

/-- **admission lemma for C06**: a line is admitted ⇔ at least one column obtains a non-NULL value (a declared
DEFAULT counts: it is what `specColumn` returns for an absent pattern / group / path) ∧ every NOT NULL column is
non-NULL. Column values are the *specified* ones (`specColumn`). -/
theorem admitted_iff (o : Oracles) (d : TableDef) (lo : LineOracle) :
    admitted o d lo = true ↔
      (∃ c ∈ d.columns, (specColumn o c (ParsingInput.new d lo)).isNull = false) ∧
      (∀ c ∈ d.columns, c.options.nullable = false → (specColumn o c (ParsingInput.new d lo)).isNull = false) := by
  rw [admitted_iff_columnValue]
  simp only [columnValue_eq_spec]

/-- the pattern references of a column -/
def Column.refs (c : Column) : List Ref :=
  match c.parsing with
  | .regex r => [r]
  | .multi rs => rs
  | .json _ => []

/-- two parsing inputs look the same to column `c` -/
def agreeFor (c : Column) (inp inp' : ParsingInput) : Prop :=
  (∀ r ∈ c.refs, inp.regex.lookup r.pattern = inp'.regex.lookup r.pattern) ∧
  (c.isJson = true → inp.json = inp'.json)

theorem specScalar_congr (o : Oracles) (ty : VType) (inp inp' : ParsingInput) (r : Ref) (dv : Value)
    (h : inp.regex.lookup r.pattern = inp'.regex.lookup r.pattern) :
    specScalar o ty inp r dv = specScalar o ty inp' r dv := by
  unfold specScalar patternPresent groupText
  rw [h]

theorem specParts_congr (inp inp' : ParsingInput) :
    ∀ (rs : List Ref) (idx : Nat),
      (∀ r ∈ rs, inp.regex.lookup r.pattern = inp'.regex.lookup r.pattern) →
      specParts inp rs idx = specParts inp' rs idx := by
  intro rs
  induction rs with
  | nil => intro idx _; rfl
  | cons r rs ih =>
    intro idx h
    simp only [specParts]
    have h1 : specPart inp idx r = specPart inp' idx r := by
      unfold specPart groupText
      rw [h r List.mem_cons_self]
    rw [h1, ih (idx + 1) (fun r' hr' => h r' (List.mem_cons_of_mem _ hr'))]

theorem specColumn_congr (o : Oracles) (c : Column) (inp inp' : ParsingInput) (h : agreeFor c inp inp') :
    specColumn o c inp = specColumn o c inp' := by
  obtain ⟨hr, hj⟩ := h
  unfold specColumn
  congr 1
  unfold Column.refs at hr
  unfold Column.isJson at hj
  cases hp : c.parsing with
  | regex r =>
    rw [hp] at hr
    exact specScalar_congr o c.type inp inp' r _ (hr r (List.mem_singleton.2 rfl))
  | multi rs =>
    rw [hp] at hr
    simp only []
    cases c.type with
    | array e =>
      simp only []
      have hm : rs.map (fun r => specScalar o e inp r .null) = rs.map (fun r => specScalar o e inp' r .null) :=
        List.map_congr_left (fun r hr' => specScalar_congr o e inp inp' r .null (hr r hr'))
      rw [hm]
    | timestamp =>
      simp only []
      rw [specParts_congr inp inp' rs 0 hr]
    | _ => rfl
  | json a =>
    rw [hp] at hj
    simp only []
    rw [hj rfl]

theorem columnValue_congr (o : Oracles) (c : Column) (inp inp' : ParsingInput) (h : agreeFor c inp inp') :
    columnValue o c inp = columnValue o c inp' := by
  rw [columnValue_eq_spec, columnValue_eq_spec, specColumn_congr o c inp inp' h]

/-- what pattern `p` contributes on this line: nothing if a capture pattern does not match -/
def resultOf (lo : LineOracle) (p : Pattern) : Option RegexResult :=
  match p.mode with
  | .captures => (lo.captures p.regex).map .captures
  | .split => some (.split (lo.line :: lo.split p.regex))

/-- the last pattern called `name` that took part -/
def lastNamed (lo : LineOracle) (name : Text) : List Pattern → Option RegexResult
  | [] => none
  | p :: ps =>
    match lastNamed lo name ps with
    | some r => some r
    | none => if name == p.name then resultOf lo p else none

theorem lookup_buildResults (lo : LineOracle) (name : Text) :
    ∀ (ps : List Pattern) (acc : List (Text × RegexResult)),
      List.lookup name (buildResults lo ps acc) =
        match lastNamed lo name ps with
        | some r => some r
        | none => List.lookup name acc := by
  intro ps
  induction ps with
  | nil => intro acc; rfl
  | cons p ps ih =>
    intro acc
    simp only [buildResults, lastNamed]
    cases hm : p.mode with
    | captures =>
      simp only []
      cases hc : lo.captures p.regex with
      | none =>
        rw [ih acc]
        cases lastNamed lo name ps with
        | some r => rfl
        | none =>
          simp only [resultOf, hm, hc, Option.map_none, ite_self]
      | some gs =>
        rw [ih]
        cases lastNamed lo name ps with
        | some r => rfl
        | none =>
          simp only [resultOf, hm, hc, Option.map_some, List.lookup_cons]
          cases name == p.name <;> rfl
    | split =>
      simp only []
      rw [ih]
      cases lastNamed lo name ps with
      | some r => rfl
      | none =>
        simp only [resultOf, hm, List.lookup_cons]
        cases name == p.name <;> rfl

theorem lookup_new (d : TableDef) (lo : LineOracle) (name : Text) :
    List.lookup name (ParsingInput.new d lo).regex = lastNamed lo name d.patterns := by
  unfold ParsingInput.new
  simp only []
  rw [lookup_buildResults]
  cases lastNamed lo name d.patterns <;> rfl

theorem lastNamed_filter (lo : LineOracle) (name : Text) (ps : List Pattern) :
    lastNamed lo name (ps.filter (fun p => name == p.name)) = lastNamed lo name ps := by
  induction ps with
  | nil => rfl
  | cons p ps ih =>
    rw [List.filter_cons]
    cases hn : name == p.name
    · rw [if_neg Bool.false_ne_true, ih, lastNamed, hn]
      cases lastNamed lo name ps <;> rfl
    · rw [if_pos rfl, lastNamed, lastNamed, ih]

theorem lookup_new_congr (d d' : TableDef) (lo : LineOracle) (name : Text)
    (h : d.patterns.filter (fun p => name == p.name) = d'.patterns.filter (fun p => name == p.name)) :
    List.lookup name (ParsingInput.new d lo).regex = List.lookup name (ParsingInput.new d' lo).regex := by
  rw [lookup_new, lookup_new, ← lastNamed_filter, h, lastNamed_filter]

theorem anyJson_of_mem (d : TableDef) (c : Column) (hm : c ∈ d.columns) (hj : c.isJson = true) :
    d.anyJson = true := by
  unfold TableDef.anyJson
  exact List.any_eq_true.2 ⟨c, hm, hj⟩

theorem columnValue_two_defs (o : Oracles) (d d' : TableDef) (lo : LineOracle) (c : Column)
    (hm : c ∈ d.columns) (hm' : c ∈ d'.columns)
    (hp : ∀ r ∈ c.refs, d.patterns.filter (fun p => r.pattern == p.name) =
                          d'.patterns.filter (fun p => r.pattern == p.name)) :
    columnValue o c (ParsingInput.new d lo) = columnValue o c (ParsingInput.new d' lo) := by
  apply columnValue_congr
  constructor
  · intro r hr
    exact lookup_new_congr d d' lo r.pattern (hp r hr)
  · intro hj
    unfold ParsingInput.new
    simp only [anyJson_of_mem d c hm hj, anyJson_of_mem d' c hm' hj]

end Sqlgrep.Extract
