import SqlgrepModel.Lemmas.AggTotal
/-
The batch loop of `FileExecutor::execute` (`runFile`, `runFiles`, `runBatch` of Model/Exec.lean) around the
aggregation engine, and the refinement at the level of what the driver executes and `./check` compares. Also SUM's
overflow case (`sum_int_overflow_is_error`) and the alignment of the specification's table (`table_rows_aligned`).
-/
set_option linter.unusedSimpArgs false
namespace Sqlgrep
open Value Spec.Agg

theorem aggEnvs_bind (O : Oracles) (q : AggStmt) {β : Type} (f : AggState → Outcome β) (envs : List (Env × List String))
    (st : AggState) (any : Bool) :
    (aggEnvs O q envs st any).bind (fun p => f p.1) = (aggRun O q (envs.map (·.1)) st).bind f := by
  induction envs generalizing st any with
  | nil => rfl
  | cons e rest ih =>
    obtain ⟨env, keys⟩ := e
    simp only [aggEnvs, List.map_cons, aggRun, bind]
    cases aggUpdateRow O q st env with
    | ok p => simp only [Outcome.bind]; exact ih p.1 _
    | _ => rfl

theorem aggLoop_eq_aggRun (O : Oracles) (q : AggStmt) (rows : Line → List (Env × List String)) (ls : List Line) (st : AggState) :
    Spec.Join.aggLoop O q rows ls st = aggRun O q ((ls.flatMap rows).map (·.1)) st := by
  induction ls generalizing st with
  | nil => rfl
  | cons l rest ih =>
    simp only [Spec.Join.aggLoop, List.flatMap_cons, List.map_append, aggRun_append, bind]
    have := aggEnvs_bind O q (fun st' => Spec.Join.aggLoop O q rows rest st') (rows l) st false
    simp only [ih] at this ⊢
    exact this

theorem envsOf_cons (t : TableInfo) (fl : FileLine) (rest : List FileLine) :
    envsOf t (fl :: rest) = if anyResult fl.line.row then lineEnv t fl.line :: envsOf t rest else envsOf t rest := by
  unfold envsOf
  by_cases h : anyResult fl.line.row = true
  · simp [List.filter_cons, h, lineEnv]
  · simp [List.filter_cons, h]

/-- the state of the batch loop after a file whose lines were all read and updated without failure -/
def afterLines (ls : LoopState) (st : AggState) (n : Nat) : LoopState :=
  { ls with es := { ls.es with agg := st }, consumed := ls.consumed + n,
            out := { ls.out with totalLines := ls.out.totalLines + n } }

theorem feedLines_nojoin (O : Oracles) (qy : Query) (q : AggStmt) (hq : qy.stmt = .aggregate q) (hj : qy.join = none)
    (idx : JoinIndex) (fls : List FileLine) (es : EngineState) :
    (feedLines O qy idx false (fls.map (·.line)) es).2 =
      (aggRun O q (envsOf qy.table fls) es.agg).bind (fun st => .ok { es with agg := st }) := by
  rw [feedLines_aggLoop O (fun l _ => lineEnvs_nojoin qy idx false l hj) hq rfl, aggLoop_eq_aggRun]
  simp [envsOf, Spec.Join.admitted, List.filter_map, Function.comp_def, lineEnv, List.map_flatMap, ← List.map_eq_flatMap]

theorem runFile_agg (O : Oracles) (qy : Query) (q : AggStmt) (hq : qy.stmt = .aggregate q) (hj : qy.join = none)
    (lines : List FileLine) (hread : ∀ fl ∈ lines, fl.readable = true) (ls : LoopState) (hs : ls.stop = false)
    {st : AggState} (hrun : aggRun O q (envsOf qy.table lines) ls.es.agg = .ok st) :
    runFile O qy [] false none lines ls = afterLines ls st lines.length := by
  have h := (runFile_agg_feed O qy q hq [] (lines.map (·.line)) ls hs).1 { ls.es with agg := st }
    (by rw [feedLines_nojoin O qy q hq hj, hrun]; rfl)
  rwa [readableFile_of_readable hread, List.length_map] at h

theorem runFile_agg_fails (O : Oracles) (qy : Query) (q : AggStmt) (hq : qy.stmt = .aggregate q) (hj : qy.join = none)
    (lines : List FileLine) (hread : ∀ fl ∈ lines, fl.readable = true) (ls : LoopState) (hs : ls.stop = false)
    (h : ∀ st, aggRun O q (envsOf qy.table lines) ls.es.agg ≠ .ok st) :
    (runFile O qy [] false none lines ls).stop = true ∧ hasFailed (runFile O qy [] false none lines ls).out = true := by
  have := (runFile_agg_feed O qy q hq [] (lines.map (·.line)) ls hs).2 fun es' he => by
    rw [feedLines_nojoin O qy q hq hj] at he
    obtain ⟨st, hst, _⟩ := obind_ok he
    exact h st hst
  rwa [readableFile_of_readable hread] at this

theorem runFiles_agg (O : Oracles) (qy : Query) (q : AggStmt) (hq : qy.stmt = .aggregate q) (hj : qy.join = none)
    (files : List (List FileLine)) (hread : ∀ fl ∈ files.flatten, fl.readable = true) (ls : LoopState) (hstop : ls.stop = false)
    {st : AggState} (hrun : aggRun O q (envsOf qy.table files.flatten) ls.es.agg = .ok st) :
    runFiles O qy [] false none files ls = afterLines ls st files.flatten.length := by
  rw [runFiles_eq, if_neg (by simp [hstop, reachedLimit, hq])]
  exact runFile_agg O qy q hq hj _ hread ls hstop hrun

/-- a batch run of an aggregate statement (no join, every line readable) whose updates and final result succeed:
it prints the final table once and counts every line -/
theorem runBatch_agg (O : Oracles) (qy : Query) (q : AggStmt) (hq : qy.stmt = .aggregate q) (hj : qy.join = none)
    (joined : List FileLine) (files : List (List FileLine)) (hread : ∀ fl ∈ files.flatten, fl.readable = true)
    {st : AggState} (hrun : aggRun O q (envsOf qy.table files.flatten) {} = .ok st)
    {r : RowOut} (hfin : finalResult O q { agg := st } = .ok r) :
    runBatch O qy joined files none = { printed := printResult r true, totalLines := files.flatten.length } := by
  have hls := runFiles_agg O qy q hq hj files hread {} rfl hrun
  simp only [runBatch, hj, hq, Bool.not_true]
  rw [hls]
  simp only [afterLines, hasFailed]
  have : finalResult O q { seen := ([] : List (List Value)), agg := st, numOut := 0 } = .ok r := hfin
  simp [this]

/-- **where the specification answers a run without join outside the deviation classes, the engine delivers its table**:
every update succeeds and the final result is the specification's table under the statement's column names. Each
executed-level refinement (`batch_refines_spec_nojoin`, the traced `runBatchT_agg_spec`) puts its own loop around this. -/
theorem batch_nojoin_engine {O : Oracles} {qy : Query} {q : AggStmt} (hwf : StmtWF q) (hj : qy.join = none)
    {joined : List FileLine} {files : List (List FileLine)} {ro : RunOut}
    (h : Spec.Agg.batch O qy q joined files = some (ro, "")) :
    ∃ t st, table O q (envsOf qy.table files.flatten) = some t ∧ ro = tableOut q t files.flatten.length ∧
      aggRun O q (envsOf qy.table files.flatten) {} = .ok st ∧
      finalResult O q { agg := st } = .ok { columns := q.items.map (·.name), rows := t } := by
  obtain ⟨t, ht, ha⟩ := batch_nojoin_inv hj h
  obtain ⟨hro, hclass⟩ := Prod.mk.inj ha
  obtain ⟨st, hst, hfin⟩ := obind_ok (engine_refines_spec_total hwf _ ht hclass.symm)
  exact ⟨t, st, ht, hro, hst, hfin⟩

/-- refinement at driver level, statements without JOIN -/
theorem batch_refines_spec_nojoin {O : Oracles} {qy : Query} {q : AggStmt} (hq : qy.stmt = .aggregate q) (hwf : StmtWF q)
    (hj : qy.join = none) (joined : List FileLine) (files : List (List FileLine)) {ro : RunOut}
    (h : Spec.Agg.batch O qy q joined files = some (ro, "")) : runBatch O qy joined files none = ro := by
  obtain ⟨t, st, _, hro, hst, hfin⟩ := batch_nojoin_engine hwf hj h
  rw [runBatch_agg O qy q hq hj joined files (batch_readable h) hst hfin, hro]
  rfl

theorem foldV_error (k : AggKind) (vs : List Value) (c : Cell) (err : ErrKind) (v : Value)
    (h : stepV k v c = .error err) : foldV k (v :: vs) c = .error err := by
  simp only [foldV, h, Outcome.bind]

theorem foldV_sum_overflow {α : Type} {inj : α → Value} {plus : α → α → α} {okp : α → Bool} {zero : α}
    (N : NumLike inj plus okp zero) (e : Expr) (vs : List Value) (s : α) (ys : List α)
    (hys : nonNull vs = ys.map inj) (hov : psOk plus okp s ys = false) :
    foldV (.sum e) vs (sumCell (inj s)) = .error .undefinedOperation := by
  rw [show inj s = osum inj (some s) from rfl, foldV_sum N e hys, orun_some, hov]; rfl

/-- **SUM, the overflow case**: if the INT values of a group (each an i64) have a partial sum outside the 64-bit
range, folding the engine's SUM step over them reports `UndefinedOperation` — it neither wraps nor panics -/
theorem sum_int_overflow_is_error (e : Expr) (v : Value) (vs : List Value) (is : List Int)
    (h : nonNull (v :: vs) = is.map Value.int) (hrange : ∀ i ∈ is, inI64 i = true)
    (hov : partialSumsOk inI64 0 is = false) :
    foldV (.sum e) (v :: vs) {} = .error .undefinedOperation := by
  rw [foldV_sum_init]
  cases hv : v.isNull
  · have h' := h
    rw [nonNull_cons_of_not_null hv] at h'
    obtain ⟨y, ys', rfl, rfl, _⟩ := map_cons_inv h'
    rw [numLike_int.dflt]
    exact foldV_sum_overflow numLike_int e _ 0 _ h (by rw [psOk_int]; exact hov)
  · cases isNull_eq_true hv
    -- from the NULL start the first addend is adopted: the running sum is then `y`
    cases is with
    | nil => simp [partialSumsOk] at hov
    | cons y ys' =>
      simp only [partialSumsOk, Int.zero_add, hrange y (by simp), Bool.true_and] at hov
      rw [show defaultOf Value.null = osum Value.int none from rfl, foldV_sum numLike_int e h none, orun_cons]
      simp only [oadd, Outcome.bind]
      rw [orun_some, psOk_int, hov]; rfl

theorem firstRows_sub (rs : List (List Value)) : ∀ r ∈ firstRows rs, r ∈ rs := by
  induction rs with
  | nil => intro r h; simp [firstRows] at h
  | cons x xs ih =>
    intro r h
    simp only [firstRows, List.mem_cons] at h
    rcases h with h | h
    · simp [h]
    · exact List.mem_cons_of_mem _ (ih r (List.mem_filter.mp h).1)

/-- every row of the specification's table has one cell per select-list item -/
theorem table_rows_aligned {O : Oracles} {q : AggStmt} {envs : List Env} {t : List (List Value)}
    (h : table O q envs = some t) : ∀ r ∈ t, r.length = q.items.length := by
  obtain ⟨rows, _, _, _, htab⟩ := table_eq_some h
  rw [tableOfGroups_eq] at htab
  cases hall : collect ((groups rows).map (perGroup O q)) with
  | none => simp [hall] at htab
  | some all =>
    simp only [hall, Option.some.injEq] at htab
    -- every kept row is the row of some group
    have hkept : ∀ r ∈ keptRows all, r.length = q.items.length := by
      intro r hrm
      simp only [keptRows, List.mem_map, List.mem_filter] at hrm
      obtain ⟨ra, ⟨hra, _⟩, rfl⟩ := hrm
      obtain ⟨g, _, hg⟩ := (collect_map_mem hall).2 ra hra
      rw [collect_length (perGroup_eq_some.mp hg).1, List.length_map]
    intro r hrt
    rw [← htab] at hrt
    have hsub : r ∈ keptRows all := by
      cases hl : q.limit <;> cases hd : q.distinct <;> simp only [hl, hd, Bool.false_eq_true, if_false, if_true] at hrt
      · exact hrt
      · exact firstRows_sub _ r hrt
      · exact List.mem_of_mem_take hrt
      · exact firstRows_sub _ r (List.mem_of_mem_take hrt)
    exact hkept r hsub

end Sqlgrep
