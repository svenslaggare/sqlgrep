import SqlgrepModel.Props.C13
import SqlgrepModel.Lemmas.ParseStripStmt
import SqlgrepModel.Lemmas.ParseLift
import SqlgrepModel.Lemmas.PrHead
import SqlgrepModel.Props.Pipeline
/-
C13 at the level of whole statements (second review, L8). `Props/C13.lean` is about `parse_expression_internal` on a token
vector that holds an expression followed by "something that stops it". Here the expression stands where a user writes it:

  SELECT <e₁> FROM t WHERE <e₂>

`Parser::parse` (`Parse.parseTokens` with the tables of the running code and the fuel the model is executed with) reads the
token vector in which `e₁`, `e₂` are written with minimal parentheses and the one in which they are fully parenthesised as
the same tree — the SELECT statement whose projection is the tree the reference grammar assigns to `e₁` and whose filter is
that of `e₂` — whatever the locations of the tokens (`select_where_minimal_parens`); hence both token vectors lower alike
(`select_where_same_statement`), two TEXTS whose tokens spell the two forms parse alike (`select_where_same_text`) and the whole
program prints the same (`select_where_same_output`). Scope, said plainly: ONE statement shape — one projection without alias,
FROM, WHERE; expressions in the other positions (further projections, GROUP BY keys, HAVING, LIMIT) are covered by the
expression-level theorems of `Props/C13.lean` plus the clause-level determinism of `Props/C20Parse.lean`, not composed here.
-/
namespace Sqlgrep.Props.C13Stmt
open Sqlgrep Sqlgrep.Parse Sqlgrep.Spec

def D (t : Tok) : PTok := ⟨default, t⟩

def toksOf (s : PSt) : List PTok := s.cur :: s.rest

theorem toksOf_push (t : Tok) (s : PSt) : toksOf (push t s) = D t :: toksOf s := rfl

theorem toksOf_pushAll (p : List Tok) (s : PSt) : toksOf (pushAll p s) = p.map D ++ toksOf s := by
  induction p with
  | nil => rfl
  | cons t p ih => rw [pushAll_cons, toksOf_push, ih]; rfl

theorem remaining_push (t : Tok) (s : PSt) : (push t s).remaining = s.remaining + 1 := by
  simp [PSt.remaining, push]

theorem remaining_pushAll (p : List Tok) (s : PSt) : (pushAll p s).remaining = p.length + s.remaining := by
  induction p with
  | nil => simp
  | cons t p ih => rw [pushAll_cons, remaining_push, ih]; simp; omega

theorem next_push (t : Tok) (s : PSt) : next (push t s) = .ok () s := rfl

def endSt : PSt := ⟨D .eof, []⟩

def whereSt (w : List Tok) : PSt := push (.kw .where) (pushAll w endSt)

def bodySt (p : List Tok) (tbl : List Char) (w : List Tok) : PSt :=
  pushAll p (push (.kw .from) (push (.ident tbl) (whereSt w)))

/-- the tokens of `SELECT <p> FROM tbl WHERE <w>` followed by `End` -/
def selectWhere (p : List Tok) (tbl : List Char) (w : List Tok) : List Tok :=
  [.kw .select] ++ p ++ [.kw .from, .ident tbl, .kw .where] ++ w ++ [.eof]

theorem selectWhere_eq (p : List Tok) (tbl : List Char) (w : List Tok) :
    (selectWhere p tbl w).map D = D (.kw .select) :: toksOf (bodySt p tbl w) := by
  unfold selectWhere bodySt whereSt
  rw [toksOf_pushAll, toksOf_push, toksOf_push, toksOf_push, toksOf_pushAll]
  simp [toksOf, endSt]

/-- the tree of `SELECT e₁ FROM tbl WHERE e₂` under the reference grammar (all locations default) -/
def selectTree (e₁ : RExpr) (tbl : List Char) (e₂ : RExpr) : POp :=
  .select { loc := default, projections := [(none, e₁.embed)], fromTable := tbl, fromFile := none,
            filter := some e₂.embed, groupBy := none, having := none, join := none, limit := none, distinct := false }

theorem stops_end : Stops specTables 0 endSt :=
  Props.C13.stops_of_plain_token (by simp [endSt, D]) (by simp [endSt, D]) (by decide)

theorem stops_from (s : PSt) : Stops specTables 0 (push (.kw .from) s) :=
  Props.C13.stops_of_plain_token (by simp [push]) (by simp [push])
    (by show lookupTok specTables.other (.kw .from) = none; decide)

/-- `parse_select` on the stripped vector, at every fuel of at least three times the vector's length: the projection and the
filter are read as the reference grammar's trees, whichever way the two expressions are printed as long as the expression
parser reads the printings as those trees -/
theorem parseSelect_body (T : PrecTables) (e₁ e₂ : RExpr) (p w : List Tok) (tbl : List Char) (sel : PTok) (F : Nat)
    (hp : ∀ f, 3 * (bodySt p tbl w).remaining ≤ f →
      parseExpr T f (bodySt p tbl w) = .ok e₁.embed (push (.kw .from) (push (.ident tbl) (whereSt w))))
    (hw : ∀ f, 3 * (pushAll w endSt).remaining ≤ f → parseExpr T f (pushAll w endSt) = .ok e₂.embed endSt)
    (hd : (bodySt p tbl w).cur.tok ≠ .kw .distinct)
    (hF : 3 * (bodySt p tbl w).remaining + 1 ≤ F) :
    parseSelect T F ⟨sel, toksOf (bodySt p tbl w)⟩ = .ok (selectTree e₁ tbl e₂) endSt := by
  obtain ⟨F', rfl⟩ : ∃ F', F = F' + 1 := ⟨F - 1, by omega⟩
  have hrem : (bodySt p tbl w).remaining = p.length + ((pushAll w endSt).remaining + 3) := by
    simp only [bodySt, whereSt, remaining_pushAll, remaining_push]
  have h1 : next (⟨sel, toksOf (bodySt p tbl w)⟩ : PSt) = .ok () (bodySt p tbl w) := rfl
  have h2 : optDistinct (bodySt p tbl w) = .ok false (bodySt p tbl w) := by
    unfold optDistinct; rw [if_neg hd]
  have h3 : projLoop T (F' + 1) [] (bodySt p tbl w) = .ok [(none, e₁.embed)] (push (.ident tbl) (whereSt w)) := by
    rw [projLoop, hp F' (by omega)]
    simp only [optAlias, push, List.nil_append]
    simp
    rfl
  have h4 : consumeIdentifier (push (.ident tbl) (whereSt w)) = .ok tbl (whereSt w) := rfl
  have h5 : optFile (whereSt w) = .ok none (whereSt w) := by
    unfold optFile whereSt; simp [push]
  have h6 : clauses T (F' + 1) (whereSt w) = .ok { filter := some e₂.embed } endSt := by
    unfold clauses
    rw [if_pos (by simp [whereSt, push])]
    rw [clauseLoop, clauseTurn]
    rw [if_pos (by simp [whereSt, push])]
    have : next (whereSt w) = .ok () (pushAll w endSt) := rfl
    rw [this]
    simp only [Option.isSome_none, Bool.false_eq_true, if_false]
    rw [hw F' (by omega)]
    simp [endSt, D]
  unfold parseSelect
  rw [h1]; simp only []
  rw [h2]; simp only []
  rw [h3]; simp only []
  rw [h4]; simp only []
  rw [h5]; simp only []
  rw [h6]
  have hl : (bodySt p tbl w).cur.loc = default := pushAll_loc p _ rfl
  simp only [hl]
  rfl

/-- `Parser::parse` on the stripped vector, with the fuel the model is executed with -/
theorem parseTokens_stripped (T : PrecTables) (e₁ e₂ : RExpr) (p w : List Tok) (tbl : List Char)
    (hp : ∀ f, 3 * (bodySt p tbl w).remaining ≤ f →
      parseExpr T f (bodySt p tbl w) = .ok e₁.embed (push (.kw .from) (push (.ident tbl) (whereSt w))))
    (hw : ∀ f, 3 * (pushAll w endSt).remaining ≤ f → parseExpr T f (pushAll w endSt) = .ok e₂.embed endSt)
    (hd : (bodySt p tbl w).cur.tok ≠ .kw .distinct) :
    parseTokens T ((selectWhere p tbl w).map D) = .tree (selectTree e₁ tbl e₂) := by
  rw [selectWhere_eq]
  refine parseTokensFuel_cons_eq_tree_iff.2 ⟨endSt, ?_⟩
  have hF : 3 * (bodySt p tbl w).remaining + 1 ≤ fuelBound (D (.kw .select) :: toksOf (bodySt p tbl w)).length := by
    simp only [fuelBound, toksOf, List.length_cons, PSt.remaining]; omega
  unfold parseOp
  rw [if_neg (by simp [D])]
  unfold parseStatement
  rw [if_pos (by simp [D]), parseSelect_body T e₁ e₂ p w tbl (D (.kw .select)) _ hp hw hd hF]
  simp [optSemi, endSt, D]

/-- the first token of the printed projection is not `DISTINCT` (hypothesis of the theorems below; it holds for every
expression: `notDistinctFirst_minimal`, `notDistinctFirst_full`, and the `_all` theorems have it discharged) -/
def NotDistinctFirst (p : List Tok) : Prop := p.head? ≠ some (.kw .distinct)

instance (p : List Tok) : Decidable (NotDistinctFirst p) := by unfold NotDistinctFirst; infer_instance

/-- … and it never is: no printed expression begins with `DISTINCT` (`Lemmas/PrHead.lean`) -/
theorem notDistinctFirst_minimal (e : RExpr) : NotDistinctFirst (RExpr.minimal e) := by
  obtain ⟨t, r, h, ht⟩ := RExpr.minimal_goodHead e
  unfold NotDistinctFirst; rw [h]; simpa using ht

theorem notDistinctFirst_full (e : RExpr) : NotDistinctFirst (RExpr.full e) := by
  obtain ⟨t, r, h, ht⟩ := RExpr.full_goodHead e
  unfold NotDistinctFirst; rw [h]; simpa using ht

theorem cur_tok_of_notDistinctFirst (p : List Tok) (s : PSt) (h : NotDistinctFirst p) (hs : s.cur.tok ≠ .kw .distinct) :
    (pushAll p s).cur.tok ≠ .kw .distinct := by
  cases p with
  | nil => exact hs
  | cons t p =>
    intro hc
    apply h
    show some t = some (.kw .distinct)
    rw [← hc]; rfl

/-- **C13 for whole statements, stripped vector**: `SELECT e₁ FROM tbl WHERE e₂` with both expressions written with minimal
parentheses, and with both fully parenthesised, are read by `Parser::parse` — tables of the running code, executed fuel — as
the SELECT statement whose projection and filter are the trees of the reference grammar -/
theorem select_where_stripped (e₁ e₂ : RExpr) (hwf₁ : RExpr.WF specTables e₁) (hwf₂ : RExpr.WF specTables e₂) (tbl : List Char)
    (hd₁ : NotDistinctFirst (RExpr.minimal e₁)) (hd₂ : NotDistinctFirst (RExpr.full e₁)) :
    parseTokens Generated.precTables ((selectWhere (RExpr.minimal e₁) tbl (RExpr.minimal e₂)).map D) = .tree (selectTree e₁ tbl e₂) ∧
    parseTokens Generated.precTables ((selectWhere (RExpr.full e₁) tbl (RExpr.full e₂)).map D) = .tree (selectTree e₁ tbl e₂) := by
  have key : ∀ (w : List Tok), ∀ (p₁ : List Tok),
      (p₁ = RExpr.minimal e₁ ∨ p₁ = RExpr.full e₁) → (w = RExpr.minimal e₂ ∨ w = RExpr.full e₂) →
      parseTokens Generated.precTables ((selectWhere p₁ tbl w).map D) = .tree (selectTree e₁ tbl e₂) := by
    intro w p₁ hp₁ hw
    apply parseTokens_stripped
    · intro f hf
      obtain ⟨f0, h0⟩ := Props.C13.parse_minimal_parens e₁ hwf₁ (push (.kw .from) (push (.ident tbl) (whereSt w))) rfl (stops_from _)
      apply Props.C13.answer_at_linear_fuel _ _ _ _ ?_ f hf
      rcases hp₁ with rfl | rfl
      · exact ⟨f0, fun g hg => (h0 g hg).1⟩
      · exact ⟨f0, fun g hg => (h0 g hg).2⟩
    · intro f hf
      obtain ⟨f0, h0⟩ := Props.C13.parse_minimal_parens e₂ hwf₂ endSt rfl stops_end
      apply Props.C13.answer_at_linear_fuel _ _ _ _ ?_ f hf
      rcases hw with rfl | rfl
      · exact ⟨f0, fun g hg => (h0 g hg).1⟩
      · exact ⟨f0, fun g hg => (h0 g hg).2⟩
    · apply cur_tok_of_notDistinctFirst
      · rcases hp₁ with rfl | rfl <;> assumption
      · simp [push]
  exact ⟨key _ _ (.inl rfl) (.inl rfl), key _ _ (.inr rfl) (.inr rfl)⟩

theorem tree_of_stripped (T : PrecTables) (toks : List PTok) (l : List Tok) (X : POp) (h : toks.map (·.tok) = l)
    (hX : parseTokens T (l.map D) = .tree X) : ∃ op, parseTokens T toks = .tree op ∧ op.eraseLoc = X := by
  subst h
  rw [List.map_map] at hX
  exact Pipeline.tree_of_strip hX

/-- **C13 for whole statements.** Let `toks₁` be any token vector — tokens at any locations — that spells
`SELECT e₁ FROM tbl WHERE e₂` with the two expressions written with minimal parentheses under the reference grammar, and
`toks₂` one that spells it with both fully parenthesised. `Parser::parse` (tables of the running code, executed fuel) reads
both as the same SELECT statement up to locations: projection = the tree of `e₁`, filter = the tree of `e₂`. -/
theorem select_where_minimal_parens (e₁ e₂ : RExpr) (hwf₁ : RExpr.WF specTables e₁) (hwf₂ : RExpr.WF specTables e₂)
    (tbl : List Char) (hd₁ : NotDistinctFirst (RExpr.minimal e₁)) (hd₂ : NotDistinctFirst (RExpr.full e₁))
    (toks₁ toks₂ : List PTok)
    (h₁ : toks₁.map (·.tok) = selectWhere (RExpr.minimal e₁) tbl (RExpr.minimal e₂))
    (h₂ : toks₂.map (·.tok) = selectWhere (RExpr.full e₁) tbl (RExpr.full e₂)) :
    ∃ op₁ op₂, parseTokens PrecTables.code toks₁ = .tree op₁ ∧ parseTokens PrecTables.code toks₂ = .tree op₂ ∧
      op₁.eraseLoc = selectTree e₁ tbl e₂ ∧ op₂.eraseLoc = selectTree e₁ tbl e₂ := by
  rw [Props.C13.code_tables_are_the_generated_tables]
  obtain ⟨a, b⟩ := select_where_stripped e₁ e₂ hwf₁ hwf₂ tbl hd₁ hd₂
  obtain ⟨op₁, p₁, q₁⟩ := tree_of_stripped _ toks₁ _ _ h₁ a
  obtain ⟨op₂, p₂, q₂⟩ := tree_of_stripped _ toks₂ _ _ h₂ b
  exact ⟨op₁, op₂, p₁, p₂, q₁, q₂⟩

/-- … hence `parsing::parse` answers the same for both (the same statement, or conversion errors of the same kind): an
expression means the same as its fully parenthesised form, in the statement a user writes -/
theorem select_where_same_statement (rv : List Char → Bool) (e₁ e₂ : RExpr) (hwf₁ : RExpr.WF specTables e₁)
    (hwf₂ : RExpr.WF specTables e₂) (tbl : List Char) (hd₁ : NotDistinctFirst (RExpr.minimal e₁))
    (hd₂ : NotDistinctFirst (RExpr.full e₁)) (toks₁ toks₂ : List PTok)
    (h₁ : toks₁.map (·.tok) = selectWhere (RExpr.minimal e₁) tbl (RExpr.minimal e₂))
    (h₂ : toks₂.map (·.tok) = selectWhere (RExpr.full e₁) tbl (RExpr.full e₂)) :
    (Pipeline.parseToks rv toks₁).stripLoc = (Pipeline.parseToks rv toks₂).stripLoc ∧
    ∀ s, Pipeline.parseToks rv toks₁ = .stmt s ↔ Pipeline.parseToks rv toks₂ = .stmt s := by
  obtain ⟨op₁, op₂, p₁, p₂, q₁, q₂⟩ := select_where_minimal_parens e₁ e₂ hwf₁ hwf₂ tbl hd₁ hd₂ toks₁ toks₂ h₁ h₂
  have he : op₁.eraseLoc = op₂.eraseLoc := q₁.trans q₂.symm
  exact ⟨Pipeline.parseToks_of_sameTree rv p₁ p₂ he,
    fun s => ⟨Pipeline.parseToks_stmt_of_sameTree rv p₁ p₂ he s, Pipeline.parseToks_stmt_of_sameTree rv p₂ p₁ he.symm s⟩⟩

/-- **… for texts**: two query texts whose tokens (as the tokenizer of the running code reads them: any layout, letter case of
keywords, comments) spell `SELECT e₁ FROM tbl WHERE e₂` with minimal and with full parentheses are answered alike by
`parsing::parse`: the same statement, or errors of the same kind -/
theorem select_where_same_text (lo : Lex.Oracles) (rv : List Char → Bool) (e₁ e₂ : RExpr) (hwf₁ : RExpr.WF specTables e₁)
    (hwf₂ : RExpr.WF specTables e₂) (tbl : List Char) (hd₁ : NotDistinctFirst (RExpr.minimal e₁))
    (hd₂ : NotDistinctFirst (RExpr.full e₁)) (text₁ text₂ : List Char) (toks₁ toks₂ : List PTok)
    (ht₁ : Lex.tokenize lo text₁ = .ok toks₁) (ht₂ : Lex.tokenize lo text₂ = .ok toks₂)
    (h₁ : toks₁.map (·.tok) = selectWhere (RExpr.minimal e₁) tbl (RExpr.minimal e₂))
    (h₂ : toks₂.map (·.tok) = selectWhere (RExpr.full e₁) tbl (RExpr.full e₂)) (s : LStmt) :
    Pipeline.parseText lo rv text₁ = .stmt s ↔ Pipeline.parseText lo rv text₂ = .stmt s := by
  rw [Pipeline.parseText_of_tokenize ht₁, Pipeline.parseText_of_tokenize ht₂]
  exact (select_where_same_statement rv e₁ e₂ hwf₁ hwf₂ tbl hd₁ hd₂ toks₁ toks₂ h₁ h₂).2 s

/-- **… and for the output of the whole program** (`Pipeline.runText`: definitions text, query text, format, files ↦ printed
records or error): the statement written with minimal parentheses and the fully parenthesised one give the same answer on
every input, in every format, whatever the outside world answers (`Facts`) -/
theorem select_where_same_output (F : Pipeline.Facts) (defs text₁ text₂ : List Char) (fmt : Print.Format) (single : Bool)
    (files : List (List Nat)) (e₁ e₂ : RExpr) (hwf₁ : RExpr.WF specTables e₁) (hwf₂ : RExpr.WF specTables e₂) (tbl : List Char)
    (hd₁ : NotDistinctFirst (RExpr.minimal e₁)) (hd₂ : NotDistinctFirst (RExpr.full e₁)) (toks₁ toks₂ : List PTok)
    (ht₁ : Lex.tokenize (Pipeline.lexOracles F) text₁ = .ok toks₁) (ht₂ : Lex.tokenize (Pipeline.lexOracles F) text₂ = .ok toks₂)
    (h₁ : toks₁.map (·.tok) = selectWhere (RExpr.minimal e₁) tbl (RExpr.minimal e₂))
    (h₂ : toks₂.map (·.tok) = selectWhere (RExpr.full e₁) tbl (RExpr.full e₂))
    (d q : LStmt)
    (hc₁ : Pipeline.classesCover F defs = true ∧ Pipeline.classesCover F text₁ = true) (hc₂ : Pipeline.classesCover F text₂ = true)
    (hd : Pipeline.parseText (Pipeline.lexOracles F) (Pipeline.regexValidFn F) defs = .stmt d)
    (hp : (Pipeline.createPatterns d).all (fun re => ((Utf8.decode re).bind (Pipeline.regexValidOf F)).isSome) = true)
    (hq : Pipeline.parseText (Pipeline.lexOracles F) (Pipeline.regexValidFn F) text₁ = .stmt q) :
    Pipeline.runText F defs text₁ fmt single files = Pipeline.runText F defs text₂ fmt single files :=
  Props.Pipeline.runText_depends_on_statements F defs defs text₁ text₂ fmt single files d q hc₁ ⟨hc₁.1, hc₂⟩ hd hd hp hq
    ((select_where_same_text _ _ e₁ e₂ hwf₁ hwf₂ tbl hd₁ hd₂ text₁ text₂ toks₁ toks₂ ht₁ ht₂ h₁ h₂ q).1 hq)

/-- **C13 for whole statements, without side condition**: `select_where_minimal_parens` for EVERY pair of well-formed expressions —
the `DISTINCT` hypothesis is discharged (`notDistinctFirst_minimal`, `notDistinctFirst_full`) -/
theorem select_where_minimal_parens_all (e₁ e₂ : RExpr) (hwf₁ : RExpr.WF specTables e₁) (hwf₂ : RExpr.WF specTables e₂)
    (tbl : List Char) (toks₁ toks₂ : List PTok)
    (h₁ : toks₁.map (·.tok) = selectWhere (RExpr.minimal e₁) tbl (RExpr.minimal e₂))
    (h₂ : toks₂.map (·.tok) = selectWhere (RExpr.full e₁) tbl (RExpr.full e₂)) :
    ∃ op₁ op₂, parseTokens PrecTables.code toks₁ = .tree op₁ ∧ parseTokens PrecTables.code toks₂ = .tree op₂ ∧
      op₁.eraseLoc = selectTree e₁ tbl e₂ ∧ op₂.eraseLoc = selectTree e₁ tbl e₂ :=
  select_where_minimal_parens e₁ e₂ hwf₁ hwf₂ tbl (notDistinctFirst_minimal e₁) (notDistinctFirst_full e₁) toks₁ toks₂ h₁ h₂

/-- … and the text-level statement without side condition -/
theorem select_where_same_text_all (lo : Lex.Oracles) (rv : List Char → Bool) (e₁ e₂ : RExpr) (hwf₁ : RExpr.WF specTables e₁)
    (hwf₂ : RExpr.WF specTables e₂) (tbl : List Char) (text₁ text₂ : List Char) (toks₁ toks₂ : List PTok)
    (ht₁ : Lex.tokenize lo text₁ = .ok toks₁) (ht₂ : Lex.tokenize lo text₂ = .ok toks₂)
    (h₁ : toks₁.map (·.tok) = selectWhere (RExpr.minimal e₁) tbl (RExpr.minimal e₂))
    (h₂ : toks₂.map (·.tok) = selectWhere (RExpr.full e₁) tbl (RExpr.full e₂)) (s : LStmt) :
    Pipeline.parseText lo rv text₁ = .stmt s ↔ Pipeline.parseText lo rv text₂ = .stmt s :=
  select_where_same_text lo rv e₁ e₂ hwf₁ hwf₂ tbl (notDistinctFirst_minimal e₁) (notDistinctFirst_full e₁) text₁ text₂ toks₁ toks₂
    ht₁ ht₂ h₁ h₂ s

/-- `a OR b AND c` -/
def exProj : RExpr := .bin .or (.col ['a'] []) (.bin .and (.col ['b'] []) (.col ['c'] []))
/-- `NOT x = y` -/
def exFilter : RExpr := .not (.bin (.sym (.single '=')) (.col ['x'] []) (.col ['y'] []))

theorem exProj_wf : RExpr.WF specTables exProj := by simp [exProj, RExpr.WF]; try decide
theorem exFilter_wf : RExpr.WF specTables exFilter := by simp [exFilter, RExpr.WF]; try decide
example : NotDistinctFirst (RExpr.minimal exProj) ∧ NotDistinctFirst (RExpr.full exProj) := by decide
/-- the minimal printing has no parenthesis at all, the full one has them all -/
example : RExpr.minimal exProj = [.ident ['a'], .kw .or, .ident ['b'], .kw .and, .ident ['c']] := by decide
example : RExpr.full exFilter = [.lp, .kw .not, .lp, .ident ['x'], .op (.single '='), .ident ['y'], .rp, .rp] := by decide
/-- the hypotheses hold and the theorem applies: both vectors are read as the tree with `OR` at the root of the projection and
`NOT` at the root of the filter -/
example : parseTokens Generated.precTables ((selectWhere (RExpr.minimal exProj) ['t'] (RExpr.minimal exFilter)).map D) =
      .tree (selectTree exProj ['t'] exFilter) ∧
    parseTokens Generated.precTables ((selectWhere (RExpr.full exProj) ['t'] (RExpr.full exFilter)).map D) =
      .tree (selectTree exProj ['t'] exFilter) :=
  select_where_stripped exProj exFilter exProj_wf exFilter_wf ['t'] (by decide) (by decide)
/-- … and the kernel evaluating the executed definition agrees: the root of the projection is OR with AND below it on the right,
the root of the filter is NOT -/
example : (match parseTokens PrecTables.code ((selectWhere (RExpr.minimal exProj) ['t'] (RExpr.minimal exFilter)).map D) with
    | .tree (.select q) => (match q.projections, q.filter with
        | [(none, .boolop _ false (.column _ _) (.boolop _ true _ _))], some (.invert _ (.binop _ _ _ _)) => true
        | _, _ => false)
    | _ => false) = true := by decide +kernel

/-- the hypotheses of the text-level theorems on real texts (other layout, letter case and a comment in the second): the tokenizer
reads them as the two spellings. (The kernel takes the characters of a string literal in quadratic time: it is handed the
lists by `String.toList_ofList`, and the tokenizer with written-out word tables by `Lex.tokenize_eq_K`, in the two calls taken
out of their `match`, which it compares by evaluating both sides.) -/
example : (match Lex.tokenize Lex.Tables.asciiOnly "SELECT a OR b AND c FROM t WHERE NOT x = y".toList with
    | .ok ts => decide (ts.map (·.tok) = selectWhere (RExpr.minimal exProj) ['t'] (RExpr.minimal exFilter)) | _ => false) = true ∧
    (match Lex.tokenize Lex.Tables.asciiOnly "select (a or (b and c)) -- fully parenthesised\n  from t\n  where (not (x = y))".toList with
    | .ok ts => decide (ts.map (·.tok) = selectWhere (RExpr.full exProj) ['t'] (RExpr.full exFilter)) | _ => false) = true := by
  generalize h₁ : Lex.tokenize _ _ = r₁
  generalize h₂ : Lex.tokenize _ _ = r₂
  rw [String.toList_ofList, Lex.tokenize_eq_K] at h₁ h₂
  subst h₁ h₂
  decide +kernel

/-- through the whole program (`runText`: tokenizer, parser, lowering, extraction, engine, printer): a statement written with
minimal parentheses and its fully parenthesised form print the same records — and not the records of the other grouping -/
example :
    Props.Pipeline.recordsOf (Pipeline.runText Props.Pipeline.exFacts Props.Pipeline.exDefs
      "SELECT v + 2 * 3 FROM t WHERE NOT v = 1 OR v = 1 AND k = 'b'".toList .text false [strBytes "a;1\nb;2\n"]) =
    Props.Pipeline.recordsOf (Pipeline.runText Props.Pipeline.exFacts Props.Pipeline.exDefs
      "SELECT (v + (2 * 3)) FROM t WHERE ((NOT (v = 1)) OR ((v = 1) AND (k = 'b')))".toList .text false [strBytes "a;1\nb;2\n"]) ∧
    Props.Pipeline.recordsOf (Pipeline.runText Props.Pipeline.exFacts Props.Pipeline.exDefs
      "SELECT v + 2 * 3 FROM t WHERE NOT v = 1 OR v = 1 AND k = 'b'".toList .text false [strBytes "a;1\nb;2\n"]) ≠
    Props.Pipeline.recordsOf (Pipeline.runText Props.Pipeline.exFacts Props.Pipeline.exDefs
      "SELECT (v + 2) * 3 FROM t WHERE NOT (v = 1 OR v = 1) AND k = 'b'".toList .text false [strBytes "a;1\nb;2\n"]) ∧
    (Props.Pipeline.recordsOf (Pipeline.runText Props.Pipeline.exFacts Props.Pipeline.exDefs
      "SELECT v + 2 * 3 FROM t WHERE NOT v = 1 OR v = 1 AND k = 'b'".toList .text false [strBytes "a;1\nb;2\n"])).isSome = true := by
  simp only [Props.Pipeline.exRun]; rw [String.toList_ofList, String.toList_ofList, String.toList_ofList]; decide +kernel

end Sqlgrep.Props.C13Stmt
