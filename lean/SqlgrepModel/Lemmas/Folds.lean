import SqlgrepModel.Model.Engine
import SqlgrepModel.Lemmas.Outcome
/-
The list recursions of the engines (`selectEnvs`, `aggEnvs`, `updateAggregates`) are `List.foldlM` in the `Outcome`
monad (`rowOf`, `aggColumn`, `aggColumns`, `resultRows` are `Outcome.seq` of a `map`: `Lemmas/AggColumns.lean`). Said once per
function; what is true of every such fold is in `Lemmas/Outcome.lean` (`Outcome.foldlM_*`).
-/
namespace Sqlgrep

section
variable (O : Oracles)

theorem selectEnvs_eq_foldlM (q : SelectStmt) (envs : List (Env × List String)) (seen : List (List Value)) (acc : Option RowOut) :
    selectEnvs O q envs seen acc =
      envs.foldlM (fun p e => (selectOne O q p.1 e.1 e.2).bind fun r => .ok (r.1, extendOut p.2 r.2)) (seen, acc) :=
  Outcome.eq_foldlM (run := fun envs p => selectEnvs O q envs p.1 p.2) (fun _ => rfl)
    (fun e rest p => (Outcome.bind_assoc (selectOne O q p.1 e.1 e.2) (fun r => .ok (r.1, extendOut p.2 r.2))
      (fun p => selectEnvs O q rest p.1 p.2)).symm) envs (seen, acc)

theorem aggEnvs_eq_foldlM (q : AggStmt) (envs : List (Env × List String)) (st : AggState) (any : Bool) :
    aggEnvs O q envs st any =
      envs.foldlM (fun p e => (aggUpdateRow O q p.1 e.1).bind fun r => .ok (r.1, p.2 || r.2)) (st, any) :=
  Outcome.eq_foldlM (run := fun envs p => aggEnvs O q envs p.1 p.2) (fun _ => rfl)
    (fun e rest p => (Outcome.bind_assoc (aggUpdateRow O q p.1 e.1) (fun r => .ok (r.1, p.2 || r.2))
      (fun p => aggEnvs O q rest p.1 p.2)).symm) envs (st, any)

theorem updateAggregates_eq_foldlM (q : AggStmt) (env : Env) (key : List Value) (l : List (Nat × AggKind)) (st : AggState) :
    updateAggregates O q env key l st = l.foldlM (fun st p => updateAggregate O q env key p.1 p.2 st) st :=
  Outcome.eq_foldlM (fun _ => rfl) (fun _ _ _ => rfl) l st

end
end Sqlgrep
