import SqlgrepModel.Lemmas.Answers
import SqlgrepModel.Drivers.Run
/- The `incr` driver (Drivers/Run.lean `incrLoop`) is a rendering of `feedLines`: the theorems about `feedLines`
are theorems about what the driver executes. -/
namespace Sqlgrep
open Sqlgrep.Drivers.Run

/-- the driver's rendering of one engine answer (`incr` case kind) -/
def incrItem (lo : LineOut) : String :=
  (match lo.result with
    | some r => rowOutToWire r
    | none => "-") ++ (if lo.reachedLimit then "!" else "")

theorem incrLoop_eq_feedLines (O : Oracles) (qy : Query) (idx : JoinIndex) (fls : List FileLine) (es : EngineState)
    (acc : List String) :
    incrLoop O qy idx fls es acc =
      match (feedLines O qy idx true (fls.map (·.line)) es).2 with
      | .ok _ => acc.reverse ++ (feedLines O qy idx true (fls.map (·.line)) es).1.map incrItem
      | .error k => acc.reverse ++ (feedLines O qy idx true (fls.map (·.line)) es).1.map incrItem ++ ["err:" ++ k.name]
      | .panic _ => acc.reverse ++ (feedLines O qy idx true (fls.map (·.line)) es).1.map incrItem ++ ["panic"]
      | .oracleMissing w => ["skip " ++ w] := by
  induction fls generalizing es acc with
  | nil => simp [incrLoop, feedLines]
  | cons fl rest ih =>
    simp only [incrLoop, List.map_cons, feedLines]
    cases executeLine O qy idx true es fl.line with
    | ok p =>
      obtain ⟨es1, lo⟩ := p
      simp only
      rw [ih]
      cases (feedLines O qy idx true (rest.map (·.line)) es1).2 <;> simp [incrItem] <;> cases lo.result <;> rfl
    | _ => simp

end Sqlgrep
