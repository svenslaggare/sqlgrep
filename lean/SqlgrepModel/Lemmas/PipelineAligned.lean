import SqlgrepModel.Lemmas.ExecT
import SqlgrepModel.Lemmas.SelectEngine
import SqlgrepModel.Lemmas.NoPanicEngine
import SqlgrepModel.Model.Print
/-
Every result table a loop (`drive_aligned`, every mode) or the end of a batch run (`endRun_aligned`) hands to
`OutputPrinter::print` is ALIGNED: each row has exactly one cell per column name. This is what makes the indexing `row.columns[projection_index]` / `result_row.columns[0]` of
`OutputPrinter::print` safe on every run (`Print.resultPanics = false`), i.e. the glue fact between the engine
models and the printer model that the end-to-end "never panics" theorem needs.
-/
namespace Sqlgrep
open Sqlgrep.Spec.Select

def RowOut.Aligned (r : RowOut) : Prop := ∀ row ∈ r.rows, row.length = r.columns.length

def OptAligned : Option RowOut → Prop
  | none => True
  | some r => r.Aligned

theorem keepRows_mem (d : Bool) (seen rs : List (List Value)) : ∀ r ∈ keepRows d seen rs, r ∈ rs := by
  unfold keepRows
  cases d
  · intro r hr; simpa using hr
  · intro r hr; exact (dedupFrom_sublist _ _ _).subset (by simpa using hr)

theorem outNames_length (q : SelectStmt) (keys : List String) : (outExprs q keys).length = (outNames q keys).length := by
  unfold outExprs outNames
  split <;> simp

theorem envRow_width {O : Oracles} {q : SelectStmt} {env : Env} {keys : List String} {r : Option (List Value)}
    (h : envRow O q env keys = .ok r) : ∀ v ∈ r.toList, v.length = (outNames q keys).length := by
  unfold envRow at h
  obtain ⟨valid, -, h⟩ := Outcome.bind_eq_ok h
  cases valid with
  | false => cases h; nofun
  | true =>
    obtain ⟨vals, he, h⟩ := Outcome.bind_eq_ok h
    cases h
    intro v hv
    cases List.mem_singleton.1 hv
    rw [evalList_length he, outNames_length]

theorem envsRows_width {O : Oracles} {q : SelectStmt} {K : List String} :
    ∀ {envs : List (Env × List String)} {rs : List (List Value)}, (∀ p ∈ envs, p.2 = K) → envsRows O q envs = .ok rs →
      ∀ r ∈ rs, r.length = (outNames q K).length := by
  intro envs
  induction envs with
  | nil => intro rs _ h; cases h; nofun
  | cons p rest ih =>
    intro rs hK h
    obtain ⟨env, keys⟩ := p
    obtain rfl : keys = K := hK (env, keys) List.mem_cons_self
    rw [envsRows] at h
    obtain ⟨r, h1, h⟩ := Outcome.bind_eq_ok h
    obtain ⟨rs', h2, h⟩ := Outcome.bind_eq_ok h
    cases h
    intro x hx
    rcases List.mem_append.1 hx with hx | hx
    · exact envRow_width h1 x hx
    · exact ih (fun p hp => hK p (List.mem_cons_of_mem _ hp)) h2 x hx

theorem lineRows_width {O : Oracles} {qy : Query} {q : SelectStmt} {idx : JoinIndex} {l : Line} {rs : List (List Value)}
    (h : lineRows O qy q idx l = .ok rs) : ∀ r ∈ rs, r.length = (columnsOf qy q).length := by
  unfold lineRows at h
  split at h
  · cases h; nofun
  · obtain ⟨envs, he, h⟩ := Outcome.bind_eq_ok h
    exact envsRows_width (lineEnvs_keys qy idx true l envs he) h

theorem tableOf_aligned (names : List String) (rows : List (List Value)) (h : ∀ r ∈ rows, r.length = names.length) :
    OptAligned (tableOf names rows) := by
  unfold tableOf appendRows
  cases rows with
  | nil => exact True.intro
  | cons r rs => exact h

theorem updateLimit_aligned (isSelect : Bool) (limit : Option Nat) (es : EngineState) (r : Option RowOut)
    (h : OptAligned r) : OptAligned (updateLimit isSelect limit es r).2.result := by
  unfold updateLimit
  cases r with
  | none => exact True.intro
  | some out =>
    cases limit with
    | none => exact h
    | some n =>
      cases isSelect with
      | false => exact h
      | true =>
        intro row hrow
        exact h row (List.mem_of_mem_take hrow)

theorem executeLine_select_aligned {O : Oracles} {qy : Query} {q : SelectStmt} (hq : qy.stmt = .select q)
    {idx : JoinIndex} {w : Bool} {es es' : EngineState} {l : Line} {lo : LineOut}
    (h : executeLine O qy idx w es l = .ok (es', lo)) : OptAligned lo.result := by
  rw [executeLine_select O qy q hq] at h
  obtain ⟨rs, hr, h⟩ := Outcome.bind_eq_ok h
  obtain rfl := congrArg Prod.snd (Outcome.ok.inj h)
  exact updateLimit_aligned _ _ _ _ (tableOf_aligned _ _ (fun r hr' => lineRows_width hr r (keepRows_mem _ _ _ r hr')))

theorem rowOf_length {O : Oracles} {q : AggStmt} {key : List Value} {subs : List (Nat × Value)} {items : List (Nat × AggItem)}
    {row : List Value} (h : rowOf O q key subs items = .ok row) : row.length = items.length := by
  rw [rowOf_eq_seq, Outcome.seq_eq_ok_iff] at h
  simpa using (congrArg List.length h).symm

theorem resultRows_width {O : Oracles} {q : AggStmt} {groups : List (List Value × List (Nat × Value))}
    {seen rows : List (List Value)} (h : resultRows O q groups seen = .ok rows) : ∀ r ∈ rows, r.length = q.items.length := by
  intro r hr
  obtain ⟨rs, hrs, rfl⟩ := resultRows_eq_ok.1 h
  obtain ⟨o, ho, rfl : o = some r⟩ := List.mem_filterMap.1 (keepRows_mem _ _ _ r hr)
  obtain ⟨g, -, hg⟩ := List.mem_map.1 (hrs ▸ List.mem_map_of_mem (f := Outcome.ok) ho)
  obtain ⟨row, hrow, h2⟩ := Outcome.bind_eq_ok hg
  obtain ⟨keep, -, h3⟩ := Outcome.bind_eq_ok h2
  cases keep <;> cases h3
  rw [rowOf_length hrow, enumFrom_length]

theorem aggResult_aligned {O : Oracles} {q : AggStmt} {st st' : AggState} {out : RowOut}
    (h : aggResult O q st = .ok (st', out)) : out.Aligned := by
  unfold aggResult at h
  obtain ⟨_, -, h⟩ := Outcome.bind_eq_ok h
  obtain ⟨rows, h2, h⟩ := Outcome.bind_eq_ok h
  cases h
  intro r hr
  rw [List.length_map]
  exact resultRows_width h2 r hr

theorem finalResult_aligned {O : Oracles} {q : AggStmt} {es : EngineState} {r : RowOut}
    (h : finalResult O q es = .ok r) : r.Aligned := by
  unfold finalResult at h
  obtain ⟨⟨st', out⟩, h1, h⟩ := Outcome.bind_eq_ok h
  cases h
  have ha := aggResult_aligned h1
  cases q.limit with
  | none => exact ha
  | some n => intro row hrow; exact ha row (List.mem_of_mem_take hrow)

def CallsAligned (cs : List PrintCall) : Prop := ∀ c ∈ cs, c.result.Aligned

theorem executeLine_aligned {O : Oracles} {qy : Query} {idx : JoinIndex} {w : Bool} {es es' : EngineState} {l : Line}
    {lo : LineOut} (h : executeLine O qy idx w es l = .ok (es', lo)) : OptAligned lo.result := by
  cases hq : qy.stmt with
  | select q => exact executeLine_select_aligned hq h
  | aggregate q =>
    unfold executeLine at h
    simp only [hq] at h
    split at h
    · obtain rfl := congrArg Prod.snd (Outcome.ok.inj h)
      cases w
      · exact True.intro
      · exact updateLimit_aligned false q.limit es none True.intro
    · obtain ⟨envs, -, h⟩ := Outcome.bind_eq_ok h
      cases w with
      | false =>
        obtain ⟨p, -, h⟩ := Outcome.bind_eq_ok h
        cases h
        exact True.intro
      | true =>
        obtain ⟨⟨st, u⟩, -, h⟩ := Outcome.bind_eq_ok h
        cases u with
        | false =>
          obtain rfl := congrArg Prod.snd (Outcome.ok.inj h)
          exact updateLimit_aligned _ _ _ none True.intro
        | true =>
          obtain ⟨⟨st', out⟩, hr, h⟩ := Outcome.bind_eq_ok h
          obtain rfl := congrArg Prod.snd (Outcome.ok.inj h)
          exact updateLimit_aligned _ _ _ _ (aggResult_aligned hr)

theorem CallsAligned.append {a b : List PrintCall} (ha : CallsAligned a) (hb : CallsAligned b) : CallsAligned (a ++ b) := by
  intro c hc
  rcases List.mem_append.1 hc with h | h
  · exact ha c h
  · exact hb c h

theorem drive_aligned (m : Mode) (O : Oracles) (qy : Query) (idx : JoinIndex) (w : Bool) (sa : Option Nat)
    (fls : List FileLine) (s : TraceState) (h : CallsAligned s.calls) :
    CallsAligned (drive m (executeLine O qy idx w) sa fls s).calls := by
  refine drive_inv m _ (fun s => CallsAligned s.calls) sa (fun s fl _ h => ?_) fls h
  rcases m.step_cases (executeLine O qy idx w) s fl with ⟨_, e⟩ | ⟨es, lo, _, hx, e⟩ | ⟨_, _, e⟩ <;> rw [e]
  · exact h
  · refine h.append fun c hc => ?_
    have ha := executeLine_aligned hx
    unfold Mode.calls at hc
    cases hr : lo.result with
    | none => rw [hr] at hc; cases hc
    | some r =>
      rw [hr] at hc ha
      obtain rfl := List.mem_singleton.1 hc
      exact ha
  · exact h

theorem runFilesT_aligned (O : Oracles) (qy : Query) (idx : JoinIndex) (w : Bool) (files : List (List FileLine))
    (s : TraceState) (h : CallsAligned s.calls) : CallsAligned (runFilesT O qy idx w files s).calls := by
  rw [runFilesT_eq_drive]
  split
  · exact h
  · exact drive_aligned _ O qy idx w none _ s h

theorem endRun_aligned (O : Oracles) (qy : Query) (s : TraceState) (h : CallsAligned s.calls) :
    CallsAligned (endRun O qy s).calls := by
  unfold endRun
  split
  · exact h
  · split
    · split
      · rename_i r hf
        exact h.append (fun c hc => by cases List.mem_singleton.1 hc; exact finalResult_aligned hf)
      · exact h
    · exact h

theorem runWithIndexT_aligned (O : Oracles) (qy : Query) (idxO : Outcome JoinIndex) (files : List (List FileLine)) :
    CallsAligned (runWithIndexT O qy idxO files).calls := by
  cases idxO with
  | ok idx => exact endRun_aligned O qy _ (runFilesT_aligned O qy idx _ files {} nofun)
  | _ => nofun

theorem aligned_no_print_panic (fmt : Print.Format) (r : RowOut) (h : r.Aligned) :
    Print.resultPanics fmt { columns := r.columns.map strBytes, rows := r.rows } = false := by
  unfold Print.resultPanics
  simp only [List.any_eq_false]
  intro row hrow
  have hl := h row hrow
  unfold Print.rowPanics
  simp only [List.length_map, hl, Nat.lt_irrefl, decide_false, Bool.and_false, Bool.or_false]
  cases hc : r.columns with
  | nil => simp [hc] at hl ⊢
  | cons c cs => simp

end Sqlgrep
