import SqlgrepModel.Lemmas.Runs
import SqlgrepModel.Lemmas.InterruptLoad
/-
C19 — interrupting a query stops it promptly and leaves consistent output.

Model (`Model/Exec.lean`, `Model/ExecI.lean`): `runBatch O qy joined files stopAt` is `FileExecutor::execute`; the
`running` flag is sampled before each input line is looked at, and `stopAt = some k` says that it is found
cleared before the `k`-th line (0-based, counted over all files) — the place of the per-line hook, and the only
thing a clearing anywhere between the `k-1`-th and the `k`-th sample can change. After the loop an aggregate
statement still prints its table (`finalResult`). `runBatchI` adds the joined-file loader, which samples the flag
only before a line whose number `n` has `n > 0 ∧ n % 10 = 0`, then leaves with the PARTIAL index as a success;
the flag stays cleared, so the batch loop stops before its first line. `takeLines k files` = the first `k` input
lines. Every theorem holds for every clearing point (`∀ k`, `∀ m`), every statement, every file list, with and
without join, LIMIT, DISTINCT.
Not modelled: signal delivery and the ctrl-c handler thread (what is modelled is the flag flip between two
samples); follow mode is modelled (`runFollow`); the real `FollowFileExecutor` is run with its standard output captured (harness
`c19::run_follow`, `e2ef.rs`), the whole program through `Props/PipelineFollow.lean`, and the real binary is sent SIGINT by
`cli::interrupt_stream`.
Only this file states property theorems; helper lemmas live in `Lemmas/Runs.lean` and `Lemmas/InterruptLoad.lean`.
-/
namespace Sqlgrep.Props.C19
open Sqlgrep

/-- **An interrupted run is the uninterrupted run over the lines consumed before the interruption**: same
records, same line count, same outcome — for every statement and every clearing point. -/
theorem interrupt_is_run_over_prefix (O : Oracles) (qy : Query) (joined : List FileLine) (files : List (List FileLine))
    (k : Nat) : runBatch O qy joined files (some k) = runBatch O qy joined (takeLines k files) none := by
  rw [runBatch_eq_runWithIndex, runBatch_eq_runWithIndex, runWithIndex_stop_eq_take]

/-- the loop over all files consumes no line beyond the clearing point -/
theorem runFiles_stop_consumed_le (O : Oracles) (qy : Query) (idx : JoinIndex) (w : Bool) (k : Nat)
    (fs : List (List FileLine)) (ls : LoopState) (h : ls.consumed ≤ k) :
    (runFiles O qy idx w (some k) fs ls).consumed ≤ k :=
  Sqlgrep.runFiles_stop_consumed_le O qy idx w k fs ls h

/-- **No further line is consumed**: after the flag is cleared before line `k`, at most `k` lines have been
consumed — and exactly `k` whenever the uninterrupted run gets that far -/
theorem interrupt_no_further_line (O : Oracles) (qy : Query) (joined : List FileLine) (files : List (List FileLine)) (k : Nat) :
    (runBatch O qy joined files (some k)).totalLines ≤ k ∧
    (k ≤ (runBatch O qy joined files none).totalLines → (runBatch O qy joined files (some k)).totalLines = k) := by
  rw [runBatch_eq_runWithIndex, runBatch_eq_runWithIndex]
  cases hidx : joinOutcome qy joined with
  | ok idx =>
    rw [runWithIndex_totalLines, runWithIndex_totalLines]
    generalize (!isUpdated qy) = w
    have hI := runFiles_sound O qy idx w (some k) files {} sound_init
    have hU := runFiles_sound O qy idx w none files {} sound_init
    have hbound := runFiles_stop_consumed_le O qy idx w k files {} (Nat.zero_le _)
    refine ⟨by rw [hI.1]; exact hbound, ?_⟩
    intro hk
    rcases runFiles_rel_init O qy idx w k files with h | h
    · rw [h] at hbound ⊢
      rw [hU.1] at hk ⊢
      omega
    · rw [hI.1]; exact h.1
  | error e => simp [runWithIndex, failWith]; omega
  | panic s => simp [runWithIndex, failWith]; omega
  | oracleMissing s => simp [runWithIndex, failWith]; omega

/-- **Everything printed is a prefix of what the uninterrupted query prints** (non-aggregate statements: any
files, LIMIT, DISTINCT, joins) -/
theorem interrupt_output_prefix (O : Oracles) (qy : Query) (q : SelectStmt) (hq : qy.stmt = .select q)
    (joined : List FileLine) (files : List (List FileLine)) (k : Nat) :
    (runBatch O qy joined files (some k)).printed <+: (runBatch O qy joined files none).printed := by
  rw [runBatch_eq_runWithIndex, runBatch_eq_runWithIndex]
  cases hidx : joinOutcome qy joined with
  | ok idx =>
    rw [runWithIndex_select O qy q hq, runWithIndex_select O qy q hq]
    rcases runFiles_rel_init O qy idx true k files with h | h
    · rw [h]; exact List.prefix_refl _
    · exact h.2.2
  | error e => exact List.prefix_refl _
  | panic s => exact List.prefix_refl _
  | oracleMissing s => exact List.prefix_refl _

/-- **An interrupted aggregate query prints exactly the table of the lines consumed before the interruption**:
nothing is printed inside the loop, and the final print is `finalResult` of the engine state reached over the
first `k` lines — the very table (and line count) of a batch run over that prefix -/
theorem interrupt_aggregate_table (O : Oracles) (qy : Query) (q : AggStmt) (hq : qy.stmt = .aggregate q)
    (joined : List FileLine) (files : List (List FileLine)) (k : Nat) (idx : JoinIndex)
    (hidx : joinOutcome qy joined = .ok idx) (r : RowOut)
    (hok : hasFailed (runFiles O qy idx false none (takeLines k files) {}).out = false)
    (hr : finalResult O q (runFiles O qy idx false none (takeLines k files) {}).es = .ok r) :
    (runBatch O qy joined files (some k)).printed = printResult r true ∧
    runBatch O qy joined files (some k) = runBatch O qy joined (takeLines k files) none := by
  refine ⟨?_, interrupt_is_run_over_prefix O qy joined files k⟩
  rw [interrupt_is_run_over_prefix, runBatch_eq_runWithIndex, hidx]
  simp only [runWithIndex, hq, Bool.not_true, hok, Bool.false_eq_true, if_false, hr]
  rw [runFiles_agg_silent O qy q hq idx none (takeLines k files) {}]
  rfl

/-- **The interruption itself never produces an error** (all statements): the outcome of the interrupted run
is the outcome of the run over the lines consumed before — error kind, panic flag and all -/
theorem interrupt_no_error (O : Oracles) (qy : Query) (joined : List FileLine) (files : List (List FileLine)) (k : Nat) :
    (runBatch O qy joined files (some k)).error = (runBatch O qy joined (takeLines k files) none).error ∧
    (runBatch O qy joined files (some k)).panicked = (runBatch O qy joined (takeLines k files) none).panicked := by
  rw [interrupt_is_run_over_prefix]; exact ⟨rfl, rfl⟩

/-- … and for a non-aggregate statement an interrupted run that reports a failure IS the uninterrupted run: the
failure arose before the clearing point was reached -/
theorem interrupt_no_error_select (O : Oracles) (qy : Query) (q : SelectStmt) (hq : qy.stmt = .select q)
    (joined : List FileLine) (files : List (List FileLine)) (k : Nat)
    (hf : hasFailed (runBatch O qy joined files (some k)) = true) :
    runBatch O qy joined files (some k) = runBatch O qy joined files none := by
  rw [runBatch_eq_runWithIndex, runBatch_eq_runWithIndex] at *
  cases hidx : joinOutcome qy joined with
  | ok idx =>
    rw [hidx, runWithIndex_select O qy q hq] at hf
    rw [runWithIndex_select O qy q hq, runWithIndex_select O qy q hq]
    rcases runFiles_rel_init O qy idx true k files with h | h
    · rw [h]
    · have hs := (runFiles_sound O qy idx true (some k) files {} sound_init).2 hf
      rw [h.2.1] at hs; cases hs
  | error e => rfl
  | panic s => rfl
  | oracleMissing s => rfl

/-- the extended model is the model: without a clearing during the load, `runBatchI` is `runBatch` -/
theorem runBatchI_no_clear (O : Oracles) (qy : Query) (joined : List FileLine) (files : List (List FileLine))
    (stopAt : Option Nat) : (runBatchI O qy (some joined) files none stopAt).1 = runBatch O qy joined files stopAt :=
  runBatchI_eq_runBatch O qy joined files stopAt

/-- **At most ten more lines while the joined file is being loaded**: if the flag is cleared before line `m`
of the joined file, the loader has processed `n ≤ m + 10` lines when it leaves, and what it returns is the index
of exactly the first `n` lines (loaded without any interrupt) -/
theorem interrupt_loader_at_most_ten_more (j : JoinInfo) (joined : List FileLine) (m : Nat) (idx : JoinIndex) (n : Nat)
    (h : loadJoinFileI j (some joined) (some m) = .ok (idx, n)) :
    n ≤ m + 10 ∧ n ≤ joined.length ∧ loadJoinFileI j (some (joined.take n)) none = .ok (idx, n) := by
  unfold loadJoinFileI at h ⊢
  cases hk : indexOf? j.joined.columns j.joinedColumn with
  | none => rw [hk] at h; cases h
  | some ki =>
    rw [hk] at h
    simp only at h ⊢
    obtain ⟨_, h2, h3, _, _⟩ := loadJoinLoop_cut ki m joined 0 [] idx n h
    exact ⟨loadJoinLoop_at_most_ten ki m joined idx n h, by omega, by simpa using h3⟩

/-- **An interrupt during the load consumes no input line, prints what a run over no input prints, and is no
error**: the whole run equals the uninterrupted run over the partial joined file and an empty input (for an
aggregate statement: the table of zero lines) -/
theorem interrupt_during_load (O : Oracles) (qy : Query) (j : JoinInfo) (hj : qy.join = some j)
    (joined : List FileLine) (files : List (List FileLine)) (m : Nat) (stopAt : Option Nat)
    (hm : m < joined.length) (idx : JoinIndex) (n : Nat)
    (h : loadJoinFileI j (some joined) (some m) = .ok (idx, n)) :
    (runBatchI O qy (some joined) files (some m) stopAt).1 = runBatch O qy (joined.take n) [] none ∧
    (runBatchI O qy (some joined) files (some m) stopAt).1.totalLines = 0 := by
  have h3 := (interrupt_loader_at_most_ten_more j joined m idx n h).2.2
  have hI : (runBatchI O qy (some joined) files (some m) stopAt).1 =
      runWithIndex O qy (setupJoin qy.table j (.ok idx)) files (some 0) := by
    unfold runBatchI
    simp only [hj, h, Outcome.bind, hm, decide_true, if_true]
  have hU : runBatch O qy (joined.take n) [] none = runWithIndex O qy (setupJoin qy.table j (.ok idx)) [] none := by
    rw [runBatch_eq_runWithIndex]
    unfold joinOutcome
    simp only [hj]
    have := loadJoinFileI_none j (joined.take n)
    rw [h3] at this
    simp only [Outcome.bind] at this
    rw [← this]
  have hz : runWithIndex O qy (setupJoin qy.table j (.ok idx)) files (some 0) =
      runWithIndex O qy (setupJoin qy.table j (.ok idx)) [] none := by
    rw [runWithIndex_stop_eq_take]
    cases hs : setupJoin qy.table j (.ok idx) with
    | ok i =>
      simp only [runWithIndex, runFiles_takeLines_zero]
      rfl
    | error e => rfl
    | panic s => rfl
    | oracleMissing s => rfl
  refine ⟨by rw [hI, hU, hz], ?_⟩
  rw [hI, hz]
  cases hs : setupJoin qy.table j (.ok idx) with
  | ok i =>
    rw [runWithIndex_totalLines]
    simp [runFiles]
  | error e => simp [runWithIndex, failWith]
  | panic s => simp [runWithIndex, failWith]
  | oracleMissing s => simp [runWithIndex, failWith]

/-! ### follow mode (model of `FollowFileExecutor::execute`; tied to the code through the per-line engine step only) -/

/-- follow mode: an interrupted run is the uninterrupted run over the lines delivered before the interruption,
and consumes no further delivered line -/
theorem follow_interrupt_is_run_over_prefix (O : Oracles) (qy : Query) (lines : List Line) (k : Nat) :
    runFollowAll O qy (some k) lines = runFollowAll O qy none (lines.take k) ∧
    (runFollowAll O qy (some k) lines).totalLines ≤ k := by
  unfold runFollowAll
  split
  · exact ⟨rfl, Nat.zero_le _⟩
  · have h := runFollow_stop_eq_take O qy k lines {} (Nat.zero_le _)
    simp only [Nat.sub_zero] at h
    have hb := runFollow_totalLines_le O qy none (lines.take k) {}
    rw [h]
    refine ⟨rfl, ?_⟩
    rw [List.length_take] at hb
    simp only at hb ⊢
    omega

/-- follow mode: everything printed (rows, or the successive tables of an aggregate statement) is a prefix of
what the uninterrupted run prints over the same delivered lines -/
theorem follow_interrupt_output_prefix (O : Oracles) (qy : Query) (lines : List Line) (k : Nat) :
    (runFollowAll O qy (some k) lines).printed <+: (runFollowAll O qy none lines).printed := by
  unfold runFollowAll
  split
  · exact List.prefix_refl _
  · rcases runFollow_rel O qy k lines {} (Nat.zero_le _) rfl with h | h
    · rw [h]; exact List.prefix_refl _
    · exact h.2.2

/-! ### non-vacuity -/

def exQ : Query :=
  { stmt := .select { projections := [("k", .column "k")], wildcard := false, filter := none, limit := none, distinct := false },
    table := { name := "t", columns := ["k"] }, join := none }
def exLine (b : Nat) : FileLine := { readable := true, line := { text := [b], row := [.text [b]] } }
def exO : Oracles := default

-- an interrupted run that really stops in the middle: 3 of 5 lines, records a strict prefix
example : (runBatch exO exQ [] [[exLine 97, exLine 98], [exLine 99, exLine 100, exLine 101]] (some 3)).totalLines = 3 := by decide +kernel
example : (runBatch exO exQ [] [[exLine 97, exLine 98], [exLine 99, exLine 100, exLine 101]] (some 3)).printed.length = 3 ∧
    (runBatch exO exQ [] [[exLine 97, exLine 98], [exLine 99, exLine 100, exLine 101]] none).printed.length = 5 := by decide +kernel
-- hypotheses of `interrupt_aggregate_table` on a COUNT(*) query interrupted before line 3 of 5: the loop over the
-- prefix does not fail and the final result exists (one row)
def exAgg : Query :=
  { stmt := .aggregate { items := [⟨"count0", .count none false, none⟩], filter := none, groupBy := none, having := none,
                         havingAggs := [], havingKeys := [], limit := none, distinct := false },
    table := { name := "t", columns := ["k"] }, join := none }
example : joinOutcome exAgg [] = .ok [] := rfl
example : hasFailed (runFiles exO exAgg [] false none
    (takeLines 3 [[exLine 97, exLine 98], [exLine 99, exLine 100, exLine 101]]) {}).out = false := by decide +kernel
example : (runBatch exO exAgg [] [[exLine 97, exLine 98], [exLine 99, exLine 100, exLine 101]] (some 3)).printed = ["count0: 3"] ∧
    (runBatch exO exAgg [] [[exLine 97, exLine 98], [exLine 99, exLine 100, exLine 101]] none).printed = ["count0: 5"] := by decide +kernel
-- hypotheses of `interrupt_during_load`: a 25-line joined file, flag cleared before its line 3 → 10 lines loaded
def exJ : JoinInfo := { joined := { name := "u", columns := ["k"] }, joinerColumn := "k", joinedColumn := "k", isOuter := false }
example : linesLoaded (loadJoinFileI exJ (some (List.replicate 25 (exLine 97))) (some 3)) = some 10 ∧
    3 < (List.replicate 25 (exLine 97)).length := by decide +kernel
-- the loader: cleared before line 3 of a 25-line file → 10 lines processed; before line 11 → 20
example : linesLoaded (loadJoinLoop 0 (some 3) (List.replicate 25 (exLine 97)) 0 []) = some 10 := by decide +kernel
example : linesLoaded (loadJoinLoop 0 (some 11) (List.replicate 25 (exLine 97)) 0 []) = some 20 := by decide +kernel
example : linesLoaded (loadJoinLoop 0 (some 21) (List.replicate 25 (exLine 97)) 0 []) = some 25 := by decide +kernel

end Sqlgrep.Props.C19
