import SqlgrepModel.Lemmas.AggCell
import SqlgrepModel.Lemmas.AggColumns
import SqlgrepModel.Lemmas.EnumFrom
import SqlgrepModel.Lemmas.AggTable
import SqlgrepModel.Lemmas.Folds
/-
The update half of the aggregation engine over a whole input: after any sequence of rows the cell of aggregate
slot `i` in group `key` is the fold of that aggregate's `cellStep` over exactly the rows of that group (those that
passed WHERE and whose key equals `key`), in arrival order — the coupling relation `Coupled` between the engine
state (which does not remember rows) and the per-group row lists of the specification.
-/
set_option linter.unusedSimpArgs false
namespace Sqlgrep
open Value

/-- the (aggregate index, kind) pairs the HAVING walk updates, starting at index `j` -/
def visitSlots : List HavingRef → Nat → List (Nat × AggKind)
  | [], _ => []
  | .key _ :: rest, j => visitSlots rest j
  | .agg _ kind :: rest, j => (j, kind) :: visitSlots rest (j + 1)

/-- every (index, kind) `execute_update` touches for one row: the select list, then HAVING's own aggregates -/
def rowSlots (q : AggStmt) : List (Nat × AggKind) :=
  enumFrom 0 (q.items.map (·.kind)) ++
    (match q.having with
      | some _ => visitSlots q.havingVisit q.items.length
      | none => [])

theorem visitSlots_eq (v : List HavingRef) (n : Nat) :
    visitSlots v n = enumFrom n ((v.filterMap havingAggOf).map (·.2)) := by
  induction v generalizing n with
  | nil => rfl
  | cons r rest ih =>
    cases r with
    | key c => simp only [visitSlots, List.filterMap_cons, havingAggOf]; exact ih n
    | agg id k => simp only [visitSlots, List.filterMap_cons, havingAggOf, List.map_cons, enumFrom]; rw [ih]

theorem rowSlots_eq_enum (q : AggStmt) :
    rowSlots q = enumFrom 0 (q.items.map (·.kind) ++
      (match q.having with
        | some _ => (q.havingVisit.filterMap havingAggOf).map (·.2)
        | none => [])) := by
  unfold rowSlots
  rw [enumFrom_append]
  simp only [Nat.zero_add, List.length_map]
  cases q.having with
  | none => rfl
  | some h => simp only [visitSlots_eq]

theorem rowSlots_nodup (q : AggStmt) : ((rowSlots q).map (·.1)).Nodup := by
  rw [rowSlots_eq_enum]; exact enumFrom_nodup _ _

theorem updateAggregates_cells {O : Oracles} {q : AggStmt} {env : Env} {key : List Value}
    (slots : List (Nat × AggKind)) (hnd : (slots.map (·.1)).Nodup) {st st' : AggState} (hs : AggSorted st)
    (h : updateAggregates O q env key slots st = .ok st') :
    AggSorted st' ∧
    (∀ i kind, (i, kind) ∈ slots → cellStep O q env kind (readCell st key i) = .ok (readCell st' key i)) ∧
    (∀ k' i', (cmpList key k' ≠ .eq ∨ i' ∉ slots.map (·.1)) → readCell st' k' i' = readCell st k' i') ∧
    (∀ S, Shape st S → key ∈ S → Shape st' S) := by
  induction slots generalizing st with
  | nil =>
    simp only [updateAggregates, Outcome.ok.injEq] at h
    subst h
    exact ⟨hs, by simp, fun _ _ _ => rfl, fun _ h _ => h⟩
  | cons s rest ih =>
    obtain ⟨i, k⟩ := s
    simp only [updateAggregates] at h
    obtain ⟨st1, h1, h2⟩ := bind_ok h
    obtain ⟨hs1, c', hc', hread⟩ := updateAggregate_cells hs h1
    simp only [List.map_cons, List.nodup_cons] at hnd
    obtain ⟨hs', hin, hout, hshape⟩ := ih hnd.2 hs1 h2
    refine ⟨hs', ?_, ?_, fun S hsh hk => hshape S (updateAggregate_shape hsh hk h1) hk⟩
    · intro i2 kind hmem
      rcases List.mem_cons.mp hmem with hm | hm
      · simp only [Prod.mk.injEq] at hm
        obtain ⟨hi, hk⟩ := hm
        subst hi; subst hk
        rw [hout key i2 (Or.inr hnd.1), hread key i2]
        simp [cmpList_refl, hc']
      · have hne : i ≠ i2 := by
          intro he; subst he
          exact hnd.1 (List.mem_map.mpr ⟨(i, kind), hm, rfl⟩)
        have := hin i2 kind hm
        rw [hread key i2] at this
        simpa [hne] using this
    · intro k' i' hcond
      have hcond' : cmpList key k' ≠ .eq ∨ i' ∉ rest.map (·.1) := by
        rcases hcond with h | h
        · exact Or.inl h
        · exact Or.inr (fun hm => h (by simp [hm]))
      rw [hout k' i' hcond', hread k' i']
      have : ¬ (cmpList key k' = .eq ∧ i = i') := by
        rintro ⟨hk, hi⟩
        rcases hcond with h | h
        · exact h hk
        · exact h (by simp [hi])
      simp [this]

theorem updateAggregates_append (O : Oracles) (q : AggStmt) (env : Env) (key : List Value) (a b : List (Nat × AggKind))
    (s : AggState) :
    updateAggregates O q env key (a ++ b) s = (updateAggregates O q env key a s).bind (updateAggregates O q env key b) :=
  Outcome.append_of_foldlM (updateAggregates_eq_foldlM O q env key) a b s

theorem havingUpdates_ok_iff {O : Oracles} {q : AggStmt} {env : Env} {key : List Value} (visit : List HavingRef) (j : Nat)
    {st st' : AggState} :
    havingUpdates O q env key visit j st = .ok st' ↔
      (∀ c, HavingRef.key c ∈ visit → validateGroupKey q c = .ok ()) ∧
      updateAggregates O q env key (visitSlots visit (q.items.length + j)) st = .ok st' := by
  induction visit generalizing j st with
  | nil => simp [havingUpdates, visitSlots, updateAggregates]
  | cons r rest ih =>
    cases r with
    | key c =>
      simp only [havingUpdates, visitSlots, bind, List.mem_cons, HavingRef.key.injEq, forall_eq_or_imp]
      cases hv : validateGroupKey q c with
      | ok u => simp [Outcome.bind, ih]
      | _ => simp [Outcome.bind]
    | agg id kind =>
      simp only [havingUpdates, visitSlots, updateAggregates, bind, List.mem_cons, reduceCtorEq, false_or]
      cases updateAggregate O q env key (q.items.length + j) kind st with
      | ok st1 => exact ih (j + 1)
      | _ => simp [Outcome.bind]

/-- WHERE and the GROUP BY key of one row, as `execute_update` evaluates them -/
def whereOutcome (O : Oracles) (q : AggStmt) (env : Env) : Outcome Bool :=
  match q.filter with
  | some f => (eval O env f).bind condHolds
  | none => .ok true

def keyOutcome (O : Oracles) (q : AggStmt) (env : Env) : Outcome (List Value) :=
  match q.groupBy with
  | some parts => evalList O env (parts.map (·.1))
  | none => .ok [Value.null]

theorem passes_eq_okOf (O : Oracles) (q : AggStmt) (env : Env) :
    Spec.Agg.passes O q env = Spec.Agg.okOf (whereOutcome O q env) := by
  unfold Spec.Agg.passes whereOutcome
  cases q.filter with
  | none => rfl
  | some f =>
    show (Spec.Agg.okOf (eval O env f)).bind _ = Spec.Agg.okOf ((eval O env f).bind condHolds)
    cases eval O env f <;> rfl

theorem keyOf_eq_okOf (O : Oracles) (q : AggStmt) (env : Env) :
    Spec.Agg.keyOf O q env = Spec.Agg.okOf (keyOutcome O q env) := by
  unfold Spec.Agg.keyOf keyOutcome
  cases q.groupBy <;> rfl

theorem aggUpdateRow_bind (O : Oracles) (q : AggStmt) (st : AggState) (env : Env) :
    aggUpdateRow O q st env =
      (whereOutcome O q env).bind (fun valid =>
        if !valid then .ok (st, false)
        else (keyOutcome O q env).bind (fun key =>
          (updateAggregates O q env key (enumFrom 0 (q.items.map (·.kind))) st).bind (fun st1 =>
            (match q.having with
              | some _ => havingUpdates O q env key q.havingVisit 0 st1
              | none => .ok st1 : Outcome AggState).bind (fun st2 => .ok (st2, true))))) := rfl

theorem okOf_eq_some_iff {α : Type} {o : Outcome α} {a : α} : Spec.Agg.okOf o = some a ↔ o = .ok a := by
  cases o <;> simp [Spec.Agg.okOf]

theorem okOf_eq_some {α : Type} {o : Outcome α} {a : α} (h : Spec.Agg.okOf o = some a) : o = .ok a :=
  okOf_eq_some_iff.mp h

/-- `execute_update` for one row succeeds iff WHERE evaluates and, when it admits the row, the key evaluates, HAVING's
key references are valid and the one pass of `update_aggregate` over `rowSlots q` succeeds -/
theorem aggUpdateRow_ok_iff {O : Oracles} {q : AggStmt} {env : Env} {st st' : AggState} {u : Bool} :
    aggUpdateRow O q st env = .ok (st', u) ↔
      Spec.Agg.passes O q env = some u ∧ (u = false → st' = st) ∧
      (u = true → ∃ key, Spec.Agg.keyOf O q env = some key ∧
        (q.having ≠ none → ∀ c, HavingRef.key c ∈ q.havingVisit → validateGroupKey q c = .ok ()) ∧
        updateAggregates O q env key (rowSlots q) st = .ok st') := by
  have hhav : ∀ key st1, (match q.having with
        | some _ => havingUpdates O q env key q.havingVisit 0 st1
        | none => .ok st1 : Outcome AggState) = .ok st' ↔
      (q.having ≠ none → ∀ c, HavingRef.key c ∈ q.havingVisit → validateGroupKey q c = .ok ()) ∧
      updateAggregates O q env key (match q.having with
        | some _ => visitSlots q.havingVisit q.items.length
        | none => []) st1 = .ok st' := by
    intro key st1
    cases q.having with
    | none => simp [updateAggregates]
    | some hx => simpa using havingUpdates_ok_iff q.havingVisit 0
  rw [aggUpdateRow_bind, passes_eq_okOf, keyOf_eq_okOf]
  simp only [rowSlots, updateAggregates_append, Outcome.bind_eq_ok_iff, okOf_eq_some_iff]
  constructor
  · rintro ⟨valid, hv, h⟩
    cases valid with
    | false => cases h; exact ⟨hv, fun _ => rfl, nofun⟩
    | true =>
      simp only [Bool.not_true, Bool.false_eq_true, if_false, Outcome.bind_eq_ok_iff] at h
      obtain ⟨key, hk, st1, h1, st2, h2, h3⟩ := h
      cases h3
      exact ⟨hv, nofun, fun _ => ⟨key, hk, ((hhav key st1).mp h2).1, st1, h1, ((hhav key st1).mp h2).2⟩⟩
  · rintro ⟨hv, hf, ht⟩
    refine ⟨u, hv, ?_⟩
    cases u with
    | false => rw [hf rfl]; rfl
    | true =>
      obtain ⟨key, hk, hkeys, st1, h1, h2⟩ := ht rfl
      simp only [Bool.not_true, Bool.false_eq_true, if_false, Outcome.bind_eq_ok_iff]
      exact ⟨key, hk, st1, h1, st', (hhav key st1).mpr ⟨hkeys, h2⟩, rfl⟩

/-- a row WHERE rejects leaves any state as it is (the filter is evaluated before anything is touched) -/
theorem aggUpdateRow_of_rejected {O : Oracles} {q : AggStmt} {env : Env} (h : Spec.Agg.passes O q env = some false) (st : AggState) :
    aggUpdateRow O q st env = .ok (st, false) :=
  aggUpdateRow_ok_iff.mpr ⟨h, fun _ => rfl, nofun⟩

theorem aggUpdateRow_eq {O : Oracles} {q : AggStmt} {env : Env} {st st' : AggState} {u : Bool}
    (h : aggUpdateRow O q st env = .ok (st', u)) :
    Spec.Agg.passes O q env = some u ∧ (u = false → st' = st) ∧
    (u = true → ∃ key, Spec.Agg.keyOf O q env = some key ∧ updateAggregates O q env key (rowSlots q) st = .ok st') := by
  obtain ⟨hp, hf, ht⟩ := aggUpdateRow_ok_iff.mp h
  exact ⟨hp, hf, fun hu => (ht hu).imp fun _ hk => ⟨hk.1, hk.2.2⟩⟩

theorem aggUpdateRow_cells {O : Oracles} {q : AggStmt} {env : Env} {st st' : AggState} {u : Bool} (hs : AggSorted st)
    (h : aggUpdateRow O q st env = .ok (st', u)) :
    AggSorted st' ∧ Spec.Agg.passes O q env = some u ∧ (u = false → st' = st) ∧
    (u = true → ∃ key, Spec.Agg.keyOf O q env = some key ∧
      (∀ i kind, (i, kind) ∈ rowSlots q → cellStep O q env kind (readCell st key i) = .ok (readCell st' key i)) ∧
      (∀ k' i', (cmpList key k' ≠ .eq ∨ i' ∉ (rowSlots q).map (·.1)) → readCell st' k' i' = readCell st k' i') ∧
      (∀ S, Shape st S → key ∈ S → Shape st' S)) := by
  obtain ⟨hpass, hfalse, htrue⟩ := aggUpdateRow_eq h
  cases u with
  | false =>
    rw [hfalse rfl]
    exact ⟨hs, hpass, fun _ => rfl, fun hh => by simp at hh⟩
  | true =>
    obtain ⟨key, hkeyOf, hall⟩ := htrue rfl
    obtain ⟨hs2, hin, hout, hshape⟩ := updateAggregates_cells (rowSlots q) (rowSlots_nodup q) hs hall
    exact ⟨hs2, hpass, fun hh => by simp at hh, fun _ => ⟨key, hkeyOf, hin, hout, hshape⟩⟩

/-- `execute_update` row after row (the batch loop of an aggregate statement, seen from the engine) -/
def aggRun (O : Oracles) (q : AggStmt) : List Env → AggState → Outcome AggState
  | [], st => .ok st
  | env :: rest, st => (aggUpdateRow O q st env).bind (fun p => aggRun O q rest p.1)

/-- the cell an aggregate reaches by folding its `cellStep` over a list of rows -/
def cellFold (O : Oracles) (q : AggStmt) (kind : AggKind) : List Env → Cell → Outcome Cell
  | [], c => .ok c
  | env :: rest, c => (cellStep O q env kind c).bind (cellFold O q kind rest)

theorem aggRun_eq_foldlM (O : Oracles) (q : AggStmt) (envs : List Env) (st : AggState) :
    aggRun O q envs st = envs.foldlM (fun st env => (aggUpdateRow O q st env).bind fun p => .ok p.1) st :=
  Outcome.eq_foldlM (fun _ => rfl)
    (fun env rest st => (Outcome.bind_assoc (aggUpdateRow O q st env) (fun p => .ok p.1) (aggRun O q rest)).symm) envs st

theorem aggRun_append (O : Oracles) (q : AggStmt) (a b : List Env) (st : AggState) :
    aggRun O q (a ++ b) st = (aggRun O q a st).bind (aggRun O q b) :=
  Outcome.append_of_foldlM (aggRun_eq_foldlM O q) a b st

theorem cellFold_eq_foldlM (O : Oracles) (q : AggStmt) (kind : AggKind) (g : List Env) (c : Cell) :
    cellFold O q kind g c = g.foldlM (fun c env => cellStep O q env kind c) c :=
  Outcome.eq_foldlM (fun _ => rfl) (fun _ _ _ => rfl) g c

theorem cellFold_append (O : Oracles) (q : AggStmt) (kind : AggKind) (g1 g2 : List Env) (c : Cell) :
    cellFold O q kind (g1 ++ g2) c = (cellFold O q kind g1 c).bind (cellFold O q kind g2) :=
  Outcome.append_of_foldlM (cellFold_eq_foldlM O q kind) g1 g2 c

/-- the coupling relation between the engine state and the per-group row lists: every slot's cell in every
group is the fold of its aggregate over that group's rows (and nothing else is stored). `rows` are keyed rows as the
specification's `keyedRows` gives them and a group's rows are its `rowsOfKey` (`Spec/Agg.lean`), so that the result read
off a coupled state is compared with the specification's table without a translation. -/
structure Coupled (O : Oracles) (q : AggStmt) (st : AggState) (rows : List (List Value × Env)) : Prop where
  sorted : AggSorted st
  cells : ∀ key i kind, (i, kind) ∈ rowSlots q →
    cellFold O q kind (Spec.Agg.rowsOfKey key rows) {} = .ok (readCell st key i)
  others : ∀ key i, i ∉ (rowSlots q).map (·.1) → readCell st key i = {}
  shape : Shape st (rows.map (·.1))

theorem coupled_init (O : Oracles) (q : AggStmt) : Coupled O q {} [] :=
  ⟨aggSorted_init, fun _ _ _ _ => rfl, fun _ _ _ => rfl, shape_init _⟩

/-- one admitted row with key `key`, cell by cell, for any relation `R` between a stored cell and the fold of its
aggregate over its group's rows that a step of the engine preserves: `R` holds again with the row appended to its group -/
theorem cells_step {O : Oracles} {q : AggStmt} {st st' : AggState} {rows : List (List Value × Env)} {env : Env}
    {key : List Value} (R : AggKind → Cell → Cell → Prop)
    (hR : ∀ {kind c' c d'}, R kind c' c → cellStep O q env kind c' = .ok d' → ∃ d, cellStep O q env kind c = .ok d ∧ R kind d' d)
    (hin : ∀ i kind, (i, kind) ∈ rowSlots q → cellStep O q env kind (readCell st key i) = .ok (readCell st' key i))
    (hout : ∀ k' i', (cmpList key k' ≠ .eq ∨ i' ∉ (rowSlots q).map (·.1)) → readCell st' k' i' = readCell st k' i')
    {k' : List Value} {i : Nat} {kind : AggKind} (hmem : (i, kind) ∈ rowSlots q) {c : Cell}
    (hfold : cellFold O q kind (Spec.Agg.rowsOfKey k' rows) {} = .ok c) (hc : R kind (readCell st k' i) c) :
    ∃ d, cellFold O q kind (Spec.Agg.rowsOfKey k' (rows ++ [(key, env)])) {} = .ok d ∧ R kind (readCell st' k' i) d := by
  rw [rowsOfKey_append, cellFold_append, hfold]
  simp only [Outcome.bind]
  by_cases hk : cmpList key k' = .eq
  · have : Spec.Agg.rowsOfKey k' [(key, env)] = [env] := by simp [Spec.Agg.rowsOfKey, Spec.Agg.sameKey, hk]
    have hstep := hin i kind hmem
    rw [readCell_congr st hk i, readCell_congr st' hk i] at hstep
    obtain ⟨d, hd, hsd⟩ := hR hc hstep
    exact ⟨d, by simp only [this, cellFold, hd, Outcome.bind], hsd⟩
  · have : Spec.Agg.rowsOfKey k' [(key, env)] = [] := by simp [Spec.Agg.rowsOfKey, Spec.Agg.sameKey, hk]
    rw [this, hout k' i (Or.inl hk)]
    exact ⟨c, rfl, hc⟩

theorem coupled_step {O : Oracles} {q : AggStmt} {st st' : AggState} {rows : List (List Value × Env)} {env : Env} {u : Bool}
    (hc : Coupled O q st rows) (h : aggUpdateRow O q st env = .ok (st', u)) :
    Spec.Agg.passes O q env = some u ∧
    (u = false → Coupled O q st' rows) ∧
    (u = true → ∃ key, Spec.Agg.keyOf O q env = some key ∧ Coupled O q st' (rows ++ [(key, env)])) := by
  obtain ⟨hs', hpass, hfalse, htrue⟩ := aggUpdateRow_cells hc.sorted h
  refine ⟨hpass, fun hu => by rw [hfalse hu]; exact hc, fun hu => ?_⟩
  obtain ⟨key, hkey, hin, hout, hshape⟩ := htrue hu
  refine ⟨key, hkey, hs', fun k' i kind hmem => ?_, fun k' i hi => by rw [hout k' i (Or.inr hi)]; exact hc.others k' i hi,
    hshape _ (shape_mono hc.shape (fun k hk => by simp [hk])) (by simp)⟩
  obtain ⟨d, hd, rfl⟩ := cells_step (fun _ c' c => c' = c) (fun hcc hs => ⟨_, hcc ▸ hs, rfl⟩) hin hout hmem
    (hc.cells k' i kind hmem) rfl
  exact hd

/-- a fold over rows whose step keeps `Inv s rows`, between its state and the keyed rows fed so far, in this sense: a row WHERE
rejects leaves `rows` as they are, a row WHERE admits is appended with its key. Then the fold has fed exactly `keyedRows`. -/
theorem keyedRows_of_foldlM {σ : Type} {O : Oracles} {q : AggStmt} {step : σ → Env → Outcome σ}
    (Inv : σ → List (List Value × Env) → Prop)
    (hstep : ∀ {s s' rows env}, Inv s rows → step s env = .ok s' → ∃ u, Spec.Agg.passes O q env = some u ∧
      (u = false → Inv s' rows) ∧
      (u = true → ∃ key, Spec.Agg.keyOf O q env = some key ∧ Inv s' (rows ++ [(key, env)])))
    (envs : List Env) {s s' : σ} {rows : List (List Value × Env)} (hc : Inv s rows) (h : envs.foldlM step s = .ok s') :
    ∃ more, Spec.Agg.keyedRows O q envs = some more ∧ Inv s' (rows ++ more) := by
  induction envs generalizing s rows with
  | nil =>
    cases h
    exact ⟨[], rfl, by rwa [List.append_nil]⟩
  | cons env rest ih =>
    obtain ⟨s1, h1, h2⟩ := Outcome.bind_eq_ok h
    obtain ⟨u, hpass, hfalse, htrue⟩ := hstep hc h1
    cases u with
    | false =>
      obtain ⟨more, hm, hcm⟩ := ih (hfalse rfl) h2
      exact ⟨more, by simp only [Spec.Agg.keyedRows, hpass, hm], hcm⟩
    | true =>
      obtain ⟨key, hkey, hc1⟩ := htrue rfl
      obtain ⟨more, hm, hcm⟩ := ih hc1 h2
      exact ⟨(key, env) :: more, by simp only [Spec.Agg.keyedRows, hpass, hkey, hm], by rwa [List.append_assoc] at hcm⟩

/-- **the update half of the refinement**: whatever rows were fed, the state is coupled to the rows that passed
WHERE, each with its key, in arrival order -/
theorem aggRun_coupled {O : Oracles} {q : AggStmt} (envs : List Env) {st st' : AggState} {rows : List (List Value × Env)}
    (hc : Coupled O q st rows) (h : aggRun O q envs st = .ok st') :
    ∃ more, Spec.Agg.keyedRows O q envs = some more ∧ Coupled O q st' (rows ++ more) := by
  rw [aggRun_eq_foldlM] at h
  refine keyedRows_of_foldlM (Coupled O q) (fun hc h => ?_) envs hc h
  obtain ⟨p, h1, h2⟩ := obind_ok h
  cases h2
  exact ⟨p.2, coupled_step hc h1⟩

end Sqlgrep
