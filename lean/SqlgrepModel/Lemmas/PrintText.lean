import SqlgrepModel.Lemmas.PrintChars
/- Text format: a reader that splits a record at the top-level commas (outside `'…'` and `{…}`) and the
proof that it recovers the `name: value` pairs. -/
namespace Sqlgrep.Print

/-- split at the commas that are outside quotes (`'…'`) and outside braces (`{…}`);
state: brace depth and whether a quote is open -/
def splitTop : Nat → Bool → Bytes → List Bytes
  | _, _, [] => [[]]
  | k, q, c :: rest =>
    if c = 44 ∧ k = 0 ∧ q = false then [] :: splitTop k q rest
    else
      match splitTop (if q then k else if c = 123 then k + 1 else if c = 125 then k - 1 else k)
          (if c = 39 then !q else q) rest with
      | f :: fs => (c :: f) :: fs
      | [] => [[c]]

def consHead (a : Bytes) (l : List Bytes) : List Bytes := (a ++ l.headD []) :: l.tail

theorem splitTop_ne_nil (k : Nat) (q : Bool) : ∀ l : Bytes, splitTop k q l ≠ []
  | [] => List.cons_ne_nil _ _
  | c :: rest => by
    rw [splitTop]; split
    · exact List.cons_ne_nil _ _
    · split <;> exact List.cons_ne_nil _ _

theorem consHead_nil (l : List Bytes) (h : l ≠ []) : consHead [] l = l := by
  cases l with
  | nil => exact absurd rfl h
  | cons f fs => simp [consHead]

theorem consHead_append (a b : Bytes) (l : List Bytes) : consHead (a ++ b) l = consHead a (consHead b l) := by
  cases l <;> simp [consHead]

theorem consHead_cons (c : Nat) (a : Bytes) (l : List Bytes) : consHead (c :: a) l = consHead [c] (consHead a l) := by
  cases l <;> simp [consHead]

theorem splitTop_step (k : Nat) (q : Bool) (c : Nat) (rest : Bytes) (h : ¬ (c = 44 ∧ k = 0 ∧ q = false)) :
    splitTop k q (c :: rest)
      = consHead [c] (splitTop (if q then k else if c = 123 then k + 1 else if c = 125 then k - 1 else k)
          (if c = 39 then !q else q) rest) := by
  simp only [splitTop, h, if_false]
  split
  · rename_i f fs heq; rw [heq]; simp [consHead]
  · rename_i heq; exact absurd heq (splitTop_ne_nil _ _ _)

/-- bytes that do not touch the reader's state -/
def Inert (c : Nat) : Prop := c ≠ 39 ∧ c ≠ 44 ∧ c ≠ 123 ∧ c ≠ 125

instance : DecidablePred Inert := fun c => by unfold Inert; infer_instance

theorem Plain.inert {c : Nat} : Plain c → Inert c :=
  Plain.rec' (P := Inert) (fun c _ _ => by unfold Inert; omega) (by decide)

theorem splitTop_inert (k : Nat) (q : Bool) (a rest : Bytes) (h : ∀ c ∈ a, Inert c) :
    splitTop k q (a ++ rest) = consHead a (splitTop k q rest) := by
  induction a with
  | nil => exact (consHead_nil _ (splitTop_ne_nil _ _ _)).symm
  | cons c a ih =>
    have hc := h c (by simp)
    unfold Inert at hc
    rw [List.cons_append, splitTop_step k q c _ (by omega)]
    simp only [hc.1, hc.2.2.1, hc.2.2.2, if_false, ite_self]
    rw [ih (fun x hx => h x (by simp [hx]))]
    simp [consHead]

theorem splitTop_quoted (k : Nat) (s rest : Bytes) (h : 39 ∉ s) :
    splitTop k true (s ++ rest) = consHead s (splitTop k true rest) := by
  induction s with
  | nil => exact (consHead_nil _ (splitTop_ne_nil _ _ _)).symm
  | cons c s ih =>
    simp only [List.mem_cons, not_or] at h
    have hc : c ≠ 39 := fun e => h.1 e.symm
    rw [List.cons_append, splitTop_step k true c _ (by simp)]
    simp only [hc, if_false, if_true]
    rw [ih h.2]
    simp [consHead]

theorem splitTop_quote (k : Nat) (q : Bool) (rest : Bytes) :
    splitTop k q (39 :: rest) = consHead [39] (splitTop k (!q) rest) := by
  rw [splitTop_step k q 39 _ (by simp)]
  simp

theorem splitTop_open (k : Nat) (rest : Bytes) :
    splitTop k false (123 :: rest) = consHead [123] (splitTop (k + 1) false rest) := by
  rw [splitTop_step k false 123 _ (by simp)]
  simp

theorem splitTop_close (k : Nat) (rest : Bytes) :
    splitTop (k + 1) false (125 :: rest) = consHead [125] (splitTop k false rest) := by
  rw [splitTop_step (k + 1) false 125 _ (by simp)]
  simp

theorem splitTop_inner_comma (k : Nat) (rest : Bytes) :
    splitTop (k + 1) false (44 :: rest) = consHead [44] (splitTop (k + 1) false rest) := by
  rw [splitTop_step (k + 1) false 44 _ (by simp)]
  simp

theorem splitTop_top_comma (rest : Bytes) :
    splitTop 0 false (44 :: rest) = [] :: splitTop 0 false rest := by
  simp [splitTop]

/-- a byte string the reader passes over without splitting, coming back to the same state -/
def Neutral (k : Nat) (a : Bytes) : Prop :=
  ∀ rest, splitTop k false (a ++ rest) = consHead a (splitTop k false rest)

theorem Neutral.append {k : Nat} {a b : Bytes} (ha : Neutral k a) (hb : Neutral k b) : Neutral k (a ++ b) := by
  intro rest
  rw [List.append_assoc, ha, hb, consHead_append]

theorem neutral_inert (k : Nat) (a : Bytes) (h : ∀ c ∈ a, Inert c) : Neutral k a :=
  fun rest => splitTop_inert k false a rest h

theorem Neutral.nil (k : Nat) : Neutral k [] := fun _ => (consHead_nil _ (splitTop_ne_nil _ _ _)).symm

theorem neutral_quoted (k : Nat) {s : Bytes} (hs : 39 ∉ s) : Neutral k (39 :: (s ++ [39])) := by
  intro rest
  rw [List.cons_append, List.append_assoc, splitTop_quote, Bool.not_false, splitTop_quoted k s _ hs,
    List.singleton_append, splitTop_quote, Bool.not_true, ← consHead_append, ← consHead_append]
  rfl

theorem Neutral.braces {k : Nat} {a : Bytes} (ha : Neutral (k + 1) a) : Neutral k (123 :: (a ++ [125])) := by
  intro rest
  rw [List.cons_append, List.append_assoc, splitTop_open, ha, List.singleton_append, splitTop_close,
    ← consHead_append, ← consHead_append]
  rfl

mutual
theorem neutral_displayValue (o : RealOracle) (ho : ∀ b, ∀ c ∈ o.fixed2 b, Inert c) :
    ∀ (v : Value), (∀ s ∈ allTexts v, 39 ∉ s) → ∀ k, Neutral k (displayValue o v)
  | .null, _, k => neutral_inert k sNULL (by decide)
  | .int _, _, k => neutral_inert k _ fun _ hc => (mem_renderInt hc).inert
  | .real b, _, k => neutral_inert k _ (ho b)
  | .bool true, _, k => neutral_inert k sTrue (by decide)
  | .bool false, _, k => neutral_inert k sFalse (by decide)
  | .text s, ht, k => neutral_quoted k (ht s List.mem_cons_self)
  | .array _ xs, ht, k => (neutral_displayAll o ho xs ht k).braces
  | .timestamp _ _ _, _, k => neutral_inert k _ fun _ hc => (mem_renderTimestamp hc).inert
  | .interval _, _, k => neutral_inert k _ fun _ hc => (mem_renderInterval hc).inert
/-- the elements of an array, joined by `, `, are passed over inside the braces -/
theorem neutral_displayAll (o : RealOracle) (ho : ∀ b, ∀ c ∈ o.fixed2 b, Inert c) :
    ∀ (xs : List Value), (∀ s ∈ allTextsList xs, 39 ∉ s) → ∀ k,
      Neutral (k + 1) (joinWith [44, 32] (displayAll o xs))
  | [], _, k => .nil _
  | [x], ht, k => neutral_displayValue o ho x (fun s hs => ht s (List.mem_append_left _ hs)) (k + 1)
  | x :: y :: rest, ht, k =>
    have hx := neutral_displayValue o ho x (fun s hs => ht s (List.mem_append_left _ hs)) (k + 1)
    have hrest := neutral_displayAll o ho (y :: rest) (fun s hs => ht s (List.mem_append_right _ hs)) k
    have hsep : Neutral (k + 1) [44, 32] := fun r => by
      rw [List.cons_append, splitTop_inner_comma, splitTop_inert (k + 1) false [32] r (by decide),
        ← consHead_append]
      rfl
    (hx.append hsep).append hrest
end

theorem splitTop_joinWith (ps : List Bytes) (hne : ps ≠ []) (h : ∀ p ∈ ps, Neutral 0 p) :
    splitTop 0 false (joinWith [44, 32] ps) = spaced ps := by
  fun_induction joinWith [44, 32] ps with
  | case1 => exact absurd rfl hne
  | case2 p =>
    have := h p List.mem_cons_self []
    rw [List.append_nil] at this
    rw [this]; simp [spaced, splitTop, consHead]
  | case3 p q qs ih =>
    rw [List.append_assoc, h p List.mem_cons_self, List.cons_append, splitTop_top_comma,
      splitTop_inert 0 false [32] _ (by decide), ih (List.cons_ne_nil _ _) fun x hx => h x (List.mem_cons_of_mem _ hx)]
    simp [consHead, spaced]

theorem splitTop_text_record (o : RealOracle) (cols : List Bytes) (row : List Value)
    (hlone : loneInput .text cols row = false) (hne : cols ≠ []) (hl : cols.length = row.length)
    (hnames : ∀ n ∈ cols, ∀ c ∈ n, Inert c) (ho : ∀ b, ∀ c ∈ o.fixed2 b, Inert c)
    (htexts : ∀ v ∈ row, ∀ s ∈ allTexts v, 39 ∉ s) :
    splitTop 0 false (renderRecord o .text cols row)
      = spaced ((cols.zip row).map fun nv => nv.1 ++ ([58, 32] ++ displayValue o nv.2)) := by
  rw [renderRecord_text o hlone]
  apply splitTop_joinWith _ (zip_map_ne_nil _ hne hl)
  intro p hp
  obtain ⟨n, hn, v, hv, rfl⟩ := zip_map_pairs o cols row p hp
  exact (neutral_inert 0 n (hnames n hn)).append
    ((neutral_inert 0 [58, 32] (by decide)).append (neutral_displayValue o ho v (htexts v hv) 0))

end Sqlgrep.Print
