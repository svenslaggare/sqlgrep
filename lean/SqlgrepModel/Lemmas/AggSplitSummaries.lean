import SqlgrepModel.Lemmas.AggPermSafe
import SqlgrepModel.Lemmas.RealSums
/-
C15, input split, with the per-part summaries NAMED, at the level of the specification's batch answer.

`partSummaries O q r` = the keyed summaries (`keyedSummaries`: per group, one `Summary` per aggregate slot) of the rows of
`r` that pass WHERE — what one part of the input has to remember. `Lemmas/AggSummaryTable.lean` `table_concat_merge_summaries`
names them: `Sᵢ = partSummaries O q rᵢ`, the summaries of the whole are `mergeSummaries q S₁ S₂`
(= `mergeG (combineS (slotList q)) S₁ S₂`), and the three tables are `tableOfSummaries` of them. Here:

* `specBatch_concat_merge_summaries` (carried to `runBatch` in `Lemmas/AggBatchSpec.lean`: `runBatch_concat_merge_summaries`):
  for an aggregate statement without join and file lists `f`, `f₁`, `f₂` with `f.flatten = f₁.flatten ++ f₂.flatten` (one file cut
  in two, two files, …) the answer for `f` is the table of the merged summaries of the two parts, which in turn determine the
  answers for the parts;
* the deviation class of the whole is empty when those of the parts are (`deviationClass_concat`), and for every input when
  the statement has COUNT(*) (`deviationClass_empty_of_countStar`);
* decidable sufficient conditions for the proviso `SplitSafe` (`splitSafe_of_ints`, `splitSafeAllB_sound`).
-/
set_option linter.unusedSimpArgs false
namespace Sqlgrep
open Value Spec.Agg

/-- **what a part of the input remembers**: the keyed summaries of its admitted rows — per group (ascending keys), one
summary per aggregate slot (count; set of distinct values; sum; sum and count; sum, sum of squares and count; extreme;
conjunction / disjunction; sorted multiset). `none`: WHERE / a key / an argument has no value on some row, or a sum is
not fixed. -/
def partSummaries (O : Oracles) (q : AggStmt) (envs : List Env) : Option (List (List Value × List Summary)) :=
  (keyedRows O q envs).bind (keyedSummaries O q)

/-- the specification's table is the table of the part's summaries -/
theorem table_partSummaries {O : Oracles} {q : AggStmt} (hwf : StmtWF q)
    (hOI : ∀ kind ∈ slotKinds q, orderInsensitive kind = true) {envs : List Env} {t : List (List Value)}
    (h : table O q envs = some t) :
    ∃ S, partSummaries O q envs = some S ∧ tableOfSummaries O q S = some t := by
  obtain ⟨rows, S, hk, _, hS, ht⟩ := summaries_of_table hwf hOI h
  exact ⟨S, by simp only [partSummaries, hk, Option.bind_some, hS], ht⟩

theorem partSummaries_concat {O : Oracles} {q : AggStmt} (hwf : StmtWF q)
    (hOI : ∀ kind ∈ slotKinds q, orderInsensitive kind = true) (r₁ r₂ : List Env) {t t₁ t₂ : List (List Value)}
    (h : table O q (r₁ ++ r₂) = some t) (h₁ : table O q r₁ = some t₁) (h₂ : table O q r₂ = some t₂)
    (hsafe : ∀ k₁ k₂, keyedRows O q r₁ = some k₁ → keyedRows O q r₂ = some k₂ →
      ∀ k, SplitSafe O q (rowsOfKey k k₁) (rowsOfKey k k₂)) :
    partSummaries O q (r₁ ++ r₂) =
      (partSummaries O q r₁).bind (fun S₁ => (partSummaries O q r₂).map (fun S₂ => mergeSummaries q S₁ S₂)) ∧
    table O q r₁ = (partSummaries O q r₁).bind (tableOfSummaries O q) ∧
    table O q r₂ = (partSummaries O q r₂).bind (tableOfSummaries O q) ∧
    table O q (r₁ ++ r₂) = (partSummaries O q (r₁ ++ r₂)).bind (tableOfSummaries O q) := by
  obtain ⟨k₁, k₂, S₁, S₂, hk₁, hk₂, hk, hS₁, hS₂, hS, ht₁, ht₂, ht⟩ :=
    table_concat_merge_summaries hwf hOI r₁ r₂ h h₁ h₂ hsafe
  simp only [partSummaries, hk₁, hk₂, hk, hS₁, hS₂, hS, Option.bind_some, Option.map_some, ht₁, ht₂, ht, h, h₁, h₂,
    and_self]

theorem arguments_of_table {O : Oracles} {q : AggStmt} (hwf : StmtWF q)
    (hOI : ∀ kind ∈ slotKinds q, orderInsensitive kind = true) {envs : List Env} {t : List (List Value)}
    (h : table O q envs = some t) {rows : List (List Value × Env)} (hr : keyedRows O q envs = some rows) :
    ∀ r ∈ rows, ∀ kind ∈ slotKinds q, isKeyKind kind = false → (arguments O q kind (rowsOfKey r.1 rows)).isSome = true := by
  obtain ⟨rows', S, hk, hex, hS, _⟩ := summaries_of_table hwf hOI h
  rw [hr] at hk
  cases hk
  obtain ⟨_, hl, _⟩ := keyedG_lookup hS
  intro r hrm kind hkind hnk
  have hmem : r.1 ∈ distinctKeys (rows.map (·.1)) := (distinctKeys_mem_iff hex r.1).mpr (List.mem_map.mpr ⟨r, hrm, rfl⟩)
  obtain ⟨ss, hrow, _⟩ := hl r.1 hmem
  unfold summaryRow at hrow
  have hslot : ∃ s ∈ slotList q, s.2 = kind := by
    simp only [slotKinds, List.mem_append, List.mem_map] at hkind
    simp only [slotList, List.mem_append, List.mem_map]
    rcases hkind with ⟨it, hit, rfl⟩ | ⟨p, hp, rfl⟩
    · exact ⟨(true, it.kind), Or.inl ⟨it, hit, rfl⟩, rfl⟩
    · exact ⟨(false, p.2), Or.inr ⟨p, hp, rfl⟩, rfl⟩
  obtain ⟨s, hsm, rfl⟩ := hslot
  obtain ⟨x, _, this⟩ := (collect_map_mem hrow).1 s hsm
  unfold slotSummary at this
  simp only [hnk, Bool.and_false, Bool.false_eq_true, if_false] at this
  cases ha : arguments O q s.2 (rowsOfKey r.1 rows) with
  | none => rw [ha] at this; cases this
  | some vs => rfl

theorem isEmpty_append_eq {α : Type} (a b : List α) : (a ++ b).isEmpty = (a.isEmpty && b.isEmpty) := by
  cases a <;> simp

theorem createsEntry_append (k : AggKind) (v1 v2 : List Value) :
    createsEntry k (v1 ++ v2) = (createsEntry k v1 || createsEntry k v2) := by
  cases k with
  | count c d => cases c <;> simp [createsEntry, nonNull_append, isEmpty_append_eq, Bool.not_and]
  | _ => simp [createsEntry, nonNull_append, isEmpty_append_eq, Bool.not_and]

theorem createsEntry_not_key {k : AggKind} {vs : List Value} (h : createsEntry k vs = true) : isKeyKind k = false := by
  cases k <;> first | rfl | simp [createsEntry] at h

/-- a group that is visible (D10) in a part is visible in the whole, when the arguments of the whole group exist -/
theorem groupVisible_append {O : Oracles} {q : AggStmt} (g1 g2 : List Env)
    (hargs : ∀ kind ∈ slotKinds q, isKeyKind kind = false → (arguments O q kind (g1 ++ g2)).isSome = true)
    (h : groupVisible O q g1 = true ∨ groupVisible O q g2 = true) : groupVisible O q (g1 ++ g2) = true := by
  unfold groupVisible at h ⊢
  simp only [List.any_eq_true] at h ⊢
  have key : ∀ kind ∈ slotKinds q, ∀ vs, ((arguments O q kind g1 = some vs ∨ arguments O q kind g2 = some vs) ∧ createsEntry kind vs = true) →
      (match arguments O q kind (g1 ++ g2) with
        | some vs => createsEntry kind vs
        | none => false) = true := by
    intro kind hkind vs ⟨hor, hc⟩
    have hs := hargs kind hkind (createsEntry_not_key hc)
    cases hw : arguments O q kind (g1 ++ g2) with
    | none => rw [hw] at hs; cases hs
    | some ws =>
      simp only
      obtain ⟨x, y, hx, hy, rfl⟩ := collect_map_append_inv hw
      rcases hor with h1 | h2
      · have : x = vs := Option.some.inj (hx.symm.trans h1)
        subst this
        rw [createsEntry_append, hc]; rfl
      · have : y = vs := Option.some.inj (hy.symm.trans h2)
        subst this
        rw [createsEntry_append, hc, Bool.or_true]
  rcases h with ⟨kind, hkind, h⟩ | ⟨kind, hkind, h⟩
  · refine ⟨kind, hkind, ?_⟩
    cases h1 : arguments O q kind g1 with
    | none => rw [h1] at h; cases h
    | some vs => rw [h1] at h; exact key kind hkind vs ⟨Or.inl h1, h⟩
  · refine ⟨kind, hkind, ?_⟩
    cases h2 : arguments O q kind g2 with
    | none => rw [h2] at h; cases h
    | some vs => rw [h2] at h; exact key kind hkind vs ⟨Or.inr h2, h⟩

theorem visible_of_class_empty {O : Oracles} {q : AggStmt} {envs : List Env} {rows : List (List Value × Env)}
    (hr : keyedRows O q envs = some rows) (hc : deviationClass O q envs = "") :
    ∀ r ∈ rows, groupVisible O q (rowsOfKey r.1 rows) = true := by
  have hv := (deviationClass_empty hr hc).1
  have : (groups rows).any (fun kg => !groupVisible O q kg.2) = false :=
    List.any_eq_false.mpr (fun kg hkg => by simp [hv kg hkg])
  rw [groups_any_eq (fun g => !groupVisible O q g)] at this
  intro r hrm
  simpa using List.any_eq_false.mp this r hrm

/-- **the deviation class (D10 / D15) of the whole is empty when the classes of both parts are** — for statements whose
aggregates are order-insensitive, whenever the specification's table of the whole exists: a group of the whole has rows in
some part, is visible there, and an aggregate that creates an entry for a part of a group creates one for the group -/
theorem deviationClass_concat {O : Oracles} {q : AggStmt} (hwf : StmtWF q)
    (hOI : ∀ kind ∈ slotKinds q, orderInsensitive kind = true) {e₁ e₂ : List Env} {t : List (List Value)}
    (h : table O q (e₁ ++ e₂) = some t) {k₁ k₂ : List (List Value × Env)}
    (hk₁ : keyedRows O q e₁ = some k₁) (hk₂ : keyedRows O q e₂ = some k₂)
    (hc₁ : deviationClass O q e₁ = "") (hc₂ : deviationClass O q e₂ = "") : deviationClass O q (e₁ ++ e₂) = "" := by
  have hk := keyedRows_append O q e₁ e₂ hk₁ hk₂
  have hargs := arguments_of_table hwf hOI h hk
  have hv₁ := visible_of_class_empty hk₁ hc₁
  have hv₂ := visible_of_class_empty hk₂ hc₂
  have hvis : ∀ r ∈ k₁ ++ k₂, groupVisible O q (rowsOfKey r.1 (k₁ ++ k₂)) = true := by
    intro r hr
    have ha := hargs r hr
    rw [rowsOfKey_append] at ha ⊢
    apply groupVisible_append _ _ ha
    rcases List.mem_append.mp hr with h1 | h2
    · exact Or.inl (hv₁ r h1)
    · exact Or.inr (hv₂ r h2)
  refine (deviationClass_eq_empty_iff hk).mpr ⟨fun kg hkg => ?_, fun kg _ => arrayAggFirstNull_false hOI kg.2⟩
  obtain ⟨k, hkm, rfl⟩ := List.mem_map.mp hkg
  obtain ⟨r, hr, rfl⟩ := List.mem_map.mp (distinctKeys_sub _ k hkm)
  exact hvis r hr

theorem batch_flatten_congr (O : Oracles) (qy : Query) (q : AggStmt) (joined : List FileLine) {f g : List (List FileLine)}
    (h : f.flatten = g.flatten) : Spec.Agg.batch O qy q joined f = Spec.Agg.batch O qy q joined g := by
  unfold Spec.Agg.batch
  simp only [h]

/-- **input split at the level of the specification's batch answer**, summaries named: for an aggregate statement without
join whose aggregates are order-insensitive and file lists `f`, `f₁`, `f₂` such that the lines of `f` are the lines of `f₁`
followed by the lines of `f₂`: whenever the specification answers for all three and `SplitSafe` holds per group, the answer
for `f` is the table of the merged summaries of the two parts (and all lines counted), the answers for the parts are the
tables of their summaries -/
theorem specBatch_concat_merge_summaries {O : Oracles} {qy : Query} {q : AggStmt} (hwf : StmtWF q) (hj : qy.join = none)
    (hOI : ∀ kind ∈ slotKinds q, orderInsensitive kind = true) (joined : List FileLine)
    {f f₁ f₂ : List (List FileLine)} (hf : f.flatten = f₁.flatten ++ f₂.flatten) {a a₁ a₂ : RunOut × String}
    (h : Spec.Agg.batch O qy q joined f = some a) (h₁ : Spec.Agg.batch O qy q joined f₁ = some a₁)
    (h₂ : Spec.Agg.batch O qy q joined f₂ = some a₂)
    (hsafe : ∀ k₁ k₂, keyedRows O q (envsOf qy.table f₁.flatten) = some k₁ → keyedRows O q (envsOf qy.table f₂.flatten) = some k₂ →
      ∀ k, SplitSafe O q (rowsOfKey k k₁) (rowsOfKey k k₂)) :
    ∃ S₁ S₂ t₁ t₂ t,
      partSummaries O q (envsOf qy.table f₁.flatten) = some S₁ ∧ partSummaries O q (envsOf qy.table f₂.flatten) = some S₂ ∧
      partSummaries O q (envsOf qy.table f.flatten) = some (mergeSummaries q S₁ S₂) ∧
      tableOfSummaries O q S₁ = some t₁ ∧ tableOfSummaries O q S₂ = some t₂ ∧
      tableOfSummaries O q (mergeSummaries q S₁ S₂) = some t ∧
      table O q (envsOf qy.table f₁.flatten) = some t₁ ∧ table O q (envsOf qy.table f₂.flatten) = some t₂ ∧
      table O q (envsOf qy.table f.flatten) = some t ∧
      a₁.1 = tableOut q t₁ f₁.flatten.length ∧ a₂.1 = tableOut q t₂ f₂.flatten.length ∧
      a.1 = tableOut q t (f₁.flatten.length + f₂.flatten.length) := by
  obtain ⟨t, ht, ha⟩ := batch_nojoin_inv hj h
  obtain ⟨t₁, ht₁, ha₁⟩ := batch_nojoin_inv hj h₁
  obtain ⟨t₂, ht₂, ha₂⟩ := batch_nojoin_inv hj h₂
  have hlen : f.flatten.length = f₁.flatten.length + f₂.flatten.length := by rw [hf, List.length_append]
  rw [hf, envsOf_append] at ht
  obtain ⟨k₁, k₂, S₁, S₂, hk₁, hk₂, hk, hS₁, hS₂, hS, hT₁, hT₂, hT⟩ :=
    table_concat_merge_summaries hwf hOI _ _ ht ht₁ ht₂ hsafe
  refine ⟨S₁, S₂, t₁, t₂, t, ?_, ?_, ?_, hT₁, hT₂, hT, ht₁, ht₂, ?_, ?_, ?_, ?_⟩
  · simp only [partSummaries, hk₁, Option.bind_some, hS₁]
  · simp only [partSummaries, hk₂, Option.bind_some, hS₂]
  · rw [hf, envsOf_append]; simp only [partSummaries, hk, Option.bind_some, hS]
  · rw [hf, envsOf_append]; exact ht
  · rw [ha₁]
  · rw [ha₂]
  · rw [ha, hlen]

theorem arguments_countStar (O : Oracles) (q : AggStmt) (g : List Env) :
    arguments O q (.count none false) g = some (g.map (fun _ => Value.null)) := by
  unfold arguments
  induction g with
  | nil => rfl
  | cons e g ih =>
    simp only [List.map_cons, argument, okOf, Bool.false_eq_true, if_false, collect_cons_some] at ih ⊢
    rw [ih]; rfl

/-- a group with a row is visible (outside D10) as soon as the statement has COUNT(*) among its aggregates -/
theorem groupVisible_of_countStar {O : Oracles} {q : AggStmt} (hc : AggKind.count none false ∈ slotKinds q) {g : List Env}
    (hg : g ≠ []) : groupVisible O q g = true := by
  unfold groupVisible
  apply List.any_eq_true.mpr
  refine ⟨_, hc, ?_⟩
  rw [arguments_countStar]
  cases g with
  | nil => exact absurd rfl hg
  | cons e g => rfl

/-- **no input falls into D10 / D15 for an order-insensitive statement with COUNT(*)**: the deviation class is empty for
every list of rows (no hypothesis on the rows, the keys or the values) -/
theorem deviationClass_empty_of_countStar {O : Oracles} {q : AggStmt}
    (hOI : ∀ kind ∈ slotKinds q, orderInsensitive kind = true) (hc : AggKind.count none false ∈ slotKinds q)
    (envs : List Env) : deviationClass O q envs = "" := by
  cases hk : keyedRows O q envs with
  | none => simp only [deviationClass, hk]
  | some rows =>
    refine (deviationClass_eq_empty_iff hk).mpr ⟨fun x hx => ?_, fun x _ => arrayAggFirstNull_false hOI x.2⟩
    obtain ⟨k, hkm, rfl⟩ := List.mem_map.mp hx
    exact groupVisible_of_countStar hc (rowsOfKey_ne_nil (distinctKeys_sub _ k hkm))

theorem specBatch_class_of_countStar {O : Oracles} {qy : Query} {q : AggStmt} (hj : qy.join = none)
    (hOI : ∀ kind ∈ slotKinds q, orderInsensitive kind = true) (hc : AggKind.count none false ∈ slotKinds q)
    {joined : List FileLine} {files : List (List FileLine)} {ro : RunOut} {c : String}
    (h : Spec.Agg.batch O qy q joined files = some (ro, c)) : c = "" := by
  obtain ⟨_, _, ha⟩ := batch_nojoin_inv hj h
  rw [(Prod.mk.inj ha).2]; exact deviationClass_empty_of_countStar hOI hc _

/-- **the class of the whole is not a hypothesis**: if the specification answers for `f`, and answers with an empty deviation
class for the two parts, its class for `f` is empty as well (`deviationClass_concat`) -/
theorem specBatch_concat_class {O : Oracles} {qy : Query} {q : AggStmt} (hwf : StmtWF q) (hj : qy.join = none)
    (hOI : ∀ kind ∈ slotKinds q, orderInsensitive kind = true) (joined : List FileLine)
    {f f₁ f₂ : List (List FileLine)} (hf : f.flatten = f₁.flatten ++ f₂.flatten) {ro ro₁ ro₂ : RunOut} {cls : String}
    (h : Spec.Agg.batch O qy q joined f = some (ro, cls)) (h₁ : Spec.Agg.batch O qy q joined f₁ = some (ro₁, ""))
    (h₂ : Spec.Agg.batch O qy q joined f₂ = some (ro₂, "")) : cls = "" := by
  obtain ⟨t, ht, ha⟩ := batch_nojoin_inv hj h
  obtain ⟨t₁, ht₁, ha₁⟩ := batch_nojoin_inv hj h₁
  obtain ⟨t₂, ht₂, ha₂⟩ := batch_nojoin_inv hj h₂
  obtain ⟨k₁, hk₁, -⟩ := table_eq_some ht₁
  obtain ⟨k₂, hk₂, -⟩ := table_eq_some ht₂
  have c : cls = deviationClass O q (envsOf qy.table f.flatten) := (Prod.mk.inj ha).2
  have c₁ : deviationClass O q (envsOf qy.table f₁.flatten) = "" := (Prod.mk.inj ha₁).2.symm
  have c₂ : deviationClass O q (envsOf qy.table f₂.flatten) = "" := (Prod.mk.inj ha₂).2.symm
  rw [c, hf, envsOf_append]
  rw [hf, envsOf_append] at ht
  exact deviationClass_concat hwf hOI ht hk₁ hk₂ c₁ c₂

def intOrNull : Value → Bool
  | .null => true
  | .int _ => true
  | _ => false

theorem intOrNull_eq_true {v : Value} : intOrNull v = true ↔ v = .null ∨ ∃ i, v = .int i := by
  cases v <;> simp [intOrNull]

theorem nonNull_args_ints {O : Oracles} {q : AggStmt} {kind : AggKind} {keyed : List (List Value × Env)}
    (hv : ∀ r ∈ keyed, (okOf (argument O q r.2 kind)).all intOrNull = true) (k : List Value) {vs : List Value}
    (hargs : arguments O q kind (rowsOfKey k keyed) = some vs) : ∀ v ∈ nonNull vs, ∃ i, v = .int i := by
  intro v hv'
  simp only [nonNull, List.mem_filter, Bool.not_eq_true'] at hv'
  rcases intOrNull_eq_true.mp (args_all hv k hargs v hv'.1) with rfl | h
  · simp [Value.isNull] at hv'
  · exact h

/-- **a checkable sufficient condition for `SplitSafe`, INT arguments**: every aggregate's argument on every admitted row
of both parts is NULL or an INT (of any size: the split needs no bound — an overflow shows as a missing table) -/
theorem splitSafe_of_ints {O : Oracles} {q : AggStmt} {k₁ k₂ : List (List Value × Env)}
    (hv₁ : ∀ kind ∈ slotKinds q, ∀ r ∈ k₁, (okOf (argument O q r.2 kind)).all intOrNull = true)
    (hv₂ : ∀ kind ∈ slotKinds q, ∀ r ∈ k₂, (okOf (argument O q r.2 kind)).all intOrNull = true) :
    ∀ k, SplitSafe O q (rowsOfKey k k₁) (rowsOfKey k k₂) := by
  intro k kind hkind v1 v2 h1 h2
  have i1 := nonNull_args_ints (hv₁ kind hkind) k h1
  have i2 := nonNull_args_ints (hv₂ kind hkind) k h2
  refine ⟨fun _ => splitExact_of_ints i1 i2, fun _ => valuesExact_of_ints ?_⟩
  intro v hv
  rw [nonNull_append, List.mem_append] at hv
  rcases hv with hv | hv
  · exact i1 v hv
  · exact i2 v hv

/-- decidable form of `RealSplitExact`: the REAL addends of both parts together have exactly representable sums -/
def realSplitExactB (x1 x2 : List Value) : Bool :=
  match reals x1, reals x2 with
  | some r1, some r2 => decide (ExactSums (r1 ++ r2))
  | _, _ => true

theorem realSplitExactB_sound {x1 x2 : List Value} (h : realSplitExactB x1 x2 = true) : RealSplitExact x1 x2 := by
  intro r1 r2 h1 h2
  simp only [realSplitExactB, h1, h2, decide_eq_true_eq] at h
  exact realAddLaws_of_exactSums h

/-- decidable form of `SplitExact` (addends and their squares) -/
def splitExactB (x1 x2 : List Value) : Bool :=
  realSplitExactB x1 x2 &&
  match squaresOf x1, squaresOf x2 with
  | some s1, some s2 => realSplitExactB s1 s2
  | _, _ => true

theorem splitExactB_sound {x1 x2 : List Value} (h : splitExactB x1 x2 = true) : SplitExact x1 x2 := by
  simp only [splitExactB, Bool.and_eq_true] at h
  refine ⟨realSplitExactB_sound h.1, ?_⟩
  intro s1 s2 h1 h2
  have := h.2
  simp only [h1, h2] at this
  exact realSplitExactB_sound this

def isPercentile : AggKind → Bool
  | .percentile _ _ => true
  | _ => false

/-- decidable form of `SplitSafe` for one group split into `g1`, `g2` -/
def splitSafeB (O : Oracles) (q : AggStmt) (g1 g2 : List Env) : Bool :=
  (slotKinds q).all (fun kind =>
    match arguments O q kind g1, arguments O q kind g2 with
    | some v1, some v2 =>
      (!usesSums kind || splitExactB (nonNull v1) (nonNull v2)) &&
      (!isPercentile kind || (nonNull (v1 ++ v2)).all simpleValue)
    | _, _ => true)

theorem splitSafeB_sound {O : Oracles} {q : AggStmt} {g1 g2 : List Env} (h : splitSafeB O q g1 g2 = true) :
    SplitSafe O q g1 g2 := by
  intro kind hkind v1 v2 h1 h2
  simp only [splitSafeB, List.all_eq_true] at h
  have := h kind hkind
  simp only [h1, h2, Bool.and_eq_true, Bool.or_eq_true, Bool.not_eq_true'] at this
  refine ⟨fun hs => ?_, fun hp => ?_⟩
  · rcases this.1 with h' | h'
    · rw [hs] at h'; cases h'
    · exact splitExactB_sound h'
  · obtain ⟨e, p, rfl⟩ := hp
    rcases this.2 with h' | h'
    · simp [isPercentile] at h'
    · exact valuesExact_of_simple h'

/-- decidable form of "`SplitSafe` for every group key": checked for the keys that occur in a part (a key that occurs in
neither has the empty group in both) -/
def splitSafeAllB (O : Oracles) (q : AggStmt) (k₁ k₂ : List (List Value × Env)) : Bool :=
  splitSafeB O q [] [] && (k₁ ++ k₂).all (fun r => splitSafeB O q (rowsOfKey r.1 k₁) (rowsOfKey r.1 k₂))

/-- **a checkable sufficient condition for `SplitSafe` on every group**, REAL arguments included: for every key that occurs
in a part, the REAL addends (and their squares) of the two parts of the group together are `ExactSums`, and PERCENTILE's
values are simple (no `-0.0`, no array) -/
theorem splitSafeAllB_sound {O : Oracles} {q : AggStmt} {k₁ k₂ : List (List Value × Env)} (h : splitSafeAllB O q k₁ k₂ = true) :
    ∀ k, SplitSafe O q (rowsOfKey k k₁) (rowsOfKey k k₂) := by
  intro k
  simp only [splitSafeAllB, Bool.and_eq_true, List.all_eq_true] at h
  by_cases hk : ∃ r ∈ k₁ ++ k₂, cmpList r.1 k = .eq
  · obtain ⟨r, hr, he⟩ := hk
    rw [← rowsOfKey_congr he k₁, ← rowsOfKey_congr he k₂]
    exact splitSafeB_sound (h.2 r hr)
  · have habs : ∀ (rows : List (List Value × Env)), (∀ r ∈ rows, r ∈ k₁ ++ k₂) → rowsOfKey k rows = [] := by
      intro rows hsub
      apply rowsOfKey_nil_of_absent
      intro k' hk' he
      obtain ⟨r, hr, rfl⟩ := List.mem_map.mp hk'
      exact hk ⟨r, hsub r hr, he⟩
    rw [habs k₁ (fun r hr => List.mem_append_left _ hr), habs k₂ (fun r hr => List.mem_append_right _ hr)]
    exact splitSafeB_sound h.1

/-- the same check on two inputs: their admitted rows, then `splitSafeAllB` — the proviso `hsafe` of
`table_concat_merge_summaries` / `runBatch_concat_merge_summaries` in the form those theorems take it -/
def splitSafeInputsB (O : Oracles) (q : AggStmt) (r₁ r₂ : List Env) : Bool :=
  match keyedRows O q r₁, keyedRows O q r₂ with
  | some k₁, some k₂ => splitSafeAllB O q k₁ k₂
  | _, _ => true

theorem splitSafeInputsB_sound {O : Oracles} {q : AggStmt} {r₁ r₂ : List Env} (h : splitSafeInputsB O q r₁ r₂ = true) :
    ∀ k₁ k₂, keyedRows O q r₁ = some k₁ → keyedRows O q r₂ = some k₂ → ∀ k, SplitSafe O q (rowsOfKey k k₁) (rowsOfKey k k₂) := by
  intro k₁ k₂ h₁ h₂
  simp only [splitSafeInputsB, h₁, h₂] at h
  exact splitSafeAllB_sound h

/-- from "the specification answers with an empty deviation class" in decidable form (`RunOut` has no decidable equality) -/
theorem batch_of_class {x : Option (RunOut × String)} (h : x.map (·.2) = some "") : ∃ ro, x = some (ro, "") := by
  cases x with
  | none => cases h
  | some a =>
    obtain ⟨ro, c⟩ := a
    simp only [Option.map_some, Option.some.injEq] at h
    subst h
    exact ⟨ro, rfl⟩

end Sqlgrep
