import SqlgrepModel.Lemmas.LexRun
import SqlgrepModel.Lemmas.LexWords
/-
The tokenizer fold over rendered pieces: gaps (whitespace, comments), string literals, words, numbers,
operators; and the induction over a lexeme sequence that yields `tokenize_render` (Props/C20.lean).
Every piece is a statement `Leads o P text Q` (LexRun): from a state satisfying `P` the text leads to one satisfying `Q`.
-/
namespace Sqlgrep.Lex
open Sqlgrep

variable {o : Oracles} {T : List Tok} {p : Bool}

def InComment (st : St) (T : List Tok) : Prop := Dashed st T ∨ InCom st T

theorem InComment.pend {st : St} (h : InComment st T) : st.pend = .none :=
  h.elim (·.rest.pend) (·.pend)

theorem InComment.body (o : Oracles) {st : St} (c : Char) (h : InComment st T) :
    (c = '\n' → Clean (body o st c) T false) ∧ (c ≠ '\n' → InCom (body o st c) T) :=
  h.elim (body_dashed o c) (body_incom o c)

theorem InComment.finish {st : St} (h : InComment st T) :
    ∃ st', finish o st = .run st' ∧ st'.toks.map (·.tok) = .eof :: T :=
  h.elim (Dashed.finish o) (Mode.finish o)

theorem run_incomment (b : List Char) (hb : '\n' ∉ b) : Leads o (InComment · T) b (InComment · T) := by
  induction b with
  | nil => exact .refl
  | cons c b ih =>
    exact .char (fun _ h => h.pend) (fun _ h => .inr ((h.body o c).2 fun e => hb (e ▸ List.mem_cons_self)))
      (ih fun hm => hb (List.mem_cons_of_mem _ hm))

theorem run_dashes (hp : p = true → T.head? ≠ some (.op (.single '-'))) :
    Leads o (Clean · T p) ['-', '-'] (Dashed · T) := fun st h0 =>
  Leads.mode (Q := (Clean · (.op (.single '-') :: T) true)) (fun _ h => body_dash1 o h hp)
    (.mode (fun _ h => body_dash2 o h h0.nodash) .refl) st h0

theorem run_tail (b : List Char) (hp : p = true → T.head? ≠ some (.op (.single '-'))) (hb : '\n' ∉ b) :
    Leads o (Clean · T p) ('-' :: '-' :: b) (InComment · T) :=
  ((run_dashes hp).weaken fun _ => .inl).append (run_incomment b hb)

theorem run_comment (b : List Char) (hp : p = true → T.head? ≠ some (.op (.single '-'))) (hb : '\n' ∉ b) :
    Leads o (Clean · T p) (GapItem.comment b).text (Clean · T false) :=
  (run_tail b hp hb).append (.char (fun _ h => h.pend) (fun _ h => (h.body o '\n').1 rfl) .refl)

theorem body_space {st : St} {c : Char} (h : Clean st T p) (hc : isSpace o c = true) : Clean (body o st c) T false := by
  rw [body_clean o h (not_quote (not_special_of_space o hc).1), classify_space o _ _ hc]
  exact h.advance c

theorem run_gap (g : Gap) (hok : g.Ok o) : ∀ {p : Bool},
    (p = true → T.head? = some (.op (.single '-')) → g.startsWithComment = false) →
    Leads o (Clean · T p) g.text (Clean · T (if g = [] then p else false)) := by
  induction g with
  | nil => intro p _; exact .refl
  | cons i g ih =>
    intro p hstart
    have hfirst : Leads o (Clean · T p) i.text (Clean · T false) := by
      cases i with
      | ws c => exact .mode (fun _ h => body_space h (hok _ List.mem_cons_self)) .refl
      | comment b => exact run_comment b (fun hp hd => nomatch hstart hp hd) (hok _ List.mem_cons_self)
    rw [if_neg (List.cons_ne_nil _ _)]
    exact hfirst.append ((ih (fun j hj => hok j (List.mem_cons_of_mem _ hj)) (p := false) nofun).weaken
      fun _ h => by rwa [ite_self] at h)

theorem run_str_body (body : List Char) : ∀ {s : List Char}, wellEscaped body = true →
    Leads o (InStr · T s false) body (InStr · T ((unescape body).reverse ++ s) false) := by
  fun_induction unescape body with
  | case1 => intro s _; exact .refl
  | case2 => intro s hw; cases hw
  | case3 c hc =>
    intro s hw
    have hq : c ≠ '\'' := by rintro rfl; cases hw
    exact .mode (fun _ h => body_instr_push o h (.inr ⟨hc, hq⟩)) .refl
  | case4 d rest ih =>
    intro s hw
    exact .mode (fun _ h => body_instr_backslash o h) <| .mode (fun _ h => body_instr_push o (c := d) h (.inl rfl)) <|
      (ih hw).weaken fun _ h => by simpa using h
  | case5 c d rest hc ih =>
    intro s hw
    have hq : c ≠ '\'' := by rintro rfl; cases hw
    exact .mode (fun _ h => body_instr_push o (c := c) h (.inr ⟨hc, hq⟩)) <|
      (ih (by simpa [wellEscaped, hc, hq] using hw)).weaken fun _ h => by simpa using h

theorem run_str (body : List Char) (hw : wellEscaped body = true) :
    Leads o (Clean · T p) ('\'' :: (body ++ ['\''])) (Clean · (.str (unescape body) :: T) false) :=
  .mode (fun _ h => body_open o h) <| (run_str_body body hw).append <|
    .mode (fun _ h => by simpa using body_close o h) .refl

theorem body_word_start {st : St} {c : Char} (h : Clean st T p) (hc : (o.info c).alpha = true) :
    PendW (body o st c) T [c] := by
  have ha := h.advance c
  rw [body_clean o h (not_quote (not_special_of_alpha o hc)), classify_alpha o _ _ hc]
  exact ⟨ha.toks, ha.nodash, ha.cur, ha.esc, ha.com, ha.prevOp, rfl⟩

theorem run_word_cont (w : List Char) (hw : ∀ x ∈ w, isWordCont o x = true) : ∀ {r : List Char},
    Leads o (PendW · T r) w (PendW · T (w.reverse ++ r)) := by
  induction w with
  | nil => intro r; exact .refl
  | cons x w ih =>
    intro r
    refine .step (Q := (PendW · T (x :: r))) (fun st h => ⟨{ st with pend := .ident (x :: r), col := st.col + 1 }, ?_,
      h.toks, h.nodash, h.cur, h.esc, h.com, h.prevOp, rfl⟩)
      ((ih fun y hy => hw y (List.mem_cons_of_mem _ hy)).weaken fun _ h => by simpa using h)
    unfold step; rw [h.pend]; exact if_pos (hw x List.mem_cons_self)

theorem run_word {c : Char} {w : List Char} (hc : (o.info c).alpha = true) (hw : ∀ x ∈ w, isWordCont o x = true) :
    Leads o (Clean · T p) (c :: w) (PendW · T (c :: w).reverse) :=
  .mode (fun _ h => body_word_start h hc) ((run_word_cont w hw).weaken fun _ h => by simpa using h)

theorem body_num_start {st : St} {c : Char} (h : Clean st T p) (h0 : (o.info c).alpha = false)
    (hc : (o.info c).numeric = true) : PendN (body o st c) T [c] false := by
  have ha := h.advance c
  rw [body_clean o h (not_quote (not_special_of_numeric o hc)), classify_numeric o _ _ h0 hc]
  exact ⟨ha.toks, ha.nodash, ha.cur, ha.esc, ha.com, ha.prevOp, rfl⟩

theorem run_num_cont (w : List Char) (hw : ∀ x ∈ w, (o.info x).numeric = true) : ∀ {r : List Char} {d : Bool},
    Leads o (PendN · T r d) w (PendN · T (w.reverse ++ r) d) := by
  induction w with
  | nil => intro r d; exact .refl
  | cons x w ih =>
    intro r d
    refine .step (Q := (PendN · T (x :: r) d)) (fun st h => ⟨{ st with pend := .number (x :: r) d, col := st.col + 1 }, ?_,
      h.toks, h.nodash, h.cur, h.esc, h.com, h.prevOp, rfl⟩)
      ((ih fun y hy => hw y (List.mem_cons_of_mem _ hy)).weaken fun _ h => by simpa using h)
    unfold step; rw [h.pend]; exact if_pos (hw x List.mem_cons_self)

theorem step_num_dot {st : St} {r : List Char} (h : PendN st T r false) :
    ∃ st', step o st '.' = .run st' ∧ PendN st' T ('.' :: r) true := by
  refine ⟨{ st with pend := .number ('.' :: r) true, col := st.col + 1 }, ?_, h.toks, h.nodash, h.cur, h.esc, h.com, h.prevOp, rfl⟩
  unfold step
  rw [h.pend]
  dsimp only
  rw [if_neg (by rw [(info_special o '.' (by decide)).2.1]; nofun), if_pos rfl]
  rfl

def EndKind.isOp : EndKind → Bool
  | .op _ => true
  | _ => false

/-- the state after a lexeme that ended as `k`; `T` = the tokens once a pending word / number has been converted -/
structure Inv (o : Oracles) (st : St) (T : List Tok) (k : EndKind) : Prop where
  flush : ∃ st', Lex.flush o st = .run st' ∧ Clean st' T k.isOp
  op : ∀ a, k = .op a → T.head? = some (.op (.single a))
  word : ∀ r, st.pend = .ident r → k = .word
  num : ∀ r d, st.pend = .number r d → k = .int ∨ k = .float

theorem Inv.ofClean {st : St} (h : Clean st T false) : Inv o st T .other :=
  ⟨⟨st, flush_of_pend_none o h.pend, h⟩, nofun, fun _ e => absurd e (h.pend_ne nofun), fun _ _ e => absurd e (h.pend_ne nofun)⟩

theorem Inv.ofOp {st : St} {a : Char} (h : Clean st (.op (.single a) :: T) true) :
    Inv o st (.op (.single a) :: T) (.op a) :=
  ⟨⟨st, flush_of_pend_none o h.pend, h⟩, fun _ e => EndKind.op.inj e ▸ rfl, fun _ e => absurd e (h.pend_ne nofun),
    fun _ _ e => absurd e (h.pend_ne nofun)⟩

theorem Inv.ofWord {st : St} {T0 : List Tok} {r : List Char} (h : PendW st T0 r)
    (hf : Clean (flushIdent o { st with pend := .none } r.reverse) T false) : Inv o st T .word :=
  ⟨⟨_, by unfold Lex.flush; rw [h.pend], hf⟩, nofun, fun _ _ => rfl, fun _ _ e => absurd e (h.pend_ne nofun)⟩

theorem Inv.ofNum {st st1 : St} {T0 : List Tok} {r : List Char} {d : Bool} {k : EndKind}
    (hk : k = .int ∨ k = .float) (h : PendN st T0 r d)
    (hf : flushNumber o { st with pend := .none } r.reverse d = .run st1) (hc : Clean st1 T false) : Inv o st T k := by
  have hop : k.isOp = false := by rcases hk with rfl | rfl <;> rfl
  exact ⟨⟨st1, by unfold Lex.flush; rw [h.pend]; exact hf, hop ▸ hc⟩, fun a e => (by rw [e] at hop; cases hop),
    fun _ e => absurd e (h.pend_ne nofun), fun _ _ _ => hk⟩

def NoContK (o : Oracles) : EndKind → Char → Prop
  | .word, c => isWordCont o c = false
  | .int, c => (o.info c).numeric = false ∧ c ≠ '.'
  | .float, c => (o.info c).numeric = false ∧ c ≠ '.'
  | _, _ => True

theorem NoContK_of_AdjOk {k : EndKind} {c : Char} (h : AdjOk o k c) : NoContK o k c := by
  cases k <;> first | exact h | trivial

theorem Inv.head_of_op {st : St} {k : EndKind} (h : Inv o st T k) (hk : k.isOp = true) :
    ∃ a, k = .op a ∧ T.head? = some (.op (.single a)) := by
  cases k with
  | op a => exact ⟨a, rfl, h.op a rfl⟩
  | _ => cases hk

/-- a character that does not continue the pending word / number is processed from the converted state -/
theorem Inv.bridge {k : EndKind} {c : Char} (hc : NoContK o k c) {cs : List Char} {R : St → Prop}
    (h : Leads o (Clean · T k.isOp) (c :: cs) R) : Leads o (Inv o · T k) (c :: cs) R := fun st hi => by
  obtain ⟨st', hf, hcl⟩ := hi.flush
  have e : run o st (c :: cs) = run o st' (c :: cs) := by
    rw [run_cons, step_of_noCont o st (c := c), hf, run_cons o st', step_of_pend_none o st' c hcl.pend]
    · rfl
    · intro r hp; rw [hi.word r hp] at hc; exact hc
    · intro r d hp; rcases hi.num r d hp with e | e <;> rw [e] at hc <;> exact hc
  rw [e]; exact h st' hcl

theorem digit_info (o : Oracles) {c : Char} (h : isDigitA c = true) :
    (o.info c).numeric = true ∧ (o.info c).alpha = false := by
  have h' := h
  simp only [isDigitA, Bool.and_eq_true, decide_eq_true_eq] at h'
  rw [info_of_ascii o c (by omega)]
  refine ⟨h, ?_⟩
  simp only [asciiInfo, isUpperA, isLowerA, Bool.or_eq_false_iff, Bool.and_eq_false_iff, decide_eq_false_iff_not]
  omega

abbrev Runs (o : Oracles) (T : List Tok) (p : Bool) (l : Lexeme) : Prop :=
  Leads o (Clean · T p) l.text (Inv o · (pushTok T (l.tok o)) l.endKind)

theorem run_cased_word {w : List Char} (hne : w ≠ []) (hw : w.all isLowerA = true) (f : List Bool) :
    Leads o (Clean · T p) (applyCase f w) (fun st => ∃ r, PendW st T r ∧ lower o r.reverse = w) := by
  cases w with
  | nil => exact absurd rfl hne
  | cons c w =>
    obtain ⟨hl, hall⟩ := applyCase_spec o (c :: w) (by simpa using hw) f
    obtain ⟨b, f', e⟩ := applyCase_cons f c w
    rw [e] at hall hl ⊢
    exact (run_word (hall _ List.mem_cons_self).1
      fun x hx => by rw [isWordCont, (hall x (List.mem_cons_of_mem _ hx)).2]; rfl).weaken
      fun _ hp => ⟨_, hp, by rw [List.reverse_reverse]; exact hl⟩

theorem run_lexeme_kw (k : Keyword) (f : List Bool) (hv : (Lexeme.kw k f).Valid o) : Runs o T p (.kw k f) := by
  obtain ⟨w, hw⟩ := Option.isSome_iff_exists.mp hv
  obtain ⟨hk, hne, hlow⟩ := kwWord_spec k w hw
  show Leads o _ (applyCase f ((kwWord k).getD [])) _
  rw [hw]
  exact (run_cased_word hne hlow f).weaken fun _ ⟨r, hp, hl⟩ => .ofWord hp (flushIdent_kw o hp.unpend (by rw [hl]; exact hk))

theorem run_lexeme_lit (l : LitWord) (f : List Bool) : Runs o T p (.lit l f) := by
  obtain ⟨_, hne, hlow⟩ := litWord_spec l
  exact (run_cased_word hne hlow f).weaken fun _ ⟨r, hp, hl⟩ => .ofWord hp (flushIdent_lit o hp.unpend l hl)

theorem run_lexeme_ident (w : List Char) (hv : (Lexeme.ident w).Valid o) : Runs o T p (.ident w) := by
  obtain ⟨hw, hk, h1, h2, h3⟩ := hv
  cases w with
  | nil => exact hw.elim
  | cons c r =>
    exact (run_word hw.1 hw.2).weaken fun _ hp =>
      .ofWord hp (by rw [List.reverse_reverse]; exact flushIdent_ident o hp.unpend hk h1 h2 h3)

theorem run_lexeme_int (ds : List Char) (hv : (Lexeme.int ds).Valid o) : Runs o T p (.int ds) := by
  obtain ⟨hne, hd, hp⟩ := hv
  cases ds with
  | nil => exact absurd rfl hne
  | cons c r =>
    have hc := digit_info o (hd c List.mem_cons_self)
    obtain ⟨i, hi⟩ := Option.isSome_iff_exists.mp hp
    refine (Leads.mode (fun _ h => body_num_start h hc.2 hc.1)
      (run_num_cont r fun x hx => (digit_info o (hd x (List.mem_cons_of_mem _ hx))).1)).weaken fun st' hpn => ?_
    refine .ofNum (.inl rfl) (st1 := ({ st' with pend := .none } : St).add (.int i)) hpn ?_ ?_
    · rw [show (r.reverse ++ [c]).reverse = c :: r by simp, flushNumber, if_neg nofun, hi]
    · rw [Lexeme.tok, hi, Option.getD_some, pushTok_plain T (.int i) nofun nofun nofun]
      exact hpn.unpend.add nofun

theorem run_lexeme_float (a b : List Char) (hv : (Lexeme.float a b).Valid o) : Runs o T p (.float a b) := by
  obtain ⟨ha, hnum, hf⟩ := hv
  cases a with
  | nil => exact ha.elim
  | cons c r =>
    obtain ⟨n, hn⟩ : ∃ n, o.fparse (c :: r ++ '.' :: b) = .bits n := by
      cases hfp : o.fparse (c :: r ++ '.' :: b) with
      | bits n => exact ⟨n, rfl⟩
      | err => rw [hfp] at hf; exact hf.elim
      | missing => rw [hfp] at hf; exact hf.elim
    show Leads o _ (c :: (r ++ '.' :: b)) _
    refine (Leads.mode (fun _ h => body_num_start h ha (hnum c List.mem_cons_self))
      ((run_num_cont r fun x hx => hnum x (by simp [hx])).append
        (.step (fun _ h => step_num_dot h) (run_num_cont b fun x hx => hnum x (by simp [hx]))))).weaken fun st3 hp3 => ?_
    refine .ofNum (.inr rfl) (st1 := ({ st3 with pend := .none } : St).add (.float n)) hp3 ?_ ?_
    · rw [show (b.reverse ++ '.' :: (r.reverse ++ [c])).reverse = c :: r ++ '.' :: b by simp, flushNumber, if_pos rfl, hn]
    · rw [Lexeme.tok, hn, pushTok_plain T (.float n) nofun nofun nofun]
      exact hp3.unpend.add nofun

theorem run_lexeme_str (body : List Char) (hv : (Lexeme.str body).Valid o) : Runs o T p (.str body) :=
  (run_str body hv).weaken fun _ hc => by rw [Lexeme.tok, pushTok_plain T (.str _) nofun nofun nofun]; exact .ofClean hc

theorem isOpChar_ascii (o : Oracles) (c : Char) (h : c ∈ ['!', '<', '>', '=']) : isOpChar o c = true := by
  have key : ∀ c ∈ ['!', '<', '>', '='],
      c.toNat < 128 ∧ (let i := asciiInfo c; !i.alpha && !i.numeric && !i.white && !special.contains c) = true := by decide
  rw [isOpChar, info_of_ascii o c (key c h).1]; exact (key c h).2

theorem run_lexeme_op1 (c : Char) (hv : (Lexeme.op1 c).Valid o) (hadj : OpAdj o T p c) : Runs o T p (.op1 c) :=
  .mode (fun _ h => by rw [Lexeme.tok, pushTok_plain T (.op _) nofun nofun nofun]; exact .ofOp (body_op1 o h hv hadj)) .refl

theorem twoCharOps_spec : ∀ p ∈ twoCharOps, p ≠ ('-', '-') →
    p.1 ∈ ['!', '<', '>', '='] ∧ p.2 ∈ ['!', '<', '>', '='] ∧ ¬ (p.1 = '=' ∧ p.2 = '>') := by decide

theorem run_op_pair {a b : Char} {t : Tok} (ha : isOpChar o a = true) (hb : isOpChar o b = true) (hadj : OpAdj o T p a)
    (ht : t ≠ dashDash) (hop : ∀ s : St, s.lastTok = some (.op (.single a)) → operator s true b = s.setLast t) :
    Leads o (Clean · T p) [a, b] (Inv o · (t :: T) .other) :=
  .mode (Q := (Clean · (.op (.single a) :: T) true)) (fun _ h => body_op1 o h ha hadj)
    (.mode (fun _ h1 => .ofClean (body_op2 o h1 hb ht hop)) .refl)

theorem run_lexeme_op2 (a b : Char) (hv : (Lexeme.op2 a b).Valid o) (hadj : OpAdj o T p a) : Runs o T p (.op2 a b) := by
  obtain ⟨ha, hb, hna⟩ := twoCharOps_spec (a, b) hv.1 hv.2
  rw [Runs, Lexeme.tok, pushTok_plain T (.op _) nofun nofun nofun]
  exact run_op_pair (isOpChar_ascii o a ha) (isOpChar_ascii o b hb) hadj (fun e => hv.2 (by cases e; rfl))
    fun s hl => operator_dual hl hna (by rw [isTwoChar, List.contains_eq_mem]; exact decide_eq_true hv.1)

theorem run_lexeme_rarrow (hadj : OpAdj o T p '=') : Runs o T p .rarrow := by
  rw [Runs, Lexeme.tok, pushTok_plain T .rarrow nofun nofun nofun]
  exact run_op_pair (isOpChar_ascii o '=' (by decide)) (isOpChar_ascii o '>' (by decide)) hadj nofun
    fun s hl => operator_arrow hl

theorem Punct.tok_spec (q : Punct) : (∀ k, q.tok ≠ .kw k) ∧ (q.tok = .colon → q = .colon) ∧ q.tok ≠ dashDash := by
  cases q <;> refine ⟨fun _ => Tok.noConfusion, ?_, Tok.noConfusion⟩ <;> first | exact fun _ => rfl | exact Tok.noConfusion

theorem run_lexeme_punct (q : Punct) : Runs o T p (.punct q) := by
  obtain ⟨hk, hcol, hd⟩ := q.tok_spec
  refine .mode (fun st h => ?_) .refl
  have ha := h.advance q.char
  show Inv o _ (pushTok T q.tok) .other
  rw [body_clean o h q.char_special.2, classify_punct]
  by_cases hc : q = .colon
  · subst hc
    show Inv o _ (pushTok T .colon) .other
    rw [if_pos rfl, ha.lastTok]
    by_cases hl : T.head? = some .colon
    · rw [if_pos hl]
      cases T with
      | nil => cases hl
      | cons t T' => cases hl; exact .ofClean (ha.setLast nofun)
    · rw [if_neg hl, pushTok_cons (t := .colon) (T := T) nofun nofun (fun _ => hl)]
      exact .ofClean (ha.add nofun)
  · rw [if_neg hc, pushTok_cons (fun e => absurd e (hk _)) (fun e => absurd e (hk _)) (fun e => absurd (hcol e) hc)]
    exact .ofClean (ha.add hd)

theorem run_lexeme (l : Lexeme) (hv : l.Valid o) (hadj : OpAdj o T p (firstChar l)) : Runs o T p l := by
  cases l with
  | kw k f => exact run_lexeme_kw k f hv
  | lit w f => exact run_lexeme_lit w f
  | ident w => exact run_lexeme_ident w hv
  | int ds => exact run_lexeme_int ds hv
  | float a b => exact run_lexeme_float a b hv
  | str body => exact run_lexeme_str body hv
  | op1 c => exact run_lexeme_op1 c hv hadj
  | op2 a b => exact run_lexeme_op2 a b hv hadj
  | rarrow => exact run_lexeme_rarrow hadj
  | punct q => exact run_lexeme_punct q

theorem Lexeme.text_ne_nil {o : Oracles} (l : Lexeme) (hv : l.Valid o) : l.text ≠ [] := by
  cases l with
  | kw k f =>
    obtain ⟨w, hw⟩ := Option.isSome_iff_exists.mp hv
    rw [Lexeme.text, hw]
    exact applyCase_ne_nil f (kwWord_spec k w hw).2.1
  | lit w f => exact applyCase_ne_nil f (litWord_spec w).2.1
  | ident w =>
    cases w with
    | nil => exact hv.1.elim
    | cons c r => nofun
  | int ds => exact hv.1
  | float a b => exact List.append_ne_nil_of_right_ne_nil _ nofun
  | _ => nofun

theorem Lexeme.text_cons {o : Oracles} (l : Lexeme) (hv : l.Valid o) : ∃ c cs, l.text = c :: cs ∧ firstChar l = c := by
  unfold firstChar
  cases ht : l.text with
  | nil => exact absurd ht (l.text_ne_nil hv)
  | cons c cs => exact ⟨c, cs, rfl, rfl⟩

theorem noContK_all {o : Oracles} {c : Char} (hw : isWordCont o c = false) (hn : (o.info c).numeric = false) (hd : c ≠ '.') :
    ∀ k, NoContK o k c
  | .word => hw
  | .int => ⟨hn, hd⟩
  | .float => ⟨hn, hd⟩
  | .other => trivial
  | .op _ => trivial

theorem gap_first (o : Oracles) (i : GapItem) (hi : i.Ok o) : ∃ c cs, i.text = c :: cs ∧ ∀ k, NoContK o k c := by
  cases i with
  | ws c =>
    have hs := not_special_of_space o hi
    simp only [GapItem.Ok, isSpace, Bool.and_eq_true, Bool.not_eq_eq_eq_not, Bool.not_true] at hi
    exact ⟨c, [], rfl, noContK_all (by rw [isWordCont, hi.2, decide_eq_false hs.2.1]; rfl) hi.1.2 hs.2.2⟩
  | comment b =>
    have hd := info_special o '-' (by decide)
    exact ⟨'-', '-' :: (b ++ ['\n']), rfl, noContK_all (by rw [isWordCont, hd.2.2.1]; rfl) hd.2.1 (by decide)⟩

theorem dash_of_inv {o : Oracles} {st : St} {T : List Tok} {k : EndKind} (h : Inv o st T k) (hk : k.isOp = true)
    (hl : T.head? = some (.op (.single '-'))) : k = .op '-' := by
  obtain ⟨a, rfl, hl'⟩ := h.head_of_op hk
  rw [hl] at hl'
  cases hl'; rfl

theorem run_gap_inv {k : EndKind} (i : GapItem) (g : Gap) (hg : Gap.Ok o (i :: g)) (hgs : GapStartOk k (i :: g)) :
    Leads o (Inv o · T k) (Gap.text (i :: g)) (Clean · T false) := fun st h => by
  obtain ⟨c0, cs0, hi, hnc⟩ := gap_first o i (hg i List.mem_cons_self)
  have hgap : Leads o (Clean · T k.isOp) (Gap.text (i :: g)) (Clean · T false) :=
    (run_gap (i :: g) hg fun hk hl => hgs (dash_of_inv h hk hl)).weaken
      fun _ hc => by rwa [if_neg (List.cons_ne_nil _ _)] at hc
  have e : Gap.text (i :: g) = c0 :: (cs0 ++ Gap.text g) := by
    show i.text ++ Gap.text g = _
    rw [hi]; rfl
  rw [e] at hgap ⊢
  exact Inv.bridge (hnc k) hgap st h

theorem run_items (items : List (Gap × Lexeme)) : ∀ {T : List Tok} {k : EndKind}, ItemsOk o k items →
    Leads o (Inv o · T k) (renderItems items)
      (Inv o · ((items.map (fun x => x.2.tok o)).foldl pushTok T) (lastKind k items)) := by
  induction items with
  | nil => intro T k _; exact .refl
  | cons x rest ih =>
    obtain ⟨g, l⟩ := x
    intro T k ⟨hg, hv, ⟨hadj, hgs⟩, hrest⟩
    have htail := ih hrest (T := pushTok T (l.tok o))
    cases g with
    | nil =>
      -- no gap: the first character of the lexeme converts what is pending
      obtain ⟨c, cs, htext, hfc⟩ := l.text_cons hv
      intro st h
      have hlex : Leads o (Clean · T k.isOp) (l.text ++ renderItems rest) _ :=
        (run_lexeme l hv fun hk => by obtain ⟨a, rfl, hl⟩ := h.head_of_op hk; exact ⟨a, hl, hadj rfl⟩).append htail
      rw [htext, List.cons_append] at hlex
      show ∃ st', run o st ([] ++ l.text ++ renderItems rest) = _ ∧ _
      rw [List.nil_append, htext, List.cons_append]
      exact Inv.bridge (hfc ▸ NoContK_of_AdjOk (hadj rfl)) hlex st h
    | cons i g' =>
      show Leads o _ (Gap.text (i :: g') ++ l.text ++ renderItems rest) _
      rw [List.append_assoc]
      exact (run_gap_inv i g' hg hgs).append ((run_lexeme (p := false) l hv nofun).append htail)

theorem Inv.finish {st : St} {k : EndKind} (h : Inv o st T k) :
    ∃ st', Lex.finish o st = .run st' ∧ st'.toks.map (·.tok) = .eof :: T := by
  obtain ⟨st1, hf, hc⟩ := h.flush
  obtain ⟨st2, hf2, ht⟩ := hc.finish o
  rw [finish_of_pend_none o hc.pend] at hf2
  exact ⟨st2, by rw [Lex.finish, hf]; exact hf2, ht⟩

theorem run_layout (o : Oracles) (L : Layout) (h : L.Ok o) :
    ∃ st', (run o {} L.text).bind (finish o) = .run st' ∧
      st'.toks.map (·.tok) = .eof :: (L.lexemes.map (·.tok o)).foldl pushTok [] := by
  obtain ⟨hitems, hfinal, hfs, htail⟩ := h
  obtain ⟨st1, hr1, hinv1⟩ := run_items L.items hitems {} (.ofClean init_clean)
  rw [show L.items.map (fun x => x.2.tok o) = L.lexemes.map (·.tok o) by rw [Layout.lexemes, List.map_map]; rfl] at hinv1
  generalize (L.lexemes.map (·.tok o)).foldl pushTok [] = T at hinv1 ⊢
  generalize lastKind .other L.items = k at hinv1 hfs htail
  unfold Layout.text
  rw [List.append_assoc, run_append, hr1, R.bind_run]
  -- the final gap and an unterminated comment, from the state behind the last lexeme
  cases hfin : L.final with
  | nil =>
    rw [hfin] at htail
    rw [Gap.text, List.flatMap_nil, List.nil_append]
    cases htl : L.tail with
    | none => exact hinv1.finish
    | some b =>
      rw [htl] at htail
      have hd := info_special o '-' (by decide)
      exact (Inv.bridge (noContK_all (by rw [isWordCont, hd.2.2.1]; rfl) hd.2.1 (by decide) k)
        (run_tail b (fun hop hl => htail.2 rfl (dash_of_inv hinv1 hop hl)) htail.1)).finish (fun _ hc => hc.finish) st1 hinv1
  | cons i g =>
    rw [hfin] at hfs hfinal
    cases htl : L.tail with
    | none => rw [List.append_nil]; exact (run_gap_inv i g hfinal hfs).finish (fun _ hc => hc.finish o) st1 hinv1
    | some b =>
      rw [htl] at htail
      exact ((run_gap_inv i g hfinal hfs).append (run_tail b nofun htail.1)).finish (fun _ hc => hc.finish) st1 hinv1

/-- **the tokenizer inverts rendering under any layout** -/
theorem tokens_layout (o : Oracles) (L : Layout) (h : L.Ok o) :
    tokens o L.text = some (fuse (L.lexemes.map (·.tok o)) ++ [.eof]) := by
  obtain ⟨st', hr, ht⟩ := run_layout o L h
  rw [tokens_of_finish o hr ht, fuse]

theorem single_ok (o : Oracles) (l : Lexeme) (hv : l.Valid o) : ({ items := [([], l)] } : Layout).Ok o :=
  ⟨⟨nofun, hv, ⟨fun _ => trivial, fun _ => rfl⟩, trivial⟩, nofun, fun _ => rfl, trivial⟩

theorem stripGap_ok (o : Oracles) (g : Gap) (h : g.Ok o) : (stripGap g).Ok o := by
  intro i hi
  obtain ⟨j, hj, rfl⟩ := List.mem_map.mp hi
  cases j with
  | ws c => exact h _ hj
  | comment b =>
    show isSpace o '\n' = true
    rw [isSpace, info_of_ascii o _ (by decide)]; decide

theorem stripGap_nil (g : Gap) : stripGap g = [] ↔ g = [] := List.map_eq_nil_iff

theorem stripGap_start (g : Gap) : (stripGap g).startsWithComment = false := by
  cases g with
  | nil => rfl
  | cons i g => cases i <;> rfl

theorem stripItems_ok (o : Oracles) (items : List (Gap × Lexeme)) : ∀ k, ItemsOk o k items →
    ItemsOk o k (items.map (fun x => (stripGap x.1, x.2))) := by
  induction items with
  | nil => intro _ _; trivial
  | cons x rest ih =>
    intro k h
    obtain ⟨hg, hv, ⟨hadj, _⟩, hrest⟩ := h
    exact ⟨stripGap_ok o _ hg, hv, ⟨fun e => hadj ((stripGap_nil _).mp e), fun _ => stripGap_start _⟩, ih _ hrest⟩

end Sqlgrep.Lex
