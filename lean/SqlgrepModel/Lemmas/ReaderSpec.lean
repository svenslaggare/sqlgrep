import SqlgrepModel.Model.Reader
/-
Specification vocabulary for the readers (C10, C12): the unique split of a byte string at `\n`,
and its basic laws. Nothing here looks at the reader models.
-/
namespace Sqlgrep
namespace Reader

/-- put `b` in front of the first piece -/
def consHead (b : Nat) : List (List Nat) → List (List Nat)
  | [] => [[b]]
  | l :: ls => (b :: l) :: ls

/-- split at every `\n` (the pieces do not contain it; `n` newlines give `n+1` pieces) -/
def splitNl : List Nat → List (List Nat)
  | [] => [[]]
  | b :: bs => if b = nl then [] :: splitNl bs else consHead b (splitNl bs)

/-- inverse of `splitNl` -/
def joinNl : List (List Nat) → List Nat
  | [] => []
  | [l] => l
  | l :: l' :: ls => l ++ nl :: joinNl (l' :: ls)

/-- the newline-terminated lines of a content: all pieces but the last (the unterminated tail) -/
def completeLines (bs : List Nat) : List (List Nat) := (splitNl bs).dropLast

/-- the unterminated tail of a content (empty when the content ends with `\n` or is empty) -/
def tailOf (bs : List Nat) : List Nat := (splitNl bs).getLast?.getD []

/-- lines written out, each followed by `\n` -/
def wire (ls : List (List Nat)) : List Nat := ls.flatMap (fun l => l ++ [nl])

theorem splitNl_ne_nil (bs : List Nat) : splitNl bs ≠ [] := by
  cases bs with
  | nil => simp [splitNl]
  | cons b bs =>
    unfold splitNl
    split
    · simp
    · cases h : splitNl bs <;> simp [consHead]

theorem splitNl_cons_nl (bs : List Nat) : splitNl (nl :: bs) = [] :: splitNl bs := by
  simp [splitNl]

theorem splitNl_cons_ne (b : Nat) (bs : List Nat) (h : b ≠ nl) : splitNl (b :: bs) = consHead b (splitNl bs) := by
  simp [splitNl, h]

theorem splitNl_no_nl (bs : List Nat) : ∀ l ∈ splitNl bs, nl ∉ l := by
  induction bs with
  | nil => simp [splitNl]
  | cons b bs ih =>
    unfold splitNl
    split
    · intro l hl
      simp only [List.mem_cons] at hl
      rcases hl with hl | hl
      · subst hl; simp
      · exact ih l hl
    · rename_i hb
      cases h : splitNl bs with
      | nil => exact absurd h (splitNl_ne_nil bs)
      | cons x xs =>
        rw [h] at ih
        intro l hl
        simp only [consHead, List.mem_cons] at hl
        rcases hl with hl | hl
        · subst hl
          simp only [List.mem_cons, not_or]
          exact ⟨fun e => hb e.symm, ih x (by simp)⟩
        · exact ih l (by simp [hl])

theorem joinNl_splitNl (bs : List Nat) : joinNl (splitNl bs) = bs := by
  induction bs with
  | nil => simp [splitNl, joinNl]
  | cons b bs ih =>
    unfold splitNl
    split
    · rename_i hb
      subst hb
      cases h : splitNl bs with
      | nil => exact absurd h (splitNl_ne_nil bs)
      | cons x xs => rw [h] at ih; simp [joinNl, ih]
    · cases h : splitNl bs with
      | nil => exact absurd h (splitNl_ne_nil bs)
      | cons x xs =>
        rw [h] at ih
        cases xs with
        | nil => simp [joinNl] at ih; simp [consHead, joinNl, ih]
        | cons y ys => simp only [joinNl] at ih; simp [consHead, joinNl, ih]

/-- put `p` in front of the first piece -/
def prependHead (p : List Nat) : List (List Nat) → List (List Nat)
  | [] => [p]
  | l :: ls => (p ++ l) :: ls

/-- a prefix without `\n` goes in front of the first piece of what follows it -/
theorem splitNl_append (l t : List Nat) (h : nl ∉ l) : splitNl (l ++ t) = prependHead l (splitNl t) := by
  induction l with
  | nil =>
    rw [List.nil_append]
    cases hs : splitNl t with
    | nil => exact absurd hs (splitNl_ne_nil t)
    | cons x xs => rfl
  | cons b l ih =>
    simp only [List.mem_cons, not_or] at h
    rw [List.cons_append, splitNl_cons_ne b _ (fun e => h.1 e.symm), ih h.2]
    cases splitNl t <;> rfl

theorem splitNl_append_nl (l rest : List Nat) (h : nl ∉ l) : splitNl (l ++ nl :: rest) = l :: splitNl rest := by
  rw [splitNl_append l _ h, splitNl_cons_nl, prependHead, List.append_nil]

theorem splitNl_of_no_nl (t : List Nat) (h : nl ∉ t) : splitNl t = [t] := by
  have := splitNl_append t [] h
  rwa [List.append_nil, splitNl, prependHead, List.append_nil] at this

theorem splitNl_wire_append (ls : List (List Nat)) (rest : List Nat) (h : ∀ l ∈ ls, nl ∉ l) :
    splitNl (wire ls ++ rest) = ls ++ splitNl rest := by
  induction ls with
  | nil => simp [wire]
  | cons l ls ih =>
    have h1 : nl ∉ l := h l (by simp)
    have h2 : ∀ l' ∈ ls, nl ∉ l' := fun l' hl' => h l' (by simp [hl'])
    have : wire (l :: ls) ++ rest = l ++ nl :: (wire ls ++ rest) := by
      simp [wire, List.append_assoc]
    rw [this, splitNl_append_nl l _ h1, ih h2]
    rfl

theorem completeLines_wire_append (ls : List (List Nat)) (rest : List Nat) (h : ∀ l ∈ ls, nl ∉ l) :
    completeLines (wire ls ++ rest) = ls ++ completeLines rest := by
  unfold completeLines
  rw [splitNl_wire_append ls rest h, List.dropLast_append_of_ne_nil (splitNl_ne_nil rest)]

theorem completeLines_of_no_nl (t : List Nat) (h : nl ∉ t) : completeLines t = [] := by
  simp [completeLines, splitNl_of_no_nl t h]

/-- the decomposition of a content into complete lines and a tail is unique -/
theorem completeLines_unique (ls : List (List Nat)) (t : List Nat) (h : ∀ l ∈ ls, nl ∉ l) (ht : nl ∉ t) :
    completeLines (wire ls ++ t) = ls ∧ tailOf (wire ls ++ t) = t := by
  constructor
  · rw [completeLines_wire_append ls t h, completeLines_of_no_nl t ht]; simp
  · unfold tailOf
    rw [splitNl_wire_append ls t h, splitNl_of_no_nl t ht]
    simp

theorem wire_completeLines_tail (bs : List Nat) : wire (completeLines bs) ++ tailOf bs = bs := by
  have key : ∀ (ps : List (List Nat)), ps ≠ [] → wire ps.dropLast ++ ps.getLast?.getD [] = joinNl ps := by
    intro ps
    induction ps with
    | nil => intro h; exact absurd rfl h
    | cons p ps ih =>
      intro _
      cases ps with
      | nil => simp [wire, joinNl]
      | cons q qs =>
        have := ih (by simp)
        simp only [List.dropLast_cons_cons, joinNl]
        rw [← this]
        simp [wire, List.getLast?_cons_cons, List.append_assoc]
  unfold completeLines tailOf
  rw [key _ (splitNl_ne_nil bs), joinNl_splitNl]

end Reader
end Sqlgrep
