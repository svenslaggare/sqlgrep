import SqlgrepModel.Model.Float
import SqlgrepModel.Lemmas.ValueOrder
/-
The exact numeric value of a REAL bit pattern, and the proof that `F64.cmp` (the model of
`impl Ord for Float`) orders non-NaN patterns by that value.

No rationals: the value of a finite pattern is the dyadic number `m · 2^e` (`Dy`), with the integer
mantissa and binary exponent of `F64.mantExp`. Two dyadics are compared by scaling both to the
smaller exponent (`Dy.cmp`); `Dy.cmp_eq_scale` shows the result is the same for every common
exponent, i.e. `Dy.cmp` is the order of the numbers `m · 2^e`, not of their representations.

Also here, for want of a better home: the kit for `compare` on `Int` (`intCompare_congr`, `_mul_pos`, `_lt`, `_gt`, `_eq`,
`compare_radix`: quotient-and-remainder numbers compare lexicographically) that `NumericOrder`, `CompareIntFloat` and
`FuncTime` use, and the decoding of magnitude bits `W` / `uW` (strictly increasing, `uW_strictMono`) that `DecFloat` rounds on.
-/
namespace Sqlgrep

theorem intCompare_congr {a b c d : Int} (h1 : a < b ↔ c < d) (h2 : b < a ↔ d < c) :
    compare a b = compare c d := by
  rcases Int.lt_trichotomy a b with h | h | h
  · rw [Int.compare_eq_lt.2 h, Int.compare_eq_lt.2 (h1.1 h)]
  · have hcd : c = d := by
      rcases Int.lt_trichotomy c d with h' | h' | h'
      · have := h1.2 h'; omega
      · exact h'
      · have := h2.2 h'; omega
    rw [Int.compare_eq_eq.2 h, Int.compare_eq_eq.2 hcd]
  · rw [Int.compare_eq_gt.2 h, Int.compare_eq_gt.2 (h2.1 h)]

theorem intCompare_mul_pos (a b p : Int) (hp : 0 < p) : compare (a * p) (b * p) = compare a b :=
  intCompare_congr (Int.mul_lt_mul_right hp) (Int.mul_lt_mul_right hp)

theorem intCompare_lt {a b : Int} (h : a < b) : compare a b = .lt := Int.compare_eq_lt.2 h
theorem intCompare_gt {a b : Int} (h : b < a) : compare a b = .gt := Int.compare_eq_gt.2 h
theorem intCompare_eq {a b : Int} (h : a = b) : compare a b = .eq := Int.compare_eq_eq.2 h

theorem radix_lt {q q' r r' M : Int} (hq : q < q') (h : r - r' < M) (hM : 0 ≤ M) : q * M + r < q' * M + r' := by
  have := Int.mul_le_mul_of_nonneg_right (show q + 1 ≤ q' from hq) hM
  rw [Int.add_mul, Int.one_mul] at this
  omega

/-- numbers written as quotient and remainder to a base `M` compare by the quotients first; the remainders
need not be reduced, only closer together than `M` -/
theorem compare_radix (q q' r r' M : Int) (h : r - r' < M) (h' : r' - r < M) :
    compare (q * M + r) (q' * M + r') = (compare q q').then (compare r r') := by
  have hM : 0 ≤ M := by omega
  rcases Int.lt_trichotomy q q' with hq | hq | hq
  · rw [intCompare_lt hq, intCompare_lt (radix_lt hq h hM)]; rfl
  · rw [hq, intCompare_eq rfl]
    exact intCompare_congr (Int.add_lt_add_iff_left _) (Int.add_lt_add_iff_left _)
  · rw [intCompare_gt hq, intCompare_gt (radix_lt hq h' hM)]; rfl

/-- a dyadic number `m · 2^e` -/
structure Dy where
  m : Int
  e : Int
  deriving Repr, DecidableEq

namespace Dy

/-- `a · 2^(-k)`; an integer, exact whenever `k ≤ a.e` -/
def scale (a : Dy) (k : Int) : Int := a.m * 2 ^ (a.e - k).toNat

/-- comparison of the numbers `a.m · 2^a.e` and `b.m · 2^b.e`: both scaled to the smaller exponent -/
def cmp (a b : Dy) : Ordering := compare (a.scale (min a.e b.e)) (b.scale (min a.e b.e))

instance : LT Dy := ⟨fun a b => cmp a b = .lt⟩
instance : LE Dy := ⟨fun a b => cmp a b ≠ .gt⟩
/-- numeric equality of dyadics (different representations of one number are `Eqv`) -/
def Eqv (a b : Dy) : Prop := cmp a b = .eq
instance (a b : Dy) : Decidable (a < b) := inferInstanceAs (Decidable (cmp a b = .lt))
instance (a b : Dy) : Decidable (a ≤ b) := inferInstanceAs (Decidable (cmp a b ≠ .gt))
instance (a b : Dy) : Decidable (Eqv a b) := inferInstanceAs (Decidable (cmp a b = .eq))

theorem lt_def (a b : Dy) : a < b ↔ cmp a b = .lt := Iff.rfl
theorem le_def (a b : Dy) : a ≤ b ↔ cmp a b ≠ .gt := Iff.rfl

def ofInt (i : Int) : Dy := ⟨i, 0⟩

theorem scale_shift (a : Dy) (k k' : Int) (h1 : k' ≤ k) (h2 : k ≤ a.e) :
    a.scale k' = a.scale k * 2 ^ (k - k').toNat := by
  unfold scale
  have : a.e - k' = a.e - k + (k - k') := by omega
  rw [Int.mul_assoc, ← Int.pow_add, ← Int.toNat_add (Int.sub_nonneg.2 h2) (Int.sub_nonneg.2 h1), this]

/-- `Dy.cmp` does not depend on the common exponent both sides are scaled to: it compares the
numbers `m · 2^e` (scaling by a positive power of two preserves order). -/
theorem cmp_eq_scale (a b : Dy) (k : Int) (ha : k ≤ a.e) (hb : k ≤ b.e) :
    cmp a b = compare (a.scale k) (b.scale k) := by
  unfold cmp
  have hk : k ≤ min a.e b.e := by omega
  rw [scale_shift a (min a.e b.e) k hk (by omega), scale_shift b (min a.e b.e) k hk (by omega)]
  rw [intCompare_mul_pos _ _ _ (Int.pow_pos (by decide))]

theorem cmp_T (a b c : Dy) : T (cmp a b) (cmp b c) (cmp a c) := by
  have ha : min a.e (min b.e c.e) ≤ a.e := Int.min_le_left ..
  have hb : min a.e (min b.e c.e) ≤ b.e := Int.le_trans (Int.min_le_right ..) (Int.min_le_left ..)
  have hc : min a.e (min b.e c.e) ≤ c.e := Int.le_trans (Int.min_le_right ..) (Int.min_le_right ..)
  rw [cmp_eq_scale a b _ ha hb, cmp_eq_scale b c _ hb hc, cmp_eq_scale a c _ ha hc]
  exact T_of_transCmp ..

theorem cmp_swap (a b : Dy) : cmp b a = (cmp a b).swap := by
  unfold cmp
  rw [Int.min_comm b.e a.e, Int.compare_swap]

theorem cmp_refl (a : Dy) : cmp a a = .eq := by
  unfold cmp; rw [Int.compare_eq_eq]

instance : Std.TransCmp cmp := transCmp_of_T cmp_swap cmp_T

theorem cmp_ofInt (i j : Int) : cmp (ofInt i) (ofInt j) = compare i j := by
  simp [cmp, ofInt, scale]

theorem ofInt_lt (i j : Int) : ofInt i < ofInt j ↔ i < j := by
  rw [lt_def, cmp_ofInt, Int.compare_eq_lt]
theorem ofInt_eqv (i j : Int) : Eqv (ofInt i) (ofInt j) ↔ i = j := by
  unfold Eqv; rw [cmp_ofInt, Int.compare_eq_eq]

theorem eqv_shift (m e : Int) (j : Nat) : Eqv ⟨m * 2 ^ j, e⟩ ⟨m, e + j⟩ := by
  unfold Eqv
  rw [cmp_eq_scale _ _ e (Int.le_refl e) (Int.le_add_of_nonneg_right (Int.natCast_nonneg j)), Int.compare_eq_eq]
  show m * 2 ^ j * 2 ^ (e - e).toNat = m * 2 ^ (e + j - e).toNat
  rw [Int.sub_self, Int.add_comm, Int.add_sub_cancel, Int.toNat_zero, Int.toNat_natCast, Int.pow_zero, Int.mul_one]

theorem trichotomy (a b : Dy) : (a < b ∧ ¬ Eqv a b ∧ ¬ b < a) ∨ (¬ a < b ∧ Eqv a b ∧ ¬ b < a) ∨
    (¬ a < b ∧ ¬ Eqv a b ∧ b < a) := by
  simp only [lt_def, Eqv, cmp_swap a b]
  cases cmp a b <;> simp [Ordering.swap]

theorem lt_trans {a b c : Dy} (h1 : a < b) (h2 : b < c) : a < c := (cmp_T a b c).1 h1 h2
theorem eqv_trans {a b c : Dy} (h1 : Eqv a b) (h2 : Eqv b c) : Eqv a c := by
  unfold Eqv at *; rw [(cmp_T a b c).2.1 h1]; exact h2
theorem eqv_symm {a b : Dy} (h : Eqv a b) : Eqv b a := by
  unfold Eqv at *; rw [cmp_swap, h]; rfl

end Dy

namespace F64

/-- neither NaN nor an infinity -/
def isFinite (n : Nat) : Bool := decide (mag n < 0x7ff0000000000000)

theorem isFinite_iff {n : Nat} : isFinite n = true ↔ mag n < 0x7ff0000000000000 := decide_eq_true_iff

/-- the exact value of a finite pattern: `(-1)^sign · mantissa · 2^exponent` with `F64.mantExp` -/
def value (n : Nat) : Dy :=
  ⟨if signBit n then -((mantExp n).1 : Int) else ((mantExp n).1 : Int), (mantExp n).2⟩

-- `umag` (magnitude in units of 2^-1074) and `units` (the signed count) are defined in `Model/FloatArith.lean`

/-- `W E F`: magnitude (in units of 2^-1074) of exponent field `E` and fraction field `F` -/
def W (E F : Nat) : Nat := if E = 0 then F else (2 ^ 52 + F) * 2 ^ (E - 1)

theorem mag_lt (n : Nat) : mag n < 2 ^ 63 := Nat.mod_lt _ (by decide)

theorem mag_of_lt {n : Nat} (h : n < 2 ^ 63) : mag n = n := Nat.mod_eq_of_lt h

theorem signBit_of_lt {n : Nat} (h : n < 2 ^ 63) : signBit n = false := by
  unfold signBit; rw [Nat.div_eq_of_lt h]; rfl

theorem mag_withSign (neg : Bool) (m : Nat) (h : m < 2 ^ 63) : mag (withSign neg m) = m := by
  cases neg
  · exact mag_of_lt h
  · exact (Nat.add_mod_left ..).trans (mag_of_lt h)

theorem signBit_withSign (neg : Bool) (m : Nat) (h : m < 2 ^ 63) : signBit (withSign neg m) = neg := by
  cases neg
  · exact signBit_of_lt h
  · unfold signBit withSign signMask
    rw [if_pos rfl, Nat.add_div_left _ (by decide), Nat.div_eq_of_lt h]; rfl

theorem key_withSign (neg : Bool) (m : Nat) (h : m < 2 ^ 63) : key (withSign neg m) = if neg then -(m : Int) else m := by
  unfold key; rw [signBit_withSign neg m h, mag_withSign neg m h]

theorem expBits_eq (n : Nat) : expBits n = mag n / 2 ^ 52 := by
  unfold expBits mag
  have : (2 : Nat) ^ 63 = 2 ^ 52 * 2 ^ 11 := by decide
  rw [this, Nat.mod_mul_right_div_self]

theorem fracBits_eq (n : Nat) : fracBits n = mag n % 2 ^ 52 := by
  unfold fracBits mag
  have : (2 : Nat) ^ 63 = 2 ^ 52 * 2 ^ 11 := by decide
  rw [this, Nat.mod_mul_right_mod]

theorem mag_eq (n : Nat) : mag n = expBits n * 2 ^ 52 + fracBits n := by
  rw [expBits_eq, fracBits_eq]
  have := Nat.div_add_mod (mag n) (2 ^ 52)
  omega

theorem fracBits_lt (n : Nat) : fracBits n < 2 ^ 52 := Nat.mod_lt _ (by decide)

theorem mantExp_exp_ge (n : Nat) : -1074 ≤ (mantExp n).2 := by
  unfold mantExp; split
  · simp
  · rename_i h
    have : expBits n ≠ 0 := by simpa using h
    simp; omega

theorem umag_eq_W (n : Nat) : umag n = W (expBits n) (fracBits n) := by
  unfold umag mantExp W
  by_cases h : expBits n = 0
  · simp [h]
  · have h' : (expBits n == 0) = false := by simpa using h
    simp only [h', h, if_false, Bool.false_eq_true]
    have : ((expBits n : Int) - 1075 + 1074).toNat = expBits n - 1 := by omega
    rw [this]

theorem W_succ (E F : Nat) : W (E + 1) F = (2 ^ 52 + F) * 2 ^ E := rfl

theorem W_lt_pow (E F : Nat) (hF : F < 2 ^ 52) : W E F < 2 ^ (52 + E) := by
  cases E with
  | zero => exact hF
  | succ E =>
    have e : 52 + (E + 1) = 53 + E := by omega
    rw [W_succ, e, Nat.pow_add]
    exact Nat.mul_lt_mul_of_pos_right (by omega) (Nat.two_pow_pos E)

theorem pow_le_W (E F : Nat) (hE : E ≠ 0) : 2 ^ (51 + E) ≤ W E F := by
  cases E with
  | zero => exact absurd rfl hE
  | succ E =>
    have e : 51 + (E + 1) = 52 + E := by omega
    rw [W_succ, e, Nat.pow_add]
    exact Nat.mul_le_mul_right _ (Nat.le_add_right ..)

theorem W_strictMono (E1 F1 E2 F2 : Nat) (h1 : F1 < 2 ^ 52) (h2 : F2 < 2 ^ 52)
    (h : E1 * 2 ^ 52 + F1 < E2 * 2 ^ 52 + F2) : W E1 F1 < W E2 F2 := by
  by_cases he : E1 = E2
  · subst he
    have hf : F1 < F2 := Nat.lt_of_add_lt_add_left h
    cases E1 with
    | zero => exact hf
    | succ E => exact Nat.mul_lt_mul_of_pos_right (Nat.add_lt_add_left hf _) (Nat.two_pow_pos E)
  · -- a smaller exponent field: below `2^(52+E1)`, which is at most `2^(51+E2)`
    have hlt : 52 + E1 ≤ 51 + E2 := by omega
    exact Nat.lt_of_lt_of_le (W_lt_pow E1 F1 h1)
      (Nat.le_trans (Nat.pow_le_pow_right (by decide) hlt) (pow_le_W E2 F2 (by omega)))

/-- `uW x` reads `x` as magnitude bits with no bound on the exponent field: exponent field `x / 2^52`, fraction field
`x % 2^52`; on the magnitude bits of a REAL it is `umag`. Strictly increasing, hence injective. -/
def uW (x : Nat) : Nat := W (x / 2 ^ 52) (x % 2 ^ 52)

theorem umag_eq_uW (y : Nat) : umag y = uW (mag y) := by
  rw [umag_eq_W, expBits_eq, fracBits_eq]; rfl

theorem uW_strictMono {x y : Nat} (h : x < y) : uW x < uW y := by
  unfold uW
  apply W_strictMono _ _ _ _ (Nat.mod_lt _ (by decide)) (Nat.mod_lt _ (by decide))
  rw [Nat.mul_comm, Nat.div_add_mod, Nat.mul_comm, Nat.div_add_mod]; exact h

theorem uW_le {x y : Nat} (h : x ≤ y) : uW x ≤ uW y := by
  rcases Nat.lt_or_eq_of_le h with h | h
  · exact Nat.le_of_lt (uW_strictMono h)
  · rw [h]; exact Nat.le_refl _

theorem uW_inj {x y : Nat} (h : uW x = uW y) : x = y := by
  rcases Nat.lt_trichotomy x y with h' | h' | h'
  · exact absurd h (Nat.ne_of_lt (uW_strictMono h'))
  · exact h'
  · exact absurd h (Nat.ne_of_gt (uW_strictMono h'))

theorem umag_strictMono (a b : Nat) (h : mag a < mag b) : umag a < umag b := by
  rw [umag_eq_uW, umag_eq_uW]; exact uW_strictMono h

theorem umag_lt_iff (a b : Nat) : umag a < umag b ↔ mag a < mag b := by
  refine ⟨fun h => Nat.lt_of_not_le fun hn => ?_, umag_strictMono a b⟩
  rw [umag_eq_uW, umag_eq_uW] at h
  exact Nat.not_le_of_gt h (uW_le hn)

theorem umag_eq_zero_iff (a : Nat) : umag a = 0 ↔ mag a = 0 := by
  rw [umag_eq_uW]; exact ⟨fun h => uW_inj (h.trans (by decide : (0 : Nat) = uW 0)), fun h => by rw [h]; decide⟩

theorem neg_lt_natCast (u v : Nat) : -(u : Int) < v ↔ ¬ (u = 0 ∧ v = 0) := by omega
theorem not_natCast_lt_neg (u v : Nat) : ¬ (u : Int) < -(v : Int) := by omega

theorem units_lt_iff (a b : Nat) : units a < units b ↔ key a < key b := by
  unfold units key
  cases signBit a <;> cases signBit b <;> simp only [if_true, if_false, Bool.false_eq_true]
  · rw [Int.ofNat_lt, Int.ofNat_lt]; exact umag_lt_iff a b
  · exact iff_of_false (not_natCast_lt_neg _ _) (not_natCast_lt_neg _ _)
  · rw [neg_lt_natCast, neg_lt_natCast, umag_eq_zero_iff, umag_eq_zero_iff]
  · rw [Int.neg_lt_neg_iff, Int.neg_lt_neg_iff, Int.ofNat_lt, Int.ofNat_lt]; exact umag_lt_iff b a

theorem compare_units (a b : Nat) : compare (units a) (units b) = compare (key a) (key b) :=
  intCompare_congr (units_lt_iff a b) (units_lt_iff b a)

theorem value_scale (n : Nat) : (value n).scale (-1074) = units n := by
  unfold value units umag Dy.scale
  have : ((mantExp n).2 - -1074) = (mantExp n).2 + 1074 := by omega
  by_cases s : signBit n <;> simp only [s, if_true, if_false, Bool.false_eq_true, this] <;>
    simp [Int.natCast_mul, Int.natCast_pow, Int.neg_mul]

theorem value_cmp (a b : Nat) : Dy.cmp (value a) (value b) = compare (units a) (units b) := by
  rw [Dy.cmp_eq_scale (value a) (value b) (-1074) (mantExp_exp_ge a) (mantExp_exp_ge b), value_scale, value_scale]

theorem isNaN_false_of_finite {n : Nat} (h : isFinite n = true) : isNaN n = false := by
  unfold isNaN
  exact decide_eq_false (Nat.lt_asymm (isFinite_iff.1 h))

theorem isInf_false_of_finite {n : Nat} (h : isFinite n = true) : isInf n = false := by
  unfold isInf
  exact beq_false_of_ne (Nat.ne_of_lt (isFinite_iff.1 h))

theorem mag_of_inf {n : Nat} (h : isInf n = true) : mag n = 0x7ff0000000000000 := eq_of_beq h

theorem isNaN_false_of_inf {n : Nat} (h : isInf n = true) : isNaN n = false := by
  unfold isNaN; rw [mag_of_inf h]; rfl

theorem classify (n : Nat) :
    (isFinite n = true ∧ isInf n = false ∧ isNaN n = false) ∨
    (isFinite n = false ∧ isInf n = true ∧ isNaN n = false) ∨
    (isFinite n = false ∧ isInf n = false ∧ isNaN n = true) := by
  unfold isFinite isInf isNaN
  rcases Nat.lt_trichotomy (mag n) 0x7ff0000000000000 with h | h | h
  · exact .inl ⟨decide_eq_true h, beq_false_of_ne (Nat.ne_of_lt h), decide_eq_false (Nat.lt_asymm h)⟩
  · exact .inr (.inl ⟨decide_eq_false (h ▸ Nat.lt_irrefl _), beq_iff_eq.2 h, decide_eq_false (h ▸ Nat.lt_irrefl _)⟩)
  · exact .inr (.inr ⟨decide_eq_false (Nat.lt_asymm h), beq_false_of_ne (Nat.ne_of_gt h), decide_eq_true h⟩)

theorem cmp_of_not_nan {a b : Nat} (ha : isNaN a = false) (hb : isNaN b = false) : cmp a b = compare (key a) (key b) := by
  unfold cmp; rw [ha, hb]; rfl

/-- comparison of non-NaN patterns through `units` (infinities get `±2^2098` units = `±2^1024`) -/
theorem cmp_eq_compare_units (a b : Nat) (ha : isNaN a = false) (hb : isNaN b = false) :
    cmp a b = compare (units a) (units b) := by
  rw [cmp_of_not_nan ha hb, compare_units]

/-- **REAL values compare by numeric value**: for non-NaN, non-infinite patterns `F64.cmp` is the
comparison of the exact dyadic values. -/
theorem cmp_eq_value_cmp (a b : Nat) (ha : isFinite a = true) (hb : isFinite b = true) :
    cmp a b = Dy.cmp (value a) (value b) := by
  rw [cmp_eq_compare_units a b (isNaN_false_of_finite ha) (isNaN_false_of_finite hb), value_cmp]

theorem key_inf_pos {n : Nat} (hi : isInf n = true) (hs : signBit n = false) : key n = 0x7ff0000000000000 := by
  unfold key; rw [hs, mag_of_inf hi]; rfl
theorem key_inf_neg {n : Nat} (hi : isInf n = true) (hs : signBit n = true) : key n = -0x7ff0000000000000 := by
  unfold key; rw [hs, mag_of_inf hi]; rfl
theorem key_finite {n : Nat} (h : isFinite n = true) : -0x7ff0000000000000 < key n ∧ key n < 0x7ff0000000000000 := by
  have := isFinite_iff.1 h
  unfold key
  split <;> omega

theorem neg_inf_lt_finite (i a : Nat) (hi : isInf i = true) (hs : signBit i = true) (ha : isFinite a = true) :
    cmp i a = .lt := by
  rw [cmp_of_not_nan (isNaN_false_of_inf hi) (isNaN_false_of_finite ha), Int.compare_eq_lt, key_inf_neg hi hs]
  exact (key_finite ha).1

theorem finite_lt_pos_inf (i a : Nat) (hi : isInf i = true) (hs : signBit i = false) (ha : isFinite a = true) :
    cmp a i = .lt := by
  rw [cmp_of_not_nan (isNaN_false_of_finite ha) (isNaN_false_of_inf hi), Int.compare_eq_lt, key_inf_pos hi hs]
  exact (key_finite ha).2

theorem neg_inf_lt_pos_inf (i j : Nat) (hi : isInf i = true) (hs : signBit i = true)
    (hj : isInf j = true) (ht : signBit j = false) : cmp i j = .lt := by
  rw [cmp_of_not_nan (isNaN_false_of_inf hi) (isNaN_false_of_inf hj), key_inf_pos hj ht, key_inf_neg hi hs]; rfl

/-- NaN: every NaN pattern equals every NaN pattern and is above every non-NaN pattern -/
theorem cmp_nan_nan (a b : Nat) (ha : isNaN a = true) (hb : isNaN b = true) : cmp a b = .eq := by
  unfold cmp; rw [ha, hb]; rfl
theorem cmp_lt_nan (a b : Nat) (ha : isNaN a = false) (hb : isNaN b = true) : cmp a b = .lt := by
  unfold cmp; rw [ha, hb]; rfl
theorem cmp_nan_gt (a b : Nat) (ha : isNaN a = true) (hb : isNaN b = false) : cmp a b = .gt := by
  unfold cmp; rw [ha, hb]; rfl

/-- the only two distinct finite patterns of equal value are `+0.0` and `-0.0` -/
theorem cmp_eq_iff_bits (a b : Nat) (ha : isNaN a = false) (hb : isNaN b = false) :
    cmp a b = .eq ↔ (mag a = mag b ∧ (signBit a = signBit b ∨ mag a = 0)) := by
  rw [cmp_of_not_nan ha hb, Int.compare_eq_eq, key_eq_iff]

theorem inf_eq_iff (i j : Nat) (hi : isInf i = true) (hj : isInf j = true) :
    cmp i j = .eq ↔ signBit i = signBit j := by
  rw [cmp_eq_iff_bits i j (isNaN_false_of_inf hi) (isNaN_false_of_inf hj), mag_of_inf hi, mag_of_inf hj]
  exact ⟨fun h => h.2.resolve_right (by decide), fun h => ⟨rfl, .inl h⟩⟩

end F64
end Sqlgrep
