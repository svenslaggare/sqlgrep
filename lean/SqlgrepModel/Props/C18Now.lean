import SqlgrepModel.Lemmas.NowFree
import SqlgrepModel.Props.C18
import SqlgrepModel.Props.Fixture
/-
C18, last sentence: "Only now() may differ between runs."

Two halves.

(a) *Everything else is the same.* The model is a function: definitions text, statement text, format, display option,
file bytes and the facts about the outside world determine the answer (`two_runs_same_output`). The clock is one of those
facts: the model has no clock of its own, `now()` is answered by `F.eval.total`'s field `nowF` (`Model/Eval.lean`
`TotalOracles`; read at exactly one place, `callFunction … .now []`). Between two runs of the real program everything
else among the facts is a fixed function of the texts and the bytes (what `regex`, `serde_json`, `str::to_uppercase`,
`f64::from_str`, … answer); the clock is the one fact that moves. So "two runs" are two sets of facts that differ at
most in `nowF` (`Facts.SameButNow`, `Oracles.SameButNow`), and the sentence says: a statement that calls `now`
nowhere gives the same answer under both. That is `eval_ignores_now` (one expression: value, error kind, panic site,
missing fact), `run_ignores_now` (`runBatch`: printed records, line count, error, panic, skip), `runBatchI_ignores_now`
(joined file missing, both interrupt points), `follow_run_ignores_now`, `runStatement_ignores_now`,
`program_ignores_now` (`Pipeline.runText`: the whole program on raw texts and raw bytes) and
`follow_program_ignores_now` (`Pipeline.followText`).

`nowFree` is a decidable SYNTACTIC predicate (`Lemmas/NowFree.lean`: `Expr.nowFree`, `Stmt.nowFree`, `LStmt.nowFree`,
instances of `Expr.allFuncs` / `Stmt.allFuncs` with `notNow`): no call of `now` in the select list, WHERE, the GROUP BY
parts, the arguments of aggregates, the expressions around aggregates, HAVING and the aggregates inside HAVING, at any
depth (operands, function arguments, IN lists, CASE branches). A JOIN clause holds names only. At text level
(`Pipeline.textNowFree`) it is decided by running the tokenizer, the parser and the lowering on the statement text —
none of which looks at the evaluator's oracle; a rejected text is trivially `nowFree` (its answer is the rejection).
The predicate is sufficient, not necessary: `SELECT k FROM t WHERE false AND now() > x` never evaluates the call and
still is not `nowFree`.

(b) *`now()` may differ, and does.* `now_is_the_clock_reading`: a call of `now` IS the reading; `now_differs`: under two
oracles with different readings the expression `now()` evaluates to different values; the kernel-evaluated invocations at
the end run the whole program with two clocks one second apart: `SELECT k, now(), v FROM t` prints different `now()`
cells and identical other cells, a now-free statement prints the same lines, and a statement that uses `now()` only in a
comparison that holds for both readings prints the same lines although it is not `nowFree`.

What this file does not say: that the REAL program reads the clock only in `now()` — that is a reading of the source
(`Local::now()` occurs once, `execution/expression_execution.rs:408`; the only other clock read is
`std::time::Instant::now()` in `ExecutionStatistics`, shown by the line `Executed query in … seconds` that `--stats`
appends after the run: not query output, no option of `runText`, and different on every run by design), tied to the model
by the correspondence checks (every C-check compares the program with the clock-free model on statements without
`now()`) and by the `now` stream of `harness/src/c18.rs` (statements with `now()` run in processes a second apart: all
other cells, the row order, the line count and the status identical; the `now()` cells are timestamps and are not
compared).
-/
namespace Sqlgrep.Props.C18Now
open Sqlgrep Sqlgrep.Pipeline Sqlgrep.NowFree

/-- the two oracles of `eval_ignores_now`, non-trivially: tables, total functions, two different clock readings -/
example : Oracles.SameButNow
    { regex := [(([97], [97]), some true)], total := some { upperF := id, lowerF := id, regexF := fun _ _ => none, nowF := .timestamp 739000 0 0 } }
    { regex := [(([97], [97]), some true)], total := some { upperF := id, lowerF := id, regexF := fun _ _ => none, nowF := .timestamp 739000 1 0 } } :=
  ⟨rfl, rfl, rfl, rfl, rfl, ⟨rfl, rfl, rfl⟩⟩

/-- `SameButNow` is not "anything goes": oracles whose `upper` functions differ are not related -/
example : ¬ Oracles.SameButNow
    { total := some { upperF := id, lowerF := id, regexF := fun _ _ => none, nowF := .null } }
    { total := some { upperF := fun _ => [], lowerF := id, regexF := fun _ _ => none, nowF := .null } } := by
  intro h
  have := congrFun h.total.1 [65]
  simp at this

/-- **C18, "only now() may differ", one expression.** Two oracles that agree on every shipped table and on the library
functions `upperF`, `lowerF`, `regexF`, and differ at most in the clock reading `nowF`, give every expression that
contains no call of `now` the same outcome in every environment: the same value, the same error kind, the same panic
site, the same request for a missing fact. -/
theorem eval_ignores_now (O₁ O₂ : Oracles) (h : O₁.SameButNow O₂) (env : Env) (e : Expr) (he : e.nowFree = true) :
    eval O₁ env e = eval O₂ env e := by
  obtain ⟨v, rfl⟩ := h.eq_withNow
  exact (eval_withNow O₁ v env e he).symm

/-- the hypothesis on a non-trivial expression: `upper(k) = 'A' AND regexp_matches(k, 'a') OR v + 1 IN (2, abs(v))` -/
example : (Expr.boolOp false
    (.boolOp true (.compare .eq (.call .upper [.column "k"]) (.value (.text [65]))) (.call .regexMatches [.column "k", .value (.text [97])]))
    (.inList false (.arith .add (.column "v") (.value (.int 1))) [.value (.int 2), .call .abs [.column "v"]])).nowFree = true := by
  decide

/-- … and `now()` below a cast inside a CASE branch inside a function argument is found -/
example : (Expr.call .greatest [.value (.int 1),
    .case [(.value (.bool true), .cast (.call .epoch [.call .now []]) .int)] (.value (.int 0))]).nowFree = false := by decide

/-- a list of expressions (a select list, the GROUP BY parts) -/
theorem evalList_ignores_now (O₁ O₂ : Oracles) (h : O₁.SameButNow O₂) (env : Env) (es : List Expr)
    (he : es.all (·.nowFree) = true) : evalList O₁ env es = evalList O₂ env es := by
  obtain ⟨v, rfl⟩ := h.eq_withNow
  have := allFuncsList_map notNow id es (by simpa using he)
  rw [List.map_id] at this
  exact (evalList_withNow O₁ v env es this).symm

/-- **C18, "only now() may differ", one run** (`FileExecutor::execute` over extracted lines, `Model/Exec.lean`). A
statement that calls `now` nowhere gives the same `RunOut` — printed records, number of lines, error, panic, skip —
under two oracles that differ at most in the clock reading; for every table, join, joined file, list of input files and
interrupt point. -/
theorem run_ignores_now (O₁ O₂ : Oracles) (h : O₁.SameButNow O₂) (qy : Query) (hq : qy.stmt.nowFree = true)
    (joined : List FileLine) (files : List (List FileLine)) (stopAt : Option Nat) :
    runBatch O₁ qy joined files stopAt = runBatch O₂ qy joined files stopAt := by
  obtain ⟨v, rfl⟩ := h.eq_withNow
  exact (runBatch_withNow O₁ v qy joined files stopAt hq).symm

/-- the same with everything that can happen around the joined file (missing; the flag cleared while it is loaded) -/
theorem runBatchI_ignores_now (O₁ O₂ : Oracles) (h : O₁.SameButNow O₂) (qy : Query) (hq : qy.stmt.nowFree = true)
    (joined : Option (List FileLine)) (files : List (List FileLine)) (clearAt stopAt : Option Nat) :
    runBatchI O₁ qy joined files clearAt stopAt = runBatchI O₂ qy joined files clearAt stopAt := by
  obtain ⟨v, rfl⟩ := h.eq_withNow
  exact (runBatchI_withNow O₁ v qy joined files clearAt stopAt hq).symm

/-- follow mode (`FollowFileExecutor::execute` over the delivered lines): one table per delivered line, the same under
both clocks -/
theorem follow_run_ignores_now (O₁ O₂ : Oracles) (h : O₁.SameButNow O₂) (qy : Query) (hq : qy.stmt.nowFree = true)
    (stopAt : Option Nat) (lines : List Line) : runFollowAll O₁ qy stopAt lines = runFollowAll O₂ qy stopAt lines := by
  obtain ⟨v, rfl⟩ := h.eq_withNow
  exact (runFollowAll_withNow O₁ v qy stopAt lines hq).symm

/-- one line through the engine, update and result (what both modes are made of) -/
theorem line_ignores_now (O₁ O₂ : Oracles) (h : O₁.SameButNow O₂) (qy : Query) (hq : qy.stmt.nowFree = true)
    (idx : JoinIndex) (withResult : Bool) (es : EngineState) (l : Line) :
    executeLine O₁ qy idx withResult es l = executeLine O₂ qy idx withResult es l := by
  obtain ⟨v, rfl⟩ := h.eq_withNow
  exact (executeLine_withNow O₁ v qy idx withResult es l hq).symm

/-- a statement for `run_ignores_now`: `SELECT k, MAX(v) + 1 FROM t WHERE v > 0 GROUP BY k HAVING COUNT(*) > 1` shaped —
aggregate argument, transform, WHERE, GROUP BY part, HAVING aggregate — is `nowFree` … -/
def exAgg (inHaving : Expr) : Stmt := .aggregate
  { items := [{ name := "k", kind := .groupKey (.column "k") "k", transform := none },
              { name := "m", kind := .max (.column "v"), transform := some (.arith .add (.scoped .aggValue "$value") (.value (.int 1))) }]
    filter := some (.compare .gt (.column "v") (.value (.int 0)))
    groupBy := some [(.column "k", "k")]
    having := some (.compare .gt (.groupValueRef 7) (.value (.int 1)))
    havingAggs := [(7, .max inHaving)], havingKeys := [], havingVisit := [.agg 7 (.max inHaving)]
    limit := none, distinct := false }

example : (exAgg (.column "v")).nowFree = true := by decide
/-- … and a `now()` hidden in the argument of an aggregate that occurs in HAVING only is found -/
example : (exAgg (.call .now [])).nowFree = false := by decide

/-- `FileExecutor::execute` for a lowered statement over the defined tables and the raw bytes of the input files
(`Pipeline.runStatement`: table lookups, reading, extraction, the loop, the recorded print calls) -/
theorem runStatement_ignores_now (F₁ F₂ : Facts) (h : F₁.SameButNow F₂) (tables : List Table) (stmt : Stmt)
    (hq : stmt.nowFree = true) (fromTable : String) (join : Option LJoin) (files : List (List Nat)) :
    runStatement F₁ tables stmt fromTable join files = runStatement F₂ tables stmt fromTable join files := by
  obtain ⟨v, rfl⟩ := h.eq_withNow
  exact (runStatement_withNow F₁ v tables stmt fromTable join files hq).symm

/-- **C18, "only now() may differ", the whole program on raw texts and raw bytes** (`Pipeline.runText`: what an
invocation `sqlgrep -d <definitions> -c <statement> --format <fmt> <files…>` comes to). Two sets of facts about the
outside world that differ at most in the clock reading give the same answer — rejection, error, number of lines, every
printed byte — whenever the statement text, as `parsing::parse` reads it, contains no call of `now`. -/
theorem program_ignores_now (F₁ F₂ : Facts) (h : F₁.SameButNow F₂) (defsText queryText : List Char)
    (hq : textNowFree F₁ queryText = true) (fmt : Print.Format) (single : Bool) (files : List (List Nat)) :
    runText F₁ defsText queryText fmt single files = runText F₂ defsText queryText fmt single files := by
  obtain ⟨v, rfl⟩ := h.eq_withNow
  exact (runText_withNow F₁ v defsText queryText fmt single files hq).symm

/-- the same for `--follow`: what is written to the terminal (clears, lines) and how the run ends, for every schedule of
appends, polls and an interrupt -/
theorem follow_program_ignores_now (F₁ F₂ : Facts) (h : F₁.SameButNow F₂) (defsText queryText : List Char)
    (hq : textNowFree F₁ queryText = true) (fmt : Print.Format) (head : Bool) (initial : List Nat) (ops : List FollowOp) :
    followText F₁ defsText queryText fmt head initial ops = followText F₂ defsText queryText fmt head initial ops := by
  obtain ⟨v, rfl⟩ := h.eq_withNow
  exact (followText_withNow F₁ v defsText queryText fmt head initial ops hq).symm

/-- which of the two sets of facts decides `textNowFree` does not matter -/
theorem textNowFree_same (F₁ F₂ : Facts) (h : F₁.SameButNow F₂) (queryText : List Char) :
    textNowFree F₁ queryText = textNowFree F₂ queryText := by
  obtain ⟨v, rfl⟩ := h.eq_withNow
  rfl

/-- **C18, "running the same query on the same definitions and input always prints byte-identical output".** The
end-to-end model is a FUNCTION: the same definitions text, statement text, format, display option, file bytes and facts
about the outside world give the same answer. The proof is `rfl` after substitution, and that is the point:

* what it says — `runText` has no argument besides these and no state: no hash seed, no clock other than the fact `nowF`
  inside `F.eval.total` (`program_ignores_now` says what happens when that one moves), no process identity, no earlier
  run. In Lean a `def` cannot read anything else. Each input that the real program takes from its environment is an
  explicit argument: the bytes of the files, the file system for the joined file (`F.fs`), the libraries' answers
  (`F.classes`, `F.regexValid`, `F.lines`, `F.eval`, `F.reals`, `F.lossy`).
* what it does NOT say by itself — that the real program is this function. The real engines keep columns, per-group
  aggregators, join buckets and table definitions in `HashMap`s seeded per process; the model lists their entries in one
  fixed order. That the choice of that order is immaterial is a separate family of theorems: `Props/C18.lean`
  `output_independent_of_iteration_order` (an adversary re-lists the entries of every inner hash map of the aggregation
  state before every line and before the final result: the same `RunOut`), `any_two_iteration_orders_agree`,
  `publish_order_irrelevant` (`Lemmas/IterOrderEngine.lean` `foldl_pubStep_perm`: the ONE loop of the engines that
  iterates a hash map commutes), `result_independent_of_listing`, and over the table map `Props/C18Defs.lean`
  `unrelated_definitions_irrelevant`. That no other hash map is iterated, and that the model is the program, is checked
  by running the real binary in fresh processes and comparing bytes (`harness/src/c18.rs`). -/
theorem two_runs_same_output (F F' : Facts) (defsText defsText' queryText queryText' : List Char)
    (fmt fmt' : Print.Format) (single single' : Bool) (files files' : List (List Nat))
    (hF : F = F') (hd : defsText = defsText') (hq : queryText = queryText') (hf : fmt = fmt') (hs : single = single')
    (hfiles : files = files') :
    runText F defsText queryText fmt single files = runText F' defsText' queryText' fmt' single' files' := by
  subst hF hd hq hf hs hfiles
  rfl

/-- the same for follow mode: text, format, start-up content and the schedule determine what is written -/
theorem two_follow_runs_same_output (F F' : Facts) (defsText defsText' queryText queryText' : List Char)
    (fmt fmt' : Print.Format) (head head' : Bool) (initial initial' : List Nat) (ops ops' : List FollowOp)
    (hF : F = F') (hd : defsText = defsText') (hq : queryText = queryText') (hf : fmt = fmt') (hh : head = head')
    (hi : initial = initial') (ho : ops = ops') :
    followText F defsText queryText fmt head initial ops = followText F' defsText' queryText' fmt' head' initial' ops' := by
  subst hF hd hq hf hh hi ho
  rfl

/-- a call of `now` IS the clock reading (and nothing else about the oracle) -/
theorem now_is_the_clock_reading (O : Oracles) (T : TotalOracles) (h : O.total = some T) (env : Env) :
    eval O env (.call .now []) = .ok T.nowF := by
  simp only [eval, evalList, bind, Outcome.bind, callFunction, h]

/-- without a clock the call is a request for the missing fact, never a guess -/
theorem now_without_clock (O : Oracles) (h : O.total = none) (env : Env) :
    eval O env (.call .now []) = .oracleMissing "now" := by
  simp only [eval, evalList, bind, Outcome.bind, callFunction, h]

/-- **"may differ" is real**: under two oracles with different clock readings — whatever else they hold — the expression
`now()` has different values -/
theorem now_differs (O₁ O₂ : Oracles) (T₁ T₂ : TotalOracles) (h₁ : O₁.total = some T₁) (h₂ : O₂.total = some T₂)
    (hne : T₁.nowF ≠ T₂.nowF) (env : Env) : eval O₁ env (.call .now []) ≠ eval O₂ env (.call .now []) := by
  rw [now_is_the_clock_reading O₁ T₁ h₁, now_is_the_clock_reading O₂ T₂ h₂]
  intro h
  exact hne (Outcome.ok.inj h)

/-- changing the reading changes exactly this: `O.withNow v` answers `now()` with `v` -/
theorem now_after_withNow (O : Oracles) (T : TotalOracles) (h : O.total = some T) (v : Value) (env : Env) :
    eval (O.withNow v) env (.call .now []) = .ok v := by
  have : (O.withNow v).total = some (T.withNow v) := by
    obtain ⟨fp, tp, rg, up, lo, tot⟩ := O
    simp only at h
    subst h
    rfl
  rw [now_is_the_clock_reading _ _ this]
  rfl

/-! ### whole invocations with two clocks one second apart (kernel-evaluated) -/

/-- the facts of `Props/Fixture.lean` with a clock -/
def clockFacts (v : Value) : Facts :=
  { Props.Pipeline.exFacts with
    eval := { total := some { upperF := id, lowerF := id, regexF := fun _ _ => none, nowF := v } } }

/-- 2024-04-24 12:00:00 and one second later -/
def noon : Value := .timestamp 739000 43200 0
def noon1 : Value := .timestamp 739000 43201 0

open Sqlgrep.Props.Pipeline (exDefs recordsOf)
open Sqlgrep.Props.Pipeline (exTables exDefs_tables exFacts_eq exRun)

theorem clockRun (v : Value) (queryText : List Char) (fmt : Print.Format) (single : Bool) (files : List (List Nat)) :
    runText (clockFacts v) exDefs queryText fmt single files = runQuery (clockFacts v) exTables queryText fmt single files :=
  runText_of_defsTables (exDefs_tables (F := clockFacts v) rfl rfl rfl) queryText fmt single files

/-- the two sets of facts differ in the clock reading only -/
theorem clockFacts_sameButNow : (clockFacts noon).SameButNow (clockFacts noon1) :=
  ⟨rfl, rfl, rfl, rfl, rfl, rfl, rfl, rfl, ⟨rfl, rfl, rfl, rfl, rfl, ⟨rfl, rfl, rfl⟩⟩⟩

/-- `SELECT k, now(), v FROM t`: the `now()` cells are the two readings, every other cell, the row order, the line count
and the status are the same — and the two outputs are different -/
example :
    recordsOf (runText (clockFacts noon) exDefs "SELECT k, now(), v FROM t".toList .text false [strBytes "a;1\nb;2\n"]) =
      some (none, 2, [strBytes "k: 'a', p1: 2024-04-24 12:00:00.000, v: 1", strBytes "k: 'b', p1: 2024-04-24 12:00:00.000, v: 2"]) ∧
    recordsOf (runText (clockFacts noon1) exDefs "SELECT k, now(), v FROM t".toList .text false [strBytes "a;1\nb;2\n"]) =
      some (none, 2, [strBytes "k: 'a', p1: 2024-04-24 12:00:01.000, v: 1", strBytes "k: 'b', p1: 2024-04-24 12:00:01.000, v: 2"]) := by
  rw [clockRun, clockRun, String.toList_ofList, strBytes_ofList, strBytes_ofList, strBytes_ofList, strBytes_ofList, strBytes_ofList]
  unfold clockFacts; rw [exFacts_eq]; decide +kernel

/-- the statement of the example above is not `nowFree`; the one below is -/
example : textNowFree (clockFacts noon) "SELECT k, now(), v FROM t".toList = false ∧
    textNowFree (clockFacts noon) "SELECT k, v + 1 FROM t WHERE v > 0".toList = true ∧
    textNowFree (clockFacts noon) "SELECT k, COUNT(*) FROM t GROUP BY k HAVING MAX(NOW()) = MAX(v)".toList = false ∧
    textNowFree (clockFacts noon) "SELECT k, COUNT(*) FROM t GROUP BY k HAVING MAX(v) > 1".toList = true := by
  unfold clockFacts
  rw [String.toList_ofList, String.toList_ofList, String.toList_ofList, String.toList_ofList, exFacts_eq,
    textNowFree, textNowFree, textNowFree, textNowFree, parseText_eq_K, parseText_eq_K, parseText_eq_K, parseText_eq_K]
  decide +kernel

/-- a now-free statement: the same answer under both clocks — by `program_ignores_now`, the hypothesis discharged by
evaluation — and the answer is a real run -/
example :
    runText (clockFacts noon) exDefs "SELECT k, v + 1 FROM t WHERE v > 0".toList .text false [strBytes "a;1\nb;2\n"] =
    runText (clockFacts noon1) exDefs "SELECT k, v + 1 FROM t WHERE v > 0".toList .text false [strBytes "a;1\nb;2\n"] :=
  program_ignores_now _ _ clockFacts_sameButNow _ _
    (by unfold clockFacts; rw [String.toList_ofList, exFacts_eq, textNowFree, parseText_eq_K]; decide +kernel) _ _ _

example :
    recordsOf (runText (clockFacts noon1) exDefs "SELECT k, v + 1 FROM t WHERE v > 0".toList .text false [strBytes "a;1\nb;2\n"]) =
      some (none, 2, [strBytes "k: 'a', p1: 2", strBytes "k: 'b', p1: 3"]) := by
  rw [clockRun, String.toList_ofList]; unfold clockFacts; rw [exFacts_eq]; decide +kernel

/-- `nowFree` is sufficient, not necessary: `now()` inside a comparison that holds for both readings (and for decades to
come) — the statement is not `nowFree`, the output is the same -/
example :
    recordsOf (runText (clockFacts noon) exDefs
      "SELECT k, COUNT(*) FROM t WHERE now() > make_timestamp(2000,1,1,0,0,0,0) GROUP BY k".toList .text false [strBytes "a;1\nb;2\n"]) =
      some (none, 2, [strBytes "k: 'a', count1: 1", strBytes "k: 'b', count1: 1"]) ∧
    recordsOf (runText (clockFacts noon1) exDefs
      "SELECT k, COUNT(*) FROM t WHERE now() > make_timestamp(2000,1,1,0,0,0,0) GROUP BY k".toList .text false [strBytes "a;1\nb;2\n"]) =
      some (none, 2, [strBytes "k: 'a', count1: 1", strBytes "k: 'b', count1: 1"]) := by
  rw [clockRun, clockRun, String.toList_ofList]; unfold clockFacts; rw [exFacts_eq]; decide +kernel

/-- the oracles the driver builds have no clock (`total = none`): a statement with `now()` is answered `skip`, never
compared — the model does not guess the time -/
example : (match runText Props.Pipeline.exFacts exDefs "SELECT k, now(), v FROM t".toList .text false [strBytes "a;1\nb;2\n"] with
    | .skip _ => true
    | _ => false) = true := by
  generalize h : runText _ _ _ _ _ _ = r
  rw [exRun, String.toList_ofList] at h; subst h; decide +kernel

end Sqlgrep.Props.C18Now
