import SqlgrepModel.Props.C03
import SqlgrepModel.Props.C03Select
/-
C03 (expression level, second file) — the clauses of the sentence that `Props/C03.lean` left to examples, for ALL
operands, environments and oracle tables (audited together with `C03.lean` and `C03Select.lean` by `./check C03`):

* NOT is two-valued on BOOLEAN (and NULL stays NULL — which every condition treats as not holding —, anything else is
  an error, not a value);
* a comparison of two non-NULL operands of one comparable kind is decided by the order of the values
  (`compare_by_order`: the Boolean is `applyCmp op (compareValues lv rv)`; what that order IS: on numbers
  `C03.cmp_numeric_by_value` / `C03.cmp_numeric_nonfinite` (its laws: `Props/C16.lean`), on text `C03.cmp_text_codepoint`,
  on timestamps `C03.cmp_timestamp_instant` / `C03.cmp_timestamp_leap`);
* a comparison of operands of two different types (other than INT with REAL, and TIMESTAMP with text that `=` parses)
  is a type error (`cmp_type_mismatch_general` — `C03.cmp_type_mismatch_is_error` is the INT-vs-TEXT instance);
* an unknown column is an error (`unknown_column_is_error`, `unknown_scoped_column_is_error`);
* **an expression without a value makes the query report an error rather than emit a row**: evaluation is strict
  (`no_value_propagates_first`: an error in the first operand is the error of the whole expression, for every
  constructor; `no_value_propagates_second`: likewise in the second operand of a comparison, of IS, of arithmetic;
  `call_argument_error`: in an argument of a call; the right operand of a short-circuiting AND/OR counts exactly when it
  is evaluated, `bool_right_error`), a WHERE or a projection without a value on an admitted line is the error of `executeLine`
  (`where_error_is_line_error`, `projection_error_is_line_error`), and therefore of the run, with nothing printed for
  that line (`no_value_is_reported`);
* a WHERE that HAS a value but no truth value (another type than BOOLEAN, not NULL) is likewise the type error of the
  line and of the run, not "no row" (`where_type_mismatch_is_line_error`, `where_type_mismatch_is_reported`; finding
  D69), while FALSE and NULL give no row and no error (`where_null_is_no_row`). The same for the operands of AND / OR
  and for WHEN conditions: `C03.bool_op_type_mismatch_is_error`, `C03.case_condition_type_mismatch_is_error`.
-/
namespace Sqlgrep.Props.C03Expr
open Sqlgrep

variable (O : Oracles) (env : Env)

/-- NOT is two-valued: on a BOOLEAN it is the other BOOLEAN -/
theorem not_two_valued (e : Expr) (b : Bool) (he : eval O env e = .ok (.bool b)) :
    eval O env (.not e) = .ok (.bool (!b)) := by
  simp [eval, he, bind, Outcome.bind, invert]

/-- NOT of NULL is NULL. NOT is the one Boolean operator that is not two-valued (AND / OR never give NULL,
`C03.bool_ops_two_valued`); wherever the result is used as a condition — WHERE, HAVING, an operand of AND / OR, a WHEN
clause — NULL does not hold (`condHolds`; `C03.and_meaning`, `C03.case_skip_false`, `where_null_is_no_row`), so
`WHERE NOT x` selects no row on which `x` is NULL, just as `WHERE x` does -/
theorem not_null (e : Expr) (he : eval O env e = .ok .null) : eval O env (.not e) = .ok .null := by
  simp [eval, he, bind, Outcome.bind, invert]

/-- NOT of anything that is neither BOOLEAN nor NULL has no value -/
theorem not_non_boolean_is_error (e : Expr) (v : Value) (he : eval O env e = .ok v)
    (hb : ∀ b, v ≠ .bool b) (hn : v ≠ .null) : eval O env (.not e) = .error .undefinedOperation := by
  cases v <;> simp_all [eval, bind, Outcome.bind, invert]

/-- a comparison of two non-NULL operands that `=` compares as they are (same type, or INT with REAL) is decided by
the value order alone -/
theorem compare_by_order (op : CmpOp) (l r : Expr) (lv rv : Value)
    (hl : eval O env l = .ok lv) (hr : eval O env r = .ok rv)
    (hp : Props.C03.PlainComparable O lv rv) (hln : lv.isNull = false) (hrn : rv.isNull = false) :
    eval O env (.compare op l r) = .ok (.bool (applyCmp op (compareValues lv rv))) :=
  Props.C03.compare_is_order O env op l r lv rv hl hr hp hln hrn

/-- the six operators read the order as their names say -/
theorem applyCmp_table (o : Ordering) :
    applyCmp .eq o = (o == .eq) ∧ applyCmp .ne o = (o != .eq) ∧ applyCmp .lt o = (o == .lt) ∧
    applyCmp .le o = (o != .gt) ∧ applyCmp .gt o = (o == .gt) ∧ applyCmp .ge o = (o != .lt) :=
  ⟨rfl, rfl, rfl, rfl, rfl, rfl⟩

/-- `<` and `>=`, `>` and `<=`, `=` and `!=` are complementary on operands that compare -/
theorem applyCmp_complement (o : Ordering) :
    applyCmp .ge o = !applyCmp .lt o ∧ applyCmp .le o = !applyCmp .gt o ∧ applyCmp .ne o = !applyCmp .eq o := by
  cases o <;> simp [applyCmp]

/-- neither operand being a TIMESTAMP-with-text pair, two non-NULL operands of different types (other than INT with
REAL) have no comparison: a type error, never a Boolean -/
theorem cmp_type_mismatch_general (op : CmpOp) (l r : Expr) (lv rv : Value)
    (hl : eval O env l = .ok lv) (hr : eval O env r = .ok rv)
    (hln : lv.isNull = false) (hrn : rv.isNull = false)
    (hco : coerceTs O lv rv = .ok (lv, rv)) (hty : typesComparable lv rv = false) :
    eval O env (.compare op l r) = .error .typeError := by
  rw [Props.C03.eval_compare O env op l r lv rv hl hr]
  simp [prepCompare, hco, hln, hrn, hty, Outcome.bind]

/-- operands that are not a TIMESTAMP/TEXT pair are compared as they are -/
theorem coerceTs_plain (lv rv : Value)
    (h1 : ∀ d s n t, ¬ (lv = .timestamp d s n ∧ rv = .text t))
    (h2 : ∀ d s n t, ¬ (lv = .text t ∧ rv = .timestamp d s n)) : coerceTs O lv rv = .ok (lv, rv) := by
  unfold coerceTs
  split
  · rename_i d s n t; exact absurd ⟨rfl, rfl⟩ (h1 d s n t)
  · rename_i t d s n; exact absurd ⟨rfl, rfl⟩ (h2 d s n t)
  · rfl

/-- a column the row does not have is an error -/
theorem unknown_column_is_error (name : String) (h : env.get .table name = none) :
    eval O env (.column name) = .error .columnNotFound := by
  simp [eval, h, Outcome.ofOption]

/-- the same for a column addressed in another scope (aggregate value / group key) -/
theorem unknown_scoped_column_is_error (s : Scope) (name : String) (h : env.get s name = none) :
    eval O env (.scoped s name) = .error .columnNotFound := by
  simp [eval, h, Outcome.ofOption]

/-- a column the row has is its value — nothing else is consulted -/
theorem known_column_value (name : String) (v : Value) (h : env.get .table name = some v) :
    eval O env (.column name) = .ok v := by
  simp [eval, h, Outcome.ofOption]

/-- the error of the first operand is the error of the whole expression, whatever the constructor -/
theorem no_value_propagates_first (e r : Expr) (k : ErrKind) (he : eval O env e = .error k) :
    (∀ op, eval O env (.compare op e r) = .error k) ∧
    (∀ n, eval O env (.nullCmp n e r) = .error k) ∧
    (∀ op, eval O env (.arith op e r) = .error k) ∧
    (∀ a, eval O env (.boolOp a e r) = .error k) ∧
    eval O env (.neg e) = .error k ∧
    eval O env (.not e) = .error k ∧
    (∀ n ms, eval O env (.inList n e ms) = .error k) ∧
    eval O env (.index e r) = .error k ∧
    (∀ t, eval O env (.cast e t) = .error k) ∧
    (∀ f rest, eval O env (.call f (e :: rest)) = .error k) ∧
    (∀ res rest els, eval O env (.case ((e, res) :: rest) els) = .error k) := by
  refine ⟨?_, ?_, ?_, ?_, ?_, ?_, ?_, ?_, ?_, ?_, ?_⟩ <;> intros <;>
    simp [eval, evalList, evalCase, he, bind, Outcome.bind]

/-- … and so is the error of the second operand of a comparison, of IS, of arithmetic -/
theorem no_value_propagates_second (l e : Expr) (lv : Value) (k : ErrKind) (hl : eval O env l = .ok lv)
    (he : eval O env e = .error k) :
    (∀ op, eval O env (.compare op l e) = .error k) ∧
    (∀ n, eval O env (.nullCmp n l e) = .error k) ∧
    (∀ op, eval O env (.arith op l e) = .error k) := by
  refine ⟨?_, ?_, ?_⟩ <;> intros <;> simp [eval, hl, he, bind, Outcome.bind]

/-- AND / OR evaluate their right operand exactly when the left one does not decide; then its error is the error.
(The left operand a condition: BOOLEAN or NULL; for any other type see `C03.bool_op_type_mismatch_is_error`.) -/
theorem bool_right_error (l e : Expr) (lv : Value) (k : ErrKind) (hl : eval O env l = .ok lv)
    (he : eval O env e = .error k) :
    (lv = .bool true →
      eval O env (.boolOp true l e) = .error k ∧ eval O env (.boolOp false l e) = .ok (.bool true)) ∧
    (lv = .bool false ∨ lv = .null →
      eval O env (.boolOp true l e) = .ok (.bool false) ∧ eval O env (.boolOp false l e) = .error k) := by
  refine ⟨fun h => ?_, fun h => ?_⟩
  · subst h; simp [eval_boolOp, hl, he, Outcome.bind]
  · rcases h with rfl | rfl <;> simp [eval_boolOp, hl, he, Outcome.bind]

/-- a list of expressions is evaluated in order (`evalList`: the arguments of a call, the projections of a SELECT): the
first one without a value, the earlier ones having values, is the error of the list -/
theorem evalList_error (es : List Expr) (vs : List Value) (e : Expr) (rest : List Expr) (k : ErrKind)
    (hes : evalList O env es = .ok vs) (he : eval O env e = .error k) :
    evalList O env (es ++ e :: rest) = .error k := by
  induction es generalizing vs with
  | nil => simp [evalList, he, bind, Outcome.bind]
  | cons a as ih =>
    simp only [List.cons_append, evalList, Outcome.bind_def] at hes ⊢
    obtain ⟨av, ha, hes⟩ := Outcome.bind_eq_ok hes
    obtain ⟨avs, has, _⟩ := Outcome.bind_eq_ok hes
    rw [ha, Outcome.ok_bind, ih avs has]
    rfl

/-- an argument of a function call without a value (the earlier arguments having values) is the error of the call -/
theorem call_argument_error (f : Func) (es : List Expr) (vs : List Value) (e : Expr) (rest : List Expr) (k : ErrKind)
    (hes : evalList O env es = .ok vs) (he : eval O env e = .error k) :
    eval O env (.call f (es ++ e :: rest)) = .error k := by
  simp [eval, evalList_error O env es vs e rest k hes he, bind, Outcome.bind]

/-- WHERE without a value on an admitted line: the line's execution is that error -/
theorem where_error_is_line_error (qy : Query) (q : SelectStmt) (hq : qy.stmt = .select q) (hj : qy.join = none)
    (idx : JoinIndex) (w : Bool) (es : EngineState) (l : Line) (hadm : anyResult l.row = true)
    (f : Expr) (hf : q.filter = some f) (k : ErrKind)
    (hk : eval O (envOfInsertions (columnsMapping qy.table l.row l.text)) f = .error k) :
    executeLine O qy idx w es l = .error k := by
  rw [Props.C03Select.executeLine_select_nojoin O qy q hq hj idx w es l hadm]
  simp [selectOne, hf, hk, Outcome.bind]

/-- a projected expression without a value on an admitted line that passes WHERE: the line's execution is that error -/
theorem projection_error_is_line_error (qy : Query) (q : SelectStmt) (hq : qy.stmt = .select q) (hj : qy.join = none)
    (hw : q.wildcard = false)
    (idx : JoinIndex) (w : Bool) (es : EngineState) (l : Line) (hadm : anyResult l.row = true)
    (hpass : match q.filter with
      | some f => eval O (envOfInsertions (columnsMapping qy.table l.row l.text)) f = .ok (.bool true)
      | none => True)
    (k : ErrKind)
    (hk : evalList O (envOfInsertions (columnsMapping qy.table l.row l.text)) (q.projections.map (·.2)) = .error k) :
    executeLine O qy idx w es l = .error k := by
  rw [Props.C03Select.executeLine_select_nojoin O qy q hq hj idx w es l hadm]
  cases hf : q.filter with
  | none => simp [selectOne, hf, hw, hk, Outcome.bind]
  | some f =>
    rw [hf] at hpass
    simp [selectOne, hf, hw, hk, hpass, Outcome.bind]

/-- **an expression that has no value on some processed row makes the query report an error rather than emit a wrong
value**: the run over a file whose next line is such a line ends with that error, and prints nothing for the line
(everything printed was printed before it) -/
theorem no_value_is_reported (qy : Query) (q : SelectStmt) (hq : qy.stmt = .select q) (hj : qy.join = none)
    (idx : JoinIndex) (w : Bool) (ls : LoopState) (fl : FileLine) (rest : List FileLine) (hr : fl.readable = true)
    (hadm : anyResult fl.line.row = true) (f : Expr) (hf : q.filter = some f) (k : ErrKind)
    (hk : eval O (envOfInsertions (columnsMapping qy.table fl.line.row fl.line.text)) f = .error k) :
    (runFile O qy idx w none (fl :: rest) ls).out.error = some k ∧
    (runFile O qy idx w none (fl :: rest) ls).out.printed = ls.out.printed :=
  Props.C03Select.error_is_reported O qy idx w ls fl rest k hr
    (where_error_is_line_error O qy q hq hj idx w ls.es fl.line hadm f hf k hk)

/-- **a type mismatch in WHERE is an error, not "no row"**: a WHERE expression whose value on an admitted line is of
another type than BOOLEAN (and not NULL) — `WHERE v + 1`, `WHERE name` — has no truth value; the line's execution is
the type error (finding D69, repaired: such a line used to be dropped silently) -/
theorem where_type_mismatch_is_line_error (qy : Query) (q : SelectStmt) (hq : qy.stmt = .select q) (hj : qy.join = none)
    (idx : JoinIndex) (w : Bool) (es : EngineState) (l : Line) (hadm : anyResult l.row = true)
    (f : Expr) (hf : q.filter = some f) (v : Value)
    (hv : eval O (envOfInsertions (columnsMapping qy.table l.row l.text)) f = .ok v) (hn : Props.C03.NoTruthValue v) :
    executeLine O qy idx w es l = .error .typeError := by
  rw [Props.C03Select.executeLine_select_nojoin O qy q hq hj idx w es l hadm]
  simp [selectOne, hf, hv, condHolds_typeError v hn.1 hn.2, Outcome.bind]

/-- … and therefore of the run, with nothing printed for that line: the counterpart of `no_value_is_reported` for a
WHERE that has a value but no truth value -/
theorem where_type_mismatch_is_reported (qy : Query) (q : SelectStmt) (hq : qy.stmt = .select q) (hj : qy.join = none)
    (idx : JoinIndex) (w : Bool) (ls : LoopState) (fl : FileLine) (rest : List FileLine) (hr : fl.readable = true)
    (hadm : anyResult fl.line.row = true) (f : Expr) (hf : q.filter = some f) (v : Value)
    (hv : eval O (envOfInsertions (columnsMapping qy.table fl.line.row fl.line.text)) f = .ok v)
    (hn : Props.C03.NoTruthValue v) :
    (runFile O qy idx w none (fl :: rest) ls).out.error = some .typeError ∧
    (runFile O qy idx w none (fl :: rest) ls).out.printed = ls.out.printed :=
  Props.C03Select.error_is_reported O qy idx w ls fl rest .typeError hr
    (where_type_mismatch_is_line_error O qy q hq hj idx w ls.es fl.line hadm f hf v hv hn)

/-- a WHERE that is FALSE or NULL on an admitted line does not hold: the line gives no row and the engine state is
that of a line that is not admitted (NULL is "not true", not an error) -/
theorem where_null_is_no_row (qy : Query) (q : SelectStmt) (hq : qy.stmt = .select q) (hj : qy.join = none)
    (idx : JoinIndex) (w : Bool) (es : EngineState) (l : Line) (hadm : anyResult l.row = true)
    (f : Expr) (hf : q.filter = some f) (v : Value)
    (hv : eval O (envOfInsertions (columnsMapping qy.table l.row l.text)) f = .ok v) (hn : v = .bool false ∨ v = .null) :
    executeLine O qy idx w es l = .ok (updateLimit true q.limit es none) := by
  rw [Props.C03Select.executeLine_select_nojoin O qy q hq hj idx w es l hadm]
  rcases hn with rfl | rfl <;> simp [selectOne, hf, hv, Outcome.bind] <;> rfl

/-! ### non-vacuity -/

example : eval {} {} (.not (.value (.bool true))) = .ok (.bool false) := by rfl
example : eval {} {} (.not (.value (.int 1))) = .error .undefinedOperation := by rfl
example : eval {} {} (.not (.value .null)) = .ok .null ∧
    eval {} {} (.boolOp false (.not (.value .null)) (.value (.bool false))) = .ok (.bool false) := ⟨rfl, rfl⟩
example : eval {} {} (.column "nope") = .error .columnNotFound := by rfl
example : eval {} { table := [("x", .int 3)] } (.column "x") = .ok (.int 3) := by rfl
example : eval {} {} (.compare .lt (.value (.bool true)) (.value (.int 1))) = .error .typeError := by rfl
/-- the right operand of a deciding AND is not evaluated: `false AND (1/0 = 1)` is false -/
example : eval {} {} (.boolOp true (.value (.bool false))
    (.compare .eq (.arith .div (.value (.int 1)) (.value (.int 0))) (.value (.int 1)))) = .ok (.bool false) := by rfl
example : eval {} {} (.boolOp true (.value (.bool true))
    (.compare .eq (.arith .div (.value (.int 1)) (.value (.int 0))) (.value (.int 1)))) = .error .undefinedOperation := by rfl

end Sqlgrep.Props.C03Expr
