import SqlgrepModel.Sexp
import SqlgrepModel.Codec
import SqlgrepModel.Model.Value
import SqlgrepModel.Model.Text
import SqlgrepModel.Model.Token
import SqlgrepModel.Model.Reader
import SqlgrepModel.Model.Civil
import SqlgrepModel.Model.CivilE
import SqlgrepModel.Model.ParseLit
import SqlgrepModel.Model.Json
import SqlgrepModel.Model.Extract
import SqlgrepModel.Model.ExtractSpec
import SqlgrepModel.Drivers.Extract
import SqlgrepModel.Lemmas.Order
import SqlgrepModel.Lemmas.ValueOrder
import SqlgrepModel.Lemmas.FloatOrder
import SqlgrepModel.Lemmas.NumericOrder
import SqlgrepModel.Model.CompareIntFloat
import SqlgrepModel.Lemmas.CompareIntFloat
import SqlgrepModel.Lemmas.Utf8Order
import SqlgrepModel.Lemmas.UniqueValues
import SqlgrepModel.Lemmas.ReaderSpec
import SqlgrepModel.Lemmas.ReaderFollow
import SqlgrepModel.Lemmas.ReaderLines
import SqlgrepModel.Lemmas.ReaderUtf8
import SqlgrepModel.Lemmas.CivilAgree
import SqlgrepModel.Lemmas.CivilNext
import SqlgrepModel.Lemmas.StrBytes
import SqlgrepModel.Lemmas.FuncNum
import SqlgrepModel.Lemmas.FuncTime
import SqlgrepModel.Lemmas.FuncLeap
import SqlgrepModel.Lemmas.FuncText
import SqlgrepModel.Lemmas.FuncCast
import SqlgrepModel.Props.C16
import SqlgrepModel.Model.FloatArith
import SqlgrepModel.Model.Float
import SqlgrepModel.Model.DecFloat
import SqlgrepModel.Lemmas.DecFloat
import SqlgrepModel.Lemmas.FloatArith
import SqlgrepModel.Lemmas.RealSums
import SqlgrepModel.Lemmas.ParseLitTs
import SqlgrepModel.Lemmas.DecFloatExamples
import SqlgrepModel.Model.Expr
import SqlgrepModel.Model.Eval
import SqlgrepModel.CodecExpr
import SqlgrepModel.Lemmas.Cond
import SqlgrepModel.Props.C03
import SqlgrepModel.Model.Engine
import SqlgrepModel.Model.Exec
import SqlgrepModel.CodecStmt
import SqlgrepModel.Props.C10
import SqlgrepModel.Lemmas.ReaderExec
import SqlgrepModel.Props.C12
import SqlgrepModel.Model.Print
import SqlgrepModel.Lemmas.PrintLines
import SqlgrepModel.Lemmas.PrintString
import SqlgrepModel.Lemmas.PrintJson
import SqlgrepModel.Lemmas.PrintRecord
import SqlgrepModel.Lemmas.PrintChars
import SqlgrepModel.Lemmas.PrintText
import SqlgrepModel.Props.C17
import SqlgrepModel.Spec.JsonGrammar
import SqlgrepModel.Lemmas.JsonNumber
import SqlgrepModel.Lemmas.JsonGrammar
import SqlgrepModel.Lemmas.JsonParser
import SqlgrepModel.Lemmas.PrintGrammar
import SqlgrepModel.Lemmas.Utf8Valid
import SqlgrepModel.Props.C17Json
import SqlgrepModel.Drivers.JsonText
import SqlgrepModel.Drivers.F64Parse
import SqlgrepModel.Drivers.F64Arith
import SqlgrepModel.Model.JsonDoc
import SqlgrepModel.Lemmas.JsonDoc
import SqlgrepModel.Spec.FloatGrammar
import SqlgrepModel.Lemmas.FloatGrammar
import SqlgrepModel.Lemmas.JsonNumLit
import SqlgrepModel.Lemmas.JsonDocPath
import SqlgrepModel.Lemmas.PrintReal
import SqlgrepModel.Drivers.FactCheck
import SqlgrepModel.Drivers.JsonDocD
import SqlgrepModel.Spec.CsvGrammar
import SqlgrepModel.Lemmas.PrintCsv
import SqlgrepModel.Props.C17Csv
import SqlgrepModel.Lemmas.Faults
import SqlgrepModel.Lemmas.NoPanic
import SqlgrepModel.Props.C09
import SqlgrepModel.Props.C11
import SqlgrepModel.Lemmas.Civil
import SqlgrepModel.Lemmas.ParseLit
import SqlgrepModel.Lemmas.ParseLitMore
import SqlgrepModel.Lemmas.Extract
import SqlgrepModel.Lemmas.ExtractRow
import SqlgrepModel.Lemmas.RowIndex
import SqlgrepModel.Lemmas.ExtractJson
import SqlgrepModel.Lemmas.Timestamp
import SqlgrepModel.Props.C01
import SqlgrepModel.Props.C02
import SqlgrepModel.Model.ParseExpr
import SqlgrepModel.Lemmas.Outcome
import SqlgrepModel.Lemmas.Loop
import SqlgrepModel.Lemmas.Drive
import SqlgrepModel.Lemmas.IterOrder
import SqlgrepModel.Lemmas.IterOrderEngine
import SqlgrepModel.Props.C18
import SqlgrepModel.Lemmas.NoPanicEngine
import SqlgrepModel.Lemmas.NoSkip
import SqlgrepModel.Lemmas.NoSkipEngine
import SqlgrepModel.Model.ExecI
import SqlgrepModel.Model.JoinClause
import SqlgrepModel.Spec.Join
import SqlgrepModel.Drivers.Join
import SqlgrepModel.Lemmas.JoinIndex
import SqlgrepModel.Lemmas.JoinRefine
import SqlgrepModel.Lemmas.JoinNames
import SqlgrepModel.Lemmas.JoinBatch
import SqlgrepModel.Props.C05
import SqlgrepModel.Lemmas.Runs
import SqlgrepModel.Lemmas.ExecT
import SqlgrepModel.Lemmas.InterruptLoad
import SqlgrepModel.Props.C19
import SqlgrepModel.Model.Lex
import SqlgrepModel.Drivers.Lex
import SqlgrepModel.Props.C20
import SqlgrepModel.Lemmas.LexLayout
import SqlgrepModel.Lemmas.LexRun
import SqlgrepModel.Lemmas.LexWords
import SqlgrepModel.Lemmas.LexRender
import SqlgrepModel.Lemmas.LexTables
import SqlgrepModel.Lemmas.LexPos
import SqlgrepModel.Lemmas.LexNear
import SqlgrepModel.Props.C14Lex
import SqlgrepModel.Props.C14Text
import SqlgrepModel.Lemmas.LexFuse
import SqlgrepModel.Lemmas.LexNearPiece
import SqlgrepModel.Model.ParseStmt
import SqlgrepModel.Model.Lower
import SqlgrepModel.Drivers.ParseStmt
import SqlgrepModel.Lemmas.ParseFuel
import SqlgrepModel.Lemmas.ParseFuelStmt
import SqlgrepModel.Lemmas.ParseWithin
import SqlgrepModel.Lemmas.ParseWithinStmt
import SqlgrepModel.Lemmas.ParseFreeLoc
import SqlgrepModel.Lemmas.ParseJson
import SqlgrepModel.Lemmas.Lower
import SqlgrepModel.Lemmas.LowerLoc
import SqlgrepModel.Props.C14
import SqlgrepModel.Lemmas.ParseClauses
import SqlgrepModel.Lemmas.LowerNames
import SqlgrepModel.Lemmas.ParsePrefix
import SqlgrepModel.Lemmas.ParsePrefixClauses
import SqlgrepModel.Lemmas.ParseAppend
import SqlgrepModel.Lemmas.ParseRuns
import SqlgrepModel.Lemmas.ParseSelectHead
import SqlgrepModel.Lemmas.ParseSemicolon
import SqlgrepModel.Lemmas.ParseClauseOrder
import SqlgrepModel.Props.C20Parse
import SqlgrepModel.Lemmas.ParseLift
import SqlgrepModel.Lemmas.LexSemicolon
import SqlgrepModel.Lemmas.ParseRename
import SqlgrepModel.Lemmas.ParseRenameStmt
import SqlgrepModel.Lemmas.ParseRenameTree
import SqlgrepModel.Props.C20Stmt
import SqlgrepModel.Lemmas.ParseCaseCreate
import SqlgrepModel.Lemmas.ParseRenameCreate
import SqlgrepModel.Props.C20Create
import SqlgrepModel.Generated.PrecTable
import SqlgrepModel.Drivers.ParseExpr
import SqlgrepModel.Spec.Grammar
import SqlgrepModel.Lemmas.ClimbMono
import SqlgrepModel.Lemmas.ClimbRules
import SqlgrepModel.Lemmas.ClimbSpine
import SqlgrepModel.Lemmas.ClimbCorrect
import SqlgrepModel.Lemmas.TreeMap
import SqlgrepModel.Lemmas.ParseTokens
import SqlgrepModel.Lemmas.ParseMap
import SqlgrepModel.Lemmas.ParseMorph
import SqlgrepModel.Lemmas.ParseLoc
import SqlgrepModel.Lemmas.ClimbFinal
import SqlgrepModel.Props.C13
import SqlgrepModel.Lemmas.PrHead
import SqlgrepModel.Props.C13Stmt
import SqlgrepModel.Props.C03Select
import SqlgrepModel.Props.C03Expr
import SqlgrepModel.Props.C03Func
import SqlgrepModel.Props.C03Time
import SqlgrepModel.Props.C03In
import SqlgrepModel.Props.C03Run
import SqlgrepModel.Spec.Agg
import SqlgrepModel.Lemmas.Collect
import SqlgrepModel.Lemmas.FirstOccs
import SqlgrepModel.Lemmas.AggSpecFacts
import SqlgrepModel.Lemmas.AggSumOf
import SqlgrepModel.Lemmas.AggKeys
import SqlgrepModel.Lemmas.AggTable
import SqlgrepModel.Lemmas.AggMap
import SqlgrepModel.Lemmas.AggCell
import SqlgrepModel.Lemmas.EnumFrom
import SqlgrepModel.Lemmas.AggRun
import SqlgrepModel.Lemmas.AggKinds
import SqlgrepModel.Lemmas.AggSums
import SqlgrepModel.Lemmas.AggDistinct
import SqlgrepModel.Lemmas.AggColumns
import SqlgrepModel.Lemmas.AggResult
import SqlgrepModel.Lemmas.AggRefine
import SqlgrepModel.Props.C04
import SqlgrepModel.Spec.Variance
import SqlgrepModel.Lemmas.Variance
import SqlgrepModel.Props.C04Variance
import SqlgrepModel.Props.C04Avg
import SqlgrepModel.Props.C04Errors
import SqlgrepModel.Lemmas.AggPerm
import SqlgrepModel.Lemmas.AggPermTable
import SqlgrepModel.Props.C15
import SqlgrepModel.Lemmas.AggFollow
import SqlgrepModel.Lemmas.AggFollowRun
import SqlgrepModel.Lemmas.AggTotal
import SqlgrepModel.Lemmas.AggBatch
import SqlgrepModel.Lemmas.AggFollowSim
import SqlgrepModel.Lemmas.LowerTables
import SqlgrepModel.Lemmas.AggMerge
import SqlgrepModel.Model.ExecT
import SqlgrepModel.Model.Pipeline
import SqlgrepModel.Lemmas.PipelineAligned
import SqlgrepModel.Spec.Pipeline
import SqlgrepModel.Lemmas.Pipeline
import SqlgrepModel.Lemmas.LexFast
import SqlgrepModel.Lemmas.ParseFast
import SqlgrepModel.Lemmas.PipelineFront
import SqlgrepModel.Props.Fixture
import SqlgrepModel.Props.Pipeline
import SqlgrepModel.Lemmas.NoSkipPipeline
import SqlgrepModel.Lemmas.RowIndexPipeline
import SqlgrepModel.Props.C09Pipeline
import SqlgrepModel.Drivers.Pipeline
import SqlgrepModel.Lemmas.AggSummary
import SqlgrepModel.Lemmas.AggSummaryTable
import SqlgrepModel.Lemmas.AggFindings
import SqlgrepModel.Lemmas.AggJoin
import SqlgrepModel.Lemmas.AggFollowJoin
import SqlgrepModel.Lemmas.ParseStripStmt
import SqlgrepModel.Lemmas.LowerStrip
import SqlgrepModel.Lemmas.ParseBlind
import SqlgrepModel.Lemmas.FollowBridge
import SqlgrepModel.Props.C06
import SqlgrepModel.Props.C07
import SqlgrepModel.Props.C08
import SqlgrepModel.Lemmas.AggFollowExec
import SqlgrepModel.Lemmas.ValueDecEq
import SqlgrepModel.Lemmas.AggDeviationPerm
import SqlgrepModel.Lemmas.AggPermSafe
import SqlgrepModel.Lemmas.AggSplitSummaries
import SqlgrepModel.Lemmas.AggBatchSpec
import SqlgrepModel.Lemmas.ExecTLines
import SqlgrepModel.Lemmas.ExecTAgg
import SqlgrepModel.Lemmas.PipelineLines
import SqlgrepModel.Props.PipelineLines
import SqlgrepModel.Model.PipelineFollow
import SqlgrepModel.Lemmas.ExecFT
import SqlgrepModel.Lemmas.ExecFTBatch
import SqlgrepModel.Lemmas.PipelineFollow
import SqlgrepModel.Props.PipelineFollow
import SqlgrepModel.Props.C18Text
import SqlgrepModel.Lemmas.LexConcat
import SqlgrepModel.Lemmas.ParseCreateMono
import SqlgrepModel.Lemmas.ParseCreateSwap
import SqlgrepModel.Lemmas.ParseConcat
import SqlgrepModel.Lemmas.DefsConcat
import SqlgrepModel.Props.C18Defs
import SqlgrepModel.Lemmas.NowFree
import SqlgrepModel.Props.C18Now
