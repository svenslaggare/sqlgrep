import SqlgrepModel.Lemmas.ParseLift
import SqlgrepModel.Lemmas.LexSemicolon
import SqlgrepModel.Lemmas.ParseRenameTree
import SqlgrepModel.Props.C20Parse
/-
C20 — whole statements (audit-2 M11). `Props/C20.lean` is the lexical half, `Props/C20Parse.lean` the parser-level
section (clause loop, trees); this file LIFTS the clause-order, trailing-semicolon and name-case theorems to whole
token vectors (`Parse.parseTokens PrecTables.code`), to the lowered statement (`Lower.lowerStatement`, i.e.
`Pipeline.parseToks` / `Pipeline.parseText`) and to the answer of the whole program (`Pipeline.runText`):

  "… in an optional trailing semicolon, or in the relative order of the JOIN / WHERE / GROUP BY / HAVING / LIMIT
   clauses [, in the letter case of function, aggregate and type names] parse to the SAME STATEMENT and therefore
   produce the SAME OUTPUT."

The common piece is `same_tree_same_statement`: SELECT trees that are the same up to token locations (what the
clause-level theorems conclude) have equal `eraseLoc`, and the lowering reads locations only into errors, so they
lower to EQUAL statements.
-/
namespace Sqlgrep.Props.C20Stmt
open Sqlgrep Sqlgrep.Parse Sqlgrep.Lower Sqlgrep.Pipeline

/-- **`SameUpToLoc` trees lower to EQUAL statements**: SELECT trees that are the same up to token locations have equal
`eraseLoc`; the lowering of trees with equal `eraseLoc` is the same up to the location inside a conversion error; in
particular if one lowers to a statement the other lowers to that statement. -/
theorem same_tree_same_statement (rv : List Char → Bool) {q q' : PSelect} (h : q.SameUpToLoc q') :
    (POp.select q).eraseLoc = (POp.select q').eraseLoc ∧
    (lowerStatement rv (.select q)).mapErr CErr.strip = (lowerStatement rv (.select q')).mapErr CErr.strip ∧
    ∀ s, lowerStatement rv (.select q) = .ok s → lowerStatement rv (.select q') = .ok s :=
  ⟨sameUpToLoc_eraseLoc h, lowerStatement_of_eraseLoc_eq rv (sameUpToLoc_eraseLoc h),
   fun s => lowerStatement_of_sameUpToLoc rv h s⟩

/-- … for arbitrary trees (CREATE TABLE included): equal `eraseLoc` ⇒ the same lowering up to the error location -/
theorem lowering_depends_on_erased_tree (rv : List Char → Bool) {t₁ t₂ : POp} (h : t₁.eraseLoc = t₂.eraseLoc) :
    (lowerStatement rv t₁).mapErr CErr.strip = (lowerStatement rv t₂).mapErr CErr.strip ∧
    ∀ s, lowerStatement rv t₁ = .ok s → lowerStatement rv t₂ = .ok s :=
  ⟨lowerStatement_of_eraseLoc_eq rv h, fun s => lowerStatement_ok_of_eraseLoc_eq rv h s⟩

theorem parseToks_stmt_of_select_trees (rv : List Char → Bool) {t : PTok} {ts ts' : List PTok} (hk : t.tok = .kw .select)
    (himp : ∀ q, parseTokens PrecTables.code (t :: ts) = .tree (.select q) →
      ∃ q', parseTokens PrecTables.code ts' = .tree (.select q') ∧ (POp.select q).eraseLoc = (POp.select q').eraseLoc)
    (s : LStmt) (h : parseToks rv (t :: ts) = .stmt s) : parseToks rv ts' = .stmt s := by
  obtain ⟨op, hop, _⟩ := tree_of_parseToks_stmt h
  obtain ⟨q, rfl⟩ := parseTokens_select_tree hk hop
  obtain ⟨q', hq', he⟩ := himp q hop
  exact parseToks_stmt_of_sameTree rv hop hq' he s h

/-- **Clause order does not matter to the parse tree** — `clause_order_invariance_statement` (trees): let
`head ++ clauses₁ ++ end₁` be a token vector that `Parser::parse` reads as a SELECT tree, `head` without clause
keyword / `;` / `End`, `clauses₁` cut into clause-shaped segments, `end₁` either `End` or `;` `End`. Then for every
rearrangement `clauses₂` of the segments, either end `end₂`, and every relocation of all tokens (`head'` has the tokens
of `head`), `Parser::parse` reads `head' ++ clauses₂ ++ end₂` as a SELECT tree that is the same up to locations.
Side conditions, all about the FIRST vector only and discharged by its successful parse: that each segment is read
exactly as one clause, and that no clause kind occurs twice (a second WHERE is `AlreadyHaveWhere`, so the first vector
would not parse). `InertBoundary T` — the clause keywords, `;` and `End` have no operator precedence — holds for the
tables of the code (`inertBoundary_code`). -/
theorem clause_order_invariance_tree (head head' : List PTok) (segs₁ segs₂ : List (List PTok)) (end₁ end₂ : List PTok)
    (he₁ : IsEnd end₁) (he₂ : IsEnd end₂)
    (hnb : ∀ t ∈ head, ¬ Boundary t.tok) (hhead : head'.map (·.tok) = head.map (·.tok))
    (hshape : ClauseSegments segs₁)
    (hperm : (segs₁.map (fun seg => seg.map (·.tok))).Perm (segs₂.map (fun seg => seg.map (·.tok))))
    (q₁ : PSelect) (h : parseTokens PrecTables.code (head ++ segs₁.flatten ++ end₁) = .tree (.select q₁)) :
    ∃ q₂, parseTokens PrecTables.code (head' ++ segs₂.flatten ++ end₂) = .tree (.select q₂) ∧ q₁.SameUpToLoc q₂ ∧
      (POp.select q₁).eraseLoc = (POp.select q₂).eraseLoc := by
  obtain ⟨q₂, h₂, hs⟩ := select_clause_order_term inertBoundary_code head head' segs₁ segs₂ end₁ end₂ he₁.stmtEnd
    he₂.stmtEnd hnb hhead hshape.shape hperm q₁ h
  exact ⟨q₂, h₂, hs, sameUpToLoc_eraseLoc hs⟩

/-- **Clause order does not matter to the statement** — `clause_order_invariance_statement`: … hence the two token
vectors lower to the SAME `LStmt`: if `parsing::parse` (parser + lowering, `Pipeline.parseToks`) answers a statement on
the first vector, it answers that statement on the second. -/
theorem clause_order_invariance_statement (rv : List Char → Bool) (head head' : List PTok)
    (segs₁ segs₂ : List (List PTok)) (end₁ end₂ : List PTok) (he₁ : IsEnd end₁) (he₂ : IsEnd end₂)
    (hh : SelectHead head) (hhead : head'.map (·.tok) = head.map (·.tok)) (hshape : ClauseSegments segs₁)
    (hperm : (segs₁.map (fun seg => seg.map (·.tok))).Perm (segs₂.map (fun seg => seg.map (·.tok))))
    (s : LStmt) (h : parseToks rv (head ++ segs₁.flatten ++ end₁) = .stmt s) :
    parseToks rv (head' ++ segs₂.flatten ++ end₂) = .stmt s := by
  have hnb := hh.2
  obtain ⟨k, ks, rfl, hk⟩ := hh.cons
  refine parseToks_stmt_of_select_trees rv (ts := ks ++ segs₁.flatten ++ end₁) hk (fun q₁ ht => ?_) s (by simpa using h)
  obtain ⟨q₂, h₂, _, he⟩ := clause_order_invariance_tree (k :: ks) head' segs₁ segs₂ end₁ end₂ he₁ he₂ hnb hhead hshape
    hperm q₁ (by simpa using ht)
  exact ⟨q₂, h₂, he⟩

/-- … for texts: two query texts whose token vectors are `head ++ clauses₁ ++ end₁` and `head' ++ clauses₂ ++ end₂`
as above parse to the same statement -/
theorem clause_order_invariance_text (o : Lex.Oracles) (rv : List Char → Bool) (text₁ text₂ : List Char)
    (head head' : List PTok) (segs₁ segs₂ : List (List PTok)) (end₁ end₂ : List PTok)
    (ht₁ : Lex.tokenize o text₁ = .ok (head ++ segs₁.flatten ++ end₁))
    (ht₂ : Lex.tokenize o text₂ = .ok (head' ++ segs₂.flatten ++ end₂))
    (he₁ : IsEnd end₁) (he₂ : IsEnd end₂)
    (hh : SelectHead head) (hhead : head'.map (·.tok) = head.map (·.tok)) (hshape : ClauseSegments segs₁)
    (hperm : (segs₁.map (fun seg => seg.map (·.tok))).Perm (segs₂.map (fun seg => seg.map (·.tok))))
    (s : LStmt) (h : parseText o rv text₁ = .stmt s) : parseText o rv text₂ = .stmt s := by
  rw [parseText_of_tokenize ht₁] at h
  rw [parseText_of_tokenize ht₂]
  exact clause_order_invariance_statement rv head head' segs₁ segs₂ end₁ end₂ he₁ he₂ hh hhead hshape hperm s h

/-- **… and therefore produce the same output**: the whole program (`Pipeline.runText`: definitions text, query text,
format, files ↦ printed records or error) answers the same on two query texts that differ in the order of their
clauses (and in layout, and in the optional `;`), on every input, format and state of the outside world -/
theorem clause_order_same_output (F : Facts) (defs text₁ text₂ : List Char) (fmt : Print.Format) (single : Bool)
    (files : List (List Nat)) (head head' : List PTok) (segs₁ segs₂ : List (List PTok)) (end₁ end₂ : List PTok)
    (ht₁ : Lex.tokenize (lexOracles F) text₁ = .ok (head ++ segs₁.flatten ++ end₁))
    (ht₂ : Lex.tokenize (lexOracles F) text₂ = .ok (head' ++ segs₂.flatten ++ end₂))
    (he₁ : IsEnd end₁) (he₂ : IsEnd end₂)
    (hh : SelectHead head) (hhead : head'.map (·.tok) = head.map (·.tok)) (hshape : ClauseSegments segs₁)
    (hperm : (segs₁.map (fun seg => seg.map (·.tok))).Perm (segs₂.map (fun seg => seg.map (·.tok))))
    (d q : LStmt)
    (hc₁ : classesCover F defs = true ∧ classesCover F text₁ = true) (hc₂ : classesCover F text₂ = true)
    (hd : parseText (lexOracles F) (regexValidFn F) defs = .stmt d)
    (hp : (createPatterns d).all (fun re => ((Utf8.decode re).bind (regexValidOf F)).isSome) = true)
    (hq : parseText (lexOracles F) (regexValidFn F) text₁ = .stmt q) :
    runText F defs text₁ fmt single files = runText F defs text₂ fmt single files :=
  Props.Pipeline.runText_depends_on_statements F defs defs text₁ text₂ fmt single files d q hc₁ ⟨hc₁.1, hc₂⟩ hd hd hp hq
    (clause_order_invariance_text _ _ text₁ text₂ head head' segs₁ segs₂ end₁ end₂ ht₁ ht₂ he₁ he₂ hh hhead hshape hperm q hq)

/-- **Optional trailing semicolon, token vectors → statement**: let `pre` start with SELECT and contain neither `;`
nor `End`. `parsing::parse` answers a statement on `pre ++ [End]` iff it answers that statement on `pre ++ [;, End]`
(`trailing_semicolon_statement` composed with `same_tree_same_statement`). -/
theorem trailing_semicolon_lowered (rv : List Char → Bool) (pre : List PTok)
    (hsel : ∃ t ts, pre = t :: ts ∧ t.tok = .kw .select)
    (hpre : ∀ t ∈ pre, t.tok ≠ .semi ∧ t.tok ≠ .eof) (l0 l l' : Loc) (s : LStmt) :
    parseToks rv (pre ++ [⟨l0, .eof⟩]) = .stmt s ↔ parseToks rv (pre ++ [⟨l, .semi⟩, ⟨l', .eof⟩]) = .stmt s := by
  obtain ⟨k, ks, rfl, hk⟩ := hsel
  have hts := C20Parse.trailing_semicolon_statement PrecTables.code inertBoundary_code (k :: ks) hpre l0 l l'
  exact ⟨parseToks_stmt_of_select_trees rv hk (fun q ht => (hts.1 q ht).imp fun _ h => ⟨h.1, sameUpToLoc_eraseLoc h.2⟩) s,
    parseToks_stmt_of_select_trees rv hk (fun q ht => (hts.2 q ht).imp fun _ h => ⟨h.1, sameUpToLoc_eraseLoc h.2⟩) s⟩

/-- what `tokenize_append_semi` gives, read through `parseText` -/
theorem parseText_of_semiAppended (o : Lex.Oracles) (rv : List Char → Bool) (q q' : List Char)
    (happ : Lex.SemiAppended (Lex.tokenize o q) (Lex.tokenize o q'))
    (init : List PTok) (last : PTok) (hq : Lex.tokenize o q = .ok (init ++ [last])) (hsel : SelectNoSemi init) (s : LStmt) :
    parseText o rv q = .stmt s ↔ parseText o rv q' = .stmt s := by
  obtain ⟨hlast, hne⟩ := Lex.tokenize_init_noEof o q init last hq
  unfold parseText
  generalize Lex.tokenize o q = r at happ hq
  generalize Lex.tokenize o q' = r' at happ
  cases happ with
  | same r => exact Iff.rfl
  | semi pre l0 l l' =>
    simp only [Lex.Result.ok.injEq] at hq
    obtain ⟨hpre, _⟩ := List.append_inj' hq rfl
    subst hpre
    exact trailing_semicolon_lowered rv pre hsel.cons (fun t ht => ⟨hsel.2 t ht, hne t ht⟩) l0 l l' s

/-- **Optional trailing semicolon, texts** — `trailing_semicolon_text`: for EVERY query text `q` whose tokens start
with SELECT and contain no `;`, the texts `q`, `q ++ ";"` and `q ++ " ;"` parse to the same statement
(`parsing::parse` answers a statement on one iff it answers that statement on the other).
Side conditions: SELECT — the `;` of a CREATE TABLE statement is not optional (`C20Parse`, example); no `;` among the
tokens of `q` — necessary: a text ending in `;;` is accepted (`SELECT x FROM t;;` is) while the same text with one more `;`
is `TooManyTokens` (example there). Nothing is assumed about how `q` ends: a `;` appended
behind a `--` comment or inside an unterminated string literal disappears in the tokenizer, and the theorem holds
there too (`Lex.tokenize_append_semi`). -/
theorem trailing_semicolon_text (o : Lex.Oracles) (rv : List Char → Bool) (q : List Char)
    (init : List PTok) (last : PTok) (hq : Lex.tokenize o q = .ok (init ++ [last])) (hsel : SelectNoSemi init) (s : LStmt) :
    (parseText o rv q = .stmt s ↔ parseText o rv (q ++ [';']) = .stmt s) ∧
    (parseText o rv q = .stmt s ↔ parseText o rv (q ++ [' ', ';']) = .stmt s) :=
  ⟨parseText_of_semiAppended o rv q _ (Lex.tokenize_append_semi o q) init last hq hsel s,
   parseText_of_semiAppended o rv q _ (Lex.tokenize_append_space_semi o q) init last hq hsel s⟩

/-- **… and therefore the same output**: the whole program answers the same on `q`, `q ++ ";"` and `q ++ " ;"` -/
theorem trailing_semicolon_same_output (F : Facts) (defs q : List Char) (fmt : Print.Format) (single : Bool)
    (files : List (List Nat)) (init : List PTok) (last : PTok)
    (hq : Lex.tokenize (lexOracles F) q = .ok (init ++ [last])) (hsel : SelectNoSemi init) (d s : LStmt)
    (hc : classesCover F defs = true ∧ classesCover F q = true)
    (hd : parseText (lexOracles F) (regexValidFn F) defs = .stmt d)
    (hp : (createPatterns d).all (fun re => ((Utf8.decode re).bind (regexValidOf F)).isSome) = true)
    (hs : parseText (lexOracles F) (regexValidFn F) q = .stmt s) :
    runText F defs q fmt single files = runText F defs (q ++ [';']) fmt single files ∧
    runText F defs q fmt single files = runText F defs (q ++ [' ', ';']) fmt single files := by
  have hts := trailing_semicolon_text (lexOracles F) (regexValidFn F) q init last hq hsel s
  have c1 : classesCover F (q ++ [';']) = true := by
    simp only [classesCover, List.all_append, Bool.and_eq_true] at hc ⊢
    exact ⟨hc.2, by simp⟩
  have c2 : classesCover F (q ++ [' ', ';']) = true := by
    simp only [classesCover, List.all_append, Bool.and_eq_true] at hc ⊢
    exact ⟨hc.2, by simp⟩
  exact ⟨Props.Pipeline.runText_depends_on_statements F defs defs q _ fmt single files d s hc ⟨hc.1, c1⟩ hd hd hp hs (hts.1.mp hs),
    Props.Pipeline.runText_depends_on_statements F defs defs q _ fmt single files d s hc ⟨hc.1, c2⟩ hd hd hp hs (hts.2.mp hs)⟩

/-! ### letter case of function, aggregate and type names

FULL STATEMENT (what the sentence says): two texts that differ only in the letter case of function, aggregate and type
names parse to the same statement.
PROVED (`…_partial`), for SELECT statements: let `ρ` respell identifiers by a change of letter case (`NameMap ρ`: the
lower-cased word is the same; compatible with the `.` of qualified names; the two call names the parser makes up,
`create_array` and `timestamp_extract_<part>`, are fixed — every table of case changes of words with an upper-case
letter gives one, `nameMap_respell`). If the token vector `toks` starts with SELECT and is read as a tree all of whose
case-SENSITIVE names (column names, aliases, the table, the join's names) `ρ` fixes, then the vector with EVERY
identifier token `n` replaced by `ρ n` is read as that tree with its call names respelled, and lowers to the SAME
statement. That covers function names, aggregate names, the type names of casts `e::INT` (the parser looks a type up
lower-cased and stores the type, so the two trees are equal there), the word `array` of `array[…]` and the part of
`EXTRACT(part FROM e)`.
MISSING: one respelling for all tokens: a text that spells a column `COUNT` and the aggregate `COUNT(…)` and changes the
letter case of the second only is outside the side condition (`ρ` would have to fix and to change the word `COUNT`).
CREATE TABLE texts — the type names of column definitions, the pattern modes `split` / `match`, the column options — are
`Props/C20Create.lean` (per occurrence, proved outright: `create_table_name_case_tree / _statement / _text /
_same_output / _error_kind`). -/

/-- **Letter case of names, trees** (`name_case_tree_partial`): respelling every identifier token by `ρ` respells the
names of the tree; when `ρ` fixes the tree's case-sensitive names, only its call names -/
theorem name_case_tree_partial (ρ : List Char → List Char) (hρ : NameMap ρ) (toks : List PTok) (hs : SelectVector toks)
    (t : POp) (ht : parseTokens PrecTables.code toks = .tree t) :
    parseTokens PrecTables.code (toks.map (PTok.ren ρ)) = .tree (t.renAll ρ) ∧
    (t.namesFixed ρ = true → parseTokens PrecTables.code (toks.map (PTok.ren ρ)) = .tree (t.renameCalls ρ)) := by
  have h := parseTokens_select_ren hρ noIdentOps_code toks hs
  rw [ht] at h
  exact ⟨h, fun hf => by rw [h, ParseOutcome.ren, POp.renAll_of_fixed hf]⟩

/-- **Letter case of function, aggregate and type names, statements** (`name_case_statement_partial`): … and therefore
`parsing::parse` answers the SAME `LStmt` on the respelled vector -/
theorem name_case_statement_partial (rv : List Char → Bool) (ρ : List Char → List Char) (hρ : NameMap ρ)
    (toks : List PTok) (hs : SelectVector toks) (t : POp) (ht : parseTokens PrecTables.code toks = .tree t)
    (hfix : t.namesFixed ρ = true) (s : LStmt) (h : parseToks rv toks = .stmt s) :
    parseToks rv (toks.map (PTok.ren ρ)) = .stmt s := by
  obtain ⟨t', ht', hl⟩ := tree_of_parseToks_stmt h
  cases ht.symm.trans ht'
  unfold parseToks
  rw [(name_case_tree_partial ρ hρ toks hs t ht).2 hfix]
  show lowerTree rv (t.renameCalls ρ) = .stmt s
  rw [lowerTree, C20Parse.names_case_insensitive_statement ρ hρ.caseOnly rv t, hl]
  rfl

/-- **… texts** (`name_case_text_partial`): two texts whose token vectors carry the same tokens up to the respelling
(at any locations) parse to the same statement -/
theorem name_case_text_partial (o : Lex.Oracles) (rv : List Char → Bool) (ρ : List Char → List Char) (hρ : NameMap ρ)
    (text₁ text₂ : List Char) (ts₁ ts₂ : List PTok)
    (ht₁ : Lex.tokenize o text₁ = .ok ts₁) (ht₂ : Lex.tokenize o text₂ = .ok ts₂)
    (hren : ts₂.map (·.tok) = ts₁.map (fun t => t.tok.ren ρ)) (hs : SelectVector ts₁)
    (t : POp) (ht : parseTokens PrecTables.code ts₁ = .tree t) (hfix : t.namesFixed ρ = true)
    (s : LStmt) (h : parseText o rv text₁ = .stmt s) : parseText o rv text₂ = .stmt s := by
  rw [parseText_of_tokenize ht₁] at h
  rw [parseText_of_tokenize ht₂]
  have h1 := name_case_statement_partial rv ρ hρ ts₁ hs t ht hfix s h
  refine Props.Pipeline.location_blind rv (ts₁.map (PTok.ren ρ)) ts₂ ?_ s h1
  rw [hren, List.map_map]
  rfl

/-- **… and therefore the same output** -/
theorem name_case_same_output_partial (F : Facts) (ρ : List Char → List Char) (hρ : NameMap ρ)
    (defs text₁ text₂ : List Char) (fmt : Print.Format) (single : Bool) (files : List (List Nat)) (ts₁ ts₂ : List PTok)
    (ht₁ : Lex.tokenize (lexOracles F) text₁ = .ok ts₁) (ht₂ : Lex.tokenize (lexOracles F) text₂ = .ok ts₂)
    (hren : ts₂.map (·.tok) = ts₁.map (fun t => t.tok.ren ρ)) (hs : SelectVector ts₁)
    (t : POp) (ht : parseTokens PrecTables.code ts₁ = .tree t) (hfix : t.namesFixed ρ = true) (d q : LStmt)
    (hc₁ : classesCover F defs = true ∧ classesCover F text₁ = true) (hc₂ : classesCover F text₂ = true)
    (hd : parseText (lexOracles F) (regexValidFn F) defs = .stmt d)
    (hp : (createPatterns d).all (fun re => ((Utf8.decode re).bind (regexValidOf F)).isSome) = true)
    (hq : parseText (lexOracles F) (regexValidFn F) text₁ = .stmt q) :
    runText F defs text₁ fmt single files = runText F defs text₂ fmt single files :=
  Props.Pipeline.runText_depends_on_statements F defs defs text₁ text₂ fmt single files d q hc₁ ⟨hc₁.1, hc₂⟩ hd hd hp hq
    (name_case_text_partial _ _ ρ hρ text₁ text₂ ts₁ ts₂ ht₁ ht₂ hren hs t ht hfix q hq)

/-! ### non-vacuity: concrete texts (kernel-evaluated)

The kernel takes the characters of a string literal in quadratic time; `String.toList_ofList`, once per long text,
hands it the list before it evaluates. -/

/-- the token vector of an ASCII text -/
def exToks (text : String) : List PTok :=
  match Lex.tokenize Lex.Tables.asciiOnly text.toList with
  | .ok ts => ts
  | _ => []

def isStmt : Parsed → Bool
  | .stmt _ => true
  | _ => false

/-- for evaluation: the token vector of a text handed over as the list of its characters -/
theorem exToks_ofList (l : List Char) :
    exToks (String.ofList l) =
      match Lex.tokenizeK (Generated.keywords.lookup ·) Lex.Tables.asciiOnly l with
      | .ok ts => ts
      | _ => [] := by
  rw [exToks, String.toList_ofList, Lex.tokenize_eq_K]

def exQ1 : String := "SELECT x FROM t WHERE x > 1 LIMIT 2"
def exQ2 : String := "select x from t LIMIT 2 WHERE x > 1;"
/-- `SELECT x FROM t` · [`WHERE x > 1`, `LIMIT 2`] · `End` -/
def exHead1 : List PTok := (exToks exQ1).take 4
def exSegs1 : List (List PTok) := [((exToks exQ1).drop 4).take 4, ((exToks exQ1).drop 8).take 2]
def exEnd1 : List PTok := (exToks exQ1).drop 10
/-- `select x from t` · [`LIMIT 2`, `WHERE x > 1`] · `;` `End` -/
def exHead2 : List PTok := (exToks exQ2).take 4
def exSegs2 : List (List PTok) := [((exToks exQ2).drop 4).take 2, ((exToks exQ2).drop 6).take 4]
def exEnd2 : List PTok := (exToks exQ2).drop 10

/-- every hypothesis of `clause_order_invariance_text` holds on `SELECT x FROM t WHERE x > 1 LIMIT 2` against
`select x from t LIMIT 2 WHERE x > 1;` (other clause order, other keyword case, a trailing `;`): the token vectors are
head (4 tokens) ++ two clause segments ++ end, the segments are clause-shaped, the second vector's segments are a
rearrangement of the first's, and the first text parses to a statement -/
theorem exClauseOrderHyps :
    Lex.tokenize Lex.Tables.asciiOnly exQ1.toList = .ok (exHead1 ++ exSegs1.flatten ++ exEnd1) ∧
    Lex.tokenize Lex.Tables.asciiOnly exQ2.toList = .ok (exHead2 ++ exSegs2.flatten ++ exEnd2) ∧
    IsEnd exEnd1 ∧ IsEnd exEnd2 ∧ SelectHead exHead1 ∧ exHead2.map (·.tok) = exHead1.map (·.tok) ∧
    ClauseSegments exSegs1 ∧
    (exSegs1.map (fun seg => seg.map (·.tok))).Perm (exSegs2.map (fun seg => seg.map (·.tok))) ∧
    isStmt (parseText Lex.Tables.asciiOnly (fun _ => true) exQ1.toList) = true := by
  unfold exHead1 exSegs1 exEnd1 exHead2 exSegs2 exEnd2
  rw [exQ1, exQ2, exToks_ofList, exToks_ofList, String.toList_ofList, String.toList_ofList, Lex.tokenize_eq_K, Lex.tokenize_eq_K,
    parseText_eq_K]
  decide +kernel

/-- … so the theorem applies: whatever statement the first text parses to, the second parses to it -/
example (s : LStmt) (h : parseText Lex.Tables.asciiOnly (fun _ => true) exQ1.toList = .stmt s) :
    parseText Lex.Tables.asciiOnly (fun _ => true) exQ2.toList = .stmt s :=
  clause_order_invariance_text _ _ _ _ exHead1 exHead2 exSegs1 exSegs2 exEnd1 exEnd2 exClauseOrderHyps.1
    exClauseOrderHyps.2.1 exClauseOrderHyps.2.2.1 exClauseOrderHyps.2.2.2.1 exClauseOrderHyps.2.2.2.2.1
    exClauseOrderHyps.2.2.2.2.2.1 exClauseOrderHyps.2.2.2.2.2.2.1 exClauseOrderHyps.2.2.2.2.2.2.2.1 s h

/-- all five clauses in two orders (and with / without `;`), through the whole program: the same printed records -/
example :
    Props.Pipeline.recordsOf (runText Props.Pipeline.exFacts Props.Pipeline.exDefs
      "SELECT k, COUNT(*) FROM t WHERE v > 0 GROUP BY k HAVING COUNT(*) > 0 LIMIT 5".toList .text false [strBytes "a;1\nb;2\n"]) =
    Props.Pipeline.recordsOf (runText Props.Pipeline.exFacts Props.Pipeline.exDefs
      "SELECT k, COUNT(*) FROM t LIMIT 5 HAVING COUNT(*) > 0 GROUP BY k WHERE v > 0;".toList .text false [strBytes "a;1\nb;2\n"]) ∧
    (Props.Pipeline.recordsOf (runText Props.Pipeline.exFacts Props.Pipeline.exDefs
      "SELECT k, COUNT(*) FROM t WHERE v > 0 GROUP BY k HAVING COUNT(*) > 0 LIMIT 5".toList .text false [strBytes "a;1\nb;2\n"])).isSome = true := by
  simp only [Props.Pipeline.exRun]; rw [String.toList_ofList, String.toList_ofList]; decide +kernel

def exQ3 : String := "select COUNT(*) from t"

/-- every hypothesis of `trailing_semicolon_text` holds on `select COUNT(*) from t`: its tokens in front of `End` start
with SELECT and contain no `;`, and it parses to a statement -/
theorem exSemicolonHyps :
    Lex.tokenize Lex.Tables.asciiOnly exQ3.toList = .ok ((exToks exQ3).dropLast ++ [(exToks exQ3).getLast!]) ∧
    SelectNoSemi (exToks exQ3).dropLast ∧ isStmt (parseText Lex.Tables.asciiOnly (fun _ => true) exQ3.toList) = true := by
  rw [exQ3, exToks_ofList, String.toList_ofList, Lex.tokenize_eq_K, parseText_eq_K]; decide +kernel

/-- … so the theorem applies: `select COUNT(*) from t;` and `select COUNT(*) from t ;` parse to the statement of
`select COUNT(*) from t` -/
example (s : LStmt) (h : parseText Lex.Tables.asciiOnly (fun _ => true) exQ3.toList = .stmt s) :
    parseText Lex.Tables.asciiOnly (fun _ => true) (exQ3.toList ++ [';']) = .stmt s ∧
    parseText Lex.Tables.asciiOnly (fun _ => true) (exQ3.toList ++ [' ', ';']) = .stmt s :=
  have t := trailing_semicolon_text Lex.Tables.asciiOnly (fun _ => true) exQ3.toList _ _ exSemicolonHyps.1 exSemicolonHyps.2.1 s
  ⟨t.1.mp h, t.2.mp h⟩

/-- with and without `;`, and with a `;` that falls into a `--` comment, through the whole program -/
example :
    Props.Pipeline.recordsOf (runText Props.Pipeline.exFacts Props.Pipeline.exDefs "select COUNT(*) from t".toList .json true [strBytes "a;1\nb;2\n"]) =
    Props.Pipeline.recordsOf (runText Props.Pipeline.exFacts Props.Pipeline.exDefs "select COUNT(*) from t;".toList .json true [strBytes "a;1\nb;2\n"]) ∧
    Props.Pipeline.recordsOf (runText Props.Pipeline.exFacts Props.Pipeline.exDefs "select COUNT(*) from t".toList .json true [strBytes "a;1\nb;2\n"]) =
    Props.Pipeline.recordsOf (runText Props.Pipeline.exFacts Props.Pipeline.exDefs "select COUNT(*) from t ;".toList .json true [strBytes "a;1\nb;2\n"]) ∧
    Props.Pipeline.recordsOf (runText Props.Pipeline.exFacts Props.Pipeline.exDefs "select COUNT(*) from t".toList .json true [strBytes "a;1\nb;2\n"]) =
    Props.Pipeline.recordsOf (runText Props.Pipeline.exFacts Props.Pipeline.exDefs "select COUNT(*) from t -- rows;".toList .json true [strBytes "a;1\nb;2\n"]) ∧
    (Props.Pipeline.recordsOf (runText Props.Pipeline.exFacts Props.Pipeline.exDefs "select COUNT(*) from t".toList .json true [strBytes "a;1\nb;2\n"])).isSome = true := by
  simp only [Props.Pipeline.exRun]
  rw [String.toList_ofList, String.toList_ofList, String.toList_ofList, String.toList_ofList]; decide +kernel

def exQ4 : String := "select COUNT(*), Abs(x)::INT from t where X > 1"
def exQ5 : String := "SELECT count(*), abs(x)::int FROM t WHERE X > 1"
/-- `COUNT` ↦ `count`, `Abs` ↦ `abs`, `INT` ↦ `int`; the column `X` keeps its spelling -/
def exTable : List (List Char × List Char) :=
  [("COUNT".toList, "count".toList), ("Abs".toList, "abs".toList), ("INT".toList, "int".toList)]

def treeOf : ParseOutcome → Option POp
  | .tree t => some t
  | _ => none

/-- every hypothesis of `name_case_text_partial` holds on `select COUNT(*), Abs(x)::INT from t where X > 1` against
`SELECT count(*), abs(x)::int FROM t WHERE X > 1`: the table is a table of case changes, the second text's tokens are
the first's respelled, the first text starts with SELECT and parses to a tree whose case-sensitive names (`x`, `X`,
`t`) the respelling fixes, and to a statement -/
theorem exNameCaseHyps :
    RespellTable exTable = true ∧
    (exToks exQ5).map (·.tok) = (exToks exQ4).map (fun t => t.tok.ren (segwise (respell exTable))) ∧
    SelectVector (exToks exQ4) ∧
    ((treeOf (parseTokens PrecTables.code (exToks exQ4))).map (POp.namesFixed (segwise (respell exTable)))) = some true ∧
    Lex.tokenize Lex.Tables.asciiOnly exQ4.toList = .ok (exToks exQ4) ∧
    Lex.tokenize Lex.Tables.asciiOnly exQ5.toList = .ok (exToks exQ5) ∧
    isStmt (parseText Lex.Tables.asciiOnly (fun _ => true) exQ4.toList) = true := by
  rw [exQ4, exQ5, exToks_ofList, exToks_ofList, String.toList_ofList, String.toList_ofList, Lex.tokenize_eq_K, Lex.tokenize_eq_K,
    parseText_eq_K]
  decide +kernel

/-- … so the theorem applies: whatever statement the first text parses to, the second parses to it -/
example (s : LStmt) (h : parseText Lex.Tables.asciiOnly (fun _ => true) exQ4.toList = .stmt s) :
    parseText Lex.Tables.asciiOnly (fun _ => true) exQ5.toList = .stmt s := by
  obtain ⟨h1, h2, h3, h4, h5, h6, _⟩ := exNameCaseHyps
  cases ht : parseTokens PrecTables.code (exToks exQ4) with
  | tree t =>
    rw [ht] at h4
    simp only [treeOf, Option.map_some, Option.some.injEq] at h4
    exact name_case_text_partial _ _ _ (nameMap_respell exTable h1) _ _ _ _ h5 h6 h2 h3 t ht h4 s h
  | error e => rw [ht] at h4; cases h4
  | fuel => rw [ht] at h4; cases h4
  | panic => rw [ht] at h4; cases h4

/-- function, aggregate and cast-type names in two spellings, through the whole program: the same printed records -/
example :
    Props.Pipeline.recordsOf (runText Props.Pipeline.exFacts Props.Pipeline.exDefs
      "SELECT k, Abs(v)::TEXT FROM t WHERE Abs(v) > 0".toList .text false [strBytes "a;1\nb;2\n"]) =
    Props.Pipeline.recordsOf (runText Props.Pipeline.exFacts Props.Pipeline.exDefs
      "select k, ABS(v)::text from t where abs(v) > 0".toList .text false [strBytes "a;1\nb;2\n"]) ∧
    Props.Pipeline.recordsOf (runText Props.Pipeline.exFacts Props.Pipeline.exDefs
      "SELECT k, MAX(v), COUNT(*) FROM t GROUP BY k".toList .text false [strBytes "a;1\nb;2\n"]) =
    Props.Pipeline.recordsOf (runText Props.Pipeline.exFacts Props.Pipeline.exDefs
      "SELECT k, max(v), Count(*) FROM t GROUP BY k".toList .text false [strBytes "a;1\nb;2\n"]) ∧
    (Props.Pipeline.recordsOf (runText Props.Pipeline.exFacts Props.Pipeline.exDefs
      "SELECT k, Abs(v)::TEXT FROM t WHERE Abs(v) > 0".toList .text false [strBytes "a;1\nb;2\n"])).isSome = true ∧
    (Props.Pipeline.recordsOf (runText Props.Pipeline.exFacts Props.Pipeline.exDefs
      "SELECT k, MAX(v), COUNT(*) FROM t GROUP BY k".toList .text false [strBytes "a;1\nb;2\n"])).isSome = true := by
  simp only [Props.Pipeline.exRun]
  rw [String.toList_ofList, String.toList_ofList, String.toList_ofList, String.toList_ofList]; decide +kernel

end Sqlgrep.Props.C20Stmt
