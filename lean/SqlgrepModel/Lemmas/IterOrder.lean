import SqlgrepModel.Model.Exec
import SqlgrepModel.Lemmas.ValueOrder
import SqlgrepModel.Lemmas.Outcome
import SqlgrepModel.Lemmas.AggMap
/-
Representation independence of the aggregation state (property C18).

The Rust engine keeps `BTreeMap<GroupKey, HashMap<usize, _>>`; the model keeps the inner hash maps as
association lists. The only place where the code *iterates* such a hash map is the first loop of
`execute_result` (percentile aggregators publish their value). Here: two states that denote the same maps but
list the entries of the inner maps in any order (`StRel`) are indistinguishable — every engine operation maps
related states to related states and gives equal outputs; in particular `publishPercentiles`, which folds over
the entries, does not depend on their order.
-/
namespace Sqlgrep.Iter
open Sqlgrep

abbrev keys {α : Type} (l : List (Nat × α)) : List Nat := l.map (·.1)

theorem alGet_nil {α : Type} (i : Nat) : alGet ([] : List (Nat × α)) i = none := rfl

theorem alGet_eq_none {α : Type} (l : List (Nat × α)) (i : Nat) : alGet l i = none ↔ i ∉ keys l := by
  induction l with
  | nil => simp [alGet_nil, keys]
  | cons p l ih =>
    rw [alGet_cons]
    by_cases h : p.1 = i
    · simp [h, keys]
    · simp only [h, if_false, ih, keys, List.map_cons, List.mem_cons, not_or]
      constructor
      · intro h2; exact ⟨fun e => h e.symm, h2⟩
      · intro h2; exact h2.2

/-- a HashMap insert: afterwards `i ↦ v`, every other key as before -/
theorem alGet_alSet {α : Type} (l : List (Nat × α)) (i j : Nat) (v : α) :
    alGet (alSet l i v) j = if j = i then some v else alGet l j :=
  (Sqlgrep.alGet_alSet l i j v).trans (ite_congr (propext eq_comm) (fun _ => rfl) fun _ => rfl)

theorem keys_alSet_nodup {α : Type} (l : List (Nat × α)) (i : Nat) (v : α) (h : (keys l).Nodup) :
    (keys (alSet l i v)).Nodup :=
  alSet_nodup l i v h

/-- the two lists denote the same map and neither lists a key twice (they may list the entries in different orders) -/
def SubRel {α : Type} (a b : List (Nat × α)) : Prop :=
  (∀ i, alGet a i = alGet b i) ∧ (keys a).Nodup ∧ (keys b).Nodup

theorem SubRel.symm {α : Type} {a b : List (Nat × α)} (h : SubRel a b) : SubRel b a :=
  ⟨fun i => (h.1 i).symm, h.2.2, h.2.1⟩

theorem SubRel.trans {α : Type} {a b c : List (Nat × α)} (h1 : SubRel a b) (h2 : SubRel b c) : SubRel a c :=
  ⟨fun i => (h1.1 i).trans (h2.1 i), h1.2.1, h2.2.2⟩

theorem SubRel.nil {α : Type} : SubRel ([] : List (Nat × α)) [] := ⟨fun _ => rfl, List.nodup_nil, List.nodup_nil⟩

theorem SubRel.set {α : Type} {a b : List (Nat × α)} (h : SubRel a b) (i : Nat) (v : α) :
    SubRel (Sqlgrep.alSet a i v) (Sqlgrep.alSet b i v) :=
  ⟨fun j => by rw [alGet_alSet, alGet_alSet, h.1 j], keys_alSet_nodup a i v h.2.1, keys_alSet_nodup b i v h.2.2⟩

theorem SubRel.set_comm {α : Type} {a b : List (Nat × α)} (h : SubRel a b) (i j : Nat) (v w : α) (hij : i ≠ j) :
    SubRel (Sqlgrep.alSet (Sqlgrep.alSet a i v) j w) (Sqlgrep.alSet (Sqlgrep.alSet b j w) i v) := by
  refine ⟨fun k => ?_, keys_alSet_nodup _ _ _ (keys_alSet_nodup a i v h.2.1), keys_alSet_nodup _ _ _ (keys_alSet_nodup b j w h.2.2)⟩
  simp only [alGet_alSet, h.1 k]
  by_cases hk : k = j
  · subst hk
    have : ¬ k = i := fun e => hij e.symm
    simp [this]
  · simp [hk]

theorem nodup_of_keys_nodup {α : Type} {l : List (Nat × α)} (h : (keys l).Nodup) : l.Nodup :=
  List.Pairwise.of_map (·.1) (fun a b hne e => hne (by rw [e])) h

/-- lists that denote the same map without repeated keys are permutations of each other: `SubRel` is exactly
"the same hash map, iterated in some other order" -/
theorem SubRel.perm {α : Type} {a b : List (Nat × α)} (h : SubRel a b) : a.Perm b := by
  rw [List.perm_ext_iff_of_nodup (nodup_of_keys_nodup h.2.1) (nodup_of_keys_nodup h.2.2)]
  intro p
  obtain ⟨i, v⟩ := p
  constructor
  · intro m
    have := alGet_of_mem h.2.1 m
    rw [h.1 i] at this
    exact mem_of_alGet this
  · intro m
    have := alGet_of_mem h.2.2 m
    rw [← h.1 i] at this
    exact mem_of_alGet this

theorem SubRel.of_perm {α : Type} {a b : List (Nat × α)} (p : a.Perm b) (hn : (keys a).Nodup) : SubRel a b := by
  have hb : (keys b).Nodup := (List.Perm.map _ p).nodup hn
  refine ⟨fun i => ?_, hn, hb⟩
  cases hg : alGet a i with
  | some v =>
    have := alGet_of_mem hb (p.mem_iff.1 (mem_of_alGet hg))
    rw [this]
  | none =>
    have hk := (alGet_eq_none a i).1 hg
    have : i ∉ keys b := fun m => hk ((List.Perm.map _ p).mem_iff.2 m)
    rw [(alGet_eq_none b i).2 this]

/-- same groups in the same (B-tree) order, each inner hash map the same map -/
inductive GmEq {α : Type} : GroupMap α → GroupMap α → Prop
  | nil : GmEq [] []
  | cons {k : List Value} {s1 s2 : List (Nat × α)} {r1 r2 : GroupMap α} :
      SubRel s1 s2 → GmEq r1 r2 → GmEq ((k, s1) :: r1) ((k, s2) :: r2)

theorem GmEq.symm {α : Type} {m1 m2 : GroupMap α} (h : GmEq m1 m2) : GmEq m2 m1 := by
  induction h with
  | nil => exact .nil
  | cons hs _ ih => exact .cons hs.symm ih

theorem GmEq.trans {α : Type} {m1 m2 m3 : GroupMap α} (h1 : GmEq m1 m2) (h2 : GmEq m2 m3) : GmEq m1 m3 := by
  induction h1 generalizing m3 with
  | nil => cases h2; exact .nil
  | cons hs _ ih =>
    cases h2 with
    | cons hs2 hr2 => exact .cons (hs.trans hs2) (ih hr2)

theorem gmLookup_nil {α : Type} (k : List Value) (i : Nat) : gmLookup ([] : GroupMap α) k i = none := rfl

theorem gmLookup_cons {α : Type} (k0 : List Value) (s : List (Nat × α)) (r : GroupMap α) (k : List Value) (i : Nat) :
    gmLookup ((k0, s) :: r) k i = if (Value.cmpList k0 k == .eq) = true then alGet s i else gmLookup r k i := by
  unfold gmLookup gmGet
  rw [List.find?_cons]
  by_cases h : (Value.cmpList k0 k == .eq) = true
  · simp only [h, if_true]; rfl
  · have hb : (Value.cmpList k0 k == .eq) = false := by simpa using h
    simp only [hb, Bool.false_eq_true, if_false]

theorem GmEq.lookup {α : Type} {m1 m2 : GroupMap α} (h : GmEq m1 m2) (k : List Value) (i : Nat) :
    gmLookup m1 k i = gmLookup m2 k i := by
  induction h with
  | nil => rfl
  | cons hs _ ih => rw [gmLookup_cons, gmLookup_cons, hs.1 i, ih]

theorem GmEq.modify {α : Type} {m1 m2 : GroupMap α} (h : GmEq m1 m2) (k : List Value)
    (f g : List (Nat × α) → List (Nat × α)) (hf : ∀ a b, SubRel a b → SubRel (f a) (g b)) :
    GmEq (gmModify m1 k f) (gmModify m2 k g) := by
  induction h with
  | nil => exact .cons (hf _ _ SubRel.nil) .nil
  | @cons k0 s1 s2 r1 r2 hs hr ih =>
    unfold gmModify
    cases Value.cmpList k k0 with
    | lt => exact .cons (hf _ _ SubRel.nil) (.cons hs hr)
    | eq => exact .cons (hf _ _ hs) hr
    | gt => exact .cons hs ih

theorem GmEq.set {α : Type} {m1 m2 : GroupMap α} (h : GmEq m1 m2) (k : List Value) (i : Nat) (v : α) :
    GmEq (gmSet m1 k i v) (gmSet m2 k i v) :=
  h.modify k _ _ (fun _ _ hs => hs.set i v)

theorem gmModify_gmModify {α : Type} (m : GroupMap α) (k : List Value) (f g : List (Nat × α) → List (Nat × α)) :
    gmModify (gmModify m k f) k g = gmModify m k (fun s => g (f s)) := by
  induction m with
  | nil => simp [gmModify, cmpList_refl]
  | cons p r ih =>
    have e : ∀ f : List (Nat × α) → List (Nat × α), gmModify (p :: r) k f =
        match Value.cmpList k p.1 with
        | .lt => (k, f []) :: p :: r
        | .eq => (p.1, f p.2) :: r
        | .gt => p :: gmModify r k f := fun f => by rw [gmModify]; rfl
    rw [e f, e (fun s => g (f s))]
    cases h : Value.cmpList k p.1 with
    | lt => simp only []; rw [gmModify]; simp [cmpList_refl]
    | eq => simp only []; rw [gmModify]; simp [h]
    | gt => simp only []; rw [gmModify]; simp [h, ih]

theorem GmEq.set_comm {α : Type} {m1 m2 : GroupMap α} (h : GmEq m1 m2) (k : List Value) (i j : Nat) (v w : α) (hij : i ≠ j) :
    GmEq (gmSet (gmSet m1 k i v) k j w) (gmSet (gmSet m2 k j w) k i v) := by
  unfold gmSet
  rw [gmModify_gmModify, gmModify_gmModify]
  exact h.modify k _ _ (fun _ _ hs => hs.set_comm i j v w hij)

structure StRel (a b : AggState) : Prop where
  aggs : GmEq a.aggs b.aggs
  vals : GmEq a.vals b.vals

theorem StRel.symm {a b : AggState} (h : StRel a b) : StRel b a := ⟨h.aggs.symm, h.vals.symm⟩
theorem StRel.trans {a b c : AggState} (h1 : StRel a b) (h2 : StRel b c) : StRel a c :=
  ⟨h1.aggs.trans h2.aggs, h1.vals.trans h2.vals⟩
theorem StRel.init : StRel {} {} := ⟨.nil, .nil⟩

theorem StRel.readCell {a b : AggState} (h : StRel a b) (k : List Value) (i : Nat) : readCell a k i = readCell b k i := by
  unfold Sqlgrep.readCell
  rw [h.aggs.lookup, h.vals.lookup]

theorem StRel.setVal {a b : AggState} (h : StRel a b) (k : List Value) (i : Nat) (v : Value) :
    StRel (setVal a k i v) (setVal b k i v) := ⟨h.aggs, h.vals.set k i v⟩

theorem StRel.setAgg {a b : AggState} (h : StRel a b) (k : List Value) (i : Nat) (v : Aggregator) :
    StRel (setAgg a k i v) (setAgg b k i v) := ⟨h.aggs.set k i v, h.vals⟩

theorem StRel.writeCell {a b : AggState} (h : StRel a b) (k : List Value) (i : Nat) (c : Cell) :
    StRel (writeCell a k i c) (writeCell b k i c) := by
  unfold Sqlgrep.writeCell
  cases c.agg <;> cases c.val <;> simp only <;> first | exact h | exact h.setVal _ _ _ | exact h.setAgg _ _ _ | exact (h.setAgg _ _ _).setVal _ _ _

/-- `Outcome.bind_eq_ok` under this namespace -/
theorem bind_eq_ok {α β : Type} {x : Outcome α} {f : α → Outcome β} {b : β} (h : (x >>= f) = .ok b) :
    ∃ a, x = .ok a ∧ f a = .ok b := Outcome.bind_eq_ok h

end Sqlgrep.Iter
