import SqlgrepModel.Lemmas.ClimbSpine
/-
`climb_correct` on the production model: for every well-formed precedence table and every reference expression,
the expression parser run on the minimal-parenthesis printing of the expression followed by a stopping token returns
the expression's tree and stops in front of that token.
-/
namespace Sqlgrep.Spec
open Sqlgrep.Parse

variable {T : PrecTables}

theorem fixed_defined (hT : T.WF) {t : Tok}
    (h : t ∈ [Tok.kw .is, .kw .isNot, .kw .and, .kw .or, .kw .in, .kw .notIn, .lsq, .dcolon]) :
    0 ≤ tokPrec T t ∧ tokPrec T t < dotPrec T :=
  tokPrec_other_range hT (fun o ho => by simp [ho] at h) (hT.2.2.2.1 t h)

theorem bop_range (hT : T.WF) {o : BOp} (h : ∀ s, o = .sym s → s ≠ .single '.' ∧ (lookupOp T.binary s).isSome) :
    0 ≤ tokPrec T o.tok ∧ tokPrec T o.tok < dotPrec T := by
  cases o with
  | sym s => exact tokPrec_op_range hT (h s rfl).2 (h s rfl).1
  | _ => exact fixed_defined hT (by simp [BOp.tok])

theorem Sp.lvl_range (hT : T.WF) {q : Sp} (h : q.WF T) : 0 ≤ q.lvl T ∧ q.lvl T < dotPrec T := by
  cases q with
  | bin o r => exact bop_range hT h.1
  | inl n v vs => cases n <;> exact fixed_defined hT (by simp [Sp.tok, RExpr.inTok])
  | _ => exact fixed_defined hT (by simp [Sp.tok])

theorem Sp.defined {q : Sp} (h : q.WF T) : Defined T q.tok := by
  intro s hs
  cases q with
  | bin o r => cases o <;> cases hs; exact (h.1 _ rfl).2
  | _ => cases hs

theorem Sp.tok_ne_lp (q : Sp) : q.tok ≠ .lp := by
  cases q with
  | bin o r => cases o <;> simp [Sp.tok, BOp.tok]
  | _ => simp [Sp.tok, RExpr.inTok]

theorem Sp.flat_head (T : PrecTables) (q : Sp) : ∃ ts, q.flat T = q.tok :: ts := by
  cases q <;> exact ⟨_, rfl⟩

theorem needsParen_zero (hT : T.WF) {e : RExpr} (he : RExpr.WF T e) : e.needsParen T 0 = false := by
  rcases spine_cases e with ⟨a, q, rfl⟩ | hs
  · have := (Sp.lvl_range hT (WF_plug he).2).1
    rw [needsParen_plug]; exact decide_eq_false (by omega)
  · cases e <;> first | (cases hs; done) | rfl

theorem pr_eq_wrap (hT : T.WF) {e : RExpr} (he : RExpr.WF T e) (c : Int) :
    e.pr T c = RExpr.wrap (e.needsParen T c) (e.pr T 0) := by
  rcases spine_cases e with ⟨a, q, rfl⟩ | hs
  · have h0 := needsParen_zero hT he
    rw [needsParen_plug] at h0
    rw [pr_plug, pr_plug, needsParen_plug, h0]; rfl
  · cases e <;> first | (cases hs; done) | rfl

/-- the parser inverts the printer on `e`, at every loop level, in front of every stopping state -/
def OK (T : PrecTables) (e : RExpr) : Prop :=
  ∀ (m : Int) (rest : PSt), m ≤ dotPrec T → rest.cur.loc = default → Stops T m rest →
    PExprAt T m (pushAll (e.pr T m) rest) e.embed rest

def prefixLevel : RExpr → Int
  | .not _ => notLevel
  | .neg _ => negLevel
  | _ => 0

/-- `parse_unary_operator` alone reads an unparenthesised prefix expression when what follows stops its operand loop -/
def OKU (T : PrecTables) (e : RExpr) : Prop :=
  e.isPrefix = true → ∀ (rest : PSt), rest.cur.loc = default → Stops T (prefixLevel e + 1) rest →
    PU T (pushAll (e.pr T 0) rest) e.embed rest

def Below (T : PrecTables) (k : Nat) : Prop := ∀ x : RExpr, x.size < k → RExpr.WF T x → OK T x

theorem WFs_mem {vs : List RExpr} (h : RExpr.WFs T vs) {x : RExpr} (hx : x ∈ vs) : RExpr.WF T x := by
  induction vs with
  | nil => cases hx
  | cons v vs ih =>
    rcases List.mem_cons.mp hx with rfl | hx
    · exact h.1
    · exact ih h.2 hx

theorem WFClauses_mem {cs : List (RExpr × RExpr)} (h : RExpr.WFClauses T cs) {p : RExpr × RExpr} (hp : p ∈ cs) :
    RExpr.WF T p.1 ∧ RExpr.WF T p.2 := by
  induction cs with
  | nil => cases hp
  | cons q qs ih =>
    rcases List.mem_cons.mp hp with rfl | hp
    · exact ⟨h.1, h.2.1⟩
    · exact ih h.2.2 hp

theorem Below.list {k : Nat} (ih : Below T k) {vs : List RExpr} (hs : RExpr.sizes vs ≤ k) (hw : RExpr.WFs T vs) :
    ∀ x ∈ vs, OK T x :=
  fun x hx => ih x (by have := RExpr.size_lt_sizes hx; omega) (WFs_mem hw hx)

theorem OK.before (hT : T.WF) {x : RExpr} (h : OK T x) {t : Tok} (ht : t ∈ delims) (S : PSt) :
    PExprAt T 0 (pushAll (x.pr T 0) (push t S)) x.embed (push t S) :=
  h 0 _ (by have := dotPrec_ge8 hT; omega) rfl (Stops.delim hT (Int.le_refl 0) ht S)

theorem OK.closed (hT : T.WF) {x : RExpr} (h : OK T x) {t : Tok} (ht : t ∈ delims) (S : PSt) :
    PE T (pushAll (x.pr T 0) (push t S)) x.embed (push t S) :=
  PE_of_at T (h.before hT ht S)

/-- what follows an operand printed at level `p + 1` inside a spine stops the operand's loop -/
theorem stops_flat {m p : Int} (ps : List Sp) (rest : PSt) (hmp : m ≤ p) (hrest : Stops T m rest)
    (hps : ∀ q ∈ ps, q.lvl T ≤ p) (hwf : ∀ q ∈ ps, q.WF T) : Stops T (p + 1) (pushAll (flat T ps) rest) := by
  cases ps with
  | nil => exact hrest.mono (by omega)
  | cons q qs =>
    obtain ⟨ts, hts⟩ := Sp.flat_head T q
    simp only [flat, hts, List.cons_append, pushAll_cons]
    have := hps q (by simp)
    exact Stops.of_tok q.tok_ne_lp (Sp.defined (hwf q (by simp))) (by rw [push_tok]; unfold Sp.lvl at this; omega)

/-- `parse_list` on a printed, comma-separated, non-empty list closed by `)` or `]`; the list does not begin with the
closing token nor with DISTINCT -/
theorem list_ok (hT : T.WF) {close : Tok} (hcl : close = .rp ∨ close = .rsq) :
    ∀ (vs : List RExpr) (v : RExpr) (acc : List PExpr) (Y : PSt), OK T v → (∀ x ∈ vs, OK T x) →
    let s := pushAll (v.pr T 0 ++ RExpr.prTail T vs ++ [close]) Y
    PL T close acc s (acc ++ v.embed :: RExpr.embeds vs) Y ∧ s.cur.tok ≠ close ∧ s.cur.tok ≠ .kw .distinct
  | [], v, acc, Y, hv, _ => by
    simp only [RExpr.prTail, List.append_nil, pushAll_append, pushAll_cons, pushAll_nil, RExpr.embeds]
    have hx := hv.before hT (t := close) (by rcases hcl with rfl | rfl <;> simp [delims]) Y
    have h1 := PExprAt_first T hx
    exact ⟨PL_last T (PE_of_at T hx) .push, by rcases hcl with rfl | rfl <;> simp [h1], h1.2.2⟩
  | w :: ws, v, acc, Y, hv, hvs => by
    have hw := (list_ok hT hcl ws w (acc ++ [v.embed]) Y (hvs w (by simp)) (fun x hx => hvs x (by simp [hx]))).1
    simp only [RExpr.prTail, pushAll_append, pushAll_cons, pushAll_nil, RExpr.embeds, List.cons_append,
      List.append_assoc, List.nil_append] at hw ⊢
    have hx := hv.before hT (t := .comma) (by simp [delims]) (pushAll (w.pr T 0) (pushAll (RExpr.prTail T ws) (push close Y)))
    have h1 := PExprAt_first T hx
    exact ⟨PL_more T (PE_of_at T hx) (by rcases hcl with rfl | rfl <;> simp) .push hw,
      by rcases hcl with rfl | rfl <;> simp [h1], h1.2.2⟩

/-- `parse_arguments` on a printed argument list -/
theorem args_ok (hT : T.WF) {close : Tok} (hcl : close = .rp ∨ close = .rsq) (args : List RExpr) (Y : PSt)
    (h : ∀ x ∈ args, OK T x) :
    let s := pushAll (RExpr.prArgs T args ++ [close]) Y
    PA T close s (RExpr.embeds args) Y ∧ s.cur.tok ≠ .kw .distinct := by
  cases args with
  | nil => exact ⟨.inl ⟨rfl, .push⟩, by rcases hcl with rfl | rfl <;> simp [RExpr.prArgs]⟩
  | cons a as =>
    have hl := list_ok hT hcl as a [] Y (h a (by simp)) (fun x hx => h x (by simp [hx]))
    exact ⟨.inr ⟨hl.2.1, hl.1⟩, hl.2.2⟩

theorem case_ok (hT : T.WF) : ∀ (more : List (RExpr × RExpr)) (c r : RExpr) (acc : List (PExpr × PExpr)) (els : RExpr) (Y : PSt),
    OK T c → OK T r → (∀ p ∈ more, OK T p.1 ∧ OK T p.2) → OK T els →
    PC T default acc
      (pushAll ([.kw .when] ++ c.pr T 0 ++ [.kw .then] ++ r.pr T 0 ++ RExpr.prClauses T more ++ [.kw .else] ++ els.pr T 0 ++ [.kw .end]) Y)
      (.case default (acc ++ (c.embed, r.embed) :: RExpr.embedClauses more) els.embed) Y
  | [], c, r, acc, els, Y, hc, hr, _, he => by
    simp only [RExpr.prClauses, List.append_nil, pushAll_append, pushAll_cons, pushAll_nil, RExpr.embedClauses,
      List.cons_append, List.nil_append]
    exact PC_last T .push (hc.closed hT (by simp [delims]) _) .push (hr.closed hT (by simp [delims]) _) .push
      (he.closed hT (by simp [delims]) _) .push
  | (c', r') :: more, c, r, acc, els, Y, hc, hr, hm, he => by
    have ih := case_ok hT more c' r' (acc ++ [(c.embed, r.embed)]) els Y (hm (c', r') (by simp)).1 (hm (c', r') (by simp)).2
      (fun p hp => hm p (by simp [hp])) he
    simp only [RExpr.prClauses, pushAll_append, pushAll_cons, pushAll_nil, RExpr.embedClauses,
      List.cons_append, List.nil_append, List.append_assoc] at ih ⊢
    exact PC_more T .push (hc.closed hT (by simp [delims]) _) .push (hr.closed hT (by simp [delims]) _) (by simp) ih

theorem combine_bop {o : BOp} (h : ∀ s, o = .sym s → s ≠ .single '.') (l r : RExpr) :
    combine default o.tok l.embed r.embed = .ok (RExpr.bin o l r).embed := by
  cases o with
  | sym s => simp [BOp.tok, RExpr.embed, combine, h s rfl]
  | _ => rfl

theorem ofIdent_castName {t : VType} (ht : ∀ u, t ≠ .array u) : VType.ofIdent (lowerChars (castName t)) = some t := by
  cases t <;> first | exact absurd rfl (ht _) | decide +kernel

theorem castName_ne_array {t : VType} (ht : ∀ u, t ≠ .array u) : lowerChars (castName t) ≠ "array".toList := by
  intro h
  have := ofIdent_castName ht
  rw [h, show VType.ofIdent "array".toList = none by decide +kernel] at this
  cases this

theorem combine_cast {t : VType} (ht : ∀ u, t ≠ .array u) (L : PExpr) (loc : Loc) :
    combine default .dcolon L (.column loc (castName t)) = .ok (.cast default L t) := by
  unfold combine
  simp only [ofIdent_castName ht]

theorem BOp.tok_ne (o : BOp) : o.tok ≠ .lsq ∧ o.tok ≠ .kw .in ∧ o.tok ≠ .kw .notIn := by
  cases o <;> simp [BOp.tok]

theorem ident_unary {x : List Char} (hx : lowerChars x ≠ "array".toList) {X : PSt} (hX : X.cur.tok ≠ .lp) :
    PU T (push (.ident x) X) (.column X.cur.loc x) X :=
  PU_prim T (by simp) (by simp) (PP_col T .push hX hx)

/-- `parse_binary_operator_rhs(m, lhs)` on the printed spine steps followed by a stopping state applies exactly
those steps to `lhs` -/
theorem loop (hT : T.WF) {k : Nat} (ih : Below T k) : ∀ (ps : List Sp) (lhs : RExpr) (m : Int) (rest : PSt),
    m ≤ dotPrec T → rest.cur.loc = default → SpineOK T m ps → Stops T m rest →
    (∀ q ∈ ps, q.Smaller k ∧ q.WF T) →
    PR T m lhs.embed (pushAll (flat T ps) rest) (plug lhs ps).embed rest
  | [], lhs, m, rest, _, _, _, hs, _ => hs.loop _
  | q :: ps, lhs, m, rest, hm, hloc, hok, hs, hq => by
    obtain ⟨hge, hle, hok'⟩ := hok
    obtain ⟨hqs, hqwf⟩ := hq q (by simp)
    have hX : Stops T (q.lvl T + 1) (pushAll (flat T ps) rest) :=
      stops_flat ps rest hge hs hle (fun x hx => (hq x (by simp [hx])).2)
    have hXloc : (pushAll (flat T ps) rest).cur.loc = default := pushAll_loc _ _ hloc
    have hcont := fun lhs' => loop hT ih ps lhs' m rest hm hloc hok' hs (fun x hx => hq x (by simp [hx]))
    have hrange := Sp.lvl_range hT hqwf
    have htp : tokenPrecedence T (pushAll (flat T (q :: ps)) rest) = .ok (q.lvl T) (pushAll (flat T (q :: ps)) rest) := by
      obtain ⟨ts, hts⟩ := Sp.flat_head T q
      rw [flat, hts]; exact tokenPrecedence_defined (Sp.defined hqwf)
    have hnlt : ¬ q.lvl T < m := by omega
    cases q with
    | bin o r =>
      simp only [flat, Sp.flat, List.cons_append, pushAll_cons, pushAll_append] at htp ⊢
      exact PR_bin T htp hnlt o.tok_ne.1 o.tok_ne.2.1 o.tok_ne.2.2 rfl
        (ih r hqs hqwf.2 _ _ (by omega) hXloc hX) (combine_bop (fun s hs => (hqwf.1 s hs).1) lhs r) (hcont (.bin o lhs r))
    | idx i =>
      simp only [flat, Sp.flat, List.cons_append, pushAll_cons, pushAll_append, pushAll_nil] at htp ⊢
      exact PR_index T htp hnlt .push ((ih i hqs hqwf).closed hT (by simp [delims]) _) .push
        (hcont (.index lhs i))
    | cast t =>
      simp only [flat, Sp.flat, List.cons_append, pushAll_cons, List.nil_append] at htp ⊢
      exact PR_bin T htp hnlt (by simp) (by simp) (by simp) rfl
        (hX.after (ident_unary (castName_ne_array hqwf) hX.1)) (combine_cast hqwf lhs.embed _) (hcont (.cast lhs t))
    | inl n v vs =>
      have hl := (list_ok hT (.inl rfl) vs v [] (pushAll (flat T ps) rest) (ih v hqs.1 hqwf.1)
        (ih.list (Nat.le_of_lt hqs.2) hqwf.2)).1
      simp only [flat, Sp.flat, List.cons_append, pushAll_cons, pushAll_append, pushAll_nil, List.nil_append] at hl htp ⊢
      exact PR_in T n htp hnlt .push .push hl (hcont (.inList n lhs v vs))

theorem dots_cons (p : List Char) (ps : List (List Char)) :
    RExpr.dots (p :: ps) = .op (.single '.') :: .ident p :: RExpr.dots ps := by
  simp [RExpr.dots]

theorem dot_defined (hT : T.WF) : Defined T (.op (.single '.')) := by
  intro o ho; cases ho; exact hT.1

theorem dots_stops (hT : T.WF) (path : List (List Char)) (X : PSt) (hX : Stops T (dotPrec T + 1) X) :
    Stops T (dotPrec T + 1) (pushAll (RExpr.dots path) X) := by
  cases path with
  | nil => exact hX
  | cons p ps =>
    rw [dots_cons]
    exact Stops.of_tok (by simp) (dot_defined hT) (by rw [pushAll_cons, push_tok]; unfold dotPrec; omega)

/-- the loop turns `x . p₁ . p₂ …` into one column name -/
theorem dots_parse (hT : T.WF) : ∀ (path : List (List Char)) (done : List Char) (m : Int) (X : PSt) (t : PExpr) (s' : PSt),
    m ≤ dotPrec T → X.cur.loc = default → Stops T (dotPrec T + 1) X →
    (∀ p ∈ path, lowerChars p ≠ "array".toList) →
    PR T m (.column default (RExpr.dotted done path)) X t s' →
    PR T m (.column default done) (pushAll (RExpr.dots path) X) t s'
  | [], done, m, X, t, s', _, _, _, _, h => h
  | p :: ps, done, m, X, t, s', hm, hXloc, hX, hp, h => by
    rw [dots_cons]
    have hY := dots_stops hT ps X hX
    have hcol := hY.after (ident_unary (hp p (by simp)) hY.1)
    rw [pushAll_loc _ _ hXloc] at hcol
    exact PR_bin T (tp := dotPrec T) (tokenPrecedence_defined (dot_defined hT)) (by omega) (by simp) (by simp) (by simp) rfl
      hcol (l' := .column default (done ++ ['.'] ++ p)) rfl
      (dots_parse hT ps _ m X t s' hm hXloc hX (fun q hq => hp q (by simp [hq])) h)

theorem paren_parse {e : RExpr} {X : PSt}
    (hpe : PE T (pushAll (e.pr T 0) (push .rp X)) e.embed (push .rp X)) :
    PU T (pushAll (RExpr.wrap true (e.pr T 0)) X) e.embed X := by
  simp only [RExpr.wrap, if_true, List.cons_append, List.nil_append, pushAll_cons, pushAll_append, pushAll_nil]
  exact PU_prim T (by simp) (by simp) (PP_paren T .push hpe .push)

theorem prefix_level_of {h : RExpr} (hp : h.isPrefix = true) : h.level T = some (prefixLevel h) := by
  cases h <;> first | rfl | cases hp

theorem prefixLevel_range {h : RExpr} (hp : h.isPrefix = true) : 0 ≤ prefixLevel h ∧ prefixLevel h < 8 := by
  cases h <;> first | (cases hp; done) | simp [prefixLevel, notLevel, negLevel]

theorem prefix_head (hT : T.WF) {h : RExpr} (hp : h.isPrefix = true) (hwf : RExpr.WF T h) (hih : OKU T h)
    (c : Int) (X : PSt) (hXloc : X.cur.loc = default) (hX : Stops T (c + 1) X) :
    PU T (pushAll (h.pr T c) X) h.embed X := by
  have hlr := prefixLevel_range hp
  rw [pr_eq_wrap hT hwf c]
  cases hn : h.needsParen T c with
  | false =>
    simp only [RExpr.needsParen, prefix_level_of hp, decide_eq_false_iff_not] at hn
    exact hih hp X hXloc (hX.mono (by omega))
  | true =>
    have hS := Stops.delim hT (m := prefixLevel h + 1) (by omega) (t := .rp) (by simp [delims]) X
    exact paren_parse (PE_of_at T ((Stops.delim hT (Int.le_refl 0) (by simp [delims]) X).after (hih hp _ rfl hS)))

/-- The head of a spine, printed in the context `c` of the first step, followed by a state `X` that stops at `c + 1`:
if the loop at level `m` continues from `X` with the head's tree to `(t, s')`, the expression parse from the head's
first token gives `(t, s')`. A loop-built or prefix head is read by the induction hypothesis for the head itself, the
others from their parts. -/
theorem head_parse (hT : T.WF) (h : RExpr) (c m : Int) (X : PSt) (t : PExpr) (s' : PSt)
    (hwf : RExpr.WF T h) (hhead : h.isSpine = true → h.needsParen T c = true) (ih : Below T h.size)
    (hself : h.isSpine = true ∨ h.isPrefix = true → OK T h ∧ OKU T h)
    (hXloc : X.cur.loc = default) (hX : Stops T (c + 1) X) (hc : c ≤ dotPrec T) (hm : m ≤ dotPrec T)
    (hr : PR T m h.embed X t s') : PExprAt T m (pushAll (h.pr T c) X) t s' := by
  have hparen : h.isSpine = true → PU T (pushAll (h.pr T c) X) h.embed X := fun hs => by
    rw [pr_eq_wrap hT hwf c, hhead hs]
    exact paren_parse ((hself (.inl hs)).1.closed hT (by simp [delims]) X)
  cases h with
  | lit l =>
    exact ⟨_, _, PU_prim T (by cases l <;> simp [RExpr.pr, Lit.tok]) (by cases l <;> simp [RExpr.pr, Lit.tok])
      (PP_lit T l .push), hr⟩
  | col x path =>
    have hXd : Stops T (dotPrec T + 1) X := hX.mono (by omega)
    have hcol := ident_unary (T := T) hwf.1 (dots_stops hT path X hXd).1
    rw [pushAll_loc _ _ hXloc] at hcol
    exact ⟨_, _, hcol, dots_parse hT path x m X t s' hm hXloc hXd hwf.2 hr⟩
  | paren y =>
    exact ⟨_, _, paren_parse ((ih y (by simp [RExpr.size]) hwf).closed hT (by simp [delims]) X), hr⟩
  | call f args =>
    have ha := args_ok hT (.inl rfl) args X (ih.list (by simp [RExpr.size]) hwf)
    simp only [RExpr.pr, List.cons_append, List.nil_append, pushAll_cons, pushAll_append] at ha ⊢
    exact ⟨_, _, PU_prim T (by simp) (by simp) (PP_call T .push .push ha.2 ha.1), hr⟩
  | star => exact ⟨_, _, PU_star T .push, hr⟩
  | countDistinct f a as =>
    have hl := list_ok hT (.inl rfl) as a [] X (ih a (by simp [RExpr.size]; omega) hwf.2.1)
      (ih.list (by simp [RExpr.size]; omega) hwf.2.2)
    simp only [RExpr.pr, List.cons_append, List.nil_append, pushAll_cons, pushAll_append] at hl ⊢
    exact ⟨_, _, PU_prim T (by simp) (by simp) (PP_call_distinct T .push .push hwf.1 .push hl.2.1 hl.1), hr⟩
  | array sp args =>
    have ha := args_ok hT (.inr rfl) args X (ih.list (by simp [RExpr.size]) hwf.2)
    simp only [RExpr.pr, List.cons_append, List.nil_append, pushAll_cons, pushAll_append] at ha ⊢
    exact ⟨_, _, PU_prim T (by simp) (by simp) (PP_array T .push .push hwf.1 ha.1), hr⟩
  | extract part e =>
    have he := (ih e (by simp [RExpr.size]) hwf).closed hT (t := .rp) (by simp [delims]) X
    simp only [RExpr.pr, List.cons_append, List.nil_append, pushAll_cons, pushAll_append, pushAll_nil]
    exact ⟨_, _, PU_prim T (by simp) (by simp) (PP_extract T .push .push .push .push he .push), hr⟩
  | tuple a b more =>
    have hl := (list_ok hT (.inl rfl) more b [a.embed] X (ih b (by simp [RExpr.size]; omega) hwf.2.1)
      (ih.list (by simp [RExpr.size]; omega) hwf.2.2)).1
    have ha := (ih a (by simp [RExpr.size]; omega) hwf.1).closed hT (t := .comma) (by simp [delims])
      (pushAll (RExpr.pr T 0 b ++ RExpr.prTail T more ++ [.rp]) X)
    simp only [RExpr.pr, List.cons_append, List.nil_append, pushAll_cons, pushAll_append, pushAll_nil] at hl ha ⊢
    exact ⟨_, _, PU_prim T (by simp) (by simp) (PP_tuple T .push ha .push hl), hr⟩
  | case cc r more els =>
    have hc := case_ok hT more cc r [] els X (ih cc (by simp [RExpr.size]; omega) hwf.1)
      (ih r (by simp [RExpr.size]; omega) hwf.2.1)
      (fun p hp => by
        have := RExpr.size_lt_sizeClauses hp
        have hw := WFClauses_mem hwf.2.2.1 hp
        exact ⟨ih p.1 (by simp [RExpr.size]; omega) hw.1, ih p.2 (by simp [RExpr.size]; omega) hw.2⟩)
      (ih els (by simp [RExpr.size]; omega) hwf.2.2.2)
    simp only [RExpr.pr, List.cons_append, List.nil_append, pushAll_cons, pushAll_append, pushAll_nil, List.append_assoc] at hc ⊢
    exact ⟨_, _, PU_prim T (by simp) (by simp) (PP_case T .push hc), hr⟩
  | not x => exact ⟨_, _, prefix_head hT rfl hwf (hself (.inr rfl)).2 c X hXloc hX, hr⟩
  | neg x => exact ⟨_, _, prefix_head hT rfl hwf (hself (.inr rfl)).2 c X hXloc hX, hr⟩
  | bin o l r => exact ⟨_, _, hparen rfl, hr⟩
  | index a i => exact ⟨_, _, hparen rfl, hr⟩
  | cast e t' => exact ⟨_, _, hparen rfl, hr⟩
  | inList n e v vs => exact ⟨_, _, hparen rfl, hr⟩

theorem headCtx_bounds {m : Int} {ps : List Sp} (h : SpineOK T m ps) :
    m ≤ headCtx T m ps ∧ ∀ q ∈ ps, q.lvl T ≤ headCtx T m ps := by
  cases ps with
  | nil => exact ⟨Int.le_refl _, fun _ h => nomatch h⟩
  | cons q qs => exact ⟨h.1, List.forall_mem_cons.mpr ⟨Int.le_refl _, h.2.1⟩⟩

theorem headCtx_le_dot (hT : T.WF) {m : Int} (hm : m ≤ dotPrec T) {ps : List Sp} (hwf : ∀ q ∈ ps, q.WF T) :
    headCtx T m ps ≤ dotPrec T := by
  cases ps with
  | nil => exact hm
  | cons q qs => exact Int.le_of_lt (Sp.lvl_range hT (hwf q (by simp))).2

theorem prefix_operand (hT : T.WF) {x : RExpr} (hwf : RExpr.WF T x) (hok : OK T x) (hoku : OKU T x)
    (L : Int) (hL : L + 1 ≤ 8) (rest : PSt) (hloc : rest.cur.loc = default) (hS : Stops T (L + 1) rest) :
    PExprAt T (L + 1) (pushAll (x.pr T (RExpr.prefixCtx L x)) rest) x.embed rest := by
  unfold RExpr.prefixCtx
  cases hp : x.isPrefix with
  | false => exact hok (L + 1) rest (by have := dotPrec_ge8 hT; omega) hloc hS
  | true => exact hS.after (prefix_head hT hp hwf hoku L rest hloc hS)

/-- **climb_correct**, the induction: for a well-formed table the parser inverts the minimal-parenthesis printer on
every well-formed expression of every size -/
theorem climb (hT : T.WF) : ∀ (n : Nat) (e : RExpr), e.size ≤ n → RExpr.WF T e → OK T e ∧ OKU T e := by
  intro n
  induction n with
  | zero => intro e h; have := RExpr.size_pos e; omega
  | succ n ih =>
    intro e hsz hwf
    have h8 := dotPrec_ge8 hT
    have below : Below T e.size := fun x hx hw => (ih x (by omega) hw).1
    have hA : OKU T e := by
      intro hp rest hloc hS
      cases e with
      | not x =>
        obtain ⟨hox, hux⟩ := ih x (by simp only [RExpr.size] at hsz; omega) hwf
        exact PU_not T .push (prefix_operand hT (x := x) hwf hox hux notLevel (by decide) rest hloc hS)
      | neg x =>
        obtain ⟨hox, hux⟩ := ih x (by simp only [RExpr.size] at hsz; omega) hwf
        exact PU_neg T .push (by decide) hT.2.2.2.2.2.2 (prefix_operand hT (x := x) hwf hox hux negLevel (by decide) rest hloc hS)
      | _ => cases hp
    have hB : e.isPrefix = false → ∀ (m : Int) (rest : PSt), m ≤ dotPrec T → rest.cur.loc = default → Stops T m rest →
        e.needsParen T m = false → PExprAt T m (pushAll (e.pr T m) rest) e.embed rest := by
      intro hnp m rest hm hloc hS hn
      have hsp := unspine_ok T m e
      have hszs := unspine_sizes T m e
      have hwfs := unspine_wf T m e hwf
      have hb := headCtx_bounds hsp
      have hl := loop hT below (unspine T m e).2 (unspine T m e).1 m rest hm hloc hsp hS
        (fun q hq => ⟨hszs.2 q hq, hwfs.2 q hq⟩)
      rw [plug_unspine] at hl
      rw [pr_unspine T m e, pushAll_append]
      refine head_parse hT _ _ m _ e.embed rest hwfs.1 (unspine_head T m e)
        (fun x hx => below x (by omega)) (fun hh => ih _ ?_ hwfs.1) (pushAll_loc _ rest hloc)
        (stops_flat _ rest hb.1 hS hb.2 hwfs.2) (headCtx_le_dot hT hm hwfs.2) hm hl
      -- a loop-built or prefix head is a proper sub-expression: `e` itself is neither prefix nor parenthesised
      rcases unspine_head_cases T m e with ⟨he, hps⟩ | hlt
      · have hp : e.isSpine = true → e.needsParen T m = true := by
          have := unspine_head T m e; rwa [he, hps] at this
        rw [he, hnp] at hh
        rcases hh with hh | hh
        · rw [hp hh] at hn; cases hn
        · cases hh
      · omega
    refine ⟨fun m rest hm hloc hS => ?_, hA⟩
    cases hp : e.isPrefix with
    | true =>
      have hlr := prefixLevel_range hp
      exact hS.after (prefix_head hT hp hwf hA m rest hloc (hS.mono (by omega)))
    | false =>
      cases hn : e.needsParen T m with
      | false => exact hB hp m rest hm hloc hS hn
      | true =>
        rw [pr_eq_wrap hT hwf m, hn]
        exact hS.after (paren_parse (PE_of_at T (hB hp 0 (push .rp rest) (by omega) rfl
          (Stops.delim hT (Int.le_refl 0) (by simp [delims]) rest) (needsParen_zero hT hwf))))

theorem climb_correct (hT : T.WF) (e : RExpr) (hwf : RExpr.WF T e) : OK T e :=
  (climb hT e.size e (Nat.le_refl _) hwf).1

end Sqlgrep.Spec
