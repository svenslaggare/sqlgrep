import SqlgrepModel.Model.Lex
import SqlgrepModel.Lemmas.LexPos
/-
`TokenLocation::extract_near`: every slice index it computes is in range — for every line, every location —
because each recorded word `(start, length)` satisfies `start + length ≤ line length`.
-/
namespace Sqlgrep.Lex
open Sqlgrep

def Link (o : Oracles) (line : List Char) (a b : Nat × Nat) : Prop :=
  b.1 = a.1 + a.2 + 1 ∧ ∃ c, line[a.1 + a.2]? = some c ∧ (o.info c).white = true

/-- invariant of the word fold after `n` characters of the line (`words` most recent first): the current word ends at
the index, every recorded word lies before it, and each word is linked to the next -/
structure LInv (o : Oracles) (line : List Char) (n : Nat) (w : WordSt) : Prop where
  idx : w.index = n
  cur : w.start + w.len = n
  words : ∀ x ∈ w.words, x.1 + x.2 ≤ n
  links : ∀ j a b, w.words[j + 1]? = some a → w.words[j]? = some b → Link o line a b
  head : ∀ a, w.words[0]? = some a → Link o line a (w.start, w.len)

theorem wordStep_linv (o : Oracles) {line : List Char} {n : Nat} {w : WordSt} (c : Char) (hc : line[n]? = some c)
    (h : LInv o line n w) : LInv o line (n + 1) (wordStep o w c) := by
  have hcur := h.cur
  have hidx := h.idx
  unfold wordStep
  split
  · next hw =>
    refine ⟨congrArg (· + 1) hidx, congrArg (· + 1) hidx, fun x hx => ?_, fun j a b ha hb => ?_, fun a ha => ?_⟩
    · rcases List.mem_cons.mp hx with rfl | hx
      · exact Nat.le_succ_of_le (Nat.le_of_eq hcur)
      · exact Nat.le_succ_of_le (h.words x hx)
    · cases j with
      | zero => cases hb; exact h.head a ha
      | succ j => exact h.links j a b ha hb
    · cases ha
      exact ⟨by show w.index + 1 = w.start + w.len + 1; rw [hidx, hcur], c, by rw [hcur]; exact hc, hw⟩
  · exact ⟨congrArg (· + 1) hidx, by show w.start + (w.len + 1) = n + 1; omega,
      fun x hx => Nat.le_succ_of_le (h.words x hx), h.links, h.head⟩

theorem foldl_linv (o : Oracles) (line : List Char) : ∀ (rest pre : List Char) (w : WordSt), line = pre ++ rest →
    LInv o line pre.length w → LInv o line line.length (rest.foldl (wordStep o) w) := by
  intro rest
  induction rest with
  | nil => intro pre w hl h; rw [List.append_nil] at hl; subst hl; exact h
  | cons c rest ih =>
    intro pre w hl h
    have hc : line[pre.length]? = some c := by rw [hl]; simp
    have := ih (pre ++ [c]) (wordStep o w c) (by rw [hl, List.append_assoc]; rfl)
      (by rw [List.length_append]; exact wordStep_linv o c hc h)
    exact this

theorem wordsOf_linv (o : Oracles) (line : List Char) : LInv o line line.length (line.foldl (wordStep o) {}) :=
  foldl_linv o line line [] {} rfl ⟨rfl, rfl, nofun, fun _ _ _ h => (nomatch h), fun _ h => (nomatch h)⟩

theorem wordsOf_bounds (o : Oracles) (line : List Char) : ∀ x ∈ wordsOf o line, x.1 + x.2 ≤ line.length := by
  have h := wordsOf_linv o line
  intro x hx
  unfold wordsOf at hx
  rw [List.mem_reverse] at hx
  split at hx
  · rcases List.mem_cons.mp hx with rfl | hx
    · exact Nat.le_of_eq h.cur
    · exact h.words x hx
  · exact h.words x hx

theorem getSubstr_some (line : List Char) (w : Nat × Nat) (h : w.1 + w.2 ≤ line.length) :
    getSubstr line w = some ((line.drop w.1).take w.2) := by
  unfold getSubstr
  rw [if_pos ⟨Nat.le_add_right _ _, h⟩]

/-- the part in front of word `i`: nothing, or the word before it and a space -/
theorem prevPart_cases (line : List Char) (all : List (Nat × Nat)) (i : Nat)
    (hall : ∀ x ∈ all, x.1 + x.2 ≤ line.length) :
    prevPart line all i = some [] ∨
      ∃ p, 0 < i ∧ all[i - 1]? = some p ∧ prevPart line all i = some ((line.drop p.1).take p.2 ++ [' ']) := by
  unfold prevPart
  by_cases hi : i = 0
  · left; simp [hi]
  · simp only [hi, if_false]
    cases hp : all[i - 1]? with
    | none => left; rfl
    | some p =>
      right
      exact ⟨p, Nat.pos_of_ne_zero hi, rfl, by simp [getSubstr_some line p (hall p (List.mem_of_getElem? hp))]⟩

/-- the part behind word `i`: nothing, or a space and the word after it -/
theorem nextPart_cases (line : List Char) (all : List (Nat × Nat)) (i : Nat)
    (hall : ∀ x ∈ all, x.1 + x.2 ≤ line.length) :
    nextPart line all i = some [] ∨
      ∃ n, all[i + 1]? = some n ∧ nextPart line all i = some (' ' :: (line.drop n.1).take n.2) := by
  unfold nextPart
  cases hn : all[i + 1]? with
  | none => left; rfl
  | some n =>
    right
    exact ⟨n, rfl, by simp [getSubstr_some line n (hall n (List.mem_of_getElem? hn))]⟩

theorem excerpt_text (line : List Char) (all : List (Nat × Nat)) (i : Nat) (w : Nat × Nat)
    (hall : ∀ x ∈ all, x.1 + x.2 ≤ line.length) (hw : w.1 + w.2 ≤ line.length) :
    ∃ s, excerpt line all i w = .text s := by
  obtain ⟨a, ha⟩ : ∃ a, prevPart line all i = some a := by
    rcases prevPart_cases line all i hall with h | ⟨_, _, _, h⟩ <;> exact ⟨_, h⟩
  obtain ⟨c, hc⟩ : ∃ c, nextPart line all i = some c := by
    rcases nextPart_cases line all i hall with h | ⟨_, _, h⟩ <;> exact ⟨_, h⟩
  unfold excerpt
  rw [ha, getSubstr_some line w hw, hc]
  exact ⟨_, rfl⟩

theorem nearFrom_text (line : List Char) (col : Nat) (all : List (Nat × Nat))
    (hall : ∀ x ∈ all, x.1 + x.2 ≤ line.length) : ∀ (rest : List (Nat × Nat)) (i : Nat),
    (∀ x ∈ rest, x.1 + x.2 ≤ line.length) → ∃ s, nearFrom line col all i rest = .text s := by
  intro rest
  induction rest with
  | nil => intro i _; exact ⟨[], rfl⟩
  | cons w rest ih =>
    intro i hr
    unfold nearFrom
    split
    · exact excerpt_text line all i w hall (hr w (by simp))
    · exact ih (i + 1) (fun x hx => hr x (by simp [hx]))

/-- **`extract_near` never indexes out of range**: for every text and every location (inside the text or not) the
model reaches no `panic` outcome -/
theorem extractNear_text (o : Oracles) (loc : Loc) (text : List Char) : ∃ s, extractNear o loc text = .text s := by
  unfold extractNear
  split
  · rename_i line _
    exact nearFrom_text line loc.column _ (wordsOf_bounds o line) _ 0 (wordsOf_bounds o line)
  · exact ⟨[], rfl⟩

/-- a line ended by `\n` loses one `\r` directly before it -/
def stripCr (l : List Char) : List Char :=
  match l.reverse with
  | '\r' :: r => r.reverse
  | _ => l

/-- what `str::lines()` makes of `(complete lines, rest)` -/
def assemble (s : List (List Char) × List Char) : List (List Char) :=
  s.1.map stripCr ++ (if s.2.isEmpty then [] else [s.2])

theorem foldl_splitStep_prefix (cs : List Char) : ∀ (d0 : List (List Char)) (c : List Char),
    cs.foldl splitStep (d0, c) = (d0 ++ (cs.foldl splitStep ([], c)).1, (cs.foldl splitStep ([], c)).2) := by
  induction cs with
  | nil => intro d0 c; simp
  | cons x cs ih =>
    intro d0 c
    simp only [List.foldl_cons, splitStep]
    split
    · rw [ih (d0 ++ [c]) [], ih ([] ++ [c]) []]
      simp
    · rw [ih d0 (c ++ [x])]

theorem linesGo_eq (cs : List Char) : ∀ cur : List Char,
    linesGo cs cur = assemble (cs.foldl splitStep ([], cur.reverse)) := by
  induction cs with
  | nil =>
    intro cur
    simp only [linesGo, List.foldl_nil, assemble, List.map_nil, List.nil_append, List.isEmpty_reverse]
  | cons x cs ih =>
    intro cur
    simp only [linesGo, List.foldl_cons, splitStep]
    split
    · rw [ih [], foldl_splitStep_prefix cs ([] ++ [cur.reverse]) []]
      simp only [assemble, List.nil_append, List.reverse_nil, List.map_cons, List.cons_append]
      congr 1
      unfold stripCr
      rw [List.reverse_reverse]
      cases cur with
      | nil => rfl
      | cons c r =>
        by_cases hc : c = '\r'
        · subst hc; rfl
        · have e1 : (match c :: r with | '\r' :: r => r.reverse | _ => (c :: r).reverse) = (c :: r).reverse := by
            split
            · rename_i heq; cases heq; exact absurd rfl hc
            · rfl
          rw [e1]
          split
          · rename_i heq; cases heq; exact absurd rfl hc
          · rfl
    · rw [ih (x :: cur)]
      simp

/-- **`str::lines()` in terms of the split at `\n`**: the complete lines with a `\r` before the `\n` removed, then
the rest of the text if it is not empty -/
theorem lines_eq (text : List Char) : lines text = assemble (splitFold text) := by
  unfold lines splitFold
  rw [linesGo_eq]; rfl

end Sqlgrep.Lex
