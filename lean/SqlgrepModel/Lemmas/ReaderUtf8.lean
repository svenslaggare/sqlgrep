import SqlgrepModel.Lemmas.ReaderLines
import SqlgrepModel.Lemmas.ReaderFollow
/-
UTF-8 validity and line splitting: `\n` is ASCII, so a content is valid UTF-8 iff each of its
newline-terminated chunks is; hence `lines` yields no `Err` on a valid file.
-/
namespace Sqlgrep
namespace Reader
open Sqlgrep.Utf8

theorem validUtf8_cons (b0 : Nat) (rest : List Nat) : validUtf8 (b0 :: rest) =
    (if b0 < 0x80 then validUtf8 rest
    else if b0 < 0xC2 then false
    else if b0 < 0xE0 then
      match rest with
      | b1 :: rest' => if isCont b1 then validUtf8 rest' else false
      | _ => false
    else if b0 < 0xF0 then
      match rest with
      | b1 :: b2 :: rest' =>
        let n := (b0 - 0xE0) * 4096 + (b1 - 0x80) * 64 + (b2 - 0x80)
        if isCont b1 && isCont b2 && 0x800 ≤ n && !(0xD800 ≤ n && n < 0xE000) then validUtf8 rest' else false
      | _ => false
    else if b0 < 0xF5 then
      match rest with
      | b1 :: b2 :: b3 :: rest' =>
        let n := (b0 - 0xF0) * 262144 + (b1 - 0x80) * 4096 + (b2 - 0x80) * 64 + (b3 - 0x80)
        if isCont b1 && isCont b2 && isCont b3 && 0x10000 ≤ n && n < 0x110000 then validUtf8 rest' else false
      | _ => false
    else false) := by
  conv => lhs; rw [validUtf8.eq_def]
  rfl

/-- a byte that continues no sequence never lies inside one: validity splits in front of it -/
theorem validUtf8_split (b : Nat) (hb : isCont b = false) (l rest : List Nat) :
    validUtf8 (l ++ b :: rest) = (validUtf8 l && validUtf8 (b :: rest)) := by
  generalize hv : validUtf8 (b :: rest) = v
  induction l using validUtf8.induct with
  | case1 => simp [validUtf8, hv]
  | case2 b0 r h ih => simp [validUtf8_cons, h, ih]
  | case3 b0 r h1 h2 => simp [validUtf8_cons, h1, h2]
  | case4 b0 h1 h2 h3 b1 r hc ih => simp [validUtf8_cons, h1, h2, h3, hc, ih]
  | case5 b0 h1 h2 h3 b1 r hc => simp [validUtf8_cons, h1, h2, h3, hc]
  | case6 b0 r h1 h2 h3 hn =>
    cases r with
    | nil => simp [validUtf8_cons, h1, h2, h3, hb]
    | cons b1 r' => exact absurd rfl (hn b1 r')
  | case7 b0 h1 h2 h3 h4 b1 b2 r n hc ih =>
    simp only [List.cons_append, validUtf8_cons, h1, h2, h3, h4, if_true, if_false]
    split
    · exact ih
    · rename_i hC; exact absurd hc hC
  | case8 b0 h1 h2 h3 h4 b1 b2 r n hc =>
    simp only [List.cons_append, validUtf8_cons, h1, h2, h3, h4, if_true, if_false]
    split
    · rename_i hC; exact absurd hC hc
    · simp
  | case9 b0 r h1 h2 h3 h4 hn =>
    match r, hn with
    | [], _ => cases rest <;> simp [validUtf8_cons, h1, h2, h3, h4, hb]
    | [b1], _ => simp [validUtf8_cons, h1, h2, h3, h4, hb]
    | b1 :: b2 :: r', hn => exact absurd rfl (hn b1 b2 r')
  | case10 b0 h1 h2 h3 h4 h5 b1 b2 b3 r n hc ih =>
    simp only [List.cons_append, validUtf8_cons, h1, h2, h3, h4, h5, if_true, if_false]
    split
    · exact ih
    · rename_i hC; exact absurd hc hC
  | case11 b0 h1 h2 h3 h4 h5 b1 b2 b3 r n hc =>
    simp only [List.cons_append, validUtf8_cons, h1, h2, h3, h4, h5, if_true, if_false]
    split
    · rename_i hC; exact absurd hC hc
    · simp
  | case12 b0 r h1 h2 h3 h4 h5 hn =>
    match r, hn with
    | [], _ => match rest with
      | [] => simp [validUtf8_cons, h1, h2, h3, h4, h5]
      | [_] => simp [validUtf8_cons, h1, h2, h3, h4, h5]
      | _ :: _ :: _ => simp [validUtf8_cons, h1, h2, h3, h4, h5, hb]
    | [b1], _ => cases rest <;> simp [validUtf8_cons, h1, h2, h3, h4, h5, hb]
    | [b1, b2], _ => simp [validUtf8_cons, h1, h2, h3, h4, h5, hb]
    | b1 :: b2 :: b3 :: r', hn => exact absurd rfl (hn b1 b2 b3 r')
  | case13 b0 r h1 h2 h3 h4 h5 => simp [validUtf8_cons, h1, h2, h3, h4, h5]

theorem validUtf8_split_nl (l rest : List Nat) :
    validUtf8 (l ++ nl :: rest) = (validUtf8 l && validUtf8 rest) := by
  rw [validUtf8_split nl (by decide), validUtf8_cons, if_pos (by decide)]

theorem wire_valid (ls : List (List Nat)) (rest : List Nat) (h : validUtf8 (wire ls ++ rest) = true) :
    ∀ l ∈ ls, validUtf8 l = true := by
  induction ls with
  | nil => intro l hl; cases hl
  | cons x xs ih =>
    have e : wire (x :: xs) ++ rest = x ++ nl :: (wire xs ++ rest) := by simp [wire, List.append_assoc]
    rw [e, validUtf8_split_nl, Bool.and_eq_true] at h
    intro l hl
    simp only [List.mem_cons] at hl
    rcases hl with hl | hl
    · subst hl; exact h.1
    · exact ih h.2 l hl

/-- under the follow invariant: valid UTF-8 content from the start offset ⇒ every delivered line is valid
UTF-8 (so `String::from_utf8_lossy` changes nothing) -/
theorem inv_delivered_valid (s : Follow) (h : Inv s) (hv : validUtf8 (s.file.drop s.start) = true) :
    ∀ l ∈ s.delivered, validUtf8 l = true := by
  rw [← h.1] at hv
  simp only [List.append_assoc] at hv
  exact wire_valid _ _ hv

theorem linesAux_allOk_of_valid (cur bs : List Nat) (h : validUtf8 (cur.reverse ++ bs) = true) :
    allOk (linesAux cur bs) = true := by
  induction bs generalizing cur with
  | nil =>
    simp only [List.append_nil] at h
    simp only [linesAux]
    split
    · rfl
    · simp [finishLine, h, allOk]
  | cons b bs ih =>
    rw [linesAux_cons]
    split
    · rename_i hb
      subst hb
      rw [validUtf8_split_nl, Bool.and_eq_true] at h
      simp only [finishLine, validUtf8_split_nl, h.1, validUtf8, Bool.and_self, if_true, allOk]
      exact ih [] (by simpa using h.2)
    · exact ih (b :: cur) (by simpa using h)

theorem lines_allOk_of_valid (bs : List Nat) (h : validUtf8 bs = true) : allOk (lines bs) = true :=
  linesAux_allOk_of_valid [] bs (by simpa using h)

theorem decode_cons (b0 : Nat) (rest : List Nat) : decode (b0 :: rest) =
    (if b0 < 0x80 then (decode rest).map (Char.ofNat b0 :: ·)
    else if b0 < 0xC2 then none
    else if b0 < 0xE0 then
      match rest with
      | b1 :: rest' =>
        if isCont b1 then (decode rest').map (Char.ofNat ((b0 - 0xC0) * 64 + (b1 - 0x80)) :: ·) else none
      | _ => none
    else if b0 < 0xF0 then
      match rest with
      | b1 :: b2 :: rest' =>
        let n := (b0 - 0xE0) * 4096 + (b1 - 0x80) * 64 + (b2 - 0x80)
        if isCont b1 && isCont b2 && 0x800 ≤ n && !(0xD800 ≤ n && n < 0xE000) then
          (decode rest').map (Char.ofNat n :: ·) else none
      | _ => none
    else if b0 < 0xF5 then
      match rest with
      | b1 :: b2 :: b3 :: rest' =>
        let n := (b0 - 0xF0) * 262144 + (b1 - 0x80) * 4096 + (b2 - 0x80) * 64 + (b3 - 0x80)
        if isCont b1 && isCont b2 && isCont b3 && 0x10000 ≤ n && n < 0x110000 then
          (decode rest').map (Char.ofNat n :: ·) else none
      | _ => none
    else none) := by
  conv => lhs; rw [decode.eq_def]
  rfl

theorem validUtf8_eq_decode (bs : List Nat) : validUtf8 bs = (decode bs).isSome := by
  induction bs using validUtf8.induct with
  | case1 => simp [validUtf8, decode]
  | case2 b0 r h ih => simp [validUtf8_cons, decode_cons, h, ih]
  | case3 b0 r h1 h2 => simp [validUtf8_cons, decode_cons, h1, h2]
  | case4 b0 h1 h2 h3 b1 r hc ih => simp [validUtf8_cons, decode_cons, h1, h2, h3, hc, ih]
  | case5 b0 h1 h2 h3 b1 r hc => simp [validUtf8_cons, decode_cons, h1, h2, h3, hc]
  | case6 b0 r h1 h2 h3 hn =>
    cases r with
    | nil => simp [validUtf8_cons, decode_cons, h1, h2, h3]
    | cons b1 r' => exact absurd rfl (hn b1 r')
  | case7 b0 h1 h2 h3 h4 b1 b2 r n hc ih =>
    simp only [validUtf8_cons, decode_cons, h1, h2, h3, h4, if_true, if_false]
    split <;> simp [ih]
  | case8 b0 h1 h2 h3 h4 b1 b2 r n hc =>
    simp only [validUtf8_cons, decode_cons, h1, h2, h3, h4, if_true, if_false]
    split
    · rename_i hC; exact absurd hC hc
    · simp
  | case9 b0 r h1 h2 h3 h4 hn =>
    match r, hn with
    | [], _ => simp [validUtf8_cons, decode_cons, h1, h2, h3, h4]
    | [b1], _ => simp [validUtf8_cons, decode_cons, h1, h2, h3, h4]
    | b1 :: b2 :: r', hn => exact absurd rfl (hn b1 b2 r')
  | case10 b0 h1 h2 h3 h4 h5 b1 b2 b3 r n hc ih =>
    simp only [validUtf8_cons, decode_cons, h1, h2, h3, h4, h5, if_true, if_false]
    split <;> simp [ih]
  | case11 b0 h1 h2 h3 h4 h5 b1 b2 b3 r n hc =>
    simp only [validUtf8_cons, decode_cons, h1, h2, h3, h4, h5, if_true, if_false]
    split
    · rename_i hC; exact absurd hC hc
    · simp
  | case12 b0 r h1 h2 h3 h4 h5 hn =>
    match r, hn with
    | [], _ => simp [validUtf8_cons, decode_cons, h1, h2, h3, h4, h5]
    | [b1], _ => simp [validUtf8_cons, decode_cons, h1, h2, h3, h4, h5]
    | [b1, b2], _ => simp [validUtf8_cons, decode_cons, h1, h2, h3, h4, h5]
    | b1 :: b2 :: b3 :: r', hn => exact absurd rfl (hn b1 b2 b3 r')
  | case13 b0 r h1 h2 h3 h4 h5 => simp [validUtf8_cons, decode_cons, h1, h2, h3, h4, h5]

end Reader
end Sqlgrep
