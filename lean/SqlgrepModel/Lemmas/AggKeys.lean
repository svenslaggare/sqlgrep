import SqlgrepModel.Lemmas.AggSpecFacts
/-
Key lists of the specification: `insertKey` / `distinctKeys` (strictly ascending, covering, duplicate-free up to the value
order), keys for which "equal in the value order" is "identical" (`KeysExact`), and the rows of one key (`rowsOfKey`).
-/
set_option linter.unusedSimpArgs false
namespace Sqlgrep
open Value Spec.Agg

theorem insertKey_eq_insBy (k : List Value) : ∀ ks, Spec.Agg.insertKey k ks = insBy cmpList id k ks
  | [] => rfl
  | x :: xs => by rw [Spec.Agg.insertKey, insBy, insertKey_eq_insBy k xs]; cases cmpList k x <;> rfl

theorem insertKey_mem {k x : List Value} {ks : List (List Value)} (h : x ∈ Spec.Agg.insertKey k ks) : x = k ∨ x ∈ ks := by
  rw [insertKey_eq_insBy] at h
  rcases mem_insBy h with h | h | ⟨y, hy, _, rfl⟩
  · exact .inl h
  · exact .inr h
  · exact .inr hy

theorem insertKey_sorted {k : List Value} {ks : List (List Value)}
    (hs : ks.Pairwise (fun a b => cmpList a b = .lt)) :
    (Spec.Agg.insertKey k ks).Pairwise (fun a b => cmpList a b = .lt) := by
  rw [insertKey_eq_insBy]; exact sorted_insBy k (fun _ _ => Std.ReflCmp.compare_self) hs

abbrev KeyLt (a b : List Value) : Prop := cmpList a b = .lt

theorem keyLt_irrefl (a : List Value) : ¬ KeyLt a a := by
  unfold KeyLt; rw [cmpList_refl]; simp

theorem keyLt_asymm {a b : List Value} (h : KeyLt a b) : ¬ KeyLt b a := by
  unfold KeyLt at *
  rw [Std.OrientedCmp.gt_of_lt h]; simp

theorem sorted_ext {l1 l2 : List (List Value)} (h1 : l1.Pairwise KeyLt) (h2 : l2.Pairwise KeyLt)
    (hm : ∀ x, x ∈ l1 ↔ x ∈ l2) : l1 = l2 := by
  have nd : ∀ {l : List (List Value)}, l.Pairwise KeyLt → l.Nodup :=
    List.Pairwise.imp fun {a b} (hab : KeyLt a b) (e : a = b) => keyLt_irrefl b (e ▸ hab)
  exact ((List.perm_ext_iff_of_nodup (nd h1) (nd h2)).2 hm).eq_of_pairwise
    (fun _ _ _ _ hab hba => absurd hba (keyLt_asymm hab)) h1 h2

theorem mem_insertKey_of_mem {k x : List Value} {ks : List (List Value)} (h : x ∈ ks) : x ∈ insertKey k ks := by
  induction ks with
  | nil => simp at h
  | cons y ys ih =>
    simp only [insertKey]
    cases cmpList k y <;> simp only [List.mem_cons] at h ⊢
    · exact Or.inr h
    · exact h
    · rcases h with h | h
      · exact Or.inl h
      · exact Or.inr (ih h)

theorem insertKey_cover (k : List Value) (ks : List (List Value)) : ∃ k' ∈ insertKey k ks, cmpList k' k = .eq := by
  induction ks with
  | nil => exact ⟨k, by simp [insertKey], cmpList_refl k⟩
  | cons y ys ih =>
    simp only [insertKey]
    cases hc : cmpList k y
    · exact ⟨k, by simp, cmpList_refl k⟩
    · exact ⟨y, by simp, Std.OrientedCmp.eq_symm hc⟩
    · obtain ⟨k', hk', he⟩ := ih
      exact ⟨k', by simp [hk'], he⟩

theorem foldKeys_sorted (ks acc : List (List Value)) (h : acc.Pairwise KeyLt) :
    (ks.foldl (fun acc k => insertKey k acc) acc).Pairwise KeyLt := by
  induction ks generalizing acc with
  | nil => exact h
  | cons k ks ih => exact ih _ (insertKey_sorted h)

theorem foldKeys_sub (ks acc : List (List Value)) :
    ∀ x ∈ ks.foldl (fun acc k => insertKey k acc) acc, x ∈ acc ∨ x ∈ ks := by
  induction ks generalizing acc with
  | nil => intro x hx; exact Or.inl hx
  | cons k ks ih =>
    intro x hx
    rcases ih _ x hx with h | h
    · rcases insertKey_mem h with h | h
      · exact Or.inr (by simp [h])
      · exact Or.inl h
    · exact Or.inr (by simp [h])

theorem foldKeys_keep (ks acc : List (List Value)) : ∀ x ∈ acc, x ∈ ks.foldl (fun acc k => insertKey k acc) acc := by
  induction ks generalizing acc with
  | nil => intro x hx; exact hx
  | cons k ks ih => intro x hx; exact ih _ x (mem_insertKey_of_mem hx)

theorem foldKeys_cover (ks acc : List (List Value)) :
    ∀ k ∈ ks, ∃ k' ∈ ks.foldl (fun acc k => insertKey k acc) acc, cmpList k' k = .eq := by
  induction ks generalizing acc with
  | nil => intro k hk; simp at hk
  | cons y ys ih =>
    intro k hk
    rcases List.mem_cons.mp hk with hk | hk
    · subst hk
      obtain ⟨k', hk', he⟩ := insertKey_cover k acc
      exact ⟨k', foldKeys_keep ys _ k' hk', he⟩
    · exact ih _ k hk

theorem distinctKeys_sorted (ks : List (List Value)) : (distinctKeys ks).Pairwise KeyLt :=
  foldKeys_sorted ks [] List.Pairwise.nil

theorem distinctKeys_sub (ks : List (List Value)) : ∀ x ∈ distinctKeys ks, x ∈ ks := by
  intro x hx
  rcases foldKeys_sub ks [] x hx with h | h
  · simp at h
  · exact h

theorem distinctKeys_cover (ks : List (List Value)) : ∀ k ∈ ks, ∃ k' ∈ distinctKeys ks, cmpList k' k = .eq :=
  foldKeys_cover ks []

/-- keys that are equal in the value order are identical (holds for keys without REAL and array components) -/
def KeysExact (ks : List (List Value)) : Prop := ∀ a ∈ ks, ∀ b ∈ ks, cmpList a b = .eq → a = b

theorem KeysExact.mono {a b : List (List Value)} (hb : KeysExact b) (h : ∀ x ∈ a, x ∈ b) : KeysExact a :=
  fun x hx y hy => hb x (h x hx) y (h y hy)

theorem KeysExact.of_simple {ks : List (List Value)} (h : ∀ k ∈ ks, k.all simpleValue = true) : KeysExact ks :=
  fun a ha b hb => cmpList_eq_of_simple (h a ha) (h b hb)

theorem distinctKeys_mem_iff {ks : List (List Value)} (hex : KeysExact ks) (k : List Value) :
    k ∈ distinctKeys ks ↔ k ∈ ks := by
  constructor
  · exact distinctKeys_sub ks k
  · intro hk
    obtain ⟨k', hk', he⟩ := distinctKeys_cover ks k hk
    rw [← hex k' (distinctKeys_sub ks k' hk') k hk he]; exact hk'

theorem distinctKeys_append {a b : List (List Value)} (hex : KeysExact (a ++ b)) :
    distinctKeys (distinctKeys a ++ distinctKeys b) = distinctKeys (a ++ b) := by
  have hexu : KeysExact (distinctKeys a ++ distinctKeys b) := hex.mono fun x hx =>
    (List.mem_append.mp hx).elim (fun h => List.mem_append_left _ (distinctKeys_sub _ x h))
      (fun h => List.mem_append_right _ (distinctKeys_sub _ x h))
  apply sorted_ext (distinctKeys_sorted _) (distinctKeys_sorted _)
  intro x
  rw [distinctKeys_mem_iff hexu, distinctKeys_mem_iff hex, List.mem_append, List.mem_append,
    distinctKeys_mem_iff (hex.mono fun _ => List.mem_append_left _),
    distinctKeys_mem_iff (hex.mono fun _ => List.mem_append_right _)]

theorem keysExact_of_simple {rows : List (List Value × Env)} (h : rows.all (fun r => r.1.all simpleValue) = true) :
    KeysExact (rows.map (·.1)) :=
  .of_simple (List.forall_mem_map.2 (List.all_eq_true.1 h))

theorem find?_key_of_mem {β : Type} {l : List (List Value × β)}
    (hs : (l.map (·.1)).Pairwise (fun a b => cmpList a b = .lt)) {k : List Value} {b : β} (h : (k, b) ∈ l) :
    l.find? (fun p => cmpList p.1 k == .eq) = some (k, b) := by
  induction l with
  | nil => simp at h
  | cons p rest ih =>
    simp only [List.map_cons, List.pairwise_cons] at hs
    rcases List.mem_cons.mp h with h | h
    · subst h; simp [cmpList_refl]
    · have hlt : cmpList p.1 k = .lt := hs.1 k (List.mem_map.mpr ⟨(k, b), h, rfl⟩)
      simp [List.find?, hlt, ih hs.2 h]

theorem rowsOfKey_append (key : List Value) (rows more : List (List Value × Env)) :
    Spec.Agg.rowsOfKey key (rows ++ more) = Spec.Agg.rowsOfKey key rows ++ Spec.Agg.rowsOfKey key more := by
  simp [Spec.Agg.rowsOfKey, List.filter_append]

theorem rowsOfKey_congr {k k' : List Value} (h : cmpList k k' = .eq) (rows : List (List Value × Env)) :
    rowsOfKey k rows = rowsOfKey k' rows := by
  unfold rowsOfKey
  congr 1
  apply List.filter_congr
  intro r _
  simp only [sameKey]
  rw [← Std.TransCmp.congr_right (a := r.1) h]

theorem rowsOfKey_ne_nil {rows : List (List Value × Env)} {k : List Value} (hk : k ∈ rows.map (·.1)) :
    rowsOfKey k rows ≠ [] := by
  obtain ⟨r, hr, hrk⟩ := List.mem_map.mp hk
  intro he
  have : r.2 ∈ rowsOfKey k rows := by
    simp only [rowsOfKey, List.mem_map, List.mem_filter]
    exact ⟨r, ⟨hr, by simp [sameKey, hrk, cmpList_refl]⟩, rfl⟩
  rw [he] at this; simp at this

theorem distinctKeys_perm {ks1 ks2 : List (List Value)} (h : ks1.Perm ks2) (hex : KeysExact ks1) :
    distinctKeys ks1 = distinctKeys ks2 := by
  have hex2 : KeysExact ks2 := fun a ha b hb hab => hex a (h.mem_iff.mpr ha) b (h.mem_iff.mpr hb) hab
  apply sorted_ext (distinctKeys_sorted _) (distinctKeys_sorted _)
  intro x
  rw [distinctKeys_mem_iff hex, distinctKeys_mem_iff hex2]
  exact h.mem_iff

theorem rowsOfKey_perm (k : List Value) {r1 r2 : List (List Value × Env)} (h : r1.Perm r2) :
    (rowsOfKey k r1).Perm (rowsOfKey k r2) := (h.filter _).map _

theorem rowsOfKey_nil_of_absent {rows : List (List Value × Env)} {k : List Value}
    (h : ∀ k' ∈ rows.map (·.1), cmpList k' k ≠ .eq) : rowsOfKey k rows = [] := by
  unfold rowsOfKey
  have : rows.filter (fun r => sameKey r.1 k) = [] := by
    apply List.filter_eq_nil_iff.mpr
    intro r hr
    simp [sameKey, h r.1 (List.mem_map.mpr ⟨r, hr, rfl⟩)]
  rw [this]; rfl

/-- "some group satisfies `P`" in terms of the rows: the order in which `groups` lists the groups, and which of several
equal keys stands for a group, do not matter -/
theorem groups_any_eq (P : List Env → Bool) (rows : List (List Value × Env)) :
    (groups rows).any (fun kg => P kg.2) = rows.any (fun r => P (rowsOfKey r.1 rows)) := by
  apply Bool.eq_iff_iff.mpr
  simp only [List.any_eq_true]
  constructor
  · rintro ⟨kg, hm, hP⟩
    simp only [groups, List.mem_map] at hm
    obtain ⟨k, hk, rfl⟩ := hm
    obtain ⟨r, hr, rfl⟩ := List.mem_map.mp (distinctKeys_sub _ k hk)
    exact ⟨r, hr, hP⟩
  · rintro ⟨r, hr, hP⟩
    obtain ⟨k', hk', he⟩ := distinctKeys_cover (rows.map (·.1)) r.1 (List.mem_map.mpr ⟨r, hr, rfl⟩)
    refine ⟨(k', rowsOfKey k' rows), List.mem_map.mpr ⟨k', hk', rfl⟩, ?_⟩
    simp only
    rw [rowsOfKey_congr he rows]
    exact hP

theorem groups_any_perm {P : List Env → Bool} (hP : ∀ g1 g2 : List Env, g1.Perm g2 → P g1 = P g2)
    {r1 r2 : List (List Value × Env)} (h : r1.Perm r2) :
    (groups r1).any (fun kg => P kg.2) = (groups r2).any (fun kg => P kg.2) := by
  rw [groups_any_eq, groups_any_eq]
  have : r1.any (fun r => P (rowsOfKey r.1 r1)) = r1.any (fun r => P (rowsOfKey r.1 r2)) := by
    congr 1
    funext r
    exact hP _ _ (rowsOfKey_perm r.1 h)
  rw [this]
  exact h.any_eq

end Sqlgrep
