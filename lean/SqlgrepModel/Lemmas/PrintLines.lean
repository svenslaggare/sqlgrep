import SqlgrepModel.Model.Print
/- Structure of the lines emitted by `OutputPrinter::print` (records / header / separator). -/
namespace Sqlgrep.Print

/-- the record lines among the printed lines -/
def records : List Line → List Bytes
  | [] => []
  | .record b :: rest => b :: records rest
  | _ :: rest => records rest

/-- the header lines among the printed lines -/
def headers : List Line → List Bytes
  | [] => []
  | .header b :: rest => b :: headers rest
  | _ :: rest => headers rest

def allRows : List (ResultRow × Bool) → List (List Bytes × List Value)
  | [] => []
  | (r, _) :: rest => r.rows.map (fun row => (r.columns, row)) ++ allRows rest

theorem records_append (a b : List Line) : records (a ++ b) = records a ++ records b := by
  induction a with
  | nil => rfl
  | cons x xs ih => cases x <;> simp [records, ih]

theorem headers_append (a b : List Line) : headers (a ++ b) = headers a ++ headers b := by
  induction a with
  | nil => rfl
  | cons x xs ih => cases x <;> simp [headers, ih]

theorem records_headerLines (fmt : Format) (cols : List Bytes) (first : Bool) :
    records (headerLines fmt cols first) = [] := by
  unfold headerLines
  cases fmt <;> simp [records]
  cases first <;> simp [records]

theorem records_separatorLines (rows : List (List Value)) (single : Bool) :
    records (separatorLines rows single) = [] := by
  unfold separatorLines
  split <;> simp [records]

theorem headers_separatorLines (rows : List (List Value)) (single : Bool) :
    headers (separatorLines rows single) = [] := by
  unfold separatorLines
  split <;> simp [headers]

theorem records_printRows (o : RealOracle) (fmt : Format) (cols : List Bytes) (first : Bool)
    (rows : List (List Value)) :
    records (printRows o fmt cols first rows) = rows.map (renderRecord o fmt cols) := by
  induction rows generalizing first with
  | nil => simp [printRows, records]
  | cons row rest ih =>
    simp [printRows, printRow, records_append, records_headerLines, records, ih]

theorem records_printResult (o : RealOracle) (fmt : Format) (first : Bool) (r : ResultRow) (single : Bool) :
    records (printResult o fmt first r single).1 = r.rows.map (renderRecord o fmt r.columns) := by
  simp [printResult, records_append, records_printRows, records_separatorLines]

theorem records_printAll (o : RealOracle) (fmt : Format) (first : Bool) (seq : List (ResultRow × Bool)) :
    records (printAll o fmt first seq)
      = (allRows seq).map (fun cr => renderRecord o fmt cr.1 cr.2) := by
  induction seq generalizing first with
  | nil => simp [printAll, records, allRows]
  | cons x rest ih =>
    obtain ⟨r, single⟩ := x
    simp only [printAll, allRows, records_append, List.map_append, List.map_map]
    rw [ih]
    have := records_printResult o fmt first r single
    simp only [printResult] at this ⊢
    rw [this]
    rfl

theorem headerLines_false (fmt : Format) (cols : List Bytes) : headerLines fmt cols false = [] := by
  cases fmt <;> rfl

theorem headers_printRows_nil (o : RealOracle) (fmt : Format) (cols : List Bytes) :
    ∀ (first : Bool) (rows : List (List Value)), headerLines fmt cols first = [] →
      headers (printRows o fmt cols first rows) = []
  | _, [], _ => rfl
  | first, row :: rest, h => by
    rw [printRows, printRow, h, headers_append, headers_printRows_nil o fmt cols false rest (headerLines_false ..)]
    rfl

/-- no header is printed from a state in which the next row would not get one: after the first row, or in a format
without header -/
theorem headers_printAll_nil (o : RealOracle) (fmt : Format) :
    ∀ (first : Bool) (seq : List (ResultRow × Bool)), (∀ cols, headerLines fmt cols first = []) →
      headers (printAll o fmt first seq) = []
  | _, [], _ => rfl
  | first, (r, single) :: rest, h => by
    have h' : ∀ cols, headerLines fmt cols (first && r.rows.isEmpty) = [] := by
      intro cols; cases r.rows.isEmpty
      · rw [Bool.and_false]; exact headerLines_false ..
      · rw [Bool.and_true]; exact h cols
    rw [printAll, printResult, headers_append, headers_append, headers_printRows_nil o fmt _ first _ (h _),
      headers_separatorLines, headers_printAll_nil o fmt _ rest h']
    rfl

theorem headers_not_csv (o : RealOracle) (fmt : Format) (h : ∀ d, fmt ≠ .csv d) (first : Bool)
    (seq : List (ResultRow × Bool)) : headers (printAll o fmt first seq) = [] :=
  headers_printAll_nil o fmt first seq fun _ => by
    cases fmt with
    | csv d => exact absurd rfl (h d)
    | _ => rfl

theorem mem_printRows (o : RealOracle) (fmt : Format) (cols : List Bytes) (l : Line) :
    ∀ (first : Bool) (rows : List (List Value)), l ∈ printRows o fmt cols first rows →
      (l ∈ headerLines fmt cols first ∧ rows ≠ []) ∨ ∃ row ∈ rows, l = .record (renderRecord o fmt cols row)
  | _, [], h => nomatch h
  | first, row :: rest, h => by
    rcases List.mem_append.1 h with h | h
    · rcases List.mem_append.1 h with h | h
      · exact Or.inl ⟨h, List.cons_ne_nil _ _⟩
      · exact Or.inr ⟨row, List.mem_cons_self, List.mem_singleton.1 h⟩
    · rcases mem_printRows o fmt cols l false rest h with ⟨h, _⟩ | ⟨r, hr, hl⟩
      · rw [headerLines_false] at h; cases h
      · exact Or.inr ⟨r, List.mem_cons_of_mem _ hr, hl⟩

theorem mem_printAll (o : RealOracle) (fmt : Format) (l : Line) :
    ∀ (first : Bool) (seq : List (ResultRow × Bool)), l ∈ printAll o fmt first seq →
      l = .separator ∨
        ∃ cr ∈ allRows seq, l ∈ headerLines fmt cr.1 true ∨ l = .record (renderRecord o fmt cr.1 cr.2)
  | _, [], h => nomatch h
  | first, (r, single) :: rest, h => by
    rcases List.mem_append.1 h with h | h
    · rcases List.mem_append.1 h with h | h
      · rcases mem_printRows o fmt r.columns l first r.rows h with ⟨h, hne⟩ | ⟨row, hr, hl⟩
        · obtain ⟨row, more, e⟩ := List.exists_cons_of_ne_nil hne
          refine Or.inr ⟨(r.columns, row), List.mem_append_left _ (List.mem_map.2 ⟨row, e ▸ List.mem_cons_self, rfl⟩),
            Or.inl ?_⟩
          cases first
          · rw [headerLines_false] at h; cases h
          · exact h
        · exact Or.inr ⟨(r.columns, row), List.mem_append_left _ (List.mem_map.2 ⟨row, hr, rfl⟩), Or.inr hl⟩
      · unfold separatorLines at h
        split at h
        · exact Or.inl (List.mem_singleton.1 h)
        · cases h
    · rcases mem_printAll o fmt l _ rest h with h | ⟨cr, hcr, hl⟩
      · exact Or.inl h
      · exact Or.inr ⟨cr, List.mem_append_right _ hcr, hl⟩

/-- CSV from `first_line = true`: nothing is printed while no row has been seen; the first row of the
sequence is printed as header line then record line, and no later line is a header. -/
theorem printAll_csv_first (o : RealOracle) (d : Bytes) (seq : List (ResultRow × Bool)) :
    (allRows seq = [] → printAll o (.csv d) true seq = []) ∧
    (∀ cols row more, allRows seq = (cols, row) :: more →
      ∃ rest, printAll o (.csv d) true seq
          = .header (joinWith d cols) :: .record (renderRecord o (.csv d) cols row) :: rest
        ∧ headers rest = []) := by
  induction seq with
  | nil => exact ⟨fun _ => rfl, fun _ _ _ h => by simp [allRows] at h⟩
  | cons x rest ih =>
    obtain ⟨r, single⟩ := x
    obtain ⟨cols, rows⟩ := r
    cases rows with
    | nil =>
      simp only [allRows, List.map_nil, List.nil_append, printAll, printResult, printRows,
        separatorLines, List.length_nil, List.isEmpty_nil, Bool.and_self]
      simpa using ih
    | cons row more =>
      refine ⟨fun h => by simp [allRows] at h, ?_⟩
      intro cols' row' more' h
      simp only [allRows, List.map_cons, List.cons_append, List.cons.injEq, Prod.mk.injEq] at h
      obtain ⟨⟨rfl, rfl⟩, _⟩ := h
      refine ⟨printRows o (.csv d) cols false more ++ separatorLines (row :: more) single
        ++ printAll o (.csv d) false rest, ?_, ?_⟩
      · simp [printAll, printResult, printRows, printRow, headerLines]
      · simp [headers_append, headers_printRows_nil _ _ _ _ _ (headerLines_false ..), headers_separatorLines,
          headers_printAll_nil _ _ _ _ (headerLines_false _)]

end Sqlgrep.Print
