import SqlgrepModel.Model.ExecT
import SqlgrepModel.Lemmas.Outcome
/-
`executeLine` case by case, folds that stop (`untilStop`: a left fold of a step that ignores the items after a stop), and the
states a line leaves the loops of the executors in (`Lemmas/Drive.lean`).
-/
namespace Sqlgrep

/-- `failWith` leaves what was printed and the count of lines, and marks the run as failed whenever the outcome is no value -/
@[simp] theorem failWith_printed {α : Type} (ro : RunOut) (o : Outcome α) : (failWith ro o).printed = ro.printed := by
  cases o <;> rfl

@[simp] theorem failWith_totalLines {α : Type} (ro : RunOut) (o : Outcome α) : (failWith ro o).totalLines = ro.totalLines := by
  cases o <;> rfl

theorem failWith_hasFailed {α : Type} (ro : RunOut) {o : Outcome α} (h : ∀ a, o ≠ .ok a) : hasFailed (failWith ro o) = true := by
  cases o with
  | ok a => exact absurd rfl (h a)
  | error k => rfl
  | panic s => simp [failWith, hasFailed]
  | oracleMissing s => simp [failWith, hasFailed]

/-- the `reached_limit` flag the engine returns with a line that yields no row (`update_limit` with no result) -/
def noiseFlag (qy : Query) (w : Bool) (es : EngineState) : Bool :=
  match qy.stmt with
  | .select q => match q.limit with
    | some n => decide (es.numOut ≥ n)
    | none => false
  | .aggregate q => if w then (match q.limit with
      | some n => decide (es.numOut ≥ n)
      | none => false) else false

theorem updateLimit_none (isSelect : Bool) (lim : Option Nat) (es : EngineState) :
    updateLimit isSelect lim es none =
      (es, { result := none, reachedLimit := match lim with
        | some n => decide (es.numOut ≥ n)
        | none => false }) := by
  cases lim <;> rfl

/-- on a line that yields no row, `executeLine` — SELECT, aggregate update-only (batch),
aggregate update+result (follow) — returns the engine state unchanged, no result, and the flag `noiseFlag` -/
theorem executeLine_noise (O : Oracles) (qy : Query) (idx : JoinIndex) (w : Bool) (es : EngineState) (l : Line)
    (h : anyResult l.row = false) :
    executeLine O qy idx w es l = .ok (es, { result := none, reachedLimit := noiseFlag qy w es }) := by
  unfold executeLine noiseFlag
  cases qy.stmt with
  | select q => simp only [h, Bool.not_false, if_true, updateLimit_none]
  | aggregate q =>
    cases w with
    | true => simp only [h, Bool.not_false, if_true, updateLimit_none]
    | false => simp [h]

section
variable (O : Oracles) {qy : Query} (idx : JoinIndex) (es : EngineState) {l : Line}

theorem executeLine_select_row {q : SelectStmt} (hq : qy.stmt = .select q) (w : Bool) (h : anyResult l.row = true) :
    executeLine O qy idx w es l =
      (lineEnvs qy idx true l).bind fun envs => (selectEnvs O q envs es.seen none).bind fun p =>
        .ok (updateLimit true q.limit { es with seen := p.1 } p.2) := by
  simp only [executeLine, hq, h, Bool.not_true, Bool.false_eq_true, if_false]
  rfl

end

/-- for a non-aggregate statement the flag is `reached_limit()` -/
theorem noiseFlag_select (qy : Query) (q : SelectStmt) (hq : qy.stmt = .select q) (w : Bool) (es : EngineState) :
    noiseFlag qy w es = reachedLimit qy es := by
  simp only [noiseFlag, reachedLimit, hq]
  cases q.limit <;> rfl

theorem noiseFlag_agg_update (qy : Query) (q : AggStmt) (hq : qy.stmt = .aggregate q) (es : EngineState) :
    noiseFlag qy false es = false := by
  simp [noiseFlag, hq]

/-- `ExecutionEngine::execute(line, default config)` for an aggregate statement: every environment of the line (one per
join partner; exactly one without a join) goes through `execute_update`, then one `execute_result` iff one of them updated -/
theorem executeLine_follow_join (O : Oracles) (qy : Query) (q : AggStmt) (idx : JoinIndex) (es : EngineState) (l : Line)
    (hq : qy.stmt = .aggregate q) (hadm : anyResult l.row = true) :
    executeLine O qy idx true es l =
      (lineEnvs qy idx false l).bind (fun envs =>
        (aggEnvs O q envs es.agg false).bind (fun p =>
          if p.2 then (aggResult O q p.1).bind (fun r => .ok (updateLimit false q.limit { es with agg := r.1 } (some r.2)))
          else .ok (updateLimit false q.limit { es with agg := p.1 } none))) := by
  simp only [executeLine, hq, hadm, Bool.not_true, Bool.false_eq_true, if_false, bind, if_true, pure]

/-- `execute(line, update-only config)`: every environment of the line goes through `execute_update`, nothing is shown -/
theorem executeLine_batch_join (O : Oracles) (qy : Query) (q : AggStmt) (idx : JoinIndex) (es : EngineState) (l : Line)
    (hq : qy.stmt = .aggregate q) (hadm : anyResult l.row = true) :
    executeLine O qy idx false es l =
      (lineEnvs qy idx false l).bind (fun envs =>
        (aggEnvs O q envs es.agg false).bind (fun p =>
          .ok ({ es with agg := p.1 }, { result := none, reachedLimit := false }))) := by
  simp only [executeLine, hq, hadm, Bool.not_true, Bool.false_eq_true, if_false, bind, pure]

theorem executeLine_agg_not_admitted (O : Oracles) (qy : Query) (q : AggStmt) (idx : JoinIndex) (w : Bool) (es : EngineState)
    (l : Line) (hq : qy.stmt = .aggregate q) (hlim : w = true → q.limit = none) (hadm : anyResult l.row = false) :
    executeLine O qy idx w es l = .ok (es, { result := none, reachedLimit := false }) := by
  rw [executeLine_noise O qy idx w es l hadm, noiseFlag, hq]
  cases w with
  | false => rfl
  | true => simp only [hlim rfl, if_true]

theorem reachedLimit_select_nolimit (qy : Query) (q : SelectStmt) (hq : qy.stmt = .select q) (hlim : q.limit = none)
    (es : EngineState) : reachedLimit qy es = false := by
  simp [reachedLimit, hq, hlim]

theorem reachedLimit_aggregate (qy : Query) (q : AggStmt) (hq : qy.stmt = .aggregate q) (es : EngineState) :
    reachedLimit qy es = false := by
  simp [reachedLimit, hq]

theorem updateLimit_reached {qy : Query} {q : SelectStmt} (hq : qy.stmt = .select q) (es : EngineState) (r : Option RowOut) :
    (updateLimit true q.limit es r).2.reachedLimit = reachedLimit qy (updateLimit true q.limit es r).1 := by
  simp only [updateLimit, reachedLimit, hq]

/-- for a non-aggregate statement the flag returned with a line is the engine's `reached_limit()` afterwards -/
theorem executeLine_select_reached (O : Oracles) (qy : Query) (q : SelectStmt) (hq : qy.stmt = .select q)
    (idx : JoinIndex) (w : Bool) (es es1 : EngineState) (l : Line) (lo : LineOut)
    (hx : executeLine O qy idx w es l = .ok (es1, lo)) : lo.reachedLimit = reachedLimit qy es1 := by
  by_cases ha : anyResult l.row = true
  · rw [executeLine_select_row O idx es hq w ha] at hx
    obtain ⟨envs, _, hx⟩ := Outcome.bind_eq_ok hx
    obtain ⟨p, _, hx⟩ := Outcome.bind_eq_ok hx
    have := updateLimit_reached hq { es with seen := p.1 } p.2
    rwa [Outcome.ok.inj hx] at this
  · rw [executeLine_noise O qy idx w es l (Bool.eq_false_iff.2 ha)] at hx
    obtain ⟨rfl, rfl⟩ := Prod.mk.inj (Outcome.ok.inj hx)
    exact noiseFlag_select qy q hq w es

theorem noLimit_flag_select (O : Oracles) (qy : Query) (q : SelectStmt) (hq : qy.stmt = .select q) (h : q.limit = none)
    (idx : JoinIndex) (w : Bool) (es es1 : EngineState) (l : Line) (lo : LineOut)
    (hx : executeLine O qy idx w es l = .ok (es1, lo)) : lo.reachedLimit = false := by
  rw [executeLine_select_reached O qy q hq idx _ es es1 l lo hx, reachedLimit_select_nolimit qy q hq h]

/-- the engine reports "limit reached" with every line from which on the limit is reached -/
theorem executeLine_limit_flag (O : Oracles) (qy : Query) (idx : JoinIndex) (w : Bool) (es es' : EngineState) (l : Line)
    (lo : LineOut) (h : executeLine O qy idx w es l = .ok (es', lo)) (hl : lo.reachedLimit = false) :
    reachedLimit qy es' = false := by
  cases hq : qy.stmt with
  | aggregate q => simp [reachedLimit, hq]
  | select q => rw [← executeLine_select_reached O qy q hq idx w es es' l lo h, hl]

/-- update-only execution never produces a result, never reports the limit, and leaves the DISTINCT memory and the
LIMIT counter alone -/
theorem executeLine_agg_update_out (O : Oracles) {q : AggStmt} (qy : Query) (hq : qy.stmt = .aggregate q) (idx : JoinIndex)
    (es es1 : EngineState) (l : Line) (lo : LineOut) (hx : executeLine O qy idx false es l = .ok (es1, lo)) :
    lo.result = none ∧ lo.reachedLimit = false ∧ es1.numOut = es.numOut ∧ es1.seen = es.seen := by
  by_cases ha : anyResult l.row = true
  · rw [executeLine_batch_join O qy q idx es l hq ha] at hx
    obtain ⟨envs, _, hx⟩ := Outcome.bind_eq_ok hx
    obtain ⟨p, _, hx⟩ := Outcome.bind_eq_ok hx
    obtain ⟨rfl, rfl⟩ := Prod.mk.inj (Outcome.ok.inj hx)
    exact ⟨rfl, rfl, rfl, rfl⟩
  · rw [executeLine_agg_not_admitted O qy q idx false es l hq nofun (Bool.eq_false_iff.2 ha)] at hx
    obtain ⟨rfl, rfl⟩ := Prod.mk.inj (Outcome.ok.inj hx)
    exact ⟨rfl, rfl, rfl, rfl⟩

def untilStop {σ α : Type} (stop : σ → Bool) (step : σ → α → σ) (s : σ) (a : α) : σ := if stop s then s else step s a

theorem foldl_untilStop_stopped {σ α : Type} {stop : σ → Bool} (step : σ → α → σ) {s : σ} (h : stop s = true)
    (l : List α) : l.foldl (untilStop stop step) s = s := by
  induction l with
  | nil => rfl
  | cons a l ih => rw [List.foldl_cons, untilStop, if_pos h, ih]

theorem foldl_untilStop_cons {σ α : Type} {stop : σ → Bool} (step : σ → α → σ) {s : σ} (h : stop s = false)
    (a : α) (l : List α) : (a :: l).foldl (untilStop stop step) s = l.foldl (untilStop stop step) (step s a) := by
  rw [List.foldl_cons, untilStop, h]; rfl

theorem foldl_untilStop_inv {σ α : Type} (P : σ → Prop) {stop : σ → Bool} {step : σ → α → σ}
    (h : ∀ s a, stop s = false → P s → P (step s a)) (l : List α) {s : σ} (h0 : P s) :
    P (l.foldl (untilStop stop step) s) := by
  induction l generalizing s with
  | nil => exact h0
  | cons a l ih =>
    cases hs : stop s with
    | true => rwa [foldl_untilStop_stopped _ hs]
    | false => rw [foldl_untilStop_cons _ hs]; exact ih (h s a hs h0)

/-- a loop that also leaves when `k` items were consumed is the loop over the first `k` items (each step that does
not stop consumes one). The two stop tests are written as `fileHalt (some k)` and `fileHalt none` unfold, with `stop` and
`consumed` for the fields of the loop state -/
theorem foldl_untilStop_take {σ α : Type} {stop : σ → Bool} {consumed : σ → Nat} {step : σ → α → σ}
    (hstep : ∀ s a, stop (step s a) = false → consumed (step s a) = consumed s + 1)
    (k : Nat) (l : List α) (s : σ) (hs : stop s = false) (hc : consumed s ≤ k) :
    l.foldl (untilStop (fun s => stop s || some k == some (consumed s)) step) s =
      (l.take (k - consumed s)).foldl (untilStop (fun s => stop s || (none : Option Nat) == some (consumed s)) step) s := by
  induction l generalizing s with
  | nil => simp
  | cons a rest ih =>
    by_cases hk : k = consumed s
    · rw [foldl_untilStop_stopped _ (by simp [hk]), hk, Nat.sub_self, List.take_zero]; rfl
    · have hlt : consumed s < k := Nat.lt_of_le_of_ne hc (Ne.symm hk)
      have hpos : k - consumed s = (k - (consumed s + 1)) + 1 := by
        rw [Nat.sub_add_eq, Nat.sub_add_cancel (Nat.sub_pos_of_lt hlt)]
      rw [hpos, List.take_succ_cons, foldl_untilStop_cons _ (by simp [hs, hk]), foldl_untilStop_cons _ (by simp [hs])]
      cases hst : stop (step s a) with
      | true => rw [foldl_untilStop_stopped _ (by simp [hst]), foldl_untilStop_stopped _ (by simp [hst])]
      | false =>
        rw [← hstep s a hst]
        exact ih _ hst (by rw [hstep s a hst]; exact hlt)

theorem foldl_untilStop_congr {σ α : Type} (P : σ → Prop) {stop : σ → Bool} {f g : σ → α → σ}
    (h : ∀ s a, stop s = false → P s → f s a = g s a ∧ (stop (f s a) = false → P (f s a)))
    (l : List α) {s : σ} (h0 : stop s = false → P s) :
    l.foldl (untilStop stop f) s = l.foldl (untilStop stop g) s := by
  induction l generalizing s with
  | nil => rfl
  | cons a l ih =>
    cases hs : stop s with
    | true => rw [foldl_untilStop_stopped _ hs, foldl_untilStop_stopped _ hs]
    | false =>
      rw [foldl_untilStop_cons _ hs, foldl_untilStop_cons _ hs, ← (h s a hs (h0 hs)).1]
      exact ih (h s a hs (h0 hs)).2

theorem foldl_untilStop_count {σ α : Type} {stop : σ → Bool} {step : σ → α → σ} {f : σ → Nat}
    (h : ∀ s a, f (step s a) ≤ f s + 1) (l : List α) (s : σ) : f (l.foldl (untilStop stop step) s) ≤ f s + l.length := by
  induction l generalizing s with
  | nil => exact Nat.le_refl _
  | cons a l ih =>
    refine Nat.le_trans (ih _) ?_
    have : f (untilStop stop step s a) ≤ f s + 1 := by
      unfold untilStop
      split
      · exact Nat.le_succ _
      · exact h s a
    rw [List.length_cons, Nat.add_comm l.length 1, ← Nat.add_assoc]
    exact Nat.add_le_add_right this _

/-- what the loop appends to the printed records for one line's output -/
def piece (lo : LineOut) : List String :=
  match lo.result with
  | some r => printResult r false
  | none => []

/-- the state in which a delivered line is executed: it has been counted -/
def followCounted (ls : LoopState) : LoopState :=
  { ls with consumed := ls.consumed + 1, out := { ls.out with totalLines := ls.out.totalLines + 1 } }

/-- the loop state after one line was counted, executed and its output printed -/
def advance (ls : LoopState) (es1 : EngineState) (lo : LineOut) : LoopState :=
  { ls with
    consumed := ls.consumed + 1
    es := es1
    out := { ls.out with totalLines := ls.out.totalLines + 1, printed := ls.out.printed ++ piece lo } }

/-- the state in which an unreadable line leaves the loop -/
def readFailed (ls : LoopState) : LoopState :=
  { ls with out := { ls.out with error := some .failReadFile }, stop := true }

/-- the state in which a line on which the engine fails leaves a loop -/
def lineFailed {α : Type} (ls : LoopState) (o : Outcome α) : LoopState :=
  { followCounted ls with out := failWith (followCounted ls).out o, stop := true }

/-- `single_result` of the follow printer: `output.updated`, i.e. aggregate statement -/
def followSingle (qy : Query) : Bool :=
  match qy.stmt with
  | .aggregate _ => true
  | _ => false

/-- the state after a delivered line whose result table `r` was printed -/
def followResult (qy : Query) (ls : LoopState) (es : EngineState) (r : RowOut) : LoopState :=
  { es := es, consumed := ls.consumed + 1, stop := ls.stop,
    out := { ls.out with totalLines := ls.out.totalLines + 1, printed := ls.out.printed ++ printResult r (followSingle qy) } }

/-- the loop looks at a line unless it has stopped or the `running` flag is found cleared -/
def fileHalt (sa : Option Nat) (ls : LoopState) : Bool := ls.stop || sa == some ls.consumed

theorem fileHalt_none (ls : LoopState) : fileHalt none ls = ls.stop := Bool.or_false _

theorem fileHalt_false {sa : Option Nat} {ls : LoopState} (h : fileHalt sa ls = false) : ls.stop = false :=
  (Bool.or_eq_false_iff.1 h).1

end Sqlgrep
