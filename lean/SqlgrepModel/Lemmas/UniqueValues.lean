import SqlgrepModel.Model.Eval
import SqlgrepModel.Lemmas.ValueOrder
/-
`array_unique`: `uniqueValues xs` (`BTreeSet::from_iter(xs).into_iter().collect()`) is the strictly ascending
list of the LAST occurrences of the order's equality classes of `xs` (an insert of a value equal to a member
replaces the member, as std's `BTreeSet::from_iter` keeps the later of two equal elements).
-/
namespace Sqlgrep
namespace Unique
open Value

def Sorted (l : List Value) : Prop := l.Pairwise (fun a b => cmp a b = .lt)

theorem insertUnique_eq_insBy (v : Value) : ∀ l, insertUnique v l = insBy cmp (fun _ => v) v l
  | [] => rfl
  | x :: xs => by rw [insertUnique, insBy, insertUnique_eq_insBy v xs]; cases cmp v x <;> rfl

/-- the inserted value is always a member afterwards (it REPLACES an equal member) -/
theorem mem_insertUnique_self (v : Value) : ∀ (l : List Value), v ∈ insertUnique v l
  | [] => by simp [insertUnique]
  | x :: xs => by
    unfold insertUnique
    cases hc : cmp v x <;> simp only
    · exact List.mem_cons_self
    · exact List.mem_cons_self
    · exact List.mem_cons_of_mem _ (mem_insertUnique_self v xs)

theorem sorted_insertUnique (v : Value) (l : List Value) (h : Sorted l) : Sorted (insertUnique v l) := by
  rw [insertUnique_eq_insBy]; exact sorted_insBy v (fun _ h => h) h

theorem mem_insertUnique_iff (v u : Value) : ∀ (l : List Value), Sorted l →
    (u ∈ insertUnique v l ↔ u = v ∨ (u ∈ l ∧ cmp v u ≠ .eq))
  | [], _ => by simp [insertUnique]
  | x :: xs, hs => by
    have hs' := List.pairwise_cons.1 hs
    unfold insertUnique
    cases hc : cmp v x <;> simp only
    · -- v < x ≤ every member: nothing is equal to v
      have hlt : ∀ y ∈ x :: xs, cmp v y = .lt := by
        intro y hy
        rcases List.mem_cons.1 hy with hy | hy
        · rw [hy]; exact hc
        · exact Std.TransCmp.lt_trans hc (hs'.1 y hy)
      constructor
      · intro h
        rcases List.mem_cons.1 h with h | h
        · exact Or.inl h
        · exact Or.inr ⟨h, by rw [hlt u h]; decide⟩
      · rintro (h | ⟨h, _⟩)
        · rw [h]; exact List.mem_cons_self
        · exact List.mem_cons_of_mem _ h
    · constructor
      · intro h
        rcases List.mem_cons.1 h with h | h
        · exact Or.inl h
        · refine Or.inr ⟨List.mem_cons_of_mem _ h, ?_⟩
          rw [Std.TransCmp.congr_left hc, hs'.1 u h]; decide
      · rintro (h | ⟨h, hne⟩)
        · rw [h]; exact List.mem_cons_self
        · rcases List.mem_cons.1 h with h | h
          · rw [h] at hne; exact absurd hc hne
          · exact List.mem_cons_of_mem _ h
    · rw [List.mem_cons, mem_insertUnique_iff v u xs hs'.2]
      constructor
      · rintro (h | h | ⟨h, hne⟩)
        · exact Or.inr ⟨by rw [h]; exact List.mem_cons_self, by rw [h, hc]; decide⟩
        · exact Or.inl h
        · exact Or.inr ⟨List.mem_cons_of_mem _ h, hne⟩
      · rintro (h | ⟨h, hne⟩)
        · exact Or.inr (Or.inl h)
        · rcases List.mem_cons.1 h with h | h
          · exact Or.inl h
          · exact Or.inr (Or.inr ⟨h, hne⟩)

def run (acc xs : List Value) : List Value := xs.foldl (fun acc v => insertUnique v acc) acc

theorem run_cons (acc : List Value) (x : Value) (xs : List Value) : run acc (x :: xs) = run (insertUnique x acc) xs := rfl

theorem sorted_run : ∀ (xs acc : List Value), Sorted acc → Sorted (run acc xs)
  | [], _, h => h
  | x :: xs, acc, h => by rw [run_cons]; exact sorted_run xs _ (sorted_insertUnique x acc h)

def LastOcc (v : Value) (xs : List Value) : Prop :=
  ∃ pre post, xs = pre ++ v :: post ∧ ∀ u ∈ post, cmp u v ≠ .eq

theorem lastOcc_cons (v x : Value) (xs : List Value) :
    LastOcc v (x :: xs) ↔ (v = x ∧ ∀ u ∈ xs, cmp u v ≠ .eq) ∨ LastOcc v xs := by
  constructor
  · rintro ⟨pre, post, h, hp⟩
    cases pre with
    | nil =>
      simp only [List.nil_append, List.cons.injEq] at h
      obtain ⟨h1, h2⟩ := h
      subst h2
      exact Or.inl ⟨h1.symm, hp⟩
    | cons p pre =>
      simp only [List.cons_append, List.cons.injEq] at h
      exact Or.inr ⟨pre, post, h.2, hp⟩
  · rintro (⟨h, hp⟩ | ⟨pre, post, h, hp⟩)
    · exact ⟨[], xs, by rw [h]; rfl, hp⟩
    · exact ⟨x :: pre, post, by rw [h]; rfl, hp⟩

theorem mem_run_iff : ∀ (xs acc : List Value), Sorted acc → ∀ (v : Value),
    (v ∈ run acc xs ↔ LastOcc v xs ∨ (v ∈ acc ∧ ∀ u ∈ xs, cmp u v ≠ .eq))
  | [], acc, _, v => by
    simp only [run, List.foldl_nil, LastOcc]
    constructor
    · intro h; exact Or.inr ⟨h, by simp⟩
    · rintro (⟨pre, post, h, _⟩ | ⟨h, _⟩)
      · cases pre <;> simp at h
      · exact h
  | x :: xs, acc, hs, v => by
    rw [run_cons, mem_run_iff xs _ (sorted_insertUnique x acc hs) v, mem_insertUnique_iff x v acc hs, lastOcc_cons]
    constructor
    · rintro (h | ⟨h | ⟨h, hne⟩, hall⟩)
      · exact Or.inl (Or.inr h)
      · exact Or.inl (Or.inl ⟨h, hall⟩)
      · refine Or.inr ⟨h, fun u hu => ?_⟩
        rcases List.mem_cons.1 hu with hu | hu
        · rw [hu]; exact hne
        · exact hall u hu
    · rintro ((⟨h, hall⟩ | h) | ⟨h, hall⟩)
      · exact Or.inr ⟨Or.inl h, hall⟩
      · exact Or.inl h
      · exact Or.inr ⟨Or.inr ⟨h, hall x List.mem_cons_self⟩, fun u hu => hall u (List.mem_cons_of_mem _ hu)⟩

theorem uniqueValues_eq_run (xs : List Value) : uniqueValues xs = run [] xs := rfl

theorem sorted_uniqueValues (xs : List Value) : Sorted (uniqueValues xs) :=
  sorted_run xs [] List.Pairwise.nil

theorem mem_uniqueValues_iff (xs : List Value) (v : Value) : v ∈ uniqueValues xs ↔ LastOcc v xs := by
  rw [uniqueValues_eq_run, mem_run_iff xs [] List.Pairwise.nil v]
  simp

theorem exists_lastOcc : ∀ (xs : List Value) (x : Value), x ∈ xs → ∃ u, cmp u x = .eq ∧ LastOcc u xs
  | [], _, h => by simp at h
  | y :: ys, x, h => by
    by_cases he : ∃ w ∈ ys, cmp w x = .eq
    · obtain ⟨w, hw, hwx⟩ := he
      obtain ⟨u, hu, hl⟩ := exists_lastOcc ys w hw
      exact ⟨u, Std.TransCmp.eq_trans hu hwx, (lastOcc_cons u y ys).2 (Or.inr hl)⟩
    · have hxy : x = y := by
        rcases List.mem_cons.1 h with h | h
        · exact h
        · exact absurd ⟨x, h, cmp_refl x⟩ he
      subst hxy
      exact ⟨x, cmp_refl x, (lastOcc_cons x x ys).2 (Or.inl ⟨rfl, fun u hu hc => he ⟨u, hu, hc⟩⟩)⟩

theorem pairwise_mem {R : Value → Value → Prop} : ∀ {l : List Value}, l.Pairwise R → ∀ {a b : Value}, a ∈ l → b ∈ l →
    a = b ∨ R a b ∨ R b a
  | [], _, _, _, h, _ => by simp at h
  | x :: xs, hp, a, b, ha, hb => by
    have hp' := List.pairwise_cons.1 hp
    rcases List.mem_cons.1 ha with ha | ha <;> rcases List.mem_cons.1 hb with hb | hb
    · exact Or.inl (by rw [ha, hb])
    · exact Or.inr (Or.inl (by rw [ha]; exact hp'.1 b hb))
    · exact Or.inr (Or.inr (by rw [hb]; exact hp'.1 a ha))
    · exact pairwise_mem hp'.2 ha hb

end Unique
end Sqlgrep
