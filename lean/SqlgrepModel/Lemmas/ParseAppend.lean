import SqlgrepModel.Model.ParseStmt
/-
Appending tokens to the input does not change a successful run (`Sim`): stated here for `consume_int`. For the functions
that stop at a boundary token this is the barrier equation of `Lemmas/ParsePrefix.lean` applied with the longer tail.
-/
namespace Sqlgrep
namespace Parse

/-- the state with the tokens `y` appended behind the last token -/
def appSt (y : List PTok) (s : PSt) : PSt := ⟨s.cur, s.rest ++ y⟩

theorem appSt_cur (y : List PTok) (s : PSt) : (appSt y s).cur = s.cur := rfl

/-- a successful run stays the same run when tokens are appended to the input -/
def Sim {α : Type} (y : List PTok) (a b : PRes α) : Prop := ∀ v s', a = .ok v s' → b = .ok v (appSt y s')

theorem consumeInt_app (y : List PTok) (s : PSt) : Sim y (consumeInt s) (consumeInt (appSt y s)) := by
  intro v s' h
  unfold consumeInt next at h ⊢
  rw [appSt_cur]
  split at h
  · cases hr : s.rest with
    | nil => rw [hr] at h; cases h
    | cons t r => rw [hr] at h; cases h; simp [appSt, hr, PRes.bind]
  · cases h

end Parse
end Sqlgrep
