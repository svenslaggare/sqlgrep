import SqlgrepModel.Model.Eval
/-
Integer powers against the i64 range: what `i64::checked_pow` (modelled in `callFunction … .pow` with the special
cases 0, ±1 and "exponent above 64") needs to be the mathematical power.
-/
namespace Sqlgrep

theorem inI64_iff (n : Int) : inI64 n = true ↔ -9223372036854775808 ≤ n ∧ n ≤ 9223372036854775807 := by
  unfold inI64 i64Min i64Max
  simp only [Bool.and_eq_true, decide_eq_true_eq]

theorem neg_one_pow (k : Nat) : (-1 : Int) ^ k = if k % 2 = 0 then 1 else -1 := by
  induction k with
  | zero => rfl
  | succ k ih =>
    rw [Int.pow_succ, ih]
    by_cases h : k % 2 = 0
    · have : ¬ (k + 1) % 2 = 0 := by omega
      simp only [h, this, if_true, if_false]; rfl
    · have : (k + 1) % 2 = 0 := by omega
      simp only [h, this, if_true, if_false]; rfl

theorem zero_pow_int (k : Nat) : (0 : Int) ^ k = if k = 0 then 1 else 0 := by
  cases k with
  | zero => rfl
  | succ k => rw [Int.pow_succ]; simp

/-- a base of magnitude ≥ 2 raised to more than 64 leaves the i64 range (so `checked_pow` overflows) -/
theorem pow_overflows (x : Int) (k : Nat) (hx : 2 ≤ x.natAbs) (hk : 64 < k) : inI64 (x ^ k) = false := by
  cases h : inI64 (x ^ k) with
  | false => rfl
  | true =>
    rw [inI64_iff] at h
    have h1 : (x ^ k).natAbs = x.natAbs ^ k := Int.natAbs_pow x k
    have h2 : 2 ^ k ≤ x.natAbs ^ k := Nat.pow_le_pow_left hx k
    have h3 : 2 ^ 65 ≤ 2 ^ k := Nat.pow_le_pow_right (by decide) (by omega)
    have h4 : (x ^ k).natAbs ≤ 9223372036854775808 := by omega
    have h5 : (2 : Nat) ^ 65 = 36893488147419103232 := by decide
    omega

end Sqlgrep
