import SqlgrepModel.Lemmas.ReaderLines
import SqlgrepModel.Lemmas.Drive
import SqlgrepModel.Model.Pipeline
/-
Link between the two models of the double loop of `FileExecutor::execute`:
`Reader.execFiles` (Model/Reader.lean, over bytes, generic in the engine; the subject of C12) and `runFiles`
(Model/Exec.lean, over `FileLine`s with the real engine, LIMIT and the final state; what `runBatch`, `runBatchI` and
`Pipeline.runText` execute). `runFiles` over the files' `Reader.lines` IS `execFiles` with the engine step
`lineStep` (a LIMIT stop and an engine failure both end the loop and are carried as the `engineError` payload).
-/
namespace Sqlgrep
open Reader

/-- an item of `BufRead::lines` as the batch loop sees it (`mk` = text ↦ line with its extracted row) -/
def toFileLine (mk : List Nat → Line) : Except Unit (List Nat) → FileLine
  | .ok l => { readable := true, line := mk l }
  | .error _ => { readable := false, line := { text := [], row := [] } }

/-- a file's bytes as the batch loop sees them -/
def fileOf (mk : List Nat → Line) (bytes : List Nat) : List FileLine := (lines bytes).map (toFileLine mk)

/-- one readable line through the engine, as `runFile` does it: `.error` carries the state in which the loop is left
(LIMIT reached, or the engine failed) -/
def lineStep (O : Oracles) (qy : Query) (idx : JoinIndex) (w : Bool) (mk : List Nat → Line)
    (ls : LoopState) (l : List Nat) : Except LoopState LoopState :=
  let ls := { ls with consumed := ls.consumed + 1, out := { ls.out with totalLines := ls.out.totalLines + 1 } }
  match executeLine O qy idx w ls.es (mk l) with
  | .ok (es, lo) =>
    let printed := match lo.result with
      | some r => printResult r false
      | none => []
    let ls := { ls with es := es, out := { ls.out with printed := ls.out.printed ++ printed } }
    if lo.reachedLimit then .error { ls with stop := true } else .ok ls
  | o => .error { ls with out := failWith ls.out o, stop := true }

/-- how `runFile`/`runFiles` leave the loop for each way `feed`/`execFiles` end -/
def finish : LoopState × Status LoopState → LoopState
  | (s, .ok) => s
  | (s, .readError) => { s with out := { s.out with error := some .failReadFile }, stop := true }
  | (_, .engineError e) => e

theorem runFile_eq_feed (O : Oracles) (qy : Query) (idx : JoinIndex) (w : Bool) (mk : List Nat → Line)
    (items : List (Except Unit (List Nat))) (ls : LoopState) :
    runFile O qy idx w none (items.map (toFileLine mk)) ls = finish (feed (lineStep O qy idx w mk) ls items) := by
  induction items generalizing ls with
  | nil => simp [runFile, feed, finish]
  | cons x rest ih =>
    have h2 : ((none : Option Nat) == some ls.consumed) = false := by simp
    cases x with
    | error u => simp [runFile, feed, finish, toFileLine]
    | ok l =>
      simp only [List.map_cons, toFileLine, runFile, h2, Bool.false_eq_true, if_false, Bool.not_true, feed, lineStep]
      cases hx : executeLine O qy idx w ls.es (mk l) with
      | ok p =>
        obtain ⟨es1, lo1⟩ := p
        simp only
        by_cases hl : lo1.reachedLimit = true
        · simp only [hl, if_true, finish]
          rfl
        · simp only [hl, Bool.false_eq_true, if_false]
          exact ih _
      | _ => simp [finish]

theorem lineStep_error_stop {O : Oracles} {qy : Query} {idx : JoinIndex} {w : Bool} {mk : List Nat → Line}
    {ls e : LoopState} {l : List Nat} (h : lineStep O qy idx w mk ls l = .error e) : e.stop = true := by
  unfold lineStep at h
  simp only at h
  split at h
  · split at h
    · cases h; rfl
    · cases h
  · cases h; rfl

theorem feed_lineStep_engineError (O : Oracles) (qy : Query) (idx : JoinIndex) (w : Bool) (mk : List Nat → Line)
    (items : List (Except Unit (List Nat))) (ls s' e : LoopState)
    (h : feed (lineStep O qy idx w mk) ls items = (s', .engineError e)) : e.stop = true := by
  induction items generalizing ls with
  | nil => simp [feed] at h
  | cons x rest ih =>
    cases x with
    | error u => simp [feed] at h
    | ok l =>
      simp only [feed] at h
      cases hs : lineStep O qy idx w mk ls l with
      | ok ls1 => simp only [hs] at h; exact ih ls1 h
      | error e' =>
        simp only [hs, Prod.mk.injEq, Status.engineError.injEq] at h
        rw [← h.2]; exact lineStep_error_stop hs

/-- **the link**: the executed double loop over the files' lines is `Reader.execFiles` with the engine step -/
theorem runFiles_eq_execFiles (O : Oracles) (qy : Query) (idx : JoinIndex) (w : Bool) (mk : List Nat → Line)
    (files : List (List Nat)) (ls : LoopState) (hst : ls.stop = false) (hrl : reachedLimit qy ls.es = false) :
    runFiles O qy idx w none (files.map (fileOf mk)) ls = finish (execFiles (lineStep O qy idx w mk) ls files) := by
  have h : (files.map (fileOf mk)).flatten = (files.flatMap lines).map (toFileLine mk) := by
    simp only [List.flatMap_def, List.map_flatten, List.map_map, Function.comp_def]
    rfl
  rw [runFiles_eq, if_neg (by simp [hst, hrl]), h, runFile_eq_feed, execFiles_eq_feed]

theorem runWithIndex_congr_files (O : Oracles) (qy : Query) (o : Outcome JoinIndex) (A B : List (List FileLine))
    (h : ∀ idx w, runFiles O qy idx w none A {} = runFiles O qy idx w none B {}) :
    runWithIndex O qy o A none = runWithIndex O qy o B none := by
  cases o <;> simp only [runWithIndex, h]

/-- `runBatchI` without interrupt is `runWithIndex` over an index outcome that does not depend on the input files -/
theorem runBatchI_plain (O : Oracles) (qy : Query) (joined : Option (List FileLine)) :
    ∃ o : Outcome JoinIndex, ∀ files, (runBatchI O qy joined files none none).1 = runWithIndex O qy o files none := by
  cases hj : qy.join with
  | none => exact ⟨.ok [], fun files => by simp [runBatchI, hj]⟩
  | some j =>
    refine ⟨setupJoin qy.table j ((loadJoinFileI j joined none).bind (fun p => .ok p.1)), fun files => ?_⟩
    cases joined <;> simp [runBatchI, hj]

theorem finish_stop_false {r : LoopState × Status LoopState}
    (hr : ∀ e, r.2 = .engineError e → e.stop = true) (h : (finish r).stop = false) : r.2 = .ok := by
  obtain ⟨s, st⟩ := r
  cases st with
  | ok => rfl
  | readError => simp [finish] at h
  | engineError e => simp only [finish] at h; rw [hr e rfl] at h; cases h

theorem execFiles_lineStep_engineError (O : Oracles) (qy : Query) (idx : JoinIndex) (w : Bool) (mk : List Nat → Line)
    (files : List (List Nat)) (ls : LoopState) (e : LoopState)
    (h : (execFiles (lineStep O qy idx w mk) ls files).2 = .engineError e) : e.stop = true := by
  rw [execFiles_eq_feed] at h
  cases hf : feed (lineStep O qy idx w mk) ls (files.flatMap lines) with
  | mk s' st =>
    rw [hf] at h
    simp only at h
    rw [h] at hf
    exact feed_lineStep_engineError O qy idx w mk _ ls s' e hf

open Pipeline Extract in
/-- a file of the end-to-end pipeline is `fileOf` (whenever all facts were shipped) -/
theorem fileLines_eq_fileOf (F : Facts) (d : TableDef) (bytes : List Nat) (fl : List FileLine)
    (h : fileLines F d bytes = some fl) :
    fl = fileOf (fun l => { text := l, row := extractRow (extractOracles F) d (lineOracle l ((F.lines.lookup l).getD {})) }) bytes := by
  unfold fileLines at h
  unfold fileOf
  generalize lines bytes = items at h
  induction items generalizing fl with
  | nil => simp at h; rw [h]; rfl
  | cons x rest ih =>
    simp only [List.mapM_cons, bind, Option.bind] at h
    cases hx : mkLine F d x with
    | none => simp [hx] at h
    | some a =>
      simp only [hx] at h
      cases hr : List.mapM (mkLine F d) rest with
      | none => simp [hr] at h
      | some as =>
        simp only [hr, pure, Option.some.injEq] at h
        rw [← h, List.map_cons, ← ih as hr]
        congr 1
        cases x with
        | error u => simp [mkLine] at hx; rw [← hx]; rfl
        | ok l =>
          simp only [mkLine] at hx
          split at hx
          · simp only [Option.some.injEq] at hx; rw [← hx]; rfl
          · cases hx

end Sqlgrep
