import SqlgrepModel.Lemmas.Faults
/- The evaluator model never takes a panic outcome (every operation that can panic in Rust is a checked operation here): the
readings `P := fun _ => False` of `callFunction_faults` and `eval_faults` (`Lemmas/Faults.lean`). -/
namespace Sqlgrep

def NP {α : Type} (o : Outcome α) : Prop := o.isPanic = false

@[simp] theorem NP_ok {α : Type} (a : α) : NP (Outcome.ok a) := rfl
@[simp] theorem NP_pure {α : Type} (a : α) : NP (pure a : Outcome α) := rfl
@[simp] theorem NP_error {α : Type} (k : ErrKind) : NP (Outcome.error k : Outcome α) := rfl
@[simp] theorem NP_missing {α : Type} (w : String) : NP (Outcome.oracleMissing w : Outcome α) := rfl

theorem NP_iff_faultsIn {α : Type} {o : Outcome α} : NP o ↔ o.FaultsIn (fun _ => False) (fun _ => True) := by
  cases o <;> simp [NP, Outcome.isPanic]

theorem NP_bind {α β : Type} {x : Outcome α} {f : α → Outcome β} (hx : NP x) (hf : ∀ a, NP (f a)) : NP (x >>= f) :=
  NP_iff_faultsIn.2 (.bind (NP_iff_faultsIn.1 hx) fun a _ => NP_iff_faultsIn.1 (hf a))

theorem NP_condHolds (v : Value) : NP (condHolds v) := NP_iff_faultsIn.2 (condHolds_faults v)

theorem NP_parseLit (O : Oracles) (t : VType) (s : Bytes) : NP (parseLit O t s) :=
  NP_iff_faultsIn.2 (parseLit_faults O t s)

theorem callFunction_faults_np (O : Oracles) (f : Func) (args : List Value) :
    (callFunction O f args).FaultsIn (fun _ => False) (fun _ => True) :=
  (callFunction_faults O f args).mono (fun _ h => h) (fun _ _ => trivial)

theorem NP_eval (O : Oracles) (env : Env) : ∀ (e : Expr), NP (eval O env e) :=
  fun e => NP_iff_faultsIn.2 (eval_faults O anyFunc (fun f _ => callFunction_faults_np O f) env e (Expr.allFuncs_any e))

theorem NP_evalList (O : Oracles) (env : Env) : ∀ (es : List Expr), NP (evalList O env es) :=
  fun es => NP_iff_faultsIn.2
    (evalList_faults O anyFunc (fun f _ => callFunction_faults_np O f) env es (Expr.allFuncsList_any es))

theorem NP_evalIn (O : Oracles) (env : Env) : ∀ (es : List Expr) (isNot : Bool) (v : Value) (anyNull : Bool),
    NP (evalIn O env isNot v anyNull es) :=
  fun es _ _ _ => NP_iff_faultsIn.2
    (evalIn_faults O anyFunc (fun f _ => callFunction_faults_np O f) env es (Expr.allFuncsList_any es) ..)

theorem NP_evalCase (O : Oracles) (env : Env) : ∀ (cs : List (Expr × Expr)), NP (evalCase O env cs) :=
  fun cs => NP_iff_faultsIn.2
    (evalCase_faults O anyFunc (fun f _ => callFunction_faults_np O f) env cs (Expr.allFuncsCases_any cs))

end Sqlgrep
