import SqlgrepModel.Model.Eval
import SqlgrepModel.Model.Engine
import SqlgrepModel.Lemmas.Outcome
/-
Where the evaluator can stop abnormally: `Outcome.FaultsIn P M` (`Lemmas/Outcome.lean`), each definition walked once for
whatever `P` and `M` its callees allow.

* the leaves: the parsers of literals, the arithmetic, casts, comparisons;
* `callFunction_faults`: a call never panics and is unanswered only at a `MissingSite`;
* `Expr.allFuncs ok` / `Stmt.allFuncs ok`: every function symbol of an expression / a statement satisfies `ok`;
* `eval_faults`: if every function symbol occurring in an expression satisfies `ok`, an evaluation of it is abnormal only
  in the ways calls of `ok` functions are (mutual over `Expr`).

`Lemmas/NoPanic.lean` ("never panics") and `Lemmas/NoSkip.lean` ("unanswered only where a fact is missing") are the two
readings.
-/
namespace Sqlgrep

/-- Walks the branches of a definition without `←`: a branch that shows `.ok _` or `.error _` is closed, a conditional
is entered on both sides (its condition stays in the context), any other `match` is split. What is left are the
branches that end in a call or in `.panic _` / `.oracleMissing _`. The first two steps look at the branch as it is
written (`FaultsIn` is reducible for that): at the default transparency a branch that does not show its constructor
is evaluated before it is given up, which is where a search over `callFunction` spends its time. -/
macro "branches" : tactic => `(tactic| repeat' first
  | (with_reducible_and_instances exact trivial)
  | (with_reducible refine Outcome.FaultsIn.ite (fun _ => ?_) (fun _ => ?_))
  | split)

section
variable {P M : String → Prop}

theorem ofOption_faults {α : Type} (k : ErrKind) (o : Option α) : (Outcome.ofOption k o).FaultsIn P M := by
  cases o <;> trivial

theorem parseLit_faults (O : Oracles) (t : VType) (s : Bytes) : (parseLit O t s).FaultsIn P M := by
  dsimp only [parseLit]; branches

theorem tsAdd_faults (d s f ns : Int) : (tsAdd d s f ns).FaultsIn P M := by
  dsimp only [tsAdd]; branches

theorem ivChecked_faults (ns : Int) : (ivChecked ns).FaultsIn P M := by
  dsimp only [ivChecked]; branches

theorem arith_faults (op : ArithOp) (l r : Value) : (arith op l r).FaultsIn P M := by
  cases l <;> cases r <;> dsimp only [arith]
  all_goals branches
  all_goals first | exact tsAdd_faults .. | exact ivChecked_faults ..

theorem negate_faults (v : Value) : (negate v).FaultsIn P M := by
  dsimp only [negate]; branches

theorem invert_faults (v : Value) : (invert v).FaultsIn P M := by
  dsimp only [invert]; branches

theorem condHolds_faults (v : Value) : (condHolds v).FaultsIn P M := by
  cases v <;> trivial

theorem dateTrunc_faults (p : Bytes) (d s f : Int) : (dateTrunc p d s f).FaultsIn P M := by
  dsimp only [dateTrunc]; branches

theorem makeTimestampOf_faults (y mo d h mi s us : Int) : (makeTimestampOf y mo d h mi s us).FaultsIn P M := by
  dsimp only [makeTimestampOf]; branches

theorem castValue_faults (O : Oracles) (v : Value) (t : VType) : (castValue O v t).FaultsIn P M := by
  dsimp only [castValue]
  split
  · exact .bind (parseLit_faults ..) fun r _ => by cases r <;> trivial
  all_goals branches

theorem tsOfText_faults (O : Oracles) (s : Bytes) : (tsOfText O s).FaultsIn P M :=
  .bind (parseLit_faults ..) fun p _ => by cases p <;> trivial

theorem coerceTs_faults (O : Oracles) (lv rv : Value) : (coerceTs O lv rv).FaultsIn P M := by
  dsimp only [coerceTs]
  split
  · exact .bind (tsOfText_faults ..) fun _ _ => trivial
  · exact .bind (tsOfText_faults ..) fun _ _ => trivial
  · trivial

theorem prepCompare_faults (O : Oracles) (lv rv : Value) : (prepCompare O lv rv).FaultsIn P M :=
  .bind (coerceTs_faults ..) fun _ _ => .ite (fun _ => trivial) (fun _ => trivial)

end

/-! ### function calls -/

/-- the four places where `callFunction` stops for a missing fact, with the name of the fact it reports — all four only
when the oracle has no total functions behind its tables (`O.total = none`: every oracle the driver builds) -/
inductive MissingSite (O : Oracles) : Func → List Value → String → Prop where
  /-- `upper(s)`: `s` is not ASCII and `str::to_uppercase(s)` was not shipped -/
  | upper (s : Bytes) (ha : isAscii s = false) (hl : lookupB O.upper s = none) (ht : O.total = none) :
      MissingSite O .upper [.text s] "upper"
  /-- `lower(s)`: `s` is not ASCII and `str::to_lowercase(s)` was not shipped -/
  | lower (s : Bytes) (ha : isAscii s = false) (hl : lookupB O.lower s = none) (ht : O.total = none) :
      MissingSite O .lower [.text s] "lower"
  /-- `regexp_matches(v, p)`: the verdict of `Regex::new(p)` / `is_match(v)` on this pair was not shipped -/
  | regex (v p : Bytes) (hl : O.regex.find? (fun e => e.1.1 == v && e.1.2 == p) = none) (ht : O.total = none) :
      MissingSite O .regexMatches [.text v, .text p] "regex"
  /-- `now()`: the model has no clock of its own; without a total oracle it always stops -/
  | now (ht : O.total = none) : MissingSite O .now [] "now"

theorem MissingSite.total_none {O : Oracles} {f : Func} {args : List Value} {w : String} (h : MissingSite O f args w) :
    O.total = none := by
  cases h <;> assumption

/-- **a function call never panics, and stops for a missing fact only at one of the four sites**: the branches of
`callFunction` that do not end in a value or an error are the four sites, `make_timestamp` and `date_trunc` -/
theorem callFunction_faults (O : Oracles) (f : Func) (args : List Value) :
    (callFunction O f args).FaultsIn (fun _ => False) (MissingSite O f args) := by
  dsimp only [callFunction]
  branches
  · exact .upper _ (eq_false_of_ne_true ‹_›) ‹_› ‹_›
  · exact .lower _ (eq_false_of_ne_true ‹_›) ‹_› ‹_›
  · exact .regex _ _ (Option.map_eq_none_iff.1 ‹_›) ‹_›
  · exact .now ‹_›
  · exact makeTimestampOf_faults ..
  · exact makeTimestampOf_faults ..
  · exact dateTrunc_faults ..

/-! ### the function symbols of an expression, of a statement -/

mutual
/-- every function symbol that occurs anywhere in the expression satisfies `ok` -/
def Expr.allFuncs (ok : Func → Bool) : Expr → Bool
  | .value _ => true
  | .column _ => true
  | .scoped _ _ => true
  | .wildcard => true
  | .compare _ l r => l.allFuncs ok && r.allFuncs ok
  | .nullCmp _ l r => l.allFuncs ok && r.allFuncs ok
  | .arith _ l r => l.allFuncs ok && r.allFuncs ok
  | .boolOp _ l r => l.allFuncs ok && r.allFuncs ok
  | .neg e => e.allFuncs ok
  | .not e => e.allFuncs ok
  | .inList _ e vs => e.allFuncs ok && Expr.allFuncsList ok vs
  | .call f args => ok f && Expr.allFuncsList ok args
  | .index a i => a.allFuncs ok && i.allFuncs ok
  | .cast e _ => e.allFuncs ok
  | .case clauses els => Expr.allFuncsCases ok clauses && els.allFuncs ok
  | .groupKeyRef _ => true
  | .groupValueRef _ => true
def Expr.allFuncsList (ok : Func → Bool) : List Expr → Bool
  | [] => true
  | e :: es => e.allFuncs ok && Expr.allFuncsList ok es
def Expr.allFuncsCases (ok : Func → Bool) : List (Expr × Expr) → Bool
  | [] => true
  | (c, r) :: rest => c.allFuncs ok && r.allFuncs ok && Expr.allFuncsCases ok rest
end

abbrev anyFunc : Func → Bool := fun _ => true

mutual
theorem Expr.allFuncs_any : ∀ e : Expr, e.allFuncs anyFunc = true
  | .value _ => rfl
  | .column _ => rfl
  | .scoped _ _ => rfl
  | .wildcard => rfl
  | .compare _ l r => by simp only [Expr.allFuncs, Expr.allFuncs_any l, Expr.allFuncs_any r, Bool.and_self]
  | .nullCmp _ l r => by simp only [Expr.allFuncs, Expr.allFuncs_any l, Expr.allFuncs_any r, Bool.and_self]
  | .arith _ l r => by simp only [Expr.allFuncs, Expr.allFuncs_any l, Expr.allFuncs_any r, Bool.and_self]
  | .boolOp _ l r => by simp only [Expr.allFuncs, Expr.allFuncs_any l, Expr.allFuncs_any r, Bool.and_self]
  | .neg e => by simp only [Expr.allFuncs, Expr.allFuncs_any e]
  | .not e => by simp only [Expr.allFuncs, Expr.allFuncs_any e]
  | .inList _ e vs => by simp only [Expr.allFuncs, Expr.allFuncs_any e, Expr.allFuncsList_any vs, Bool.and_self]
  | .call _ args => by simp only [Expr.allFuncs, Expr.allFuncsList_any args, Bool.and_self]
  | .index a i => by simp only [Expr.allFuncs, Expr.allFuncs_any a, Expr.allFuncs_any i, Bool.and_self]
  | .cast e _ => by simp only [Expr.allFuncs, Expr.allFuncs_any e]
  | .case clauses els => by simp only [Expr.allFuncs, Expr.allFuncsCases_any clauses, Expr.allFuncs_any els, Bool.and_self]
  | .groupKeyRef _ => rfl
  | .groupValueRef _ => rfl
theorem Expr.allFuncsList_any : ∀ es : List Expr, Expr.allFuncsList anyFunc es = true
  | [] => rfl
  | e :: es => by simp only [Expr.allFuncsList, Expr.allFuncs_any e, Expr.allFuncsList_any es, Bool.and_self]
theorem Expr.allFuncsCases_any : ∀ cs : List (Expr × Expr), Expr.allFuncsCases anyFunc cs = true
  | [] => rfl
  | (c, r) :: rest => by
    simp only [Expr.allFuncsCases, Expr.allFuncs_any c, Expr.allFuncs_any r, Expr.allFuncsCases_any rest, Bool.and_self]
end

def optAllFuncs (ok : Func → Bool) : Option Expr → Bool
  | some e => e.allFuncs ok
  | none => true

/-- the argument of an aggregate (for `GroupKey(column)`: the column expression) -/
def AggKind.allFuncs (ok : Func → Bool) : AggKind → Bool
  | .groupKey e _ => e.allFuncs ok
  | .count _ _ => true
  | .min e => e.allFuncs ok
  | .max e => e.allFuncs ok
  | .sum e => e.allFuncs ok
  | .avg e => e.allFuncs ok
  | .stddev e _ => e.allFuncs ok
  | .percentile e _ => e.allFuncs ok
  | .boolAnd e => e.allFuncs ok
  | .boolOr e => e.allFuncs ok
  | .arrayAgg e => e.allFuncs ok
  | .stringAgg e _ => e.allFuncs ok

/-- a select-list item of an aggregate statement: the aggregate's argument and the expression around the aggregate -/
def AggItem.allFuncs (ok : Func → Bool) (it : AggItem) : Bool := it.kind.allFuncs ok && optAllFuncs ok it.transform

def HavingRef.allFuncs (ok : Func → Bool) : HavingRef → Bool
  | .key _ => true
  | .agg _ k => k.allFuncs ok

/-- select list and WHERE -/
def SelectStmt.allFuncs (ok : Func → Bool) (q : SelectStmt) : Bool :=
  q.projections.all (fun p => p.2.allFuncs ok) && optAllFuncs ok q.filter

/-- select list (aggregate arguments, the expressions around them), WHERE, the GROUP BY parts, HAVING and the
aggregates inside HAVING -/
def AggStmt.allFuncs (ok : Func → Bool) (q : AggStmt) : Bool :=
  q.items.all (·.allFuncs ok) && optAllFuncs ok q.filter &&
  (match q.groupBy with
    | some parts => parts.all (fun p => p.1.allFuncs ok)
    | none => true) &&
  optAllFuncs ok q.having && q.havingVisit.all (·.allFuncs ok) && q.havingAggs.all (fun p => p.2.allFuncs ok)

def Stmt.allFuncs (ok : Func → Bool) : Stmt → Bool
  | .select q => q.allFuncs ok
  | .aggregate q => q.allFuncs ok

theorem optAllFuncs_any (f : Option Expr) : optAllFuncs anyFunc f = true := by
  cases f with
  | none => rfl
  | some e => exact Expr.allFuncs_any e

theorem AggKind.allFuncs_any (k : AggKind) : k.allFuncs anyFunc = true := by
  cases k <;> first | rfl | exact Expr.allFuncs_any _

theorem AggItem.allFuncs_any (it : AggItem) : it.allFuncs anyFunc = true := by
  unfold AggItem.allFuncs
  rw [AggKind.allFuncs_any, optAllFuncs_any]; rfl

theorem HavingRef.allFuncs_any (r : HavingRef) : r.allFuncs anyFunc = true := by
  cases r with
  | key _ => rfl
  | agg _ k => exact AggKind.allFuncs_any k

theorem Stmt.allFuncs_any (st : Stmt) : st.allFuncs anyFunc = true := by
  cases st with
  | select q =>
    show SelectStmt.allFuncs anyFunc q = true
    unfold SelectStmt.allFuncs
    rw [optAllFuncs_any, Bool.and_true, List.all_eq_true]
    intro p _; exact Expr.allFuncs_any p.2
  | aggregate q =>
    show AggStmt.allFuncs anyFunc q = true
    unfold AggStmt.allFuncs
    have h1 : q.items.all (·.allFuncs anyFunc) = true := List.all_eq_true.2 (fun it _ => AggItem.allFuncs_any it)
    have h2 : (match q.groupBy with
        | some parts => parts.all (fun p => p.1.allFuncs anyFunc)
        | none => true) = true := by
      cases q.groupBy with
      | none => rfl
      | some parts => exact List.all_eq_true.2 (fun p _ => Expr.allFuncs_any p.1)
    have h3 : q.havingVisit.all (·.allFuncs anyFunc) = true := List.all_eq_true.2 (fun r _ => HavingRef.allFuncs_any r)
    have h4 : q.havingAggs.all (fun p => p.2.allFuncs anyFunc) = true := List.all_eq_true.2 (fun p _ => AggKind.allFuncs_any p.2)
    rw [h1, optAllFuncs_any, h2, optAllFuncs_any, h3, h4]; rfl

theorem allFuncsList_columns (ok : Func → Bool) (keys : List String) : Expr.allFuncsList ok (keys.map Expr.column) = true := by
  induction keys with
  | nil => rfl
  | cons k ks ih => simp [Expr.allFuncsList, Expr.allFuncs, ih]

theorem allFuncsList_map {α : Type} (ok : Func → Bool) (f : α → Expr) (l : List α) (h : l.all (fun p => (f p).allFuncs ok) = true) :
    Expr.allFuncsList ok (l.map f) = true := by
  induction l with
  | nil => rfl
  | cons x xs ih =>
    simp only [List.all_cons, Bool.and_eq_true] at h
    simp [Expr.allFuncsList, h.1, ih h.2]

/-! ### the evaluator, walked once -/

section
variable {P M : String → Prop} (O : Oracles) (ok : Func → Bool)
  (hc : ∀ f, ok f = true → ∀ args, (callFunction O f args).FaultsIn P M)
include hc
set_option linter.unusedSectionVars false   -- (the four theorems are mutual: each of them needs `hc` through `eval_faults`)

mutual
theorem eval_faults (env : Env) : ∀ (e : Expr), e.allFuncs ok = true → (eval O env e).FaultsIn P M
  | .value _, _ => trivial
  | .column _, _ => ofOption_faults ..
  | .scoped _ _, _ => ofOption_faults ..
  | .wildcard, _ => trivial
  | .compare _ l r, h => by
    simp only [Expr.allFuncs, Bool.and_eq_true] at h
    simp only [eval]
    refine .bind (eval_faults env l h.1) fun _ _ => .bind (eval_faults env r h.2) fun _ _ =>
      .bind (prepCompare_faults ..) fun _ _ => ?_
    split <;> trivial
  | .nullCmp _ l r, h => by
    simp only [Expr.allFuncs, Bool.and_eq_true] at h
    simp only [eval]
    exact .bind (eval_faults env l h.1) fun _ _ => .bind (eval_faults env r h.2) fun _ _ => trivial
  | .arith _ l r, h => by
    simp only [Expr.allFuncs, Bool.and_eq_true] at h
    simp only [eval]
    exact .bind (eval_faults env l h.1) fun _ _ => .bind (eval_faults env r h.2) fun _ _ => arith_faults ..
  | .boolOp _ l r, h => by
    simp only [Expr.allFuncs, Bool.and_eq_true] at h
    have hr : (do let rv ← eval O env r; let rb ← condHolds rv; pure (.bool rb) : Outcome Value).FaultsIn P M :=
      .bind (eval_faults env r h.2) fun _ _ => .bind (condHolds_faults _) fun _ _ => trivial
    simp only [eval]
    refine .bind (eval_faults env l h.1) fun _ _ => .bind (condHolds_faults _) fun _ _ => ?_
    split <;> split <;> first | trivial | exact hr
  | .neg e, h => by
    simp only [Expr.allFuncs] at h
    simp only [eval]
    exact .bind (eval_faults env e h) fun _ _ => negate_faults _
  | .not e, h => by
    simp only [Expr.allFuncs] at h
    simp only [eval]
    exact .bind (eval_faults env e h) fun _ _ => invert_faults _
  | .inList _ e vs, h => by
    simp only [Expr.allFuncs, Bool.and_eq_true] at h
    simp only [eval]
    exact .bind (eval_faults env e h.1) fun _ _ => evalIn_faults env vs h.2 _ _ _
  | .call f args, h => by
    simp only [Expr.allFuncs, Bool.and_eq_true] at h
    simp only [eval]
    exact .bind (evalList_faults env args h.2) fun vs _ => hc f h.1 vs
  | .index a i, h => by
    simp only [Expr.allFuncs, Bool.and_eq_true] at h
    simp only [eval]
    refine .bind (eval_faults env a h.1) fun _ _ => ?_
    split
    · refine .bind (eval_faults env i h.2) fun _ _ => ?_
      split <;> trivial
    · trivial
  | .cast e _, h => by
    simp only [Expr.allFuncs] at h
    simp only [eval]
    exact .bind (eval_faults env e h) fun _ _ => castValue_faults ..
  | .case clauses els, h => by
    simp only [Expr.allFuncs, Bool.and_eq_true] at h
    simp only [eval]
    refine .bind (evalCase_faults env clauses h.1) fun _ _ => ?_
    split
    · trivial
    · exact eval_faults env els h.2
  | .groupKeyRef _, _ => ofOption_faults ..
  | .groupValueRef _, _ => ofOption_faults ..
theorem evalList_faults (env : Env) : ∀ (es : List Expr), Expr.allFuncsList ok es = true → (evalList O env es).FaultsIn P M
  | [], _ => trivial
  | e :: es, h => by
    simp only [Expr.allFuncsList, Bool.and_eq_true] at h
    simp only [evalList]
    exact .bind (eval_faults env e h.1) fun _ _ => .bind (evalList_faults env es h.2) fun _ _ => trivial
theorem evalIn_faults (env : Env) : ∀ (es : List Expr), Expr.allFuncsList ok es = true →
    ∀ (isNot : Bool) (v : Value) (anyNull : Bool), (evalIn O env isNot v anyNull es).FaultsIn P M
  | [], _, _, _, _ => trivial
  | e :: es, h, isNot, v, a => by
    simp only [Expr.allFuncsList, Bool.and_eq_true] at h
    have hi := evalIn_faults env es h.2
    simp only [evalIn]
    refine .bind (eval_faults env e h.1) fun x _ => .ite (fun _ => hi ..) fun _ => .ite (fun _ => hi ..) fun _ =>
      .bind (prepCompare_faults ..) fun _ _ => .ite (fun _ => trivial) fun _ => hi ..
theorem evalCase_faults (env : Env) : ∀ (cs : List (Expr × Expr)), Expr.allFuncsCases ok cs = true →
    (evalCase O env cs).FaultsIn P M
  | [], _ => trivial
  | (c, r) :: rest, h => by
    simp only [Expr.allFuncsCases, Bool.and_eq_true] at h
    simp only [evalCase]
    exact .bind (eval_faults env c h.1.1) fun _ _ => .bind (condHolds_faults _) fun _ _ =>
      .ite (fun _ => .bind (eval_faults env r h.1.2) fun _ _ => trivial) fun _ => evalCase_faults env rest h.2
end
end
/-- an evaluated list has one value per expression -/
theorem evalList_length {O : Oracles} {env : Env} {es : List Expr} {vs : List Value} (h : evalList O env es = .ok vs) :
    vs.length = es.length := by
  induction es generalizing vs with
  | nil => simp only [evalList, Outcome.ok.injEq] at h; rw [← h]; rfl
  | cons e rest ih =>
    unfold evalList at h
    obtain ⟨v, _, h2⟩ := Outcome.bind_eq_ok h
    obtain ⟨ws, hw, h3⟩ := Outcome.bind_eq_ok h2
    simp only [pure, Outcome.ok.injEq] at h3
    rw [← h3, List.length_cons, ih hw, List.length_cons]

end Sqlgrep
