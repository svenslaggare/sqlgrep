import SqlgrepModel.Lemmas.AggFollowJoin
import SqlgrepModel.Lemmas.AggFollowExec
import SqlgrepModel.Lemmas.FollowBridge
import SqlgrepModel.Props.C04
/-
C11 — incremental (tail -f) results equal a batch run over the same prefix.

Follow mode feeds lines one at a time through `executeLine … (withResult := true)`; batch mode runs
`executeLine … (withResult := false)` for aggregates (update only) and prints one final table, and the very
same per-line step for non-aggregates. Part 1: non-aggregate statements — the rows
emitted for the k-th line are exactly the rows by which the batch output over k lines extends the batch
output over k−1 lines. Part 2 (aggregates): the table shown after the k-th update+result equals
the batch result over the first k lines — from the aggregation refinement (Lemmas/Agg*.lean): `execute_result` keeps
the coupling between state and per-group rows (`result_repeatable`), and the table is a function of those rows alone.
The aggregate half is stated twice: at engine level over `followRun` (`follow_eq_batch_prefix`, with the k-th row that
WHERE rejects in `follow_rejected_row_changes_nothing`), and over the EXECUTED loops `runFollowAll` / `runBatch`
(`follow_kth_line_eq_batch_prefix`, `follow_last_shown_is_batch_table`), linked by `follow_run_is_engine_steps`.
With a JOIN (where `FollowFileExecutor` refuses to run, so the follow side is the line-at-a-time feed `feedLines` of the
`incr` driver): `follow_join_kth_line_eq_batch_prefix`, at full strength since D61 was repaired (/repo 7277b4c).
-/
namespace Sqlgrep.Props.C11
open Sqlgrep

/-- for a non-aggregate statement the engine's per-line step is the same function in follow and batch mode -/
theorem select_step_mode_independent (O : Oracles) (qy : Query) (idx : JoinIndex) (es : EngineState) (l : Line)
    (q : SelectStmt) (hq : qy.stmt = .select q) :
    executeLine O qy idx true es l = executeLine O qy idx false es l := by
  simp only [executeLine, hq]

theorem batch_line_extends (O : Oracles) (qy : Query) (idx : JoinIndex) (w : Bool) (fl : FileLine) (ls : LoopState)
    (es' : EngineState) (lo : LineOut) (hr : fl.readable = true)
    (hx : executeLine O qy idx w ls.es fl.line = .ok (es', lo)) :
    (runFile O qy idx w none [fl] ls).out.printed =
      ls.out.printed ++ (match lo.result with
        | some r => printResult r false
        | none => []) := by
  rw [runFile_cons_ok O qy idx w fl [] ls es' lo hr hx]
  split <;> rfl

/-- the batch loop over `pre ++ [fl]` is the batch loop over `pre` followed by the step for `fl`
(as long as the run over `pre` neither failed nor reached a limit) -/
theorem runFile_append (O : Oracles) (qy : Query) (idx : JoinIndex) (w : Bool) (pre : List FileLine) (fl : FileLine)
    (ls : LoopState) (hstop : (runFile O qy idx w none pre ls).stop = false) :
    runFile O qy idx w none (pre ++ [fl]) ls = runFile O qy idx w none [fl] (runFile O qy idx w none pre ls) := by
  have hs : ls.stop = false := by
    cases h : ls.stop with
    | false => rfl
    | true => rw [runFile_stop_of_stop O qy idx w none pre ls h] at hstop; cases hstop
  rw [Sqlgrep.runFile_append O qy idx w none pre [fl] ls hs, if_neg (by simp [hstop])]

/-- C11 for non-aggregate statements: the records emitted for the k-th line are exactly the records by which
the batch output over the first k lines extends the batch output over the first k−1 lines -/
theorem select_incremental_eq_batch_extension (O : Oracles) (qy : Query) (idx : JoinIndex) (w : Bool)
    (pre : List FileLine) (fl : FileLine) (hr : fl.readable = true)
    (hstop : (runFile O qy idx w none pre {}).stop = false)
    (es' : EngineState) (lo : LineOut)
    (hx : executeLine O qy idx w (runFile O qy idx w none pre {}).es fl.line = .ok (es', lo)) :
    (runFile O qy idx w none (pre ++ [fl]) {}).out.printed =
      (runFile O qy idx w none pre {}).out.printed ++ (match lo.result with
        | some r => printResult r false
        | none => []) := by
  rw [runFile_append O qy idx w pre fl {} hstop]
  exact batch_line_extends O qy idx w fl _ es' lo hr hx

/-- **C11 for non-aggregate statements, about the executed follow run** (`Model/ExecI.lean` `runFollowAll`,
`FollowFileExecutor::execute`, driver kind `followi`; follow mode has no joins): for every k, the follow run stopped
after k delivered lines — equivalently the follow run over the first k lines — has exactly the outcome of the batch
run over a file holding the first k lines: the same records in the same order, the same number of lines read, the
same error. WHERE, DISTINCT and also LIMIT included. Hence the records printed for the k-th delivered line are
exactly those by which the batch output over k lines extends the batch output over k−1 lines. -/
theorem select_follow_eq_batch_prefix (O : Oracles) (qy : Query) (q : SelectStmt) (hq : qy.stmt = .select q)
    (hj : qy.join = none) (lines : List Line) (k : Nat) :
    runFollowAll O qy (some k) lines = runFollowAll O qy none (lines.take k) ∧
    runFollowAll O qy none (lines.take k) = runBatch O qy [] [readableFile (lines.take k)] none :=
  ⟨runFollowAll_stopAt O qy k lines, runFollowAll_select_eq_runBatch O qy q hq hj (lines.take k)⟩

/-- **the same at engine level, joins included** (line-at-a-time execution with update + result over a loaded
join index — what the `incr` driver executes, `C06.incr_driver_is_feedLines`): for a non-aggregate statement without
LIMIT (DISTINCT or not, INNER/OUTER JOIN with any number of partners) the batch output over the first k lines is
the concatenation of the records of the first k incremental answers (`piece` = the records of one answer); so the
k-th answer carries exactly the records by which the batch output over k lines extends that over k−1 lines. If a
line fails, the answers end there and the batch runs over longer prefixes print the same records. -/
theorem select_answers_are_batch_extensions (O : Oracles) (qy : Query) (q : SelectStmt) (hq : qy.stmt = .select q)
    (hl : q.limit = none) (joined : List FileLine) (idx : JoinIndex)
    (hidx : Spec.Select.joinIndexOf qy joined = .ok idx) (lines : List Line) (k : Nat) :
    (runBatch O qy joined [readableFile (lines.take k)] none).printed =
      ((feedLines O qy idx true lines {}).1.take k).flatMap piece := by
  rw [runBatch_select_out O qy q hq joined _ idx hidx]
  have h0 : reachedLimit qy ({} : LoopState).es = false := by simp [reachedLimit, hq, hl]
  simp only [runFiles, h0, Bool.or_self, Bool.false_eq_true, if_false]
  have := runFile_take_eq_answers O qy q hq hl idx lines k
  split <;> exact this

/-- consequence in the form of the sentence: one more line extends the batch output by the records of the answer
for that line -/
theorem select_kth_answer_is_batch_extension (O : Oracles) (qy : Query) (q : SelectStmt) (hq : qy.stmt = .select q)
    (hl : q.limit = none) (joined : List FileLine) (idx : JoinIndex)
    (hidx : Spec.Select.joinIndexOf qy joined = .ok idx) (lines : List Line) (k : Nat) (lo : LineOut)
    (hk : (feedLines O qy idx true lines {}).1[k]? = some lo) :
    (runBatch O qy joined [readableFile (lines.take (k + 1))] none).printed =
      (runBatch O qy joined [readableFile (lines.take k)] none).printed ++ piece lo := by
  rw [select_answers_are_batch_extensions O qy q hq hl joined idx hidx lines (k + 1),
    select_answers_are_batch_extensions O qy q hq hl joined idx hidx lines k]
  have hlt : k < (feedLines O qy idx true lines {}).1.length := by
    rcases Nat.lt_or_ge k (feedLines O qy idx true lines {}).1.length with h | h
    · exact h
    · rw [List.getElem?_eq_none h] at hk; cases hk
  rw [List.take_succ_eq_append_getElem hlt]
  have : (feedLines O qy idx true lines {}).1[k] = lo := by
    rw [List.getElem?_eq_getElem hlt] at hk; exact Option.some.inj hk
  simp [this]

open Sqlgrep.Spec.Agg

/-- in follow mode the engine's per-line step for an aggregate statement (no join) is "update, then — if WHERE admitted
the row — a full result" on the aggregation state -/
theorem agg_follow_step (O : Oracles) (qy : Query) (q : AggStmt) (idx : JoinIndex) (es : EngineState) (l : Line)
    (hq : qy.stmt = .aggregate q) (hj : qy.join = none) (hadm : anyResult l.row = true) :
    executeLine O qy idx true es l =
      (followStep O q es.agg (lineEnv qy.table l)).bind (fun p =>
        .ok (updateLimit false q.limit { es with agg := p.1 } p.2)) :=
  executeLine_follow_agg O qy q idx es l hq hj hadm

/-- in batch mode the per-line step is the update alone (the table is printed once, by `finalResult`) -/
theorem agg_batch_step (O : Oracles) (qy : Query) (q : AggStmt) (idx : JoinIndex) (es : EngineState) (l : Line)
    (hq : qy.stmt = .aggregate q) (hj : qy.join = none) (hadm : anyResult l.row = true) :
    executeLine O qy idx false es l =
      (aggUpdateRow O q es.agg (lineEnv qy.table l)).bind (fun p =>
        .ok ({ es with agg := p.1 }, { result := none, reachedLimit := false })) :=
  executeLine_batch_agg O qy q idx es l hq hj hadm

/-- **results are repeatable** (`R s g → R (result s).state g`): the only state change of `execute_result` is
`publishPercentiles`, which keeps every cell similar to the fold of its aggregate over its group's rows; DISTINCT
uses a fresh memory per result (D24 repaired), so nothing else leaks between refreshes. -/
theorem result_repeatable {O : Oracles} {q : AggStmt} {st st2 : AggState} {rows : List (List Value × Env)} {out : RowOut}
    (hc : CoupledP O q st rows) (hres : aggResult O q st = .ok (st2, out)) : CoupledP O q st2 rows := by
  rw [aggResult_state hres]; exact coupledP_publish hc

/-- the coupling survives any history of update+result steps -/
theorem follow_history_coupled {O : Oracles} {q : AggStmt} (envs : List Env) {st : AggState}
    (h : followRun O q envs {} = .ok st) : ∃ rows, keyedRows O q envs = some rows ∧ CoupledP O q st rows := by
  obtain ⟨rows, hr, hc⟩ := followRun_coupledP envs (coupledP_init O q) h
  exact ⟨rows, hr, by simpa using hc⟩

/-- **`follow_eq_batch_prefix` (aggregate half).** For every aggregate statement without LIMIT (any aggregates, GROUP BY,
WHERE, HAVING incl. hidden aggregates, DISTINCT), every input and every k: feed the first k−1 lines' rows `pre` one at a
time (update + result each), then a k-th row `env` that WHERE admits — the table shown for it is exactly the table of a
batch run (update only per row, one result at the end) over `pre ++ [env]`. Both states stand for the same admitted rows
(`sim2_snoc`; no reference to the specification's answer, so it also covers the finding classes D10/D15). Hypotheses: both runs got
that far without an evaluation error, and the GROUP BY keys seen are exact (equal in the value order ⇒ identical; with
`0.0` and `-0.0` as keys the two modes may show different representatives of the group: D60 below).
This is the case "the k-th row is shown" (`hupd : … = .ok (sf1, true)`); the other case is
`follow_rejected_row_changes_nothing`, and both cases over the executed loops (with lines that are not admitted) are
`follow_kth_line_eq_batch_prefix`. Statements WITH a LIMIT are outside this theorem. -/
theorem follow_eq_batch_prefix {O : Oracles} {q : AggStmt} (hlim : q.limit = none) (pre : List Env) (env : Env)
    {sf sf1 sf2 sb : AggState} {out : RowOut}
    (hfollow : followRun O q pre {} = .ok sf) (hupd : aggUpdateRow O q sf env = .ok (sf1, true))
    (hres : aggResult O q sf1 = .ok (sf2, out))
    (hbatch : aggRun O q (pre ++ [env]) {} = .ok sb)
    (hex : KeysExact (groupKeysOf O q (pre ++ [env]))) :
    finalResult O q { agg := sb } = .ok out :=
  follow_table_eq_batch_direct hlim pre env hfollow hupd hres hbatch hex

/-- the same relation between the states after any history: every cell of the follow-mode state is similar to the
batch-mode state's cell (identical but for published PERCENTILE values), so `execute_result` yields the same table -/
theorem follow_state_similar_to_batch {O : Oracles} {q : AggStmt} (envs : List Env) {sf sb : AggState}
    (hf : followRun O q envs {} = .ok sf) (hb : aggRun O q envs {} = .ok sb) (hex : KeysExact (groupKeysOf O q envs)) :
    (aggResult O q sf).bind (fun r => .ok r.2) = (aggResult O q sb).bind (fun r => (.ok r.2 : Outcome RowOut)) := by
  obtain ⟨rows, hr, hsim⟩ := sim2_runs envs hf hb
  exact aggResult_sim2 hsim (hex.mono (keyedRows_keys hr))

/- A second route to the same statement, through the specification (C04's `agg_refines_spec`): both tables equal the
   specification's table for the prefix. It needs no hypothesis on the batch run (it succeeds, by the totality half of
   the refinement) but only applies where the specification fixes the outcome, outside D10/D15. -/

/-- through the specification: the table shown for the k-th line is the table of the batch run over the first k lines,
and that batch run succeeds -/
theorem follow_eq_batch_prefix_via_spec {O : Oracles} {q : AggStmt} (hwf : StmtWF q) (hlim : q.limit = none)
    (pre : List Env) (env : Env) {sf sf1 sf2 : AggState} {out : RowOut}
    (hfollow : followRun O q pre {} = .ok sf) (hupd : aggUpdateRow O q sf env = .ok (sf1, true))
    (hres : aggResult O q sf1 = .ok (sf2, out))
    {t : List (List Value)} (hspec : table O q (pre ++ [env]) = some t) (hclass : deviationClass O q (pre ++ [env]) = "") :
    (aggRun O q (pre ++ [env]) {}).bind (fun sb => finalResult O q { agg := sb }) = .ok out := by
  obtain ⟨sb, hsb⟩ := Props.C04.updates_do_not_fail hwf (pre ++ [env]) hspec hclass
  rw [hsb]
  exact follow_table_eq_batch hlim pre env hfollow hupd hres hsb hspec

/-- the k-th row is rejected by WHERE: follow mode shows nothing for it and keeps its state (so the last table shown
stays the last table shown), and the batch run over the first k rows IS the batch run over the first k−1 rows — the
batch table is unchanged -/
theorem follow_rejected_row_changes_nothing {O : Oracles} {q : AggStmt} (pre : List Env) (env : Env) (sf : AggState)
    (h : passes O q env = some false) :
    followStep O q sf env = .ok (sf, none) ∧ aggRun O q (pre ++ [env]) {} = aggRun O q pre {} :=
  rejected_row_changes_nothing pre env sf h

/-- **`followRun` is the executed follow loop.** `runFollowAll` is the function the compiled driver runs for a `followi`
case (`FollowFileExecutor::execute`: per delivered line the flag, the line count, `executeLine` with update + result, the
printer). For an aggregate statement without join and LIMIT it feeds exactly the rows of the admitted lines
(`followEnvs`), in order, through `followStep`; prints the tables `followStep` returned (`followTables` = `followRun`
plus those tables: `followTables_state`), and counts every line. -/
theorem follow_run_is_engine_steps (O : Oracles) (qy : Query) (q : AggStmt) (hq : qy.stmt = .aggregate q)
    (hj : qy.join = none) (hlim : q.limit = none) (lines : List Line) {st : AggState} {ts : List RowOut}
    (h : followTables O q (followEnvs qy.table lines) {} = .ok (st, ts)) :
    runFollowAll O qy none lines = { printed := ts.flatMap (fun r => printResult r true), totalLines := lines.length } ∧
    followRun O q (followEnvs qy.table lines) {} = .ok st :=
  ⟨runFollowAll_agg O qy q hq hj hlim lines h, followRun_of_tables h⟩

/-- and conversely: an executed follow run that reports no failure went through every engine step -/
theorem follow_run_without_failure_ran_every_step (O : Oracles) (qy : Query) (q : AggStmt) (hq : qy.stmt = .aggregate q)
    (hj : qy.join = none) (hlim : q.limit = none) (lines : List Line)
    (h : hasFailed (runFollowAll O qy none lines) = false) :
    ∃ st ts, followTables O q (followEnvs qy.table lines) {} = .ok (st, ts) :=
  runFollowAll_agg_ok O qy q hq hj hlim lines h

/-- **C11, aggregate half, over the executed loops; every k-th line.** `runFollowAll` over the first k delivered lines and
`runBatch` over the same lines as one file; neither reports a failure; the GROUP BY keys seen are exact; no LIMIT, no JOIN.
* The k-th line is SHOWN (`lineShown`: it is admitted and WHERE admits its row): what follow mode prints for it — after
  everything it printed for the first k−1 lines — is exactly what the batch run over the first k lines prints.
* The k-th line is NOT shown (not admitted, or rejected by WHERE): follow mode prints nothing for it, and the batch run
  over the first k lines prints what the batch run over the first k−1 lines prints — the table is unchanged.
In both cases the follow run over the first k−1 lines reports no failure either, so the statement applies to every
earlier line as well. -/
theorem follow_kth_line_eq_batch_prefix (O : Oracles) (qy : Query) (q : AggStmt) (hq : qy.stmt = .aggregate q)
    (hj : qy.join = none) (hlim : q.limit = none) (joined : List FileLine) (pre : List Line) (l : Line)
    (hf : hasFailed (runFollowAll O qy none (pre ++ [l])) = false)
    (hb : hasFailed (runBatch O qy joined [asFile (pre ++ [l])] none) = false)
    (hex : KeysExact (groupKeysOf O q (followEnvs qy.table (pre ++ [l])))) :
    hasFailed (runFollowAll O qy none pre) = false ∧
    (lineShown O qy q l →
      (runFollowAll O qy none (pre ++ [l])).printed =
        (runFollowAll O qy none pre).printed ++ (runBatch O qy joined [asFile (pre ++ [l])] none).printed) ∧
    (¬ lineShown O qy q l →
      (runFollowAll O qy none (pre ++ [l])).printed = (runFollowAll O qy none pre).printed ∧
      (runBatch O qy joined [asFile (pre ++ [l])] none).printed = (runBatch O qy joined [asFile pre] none).printed ∧
      hasFailed (runBatch O qy joined [asFile pre] none) = false) :=
  follow_exec_step O qy q hq hj hlim joined pre l hf hb hex

/-- **the last table shown** after any number of lines is the batch table over those lines: the follow output ends with
exactly the batch run's output — or follow mode has printed nothing at all, because no line so far was shown -/
theorem follow_last_shown_is_batch_table (O : Oracles) (qy : Query) (q : AggStmt) (hq : qy.stmt = .aggregate q)
    (hj : qy.join = none) (hlim : q.limit = none) (joined : List FileLine) (lines : List Line)
    (hf : hasFailed (runFollowAll O qy none lines) = false)
    (hb : hasFailed (runBatch O qy joined [asFile lines] none) = false)
    (hex : KeysExact (groupKeysOf O q (followEnvs qy.table lines))) :
    (∃ earlier, (runFollowAll O qy none lines).printed = earlier ++ (runBatch O qy joined [asFile lines] none).printed) ∨
    ((runFollowAll O qy none lines).printed = [] ∧ ∀ l ∈ lines, ¬ lineShown O qy q l) :=
  follow_exec_last O qy q hq hj hlim joined lines hf hb hex

/-- for an aggregate statement the executed per-line step (default config) sends the rows of ALL the line's join partners
(`lineEnvs`, which is the nested loop's `rowsOf`: `Props.C05.join_refines_nested_loop`; exactly one row without a join)
through `execute_update`, and then — iff one of them updated — computes ONE table -/
theorem agg_follow_join_step (O : Oracles) (qy : Query) (q : AggStmt) (idx : JoinIndex) (es : EngineState) (l : Line)
    (hq : qy.stmt = .aggregate q) (hadm : anyResult l.row = true) :
    executeLine O qy idx true es l =
      (lineEnvs qy idx false l).bind (fun envs =>
        (aggEnvs O q envs es.agg false).bind (fun p =>
          if p.2 then (aggResult O q p.1).bind (fun r => .ok (updateLimit false q.limit { es with agg := r.1 } (some r.2)))
          else .ok (updateLimit false q.limit { es with agg := p.1 } none))) :=
  executeLine_follow_join O qy q idx es l hq hadm

/-- **one line in both modes, any join index**: from a follow-mode engine state similar to the batch-mode engine state
(after the same lines), the line's answer under the default configuration either carries a table — the table
`execute_result` shows on the batch-mode state after the same line, whatever the number of join partners — or it carries
none and neither aggregation state changed; and the states are similar again -/
theorem follow_join_line_is_batch_table {O : Oracles} {qy : Query} {q : AggStmt} (hq : qy.stmt = .aggregate q)
    (hlim : q.limit = none) (idx : JoinIndex) (l : Line) {esf esb esf' esb' : EngineState} {lo lob : LineOut}
    {S K : List (List Value)} (h : Sim2 q esf.agg esb.agg S) (hS : ∀ k ∈ S, k ∈ K)
    (hK : ∀ envs, lineEnvs qy idx false l = .ok envs → ∀ k ∈ groupKeysOf O q (envs.map (·.1)), k ∈ K)
    (hex : KeysExact K)
    (hf : executeLine O qy idx true esf l = .ok (esf', lo)) (hb : executeLine O qy idx false esb l = .ok (esb', lob)) :
    (∃ S', Sim2 q esf'.agg esb'.agg S' ∧ ∀ k ∈ S', k ∈ K) ∧
    ((∃ out, lo.result = some out ∧ finalResult O q esb' = .ok out) ∨
     (lo.result = none ∧ esf'.agg = esf.agg ∧ esb'.agg = esb.agg)) :=
  line_sim hq hlim idx l h hS hK hex hf hb

/-- **C11, aggregate half, at full strength: with or without a JOIN.** Follow side: the engine's answers for the lines
fed one at a time with the default configuration (`feedLines`, what the `incr` driver runs:
`Props.C06.incr_driver_is_feedLines`); batch side: the executed `runBatch` over the same lines as one file, the join (if
any) loaded into `idx`. Hypotheses: no LIMIT; the feed does not fail; the batch run reports no failure; the GROUP BY keys
seen (over all join partners) are exact — D60 is the only carve-out. Then for EVERY k the answer for the k-th line either
carries a table, and printing it is exactly what the batch run over the first k lines prints (a line with several join
partners included), or it carries none, and the batch run over the first k lines prints what the batch run over the
first k−1 lines prints. -/
theorem follow_join_kth_line_eq_batch_prefix {O : Oracles} {qy : Query} {q : AggStmt} (hq : qy.stmt = .aggregate q)
    (hlim : q.limit = none) (joined : List FileLine) (idx : JoinIndex) (hidx : joinOutcome qy joined = .ok idx)
    (pre : List Line) (l : Line) {esf : EngineState} {losf : List LineOut}
    (hf : feedLines O qy idx true (pre ++ [l]) {} = (losf, .ok esf))
    (hb : hasFailed (runBatch O qy joined [asFile (pre ++ [l])] none) = false)
    (hex : KeysExact (lineKeys O qy q idx (pre ++ [l]))) :
    ∃ lo, losf = (feedLines O qy idx true pre {}).1 ++ [lo] ∧
      ((∃ out, lo.result = some out ∧
          (runBatch O qy joined [asFile (pre ++ [l])] none).printed = printResult out true) ∨
       (lo.result = none ∧
          (runBatch O qy joined [asFile (pre ++ [l])] none).printed = (runBatch O qy joined [asFile pre] none).printed ∧
          hasFailed (runBatch O qy joined [asFile pre] none) = false)) :=
  follow_join_kth_line hq hlim joined idx hidx pre l hf hb hex

/-- the hypotheses of `follow_join_kth_line_eq_batch_prefix` hold together on the D61 input — `SELECT COUNT(*) FROM a INNER
JOIN b ON a.k = b.k`, a joined file with two rows of key 1, one input line with key 1 (k = 1: a line with TWO join
partners) — and its conclusion there: the answer for the line carries the table `2`, which is what the batch run prints.
(Follow mode over a JOIN exists at the library API only: `FollowFileExecutor::execute` answers `JoinNotSupported`, see
`Model/PipelineFollow.lean` `followStatement`.) -/
example :
    d61Query.stmt = .aggregate exCountQ ∧ exCountQ.limit = none ∧ joinOutcome d61Query d61Joined = .ok d61Index ∧
    (∃ losf esf, feedLines {} d61Query d61Index true ([] ++ [d61Line]) {} = (losf, .ok esf)) ∧
    hasFailed (runBatch {} d61Query d61Joined [asFile ([] ++ [d61Line])] none) = false ∧
    KeysExact (lineKeys {} d61Query exCountQ d61Index ([] ++ [d61Line])) ∧
    (feedLines {} d61Query d61Index true ([] ++ [d61Line]) {}).1.map (·.result) = [some { columns := ["count0"], rows := [[.int 2]] }] ∧
    (runBatch {} d61Query d61Joined [asFile ([] ++ [d61Line])] none).printed = ["count0: 2"] := by
  refine ⟨rfl, rfl, rfl, ⟨_, _, rfl⟩, by decide, ?_, rfl, by decide⟩
  intro a ha b hb _
  have hk : lineKeys {} d61Query exCountQ d61Index ([] ++ [d61Line]) = [[.null], [.null]] := rfl
  rw [hk] at ha hb
  simp only [List.mem_cons, List.mem_nil_iff, or_false, or_self] at ha hb
  rw [ha, hb]

/-- **D60** (why "exact keys" cannot be dropped from `follow_eq_batch_prefix`): GROUP BY over the REAL keys `0.0` and
`-0.0` (one group: they are equal in the value order). Rows (0.0, NULL, 1), (-0.0, 1, NULL), statement
`SELECT r, COUNT(v), PERCENTILE(w, p) … GROUP BY r`, any p: fed incrementally, the table after the second row shows the
key `0.0` (the refresh after row one published the percentile and thereby created the group's entry under `0.0`); a batch
run over both rows shows `-0.0` (the entry is created by COUNT(v) of row two). The harness witness D60 shows the same on
the implementation. -/
theorem d60_follow_and_batch_show_different_key_representatives (p : Nat) :
    ∃ sf sf1 sf2 out sb outb,
      followRun {} (d60Stmt p) [rowRVW 0 .null (.int 1)] {} = .ok sf ∧
      aggUpdateRow {} (d60Stmt p) sf (rowRVW (2^63) (.int 1) .null) = .ok (sf1, true) ∧
      aggResult {} (d60Stmt p) sf1 = .ok (sf2, out) ∧
      aggRun {} (d60Stmt p) [rowRVW 0 .null (.int 1), rowRVW (2^63) (.int 1) .null] {} = .ok sb ∧
      finalResult {} (d60Stmt p) { agg := sb } = .ok outb ∧
      out.rows = [[.real 0, .int 1, .int 1]] ∧ outb.rows = [[.real (2^63), .int 1, .int 1]] := by
  refine ⟨{ aggs := (st1 p).aggs, vals := [([.real 0], [(2, .int 1)])] }, st2f p, st2f p,
    { columns := ["r", "count1", "percentile2"], rows := [[.real 0, .int 1, .int 1]] }, st2b p,
    { columns := ["r", "count1", "percentile2"], rows := [[.real (2^63), .int 1, .int 1]] }, ?_, rfl, ?_, rfl, ?_, rfl, rfl⟩
  · have h1 : aggUpdateRow {} (d60Stmt p) {} (rowRVW 0 .null (.int 1)) = .ok (st1 p, true) := rfl
    simp only [followRun, followStep, h1, Outcome.bind, if_true]
    rw [aggResult_eq, pub_1]
    rfl
  · rw [aggResult_eq, pub_f]
    rfl
  · simp only [finalResult, bind, Outcome.bind]
    rw [aggResult_eq, pub_b]
    rfl

/-- **D61, repaired** (regression witness): follow mode, aggregate over a JOIN. `SELECT COUNT(*) FROM a INNER JOIN b ON
a.k = b.k`, the joined file has two rows with key 1, one input line with key 1: the answer for that line carries ONE table
with the one row `2` — the table a batch run over the same line shows. Before /repo 7277b4c it carried the rows `1` and
`2` (one full table per join partner, concatenated). The harness witness D61 checks the same on the implementation. -/
theorem d61_repaired_follow_join_shows_the_batch_table :
    (∃ es lo, executeLine {} d61Query d61Index true {} d61Line = .ok (es, lo) ∧
      lo.result = some { columns := ["count0"], rows := [[.int 2]] }) ∧
    (∃ es lo, executeLine {} d61Query d61Index false {} d61Line = .ok (es, lo) ∧
      finalResult {} exCountQ es = .ok { columns := ["count0"], rows := [[.int 2]] }) :=
  ⟨⟨_, _, rfl, rfl⟩, ⟨_, _, rfl, rfl⟩⟩

/-- `SELECT COUNT(*) FROM t` -/
def exCount : AggStmt :=
  { items := [{ name := "count0", kind := .count none false, transform := none }], filter := none, groupBy := none,
    having := none, havingAggs := [], havingKeys := [], havingVisit := [], limit := none, distinct := false }

/-- non-vacuity: after one line fed incrementally, the second line's table (`2`) is the batch table over both lines -/
example : ∃ sf sf1 sf2 out, followRun {} exCount [{}] {} = .ok sf ∧ aggUpdateRow {} exCount sf {} = .ok (sf1, true) ∧
    aggResult {} exCount sf1 = .ok (sf2, out) ∧ table {} exCount ([({} : Env)] ++ [({} : Env)]) = some [[.int 2]] ∧
    deviationClass {} exCount ([({} : Env)] ++ [({} : Env)]) = "" ∧ out.rows = [[.int 2]] ∧
    (aggRun {} exCount ([({} : Env)] ++ [({} : Env)]) {}).bind (fun sb => finalResult {} exCount { agg := sb }) = .ok out :=
  ⟨_, _, _, _, rfl, rfl, rfl, rfl, rfl, rfl, rfl⟩

/-- non-vacuity of `follow_eq_batch_prefix`: the key-exactness hypothesis on the same input, and the conclusion -/
example : KeysExact (groupKeysOf {} exCount ([({} : Env)] ++ [({} : Env)])) := by
  intro a ha b hb _
  simp [groupKeysOf, keyOf, exCount] at ha hb
  rw [ha, hb]
example : finalResult {} exCount { agg := (publishPercentiles (publishPercentiles {})) } = finalResult {} exCount {} := rfl

/-- non-vacuity over the executed loops: `SELECT COUNT(*) FROM a WHERE k = 1` on a shown line, a line WHERE rejects and a
line that is not admitted. Follow mode prints one table (`1`) for the first line and nothing for the other two; the batch
runs over 1, 2 and 3 lines all print `1`. -/
example :
    runFollowAll {} exWhereQuery none [exLineShown] = { printed := ["count0: 1"], totalLines := 1 } ∧
    runFollowAll {} exWhereQuery none [exLineShown, exLineRejected] = { printed := ["count0: 1"], totalLines := 2 } ∧
    runFollowAll {} exWhereQuery none [exLineShown, exLineRejected, exLineNotAdmitted] =
      { printed := ["count0: 1"], totalLines := 3 } ∧
    runBatch {} exWhereQuery [] [asFile [exLineShown, exLineRejected, exLineNotAdmitted]] none =
      { printed := ["count0: 1"], totalLines := 3 } ∧
    runFollowAll {} exWhereQuery none [exLineShown, exLineShown] = { printed := ["count0: 1", "count0: 2"], totalLines := 2 } ∧
    runBatch {} exWhereQuery [] [asFile [exLineShown, exLineShown]] none = { printed := ["count0: 2"], totalLines := 2 } := by
  refine ⟨?_, ?_, ?_, ?_, ?_, ?_⟩ <;> rfl
example : lineShown {} exWhereQuery exWhereStmt exLineShown ∧ ¬ lineShown {} exWhereQuery exWhereStmt exLineRejected ∧
    ¬ lineShown {} exWhereQuery exWhereStmt exLineNotAdmitted := by
  refine ⟨⟨rfl, rfl⟩, fun h => ?_, fun h => ?_⟩
  · exact absurd h.2 (by decide)
  · exact absurd h.1 (by decide)
/-- the hypotheses of `follow_kth_line_eq_batch_prefix` hold on that input (k = 2: the rejected line) -/
example : hasFailed (runFollowAll {} exWhereQuery none ([exLineShown] ++ [exLineRejected])) = false ∧
    hasFailed (runBatch {} exWhereQuery [] [asFile ([exLineShown] ++ [exLineRejected])] none) = false ∧
    KeysExact (groupKeysOf {} exWhereStmt (followEnvs exWhereQuery.table ([exLineShown] ++ [exLineRejected]))) := by
  refine ⟨by decide, by decide, ?_⟩
  intro a ha b hb _
  simp [groupKeysOf, keyOf, exWhereStmt, followEnvs, asFile, envsOf] at ha hb
  rw [← ha.2, ← hb.2]

end Sqlgrep.Props.C11
