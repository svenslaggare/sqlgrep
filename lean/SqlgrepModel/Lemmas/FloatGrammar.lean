import SqlgrepModel.Spec.FloatGrammar
import SqlgrepModel.Model.DecFloat
import SqlgrepModel.Lemmas.JsonNumber
import SqlgrepModel.Lemmas.Utf8Encode
/-
`DecFloat.parseF64N` / `parseF64` (the model's `f64::from_str`, executed by the driver for every number text) against
the grammar of `Spec/FloatGrammar.lean`:

* `parseF64N_complete` : a text the grammar (`FloatR`) derives with denotation `v` is accepted, with the bits `bitsOf v`;
* `parseF64N_sound`    : an accepted text is derived by the grammar, and the answer is `bitsOf` of a denotation;
* `parseF64_iff_rust`  : both, for a text given as characters; `FloatR.unique_bits`: the answer is a function of the text;
  `parseF64_iff` the same for the documented grammar `FloatD` under `ExpSmall`;
* `parseF64N_iff(_rust)`, `parseF64N_utf8_iff(_rust)`: the same for a text given as bytes / code points below U+D800
  (REAL column texts are UTF-8 bytes; every character the grammar accepts is ASCII: `FloatDV.ascii`).

`bitsOf` says which REAL a denotation is: the decimal `(-1)^neg · mant · 10^exp` becomes `DecFloat.decToF64 neg mant exp`,
the correctly rounded REAL (`Lemmas/DecFloat.lean`: `decToF64_nearest`, `_tie_even`, `_overflow_iff` — a decimal at or
above `(2^54 − 1) · 2^970` is `inf`, as in Rust, not an error); `inf` / `nan` are the infinity and Rust's `f64::NAN`, with
the sign bit of the text.

The exponent (observation N3 of DESIGN.md). `dec2flt::parse::parse_scientific` stops accumulating exponent digits once
the accumulated magnitude has reached `0x10000` (`if exponent < 0x10000 { exponent = 10 * exponent + digit }`); the
model's `parseExp` does the same (`capDigitsVal`), and the grammar comes in two readings of the exponent digits
(`Spec/FloatGrammar.lean`): `FloatR` (Rust's capped accumulation, `rustExpVal`) and `FloatD` (the documented grammar,
the mathematical value). The theorems of this file are about `FloatR` without any hypothesis; `floatR_iff_floatD` turns
them into statements about `FloatD` for every text whose exponent digits' value is below 65 536 (`ExpSmall`, decidable
on the text) — `parseF64_iff`, `parseF64N_iff`, `parseF64N_utf8_iff`; which texts are accepted never depends on the
reading (`parseF64_none_iff`). The two readings differ observably only when a mantissa of ≈ 65 000 digits or more meets
an exponent of at least 65 536: `0.` + 65 299 zeros + `1e655360` denotes 1e590060 (nearest REAL: inf), Rust reads the
exponent 65 536 and answers 1e236 (harness case `capped-exponent` of the `f64parse` stream); for texts shorter than
≈ 65 000 characters the capped exponent and the exact one both give `±0` or `±inf`.
-/
namespace Sqlgrep.DecFloat
open Sqlgrep.FloatGrammar
open Sqlgrep.JsonGrammar (Digit Digits Digits1)

/-- the REAL (bit pattern) a denotation of the `f64::from_str` grammar stands for -/
def bitsOf : FVal → Nat
  | .dec neg m e => decToF64 neg m e
  | .inf neg => (if neg then signMask else 0) + infBits
  | .nan neg => (if neg then signMask else 0) + nanBits

theorem isDigit_toNat (c : Char) : isDigit c.toNat = true ↔ Digit c := by
  unfold isDigit Digit; simp

theorem toNat_eq (c d : Char) : c.toNat = d.toNat ↔ c = d := Char.toNat_inj

theorem spanDigits_map (s : List Char) :
    spanDigits (s.map Char.toNat) =
      ((JsonGrammar.spanDigits s).1.map Char.toNat, (JsonGrammar.spanDigits s).2.map Char.toNat) := by
  induction s with
  | nil => rfl
  | cons c s ih =>
    simp only [List.map_cons, spanDigits, JsonGrammar.spanDigits]
    by_cases h : Digit c
    · rw [if_pos ((isDigit_toNat c).2 h), if_pos h, ih]; rfl
    · have h' : ¬ isDigit c.toNat = true := fun x => h ((isDigit_toNat c).1 x)
      rw [if_neg h', if_neg h]; rfl

theorem digitsVal_map (s : List Char) : digitsVal (s.map Char.toNat) = JsonGrammar.digitsVal s := by
  unfold digitsVal JsonGrammar.digitsVal
  rw [List.foldl_map]
  exact congrArg (fun f => List.foldl f 0 s) (funext fun n => funext fun c => by rw [Nat.mul_comm])

theorem capDigitsVal_map (s : List Char) : capDigitsVal (s.map Char.toNat) = rustExpVal s := by
  unfold capDigitsVal rustExpVal
  rw [List.foldl_map]
  exact congrArg (fun f => List.foldl f 0 s) (funext fun n => funext fun c => by rw [Nat.mul_comm]; rfl)

theorem digitsFold_ge (s : List Char) (acc : Nat) :
    acc ≤ s.foldl (fun n c => 10 * n + (c.toNat - 0x30)) acc := by
  induction s generalizing acc with
  | nil => exact Nat.le_refl _
  | cons c s ih =>
    simp only [List.foldl_cons]
    exact Nat.le_trans (by omega) (ih _)

theorem rustExpVal_eq_aux (s : List Char) (acc : Nat)
    (h : s.foldl (fun n c => 10 * n + (c.toNat - 0x30)) acc < 65536) :
    s.foldl (fun n c => if n < 65536 then 10 * n + (c.toNat - 0x30) else n) acc =
      s.foldl (fun n c => 10 * n + (c.toNat - 0x30)) acc := by
  induction s generalizing acc with
  | nil => rfl
  | cons c s ih =>
    simp only [List.foldl_cons] at h ⊢
    have h1 := digitsFold_ge s (10 * acc + (c.toNat - 0x30))
    have hacc : acc < 65536 := by omega
    rw [if_pos hacc]
    exact ih _ h

/-- **below the cap Rust's reading of the exponent digits is their value** -/
theorem rustExpVal_eq {ds : List Char} (h : JsonGrammar.digitsVal ds < 65536) : rustExpVal ds = JsonGrammar.digitsVal ds :=
  rustExpVal_eq_aux ds 0 h

theorem spanDigits_all {ds : List Char} (h : Digits ds) : JsonGrammar.spanDigits ds = (ds, []) := by
  have := JsonGrammar.spanDigits_append ds [] h (by intro c t e; cases e)
  rwa [List.append_nil] at this

/-- the optional sign, as `parseF64N` splits it off the text and `parseExp` off the exponent -/
def signOf : List Nat → Bool × List Nat
  | [] => (false, [])
  | a :: t => if a = 45 then (true, t) else if a = 43 then (false, t) else (false, a :: t)

theorem signOf_cons (a : Nat) (t : List Nat) :
    signOf (a :: t) = if a = 45 then (true, t) else if a = 43 then (false, t) else (false, a :: t) := rfl

/-- the fall-through arm of the model's `match s with | 45 :: _ | 43 :: _ | _` -/
theorem signOf_of_ne {s : List Nat} (h1 : ∀ t, s = 45 :: t → False) (h2 : ∀ t, s = 43 :: t → False) :
    signOf s = (false, s) := by
  cases s with
  | nil => rfl
  | cons a t => rw [signOf_cons, if_neg fun e => h1 t (by rw [e]), if_neg fun e => h2 t (by rw [e])]

/-- what `signOf` splits off is a `SignD` of the grammar -/
theorem signOf_spec (s : List Char) :
    ∃ sg body neg, SignD sg neg ∧ s = sg ++ body ∧ signOf (s.map Char.toNat) = (neg, body.map Char.toNat) := by
  cases s with
  | nil => exact ⟨[], [], false, .none, rfl, rfl⟩
  | cons a t =>
    by_cases h1 : a = '-'
    · subst h1; exact ⟨['-'], t, true, .minus, rfl, rfl⟩
    · by_cases h2 : a = '+'
      · subst h2; exact ⟨['+'], t, false, .plus, rfl, rfl⟩
      · refine ⟨[], a :: t, false, .none, rfl, ?_⟩
        have n1 : a.toNat ≠ 45 := fun e => h1 ((toNat_eq a '-').1 e)
        have n2 : a.toNat ≠ 43 := fun e => h2 ((toNat_eq a '+').1 e)
        rw [List.map_cons, signOf_cons, if_neg n1, if_neg n2]

theorem signOf_append {sg body : List Char} {neg : Bool} (hs : SignD sg neg)
    (hb : ∃ c t, body = c :: t ∧ c.toNat ≠ 45 ∧ c.toNat ≠ 43) :
    signOf ((sg ++ body).map Char.toNat) = (neg, body.map Char.toNat) := by
  cases hs with
  | none =>
    obtain ⟨c, t, rfl, h1, h2⟩ := hb
    rw [List.nil_append, List.map_cons, signOf_cons, if_neg h1, if_neg h2]
  | plus => rfl
  | minus => rfl

theorem parseExp_cons (c : Nat) (rest : List Nat) :
    parseExp (c :: rest) =
      if c = 101 ∨ c = 69 then
        (if (spanDigits (signOf rest).2).1.isEmpty || !(spanDigits (signOf rest).2).2.isEmpty then none
         else some (if (signOf rest).1 then -(capDigitsVal (spanDigits (signOf rest).2).1 : Int)
                    else (capDigitsVal (spanDigits (signOf rest).2).1 : Int)))
      else none := by
  unfold parseExp
  by_cases h : c = 101 ∨ c = 69
  · simp only [h, if_true]
    split
    · rfl
    · rfl
    · rename_i h1 h2
      rw [signOf_of_ne h1 h2]
  · simp only [h, if_false]

/-- the optional `'.' Digit*` after the integer digits, as `parseBody` splits it off -/
def fracOf : List Nat → List Nat × List Nat
  | [] => ([], [])
  | a :: t => if a = 46 then spanDigits t else ([], a :: t)

theorem fracOf_cons (a : Nat) (t : List Nat) : fracOf (a :: t) = if a = 46 then spanDigits t else ([], a :: t) := rfl

/-- the `Number` branch of `parseBody` -/
def numBody (neg : Bool) (s : List Nat) : Option Nat :=
  if (spanDigits s).1.isEmpty && (fracOf (spanDigits s).2).1.isEmpty then none
  else (parseExp (fracOf (spanDigits s).2).2).map fun e =>
    decToF64 neg (digitsVal ((spanDigits s).1 ++ (fracOf (spanDigits s).2).1)) (e - ((fracOf (spanDigits s).2).1.length : Int))

theorem parseBody_eq (neg : Bool) (s : List Nat) :
    parseBody neg s =
      if s.map lowerC = wNan then some ((if neg then signMask else 0) + nanBits)
      else if s.map lowerC = wInf ∨ s.map lowerC = wInfinity then some ((if neg then signMask else 0) + infBits)
      else numBody neg s := by
  unfold parseBody numBody
  simp only []
  by_cases h1 : s.map lowerC = wNan
  · simp only [h1, if_true]
  · simp only [h1, if_false]
    by_cases h2 : s.map lowerC = wInf ∨ s.map lowerC = wInfinity
    · simp only [h2, if_true]
    · simp only [h2, if_false]
      generalize (spanDigits s).2 = r1
      generalize (spanDigits s).1 = ip
      cases r1 with
      | nil =>
        show (if (ip.isEmpty && ([] : List Nat).isEmpty) = true then none else _) = _
        rw [fracOf]
        split
        · rfl
        · cases parseExp [] <;> rfl
      | cons a t =>
        rw [fracOf_cons]
        by_cases ha : a = 46
        · subst ha
          rw [if_pos rfl]
          show (if (ip.isEmpty && (spanDigits t).1.isEmpty) = true then none else _) = _
          split
          · rfl
          · cases parseExp (spanDigits t).2 <;> rfl
        · rw [if_neg ha]
          split
          · rename_i h; cases h; exact absurd rfl ha
          · split
            · rfl
            · cases parseExp (a :: t) <;> rfl

theorem parseF64N_eq (s : List Nat) : parseF64N s = parseBody (signOf s).1 (signOf s).2 := by
  unfold parseF64N
  split
  · rfl
  · rfl
  · rename_i h1 h2
    rw [signOf_of_ne h1 h2]

theorem digits1_head_not_sign {ds : List Char} (h : Digits1 ds) :
    ∃ d t, ds = d :: t ∧ d.toNat ≠ 45 ∧ d.toNat ≠ 43 ∧ d.toNat ≠ 46 := by
  obtain ⟨hne, hd⟩ := h
  cases ds with
  | nil => exact absurd rfl hne
  | cons d t =>
    have := hd d (List.mem_cons_self ..)
    unfold Digit at this
    exact ⟨d, t, rfl, by omega, by omega, by omega⟩

theorem parseExp_complete {r : List Char} {ev : Int} (h : ExpR r ev) : parseExp (r.map Char.toNat) = some ev := by
  cases h with
  | none => rfl
  | @some e sg ds neg he hs hd =>
    have hc : e.toNat = 101 ∨ e.toNat = 69 := by
      rcases he with rfl | rfl
      · exact Or.inl rfl
      · exact Or.inr rfl
    show parseExp (List.map Char.toNat (e :: (sg ++ ds))) = _
    obtain ⟨d, t, hdt, h1, h2, _⟩ := digits1_head_not_sign hd
    rw [List.map_cons, parseExp_cons, if_pos hc, signOf_append hs ⟨d, t, hdt, h1, h2⟩]
    simp only [spanDigits_map, spanDigits_all hd.2]
    have : (ds.map Char.toNat).isEmpty = false := by
      cases ds with
      | nil => exact absurd rfl hd.1
      | cons _ _ => rfl
    simp only [this, List.map_nil, List.isEmpty_nil, Bool.not_true, Bool.or_self, Bool.false_eq_true, if_false,
      capDigitsVal_map]

theorem parseExp_sound {r : List Char} {ev : Int} (h : parseExp (r.map Char.toNat) = some ev) : ExpR r ev := by
  cases r with
  | nil =>
    simp only [List.map_nil, parseExp, Option.some.injEq] at h
    subst h; exact .none
  | cons c rest =>
    rw [List.map_cons, parseExp_cons] at h
    by_cases hc : c.toNat = 101 ∨ c.toNat = 69
    · rw [if_pos hc] at h
      have he : c = 'e' ∨ c = 'E' := by
        rcases hc with hc | hc
        · exact Or.inl ((toNat_eq c 'e').1 hc)
        · exact Or.inr ((toNat_eq c 'E').1 hc)
      obtain ⟨sg, ds, neg, hs, rfl, hso⟩ := signOf_spec rest
      rw [hso] at h
      simp only [spanDigits_map] at h
      have hsp := JsonGrammar.spanDigits_spec ds
      split at h
      · cases h
      · rename_i hcond
        simp only [List.isEmpty_iff, List.map_eq_nil_iff, Bool.or_eq_true, Bool.not_eq_true', not_or] at hcond
        have hB : (JsonGrammar.spanDigits ds).2 = [] := by
          cases hx : (JsonGrammar.spanDigits ds).2 with
          | nil => rfl
          | cons _ _ => rw [hx] at hcond; simp at hcond
        have hds : ds = (JsonGrammar.spanDigits ds).1 := by
          have := hsp.1; rw [hB, List.append_nil] at this; exact this
        have hd1 : Digits1 ds := ⟨by rw [hds]; exact hcond.1, by rw [hds]; exact hsp.2.1⟩
        simp only [Option.some.injEq] at h
        rw [← hds, capDigitsVal_map] at h
        subst h
        exact .some he hs hd1
    · rw [if_neg hc] at h; cases h

theorem parseExp_iff (r : List Char) (ev : Int) : parseExp (r.map Char.toNat) = some ev ↔ ExpR r ev :=
  ⟨parseExp_sound, parseExp_complete⟩

theorem expD_head {val : List Char → Nat} {e : List Char} {ev : Int} (h : ExpDV val e ev) :
    JsonGrammar.NoDigitAhead e ∧ ∀ c t, e = c :: t → c.toNat ≠ 46 := by
  cases h with
  | none => exact ⟨fun c t h => (by cases h), fun c t h => (by cases h)⟩
  | some he _ _ =>
    constructor
    · intro c t hc hd
      cases hc
      have := JsonGrammar.digit_ne_sign hd
      rcases he with rfl | rfl
      · exact this.2.2.2.1 rfl
      · exact this.2.2.2.2 rfl
    · intro c t hc
      cases hc
      rcases he with rfl | rfl <;> decide

theorem fracOf_map_other {r : List Char} (h : ∀ c t, r = c :: t → c.toNat ≠ 46) :
    fracOf (r.map Char.toNat) = ([], r.map Char.toNat) := by
  cases r with
  | nil => rfl
  | cons c t => rw [List.map_cons, fracOf_cons, if_neg (h c t rfl)]

theorem map_isEmpty_false {ds : List Char} (h : ds ≠ []) : (ds.map Char.toNat).isEmpty = false := by
  cases ds with
  | nil => exact absurd rfl h
  | cons _ _ => rfl

theorem numBody_complete (neg : Bool) {body : List Char} {m : Nat} {e : Int} (h : NumberR body m e) :
    numBody neg (body.map Char.toNat) = some (decToF64 neg m e) := by
  cases h with
  | @int ip ex ev hip hex =>
    have hh := expD_head hex
    unfold numBody
    simp only [spanDigits_map, JsonGrammar.spanDigits_append ip ex hip.2 hh.1, fracOf_map_other hh.2,
      map_isEmpty_false hip.1, Bool.false_and, Bool.false_eq_true, if_false, parseExp_complete hex, Option.map_some,
      List.append_nil, digitsVal_map, List.length_nil]
    simp
  | @point ip fp ex ev hip hfp hne hex =>
    have hh := expD_head hex
    have hbody : ip ++ '.' :: fp ++ ex = ip ++ ('.' :: (fp ++ ex)) := by simp
    have hnd : JsonGrammar.NoDigitAhead ('.' :: (fp ++ ex)) := by
      intro c t hc hd; cases hc; revert hd; decide
    have hfr : fracOf (('.' :: (fp ++ ex)).map Char.toNat) = (fp.map Char.toNat, ex.map Char.toNat) := by
      rw [List.map_cons, fracOf_cons, if_pos (show '.'.toNat = 46 from rfl), spanDigits_map,
        JsonGrammar.spanDigits_append fp ex hfp hh.1]
    have hcond : ((ip.map Char.toNat).isEmpty && (fp.map Char.toNat).isEmpty) = false := by
      rcases hne with h | h
      · rw [map_isEmpty_false h]; rfl
      · rw [map_isEmpty_false h]; simp
    unfold numBody
    rw [hbody]
    simp only [spanDigits_map, JsonGrammar.spanDigits_append ip _ hip hnd, hfr, hcond, Bool.false_eq_true, if_false,
      parseExp_complete hex, Option.map_some, ← List.map_append, digitsVal_map, List.length_map]

theorem numBody_sound (neg : Bool) {s : List Char} {b : Nat} (h : numBody neg (s.map Char.toNat) = some b) :
    ∃ m e, NumberR s m e ∧ b = decToF64 neg m e := by
  have hsp := JsonGrammar.spanDigits_spec s
  unfold numBody at h
  simp only [spanDigits_map] at h
  generalize hip : (JsonGrammar.spanDigits s).1 = ip at h hsp
  generalize hr1 : (JsonGrammar.spanDigits s).2 = r1 at h hsp
  obtain ⟨hs, hdip, _⟩ := hsp
  by_cases hpoint : ∃ t, r1 = '.' :: t
  · obtain ⟨t, rfl⟩ := hpoint
    have hst := JsonGrammar.spanDigits_spec t
    rw [List.map_cons, fracOf_cons, if_pos (show '.'.toNat = 46 from rfl), spanDigits_map] at h
    generalize hfp : (JsonGrammar.spanDigits t).1 = fp at h hst
    generalize hr2 : (JsonGrammar.spanDigits t).2 = r2 at h hst
    obtain ⟨ht, hdfp, _⟩ := hst
    split at h
    · cases h
    · rename_i hcond
      cases hx : parseExp (r2.map Char.toNat) with
      | none => rw [hx] at h; cases h
      | some ev =>
        rw [hx] at h
        simp only [Option.map_some, Option.some.injEq, ← List.map_append, digitsVal_map, List.length_map] at h
        have hne : ip ≠ [] ∨ fp ≠ [] := by
          cases ip with
          | cons _ _ => exact Or.inl (by simp)
          | nil =>
            cases fp with
            | cons _ _ => exact Or.inr (by simp)
            | nil => simp at hcond
        refine ⟨_, _, ?_, h.symm⟩
        have := NumberDV.point hdip hdfp hne (parseExp_sound hx)
        rw [hs, ht]
        simpa using this
  · have hnp : ∀ c t, r1 = c :: t → c.toNat ≠ 46 := by
      intro c t hc hcn
      exact hpoint ⟨t, by rw [hc, (toNat_eq c '.').1 hcn]⟩
    rw [fracOf_map_other hnp] at h
    split at h
    · cases h
    · rename_i hcond
      cases hx : parseExp (r1.map Char.toNat) with
      | none => rw [hx] at h; cases h
      | some ev =>
        rw [hx] at h
        simp only [Option.map_some, Option.some.injEq, List.append_nil, digitsVal_map, List.length_nil] at h
        have hne : ip ≠ [] := by
          cases ip with
          | cons _ _ => simp
          | nil => simp at hcond
        refine ⟨_, _, ?_, h.symm⟩
        have := NumberDV.int ⟨hne, hdip⟩ (parseExp_sound hx)
        rw [hs]
        simpa using this

def Lower (l : Char) : Prop := 97 ≤ l.toNat ∧ l.toNat ≤ 122

instance (l : Char) : Decidable (Lower l) := inferInstanceAs (Decidable (97 ≤ l.toNat ∧ l.toNat ≤ 122))

theorem lowerC_letter {l c : Char} (hl : Lower l) : lowerC c.toNat = l.toNat ↔ LetterCI l c := by
  unfold lowerC LetterCI Lower at *
  by_cases h : (decide (65 ≤ c.toNat) && decide (c.toNat ≤ 90)) = true
  · rw [if_pos h]
    simp only [Bool.and_eq_true, decide_eq_true_eq] at h
    omega
  · rw [if_neg h]
    simp only [Bool.and_eq_true, decide_eq_true_eq] at h
    omega

theorem word_iff (w : List Char) (hw : ∀ l ∈ w, Lower l) (s : List Char) :
    (s.map Char.toNat).map lowerC = w.map Char.toNat ↔ WordCI w s := by
  induction w generalizing s with
  | nil =>
    cases s with
    | nil => exact ⟨fun _ => .nil, fun _ => rfl⟩
    | cons c s => exact ⟨fun h => by simp at h, fun h => by cases h⟩
  | cons l w ih =>
    cases s with
    | nil => exact ⟨fun h => by simp at h, fun h => by cases h⟩
    | cons c s =>
      simp only [List.map_cons, List.cons.injEq]
      rw [lowerC_letter (hw l (List.mem_cons_self ..)), ih (fun x hx => hw x (List.mem_cons_of_mem _ hx))]
      exact ⟨fun ⟨h1, h2⟩ => .cons h1 h2, fun h => by cases h with | cons h1 h2 => exact ⟨h1, h2⟩⟩

theorem lower_inf : ∀ l ∈ ['i', 'n', 'f'], Lower l := by decide
theorem lower_infinity : ∀ l ∈ ['i', 'n', 'f', 'i', 'n', 'i', 't', 'y'], Lower l := by decide
theorem lower_nan : ∀ l ∈ ['n', 'a', 'n'], Lower l := by decide

theorem wNan_eq : wNan = ['n', 'a', 'n'].map Char.toNat := rfl
theorem wInf_eq : wInf = ['i', 'n', 'f'].map Char.toNat := rfl
theorem wInfinity_eq : wInfinity = ['i', 'n', 'f', 'i', 'n', 'i', 't', 'y'].map Char.toNat := rfl

theorem word_head {l : Char} {w s : List Char} (hl : Lower l) (h : WordCI (l :: w) s) :
    ∃ c t, s = c :: t ∧ 65 ≤ c.toNat := by
  cases h with
  | cons h1 _ => exact ⟨_, _, rfl, by unfold LetterCI Lower at *; omega⟩

theorem numberD_head {val : List Char → Nat} {body : List Char} {m : Nat} {e : Int} (h : NumberDV val body m e) :
    ∃ c t, body = c :: t ∧ c.toNat ≤ 57 ∧ c.toNat ≠ 45 ∧ c.toNat ≠ 43 := by
  have dig : ∀ {c : Char}, Digit c → c.toNat ≤ 57 ∧ c.toNat ≠ 45 ∧ c.toNat ≠ 43 := by
    intro c hc; unfold Digit at hc; omega
  cases h with
  | @int ip ex ev hip hex =>
    obtain ⟨hne, hd⟩ := hip
    cases ip with
    | nil => exact absurd rfl hne
    | cons d t => exact ⟨d, t ++ ex, rfl, dig (hd d (List.mem_cons_self ..))⟩
  | @point ip fp ex ev hip hfp hne hex =>
    cases ip with
    | nil => exact ⟨'.', fp ++ ex, rfl, by decide⟩
    | cons d t => exact ⟨d, t ++ '.' :: fp ++ ex, by simp, dig (hip d (List.mem_cons_self ..))⟩

theorem not_word_of_head {c : Char} {t : List Char} (hc : c.toNat ≤ 57) :
    ((c :: t).map Char.toNat).map lowerC ≠ wNan ∧ ((c :: t).map Char.toNat).map lowerC ≠ wInf ∧
    ((c :: t).map Char.toNat).map lowerC ≠ wInfinity := by
  have : lowerC c.toNat = c.toNat := by
    unfold lowerC
    rw [if_neg]; simp only [Bool.and_eq_true, decide_eq_true_eq]; omega
  simp only [List.map_cons, this, wNan, wInf, wInfinity, ne_eq, List.cons.injEq, not_and]
  refine ⟨?_, ?_, ?_⟩ <;> (intro h; omega)

theorem parseBody_sound (neg : Bool) {s : List Char} {b : Nat} (h : parseBody neg (s.map Char.toNat) = some b) :
    (∃ m e, NumberR s m e ∧ b = bitsOf (.dec neg m e)) ∨
    ((WordCI ['i', 'n', 'f'] s ∨ WordCI ['i', 'n', 'f', 'i', 'n', 'i', 't', 'y'] s) ∧ b = bitsOf (.inf neg)) ∨
    (WordCI ['n', 'a', 'n'] s ∧ b = bitsOf (.nan neg)) := by
  rw [parseBody_eq] at h
  by_cases h1 : (s.map Char.toNat).map lowerC = wNan
  · rw [if_pos h1] at h
    rw [wNan_eq, word_iff _ lower_nan] at h1
    exact Or.inr (Or.inr ⟨h1, by cases h; rfl⟩)
  · rw [if_neg h1] at h
    by_cases h2 : (s.map Char.toNat).map lowerC = wInf ∨ (s.map Char.toNat).map lowerC = wInfinity
    · rw [if_pos h2] at h
      rw [wInf_eq, word_iff _ lower_inf, wInfinity_eq, word_iff _ lower_infinity] at h2
      exact Or.inr (Or.inl ⟨h2, by cases h; rfl⟩)
    · rw [if_neg h2] at h
      obtain ⟨m, e, hn, hb⟩ := numBody_sound neg h
      exact Or.inl ⟨m, e, hn, hb⟩

theorem parseBody_number (neg : Bool) {body : List Char} {m : Nat} {e : Int} (h : NumberR body m e) :
    parseBody neg (body.map Char.toNat) = some (decToF64 neg m e) := by
  obtain ⟨c, t, rfl, hc, _, _⟩ := numberD_head h
  have hw := not_word_of_head (t := t) hc
  rw [parseBody_eq, if_neg hw.1, if_neg (by rintro (h' | h'); exact hw.2.1 h'; exact hw.2.2 h')]
  exact numBody_complete neg h

theorem parseBody_inf (neg : Bool) {w : List Char}
    (h : WordCI ['i', 'n', 'f'] w ∨ WordCI ['i', 'n', 'f', 'i', 'n', 'i', 't', 'y'] w) :
    parseBody neg (w.map Char.toNat) = some ((if neg then signMask else 0) + infBits) := by
  have h2 : (w.map Char.toNat).map lowerC = wInf ∨ (w.map Char.toNat).map lowerC = wInfinity := by
    rw [wInf_eq, word_iff _ lower_inf, wInfinity_eq, word_iff _ lower_infinity]; exact h
  have h1 : ¬ (w.map Char.toNat).map lowerC = wNan := by
    intro h1
    rcases h2 with h2 | h2
    · rw [h1] at h2; revert h2; decide
    · rw [h1] at h2; revert h2; decide
  rw [parseBody_eq, if_neg h1, if_pos h2]

theorem parseBody_nan (neg : Bool) {w : List Char} (h : WordCI ['n', 'a', 'n'] w) :
    parseBody neg (w.map Char.toNat) = some ((if neg then signMask else 0) + nanBits) := by
  have h1 : (w.map Char.toNat).map lowerC = wNan := by rw [wNan_eq, word_iff _ lower_nan]; exact h
  rw [parseBody_eq, if_pos h1]

theorem parseF64N_sign {sg body : List Char} {neg : Bool} (hs : SignD sg neg)
    (hb : ∃ c t, body = c :: t ∧ c.toNat ≠ 45 ∧ c.toNat ≠ 43) :
    parseF64N ((sg ++ body).map Char.toNat) = parseBody neg (body.map Char.toNat) := by
  rw [parseF64N_eq, signOf_append hs hb]

theorem parseF64N_complete {s : List Char} {v : FVal} (h : FloatR s v) : parseF64N (s.map Char.toNat) = some (bitsOf v) := by
  cases h with
  | number hs hn =>
    obtain ⟨c, t, hb, _, h1, h2⟩ := numberD_head hn
    rw [parseF64N_sign hs ⟨c, t, hb, h1, h2⟩, parseBody_number _ hn]; rfl
  | inf hs hw =>
    obtain ⟨c, t, hb, hc⟩ := word_head (by decide) hw
    rw [parseF64N_sign hs ⟨c, t, hb, by omega, by omega⟩, parseBody_inf _ (Or.inl hw)]; rfl
  | infinity hs hw =>
    obtain ⟨c, t, hb, hc⟩ := word_head (by decide) hw
    rw [parseF64N_sign hs ⟨c, t, hb, by omega, by omega⟩, parseBody_inf _ (Or.inr hw)]; rfl
  | nan hs hw =>
    obtain ⟨c, t, hb, hc⟩ := word_head (by decide) hw
    rw [parseF64N_sign hs ⟨c, t, hb, by omega, by omega⟩, parseBody_nan _ hw]; rfl

theorem parseF64N_sound {s : List Char} {b : Nat} (h : parseF64N (s.map Char.toNat) = some b) :
    ∃ v, FloatR s v ∧ bitsOf v = b := by
  obtain ⟨sg, body, neg, hs, rfl, hso⟩ := signOf_spec s
  rw [parseF64N_eq, hso] at h
  rcases parseBody_sound neg h with ⟨m, e, hn, hb⟩ | ⟨hw, hb⟩ | ⟨hw, hb⟩
  · exact ⟨_, .number hs hn, hb.symm⟩
  · rcases hw with hw | hw
    · exact ⟨_, .inf hs hw, hb.symm⟩
    · exact ⟨_, .infinity hs hw, hb.symm⟩
  · exact ⟨_, .nan hs hw, hb.symm⟩

/-- **`parseF64` decides the grammar of `f64::from_str` as Rust reads it** (`FloatR`: exponent digits accumulated with the
cap): `Ok(b)` exactly when the text is a `Float` of the grammar with a denotation whose REAL is `b` -/
theorem parseF64_iff_rust (s : List Char) (b : Nat) : parseF64 s = some b ↔ ∃ v, FloatR s v ∧ bitsOf v = b := by
  unfold parseF64
  constructor
  · exact parseF64N_sound
  · rintro ⟨v, hv, rfl⟩; exact parseF64N_complete hv

theorem FloatR.unique_bits {s : List Char} {v v' : FVal} (h : FloatR s v) (h' : FloatR s v') : bitsOf v = bitsOf v' := by
  have a := (parseF64_iff_rust s _).2 ⟨v, h, rfl⟩
  have b := (parseF64_iff_rust s _).2 ⟨v', h', rfl⟩
  rw [a] at b; exact Option.some.inj b

theorem expDigits_skip (pre rest : List Char) (h : ∀ c ∈ pre, c ≠ 'e' ∧ c ≠ 'E') :
    expDigits (pre ++ rest) = expDigits rest := by
  induction pre with
  | nil => rfl
  | cons c pre ih =>
    have hc := h c (List.mem_cons_self ..)
    rw [List.cons_append, expDigits, if_neg (by rintro (h1 | h1); exact hc.1 h1; exact hc.2 h1)]
    exact ih (fun x hx => h x (List.mem_cons_of_mem _ hx))

theorem digit_not_e {c : Char} (h : Digit c) : c ≠ 'e' ∧ c ≠ 'E' := by
  have := JsonGrammar.digit_ne_sign h
  exact ⟨this.2.2.2.1, this.2.2.2.2⟩

theorem expDigits_exp {e : Char} {sg ds : List Char} {neg : Bool} (he : e = 'e' ∨ e = 'E') (hs : SignD sg neg)
    (hd : Digits1 ds) : expDigits (e :: sg ++ ds) = ds := by
  rw [List.cons_append, expDigits, if_pos he]
  cases hs with
  | plus => rfl
  | minus => rfl
  | none =>
    obtain ⟨hne, hdig⟩ := hd
    cases ds with
    | nil => exact absurd rfl hne
    | cons d t =>
      have := JsonGrammar.digit_ne_sign (hdig d (List.mem_cons_self ..))
      simp only [List.nil_append]
      unfold dropSign
      split
      · rename_i h; cases h; exact absurd rfl this.2.1
      · rename_i h; cases h; exact absurd rfl this.1
      · rfl

theorem expDV_change {val val' : List Char → Nat} {ex : List Char} {ev : Int} (h : ExpDV val ex ev)
    (hv : val (expDigits ex) = val' (expDigits ex)) : ExpDV val' ex ev := by
  cases h with
  | none => exact .none
  | @some e sg ds neg he hs hd =>
    rw [expDigits_exp he hs hd] at hv
    rw [hv]
    exact .some he hs hd

theorem numberDV_change {val val' : List Char → Nat} {body : List Char} {m : Nat} {e : Int} (h : NumberDV val body m e)
    (hv : val (expDigits body) = val' (expDigits body)) : NumberDV val' body m e := by
  cases h with
  | @int ip ex ev hip hex =>
    rw [expDigits_skip ip ex (fun c hc => digit_not_e (hip.2 c hc))] at hv
    exact .int hip (expDV_change hex hv)
  | @point ip fp ex ev hip hfp hne hex =>
    have hpre : ∀ c ∈ ip ++ '.' :: fp, c ≠ 'e' ∧ c ≠ 'E' := by
      intro c hc
      simp only [List.mem_append, List.mem_cons] at hc
      rcases hc with hc | rfl | hc
      · exact digit_not_e (hip c hc)
      · decide
      · exact digit_not_e (hfp c hc)
    have hb : ip ++ '.' :: fp ++ ex = (ip ++ '.' :: fp) ++ ex := by simp
    rw [hb, expDigits_skip _ ex hpre] at hv
    exact .point hip hfp hne (expDV_change hex hv)

theorem signD_not_e {sg : List Char} {neg : Bool} (h : SignD sg neg) : ∀ c ∈ sg, c ≠ 'e' ∧ c ≠ 'E' := by
  cases h <;> decide

theorem floatDV_change {val val' : List Char → Nat} {s : List Char} {v : FVal} (h : FloatDV val s v)
    (hv : val (expDigits s) = val' (expDigits s)) : FloatDV val' s v := by
  cases h with
  | number hs hn =>
    rw [expDigits_skip _ _ (signD_not_e hs)] at hv
    exact .number hs (numberDV_change hn hv)
  | inf hs hw => exact .inf hs hw
  | infinity hs hw => exact .infinity hs hw
  | nan hs hw => exact .nan hs hw

theorem expDV_retext {val val' : List Char → Nat} {ex : List Char} {ev : Int} (h : ExpDV val ex ev) :
    ∃ ev', ExpDV val' ex ev' := by
  cases h with
  | none => exact ⟨_, .none⟩
  | some he hs hd => exact ⟨_, .some he hs hd⟩

theorem floatDV_retext {val val' : List Char → Nat} {s : List Char} {v : FVal} (h : FloatDV val s v) :
    ∃ v', FloatDV val' s v' := by
  cases h with
  | number hs hn =>
    cases hn with
    | int hip hex => obtain ⟨ev', hex'⟩ := expDV_retext (val' := val') hex; exact ⟨_, .number hs (.int hip hex')⟩
    | point hip hfp hne hex =>
      obtain ⟨ev', hex'⟩ := expDV_retext (val' := val') hex; exact ⟨_, .number hs (.point hip hfp hne hex')⟩
  | inf hs hw => exact ⟨_, .inf hs hw⟩
  | infinity hs hw => exact ⟨_, .infinity hs hw⟩
  | nan hs hw => exact ⟨_, .nan hs hw⟩

theorem floatR_iff_floatD_text (s : List Char) : (∃ v, FloatR s v) ↔ ∃ v, FloatD s v :=
  ⟨fun ⟨_, h⟩ => floatDV_retext h, fun ⟨_, h⟩ => floatDV_retext h⟩

/-- **the same denotations when the exponent digits' value is below 65 536** (`ExpSmall`, decidable on the text) -/
theorem floatR_iff_floatD {s : List Char} (h : ExpSmall s) (v : FVal) : FloatR s v ↔ FloatD s v :=
  ⟨fun hr => floatDV_change hr (rustExpVal_eq h), fun hd => floatDV_change hd (rustExpVal_eq h).symm⟩

/-- a text without `e` / `E` (every SQL number token, `inf`, `nan`, `12.5`) has no exponent digits -/
theorem expSmall_of_no_e {s : List Char} (h : ∀ c ∈ s, c ≠ 'e' ∧ c ≠ 'E') : ExpSmall s := by
  have := expDigits_skip s [] h
  rw [List.append_nil] at this
  unfold ExpSmall
  rw [this]
  decide

theorem iff_floatD_of_iff_floatR {o : Option Nat} {s : List Char} {b : Nat} (h : o = some b ↔ ∃ v, FloatR s v ∧ bitsOf v = b)
    (hs : ExpSmall s) : o = some b ↔ ∃ v, FloatD s v ∧ bitsOf v = b :=
  h.trans ⟨fun ⟨v, hv, hb⟩ => ⟨v, (floatR_iff_floatD hs v).1 hv, hb⟩, fun ⟨v, hv, hb⟩ => ⟨v, (floatR_iff_floatD hs v).2 hv, hb⟩⟩

theorem none_iff_of_iff_floatR {o : Option Nat} {s : List Char} (h : ∀ b, o = some b ↔ ∃ v, FloatR s v ∧ bitsOf v = b) :
    o = none ↔ ¬ ∃ v, FloatD s v := by
  rw [← floatR_iff_floatD_text]
  constructor
  · rintro rfl ⟨v, hv⟩
    cases (h _).2 ⟨v, hv, rfl⟩
  · intro hn
    cases hp : o with
    | none => rfl
    | some b =>
      obtain ⟨v, hv, _⟩ := (h b).1 hp
      exact absurd ⟨v, hv⟩ hn

/-- **`parseF64` decides the documented grammar of `f64::from_str`** on every text whose exponent digits' value is below
65 536: `Ok(b)` exactly when the text is a `Float` of the grammar with a denotation whose REAL is `b` -/
theorem parseF64_iff {s : List Char} (hs : ExpSmall s) (b : Nat) :
    parseF64 s = some b ↔ ∃ v, FloatD s v ∧ bitsOf v = b :=
  iff_floatD_of_iff_floatR (parseF64_iff_rust s b) hs

/-- `Err` exactly when the grammar does not derive the text (for every text: acceptance does not look at the size of
the exponent) -/
theorem parseF64_none_iff (s : List Char) : parseF64 s = none ↔ ¬ ∃ v, FloatD s v :=
  none_iff_of_iff_floatR (parseF64_iff_rust s)

theorem FloatD.unique_bits {s : List Char} (hs : ExpSmall s) {v v' : FVal} (h : FloatD s v) (h' : FloatD s v') :
    bitsOf v = bitsOf v' :=
  FloatR.unique_bits ((floatR_iff_floatD hs v).2 h) ((floatR_iff_floatD hs v').2 h')

theorem map_toNat_ofNat (t : List Nat) (ht : ∀ c ∈ t, c < 0xD800) : (t.map Char.ofNat).map Char.toNat = t := by
  induction t with
  | nil => rfl
  | cons a t ih =>
    simp only [List.map_cons, Utf8.toNat_ofNat_small (ht a (List.mem_cons_self ..)),
      ih (fun c hc => ht c (List.mem_cons_of_mem _ hc))]

theorem parseF64N_iff_rust (t : List Nat) (ht : ∀ c ∈ t, c < 0xD800) (b : Nat) :
    parseF64N t = some b ↔ ∃ v, FloatR (t.map Char.ofNat) v ∧ bitsOf v = b := by
  rw [← parseF64_iff_rust]; unfold parseF64; rw [map_toNat_ofNat t ht]

theorem parseF64N_iff (t : List Nat) (ht : ∀ c ∈ t, c < 0xD800) (hs : ExpSmall (t.map Char.ofNat)) (b : Nat) :
    parseF64N t = some b ↔ ∃ v, FloatD (t.map Char.ofNat) v ∧ bitsOf v = b := by
  rw [← parseF64_iff hs]; unfold parseF64; rw [map_toNat_ofNat t ht]

theorem digits_ascii {ds : List Char} (h : Digits ds) : ∀ c ∈ ds, c.toNat < 128 := by
  intro c hc; have := h c hc; unfold Digit at this; omega

theorem signD_ascii {sg : List Char} {neg : Bool} (h : SignD sg neg) : ∀ c ∈ sg, c.toNat < 128 := by
  cases h <;> decide

theorem expD_ascii {val : List Char → Nat} {e : List Char} {ev : Int} (h : ExpDV val e ev) : ∀ c ∈ e, c.toNat < 128 := by
  cases h with
  | none => intro c hc; cases hc
  | some he hs hd =>
    intro c hc
    simp only [List.cons_append, List.mem_cons, List.mem_append] at hc
    rcases hc with rfl | hc | hc
    · rcases he with rfl | rfl <;> decide
    · exact signD_ascii hs c hc
    · exact digits_ascii hd.2 c hc

theorem numberD_ascii {val : List Char → Nat} {s : List Char} {m : Nat} {e : Int} (h : NumberDV val s m e) : ∀ c ∈ s, c.toNat < 128 := by
  cases h with
  | int hip hex =>
    intro c hc
    rcases List.mem_append.1 hc with hc | hc
    · exact digits_ascii hip.2 c hc
    · exact expD_ascii hex c hc
  | point hip hfp _ hex =>
    intro c hc
    simp only [List.mem_append, List.mem_cons] at hc
    rcases hc with (hc | rfl | hc) | hc
    · exact digits_ascii hip c hc
    · decide
    · exact digits_ascii hfp c hc
    · exact expD_ascii hex c hc

theorem wordCI_ascii {w s : List Char} (hw : ∀ l ∈ w, Lower l) (h : WordCI w s) : ∀ c ∈ s, c.toNat < 128 := by
  induction h with
  | nil => intro c hc; cases hc
  | @cons l c w s h1 _ ih =>
    intro x hx
    rcases List.mem_cons.1 hx with rfl | hx
    · have := hw l (List.mem_cons_self ..)
      unfold LetterCI at h1; unfold Lower at this; omega
    · exact ih (fun y hy => hw y (List.mem_cons_of_mem _ hy)) x hx

theorem FloatDV.ascii {val : List Char → Nat} {s : List Char} {v : FVal} (h : FloatDV val s v) : ∀ c ∈ s, c.toNat < 128 := by
  intro c hc
  cases h with
  | number hs hn =>
    rcases List.mem_append.1 hc with hc | hc
    · exact signD_ascii hs c hc
    · exact numberD_ascii hn c hc
  | inf hs hw =>
    rcases List.mem_append.1 hc with hc | hc
    · exact signD_ascii hs c hc
    · exact wordCI_ascii lower_inf hw c hc
  | infinity hs hw =>
    rcases List.mem_append.1 hc with hc | hc
    · exact signD_ascii hs c hc
    · exact wordCI_ascii lower_infinity hw c hc
  | nan hs hw =>
    rcases List.mem_append.1 hc with hc | hc
    · exact signD_ascii hs c hc
    · exact wordCI_ascii lower_nan hw c hc

theorem encodeChar_head (c : Char) : ∃ b t, Utf8.encodeChar c = b :: t ∧ (b < 128 → c.toNat < 128) := by
  rw [Utf8.encodeChar_eq]
  rcases Utf8.encodeNat_cases c.toNat with ⟨h, e⟩ | ⟨_, _, e⟩ | ⟨_, _, e⟩ | ⟨_, e⟩
  · exact ⟨_, _, e, fun _ => h⟩
  · exact ⟨_, _, e, fun h => by omega⟩
  · exact ⟨_, _, e, fun h => by omega⟩
  · exact ⟨_, _, e, fun h => by omega⟩

theorem encodeChar_byte_lt (c : Char) : ∀ b ∈ Utf8.encodeChar c, b < 256 := by
  have hc := char_toNat_lt c
  rw [Utf8.encodeChar_eq]
  intro b hb
  rcases Utf8.encodeNat_cases c.toNat with ⟨_, e⟩ | ⟨_, _, e⟩ | ⟨_, _, e⟩ | ⟨_, e⟩ <;> rw [e] at hb <;>
    simp only [List.mem_cons, List.not_mem_nil, or_false] at hb <;> omega

theorem encode_byte_lt (cs : List Char) : ∀ b ∈ Utf8.encode cs, b < 256 := by
  intro b hb
  obtain ⟨c, _, hc⟩ := List.mem_flatMap.1 hb
  exact encodeChar_byte_lt c b hc

theorem ascii_of_encode (cs : List Char) (h : ∀ b ∈ Utf8.encode cs, b < 128) : ∀ c ∈ cs, c.toNat < 128 := by
  induction cs with
  | nil => intro c hc; cases hc
  | cons a cs ih =>
    rw [Utf8.encode_cons] at h
    intro c hc
    rcases List.mem_cons.1 hc with rfl | hc
    · obtain ⟨b, t, hb, hlt⟩ := encodeChar_head c
      exact hlt (h b (by rw [hb]; exact List.mem_append_left _ List.mem_cons_self))
    · exact ih (fun b hb => h b (List.mem_append_right _ hb)) c hc

theorem map_ofNat_toNat (cs : List Char) : cs.map (Char.ofNat ∘ Char.toNat) = cs := by
  induction cs with
  | nil => rfl
  | cons c cs ih => simp only [List.map_cons, Function.comp, Char.ofNat_toNat]; exact congrArg _ ih

/-- **a REAL text as UTF-8 bytes** (what a capture group, a split field or a CONVERTed JSON string hands to
`f64::from_str`): the bytes of the text `cs` are accepted with the answer `b` exactly when `cs` is a `Float` of the
grammar — as Rust reads the exponent — with a denotation whose REAL is `b` -/
theorem parseF64N_utf8_iff_rust (cs : List Char) (b : Nat) :
    parseF64N (Utf8.encode cs) = some b ↔ ∃ v, FloatR cs v ∧ bitsOf v = b := by
  constructor
  · intro h
    have hbytes : ∀ c ∈ Utf8.encode cs, c < 0xD800 := by
      intro c hc
      have := encode_byte_lt cs c hc
      omega
    obtain ⟨v, hv, hb⟩ := (parseF64N_iff_rust _ hbytes b).1 h
    have hasc : ∀ c ∈ Utf8.encode cs, c < 128 := by
      intro c hc
      have := FloatDV.ascii hv (Char.ofNat c) (List.mem_map.2 ⟨c, hc, rfl⟩)
      rwa [Utf8.toNat_ofNat_small (hbytes c hc)] at this
    have hcs := ascii_of_encode cs hasc
    rw [encode_ascii cs hcs, List.map_map] at hv
    rw [map_ofNat_toNat] at hv
    exact ⟨v, hv, hb⟩
  · rintro ⟨v, hv, rfl⟩
    rw [encode_ascii cs (FloatDV.ascii hv)]
    exact parseF64N_complete hv

/-- … and the documented grammar for a text whose exponent digits' value is below 65 536 -/
theorem parseF64N_utf8_iff (cs : List Char) (hs : ExpSmall cs) (b : Nat) :
    parseF64N (Utf8.encode cs) = some b ↔ ∃ v, FloatD cs v ∧ bitsOf v = b :=
  iff_floatD_of_iff_floatR (parseF64N_utf8_iff_rust cs b) hs

theorem parseF64N_utf8_none_iff (cs : List Char) : parseF64N (Utf8.encode cs) = none ↔ ¬ ∃ v, FloatD cs v :=
  none_iff_of_iff_floatR (parseF64N_utf8_iff_rust cs)

-- `655360` is read as 65 536 (accumulation stops at the first prefix at or above `0x10000`), `65535` and `065535` exactly
example : rustExpVal "655360".toList = 65536 ∧ rustExpVal "65535".toList = 65535 ∧ rustExpVal "00065535".toList = 65535
    ∧ rustExpVal "99999".toList = 99999 ∧ rustExpVal "999990".toList = 99999 ∧ rustExpVal "655359".toList = 655359 := by decide +kernel
example : ExpSmall "1e65535".toList ∧ ¬ ExpSmall "1e65536".toList ∧ ExpSmall "-12.5".toList ∧ ExpSmall "1E-00400".toList
    ∧ ExpSmall "infinity".toList := by decide +kernel
-- short texts: the capped exponent and the exact one give the same REAL (inf / 0)
example : parseF64 "1e655360".toList = some infBits ∧ parseF64 "1e-655360".toList = some 0
    ∧ parseF64 "0e655360".toList = some 0 := by decide +kernel

/-! ### the witness of the cap (audit 3, M2): `0.` + n zeros + `1e655360`

The text denotes `10^(655360 − (n+1))`; Rust reads the exponent 65 536 and answers the REAL nearest to
`10^(65536 − (n+1))`. For `n = 65 299`: 1e236 instead of inf. Proved for every `n` from the grammar theorems (no 65 KB
text is evaluated); the harness case `capped-exponent` (`f64cases.rs`) runs the same text through `str::parse::<f64>()`. -/

theorem digitsVal_zeros (n : Nat) (l : List Char) :
    JsonGrammar.digitsVal (List.replicate n '0' ++ l) = JsonGrammar.digitsVal l := by
  unfold JsonGrammar.digitsVal
  induction n with
  | zero => rfl
  | succ n ih => rw [List.replicate_succ, List.cons_append, List.foldl_cons]; exact ih

theorem digits_zeros_one (n : Nat) : Digits (List.replicate n '0' ++ ['1']) := by
  intro c hc
  rcases List.mem_append.1 hc with hc | hc
  · rw [(List.mem_replicate.1 hc).2]; decide
  · rw [List.mem_singleton.1 hc]; decide

def capWitness (n : Nat) : List Char := ['0'] ++ '.' :: (List.replicate n '0' ++ ['1']) ++ "e655360".toList

theorem capExp_eq : "e655360".toList = ['e', '6', '5', '5', '3', '6', '0'] ∧
    "655360".toList = ['6', '5', '5', '3', '6', '0'] := by decide +kernel

theorem capWitness_numberDV (val : List Char → Nat) (n : Nat) :
    NumberDV val (capWitness n) 1 ((val "655360".toList : Int) - ((n + 1 : Nat) : Int)) := by
  unfold capWitness
  rw [capExp_eq.1, capExp_eq.2]
  have := NumberDV.point (val := val) (ip := ['0']) (fp := List.replicate n '0' ++ ['1']) (by decide) (digits_zeros_one n)
    (Or.inl (by decide))
    (ExpDV.some (e := 'e') (sg := []) (ds := ['6', '5', '5', '3', '6', '0']) (neg := false) (Or.inl rfl) .none (by decide))
  have hm : JsonGrammar.digitsVal (['0'] ++ (List.replicate n '0' ++ ['1'])) = 1 :=
    (digitsVal_zeros (n + 1) ['1']).trans rfl
  rw [hm, List.length_append, List.length_replicate] at this
  exact this

/-- **capped_exponent_witness.** Rust's `f64::from_str` (the model's `parseF64`) on `0.` + n zeros + `1e655360` answers
the REAL of `10^(65536 − (n+1))`, whereas the text denotes `10^(655360 − (n+1))` in the documented grammar. -/
theorem capped_exponent_witness (n : Nat) :
    parseF64 (capWitness n) = some (decToF64 false 1 (65536 - ((n + 1 : Nat) : Int))) ∧
    FloatD (capWitness n) (.dec false 1 (655360 - ((n + 1 : Nat) : Int))) ∧ ¬ ExpSmall (capWitness n) := by
  have hR := capWitness_numberDV rustExpVal n
  have hD := capWitness_numberDV JsonGrammar.digitsVal n
  have hpre : ∀ c ∈ ['0'] ++ '.' :: (List.replicate n '0' ++ ['1']), c ≠ 'e' ∧ c ≠ 'E' := by
    intro c hc
    simp only [List.cons_append, List.nil_append, List.mem_cons, List.mem_append, List.mem_replicate, List.not_mem_nil,
      or_false] at hc
    rcases hc with rfl | rfl | ⟨_, rfl⟩ | rfl <;> decide
  have hS : ¬ ExpSmall (capWitness n) := by
    unfold ExpSmall
    rw [capWitness, expDigits_skip _ _ hpre]
    decide +kernel
  rw [capExp_eq.2] at hR hD
  exact ⟨(parseF64_iff_rust (capWitness n) _).2 ⟨_, FloatDV.number (sg := []) .none hR, rfl⟩,
    FloatDV.number (sg := []) .none hD, hS⟩

/-- the audit's text (`n = 65 299`, 65 310 characters): Rust answers 1e236 — the text denotes 1e590060, whose nearest
REAL is inf -/
example : decToF64 false 1 (65536 - ((65299 + 1 : Nat) : Int)) = 0x70ef736f9b3494e9
    ∧ decToF64 false 1 (655360 - ((65299 + 1 : Nat) : Int)) = infBits := by decide +kernel

end Sqlgrep.DecFloat
