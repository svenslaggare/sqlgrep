import SqlgrepModel.Lemmas.Variance
import SqlgrepModel.Props.C04
import SqlgrepModel.Lemmas.ValueDecEq
/-
C04 — STDDEV / VARIANCE against an INDEPENDENT definition, and the choices of the code the sentence does not fix.

The property sentence says "STDDEV / VARIANCE … over the argument's non-NULL values"; the README says `stddev(x)`,
`variance(x)`. `Spec/Variance.lean` is the textbook population variance `σ² = (1/n)·Σ(x − μ)²` over exact rationals, written
from nothing in the code. `Spec/Agg.lean` (`intVariance`, `realVariance`; the model's `stddevCalcInt` / `stddevCalc` equal them by
definition, and the engine is proved to show them: `Props.C04.aggregate_fold_refines`) is what the CODE computes, since the
repair of finding **D72** (below). This file relates the two:

  (i)   over ℚ: `onepass_formula_is_the_variance_over_rationals`, `variance_nonneg`, `variance_of_equal_values_is_zero`,
        `variance_of_ints_cross_multiplied` (`σ² = (n·Σx² − (Σx)²) / n²`).
  (ii)  INT arguments — the HEADLINE `int_variance_is_rounded_exact_quotient`: with `N = n·Σx² − (Σx)²` and `D = n²` formed
        EXACTLY (integers; `N / D` IS the textbook variance), the VARIANCE cell is `fl( fl(N) / fl(D) )`: two correctly rounded
        conversions (nearest, ties to even) and one correctly rounded division — no subtraction of rounded terms. Corollaries:
        `int_variance_never_negative` (never NaN, never negative), `int_variance_of_equal_values_is_zero` (`0.0`, and STDDEV
        `0.0`), `int_variance_correctly_rounded_when_small` (when `N`, `D < 2^53` the conversions are exact, so the cell is a
        REAL NEAREST TO THE VARIANCE ITSELF — one rounding), `int_variance_exact_when_representable` (… and when the variance is
        a REAL, the cell is that REAL), `engine_int_variance` (the engine's running fold shows that cell).
  (iii) REAL arguments — the one-pass formula `(Σx² − (Σx)²/n)/n` step by step in REAL arithmetic, then negative results are
        replaced by `0.0`: `real_variance_never_below_zero`, `real_variance_is_formula_unless_negative` (the clamp theorem),
        `variance_exact_where_no_step_rounds_real` (under the decidable `onePassExactReals` the cell is EXACTLY the textbook
        variance of the exact values), `every_step_is_correctly_rounded` (all that holds in general: each operation is nearest
        on its own rounded operands; the subtraction cancels, so no bound on the distance from the exact variance is claimed —
        `real_formula_can_go_negative` is the kernel-evaluated witness of why the clamp is there). HONESTLY: for REAL
        arguments the cell is the CODE'S FORMULA in REAL arithmetic and nothing more is proved; it can be far from the
        variance — OPEN finding **D76**, witness `d76_real_variance_far_from_exact` (100000001.0, 100000002.0, 100000003.0
        show VARIANCE 0.0, exact 2/3).
  (iv)  the CHOICES of the code that the sentence does not fix and the specification mirrors, as kernel-evaluated facts:
        population not sample (`choice_population_not_sample`), PERCENTILE = nearest rank at index `min(⌊p·n⌋, n−1)`
        (`choice_percentile_nearest_rank`), AVG over INT truncates towards zero (`choice_avg_int_truncates`; AVG over
        INTERVAL likewise divides the exact total of nanoseconds: `Props/C04Avg.lean`, finding D74 repaired).

Finding **D72** (repaired in /repo 4975749). Before the repair both branches evaluated
the one-pass formula in REAL arithmetic, INT sums converted first: over three REAL rows `0.1` the program printed
`variance0: -0.00, stddev1: NaN`, over seven INT rows `1000000007` `variance0: -146.29, stddev1: NaN`, over three INT rows
`300000007` `variance0: 10.67, stddev1: 3.27` — the values of each group are equal, the variance is 0. The REGRESSION witnesses
`d72_repaired_real`, `d72_repaired_int`, `d72_repaired_equal_ints` evaluate the same three inputs in the kernel: `0.0` and `0.0`.
-/
namespace Sqlgrep.Props.C04Variance
open Sqlgrep Sqlgrep.Value Sqlgrep.Spec.Agg Sqlgrep.Spec.Variance Sqlgrep.Variance

/-- the exact values of a list of INTs -/
def ratsOfInts (is : List Int) : List Rat := is.map (fun (i : Int) => (i : Rat))

/-- **over exact rationals the one-pass formula IS the population variance**: `(1/n)·Σ(x − μ)² = (Σx² − (Σx)²/n) / n` for
every non-empty list of rationals -/
theorem onepass_formula_is_the_variance_over_rationals (xs : List Rat) (h : xs ≠ []) :
    popVariance xs = ((xs.map (fun x => x ^ 2)).sum - xs.sum ^ 2 / xs.length) / xs.length :=
  popVariance_eq_onepass xs h

/-- a variance is never negative -/
theorem variance_nonneg (xs : List Rat) : 0 ≤ popVariance xs := popVariance_nonneg xs

/-- the variance of `n` equal values is 0 (and so is their standard deviation) -/
theorem variance_of_equal_values_is_zero (n : Nat) (c : Rat) :
    popVariance (List.replicate n c) = 0 ∧ IsStdDev (List.replicate n c) 0 := by
  refine ⟨popVariance_const n c, ?_, ?_⟩
  · exact Rat.le_refl
  · rw [popVariance_const]; grind

/-- for INT inputs in integers only: `n²·σ² = n·Σx² − (Σx)²` -/
theorem variance_of_ints_cross_multiplied (is : List Int) (h : is ≠ []) :
    popVariance (ratsOfInts is) = (varNumer is : Rat) / ((is.length : Rat) * is.length) := popVariance_ints is h

/-- the 64-bit range conditions under which the specification (and the code) answer at all for INT arguments: every
square, every partial sum and every partial sum of squares is an i64 -/
def sumsInRange (is : List Int) : Bool :=
  (is.map (fun x => x * x)).all inI64 && partialSumsOk inI64 0 is && partialSumsOk inI64 0 (is.map (fun x => x * x))

theorem stddev_of_ints (e : Expr) (isVar : Bool) (vs : List Value) (is : List Int) (hne : is ≠ [])
    (h : nonNull vs = is.map Value.int) (hrange : sumsInRange is = true) :
    aggregate (.stddev e isVar) vs =
      some (.real (spreadInt is.length isVar (intSum is) (intSum (is.map (fun x => x * x))))) := by
  cases is with
  | nil => exact absurd rfl hne
  | cons i is =>
    have hi := ints_map_int (i :: is)
    unfold sumsInRange at hrange
    simp only [List.map_cons] at hi
    simp only [aggregate, h, stddevOf]
    simp only [List.map_cons, hi] at hrange ⊢
    rw [if_pos hrange]

theorem spreadInt_variance (n S Q : Int) : spreadInt n true S Q = intVariance n S Q := by
  simp only [spreadInt, finishSpread, if_true]

theorem sq_all_of_range {is : List Int} (h : sumsInRange is = true) : (is.map (fun x => x * x)).all inI64 = true := by
  unfold sumsInRange at h; simp only [Bool.and_eq_true] at h; exact h.1.1

/-- **STDDEV is the square root of VARIANCE**: whenever VARIANCE over the values has the REAL value `v` -/
theorem stddevOf_sqrt (xs : List Value) (v : Nat) (h : stddevOf true xs = some (.real v)) :
    stddevOf false xs = some (.real (F64.sqrt v)) := by
  cases xs with
  | nil => cases h
  | cons x xs =>
    simp only [stddevOf] at h ⊢
    cases hi : ints (x :: xs) with
    | some is =>
      simp only [hi] at h ⊢
      split at h
      · rename_i hc
        injection h with h; injection h with h
        rw [if_pos hc, ← h]
        simp only [spreadInt, finishSpread, Bool.false_eq_true, if_false, if_true]
      · cases h
    | none =>
      simp only [hi] at h ⊢
      cases hr : reals (x :: xs) with
      | some rs =>
        simp only [hr] at h ⊢
        split at h
        · rename_i hc
          injection h with h; injection h with h
          rw [if_pos hc, ← h]
          simp only [spread, finishSpread, Bool.false_eq_true, if_false, if_true]
        · cases h
      | none => simp only [hr] at h; cases h

theorem stddev_is_sqrt_of_variance (e : Expr) (vs : List Value) (v : Nat)
    (h : aggregate (.stddev e true) vs = some (.real v)) : aggregate (.stddev e false) vs = some (.real (F64.sqrt v)) :=
  stddevOf_sqrt (nonNull vs) v h

/-- **HEADLINE (INT arguments).** For a group of fewer than `2^63` INT values within the 64-bit range (what the code can count
and sum at all), let `N = n·Σx² − (Σx)²` and `D = n²`, formed exactly. Then
* `N ≥ 0`, `D > 0` and `N / D` is EXACTLY the textbook population variance of the values (over ℚ);
* the VARIANCE cell is `fl(N) / fl(D)` in REAL arithmetic, where `fl(N)`, `fl(D)` (`i128 as f64`) are finite, non-negative
  REALs NEAREST to `N` resp. `D` (ties to even: `Lemmas/Variance.lean` `ofInt_nat_tie_even`), and the division is correctly
  rounded: if the cell is finite no REAL `y` is nearer to the exact quotient `fl(N) / fl(D)` (cross-multiplied);
* the cell is never NaN and never negative.
Two correctly rounded conversions and one correctly rounded division of the exact rational's numerator and denominator. -/
theorem int_variance_is_rounded_exact_quotient (e : Expr) (vs : List Value) (is : List Int) (hne : is ≠ [])
    (h : nonNull vs = is.map Value.int) (hrange : sumsInRange is = true) (hcount : is.length < 2 ^ 63) :
    ∃ N D : Nat, (N : Int) = varNumer is ∧ D = is.length * is.length ∧ 0 < D ∧
      popVariance (ratsOfInts is) = (N : Rat) / (D : Rat) ∧
      aggregate (.stddev e true) vs = some (.real (F64.div (F64.ofInt N) (F64.ofInt D))) ∧
      (F64.isFinite (F64.ofInt N) = true ∧ F64.signBit (F64.ofInt N) = false ∧
        ∀ y, DecFloat.adist (N * F64.unitScale) (F64.umag (F64.ofInt N)) ≤ DecFloat.adist (N * F64.unitScale) (F64.umag y)) ∧
      (F64.isFinite (F64.ofInt D) = true ∧ F64.signBit (F64.ofInt D) = false ∧
        ∀ y, DecFloat.adist (D * F64.unitScale) (F64.umag (F64.ofInt D)) ≤ DecFloat.adist (D * F64.unitScale) (F64.umag y)) ∧
      (F64.isFinite (F64.div (F64.ofInt N) (F64.ofInt D)) = true → ∀ y,
        DecFloat.adist (F64.umag (F64.ofInt N) * F64.unitScale) (F64.umag (F64.div (F64.ofInt N) (F64.ofInt D)) * F64.umag (F64.ofInt D)) ≤
          DecFloat.adist (F64.umag (F64.ofInt N) * F64.unitScale) (F64.umag y * F64.umag (F64.ofInt D))) ∧
      F64.isNaN (F64.div (F64.ofInt N) (F64.ofInt D)) = false ∧ F64.signBit (F64.div (F64.ofInt N) (F64.ofInt D)) = false := by
  obtain ⟨N, D, hN, hD, hDpos, hNb, hDb, hnum, hden, hpop⟩ := intVariance_parts is hne hcount (sq_all_of_range hrange)
  have hcell : intVariance is.length (intSum is) (intSum (is.map (fun x => x * x))) = F64.div (F64.ofInt N) (F64.ofInt D) := by
    unfold intVariance; rw [hnum, hden]
  have hv := stddev_of_ints e true vs is hne h hrange
  rw [spreadInt_variance, hcell] at hv
  have hsign := intVariance_sign hnum hden hNb hDpos hDb
  rw [hcell] at hsign
  refine ⟨N, D, hN, hD, hDpos, hpop, hv, ?_, ?_, ?_, hsign.1, hsign.2⟩
  · exact ⟨(ofInt_nat_nearest hNb 0).1, (ofInt_nat_nearest hNb 0).2.1, fun y => (ofInt_nat_nearest hNb y).2.2.2⟩
  · exact ⟨(ofInt_nat_nearest hDb 0).1, (ofInt_nat_nearest hDb 0).2.1, fun y => (ofInt_nat_nearest hDb y).2.2.2⟩
  · intro hf y
    have := intVariance_nearest hnum hden hNb hDpos hDb (by rw [hcell]; exact hf) y
    rw [hcell] at this; exact this

/-- **never NaN, never negative** (INT arguments): the sign bit of the VARIANCE cell is clear and it is not NaN -/
theorem int_variance_never_negative (e : Expr) (vs : List Value) (is : List Int) (hne : is ≠ [])
    (h : nonNull vs = is.map Value.int) (hrange : sumsInRange is = true) (hcount : is.length < 2 ^ 63) :
    ∃ v, aggregate (.stddev e true) vs = some (.real v) ∧ F64.isNaN v = false ∧ F64.signBit v = false := by
  obtain ⟨N, D, _, _, _, _, hv, _, _, _, hn, hs⟩ := int_variance_is_rounded_exact_quotient e vs is hne h hrange hcount
  exact ⟨_, hv, hn, hs⟩

/-- **`0.0` for equal values** (INT arguments): VARIANCE and STDDEV over `n` copies of one integer are the REAL `0.0` -/
theorem int_variance_of_equal_values_is_zero (e : Expr) (vs : List Value) (n : Nat) (c : Int) (hn : 0 < n)
    (h : nonNull vs = (List.replicate n c).map Value.int) (hrange : sumsInRange (List.replicate n c) = true)
    (hcount : n < 2 ^ 63) :
    aggregate (.stddev e true) vs = some (.real F64.zero) ∧ aggregate (.stddev e false) vs = some (.real F64.zero) := by
  have hne : List.replicate n c ≠ [] := by
    intro h0; have := congrArg List.length h0; simp at this; omega
  obtain ⟨N, D, hN, _, hDpos, _, hDb, hnum, hden, _⟩ :=
    intVariance_parts (List.replicate n c) hne (by simpa using hcount) (sq_all_of_range hrange)
  have hN0 : (N : Int) = 0 := by rw [hN, varNumer_replicate]
  have hz : intVariance (List.replicate n c).length (intSum (List.replicate n c))
      (intSum ((List.replicate n c).map (fun x => x * x))) = F64.zero :=
    intVariance_zero (by rw [hnum, hN0]) hden hDpos hDb
  have h1 := stddev_of_ints e true vs _ hne h hrange
  rw [spreadInt_variance, hz] at h1
  exact ⟨h1, (stddev_is_sqrt_of_variance e vs _ h1).trans (by decide +kernel)⟩

/-- **one rounding only when `N`, `D < 2^53`**: both conversions are exact, so the (finite) VARIANCE cell is a REAL NEAREST TO THE
TEXTBOOK VARIANCE `N / D` ITSELF (cross-multiplied by `D`, in units of 2^-1074) -/
theorem int_variance_correctly_rounded_when_small (e : Expr) (vs : List Value) (is : List Int) (hne : is ≠ [])
    (h : nonNull vs = is.map Value.int) (hrange : sumsInRange is = true) (hcount : is.length < 2 ^ 63)
    (hsmallN : varNumer is < 2 ^ 53) (hsmallD : is.length * is.length < 2 ^ 53) :
    ∃ (N D : Nat) (v : Nat), (N : Int) = varNumer is ∧ D = is.length * is.length ∧
      popVariance (ratsOfInts is) = (N : Rat) / (D : Rat) ∧ aggregate (.stddev e true) vs = some (.real v) ∧
      (F64.isFinite v = true → ∀ y, DecFloat.adist (N * F64.unitScale) (F64.umag v * D) ≤ DecFloat.adist (N * F64.unitScale) (F64.umag y * D)) := by
  obtain ⟨N, D, hN, hD, hDpos, _, _, hnum, hden, hpop⟩ := intVariance_parts is hne hcount (sq_all_of_range hrange)
  have hv := stddev_of_ints e true vs is hne h hrange
  rw [spreadInt_variance] at hv
  have hNb : N < 2 ^ 53 := by omega
  refine ⟨N, D, _, hN, hD, hpop, hv, fun hf y => ?_⟩
  exact intVariance_nearest_small hnum hden hNb hDpos (by omega) hf y

/-- **exact when the variance is a REAL** (and `N`, `D < 2^53`): if the textbook variance is the exact value of a finite
non-negative REAL `y`, the VARIANCE cell is `y` — a much weaker hypothesis than "no step of the one-pass formula rounds" -/
theorem int_variance_exact_when_representable (e : Expr) (vs : List Value) (is : List Int) (hne : is ≠ [])
    (h : nonNull vs = is.map Value.int) (hrange : sumsInRange is = true) (hcount : is.length < 2 ^ 63)
    (hsmallN : varNumer is < 2 ^ 53) (hsmallD : is.length * is.length < 2 ^ 53)
    (y : Nat) (hy : F64.IsExactly y (popVariance (ratsOfInts is))) (hs : F64.signBit y = false) (hylt : y < 2 ^ 64) :
    aggregate (.stddev e true) vs = some (.real y) := by
  obtain ⟨N, D, hN, hD, hDpos, _, _, hnum, hden, hpop⟩ := intVariance_parts is hne hcount (sq_all_of_range hrange)
  have hv := stddev_of_ints e true vs is hne h hrange
  rw [spreadInt_variance] at hv
  have hpop' : popVariance (ratsOfInts is) = (N : Rat) / (D : Rat) := hpop
  rw [intVariance_exact_rat hnum hden (by omega) hDpos (by omega) y hy.1 hs hylt (by rw [hy.2, hpop'])] at hv
  exact hv

/-- … and the engine's running computation (`update_aggregate` folded over the group's values) shows the very cell of the
headline -/
theorem engine_int_variance (e : Expr) (vs : List Value) (is : List Int) (hne : is ≠ []) (hvs : vs ≠ [])
    (h : nonNull vs = is.map Value.int) (hrange : sumsInRange is = true) (hcount : is.length < 2 ^ 63) :
    ∃ (N D : Nat) (c : Cell), (N : Int) = varNumer is ∧ D = is.length * is.length ∧
      popVariance (ratsOfInts is) = (N : Rat) / (D : Rat) ∧
      foldV (.stddev e true) vs {} = .ok c ∧ shownValue (.stddev e true) c = .real (F64.div (F64.ofInt N) (F64.ofInt D)) := by
  obtain ⟨N, D, hN, hD, _, hpop, hv, _⟩ := int_variance_is_rounded_exact_quotient e vs is hne h hrange hcount
  obtain ⟨c, hc, hs, _⟩ := Props.C04.aggregate_fold_refines (.stddev e true) vs _ hvs hv rfl
  exact ⟨N, D, c, hN, hD, hpop, hc, hs⟩

/-- 2, 4, 4, 4, 5, 5, 7, 9 (mean 5): `N = 256`, `D = 64`; VARIANCE is the REAL 4.0 = the textbook variance, STDDEV the REAL 2.0 -/
example : sumsInRange [2, 4, 4, 4, 5, 5, 7, 9] = true ∧ varNumer [2, 4, 4, 4, 5, 5, 7, 9] = 256 ∧
    popVariance (ratsOfInts [2, 4, 4, 4, 5, 5, 7, 9]) = 4 ∧ F64.toRat 0x4010000000000000 = 4 := by decide +kernel
example : aggregate (.stddev (.column "v") true) [.int 2, .int 4, .null, .int 4, .int 4, .int 5, .int 5, .int 7, .int 9] =
      some (.real 0x4010000000000000) ∧
    aggregate (.stddev (.column "v") false) [.int 2, .int 4, .null, .int 4, .int 4, .int 5, .int 5, .int 7, .int 9] =
      some (.real 0x4000000000000000) :=
  ⟨int_variance_exact_when_representable _ _ [2, 4, 4, 4, 5, 5, 7, 9] (by decide) rfl (by decide +kernel) (by decide)
      (by decide) (by decide) 0x4010000000000000 (by decide +kernel) (by decide) (by decide),
   by decide +kernel⟩
/-- 1, 2, 3: the variance 2/3 is no REAL; `N = 6`, `D = 9` are small, so the cell `0x3fe5555555555555` is a REAL nearest to 2/3
(`int_variance_correctly_rounded_when_small` applies) -/
example : varNumer [1, 2, 3] = 6 ∧ popVariance (ratsOfInts [1, 2, 3]) = 2 / 3 ∧
    aggregate (.stddev (.column "v") true) [.int 1, .int 2, .int 3] = some (.real 0x3fe5555555555555) :=
  ⟨by decide +kernel, by decide +kernel, by decide +kernel⟩
/-- large values with a small spread — 1000000007, 1000000008, 1000000010: `Σx² ≈ 3·10^18` is far beyond 53 bits, yet
`N = 14`, `D = 9`, and the cell is `0x3ff8e38e38e38e39` = the REAL nearest to 14/9 = 1.5555… (the one-pass formula in REAL
arithmetic showed rounding noise here) -/
example : sumsInRange [1000000007, 1000000008, 1000000010] = true ∧ varNumer [1000000007, 1000000008, 1000000010] = 14 ∧
    popVariance (ratsOfInts [1000000007, 1000000008, 1000000010]) = 14 / 9 ∧
    (aggregate (.stddev (.column "v") true) [.int 1000000007, .int 1000000008, .int 1000000010]).bind asReal = some 0x3ff8e38e38e38e39 := by
  decide +kernel

theorem spread_variance (n : Int) (s q : Nat) : spread n true s q = realVariance n s q := by
  simp only [spread, finishSpread, if_true]

/-- **the clamp theorem, part 1**: the REAL shown for VARIANCE of REAL arguments is never below zero — it is NaN (only if the
formula's result is NaN: infinite or NaN inputs), a zero, or positive -/
theorem real_variance_never_below_zero (n : Int) (s q : Nat) : F64.cmp (realVariance n s q) F64.zero ≠ .lt :=
  clampNegative_not_lt _

/-- **the clamp theorem, part 2**: it IS the one-pass formula's value whenever that is not below zero, and `0.0` otherwise -/
theorem real_variance_is_formula_unless_negative (n : Int) (s q : Nat) :
    (F64.cmp (populationVariance n s q) F64.zero ≠ .lt → realVariance n s q = populationVariance n s q) ∧
    (F64.cmp (populationVariance n s q) F64.zero = .lt → realVariance n s q = F64.zero) :=
  ⟨fun h => clampNegative_of_not_lt h, fun h => clampNegative_of_lt h⟩

theorem ints_real_none (y : Nat) (ys : List Value) : ints (Value.real y :: ys) = none := by
  simp [ints, asInt, collect]

/-- **VARIANCE of REAL arguments where nothing rounds.** For finite REAL arguments on which neither the running sums `Σx`, `Σ(x·x)` nor the
formula round (`onePassExactReals`, decidable) and whose first value is not `-0.0`, the REAL shown is finite and its exact value
is the textbook population variance of the exact values of the arguments. -/
theorem variance_exact_where_no_step_rounds_real (e : Expr) (vs : List Value) (r : Nat) (rs : List Nat)
    (h : nonNull vs = (r :: rs).map Value.real)
    (hz : zeroNeutral (r :: rs) = true ∧ zeroNeutral ((r :: rs).map (fun x => F64.mul x x)) = true)
    (hex : onePassExactReals (r :: rs) = true) :
    ∃ v, aggregate (.stddev e true) vs = some (.real v) ∧ F64.IsExactly v (popVariance ((r :: rs).map F64.toRat)) := by
  have hr := reals_map_real (r :: rs)
  have hv : aggregate (.stddev e true) vs = some (.real (spread (r :: rs).length true (realSum (r :: rs))
      (realSum ((r :: rs).map (fun x => F64.mul x x))))) := by
    simp only [List.map_cons] at hr
    simp only [aggregate, h, stddevOf, List.map_cons, ints_real_none, hr]
    simp only [List.map_cons] at hz
    simp only [hz.1, hz.2, Bool.and_self, if_true]
  refine ⟨_, hv, ?_⟩
  rw [spread_variance]
  exact realVariance_exact_value (r :: rs) (by simp) hex

/-- **every step of the formula is correctly rounded on its own operands** (finite operands and results, `n ≠ 0`): no REAL
`y` is nearer to the exact `s·s`, `p/n`, `q − d`, `e/n` than the REALs `p`, `d`, `e`, `v` the model computes. The composition
of four correctly rounded steps is NOT a correctly rounded variance (`real_formula_can_go_negative`). -/
theorem every_step_is_correctly_rounded (count : Int) (s q : Nat) (hs : F64.isFinite s = true) (hq : F64.isFinite q = true)
    (hn : F64.isFinite (steps count s q).n = true) (hz : F64.mag (steps count s q).n ≠ 0)
    (hp : F64.isFinite (steps count s q).p = true) (hd : F64.isFinite (steps count s q).d = true)
    (he : F64.isFinite (steps count s q).e = true) (hv : F64.isFinite (steps count s q).v = true) (y : Nat) :
    let t := steps count s q
    populationVariance count s q = t.v ∧
    DecFloat.adist (F64.umag s * F64.umag s) (F64.umag t.p * F64.unitScale) ≤ DecFloat.adist (F64.umag s * F64.umag s) (F64.umag y * F64.unitScale) ∧
    DecFloat.adist (F64.umag t.p * F64.unitScale) (F64.umag t.d * F64.umag t.n) ≤ DecFloat.adist (F64.umag t.p * F64.unitScale) (F64.umag y * F64.umag t.n) ∧
    DecFloat.adist (F64.units q + F64.units (F64.neg t.d)).natAbs (F64.umag t.e) ≤ DecFloat.adist (F64.units q + F64.units (F64.neg t.d)).natAbs (F64.umag y) ∧
    DecFloat.adist (F64.umag t.e * F64.unitScale) (F64.umag t.v * F64.umag t.n) ≤ DecFloat.adist (F64.umag t.e * F64.unitScale) (F64.umag y * F64.umag t.n) :=
  ⟨rfl, onePass_steps_nearest count s q hs hq hn hz hp hd he hv y⟩

/-- the REAL nearest to 0.1 -/
def tenth : Nat := 0x3fb999999999999a

/-- REAL arguments 0.5, 1.5, −2.25, 100.0 (bit patterns): sums, squares and the formula are exact; VARIANCE is exactly
`1880.01171875` = the textbook variance of these four numbers -/
example : onePassExactReals [0x3fe0000000000000, 0x3ff8000000000000, 0xc002000000000000, 0x4059000000000000] = true ∧
    popVariance ([0x3fe0000000000000, 0x3ff8000000000000, 0xc002000000000000, 0x4059000000000000].map F64.toRat) = 481283 / 256 := by
  decide +kernel

/-- **why the clamp is there**: over the three REALs 0.1, 0.1, 0.1 the one-pass formula evaluates to the NEGATIVE REAL
`0xbc35555555555555` (−1.1564823173178713e-18; exact variance 0): every step correctly rounded, the result below zero -/
theorem real_formula_can_go_negative :
    populationVariance 3 (realSum [tenth, tenth, tenth]) (realSum ([tenth, tenth, tenth].map (fun x => F64.mul x x))) = 0xbc35555555555555 ∧
    F64.cmp 0xbc35555555555555 F64.zero = .lt ∧ popVariance [F64.toRat tenth, F64.toRat tenth, F64.toRat tenth] = 0 :=
  ⟨by decide +kernel, by decide +kernel, popVariance_const 3 _⟩

/-! ### finding D72, repaired: regression witnesses (kernel-evaluated; `harness witness D72` runs the same inputs on the code) -/

/-- **D72 regression, REAL arguments.** VARIANCE and STDDEV over the three REALs 0.1, 0.1, 0.1 are `0.0` (they were
−1.1564823173178713e-18 and NaN) -/
theorem d72_repaired_real :
    aggregate (.stddev (.column "v") true) [.real tenth, .real tenth, .real tenth] = some (.real F64.zero) ∧
    aggregate (.stddev (.column "v") false) [.real tenth, .real tenth, .real tenth] = some (.real F64.zero) := by
  have h : aggregate (.stddev (.column "v") true) [.real tenth, .real tenth, .real tenth] = some (.real F64.zero) := by
    decide +kernel
  exact ⟨h, (stddev_is_sqrt_of_variance _ _ _ h).trans (by decide +kernel)⟩

/-- **D72 regression, INT arguments.** VARIANCE and STDDEV over seven INTs 1000000007 are `0.0` (they were −146.2857… and NaN) -/
theorem d72_repaired_int :
    aggregate (.stddev (.column "v") true) (List.replicate 7 (.int 1000000007)) = some (.real F64.zero) ∧
    aggregate (.stddev (.column "v") false) (List.replicate 7 (.int 1000000007)) = some (.real F64.zero) :=
  int_variance_of_equal_values_is_zero _ _ 7 1000000007 (by decide) rfl (by decide +kernel) (by decide)

/-- **D72 regression, the other direction.** VARIANCE and STDDEV over three INTs 300000007 are `0.0` (they were 10.666… and 3.2659…) -/
theorem d72_repaired_equal_ints :
    aggregate (.stddev (.column "v") true) (List.replicate 3 (.int 300000007)) = some (.real F64.zero) ∧
    aggregate (.stddev (.column "v") false) (List.replicate 3 (.int 300000007)) = some (.real F64.zero) :=
  int_variance_of_equal_values_is_zero _ _ 3 300000007 (by decide) rfl (by decide +kernel) (by decide)

/-- the engine shows exactly these cells: the running `update_aggregate` over seven rows 1000000007 ends with `0.0` in the cell -/
theorem d72_repaired_engine :
    ∃ c, foldV (.stddev (.column "v") true) (List.replicate 7 (.int 1000000007)) {} = .ok c ∧
      shownValue (.stddev (.column "v") true) c = .real F64.zero := by
  obtain ⟨c, hc, hs, _⟩ := Props.C04.aggregate_fold_refines (.stddev (.column "v") true) (List.replicate 7 (.int 1000000007))
    (.real F64.zero) (by decide) d72_repaired_int.1 rfl
  exact ⟨c, hc, hs⟩

/-! ### finding D76, OPEN: for REAL arguments the cell can be far from the variance (kernel-evaluated witnesses)

For REAL arguments NO accuracy statement is proved: the cell is the code's one-pass formula evaluated in REAL arithmetic
(`Spec.Agg.realVariance`), equal to the variance only where no step rounds (`variance_exact_where_no_step_rounds_real`). The
clamp of D72 removes negative results and the NaN, not the cancellation. `harness witness D76` and the `real-variance` stream
of `./check C04` run the same inputs on the code (class `D76:real-variance-cancellation`, assigned only to exactly these cells). -/

/-- **D76 witness.** Over the three REALs 100000001.0, 100000002.0, 100000003.0 (exactly representable; bit patterns below)
VARIANCE is `0.0` and STDDEV `0.0` — the exact variance of these three numbers is 2/3 (and over the INT column with the same
values the cell is the REAL nearest to 2/3, `int_variance_correctly_rounded_when_small`). Over 1000000.1, 1000000.2, 1000000.3
(the REALs nearest to them) VARIANCE is `0x3f7c000000000000` = 0.0068359375 where the exact variance of the three REALs is
2213609290391334421 / 332041393326771929088 = 0.0066666…: 2.5 % off. -/
theorem d76_real_variance_far_from_exact :
    aggregate (.stddev (.column "r") true) [.real 0x4197d78404000000, .real 0x4197d78408000000, .real 0x4197d7840c000000] = some (.real F64.zero) ∧
    aggregate (.stddev (.column "r") false) [.real 0x4197d78404000000, .real 0x4197d78408000000, .real 0x4197d7840c000000] = some (.real F64.zero) ∧
    [0x4197d78404000000, 0x4197d78408000000, 0x4197d7840c000000].map F64.toRat = [100000001, 100000002, 100000003] ∧
    popVariance [100000001, 100000002, 100000003] = 2 / 3 ∧
    aggregate (.stddev (.column "v") true) [.int 100000001, .int 100000002, .int 100000003] = some (.real 0x3fe5555555555555) ∧
    aggregate (.stddev (.column "r") true) [.real 0x412e848033333333, .real 0x412e848066666666, .real 0x412e84809999999a] = some (.real 0x3f7c000000000000) ∧
    F64.toRat 0x3f7c000000000000 = 7 / 1024 ∧
    popVariance ([0x412e848033333333, 0x412e848066666666, 0x412e84809999999a].map F64.toRat) = 2213609290391334421 / 332041393326771929088 := by
  have h : aggregate (.stddev (.column "r") true) [.real 0x4197d78404000000, .real 0x4197d78408000000, .real 0x4197d7840c000000] =
      some (.real F64.zero) := by decide +kernel
  exact ⟨h, (stddev_is_sqrt_of_variance _ _ _ h).trans (by decide +kernel), by decide +kernel, by decide +kernel,
    by decide +kernel, by decide +kernel, by decide +kernel, by decide +kernel⟩

/-- the engine shows exactly that cell: three `update_aggregate` steps over 100000001.0, 100000002.0, 100000003.0 end with `0.0` -/
theorem d76_engine :
    ∃ c, foldV (.stddev (.column "r") true) [.real 0x4197d78404000000, .real 0x4197d78408000000, .real 0x4197d7840c000000] {} = .ok c ∧
      shownValue (.stddev (.column "r") true) c = .real F64.zero := by
  obtain ⟨c, hc, hs, _⟩ := Props.C04.aggregate_fold_refines (.stddev (.column "r") true)
    [.real 0x4197d78404000000, .real 0x4197d78408000000, .real 0x4197d7840c000000] (.real F64.zero) (by decide) d76_real_variance_far_from_exact.1 rfl
  exact ⟨c, hc, hs⟩

/-- **population, not sample**: over 1, 2, 3 the population variance is 2/3 and the sample variance 1; VARIANCE shows
`0x3fe5555555555555` = 0.666… (and 1.0 would be `0x3ff0000000000000`) -/
theorem choice_population_not_sample :
    popVariance (ratsOfInts [1, 2, 3]) = 2 / 3 ∧ sampleVariance (ratsOfInts [1, 2, 3]) = 1 ∧
    aggregate (.stddev (.column "v") true) [.int 1, .int 2, .int 3] = some (.real 0x3fe5555555555555) :=
  ⟨by decide +kernel, by decide +kernel, by decide +kernel⟩

/-- **PERCENTILE(p) is the nearest-rank element at index `min(⌊p·n⌋, n−1)`** of the ascending values: the median of 1, 2 is 2
(not 1, not 1.5), PERCENTILE(1.0) is the greatest value, PERCENTILE(0.0) the least -/
theorem choice_percentile_nearest_rank :
    aggregate (.percentile (.column "v") 0x3fe0000000000000) [.int 2, .int 1] = some (.int 2) ∧
    aggregate (.percentile (.column "v") 0x3fe0000000000000) [.int 3, .int 2, .int 1] = some (.int 2) ∧
    aggregate (.percentile (.column "v") 0x3ff0000000000000) [.int 3, .int 1, .int 2] = some (.int 3) ∧
    aggregate (.percentile (.column "v") 0) [.int 3, .int 1, .int 2] = some (.int 1) :=
  ⟨by decide +kernel, by decide +kernel, by decide +kernel, by decide +kernel⟩

/-- **AVG over INT is the truncating division** of the sum by the count (towards zero: 3/2 ↦ 1, −3/2 ↦ −1) -/
theorem choice_avg_int_truncates :
    aggregate (.avg (.column "v")) [.int 1, .int 2] = some (.int 1) ∧
    aggregate (.avg (.column "v")) [.int (-1), .int (-2)] = some (.int (-1)) :=
  ⟨by decide +kernel, by decide +kernel⟩

end Sqlgrep.Props.C04Variance
