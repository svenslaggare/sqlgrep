import SqlgrepModel.Model.Value
/-
Decidable IDENTITY of values (`a = b`, not equality in the value order: `0.0` and `-0.0` differ), so that closed equations
between tables, rows and summaries can be evaluated by the kernel (`decide +kernel`). `Value` is a nested inductive type,
for which `deriving DecidableEq` is not available.
-/
namespace Sqlgrep
namespace Value

mutual
def same : Value → Value → Bool
  | .null, .null => true
  | .int i, .int j => decide (i = j)
  | .real a, .real b => decide (a = b)
  | .bool a, .bool b => decide (a = b)
  | .text a, .text b => decide (a = b)
  | .array t xs, .array u ys => decide (t = u) && sameList xs ys
  | .timestamp a b c, .timestamp d e f => decide (a = d) && decide (b = e) && decide (c = f)
  | .interval a, .interval b => decide (a = b)
  | _, _ => false
def sameList : List Value → List Value → Bool
  | [], [] => true
  | x :: xs, y :: ys => same x y && sameList xs ys
  | _, _ => false
end

mutual
theorem same_iff : ∀ (a b : Value), same a b = true ↔ a = b
  | a, b => by
    cases a <;> cases b <;> simp only [same, decide_eq_true_eq, Bool.and_eq_true, reduceCtorEq, Bool.false_eq_true]
    case array.array t xs u ys =>
      rw [sameList_iff xs ys]
      constructor
      · rintro ⟨rfl, rfl⟩; rfl
      · intro h; cases h; exact ⟨rfl, rfl⟩
    all_goals first
      | exact ⟨fun _ => rfl, fun _ => trivial⟩
      | (constructor
         · intro h; simp only [h]
         · intro h; cases h; simp)
      | (constructor
         · rintro ⟨⟨rfl, rfl⟩, rfl⟩; rfl
         · intro h; cases h; exact ⟨⟨rfl, rfl⟩, rfl⟩)
theorem sameList_iff : ∀ (a b : List Value), sameList a b = true ↔ a = b
  | [], [] => by simp [sameList]
  | [], _ :: _ => by simp [sameList]
  | _ :: _, [] => by simp [sameList]
  | x :: xs, y :: ys => by
    simp only [sameList, Bool.and_eq_true, same_iff x y, sameList_iff xs ys, List.cons.injEq]
end

instance : DecidableEq Value := fun a b => decidable_of_iff _ (same_iff a b)

end Value
end Sqlgrep
