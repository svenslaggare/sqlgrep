import SqlgrepModel.Lemmas.NoPanicEngine
import SqlgrepModel.Lemmas.NoSkip
/-
Statement-level "never skipped" (property C09): a whole batch run of a statement whose expressions call only functions
that are answered under the shipped oracle tables never ends `skipped`.

Every `oracleMissing` of the engine / executor model comes out of `eval` / `evalList` (the engines themselves contain no
such constructor), so no invariant of the engine state is needed: these are the readings `M := fun _ => False` of
`executeLine_faults` and `runBatch_faults` (`Lemmas/NoPanicEngine.lean`), with panics allowed.
-/
namespace Sqlgrep
namespace NoSkipEngine
open Sqlgrep.NoPanicEngine

section
variable (O : Oracles) (ok : Func → Bool) (hok : ∀ f, ok f = true → ∀ args, NM (callFunction O f args))
include hok

omit hok in
/-- the enumerated items of a statement whose items satisfy `ok` do (`NoPanicEngine.items_ok'`) -/
protected theorem items_ok' (q : AggStmt) (h : q.items.all (·.allFuncs ok) = true) : ∀ p ∈ enumFrom 0 q.items, p.2.allFuncs ok = true :=
  NoPanicEngine.items_ok' ok q h

theorem NM_executeLine (qy : Query) (idx : JoinIndex) (w : Bool) (es : EngineState) (l : Line)
    (h : qy.stmt.allFuncs ok = true) : NM (executeLine O qy idx w es l) :=
  NM_iff_faultsIn.2 (executeLine_faults O ok (faults_of_answered O ok hok) qy idx w es l h (Or.inl fun _ => trivial))

theorem runBatch_not_skipped (qy : Query) (joined : List FileLine) (files : List (List FileLine)) (stopAt : Option Nat)
    (hq : qy.stmt.allFuncs ok = true) : (runBatch O qy joined files stopAt).skipped = none :=
  Option.eq_none_iff_forall_ne_some.2 (runBatch_faults O ok (faults_of_answered O ok hok) qy joined files stopAt hq).2

end

/-! ### a run ends in at most one way

`RunOut` has three independent failure fields (`error`, `panicked`, `skipped`). The executor sets one of them only
through `failWith` (or the `FailReadFile` branch), on an output that has none set, and stops. -/

def Clean (ro : RunOut) : Prop := ro.error = none ∧ ro.panicked = false ∧ ro.skipped = none

def OneWay (ro : RunOut) : Prop :=
  (ro.error = none ∧ ro.panicked = false ∧ ro.skipped = none) ∨
  ((∃ k, ro.error = some k) ∧ ro.panicked = false ∧ ro.skipped = none) ∨
  (ro.error = none ∧ ro.panicked = true ∧ ro.skipped = none) ∨
  (ro.error = none ∧ ro.panicked = false ∧ ∃ w, ro.skipped = some w)

theorem clean_of_not_failed {ro : RunOut} (h : hasFailed ro = false) : Clean ro := by
  simp only [hasFailed, Bool.or_eq_false_iff, Option.isSome_eq_false_iff, Option.isNone_iff_eq_none] at h
  exact ⟨h.1.1, h.1.2, h.2⟩

theorem not_failed_of_clean {ro : RunOut} (h : Clean ro) : hasFailed ro = false := by
  rw [hasFailed, h.1, h.2.1, h.2.2]
  rfl

theorem failWith_oneWay {α : Type} (ro : RunOut) (o : Outcome α) (h : Clean ro) : OneWay (failWith ro o) := by
  obtain ⟨h1, h2, h3⟩ := h
  unfold failWith
  cases o with
  | ok a => exact Or.inl ⟨h1, h2, h3⟩
  | error k => exact Or.inr (Or.inl ⟨⟨k, rfl⟩, h2, h3⟩)
  | panic s => exact Or.inr (Or.inr (Or.inl ⟨h1, rfl, h3⟩))
  | oracleMissing w => exact Or.inr (Or.inr (Or.inr ⟨h1, h2, ⟨w, rfl⟩⟩))

def LoopOneWay (ls : LoopState) : Prop := Clean ls.out ∨ (ls.stop = true ∧ OneWay ls.out)

theorem drive_oneWay (m : Mode) (x : Machine) (sa : Option Nat) (fls : List FileLine) {s : TraceState}
    (h : LoopOneWay s.ls) : LoopOneWay (drive m x sa fls s).ls := by
  refine drive_inv m x (fun s => LoopOneWay s.ls) sa (fun s fl hh h => ?_) fls h
  have hclean : Clean s.ls.out := h.elim id fun ⟨hs, _⟩ => by rw [fileHalt_false hh] at hs; cases hs
  rcases m.step_cases x s fl with ⟨_, e⟩ | ⟨es, lo, _, _, e⟩ | ⟨_, _, e⟩ <;> rw [e]
  · exact Or.inr ⟨rfl, Or.inr (Or.inl ⟨⟨_, rfl⟩, hclean.2.1, hclean.2.2⟩)⟩
  · exact Or.inl hclean
  · exact Or.inr ⟨rfl, failWith_oneWay _ _ hclean⟩

theorem endRun_oneWay (O : Oracles) (qy : Query) (s : TraceState) (h : LoopOneWay s.ls) : OneWay (endRun O qy s).out := by
  have hone : OneWay s.ls.out := h.elim .inl (·.2)
  unfold endRun
  split
  · exact hone
  · have hc := clean_of_not_failed (Bool.eq_false_iff.2 ‹_›)
    cases qy.stmt with
    | select q => exact hone
    | aggregate q =>
      dsimp only
      split
      · exact Or.inl hc
      · exact failWith_oneWay _ _ hc

theorem runWithIndex_oneWay (O : Oracles) (qy : Query) (idxO : Outcome JoinIndex) (files : List (List FileLine))
    (stopAt : Option Nat) : OneWay (runWithIndex O qy idxO files stopAt) := by
  have init : Clean ({} : RunOut) := ⟨rfl, rfl, rfl⟩
  cases idxO with
  | ok idx =>
    rw [runWithIndex_ok, runFiles_eq_drive]
    refine endRun_oneWay O qy _ ?_
    split
    · exact Or.inl init
    · exact drive_oneWay _ _ _ _ (s := ⟨{}, []⟩) (Or.inl init)
  | _ => exact failWith_oneWay _ _ init

/-- **every batch run ends in at most one way**: of `error`, `panicked`, `skipped` at most one is set -/
theorem runBatch_oneWay (O : Oracles) (qy : Query) (joined : List FileLine) (files : List (List FileLine))
    (stopAt : Option Nat) : OneWay (runBatch O qy joined files stopAt) :=
  runWithIndex_oneWay O qy (joinOutcome qy joined) files stopAt

end NoSkipEngine
end Sqlgrep
