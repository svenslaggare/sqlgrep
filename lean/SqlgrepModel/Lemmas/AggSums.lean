import SqlgrepModel.Lemmas.AggKinds
import SqlgrepModel.Lemmas.AggSumOf
/-
SUM, AVG, STDDEV/VARIANCE: the running sums of the engine against the specification, generic in the numeric argument
type (`NumLike`: INT and INTERVAL with range checks, REAL). All three keep a running sum that is NULL until the first
addend arrives (`orun`); the specification's AVG and STDDEV are SUM finished differently (`avgOf_eq`, `stddevOf_eq` in
`AggSumOf`).
-/
set_option linter.unusedSimpArgs false
namespace Sqlgrep
open Value Spec.Agg

def psOk {α : Type} (plus : α → α → α) (okp : α → Bool) : α → List α → Bool
  | _, [] => true
  | acc, x :: xs => okp (plus acc x) && psOk plus okp (plus acc x) xs

theorem psOk_int (ok : Int → Bool) (acc : Int) (xs : List Int) : psOk (· + ·) ok acc xs = partialSumsOk ok acc xs := by
  induction xs generalizing acc with
  | nil => rfl
  | cons x xs ih => simp [psOk, partialSumsOk, ih]

theorem psOk_true {α : Type} (plus : α → α → α) (acc : α) (xs : List α) : psOk plus (fun _ => true) acc xs = true := by
  induction xs generalizing acc with
  | nil => rfl
  | cons x xs ih => simp [psOk, ih]

/-- the average published after an update (`map_numeric` of the sum by the count) -/
def avgPub (s : Value) (c : Int) : Option Value :=
  match s with
  | .int x => some (.int (Int.tdiv x c))
  | .real x => some (.real (F64.div x (F64.ofInt c)))
  | .interval x => some (.interval (Int.tdiv x c))
  | _ => none

/-- an argument type `α` the running sums accept: how `add_to_sum` acts on it -/
structure NumLike {α : Type} (inj : α → Value) (plus : α → α → α) (okp : α → Bool) (zero : α) : Prop where
  add : ∀ s y, addToSum (inj s) (inj y) = if okp (plus s y) then .ok (inj (plus s y)) else .error .undefinedOperation
  addNull : ∀ y, addToSum .null (inj y) = .ok (inj y)
  notNull : ∀ y, (inj y).isNull = false
  dflt : ∀ y, defaultOf (inj y) = inj zero
  pub : ∀ s c, (avgPub (inj s) c).isSome = true

theorem numLike_int : NumLike Value.int (· + ·) inI64 0 where
  add := by
    intro s y
    simp only [addToSum, checked]
    by_cases h : inI64 (s + y) = true <;> simp [h]
  addNull := fun _ => rfl
  notNull := fun _ => rfl
  dflt := fun _ => rfl
  pub := fun _ _ => rfl

theorem numLike_real : NumLike Value.real F64.add (fun _ => true) F64.zero where
  add := fun s y => by simp [addToSum]
  addNull := fun _ => rfl
  notNull := fun _ => rfl
  dflt := fun _ => rfl
  pub := fun _ _ => rfl

theorem numLike_interval : NumLike Value.interval (· + ·) inIv 0 where
  add := fun s y => by simp only [addToSum]
  addNull := fun _ => rfl
  notNull := fun _ => rfl
  dflt := fun _ => rfl
  pub := fun _ _ => rfl

section
variable {α : Type} {inj : α → Value} {plus : α → α → α} {okp : α → Bool} {zero : α}

/-- a sum of `α`s as a value: NULL (`none`) before the first addend -/
def osum (inj : α → Value) : Option α → Value
  | none => .null
  | some s => inj s

/-- the specification's sum of a list of one type -/
def ototal (plus : α → α → α) (zero : α) : List α → Option α
  | [] => none
  | y :: ys => some ((y :: ys).foldl plus zero)
end

/-- what `sumOf xs = some r` says: values of one numeric type, whose sum from that type's zero is `r` -/
inductive Summed : List Value → Value → Prop
  | mk {α : Type} {inj : α → Value} {plus : α → α → α} {okp : α → Bool} {zero : α} (N : NumLike inj plus okp zero)
      (ys : List α) (hz : ∀ y ∈ ys.head?, plus zero y = y) (hok : psOk plus okp zero ys = true) :
      Summed (ys.map inj) (osum inj (ototal plus zero ys))

theorem summed_of_sumOf {xs : List Value} {r : Value} (h : sumOf xs = some r) : Summed xs r := by
  cases xs with
  | nil => cases h; exact .mk numLike_int [] (by simp) rfl
  | cons x xs =>
    cases hi : ints (x :: xs) with
    | some is =>
      have hx := ints_eq_some_iff.mp hi
      cases is with
      | nil => simp at hx
      | cons i is =>
        rw [hx, sumOf_ints_if] at h
        obtain ⟨hok, rfl⟩ := some_of_ite h
        rw [hx]; exact .mk numLike_int (i :: is) (by simp) (by rwa [psOk_int])
    | none =>
      cases hr : reals (x :: xs) with
      | some rs =>
        have hx := reals_eq_some_iff.mp hr
        cases rs with
        | nil => simp at hx
        | cons y rs =>
          rw [hx, sumOf_reals_if] at h
          obtain ⟨hok, rfl⟩ := some_of_ite h
          rw [hx]; exact .mk numLike_real (y :: rs) (by simpa using zeroNeutral_cons hok) (psOk_true _ _ _)
      | none =>
        cases hn : intervals (x :: xs) with
        | some ns =>
          have hx := intervals_eq_some_iff.mp hn
          cases ns with
          | nil => simp at hx
          | cons n ns =>
            rw [hx, sumOf_intervals_if] at h
            obtain ⟨hok, rfl⟩ := some_of_ite h
            rw [hx]; exact .mk numLike_interval (n :: ns) (by simp) (by rwa [psOk_int])
        | none => simp [sumOf, hi, hr, hn] at h

theorem isNull_null : Value.null.isNull = true := rfl

section
variable {α : Type} {inj : α → Value} {plus : α → α → α} {okp : α → Bool} {zero : α}

/-- `add_to_sum` on such a sum: a NULL sum adopts the addend, any other sum is range-checked -/
def oadd (plus : α → α → α) (okp : α → Bool) : Option α → α → Outcome α
  | none, y => .ok y
  | some s, y => if okp (plus s y) then .ok (plus s y) else .error .undefinedOperation

theorem addToSum_osum (N : NumLike inj plus okp zero) (o : Option α) (y : α) :
    addToSum (osum inj o) (inj y) = (oadd plus okp o y).bind (fun s => .ok (inj s)) := by
  cases o with
  | none => exact N.addNull y
  | some s => simp only [osum, oadd, N.add]; split <;> rfl

def orun (plus : α → α → α) (okp : α → Bool) (o : Option α) (ys : List α) : Outcome (Option α) :=
  ys.foldlM (fun o y => (oadd plus okp o y).bind (fun s => .ok (some s))) o

theorem orun_cons (o : Option α) (y : α) (ys : List α) :
    orun plus okp o (y :: ys) = (oadd plus okp o y).bind (fun s => orun plus okp (some s) ys) := by
  simp only [orun, List.foldlM_cons, bind]
  cases oadd plus okp o y <;> rfl

theorem orun_some (s : α) (ys : List α) :
    orun plus okp (some s) ys = if psOk plus okp s ys then .ok (some (ys.foldl plus s)) else .error .undefinedOperation := by
  induction ys generalizing s with
  | nil => rfl
  | cons y ys ih =>
    rw [orun_cons]
    simp only [oadd, psOk, List.foldl_cons]
    by_cases h : okp (plus s y) = true
    · simp only [h, if_true, Bool.true_and]; exact ih _
    · simp only [h, if_false, Bool.false_eq_true, Bool.false_and]; rfl

/-- the aggregator the first row of a group creates starts from NULL (the row's argument is NULL) or from the zero of
the argument's type -/
theorem first_row (N : NumLike inj plus okp zero) {v : Value} {vs : List Value} {ys : List α}
    (h : nonNull (v :: vs) = ys.map inj) :
    ∃ o, defaultOf v = osum inj o ∧ ((v = .null ∧ o = none) ∨ ∃ y, v = inj y ∧ ys ≠ [] ∧ o = some zero) := by
  cases hv : v.isNull
  · rw [nonNull_cons_of_not_null hv] at h
    obtain ⟨y, _, rfl, rfl, _⟩ := map_cons_inv h
    exact ⟨some zero, N.dflt y, .inr ⟨y, rfl, by simp, rfl⟩⟩
  · cases isNull_eq_true hv; exact ⟨none, rfl, .inl ⟨rfl, rfl⟩⟩

theorem orun_start {ys : List α} (hz : ∀ y ∈ ys.head?, plus zero y = y) (hok : psOk plus okp zero ys = true)
    {v : Value} {o : Option α} (ho : (v = .null ∧ o = none) ∨ ∃ y, v = inj y ∧ ys ≠ [] ∧ o = some zero) :
    orun plus okp o ys = .ok (ototal plus zero ys) := by
  cases ys with
  | nil =>
    rcases ho with ⟨_, rfl⟩ | ⟨_, _, h, _⟩
    · rfl
    · exact absurd rfl h
  | cons y ys =>
    have hz := hz y rfl
    rcases ho with ⟨_, rfl⟩ | ⟨_, _, _, rfl⟩
    · simp only [psOk, hz, Bool.and_eq_true] at hok
      rw [orun_cons, oadd, Outcome.bind, orun_some, hok.2, ototal, List.foldl_cons, hz]; rfl
    · rw [orun_some, hok]; rfl
end

def sumCell (s : Value) : Cell := { agg := some (.sum s), val := some s }

theorem aggUpdate_sum (s v : Value) :
    aggUpdate (.sum s) v = (addToSum s v).bind (fun s' => .ok (.sum s', some s')) := rfl

theorem aggStep_sum_null (s : Value) : aggStep (.sum s) .null (some s) = .ok (sumCell s) := by
  cases hs : s.isNull
  · simp only [aggStep, isNull_null, if_true, aggIsNull, hs, Bool.false_eq_true, if_false, sumCell]
  · cases isNull_eq_true hs; rfl

theorem aggStep_sum (s v : Value) (x : Option Value) (hv : v.isNull = false) :
    aggStep (.sum s) v x = (addToSum s v).bind (fun s' => .ok (sumCell s')) := by
  simp only [aggStep, hv, Bool.false_eq_true, if_false, aggUpdate_sum]
  cases addToSum s v <;> rfl

theorem foldV_sum_init (e : Expr) (v : Value) (vs : List Value) :
    foldV (.sum e) (v :: vs) {} = foldV (.sum e) (v :: vs) (sumCell (defaultOf v)) := by
  simp only [foldV, stepV_agg (k := .sum e) rfl]
  congr 1
  cases hv : v.isNull
  · exact (aggStep_sum _ v _ hv).trans (aggStep_sum _ v _ hv).symm
  · cases isNull_eq_true hv; rfl

section
variable {α : Type} {inj : α → Value} {plus : α → α → α} {okp : α → Bool} {zero : α}

theorem foldV_sum (N : NumLike inj plus okp zero) (e : Expr) {vs : List Value} {ys : List α} (h : nonNull vs = ys.map inj)
    (o : Option α) :
    foldV (.sum e) vs (sumCell (osum inj o)) = (orun plus okp o ys).bind (fun o' => .ok (sumCell (osum inj o'))) := by
  refine foldV_steps (cell := fun o => sumCell (osum inj o)) ?_ ?_ h o
  · intro o; exact (stepV_agg (k := .sum e) rfl _ _).trans (aggStep_sum_null _)
  · intro o y hy
    rw [stepV_agg (k := .sum e) rfl, show (sumCell (osum inj o)).agg.getD _ = .sum (osum inj o) from rfl,
      aggStep_sum _ _ _ hy, addToSum_osum N]
    cases oadd plus okp o y <;> rfl

theorem foldV_sum_typed (N : NumLike inj plus okp zero) (e : Expr) {v : Value} {vs : List Value} {ys : List α}
    (h : nonNull (v :: vs) = ys.map inj) (hz : ∀ y ∈ ys.head?, plus zero y = y) (hok : psOk plus okp zero ys = true) :
    foldV (.sum e) (v :: vs) {} = .ok (sumCell (osum inj (ototal plus zero ys))) := by
  obtain ⟨o, hd, ho⟩ := first_row N h
  rw [foldV_sum_init, hd, foldV_sum N e h, orun_start hz hok ho]; rfl
end

/-- SUM: the sum of the non-NULL arguments (NULL if there are none); an overflowing partial sum is an error -/
theorem sum_refines (e : Expr) (vs : List Value) (r : Value) (h : aggregate (.sum e) vs = some r) :
    ∃ c, foldV (.sum e) vs {} = .ok c ∧ shownValue (.sum e) c = r ∧
      (published c).isSome = createsEntry (.sum e) vs := by
  cases vs with
  | nil =>
    simp [aggregate, nonNull, sumOf] at h
    exact ⟨{}, rfl, by simp [shownValue, published, emptyGroupValue, h], rfl⟩
  | cons v vs =>
    suffices hs : foldV (.sum e) (v :: vs) {} = .ok (sumCell r) from ⟨_, hs, rfl, rfl⟩
    have hS := summed_of_sumOf (show sumOf (nonNull (v :: vs)) = some r from h)
    generalize hx : nonNull (v :: vs) = xs at hS
    cases hS with
    | mk N ys hz hok => exact foldV_sum_typed N e hx hz hok

theorem aggUpdate_avg (s v : Value) (c : Int) :
    aggUpdate (.avg s c) v = (addToSum s v).bind (fun s' => .ok (.avg s' (c + 1), avgPub s' (c + 1))) := by
  simp only [aggUpdate, bind, pure]
  cases addToSum s v with
  | ok s' => cases s' <;> rfl
  | _ => rfl

def avgCell (s : Value) (n : Nat) : Cell :=
  { agg := some (.avg s n), val := if s.isNull then some .null else avgPub s n }

theorem avgCell_val (s : Value) (n : Nat) : (avgCell s n).val = avgFinish s n := by cases s <;> rfl

theorem aggStep_avg_null (s : Value) (n : Nat) : aggStep (.avg s n) .null (avgCell s n).val = .ok (avgCell s n) := by
  by_cases hs : s.isNull = true <;>
    simp only [aggStep, isNull_null, if_true, aggIsNull, avgCell, hs, if_false, Bool.false_eq_true]

section
variable {α : Type} {inj : α → Value} {plus : α → α → α} {okp : α → Bool} {zero : α}

theorem aggStep_avg (N : NumLike inj plus okp zero) (o : Option α) (n : Nat) (y : α) (x : Option Value) :
    aggStep (.avg (osum inj o) n) (inj y) x = (oadd plus okp o y).bind (fun s => .ok (avgCell (inj s) (n + 1))) := by
  simp only [aggStep, N.notNull, Bool.false_eq_true, if_false, aggUpdate_avg, addToSum_osum N]
  cases oadd plus okp o y with
  | ok s =>
    have := N.pub s ((n : Int) + 1)
    simp only [Outcome.bind, avgCell, N.notNull, Bool.false_eq_true, if_false, Int.natCast_succ]
    cases h : avgPub (inj s) ((n : Int) + 1) with
    | none => simp [h] at this
    | some w => rfl
  | _ => rfl

theorem foldV_avg (N : NumLike inj plus okp zero) (e : Expr) {vs : List Value} {ys : List α} (h : nonNull vs = ys.map inj)
    (o : Option α) (n : Nat) :
    foldV (.avg e) vs (avgCell (osum inj o) n) =
      (orun plus okp o ys).bind (fun o' => .ok (avgCell (osum inj o') (n + ys.length))) := by
  rw [foldV_steps (cell := fun p : Option α × Nat => avgCell (osum inj p.1) p.2)
    (next := fun p y => (oadd plus okp p.1 y).bind (fun s => .ok (some s, p.2 + 1))) ?_ ?_ h (o, n)]
  · clear h
    induction ys generalizing o n with
    | nil => rfl
    | cons y ys ih =>
      rw [List.foldlM_cons, orun_cons]
      cases oadd plus okp o y with
      | ok s => simp only [bind, Outcome.bind, List.length_cons] at ih ⊢; rw [ih, Nat.add_right_comm n, Nat.add_assoc]
      | _ => rfl
  · intro p; exact (stepV_agg (k := .avg e) rfl _ _).trans (aggStep_avg_null _ _)
  · intro p y _
    rw [stepV_agg (k := .avg e) rfl]
    exact (aggStep_avg N p.1 p.2 y _).trans (by cases oadd plus okp p.1 y <;> rfl)

theorem foldV_avg_typed (N : NumLike inj plus okp zero) (e : Expr) {v : Value} {vs : List Value} {ys : List α}
    (h : nonNull (v :: vs) = ys.map inj) (hz : ∀ y ∈ ys.head?, plus zero y = y) (hok : psOk plus okp zero ys = true) :
    foldV (.avg e) (v :: vs) {} = .ok (avgCell (osum inj (ototal plus zero ys)) ys.length) := by
  obtain ⟨o, hd, ho⟩ := first_row N h
  have hi : foldV (.avg e) (v :: vs) {} = foldV (.avg e) (v :: vs) (avgCell (osum inj o) 0) := by
    simp only [foldV, stepV_agg (k := .avg e) rfl]
    congr 1
    rcases ho with ⟨rfl, rfl⟩ | ⟨y, rfl, _, rfl⟩
    · rfl
    · show aggStep (.avg (defaultOf (inj y)) (0 : Nat)) _ _ = aggStep (.avg (osum inj (some zero)) (0 : Nat)) _ _
      rw [hd, aggStep_avg N, aggStep_avg N]
  rw [hi, foldV_avg N e h, orun_start hz hok ho, Nat.zero_add]; rfl
end

/-- AVG: sum of the non-NULL arguments divided by their number (INT: truncating), NULL if there are none -/
theorem avg_refines (e : Expr) (vs : List Value) (r : Value) (h : aggregate (.avg e) vs = some r) :
    ∃ c, foldV (.avg e) vs {} = .ok c ∧ shownValue (.avg e) c = r ∧
      (published c).isSome = createsEntry (.avg e) vs := by
  cases vs with
  | nil =>
    simp [aggregate, nonNull, avgOf] at h
    exact ⟨{}, rfl, by simp [shownValue, published, emptyGroupValue, h], rfl⟩
  | cons v vs =>
    simp only [aggregate, avgOf_eq, Option.bind_eq_some_iff] at h
    obtain ⟨s, hs, hr⟩ := h
    have hval : published (avgCell s (nonNull (v :: vs)).length) = some r := by rw [← hr, ← avgCell_val]; rfl
    suffices hc : foldV (.avg e) (v :: vs) {} = .ok (avgCell s (nonNull (v :: vs)).length) from
      ⟨_, hc, by rw [shownValue, hval]; rfl, by rw [hval]; rfl⟩
    have hS := summed_of_sumOf hs
    generalize hx : nonNull (v :: vs) = xs at hS
    cases hS with
    | mk N ys hz hok => rw [List.length_map]; exact foldV_avg_typed N e hx hz hok

/-- the model's STDDEV / VARIANCE formula (`GroupAggregator::StandardDeviation`) is the specification's population
variance / its square root -/
theorem stddevCalc_eq_spread (n : Int) (isVar : Bool) (s q : Nat) : stddevCalc n isVar s q = Spec.Agg.spread n isVar s q := rfl
/-- … and for INT sums (exact numerator and denominator, two conversions, one division) -/
theorem stddevCalcInt_eq_spreadInt (n : Int) (isVar : Bool) (s q : Int) :
    stddevCalcInt n isVar s q = Spec.Agg.spreadInt n isVar s q := rfl

/-- squares and the published value for an argument type STDDEV accepts (INT, REAL); `fin` = the final calculation from
(count, Σx, Σx²) for that type -/
structure SqLike {α : Type} (inj : α → Value) (sq : α → α) (okSq : α → Bool) (fin : Int → Bool → α → α → Nat) : Prop where
  square : ∀ y, squareOf (inj y) = if okSq y then .ok (inj (sq y)) else .error .undefinedOperation
  value : ∀ s q c isVar, stddevValue (inj s) (inj q) c isVar = some (.real (fin c isVar s q))

theorem sqLike_int : SqLike Value.int (fun x => x * x) (fun x => inI64 (x * x)) stddevCalcInt where
  square := by
    intro y
    simp only [squareOf, checked]
    by_cases h : inI64 (y * y) = true <;> simp [h]
  value := fun _ _ _ _ => rfl

theorem sqLike_real : SqLike Value.real (fun x => F64.mul x x) (fun _ => true) stddevCalc where
  square := fun y => by simp [squareOf]
  value := fun _ _ _ _ => rfl

theorem aggUpdate_stddev (s q v : Value) (c : Int) (isVar : Bool) :
    aggUpdate (.stddev s q c isVar) v = (squareOf v).bind (fun sqv => (addToSum s v).bind (fun s' =>
      (addToSum q sqv).bind (fun q' => .ok (.stddev s' q' (c + 1) isVar, stddevValue s' q' (c + 1) isVar)))) := rfl

def ospread {α : Type} (fin : Int → Bool → α → α → Nat) (isVar : Bool) (n : Nat) : Option α → Option α → Value
  | some s, some q => .real (fin n isVar s q)
  | _, _ => .null

/-- what `stddevOf isVar xs = some r` says -/
inductive Spreaded (isVar : Bool) : List Value → Value → Prop
  | mk {α : Type} {inj : α → Value} {plus : α → α → α} {okp : α → Bool} {zero : α} {sq : α → α} {okSq : α → Bool}
      {fin : Int → Bool → α → α → Nat} (N : NumLike inj plus okp zero) (S : SqLike inj sq okSq fin) (ys : List α)
      (hsq : ys.all okSq = true) (hz : ∀ y ∈ ys.head?, plus zero y = y ∧ plus zero (sq y) = sq y)
      (hok : psOk plus okp zero ys = true) (hokq : psOk plus okp zero (ys.map sq) = true) :
      Spreaded isVar (ys.map inj) (ospread fin isVar ys.length (ototal plus zero ys) (ototal plus zero (ys.map sq)))

theorem spreaded_of_stddevOf {isVar : Bool} {xs : List Value} {r : Value} (h : stddevOf isVar xs = some r) :
    Spreaded isVar xs r := by
  cases xs with
  | nil => cases h; exact .mk numLike_int sqLike_int [] rfl (by simp) rfl rfl
  | cons x xs =>
    simp only [stddevOf] at h
    cases hi : ints (x :: xs) with
    | some is =>
      have hx := ints_eq_some_iff.mp hi
      cases is with
      | nil => simp at hx
      | cons i is =>
        simp only [hi] at h
        obtain ⟨hc, rfl⟩ := some_of_ite h
        simp only [Bool.and_eq_true] at hc
        rw [hx]
        exact .mk numLike_int sqLike_int (i :: is) (by simpa [List.all_map] using hc.1.1) (by simp)
          (by rw [psOk_int]; exact hc.1.2) (by rw [psOk_int]; exact hc.2)
    | none =>
      cases hr : reals (x :: xs) with
      | some rs =>
        have hx := reals_eq_some_iff.mp hr
        cases rs with
        | nil => simp at hx
        | cons y rs =>
          simp only [hi, hr] at h
          obtain ⟨hc, rfl⟩ := some_of_ite h
          simp only [Bool.and_eq_true] at hc
          rw [hx]
          exact .mk numLike_real sqLike_real (y :: rs) (by simp)
            (by simpa using ⟨zeroNeutral_cons hc.1, zeroNeutral_cons (ys := rs.map (fun x => F64.mul x x)) hc.2⟩)
            (psOk_true _ _ _) (psOk_true _ _ _)
      | none => simp [hi, hr] at h

def sdCell (isVar : Bool) (s q : Value) (n : Nat) : Cell :=
  { agg := some (.stddev s q n isVar), val := if s.isNull || q.isNull then some .null else stddevValue s q n isVar }

theorem aggStep_sd_null (isVar : Bool) (s q : Value) (n : Nat) :
    aggStep (.stddev s q n isVar) .null (sdCell isVar s q n).val = .ok (sdCell isVar s q n) := by
  by_cases hs : (s.isNull || q.isNull) = true <;>
    simp only [aggStep, isNull_null, if_true, aggIsNull, sdCell, hs, if_false, Bool.false_eq_true]

section
variable {α : Type} {inj : α → Value} {plus : α → α → α} {okp : α → Bool} {zero : α} {sq : α → α} {okSq : α → Bool}
  {fin : Int → Bool → α → α → Nat}

theorem aggStep_sd (N : NumLike inj plus okp zero) (S : SqLike inj sq okSq fin) (isVar : Bool) (o q : Option α) (n : Nat)
    (y : α) (x : Option Value) :
    aggStep (.stddev (osum inj o) (osum inj q) n isVar) (inj y) x =
      if okSq y then (oadd plus okp o y).bind fun s => (oadd plus okp q (sq y)).bind fun t =>
        .ok (sdCell isVar (inj s) (inj t) (n + 1))
      else .error .undefinedOperation := by
  simp only [aggStep, N.notNull, Bool.false_eq_true, if_false, aggUpdate_stddev, S.square]
  by_cases hy : okSq y = true
  · simp only [hy, if_true, Outcome.bind, addToSum_osum N]
    cases oadd plus okp o y with
    | ok s =>
      cases oadd plus okp q (sq y) with
      | ok t =>
        simp only [Outcome.bind, sdCell, N.notNull, Bool.or_self, Bool.false_eq_true, if_false, Int.natCast_succ, S.value]
        rfl
      | _ => rfl
    | _ => rfl
  · simp only [hy, if_false, Bool.false_eq_true]; rfl

theorem foldV_sd (N : NumLike inj plus okp zero) (S : SqLike inj sq okSq fin) (e : Expr) (isVar : Bool) {vs : List Value}
    {ys : List α} (h : nonNull vs = ys.map inj) (hsq : ys.all okSq = true) (o q : Option α) (n : Nat) {o' q' : Option α}
    (ho : orun plus okp o ys = .ok o') (hq : orun plus okp q (ys.map sq) = .ok q') :
    foldV (.stddev e isVar) vs (sdCell isVar (osum inj o) (osum inj q) n) =
      .ok (sdCell isVar (osum inj o') (osum inj q') (n + ys.length)) := by
  rw [foldV_steps (cell := fun p : Option α × Option α × Nat => sdCell isVar (osum inj p.1) (osum inj p.2.1) p.2.2)
    (next := fun p y => if okSq y then (oadd plus okp p.1 y).bind fun s => (oadd plus okp p.2.1 (sq y)).bind fun t =>
      .ok (some s, some t, p.2.2 + 1) else .error .undefinedOperation) ?_ ?_ h (o, q, n)]
  · clear h
    induction ys generalizing o q n with
    | nil => cases ho; cases hq; rfl
    | cons y ys ih =>
      simp only [List.all_cons, Bool.and_eq_true] at hsq
      rw [orun_cons] at ho
      rw [List.map_cons, orun_cons] at hq
      obtain ⟨s, hs, ho⟩ := obind_ok ho
      obtain ⟨t, ht, hq⟩ := obind_ok hq
      simp only [List.foldlM_cons, hsq.1, if_true, hs, ht, bind, Outcome.bind, List.length_cons] at ih ⊢
      rw [ih hsq.2 _ _ _ ho hq, Nat.add_right_comm n, Nat.add_assoc]
  · intro p; exact (stepV_agg (k := .stddev e isVar) rfl _ _).trans (aggStep_sd_null _ _ _ _)
  · intro p y _
    rw [stepV_agg (k := .stddev e isVar) rfl]
    refine (aggStep_sd N S isVar p.1 p.2.1 p.2.2 y _).trans ?_
    by_cases hy : okSq y = true
    · simp only [hy, if_true]
      cases oadd plus okp p.1 y with
      | ok s => cases oadd plus okp p.2.1 (sq y) <;> rfl
      | _ => rfl
    · simp only [hy, if_false, Bool.false_eq_true]; rfl

theorem foldV_sd_typed (N : NumLike inj plus okp zero) (S : SqLike inj sq okSq fin) (e : Expr) (isVar : Bool)
    {v : Value} {vs : List Value} {ys : List α} (h : nonNull (v :: vs) = ys.map inj) (hsq : ys.all okSq = true)
    (hz : ∀ y ∈ ys.head?, plus zero y = y ∧ plus zero (sq y) = sq y)
    (hok : psOk plus okp zero ys = true) (hokq : psOk plus okp zero (ys.map sq) = true) :
    foldV (.stddev e isVar) (v :: vs) {} =
      .ok (sdCell isVar (osum inj (ototal plus zero ys)) (osum inj (ototal plus zero (ys.map sq))) ys.length) := by
  obtain ⟨o, hd, ho⟩ := first_row N h
  have hi : foldV (.stddev e isVar) (v :: vs) {} =
      foldV (.stddev e isVar) (v :: vs) (sdCell isVar (osum inj o) (osum inj o) 0) := by
    simp only [foldV, stepV_agg (k := .stddev e isVar) rfl]
    congr 1
    rcases ho with ⟨rfl, rfl⟩ | ⟨y, rfl, _, rfl⟩
    · rfl
    · show aggStep (.stddev (defaultOf (inj y)) (defaultOf (inj y)) (0 : Nat) isVar) _ _ =
        aggStep (.stddev (osum inj (some zero)) (osum inj (some zero)) (0 : Nat) isVar) _ _
      rw [hd, aggStep_sd N S, aggStep_sd N S]
  have hzq : ∀ y ∈ (ys.map sq).head?, plus zero y = y := by
    cases ys with
    | nil => simp
    | cons y ys => simpa using (hz y rfl).2
  rw [hi, foldV_sd N S e isVar h hsq o o 0 (orun_start (fun y hy => (hz y hy).1) hok ho)
    (orun_start hzq hokq (ho.imp id fun ⟨y, hv, hne, ho⟩ => ⟨y, hv, by simpa using hne, ho⟩)), Nat.zero_add]

theorem published_sdCell (N : NumLike inj plus okp zero) (S : SqLike inj sq okSq fin) (isVar : Bool) (ys : List α) :
    published (sdCell isVar (osum inj (ototal plus zero ys)) (osum inj (ototal plus zero (ys.map sq))) ys.length) =
      some (ospread fin isVar ys.length (ototal plus zero ys) (ototal plus zero (ys.map sq))) := by
  cases ys with
  | nil => rfl
  | cons y ys =>
    simp only [published, sdCell, List.map_cons, ototal, osum, N.notNull, Bool.or_self, Bool.false_eq_true, if_false, S.value,
      ospread]
end

/-- STDDEV / VARIANCE: from Σx, Σx² and n over the non-NULL arguments (NULL if there are none) -/
theorem stddev_refines (e : Expr) (isVar : Bool) (vs : List Value) (r : Value) (h : aggregate (.stddev e isVar) vs = some r) :
    ∃ c, foldV (.stddev e isVar) vs {} = .ok c ∧ shownValue (.stddev e isVar) c = r ∧
      (published c).isSome = createsEntry (.stddev e isVar) vs := by
  cases vs with
  | nil =>
    simp [aggregate, nonNull, stddevOf] at h
    exact ⟨{}, rfl, by simp [shownValue, published, emptyGroupValue, h], rfl⟩
  | cons v vs =>
    have hS := spreaded_of_stddevOf (show stddevOf isVar (nonNull (v :: vs)) = some r from h)
    generalize hx : nonNull (v :: vs) = xs at hS
    cases hS with
    | mk N S ys hsq hz hok hokq =>
      exact ⟨_, foldV_sd_typed N S e isVar hx hsq hz hok hokq, by rw [shownValue, published_sdCell N S]; rfl,
        by rw [published_sdCell N S]; rfl⟩

end Sqlgrep
