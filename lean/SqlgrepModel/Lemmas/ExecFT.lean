import SqlgrepModel.Lemmas.ExecT
import SqlgrepModel.Lemmas.FollowBridge
import SqlgrepModel.Lemmas.PipelineAligned
import SqlgrepModel.Lemmas.NoPanicEngine
import SqlgrepModel.Lemmas.NoiseRun
/-
The traced follow loop (`Model/ExecT.lean` `runFollowT` / `runFollowAllT`: what `Pipeline.followText` executes, with the
calls of `OutputPrinter::print` kept as data) is the follow loop of `Model/ExecI.lean`; its recorded calls are the
result tables of the engine's line-at-a-time answers (`feedLines`), so the statements about those answers (C06, C11)
and about interrupts (C19) are statements about what reaches the printer in any format.
-/
namespace Sqlgrep
open Sqlgrep.Spec.Select

theorem isUpdated_eq (qy : Query) : isUpdated qy = followSingleResult qy := by
  unfold isUpdated followSingleResult
  cases qy.stmt <;> rfl

theorem isUpdated_eq' (qy : Query) : isUpdated qy = followSingle qy := by
  unfold isUpdated followSingle
  cases qy.stmt <;> rfl

/-- **the traced follow run is the follow run** -/
theorem runFollowAllT_out (O : Oracles) (qy : Query) (sa : Option Nat) (lines : List Line) :
    (runFollowAllT O qy sa lines).out = runFollowAll O qy sa lines := by
  rw [runFollowAllT_eq_loop, runFollowAll_eq_loop]
  exact congrArg LoopState.out (runFollowT_ls O qy sa _ {})

theorem runFollowAllT_printed (O : Oracles) (qy : Query) (sa : Option Nat) (lines : List Line) :
    (runFollowAllT O qy sa lines).out.printed = renderCalls (runFollowAllT O qy sa lines).calls := by
  rw [runFollowAllT_eq_loop]
  exact runFollowT_printed O qy sa _ {} rfl rfl

theorem runFollowT_calls (O : Oracles) (qy : Query) (lines : List Line) (s : TraceState) :
    (runFollowT O qy none lines s).calls = s.calls ++ followCalls (isUpdated qy) (feedLines O qy [] true lines s.ls.es).1 :=
  (runFollowT_answers O qy lines s).1

theorem runFollowAllT_calls (O : Oracles) (qy : Query) (lines : List Line) :
    (runFollowAllT O qy none lines).calls =
      if reachedLimit qy {} then [] else followCalls (isUpdated qy) (feedLines O qy [] true lines {}).1 := by
  unfold runFollowAllT
  split
  · rfl
  · simp only [runFollowT_calls]; rfl

theorem runFollowAllT_stopAt (O : Oracles) (qy : Query) (k : Nat) (lines : List Line) :
    runFollowAllT O qy (some k) lines = runFollowAllT O qy none (lines.take k) := by
  rw [runFollowAllT_eq_loop, runFollowAllT_eq_loop, followInput_take, runFollowT_eq_drive _ _ _ _ _ rfl,
    runFollowT_eq_drive _ _ _ _ _ rfl, drive_take _ _ k _ {} rfl (Nat.zero_le _), readableFile_take]
  rfl

theorem runFollowAllT_calls_prefix (O : Oracles) (qy : Query) (k : Nat) (lines : List Line) :
    (runFollowAllT O qy (some k) lines).calls <+: (runFollowAllT O qy none lines).calls := by
  rw [runFollowAllT_stopAt, runFollowAllT_eq_loop, runFollowAllT_eq_loop, followInput_take]
  conv => rhs; rw [← List.take_append_drop k (followInput qy lines)]
  rw [runFollowT_eq_drive _ _ _ _ _ rfl, runFollowT_eq_drive _ _ _ _ _ rfl, readableFile_append, drive_append]
  exact drive_calls_extends _ _ _ _ _

/-- a run over a prefix of the lines that failed is the run over all lines: the loop ended at the failing line -/
theorem runFollowAllT_take_failed (O : Oracles) (qy : Query) (k : Nat) (lines : List Line)
    (h : hasFailed (runFollowAllT O qy none (lines.take k)).out = true) :
    runFollowAllT O qy none (lines.take k) = runFollowAllT O qy none lines := by
  rw [runFollowAllT_eq_loop, followInput_take, runFollowT_eq_drive _ _ _ _ _ rfl] at h
  rw [runFollowAllT_eq_loop, runFollowAllT_eq_loop, followInput_take]
  conv => rhs; rw [← List.take_append_drop k (followInput qy lines)]
  rw [runFollowT_eq_drive _ _ _ _ _ rfl, runFollowT_eq_drive _ _ _ _ _ rfl, readableFile_append, drive_append,
    drive_of_stop _ _ _ _ ((drive_sound _ _ none _ sound_init).2 h)]

theorem runFollowAllT_noise (O : Oracles) (qy : Query) (lines : List Line) :
    (runFollowAllT O qy none (lines.filter (fun l => anyResult l.row))).calls = (runFollowAllT O qy none lines).calls ∧
    SameOut (runFollowAllT O qy none (lines.filter (fun l => anyResult l.row))).out (runFollowAllT O qy none lines).out := by
  rw [runFollowAllT_eq_loop, runFollowAllT_eq_loop, followInput_filter]
  have h := runFollowT_noise O qy (followInput qy lines) {} rfl
  exact ⟨h.calls.symm, h.ls.sameOut.symm⟩

theorem runFollowAllT_no_panic (O : Oracles) (qy : Query) (sa : Option Nat) (lines : List Line) :
    (runFollowAllT O qy sa lines).out.panicked = false := by
  rw [runFollowAllT_eq_loop, runFollowT_eq_drive _ _ _ _ _ rfl]
  have := (NoPanicEngine.drive_faults (P := fun _ => False) (M := fun _ => True) O anyFunc
    (fun f _ => callFunction_faults_np O f) (.follow qy) qy [] true sa (readableFile (followInput qy lines)) (s := {})
    (Stmt.allFuncs_any _) ⟨⟨nofun, fun _ _ => trivial⟩, NoPanicEngine.EInv.init qy⟩).1.1
  exact eq_false_of_ne_true fun hp => (this hp).elim fun _ hf => hf

theorem runFollowAllT_aligned (O : Oracles) (qy : Query) (sa : Option Nat) (lines : List Line) :
    CallsAligned (runFollowAllT O qy sa lines).calls := by
  rw [runFollowAllT_eq_loop, runFollowT_eq_drive _ _ _ _ _ rfl]
  exact drive_aligned _ O qy [] true sa _ {} (by intro c hc; cases hc)

end Sqlgrep
