import SqlgrepModel.Lemmas.LexRun
import SqlgrepModel.Lemmas.LexTables
/-
Words: letter case of ASCII words (`applyCase`, `lower`), facts about the keyword table, and what the code after
the word loop (`flushIdent`) adds to the tokens, expressed with `pushTok`.
-/
namespace Sqlgrep.Lex
open Sqlgrep

theorem pushTok_cons {T : List Tok} {t : Tok} (h1 : t = .kw .not → T.head? ≠ some (.kw .is))
    (h2 : t = .kw .in → T.head? ≠ some (.kw .not)) (h3 : t = .colon → T.head? ≠ some .colon) : pushTok T t = t :: T := by
  unfold pushTok
  split
  · exact absurd rfl (h1 rfl)
  · exact absurd rfl (h2 rfl)
  · exact absurd rfl (h3 rfl)
  · rfl

theorem pushTok_plain (T : List Tok) (t : Tok) (h1 : t ≠ .kw .not) (h2 : t ≠ .kw .in) (h3 : t ≠ .colon) :
    pushTok T t = t :: T :=
  pushTok_cons (fun e => absurd e h1) (fun e => absurd e h2) (fun e => absurd e h3)

theorem pushTok_ne_dashDash (T : List Tok) (t : Tok) (ht : t ≠ dashDash) : (pushTok T t).head? ≠ some dashDash := by
  unfold pushTok
  split
  · nofun
  · nofun
  · nofun
  · exact fun e => ht (Option.some.inj e)

theorem lowerA_cases (P : Char → Prop) (h : ∀ n, n < 26 → P (Char.ofNat (97 + n))) (c : Char) (hc : isLowerA c = true) : P c := by
  simp only [isLowerA, Bool.and_eq_true, decide_eq_true_eq] at hc
  have := h (c.toNat - 97) (by omega)
  rw [show 97 + (c.toNat - 97) = c.toNat by omega, Char.ofNat_toNat] at this
  exact this

theorem letter_info (o : Oracles) (c : Char) (hc : isLowerA c = true) (b : Bool) :
    let x := if b then upperA c else c
    (o.info x).alpha = true ∧ (o.info x).alnum = true ∧ (o.info x).lower = [c] := by
  have key : ∀ n, n < 26 → ∀ b : Bool,
      let c := Char.ofNat (97 + n)
      let x := if b then upperA c else c
      x.toNat < 128 ∧ (asciiInfo x).alpha = true ∧ (asciiInfo x).alnum = true ∧ (asciiInfo x).lower = [c] := by decide +kernel
  have := lowerA_cases (fun c => ∀ b : Bool,
      let x := if b then upperA c else c
      x.toNat < 128 ∧ (asciiInfo x).alpha = true ∧ (asciiInfo x).alnum = true ∧ (asciiInfo x).lower = [c]) key c hc b
  simp only at this ⊢
  rw [info_of_ascii o _ this.1]
  exact this.2

theorem applyCase_cons (f : List Bool) (c : Char) (w : List Char) :
    ∃ (b : Bool) (f' : List Bool), applyCase f (c :: w) = (if b then upperA c else c) :: applyCase f' w := by
  cases f with
  | nil => exact ⟨false, [], by cases w <;> rfl⟩
  | cons b f => exact ⟨b, f, rfl⟩

theorem applyCase_ne_nil (f : List Bool) {w : List Char} (h : w ≠ []) : applyCase f w ≠ [] := by
  cases w with
  | nil => exact absurd rfl h
  | cons c w => obtain ⟨b, f', e⟩ := applyCase_cons f c w; rw [e]; nofun

theorem applyCase_spec (o : Oracles) (w : List Char) (hw : ∀ c ∈ w, isLowerA c = true) : ∀ f : List Bool,
    lower o (applyCase f w) = w ∧ ∀ x ∈ applyCase f w, (o.info x).alpha = true ∧ (o.info x).alnum = true := by
  induction w with
  | nil => intro f; cases f <;> exact ⟨rfl, nofun⟩
  | cons c w ih =>
    intro f
    obtain ⟨b, f', e⟩ := applyCase_cons f c w
    obtain ⟨ha, hn, hl⟩ := letter_info o c (hw c List.mem_cons_self) b
    obtain ⟨h1, h3⟩ := ih (fun x hx => hw x (List.mem_cons_of_mem _ hx)) f'
    rw [e]
    refine ⟨?_, fun x hx => ?_⟩
    · rw [lower, List.flatMap_cons, hl, ← lower, h1]; rfl
    · rcases List.mem_cons.mp hx with rfl | hx
      · exact ⟨ha, hn⟩
      · exact h3 x hx

/- The words are read off the regenerated table (character codes): evaluating the string literals of
`keywordTable` costs far more than the lookups themselves. -/
theorem keywords_spec : ∀ e ∈ Generated.keywords,
    Generated.keywords.lookup e.1 = some e.2 ∧ e.1 ≠ [] ∧ e.1.all isLowerA = true := by decide +kernel

theorem literals_spec : ∀ e ∈ Generated.literalWords,
    Generated.keywords.lookup e.1 = none ∧ e.1 ≠ [] ∧ e.1.all isLowerA = true := by decide +kernel

theorem kwWord_spec (k : Keyword) (w : List Char) (h : kwWord k = some w) :
    keywordOf w = some k ∧ w ≠ [] ∧ w.all isLowerA = true := by
  unfold kwWord keywordOf at *
  rw [← Tables.keywords_eq] at *
  obtain ⟨e, hf, rfl⟩ := Option.map_eq_some_iff.mp h
  have hk : e.2 = k := eq_of_beq (List.find?_some (p := fun e : List Char × Keyword => e.2 == k) hf)
  rw [← hk]
  exact keywords_spec e (List.mem_of_find?_eq_some hf)

theorem litWord_spec (l : LitWord) :
    keywordOf l.word = none ∧ l.word ≠ [] ∧ l.word.all isLowerA = true := by
  have hm : (l.word, l.tok) ∈ Generated.literalWords := by
    rw [Tables.literal_words_eq]; cases l <;> simp [LitWord.word, LitWord.tok]
  unfold keywordOf
  rw [← Tables.keywords_eq]
  exact literals_spec _ hm

theorem litWords_ne : wTrue ≠ wNull ∧ wFalse ≠ wNull ∧ wFalse ≠ wTrue := by decide +kernel

theorem flushIdent_kw (o : Oracles) {st : St} {T : List Tok} (h : Clean st T false) {w : List Char} {k : Keyword}
    (hk : keywordOf (lower o w) = some k) : Clean (flushIdent o st w) (pushTok T (.kw k)) false := by
  unfold flushIdent
  dsimp only
  rw [hk]
  dsimp only
  by_cases h1 : k = .not ∧ T.head? = some (.kw .is)
  · obtain ⟨rfl, hT⟩ := h1
    rw [addKeyword_isNot (h.lastTok.trans hT)]
    cases T with
    | nil => cases hT
    | cons t T' => cases hT; exact h.setLast nofun
  by_cases h2 : k = .in ∧ T.head? = some (.kw .not)
  · obtain ⟨rfl, hT⟩ := h2
    rw [addKeyword_notIn (h.lastTok.trans hT)]
    cases T with
    | nil => cases hT
    | cons t T' => cases hT; exact h.setLast nofun
  rw [addKeyword_add (by rw [h.lastTok]; exact h1) (by rw [h.lastTok]; exact h2),
    pushTok_cons (fun e hT => h1 ⟨Tok.kw.inj e, hT⟩) (fun e hT => h2 ⟨Tok.kw.inj e, hT⟩) nofun]
  exact h.add nofun

theorem flushIdent_lit (o : Oracles) {st : St} {T : List Tok} (h : Clean st T false) {w : List Char} (l : LitWord)
    (hl : lower o w = l.word) : Clean (flushIdent o st w) (pushTok T l.tok) false := by
  obtain ⟨h1, h2, h3⟩ := litWords_ne
  unfold flushIdent
  dsimp only
  rw [hl, (litWord_spec l).1, show pushTok T l.tok = l.tok :: T by cases l <;> rfl]
  cases l <;> simp only [LitWord.word, LitWord.tok, h1, h2, h3, if_true, if_false] <;> exact h.add nofun

theorem flushIdent_ident (o : Oracles) {st : St} {T : List Tok} (h : Clean st T false) {w : List Char}
    (hk : keywordOf (lower o w) = none) (h1 : lower o w ≠ wNull) (h2 : lower o w ≠ wTrue) (h3 : lower o w ≠ wFalse) :
    Clean (flushIdent o st w) (pushTok T (.ident w)) false := by
  unfold flushIdent
  dsimp only
  rw [hk, pushTok_plain T (.ident w) nofun nofun nofun]
  dsimp only
  rw [if_neg h1, if_neg h2, if_neg h3]
  exact h.add nofun

end Sqlgrep.Lex
