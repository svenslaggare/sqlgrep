import SqlgrepModel.Lemmas.AggRun
import SqlgrepModel.Lemmas.AggDistinct
import SqlgrepModel.Lemmas.AggFollow
import SqlgrepModel.Lemmas.AggColumns
import SqlgrepModel.Lemmas.SelectEngine
import SqlgrepModel.Lemmas.IterOrderEngine
/-
The result half of the aggregation engine: `publishPercentiles` (the first loop of `execute_result`) cell by cell,
the enumeration of `group_values`, and the rows of the table against the specification.
-/
set_option linter.unusedSimpArgs false
namespace Sqlgrep
open Value Spec.Agg

theorem gmGet_of_mem {α : Type} {m : GroupMap α} (hs : GmSorted m) {key : List Value} {subs : List (Nat × α)}
    (h : (key, subs) ∈ m) : gmGet m key = some subs := by
  simp [gmGet, find?_key_of_mem hs h]

theorem gmLookup_of_mem {α : Type} {m : GroupMap α} (hs : GmSorted m) {key : List Value} {subs : List (Nat × α)}
    (h : (key, subs) ∈ m) (i : Nat) : gmLookup m key i = alGet subs i := by
  rw [gmLookup, gmGet_of_mem hs h]; rfl

theorem gmGet_some_mem {α : Type} {m : GroupMap α} {k : List Value} {subs : List (Nat × α)}
    (h : gmGet m k = some subs) : ∃ key, (key, subs) ∈ m ∧ cmpList key k = .eq := by
  unfold gmGet at h
  cases hf : m.find? (fun g => cmpList g.1 k == .eq) with
  | none => simp [hf] at h
  | some g =>
    simp only [hf, Option.map_some, Option.some.injEq] at h
    have hp := List.find?_some hf
    have hm := List.mem_of_find?_eq_some hf
    refine ⟨g.1, ?_, by simpa using hp⟩
    rw [← h]; exact hm

theorem gmLookup_some_mem {α : Type} {m : GroupMap α} {k : List Value} {i : Nat} {a : α} (h : gmLookup m k i = some a) :
    ∃ key subs, (key, subs) ∈ m ∧ cmpList key k = .eq ∧ alGet subs i = some a := by
  rw [gmLookup, Option.bind_eq_some_iff] at h
  obtain ⟨subs, hg, ha⟩ := h
  obtain ⟨key, hkm, hke⟩ := gmGet_some_mem hg
  exact ⟨key, subs, hkm, hke, ha⟩

def pubOf (key : List Value) (p : Nat × Aggregator) : Option (List Value × Nat × Value) :=
  match p.2 with
  | .percentile vals pp => (percentileValue vals pp).map (fun v => (key, p.1, v))
  | _ => none

/-- the `(group key, aggregate index, value)` triples the first loop of `execute_result` writes -/
def pubEntries (aggs : GroupMap Aggregator) : List (List Value × Nat × Value) :=
  aggs.flatMap (fun g => g.2.filterMap (pubOf g.1))

def applyPubs (st : AggState) (es : List (List Value × Nat × Value)) : AggState :=
  es.foldl (fun st e => setVal st e.1 e.2.1 e.2.2) st

theorem applyPubs_append (st : AggState) (a b : List (List Value × Nat × Value)) :
    applyPubs st (a ++ b) = applyPubs (applyPubs st a) b := by
  simp [applyPubs, List.foldl_append]

theorem publish_inner (key : List Value) (subs : List (Nat × Aggregator)) (st : AggState) :
    subs.foldl (Iter.pubStep key) st = applyPubs st (subs.filterMap (pubOf key)) := by
  induction subs generalizing st with
  | nil => rfl
  | cons p ps ih =>
    obtain ⟨idx, a⟩ := p
    simp only [List.foldl_cons, List.filterMap_cons, pubOf, Iter.pubStep]
    cases a with
    | percentile vals pp =>
      cases hv : percentileValue vals pp with
      | none => simp only [hv, Option.map_none]; exact ih st
      | some v => simp only [hv, Option.map_some, applyPubs, List.foldl_cons]; exact ih _
    | _ => exact ih st

theorem publish_eq (st : AggState) : publishPercentiles st = applyPubs st (pubEntries st.aggs) := by
  rw [Iter.publishPercentiles_eq]
  generalize st.aggs = aggs
  induction aggs generalizing st with
  | nil => rfl
  | cons g rest ih =>
    simp only [List.foldl_cons, pubEntries, List.flatMap_cons, applyPubs_append]
    rw [publish_inner]
    exact ih _

/-- what every `setVal` of the entries keeps holds after all of them -/
theorem applyPubs_induct {P : AggState → Prop} {es : List (List Value × Nat × Value)}
    (hstep : ∀ st, ∀ e ∈ es, P st → P (setVal st e.1 e.2.1 e.2.2)) {st : AggState} (h : P st) : P (applyPubs st es) := by
  induction es generalizing st with
  | nil => exact h
  | cons e es ih =>
    exact ih (fun st e' he' => hstep st e' (List.mem_cons_of_mem _ he')) (hstep st e List.mem_cons_self h)

theorem applyPubs_aggs (st : AggState) (es : List (List Value × Nat × Value)) : (applyPubs st es).aggs = st.aggs :=
  applyPubs_induct (P := fun s => s.aggs = st.aggs) (fun _ _ _ h => h) rfl

theorem applyPubs_vals (st : AggState) (es : List (List Value × Nat × Value)) :
    (applyPubs st es).vals = es.foldl (fun m e => gmSet m e.1 e.2.1 e.2.2) st.vals := by
  induction es generalizing st with
  | nil => rfl
  | cons e es ih => simp only [applyPubs, List.foldl_cons] at ih ⊢; rw [ih]; rfl

def pubMatches (k : List Value) (i : Nat) (e : List Value × Nat × Value) : Bool := cmpList e.1 k == .eq && e.2.1 == i

theorem gmLookup_foldSet (es : List (List Value × Nat × Value)) {m : GroupMap Value} (hs : GmSorted m) (k : List Value) (i : Nat) :
    gmLookup (es.foldl (fun m e => gmSet m e.1 e.2.1 e.2.2) m) k i =
      match es.reverse.find? (pubMatches k i) with
      | some e => some e.2.2
      | none => gmLookup m k i := by
  induction es generalizing m with
  | nil => rfl
  | cons e es ih =>
    simp only [List.foldl_cons, List.reverse_cons, List.find?_append]
    have hs' : GmSorted (gmSet m e.1 e.2.1 e.2.2) := gmSorted_gmModify hs _ _
    rw [ih hs']
    cases hf : es.reverse.find? (pubMatches k i) with
    | some e' => rfl
    | none =>
      simp only [Option.none_or, List.find?, pubMatches]
      rw [gmLookup_gmSet hs]
      by_cases hc : cmpList e.1 k = .eq ∧ e.2.1 = i
      · simp [hc.1, hc.2]
      · simp only [hc, if_false]
        have : (cmpList e.1 k == .eq && e.2.1 == i) = false := by
          rw [← Bool.not_eq_true, Bool.and_eq_true, beq_iff_eq, beq_iff_eq]; exact hc
        simp [this]

theorem pubEntries_mem {aggs : GroupMap Aggregator} {e : List Value × Nat × Value} (h : e ∈ pubEntries aggs) :
    ∃ subs vals pp, (e.1, subs) ∈ aggs ∧ (e.2.1, Aggregator.percentile vals pp) ∈ subs ∧ percentileValue vals pp = some e.2.2 := by
  simp only [pubEntries, List.mem_flatMap, List.mem_filterMap] at h
  obtain ⟨g, hg, p, hp, hpo⟩ := h
  obtain ⟨idx, a⟩ := p
  cases a with
  | percentile vals pp =>
    simp only [pubOf] at hpo
    cases hv : percentileValue vals pp with
    | none => simp [hv] at hpo
    | some v =>
      simp only [hv, Option.map_some, Option.some.injEq] at hpo
      subst hpo
      exact ⟨g.2, vals, pp, hg, hp, hv⟩
  | _ => simp [pubOf] at hpo

theorem pubEntries_of_mem {aggs : GroupMap Aggregator} {key : List Value} {subs : List (Nat × Aggregator)} {i : Nat}
    {vals : List Value} {pp : Nat} {v : Value}
    (hg : (key, subs) ∈ aggs) (hp : (i, Aggregator.percentile vals pp) ∈ subs) (hv : percentileValue vals pp = some v) :
    (key, i, v) ∈ pubEntries aggs := by
  simp only [pubEntries, List.mem_flatMap, List.mem_filterMap]
  exact ⟨(key, subs), hg, (i, .percentile vals pp), hp, by simp [pubOf, hv]⟩

theorem readCell_publish {st : AggState} (hs : AggSorted st) (hinner : ∀ g ∈ st.aggs, (g.2.map (·.1)).Nodup)
    (k : List Value) (i : Nat) :
    readCell (publishPercentiles st) k i = { agg := (readCell st k i).agg, val := published (readCell st k i) } := by
  rw [publish_eq]
  simp only [readCell, applyPubs_aggs, applyPubs_vals, gmLookup_foldSet _ hs.vals, Cell.mk.injEq, true_and]
  -- every matching entry carries the value the cell's aggregator publishes
  have hall : ∀ e ∈ pubEntries st.aggs, pubMatches k i e = true →
      ∃ vals pp, gmLookup st.aggs k i = some (.percentile vals pp) ∧ percentileValue vals pp = some e.2.2 := by
    intro e he hm
    obtain ⟨subs, vals, pp, hg, hp, hv⟩ := pubEntries_mem he
    simp only [pubMatches, Bool.and_eq_true, beq_iff_eq] at hm
    refine ⟨vals, pp, ?_, hv⟩
    have h1 : gmGet st.aggs k = some subs := by
      rw [← gmGet_congr st.aggs hm.1]; exact gmGet_of_mem hs.aggs hg
    have h2 : alGet subs i = some (.percentile vals pp) := by
      rw [← hm.2]; exact alGet_of_mem (hinner _ hg) hp
    simp [gmLookup, h1, h2]
  cases hf : (pubEntries st.aggs).reverse.find? (pubMatches k i) with
  | some e =>
    have hmem : e ∈ pubEntries st.aggs := List.mem_reverse.mp (List.mem_of_find?_eq_some hf)
    obtain ⟨vals, pp, hl, hv⟩ := hall e hmem (List.find?_some hf)
    simp [published, hl, hv]
  | none =>
    simp only
    -- no entry: the cell's aggregator publishes nothing
    unfold published
    simp only
    cases hl : gmLookup st.aggs k i with
    | none => rfl
    | some a =>
      cases a with
      | percentile vals pp =>
        cases hv : percentileValue vals pp with
        | none => simp [hv]
        | some v =>
          exfalso
          obtain ⟨key, subs, hkm, hke, ha⟩ := gmLookup_some_mem hl
          have hin := pubEntries_of_mem hkm (mem_of_alGet ha) hv
          have := List.find?_eq_none.mp hf (key, i, v) (List.mem_reverse.mpr hin)
          simp [pubMatches, hke] at this
      | _ => rfl

theorem aggSorted_publish {st : AggState} (hs : AggSorted st) : AggSorted (publishPercentiles st) := by
  rw [publish_eq]
  exact applyPubs_induct (P := AggSorted) (fun _ _ _ hs => ⟨hs.aggs, gmSorted_gmModify hs.vals _ _⟩) hs

theorem shape_publish {st : AggState} {S : List (List Value)} (h : Shape st S) : Shape (publishPercentiles st) S := by
  rw [publish_eq]
  refine applyPubs_induct (P := (Shape · S)) (fun _ e he hst => shape_setVal hst ?_ _ _) h
  obtain ⟨subs, _, _, hg, _, _⟩ := pubEntries_mem he
  exact h.aggsKeys _ hg

theorem rowSlots_eq {q : AggStmt} (hwf : StmtWF q) : rowSlots q = enumFrom 0 (slotKinds q) := by
  rw [rowSlots_eq_enum, slotKinds]
  cases hh : q.having with
  | none => rw [hwf.noHaving hh]; rfl
  | some h => rw [hwf.visit]

theorem cellFold_of_args {O : Oracles} {q : AggStmt} {kind : AggKind} (g : List Env) {vs : List Value} (c : Cell)
    (h : arguments O q kind g = some vs) : cellFold O q kind g c = foldV kind vs c := by
  induction g generalizing vs c with
  | nil => simp [arguments, collect] at h; subst h; rfl
  | cons env rest ih =>
    simp only [arguments, List.map_cons] at h
    cases ha : okOf (argument O q env kind) with
    | none => simp [ha, collect] at h
    | some a =>
      rw [ha] at h
      obtain ⟨vs', hvs', hvs⟩ := collect_eq_some_cons h
      subst hvs
      simp only [cellFold, foldV, cellStep_eq, okOf_eq_some ha, Outcome.bind]
      cases stepV kind a c with
      | ok c1 => exact ih c1 hvs'
      | _ => rfl

theorem slot_value {O : Oracles} {q : AggStmt} {kind : AggKind} {g : List Env} {c : Cell} {r : Value}
    (hg : g ≠ []) (hf : cellFold O q kind g {} = .ok c) (hv : groupValue O q kind g = some r)
    (hd15 : ∀ vs, arguments O q kind g = some vs → firstNull kind vs = false) :
    shownValue kind c = r ∧ ∃ vs, arguments O q kind g = some vs ∧ (published c).isSome = createsEntry kind vs := by
  cases hvs : arguments O q kind g with
  | none => simp [groupValue, hvs] at hv
  | some vs =>
    simp only [groupValue, hvs, Option.bind_some] at hv
    obtain ⟨c', hc', hshow, hvis⟩ := aggregate_refines kind vs r (arguments_ne_nil hg hvs) hv (hd15 vs hvs)
    rw [cellFold_of_args g {} hvs, hc'] at hf
    cases hf
    exact ⟨hshow, vs, rfl, hvis⟩

/-- what the result loop sees of one group: for every slot whose value the specification fixes, the stored value
(or the aggregate's empty value when there is no entry) is that value -/
structure GroupView (O : Oracles) (q : AggStmt) (subs : List (Nat × Value)) (g : List Env) : Prop where
  slot : ∀ i kind r, (i, kind) ∈ enumFrom 0 (slotKinds q) → groupValue O q kind g = some r →
    (alGet subs i).getD (emptyGroupValue kind) = r

theorem cellOf_nonkey (O : Oracles) (q : AggStmt) (i : Nat) (item : AggItem) (key : List Value) (subs : List (Nat × Value))
    (hk : ∀ e c, item.kind ≠ .groupKey e c) :
    cellOf O q i item key subs = applyTransform O item.transform ((alGet subs i).getD (emptyGroupValue item.kind)) := by
  unfold cellOf
  cases h : item.kind with
  | groupKey e c => exact absurd h (hk e c)
  | _ => rfl

theorem cell_view {O : Oracles} {q : AggStmt} {key : List Value} {subs : List (Nat × Value)} {g : List Env}
    (hv : GroupView O q subs g) {i : Nat} {item : AggItem} (hslot : (i, item.kind) ∈ enumFrom 0 (slotKinds q)) {v : Value}
    (h : cell O q key g item = some v) : cellOf O q i item key subs = .ok v := by
  by_cases hk : ∃ e c, item.kind = .groupKey e c
  · obtain ⟨e, canon, hk⟩ := hk
    unfold cell at h
    unfold cellOf
    rw [hk] at h ⊢
    simp only at h ⊢
    cases hm : mappingGet (keyMapping q) canon with
    | none => simp [hm] at h
    | some j =>
      simp only [hm, Option.bind_some] at h
      simp only [h]
  · have hk' : ∀ e c, item.kind ≠ .groupKey e c := fun e c he => hk ⟨e, c, he⟩
    rw [cell_nonkey O q key g item hk'] at h
    rw [cellOf_nonkey O q i item key subs hk']
    cases hgv : groupValue O q item.kind g with
    | none => simp [hgv] at h
    | some r =>
      simp only [hgv, Option.bind_some] at h
      rw [hv.slot i _ r hslot hgv]
      exact okOf_eq_some h

theorem items_slots (q : AggStmt) : ∀ i item, (i, item) ∈ enumFrom 0 q.items → (i, item.kind) ∈ enumFrom 0 (slotKinds q) := by
  intro i item h
  obtain ⟨_, hi⟩ := mem_enumFrom_iff.mp h
  rw [Nat.sub_zero] at hi
  have hlt : i < (q.items.map (·.kind)).length := by rw [List.length_map]; exact (List.getElem?_eq_some_iff.mp hi).1
  exact mem_enumFrom_iff.mpr ⟨Nat.zero_le _, by
    rw [Nat.sub_zero, slotKinds, List.getElem?_append_left hlt, List.getElem?_map, hi]; rfl⟩

theorem row_view {O : Oracles} {q : AggStmt} {key : List Value} {subs : List (Nat × Value)} {g : List Env}
    (hv : GroupView O q subs g) {r : List Value} (h : row O q key g = some r) :
    rowOf O q key subs (enumFrom 0 q.items) = .ok r := by
  rw [rowOf_eq_seq, Outcome.seq_eq_ok_iff]
  exact map_eq_map_of_imp ((enumFrom_map_snd (cell O q key g) q.items 0).trans (collect_eq_some_iff.mp h))
    fun p hp v _ hc => cell_view hv (items_slots q p.1 p.2 hp) hc

theorem having_slots (q : AggStmt) : ∀ j p, (j, p) ∈ enumFrom 0 q.havingAggs →
    (q.items.length + j, p.2) ∈ enumFrom 0 (slotKinds q) := by
  intro j p h
  obtain ⟨_, hj⟩ := mem_enumFrom_iff.mp h
  rw [Nat.sub_zero] at hj
  exact mem_enumFrom_iff.mpr ⟨Nat.zero_le _, by simp [slotKinds, List.getElem?_append_right, hj]⟩

theorem gvals_view {O : Oracles} {q : AggStmt} {subs : List (Nat × Value)} {g : List Env}
    (hv : GroupView O q subs g) {gvals : List (Nat × Value)}
    (h : collect (q.havingAggs.map (fun (p : Nat × AggKind) => (groupValue O q p.2 g).map (fun v => (p.1, v)))) = some gvals) :
    (enumFrom 0 q.havingAggs).map (fun (jp : Nat × Nat × AggKind) =>
      (jp.2.1, (alGet subs (q.items.length + jp.1)).getD (emptyGroupValue jp.2.2))) = gvals := by
  rw [← List.map_id gvals]
  refine map_eq_map_of_imp ((enumFrom_map_snd _ q.havingAggs 0).trans (collect_eq_some_iff.mp h)) fun jp hjp w _ hw => ?_
  obtain ⟨v, hgv, rfl⟩ := Option.map_eq_some_iff.mp hw
  exact congrArg (Prod.mk jp.2.1) (hv.slot _ _ v (having_slots q jp.1 jp.2 hjp) hgv)

theorem accept_view {O : Oracles} {q : AggStmt} {key : List Value} {subs : List (Nat × Value)} {g : List Env}
    (hv : GroupView O q subs g) {a : Bool} (h : accept O q key g = some a) :
    (match q.having with
      | some hx => acceptGroup O q hx key subs
      | none => pure true : Outcome Bool) = .ok a := by
  unfold accept at h
  cases hh : q.having with
  | none => simp [hh] at h; subst h; rfl
  | some hx =>
    simp only [hh] at h ⊢
    split at h
    · simp at h
    · rename_i gvals hgv
      have hg := gvals_view hv hgv
      cases he : eval O { groupKeys := keyBindings q key, groupValues := gvals } hx with
      | ok v =>
        simp only [he, okOf, Option.bind_some] at h
        unfold acceptGroup
        simp only [keyBindings] at he
        simp only [bind, Outcome.bind, pure]
        have : (enumFrom 0 q.havingAggs).map (fun (x : Nat × Nat × AggKind) =>
            match x with
            | (j, (id, k)) => (id, (alGet subs (q.items.length + j)).getD (emptyGroupValue k))) = gvals := hg
        rw [this, he]
        cases hc : condHolds v with
        | ok b => simp only [hc, Option.some.injEq] at h; subst h; exact hc
        | _ => simp [hc] at h
      | _ => simp [he, okOf] at h

/-- the rows of the table, `group_values` read next to the specification's groups (`gOf` the group of a key) -/
theorem resultRows_view {O : Oracles} {q : AggStmt} {V : List (List Value × List (Nat × Value))} {gOf : List Value → List Env}
    (hv : ∀ p ∈ V, GroupView O q p.2 (gOf p.1)) (seen : List (List Value)) {all : List (List Value × Bool)}
    (h : collect (V.map fun p => perGroup O q (p.1, gOf p.1)) = some all) :
    resultRows O q V seen = .ok (if q.distinct then Spec.Select.dedupFrom tupleSame seen (keptRows all) else keptRows all) := by
  refine resultRows_eq_ok.2 ⟨all.map fun ra => if ra.2 then some ra.1 else none, ?_, ?_⟩
  · rw [List.map_map]
    refine map_eq_map_of_imp (collect_eq_some_iff.mp h) fun p hp ra _ hpg => ?_
    obtain ⟨hr, ha⟩ := perGroup_eq_some.mp hpg
    have hacc : havingOk O q p.1 p.2 = .ok ra.2 := accept_view (hv p hp) ha
    rw [shownRow, row_view (hv p hp) hr, Outcome.ok_bind, hacc]
    rfl
  · congr 1
    clear h
    induction all with
    | nil => rfl
    | cons ra rest ih => cases hra : ra.2 <;> simp_all [keptRows]

theorem rows_view {O : Oracles} {q : AggStmt} {V : List (List Value × List (Nat × Value))} {gOf : List Value → List Env}
    (hv : ∀ p ∈ V, GroupView O q p.2 (gOf p.1)) {all : List (List Value × Bool)}
    (h : collect (V.map fun p => perGroup O q (p.1, gOf p.1)) = some all) :
    ∀ x ∈ V, ∃ r, rowOf O q x.1 x.2 (enumFrom 0 q.items) = .ok r := by
  intro x hx
  obtain ⟨ra, _, hp⟩ := (collect_map_mem h).1 x hx
  exact ⟨ra.1, row_view (hv x hx) (perGroup_eq_some.mp hp).1⟩

theorem dedupFrom_tupleSame_nil (rs : List (List Value)) : Spec.Select.dedupFrom tupleSame [] rs = firstRows rs := by
  rw [← Spec.Select.dedupFirst, dedupFirst_eq_firstBy tupleSame_isEquiv, firstRows_eq_firstBy,
    show tupleSame = Value.beqList from funext fun a => funext (tupleSame_eq_beqList a)]

theorem aggResult_eq (O : Oracles) (q : AggStmt) (st : AggState) :
    aggResult O q st =
      (aggColumns O q (publishPercentiles st).vals (enumFrom 0 q.items)).bind (fun _ =>
        (resultRows O q (publishPercentiles st).vals []).bind (fun rows =>
          .ok (publishPercentiles st, { columns := q.items.map (·.name), rows := rows }))) := rfl

theorem alGet_head {α : Type} (l : List (Nat × α)) (h : l ≠ []) : ∃ i v, alGet l i = some v := by
  cases l with
  | nil => exact absurd rfl h
  | cons p ps => exact ⟨p.1, p.2, by rw [alGet_cons]; simp⟩

theorem vals_key_iff {st : AggState} {S : List (List Value)} (hs : AggSorted st) (hsh : Shape st S) (hex : KeysExact S)
    (x : List Value) (hx : x ∈ S) : x ∈ st.vals.map (·.1) ↔ ∃ i, (readCell st x i).val.isSome = true := by
  constructor
  · intro hm
    obtain ⟨p, hp, hpx⟩ := List.mem_map.mp hm
    obtain ⟨k, subs⟩ := p
    simp only at hpx
    subst hpx
    obtain ⟨i, v, hv⟩ := alGet_head subs (hsh.valsNonempty _ hp)
    exact ⟨i, by rw [readCell, gmLookup_of_mem hs.vals hp, hv]; rfl⟩
  · rintro ⟨i, hi⟩
    obtain ⟨v, hl⟩ := Option.isSome_iff_exists.mp hi
    obtain ⟨key, subs, hkm, hke, _⟩ := gmLookup_some_mem (m := st.vals) hl
    cases hex key (hsh.valsKeys _ hkm) x hx hke
    exact List.mem_map.mpr ⟨_, hkm, rfl⟩

theorem coupled_slot {O : Oracles} {q : AggStmt} (hwf : StmtWF q) {st : AggState} {rows : List (List Value × Env)}
    (hc : CoupledP O q st rows) {key : List Value} (hk : key ∈ rows.map (·.1))
    (hd15 : arrayAggFirstNull O q (rowsOfKey key rows) = false)
    {i : Nat} {kind : AggKind} (hslot : (i, kind) ∈ enumFrom 0 (slotKinds q)) {r : Value}
    (hv : groupValue O q kind (rowsOfKey key rows) = some r) :
    ((readCell (publishPercentiles st) key i).val).getD (emptyGroupValue kind) = r ∧
      ∃ vs, arguments O q kind (rowsOfKey key rows) = some vs ∧
        (readCell (publishPercentiles st) key i).val.isSome = createsEntry kind vs := by
  obtain ⟨c, hcell, hsim⟩ := hc.cells key i kind (by rw [rowSlots_eq hwf]; exact hslot)
  have := slot_value (rowsOfKey_ne_nil hk) hcell hv (firstNull_of_group hd15 (enumFrom_mem_snd _ _ _ _ hslot))
  rw [readCell_publish hc.sorted hc.shape.aggsInner]
  simp only [hsim.published]
  exact this

/-- **the result half of the refinement**: for a state coupled to the rows, `execute_result` (+ LIMIT) yields exactly
the specification's table — provided the group keys are exact, every group is visible (no D10 group) and no
ARRAY_AGG starts with NULL (D15) -/
theorem finalResultP_refines {O : Oracles} {q : AggStmt} (hwf : StmtWF q) {st : AggState} {rows : List (List Value × Env)}
    (hc : CoupledP O q st rows) (hex : KeysExact (rows.map (·.1))) {t : List (List Value)}
    (hspec : tableOfGroups O q (groups rows) = some t)
    (hvis : ∀ kg ∈ groups rows, groupVisible O q kg.2 = true)
    (hd15 : ∀ kg ∈ groups rows, arrayAggFirstNull O q kg.2 = false) :
    finalResult O q { agg := st } = .ok { columns := q.items.map (·.name), rows := t } := by
  have hs1 := aggSorted_publish hc.sorted
  have hsh1 := shape_publish hc.shape
  rw [tableOfGroups_eq] at hspec
  cases hall : collect ((groups rows).map (perGroup O q)) with
  | none => simp [hall] at hspec
  | some all =>
    simp only [hall, Option.some.injEq] at hspec
    have hgroup : ∀ k ∈ distinctKeys (rows.map (·.1)), (k, rowsOfKey k rows) ∈ groups rows := by
      intro k hk
      exact List.mem_map.mpr ⟨k, hk, rfl⟩
    have hd15k : ∀ k ∈ rows.map (·.1), arrayAggFirstNull O q (rowsOfKey k rows) = false := by
      intro k hk
      exact hd15 _ (hgroup k ((distinctKeys_mem_iff hex k).mpr hk))
    have hkeys : (publishPercentiles st).vals.map (·.1) = distinctKeys (rows.map (·.1)) := by
      apply sorted_ext hs1.vals (distinctKeys_sorted _)
      intro x
      constructor
      · intro hx
        obtain ⟨p, hp, hpx⟩ := List.mem_map.mp hx
        exact (distinctKeys_mem_iff hex x).mpr (by rw [← hpx]; exact hsh1.valsKeys p hp)
      · intro hx
        have hxk : x ∈ rows.map (·.1) := distinctKeys_sub _ x hx
        have hmem := hgroup x hx
        have hv := hvis _ hmem
        simp only [groupVisible, List.any_eq_true] at hv
        obtain ⟨kind, hkind, hce⟩ := hv
        cases hargs : arguments O q kind (rowsOfKey x rows) with
        | none => simp [hargs] at hce
        | some vs =>
          simp only [hargs] at hce
          have hnk : ∀ e c, kind ≠ .groupKey e c := by
            intro e c he; subst he; simp [createsEntry] at hce
          obtain ⟨ra, hra⟩ := collect_some_mem hall _ (List.mem_map.mpr ⟨_, hmem, rfl⟩)
          obtain ⟨r, hr⟩ := perGroup_values hwf hra kind hkind hnk
          obtain ⟨i, hi⟩ := enumFrom_exists (slotKinds q) 0 kind hkind
          obtain ⟨_, vs', hvs', hsome⟩ := coupled_slot hwf hc hxk (hd15k x hxk) hi hr
          rw [hargs] at hvs'
          simp only [Option.some.injEq] at hvs'
          subst hvs'
          rw [hce] at hsome
          exact (vals_key_iff hs1 hsh1 hex x hxk).mpr ⟨i, hsome⟩
    have hviews : ∀ p ∈ (publishPercentiles st).vals, GroupView O q p.2 (rowsOfKey p.1 rows) := by
      intro p hp
      have hk : p.1 ∈ rows.map (·.1) := hsh1.valsKeys _ hp
      refine ⟨fun i kind r hslot hv => ?_⟩
      rw [← gmLookup_of_mem hs1.vals hp]
      exact (coupled_slot hwf hc hk (hd15k p.1 hk) hslot hv).1
    -- the specification's groups, listed along `group_values`
    rw [groups, ← hkeys, List.map_map, List.map_map] at hall
    unfold finalResult
    -- the column pass (`extract_result_rows_by_column`) answers because every group has its row
    obtain ⟨cs, hcs⟩ := aggColumns_ok_of_rows (rows_view (gOf := (rowsOfKey · rows)) hviews hall)
    rw [aggResult_eq, hcs, resultRows_view (gOf := (rowsOfKey · rows)) hviews [] hall]
    simp only [Outcome.bind, bind, pure]
    rw [← hspec]
    cases q.distinct <;> cases q.limit <;> simp [dedupFrom_tupleSame_nil]

theorem finalResult_refines {O : Oracles} {q : AggStmt} (hwf : StmtWF q) {st : AggState} {rows : List (List Value × Env)}
    (hc : Coupled O q st rows) (hex : KeysExact (rows.map (·.1))) {t : List (List Value)}
    (hspec : tableOfGroups O q (groups rows) = some t)
    (hvis : ∀ kg ∈ groups rows, groupVisible O q kg.2 = true)
    (hd15 : ∀ kg ∈ groups rows, arrayAggFirstNull O q kg.2 = false) :
    finalResult O q { agg := st } = .ok { columns := q.items.map (·.name), rows := t } :=
  finalResultP_refines hwf (coupledP_of_coupled hc) hex hspec hvis hd15

/-- **results are repeatable**: `execute_result` (its state change is `publishPercentiles`) keeps the coupling -/
theorem coupledP_publish {O : Oracles} {q : AggStmt} {st : AggState} {rows : List (List Value × Env)}
    (hc : CoupledP O q st rows) : CoupledP O q (publishPercentiles st) rows := by
  refine ⟨aggSorted_publish hc.sorted, ?_, ?_, shape_publish hc.shape⟩
  · intro key i kind hm
    obtain ⟨c, hfold, hsim⟩ := hc.cells key i kind hm
    rw [readCell_publish hc.sorted hc.shape.aggsInner]
    exact ⟨c, hfold, cellSim_publish hsim⟩
  · intro key i hi
    rw [readCell_publish hc.sorted hc.shape.aggsInner, hc.others key i hi]
    rfl

end Sqlgrep
