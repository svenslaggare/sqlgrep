import SqlgrepModel.Lemmas.ParsePrefix
import SqlgrepModel.Lemmas.ParseRenameCreate
/-
Prefix determinism of the CREATE TABLE parser, in the barrier form of `Lemmas/ParsePrefix.lean`: `createBody`, the
part of `parse_create_table` that reads ONE `CREATE TABLE name ( … )` up to (not including) its closing `;`, never looks
past the first boundary token of its input (a clause keyword, `;`, `End`) and treats all boundary tokens alike:
`createBody T n (swapB t2 s) = (createBody T n s).mapSt (swapB t2)` for every answer (value, error, out of fuel) — the
barrier instance of `createBody_morph` (the functions below it: `Lemmas/ParseRenameCreate.lean`).
-/
namespace Sqlgrep
namespace Parse
namespace Concat

variable {t2 : PSt} {T : PrecTables}

/-- `parse_create_table` up to, not including, the closing `;`: `CREATE TABLE name ( items )` -/
def createBody (T : PrecTables) (fuel : Nat) (s : PSt) : PRes (List Char × Patterns × List PColDef) :=
  try! (_, s) ← next s;
  try! (_, s) ← expectConsume (.kw .table) (.expectedKeyword .table) s;
  try! (name, s) ← consumeIdentifier s;
  try! (_, s) ← expectConsume .lp .expectedLeftParentheses s;
  try! (pc, s) ← colLoop T fuel [] [] s;
  .ok (name, pc) s

variable {β : Type}
@[parse_bind] theorem createBody.match_1_eq_bind (x : PRes (Patterns × List PColDef)) (f : Patterns × List PColDef → PSt → PRes β) :
    createBody.match_1 (fun _ => PRes β) x f (fun e s => .err e s) (fun _ => .fuel) = x.bind f := by cases x <;> rfl
@[parse_bind] theorem createBody.match_3_eq_bind (x : PRes Unit) (f : Unit → PSt → PRes β) :
    createBody.match_3 (fun _ => PRes β) x f (fun e s => .err e s) (fun _ => .fuel) = x.bind f := by cases x <;> rfl
@[parse_bind] theorem createBody.match_5_eq_bind (x : PRes (List Char)) (f : List Char → PSt → PRes β) :
    createBody.match_5 (fun _ => PRes β) x f (fun e s => .err e s) (fun _ => .fuel) = x.bind f := by cases x <;> rfl

theorem parseCreateTable_eq (T : PrecTables) (fuel : Nat) (s : PSt) :
    parseCreateTable T fuel s =
      (createBody T fuel s).bind fun npc s1 =>
        (expectConsume .semi .expectedSemiColon s1).bind fun _ s2 =>
          .ok { loc := s.cur.loc, endLoc := s2.cur.loc, name := npc.1, patterns := npc.2.1, columns := npc.2.2 } s2 := by
  unfold parseCreateTable createBody
  simp only [parse_bind, bind_assoc]
  rfl

theorem createBody_morph (τ : Morph T) (hρ : CreateNameMap τ.ρ) (n : Nat) (s : PSt) (hnb : ¬ τ.Opq s.cur.tok) :
    τ.res (fun v => (τ.ρ v.1, renPatterns τ.ρ v.2.1, v.2.2.map (PColDef.renAll τ.ρ))) (createBody T n s) =
      createBody T n (τ.g s) := by
  unfold createBody; simp only [parse_bind]
  morph_walk τ [colLoop_morph τ hρ n [] [] _] []

theorem createBody_swapB (hT : InertBoundary T) (h2 : Boundary t2.cur.tok) (n : Nat) (s : PSt) (hnb : ¬ Boundary s.cur.tok) :
    createBody T n (swapB t2 s) = (createBody T n s).mapSt (swapB t2) :=
  swapB_of_morph hT h2 (fun v => by simp [renPatterns, PColDef.renAll_id])
    (createBody_morph (Morph.swap hT h2) createNameMap_id n s hnb)

end Concat
end Parse
end Sqlgrep
