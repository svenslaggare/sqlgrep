import SqlgrepModel.Lemmas.AggSums
import SqlgrepModel.Lemmas.JoinIndex
import SqlgrepModel.Lemmas.FirstOccs
/-
COUNT(DISTINCT c) against the specification, and the per-aggregate lemmas assembled into one statement
(`aggregate_refines`): for every aggregate kind, folding the engine's step over the argument values of a group
reaches a cell that shows exactly the specification's value and has an entry exactly when `createsEntry` says so.
-/
set_option linter.unusedSimpArgs false
namespace Sqlgrep
open Value Spec.Agg

/-- the engine's set of seen values (most recent first) -/
def seenAll (seen : List Value) (xs : List Value) : List Value :=
  xs.foldl (fun s v => if s.any (keySame v) then s else v :: s) seen

def cdCell (seen : List Value) : Cell := countCell (some (.countDistinct seen)) seen.length

theorem aggUpdate_countDistinct (seen : List Value) (v : Value) :
    aggUpdate (.countDistinct seen) v =
      if seen.any (keySame v) then .ok (.countDistinct seen, some (.bool false))
      else .ok (.countDistinct (v :: seen), some (.bool true)) := rfl

theorem stepV_cd (cn : String) (seen : List Value) (v : Value) (hv : v.isNull = false) :
    stepV (.count (some cn) true) v (cdCell seen) = .ok (cdCell (if seen.any (keySame v) then seen else v :: seen)) := by
  simp only [stepV, stepCount, countValid, hv, Bool.not_false, Bool.and_self, if_true, cdCell, countCell, Option.getD,
    aggUpdate_countDistinct]
  by_cases hs : seen.any (keySame v) = true
  · simp [hs, Outcome.bind, validAfter, truthy]
  · simp only [hs, Bool.false_eq_true, if_false, Outcome.bind, validAfter, truthy, if_true]
    have := bumpCount_countCell (some (.countDistinct (v :: seen))) seen.length
    simp only [countCell] at this
    rw [this]; simp

theorem foldV_cd (cn : String) (vs : List Value) (seen : List Value) :
    foldV (.count (some cn) true) vs (cdCell seen) = .ok (cdCell (seenAll seen (nonNull vs))) := by
  rw [foldV_steps (cell := cdCell) (inj := id) (next := fun seen v => .ok (if seen.any (keySame v) then seen else v :: seen))
    ?_ ?_ (List.map_id _).symm, Outcome.foldlM_ok]
  · rfl
  · intro seen; rfl
  · intro seen v hv; exact stepV_cd cn seen v hv

theorem foldV_cd_init (cn : String) (vs : List Value) :
    foldV (.count (some cn) true) vs {} =
      .ok (if (nonNull vs).isEmpty then {} else cdCell (seenAll [] (nonNull vs))) := by
  induction vs with
  | nil => rfl
  | cons v vs ih =>
    cases hv : v.isNull
    · rw [nonNull_cons_of_not_null hv]
      have h1 : stepV (.count (some cn) true) v {} = stepV (.count (some cn) true) v (cdCell []) := by
        simp [stepV, stepCount, cdCell, countCell, countValid, hv]
      simp only [foldV, h1, stepV_cd cn [] v hv, Outcome.bind, foldV_cd, List.isEmpty_cons, Bool.false_eq_true, if_false,
        seenAll, List.foldl_cons, List.any_nil]
    · have := isNull_eq_true hv; subst this
      rw [nonNull_cons_null]
      simp only [foldV, stepV, stepCount, countValid, isNull_null, Bool.not_true, Bool.false_and, Bool.false_eq_true, if_false,
        Outcome.bind]
      exact ih

theorem seenAll_eq (seen xs : List Value) : seenAll seen xs = (Spec.Select.dedupFrom keySame seen xs).reverse ++ seen := by
  induction xs generalizing seen with
  | nil => rfl
  | cons v xs ih =>
    simp only [seenAll, List.foldl_cons, Spec.Select.dedupFrom] at ih ⊢
    split
    · exact ih seen
    · rw [ih]; simp

theorem seenAll_nil_length (xs : List Value) : (seenAll [] xs).length = (firstOccs xs).length := by
  rw [seenAll_eq, show keySame = Value.beq from funext fun a => funext (keySame_eq_beq a), ← Spec.Select.dedupFirst,
    dedupFirst_eq_firstBy beq_isEquiv, firstOccs_eq_firstBy]
  simp

theorem firstOccs_isEmpty (xs : List Value) : (firstOccs xs).isEmpty = xs.isEmpty := by
  cases xs <;> rfl

/-- COUNT(DISTINCT c): the number of distinct non-NULL values -/
theorem countDistinct_refines (cn : String) (vs : List Value) (r : Value)
    (h : aggregate (.count (some cn) true) vs = some r) :
    ∃ c, foldV (.count (some cn) true) vs {} = .ok c ∧ shownValue (.count (some cn) true) c = r ∧
      (published c).isSome = createsEntry (.count (some cn) true) vs := by
  simp only [aggregate, Option.some.injEq] at h
  refine ⟨_, foldV_cd_init cn vs, ?_, ?_⟩
  · rw [← h]
    cases hn : nonNull vs with
    | nil => simp [shownValue, published, emptyGroupValue, firstOccs]
    | cons x xs =>
      simp only [List.isEmpty_cons, Bool.false_eq_true, if_false, cdCell]
      rw [shown_countCell _ _ _ _ (by simp), seenAll_nil_length]
  · simp only [createsEntry]
    cases hn : nonNull vs with
    | nil => simp [published]
    | cons x xs =>
      simp only [List.isEmpty_cons, Bool.false_eq_true, if_false, cdCell, published, countCell, seenAll_nil_length]
      simp [firstOccs]

/-- **per-aggregate refinement.** For a non-empty group with argument values `vs` (arrival order, NULLs included):
whenever the specification fixes the aggregate's value `r` — and, for ARRAY_AGG, the first value is not NULL
(otherwise the engine refuses: finding D15) — the engine's fold over `vs` succeeds, shows `r`, and has created a
`group_values` entry exactly when `createsEntry` says so. -/
theorem aggregate_refines (k : AggKind) (vs : List Value) (r : Value) (hne : vs ≠ [])
    (h : aggregate k vs = some r) (hd15 : firstNull k vs = false) :
    ∃ c, foldV k vs {} = .ok c ∧ shownValue k c = r ∧ (published c).isSome = createsEntry k vs := by
  cases k with
  | groupKey e c => simp [aggregate] at h
  | count col d =>
    cases d with
    | false => exact count_refines col vs r h
    | true =>
      cases col with
      | none => simp [aggregate] at h
      | some cn => exact countDistinct_refines cn vs r h
  | min e => exact min_refines e vs r h
  | max e => exact max_refines e vs r h
  | sum e => exact sum_refines e vs r h
  | avg e => exact avg_refines e vs r h
  | stddev e b => exact stddev_refines e b vs r h
  | percentile e p => exact percentile_refines e p vs r h
  | boolAnd e => exact boolAnd_refines e vs r h
  | boolOr e => exact boolOr_refines e vs r h
  | arrayAgg e =>
    cases vs with
    | nil => exact absurd rfl hne
    | cons v vs => exact arrayAgg_refines e v vs r (by simpa [firstNull] using hd15) h
  | stringAgg e d => exact stringAgg_refines e d vs r h

end Sqlgrep
