import SqlgrepModel.Lemmas.ExtractRow
import SqlgrepModel.Lemmas.ParseLit
import SqlgrepModel.Lemmas.ParseLitMore
import SqlgrepModel.Lemmas.Timestamp
import SqlgrepModel.Lemmas.FloatGrammar
/-
C01 — regex/split extraction yields exactly the captured, typed column values.

Model: `Extract.extractRow` (`TableDefinition::extract` with `ParsingInput::new`, `ColumnParsing::extract`,
`extract_using_regex`, `ValueType::parse`, `create_timestamp`), mirroring /repo HEAD. Specification:
`Extract.specColumn` (Model/ExtractSpec.lean) — the property sentence as a function of the column's own
definition and of the texts of the groups it references.

All theorems hold for every table definition, every line and *every* answer of the external libraries
(`LineOracle`: what `regex` captured / split and what `serde_json` parsed; `Oracles.parseF64`: `f64::from_str`).
The property theorems of C01 are stated here and their helper lemmas live in `Lemmas/` — except the readings of
`fitsI32`, `fitsU32` and `setPart` (`fitsI32_iff`, `fitsU32_iff`, `setPart_zero_none`, `setPart_six_none`,
`setPart_other_none`) from which `setPart_none_iff` below is put together.
-/
namespace Sqlgrep.Props.C01
open Sqlgrep Sqlgrep.Extract Sqlgrep.Lit

/-- **extract_column_spec.** If no NOT NULL column is NULL, the row the query sees holds for *each* column exactly
the specified value: the referenced group's text converted to the declared type, NULL/DEFAULT when pattern or group
did not take part, NULL when not a literal, BOOLEAN = existence, TRIM applied, arrays / timestamps position by position. -/
theorem extract_column_spec (o : Oracles) (d : TableDef) (lo : LineOracle)
    (hkeep : ¬ cutBy o (ParsingInput.new d lo) d.columns) :
    extractRow o d lo = d.columns.map (fun c => specColumn o c (ParsingInput.new d lo)) := by
  unfold extractRow
  rw [extractWith_kept o d _ hkeep]
  exact List.map_congr_left (fun c _ => columnValue_eq_spec o c _)

/-- the same, per column index -/
theorem extract_column_spec_at (o : Oracles) (d : TableDef) (lo : LineOracle)
    (hkeep : ¬ cutBy o (ParsingInput.new d lo) d.columns) (i : Nat) (c : Column) (hc : d.columns[i]? = some c) :
    (extractRow o d lo)[i]? = some (specColumn o c (ParsingInput.new d lo)) := by
  rw [extract_column_spec o d lo hkeep, List.getElem?_map, hc]
  rfl

/-- **notnull_cut_iff.** The column loop is cut exactly when some NOT NULL column is NULL; a cut row is empty,
a kept row has one value per column. -/
theorem notnull_cut_iff (o : Oracles) (d : TableDef) (lo : LineOracle) :
    (extractLoop o (ParsingInput.new d lo) d.columns = none ↔
      ∃ c ∈ d.columns, c.options.nullable = false ∧ (specColumn o c (ParsingInput.new d lo)).isNull = true) ∧
    (cutBy o (ParsingInput.new d lo) d.columns → extractRow o d lo = []) ∧
    (¬ cutBy o (ParsingInput.new d lo) d.columns → (extractRow o d lo).length = d.columns.length) := by
  refine ⟨?_, ?_, ?_⟩
  · rw [extractLoop_none_iff]
    simp only [columnValue_eq_spec]
  · exact extractWith_cut o d (ParsingInput.new d lo)
  · intro h
    rw [extract_column_spec o d lo h, List.length_map]

/-- **extract_noninterference.** Column `i` depends on its own definition and on the patterns it names, on nothing
else: two definitions that have the same column at position `i` and the same patterns *under the names that column
references* (other patterns and all other columns arbitrary) give the same value at `i` for every line. A value is
therefore never taken from another group, another column or a pattern the column does not reference; "another line"
is impossible because `extractRow` is a function of one line's oracle answers only. -/
theorem extract_noninterference (o : Oracles) (d d' : TableDef) (lo : LineOracle) (i : Nat) (c : Column)
    (hc : d.columns[i]? = some c) (hc' : d'.columns[i]? = some c)
    (hp : ∀ r ∈ c.refs, d.patterns.filter (fun p => r.pattern == p.name) =
                          d'.patterns.filter (fun p => r.pattern == p.name))
    (hk : ¬ cutBy o (ParsingInput.new d lo) d.columns) (hk' : ¬ cutBy o (ParsingInput.new d' lo) d'.columns) :
    (extractRow o d lo)[i]? = (extractRow o d' lo)[i]? := by
  rw [extract_column_spec_at o d lo hk i c hc, extract_column_spec_at o d' lo hk' i c hc']
  have hm : c ∈ d.columns := List.mem_of_getElem? hc
  have hm' : c ∈ d'.columns := List.mem_of_getElem? hc'
  have := columnValue_two_defs o d d' lo c hm hm' hp
  rw [columnValue_eq_spec, columnValue_eq_spec] at this
  rw [this]

/-- what a reference sees is decided by the patterns of that name only (the last one that took part) -/
theorem reference_sees_own_patterns (d d' : TableDef) (lo : LineOracle) (name : Text)
    (h : d.patterns.filter (fun p => name == p.name) = d'.patterns.filter (fun p => name == p.name)) :
    List.lookup name (ParsingInput.new d lo).regex = List.lookup name (ParsingInput.new d' lo).regex :=
  lookup_new_congr d d' lo name h

/-- **parseI64_exact.** `parseI64 s = some n` iff `s` is an optional sign followed by at least one ASCII digit,
denotes `n`, and `-2^63 ≤ n < 2^63`: an INT is never truncated, wrapped or re-typed. -/
theorem parseI64_exact (s : Text) (n : Int) :
    parseI64 s = some n ↔ IsIntLiteral s n ∧ -2 ^ 63 ≤ n ∧ n < 2 ^ 63 :=
  Lit.parseI64_exact s n

/-- the decimal rendering of every 64-bit integer is read back as that integer -/
theorem parseI64_render (n : Int) (h : -2 ^ 63 ≤ n ∧ n < 2 ^ 63) : parseI64 (renderInt n) = some n :=
  Lit.parseI64_render n h

/-- positional value of a digit string (what "denotes" means in `IsIntLiteral`) -/
theorem digits_positional (ds : List Nat) (b : Nat) : digitsVal (ds ++ [b]) = digitsVal ds * 10 + (b - 48) :=
  Lit.digitsVal_append_singleton ds b

/-! ### the other literal forms ("NULL when the text is not a literal of that type")

`parseI64_exact` says what an INT literal is; these say it for BOOLEAN texts (CONVERT / JSON strings), INTERVAL and the
month names a TIMESTAMP column accepts for its second part; `real_literal_exact` says it for REAL texts (`f64::from_str`,
computed by `DecFloat.parseF64N` and formalised as the grammar `Spec/FloatGrammar.lean`). A TIMESTAMP column is built
from parts: `timestamp_exists_iff` below for the parts, `timestamp_of_parts` / `timestamp_column_faithful` for the column. -/

/-- **real_literal_exact (REAL column text → value).** With the computed `f64::from_str` (`Oracles.computed`, what the
driver uses whenever a case ships no fact), the text `cs` of a group — handed over as its UTF-8 bytes — is a REAL literal
with the value `b` exactly when `cs` is a `Float` of the grammar of Rust's `f64::from_str`
(optional sign; digits with an optional point, at least one digit; optional exponent; or `inf` /
`infinity` / `nan` in any letter case; nothing around it) and `b` is the REAL of its denotation — the decimal rounded to
the nearest REAL, ties to even, `inf` on overflow (`DecFloat.bitsOf`, `DecFloat.decToF64_nearest`); every other text is
"not a literal of that type" (NULL). Never a truncated or re-typed value: `1e400` is `inf`, `1e-400` is `0`,
`0.1` is the REAL nearest to one tenth.

The denotation is the documented one (`FloatGrammar.FloatD`: every digit string by its mathematical value) for every text
whose exponent digits' value is below 65 536 (`FloatGrammar.ExpSmall`, decidable on the text) — third conjunct. For ANY
text it is Rust's (`FloatGrammar.FloatR`, first conjunct): std stops accumulating exponent digits at `0x10000`
(observation N3 of DESIGN.md), so a REAL column fed `0.` + 65 299 zeros + `1e655360` holds 1e236, Rust's value, although
the text denotes 1e590060 — "never silently altered" is strained by std there, not by sqlgrep; texts shorter than
≈ 65 000 characters are unaffected (capped and exact exponent both give `±0` / `±inf`). Which texts are literals never
depends on the reading (second conjunct). -/
theorem real_literal_exact (cs : List Char) :
    (∀ b, parseValue Oracles.computed .real (Utf8.encode cs) = some (.real b) ↔
      ∃ v, FloatGrammar.FloatR cs v ∧ DecFloat.bitsOf v = b) ∧
    (parseValue Oracles.computed .real (Utf8.encode cs) = none ↔ ¬ ∃ v, FloatGrammar.FloatD cs v) ∧
    (FloatGrammar.ExpSmall cs →
      ∀ b, parseValue Oracles.computed .real (Utf8.encode cs) = some (.real b) ↔
        ∃ v, FloatGrammar.FloatD cs v ∧ DecFloat.bitsOf v = b) := by
  have key : ∀ b, DecFloat.parseF64N (Utf8.encode cs) = some b ↔ ∃ v, FloatGrammar.FloatR cs v ∧ DecFloat.bitsOf v = b :=
    DecFloat.parseF64N_utf8_iff_rust cs
  have first : ∀ b, parseValue Oracles.computed .real (Utf8.encode cs) = some (.real b) ↔
      ∃ v, FloatGrammar.FloatR cs v ∧ DecFloat.bitsOf v = b := by
    intro b
    rw [← key b]
    simp only [parseValue, Oracles.computed]
    cases DecFloat.parseF64N (Utf8.encode cs) <;> simp
  refine ⟨first, ?_, ?_⟩
  · rw [← DecFloat.parseF64N_utf8_none_iff]
    simp only [parseValue, Oracles.computed]
    cases hp : DecFloat.parseF64N (Utf8.encode cs) <;> simp
  · intro hs b
    rw [first b]
    exact ⟨fun ⟨v, hv, hb⟩ => ⟨v, (DecFloat.floatR_iff_floatD hs v).1 hv, hb⟩,
      fun ⟨v, hv, hb⟩ => ⟨v, (DecFloat.floatR_iff_floatD hs v).2 hv, hb⟩⟩

/-- a BOOLEAN literal is exactly `true` or `false` (lower case, nothing around it) -/
theorem parseBool_exact (s : Text) (b : Bool) :
    parseBool s = some b ↔ (b = true ∧ s = [116, 114, 117, 101]) ∨ (b = false ∧ s = [102, 97, 108, 115, 101]) :=
  Lit.parseBool_iff s b

/-- **INTERVAL literals** are exactly the texts `h:m:s` of three INT literals (`IsIntLiteral`, via `parseI64_exact`)
separated by two colons, whose parts and partial sums stay inside chrono's range; the value is the exact number of
nanoseconds `(3600 h + 60 m + s) · 10⁹` — never rounded, wrapped or re-typed -/
theorem parseInterval_exact (s : Text) (v : Value) :
    parseInterval s = some v ↔
      ∃ a b c h m sec, s = a ++ 58 :: (b ++ 58 :: c) ∧ (58 : Nat) ∉ a ∧ (58 : Nat) ∉ b ∧ (58 : Nat) ∉ c ∧
        parseI64 a = some h ∧ parseI64 b = some m ∧ parseI64 c = some sec ∧
        deltaOk (h * 3600) = true ∧ deltaOk (m * 60) = true ∧ deltaOk (h * 3600 + m * 60) = true ∧ deltaOk sec = true ∧
        deltaOk (h * 3600 + m * 60 + sec) = true ∧
        v = .interval ((h * 3600 + m * 60 + sec) * 1000000000) :=
  Lit.parseInterval_iff s v

/-- a month name is an ASCII text whose lower case is one of the fifteen spellings of `monthTable`, and it denotes a
month between 1 and 12 -/
theorem monthOfName_exact (s : Text) (m : Nat) :
    monthOfName s = some m ↔ isAscii s = true ∧ (asciiLower s, m) ∈ monthTable :=
  Lit.monthOfName_iff s m

theorem monthOfName_range (s : Text) (m : Nat) (h : monthOfName s = some m) : 1 ≤ m ∧ m ≤ 12 :=
  Lit.monthTable_range _ ((Lit.monthOfName_iff s m).1 h).2

/-- **timestamp_faithful.** If `create_timestamp` yields a timestamp, its civil fields are exactly the parts put in:
no part is ever a different number from the captured one. -/
theorem timestamp_faithful (y : Int) (mo dd h mi s us : Nat) (t : Value)
    (hm : mkTimestamp y mo dd h mi s us = some t) :
    tsFields t = some { year := y, month := mo, day := dd, hour := h, minute := mi, second := s, micro := us } :=
  mkTimestamp_fields y mo dd h mi s us t hm

/-- a timestamp exists iff the parts form a valid civil time (Gregorian date within chrono's years, h<24, m<60,
s<60, µs<10^6 or the leap-second form s=59 ∧ µs<2·10^6) -/
theorem timestamp_exists_iff (y : Int) (mo dd h mi s us : Nat) :
    (mkTimestamp y mo dd h mi s us).isSome = true ↔
      Civil.validDate y mo dd = true ∧ us * 1000 < 4294967296 ∧ Civil.validTimeNano h mi s (us * 1000) = true := by
  rw [Option.isSome_iff_exists]
  constructor
  · rintro ⟨t, ht⟩
    obtain ⟨h1, h2, h3, _⟩ := (mkTimestamp_some_iff y mo dd h mi s us t).1 ht
    exact ⟨h1, h2, h3⟩
  · rintro ⟨h1, h2, h3⟩
    exact ⟨_, (mkTimestamp_some_iff y mo dd h mi s us _).2 ⟨h1, h2, h3, rfl⟩⟩

/-- a part that does not fit its field *as an integer* (year: i32, others: u32, scaled fraction: u32) gives the
DEFAULT (NULL if none is declared) — it is never wrapped into range -/
theorem timestamp_part_out_of_range (c : Column) (n : Int) (rest : List PartVal) (idx : Nat) (p : TsParts)
    (h : setPart c.options.microseconds idx n p = none) :
    specTsFrom c (.num n :: rest) idx p = c.defaultValue := by
  simp only [specTsFrom, h]

theorem fitsI32_iff (n : Int) : fitsI32 n = true ↔ -2147483648 ≤ n ∧ n ≤ 2147483647 := by simp [fitsI32]
theorem fitsU32_iff (n : Int) : fitsU32 n = true ↔ 0 ≤ n ∧ n ≤ 4294967295 := by simp [fitsU32]

/-- the year is an `i32` -/
theorem setPart_zero_none (micros : Bool) (n : Int) (p : TsParts) :
    setPart micros 0 n p = none ↔ ¬ fitsI32 n = true := by
  unfold setPart
  cases fitsI32 n <;> simp
/-- the fraction is a `u32`, also after scaling milliseconds -/
theorem setPart_six_none (micros : Bool) (n : Int) (p : TsParts) :
    setPart micros 6 n p = none ↔ ¬ fitsU32 n = true ∨ (micros = false ∧ 4294967295 < n.toNat * 1000) := by
  unfold setPart
  cases fitsU32 n <;> cases micros <;> simp
/-- every other part is a `u32` -/
theorem setPart_other_none (micros : Bool) {idx : Nat} (n : Int) (p : TsParts) (h0 : idx ≠ 0) (h6 : idx ≠ 6) :
    setPart micros idx n p = none ↔ ¬ fitsU32 n = true := by
  unfold setPart
  rw [if_neg (by simpa using h0)]
  cases fitsU32 n
  · simp
  · simp only [Bool.not_true, Bool.false_eq_true, if_false, not_true, iff_false]
    split <;> first | exact Option.some_ne_none _ | exact absurd rfl h6

/-- `setPart` fails exactly on integers outside the field's range -/
theorem setPart_none_iff (micros : Bool) (idx : Nat) (n : Int) (p : TsParts) :
    setPart micros idx n p = none ↔
      (idx = 0 ∧ ¬(-2147483648 ≤ n ∧ n ≤ 2147483647)) ∨
      (idx ≠ 0 ∧ ¬(0 ≤ n ∧ n ≤ 4294967295)) ∨
      (idx = 6 ∧ micros = false ∧ 0 ≤ n ∧ n ≤ 4294967295 ∧ 4294967295 < n.toNat * 1000) := by
  by_cases h0 : idx = 0
  · subst h0; rw [setPart_zero_none, fitsI32_iff]; simp
  · by_cases h6 : idx = 6
    · subst h6; rw [setPart_six_none, fitsU32_iff]
      by_cases hb : 0 ≤ n ∧ n ≤ 4294967295
      · simp [hb]
      · simp [hb]
    · rw [setPart_other_none micros n p h0 h6, fitsU32_iff]; simp [h0, h6]

/-- **bool_is_existence.** A BOOLEAN column over a pattern that took part is TRUE iff the group took part. -/
theorem bool_is_existence (o : Oracles) (c : Column) (inp : ParsingInput) (r : Ref)
    (hp : c.parsing = .regex r) (ht : c.type = .bool) (hpres : patternPresent inp r = true) :
    columnValue o c inp = .bool (groupText inp r).isSome := by
  rw [columnValue_eq_spec]
  unfold specColumn
  rw [hp]
  simp only [ht]
  unfold specScalar
  simp only [hpres, Bool.not_true, Bool.false_eq_true, if_false, beq_self_eq_true, if_true]
  exact applyTrim_not_text c _ (fun _ h => nomatch h)

/-- **trim_is_trim.** TRIM replaces a TEXT value by `str::trim` of it and touches nothing else. -/
theorem trim_is_trim (c : Column) (v : Value) :
    (c.options.trim = true → ∀ s, v = .text s → applyTrim c v = .text (trim s)) ∧
    (c.options.trim = false → applyTrim c v = v) ∧
    ((∀ s, v ≠ .text s) → applyTrim c v = v) := by
  refine ⟨?_, ?_, applyTrim_not_text c v⟩
  · intro h s hv; subst hv; simp [applyTrim, h]
  · intro h; simp [applyTrim, h]

/-- **array_positionwise.** An array column holds, position by position, the value of its `k`-th listed group
(NULL element when that group is absent or not a literal); it is DEFAULT only when every element is NULL. -/
theorem array_positionwise (o : Oracles) (c : Column) (inp : ParsingInput) (rs : List Ref) (e : VType)
    (hp : c.parsing = .multi rs) (ht : c.type = .array e) :
    (((rs.map (fun r => specScalar o e inp r .null)).all Value.isNull = false) →
        columnValue o c inp = .array e (rs.map (fun r => specScalar o e inp r .null))) ∧
    (((rs.map (fun r => specScalar o e inp r .null)).all Value.isNull = true) →
        columnValue o c inp = c.defaultValue ∨ ∃ s, c.defaultValue = .text s ∧ columnValue o c inp = .text (trim s)) := by
  rw [columnValue_eq_spec]
  unfold specColumn
  rw [hp]
  simp only [ht]
  constructor
  · intro h
    simp only [h, Bool.false_eq_true, if_false]
    exact applyTrim_not_text c _ (fun _ h => nomatch h)
  · intro h
    simp only [h, if_true]
    unfold applyTrim
    split
    · split
      · rename_i s hs; right; exact ⟨s, hs, rfl⟩
      · left; rfl
    · left; rfl

/-- which pattern a reference means: the *last* pattern of that name that took part on the line (a capture pattern
takes part iff it matches; a split pattern always does, with the whole line as field 0) -/
theorem reference_binding (d : TableDef) (lo : LineOracle) (name : Text) :
    List.lookup name (ParsingInput.new d lo).regex = lastNamed lo name d.patterns :=
  lookup_new d lo name

/-- **timestamp column, position by position.** If every listed part denotes an integer that fits its field and the
stored parts form a valid civil time, the column *is* that timestamp. -/
theorem timestamp_of_parts (c : Column) (parts : List PartVal) (p' : TsParts) (t : Value)
    (hs : storeParts c.options.microseconds parts 0 {} = some p')
    (hm : mkTimestamp p'.year p'.month p'.day p'.hour p'.minute p'.second p'.micro = some t) :
    specTsFrom c parts 0 {} = t :=
  specTsFrom_of_stored c parts 0 {} p' t hs hm

/-- Conversely (no DEFAULT declared) a non-NULL TIMESTAMP column means: every listed part was present and denoted an
integer within its field, and the timestamp's civil fields are exactly the stored parts — unlisted fields keep
year 0 / month 1 / day 1 / 00:00:00.0. A missing, non-numeric or out-of-range part never yields a timestamp. -/
theorem timestamp_column_faithful (c : Column) (hd : c.defaultValue = .null) (parts : List PartVal)
    (h : (specTsFrom c parts 0 {}).isNull = false) :
    ∃ p', storeParts c.options.microseconds parts 0 {} = some p' ∧
      tsFields (specTsFrom c parts 0 {}) = some p' := by
  obtain ⟨p', h1, _, h3⟩ := specTsFrom_nonnull c hd parts 0 {} h
  exact ⟨p', h1, h3⟩

/-- `str::trim` (model): the result is a contiguous piece of the text, nothing but a prefix and a suffix is removed,
the prefix removal stops at the first and the suffix removal at the last non-whitespace character -/
theorem trim_removes_only_ends (s : Text) :
    (∃ l r, s = l ++ trim s ++ r) ∧ wsSuffixRev (trim s).reverse = 0 ∧
    (∃ r, trimStart s = trim s ++ r) ∧ wsPrefix (trimStart s) = 0 :=
  Lit.trim_spec s

/-! ### non-vacuity: the hypotheses are satisfiable and the functions compute on concrete inputs -/

/-- `line = split ';', line[1] => a INT NOT NULL, line[2] => b TEXT TRIM, line[3] => c BOOLEAN, line[4] => d INT DEFAULT 7` -/
def exDef : TableDef :=
  { patterns := [{ name := [108], regex := [59], mode := .split }],
    columns := [
      { parsing := .regex { pattern := [108], group := 1 }, type := .int, options := { nullable := false } },
      { parsing := .regex { pattern := [108], group := 2 }, type := .text, options := { trim := true } },
      { parsing := .regex { pattern := [108], group := 3 }, type := .bool },
      { parsing := .regex { pattern := [108], group := 4 }, type := .int, options := { default := some (.int 7) } } ] }

def exOracles : Oracles := { parseF64 := fun _ => none }

/-- the line `-12; x ` (fields `-12`, ` x `) -/
def exLine : LineOracle :=
  { line := [45, 49, 50, 59, 32, 120, 32], captures := fun _ => none, split := fun _ => [[45, 49, 50], [32, 120, 32]], json := none }

/-- the line `abc;y`: the NOT NULL column is not a literal -/
def exLineCut : LineOracle :=
  { line := [97, 98, 99, 59, 121], captures := fun _ => none, split := fun _ => [[97, 98, 99], [121]], json := none }

example : extractRow exOracles exDef exLine = [.int (-12), .text [120], .bool false, .int 7] := by rfl
example : admitted exOracles exDef exLine = true := by decide +kernel
example : extractRow exOracles exDef exLineCut = [] := by decide +kernel
example : ¬ cutBy exOracles (ParsingInput.new exDef exLine) exDef.columns := by
  intro ⟨c, hm, hn, hv⟩
  simp only [exDef, List.mem_cons, List.mem_nil_iff, or_false] at hm
  rcases hm with rfl | rfl | rfl | rfl
  · revert hv; decide +kernel
  · cases hn
  · cases hn
  · cases hn
example : cutBy exOracles (ParsingInput.new exDef exLineCut) exDef.columns :=
  ⟨_, List.mem_cons_self, rfl, by decide +kernel⟩
example : parseI64 [45, 57, 50, 50, 51, 51, 55, 50, 48, 51, 54, 56, 53, 52, 55, 55, 53, 56, 48, 56] = some (-9223372036854775808) := by decide +kernel
example : parseI64 [57, 50, 50, 51, 51, 55, 50, 48, 51, 54, 56, 53, 52, 55, 55, 53, 56, 48, 56] = none := by decide +kernel
example : mkTimestamp 2020 2 29 23 59 59 1999999 = some (.timestamp 737484 86399 1999999000) := by rfl
example : mkTimestamp 2021 2 29 0 0 0 0 = none := by decide +kernel
example : setPart false 1 4294967297 {} = none := by decide +kernel
example : setPart false 6 9999999 {} = none := by decide +kernel
example : monthOfName [83, 69, 80, 84] = some 9 := by decide +kernel
example : parseInterval [45, 49, 58, 48, 50, 58, 43, 51] = some (.interval (-3477000000000)) := by rfl
example : parseInterval [49, 58, 50] = none ∧ parseInterval [49, 58, 50, 58, 51, 58, 52] = none ∧ parseInterval [49, 58, 58, 51] = none := ⟨rfl, rfl, rfl⟩
example : parseBool [84, 114, 117, 101] = none := by decide +kernel
example : storeParts false [.num 2020, .num 2, .num 29] 0 {} = some { year := 2020, month := 2, day := 29 } := by decide +kernel
example : (specTsFrom { parsing := .multi [], type := .timestamp } [.num 2020, .num 2, .num 29] 0 {}).isNull = false := by decide +kernel
example : specTsFrom { parsing := .multi [], type := .timestamp } [.num 2020, .absent, .num 29] 0 {} = .null := by rfl
example : specTsFrom { parsing := .multi [], type := .timestamp } [.num 2020, .num 4294967297, .num 29] 0 {} = .null := by rfl
example : trim [32, 0xC2, 0xA0, 97, 32, 98, 0xE3, 0x80, 0x80, 9] = [97, 32, 98] := by decide +kernel
-- REAL texts (`real_literal_exact`): `-1.5e3` is a `Float` denoting `-15 · 10^2`; `1,5` and `٣` (a non-ASCII digit) are not literals
example : FloatGrammar.FloatD "-1.5e3".toList (.dec true 15 2) :=
  .number (sg := ['-']) (body := "1.5e3".toList) .minus
    (FloatGrammar.NumberDV.point (ip := ['1']) (fp := ['5']) (e := ['e', '3']) (ev := 3) (by decide) (by decide)
      (Or.inl (by decide)) (FloatGrammar.ExpDV.some (sg := []) (ds := ['3']) (neg := false) (Or.inl rfl) .none (by decide)))
theorem exReal_parsed : DecFloat.parseF64N (Utf8.encode "-1.5e3".toList) = some 0xc097700000000000 := by decide +kernel
example : DecFloat.parseF64N (Utf8.encode "-1.5e3".toList) = some 0xc097700000000000
    ∧ DecFloat.bitsOf (.dec true 15 2) = 0xc097700000000000 := ⟨exReal_parsed, by decide +kernel⟩
example : parseValue Oracles.computed .real (Utf8.encode "-1.5e3".toList) = some (.real 0xc097700000000000) := by
  simp only [parseValue, Oracles.computed, exReal_parsed, Option.map_some]
-- the hypothesis `ExpSmall` of the third conjunct of `real_literal_exact` (exponent digits' value below 65 536)
example : FloatGrammar.ExpSmall "-1.5e3".toList ∧ FloatGrammar.ExpSmall "1e-400".toList ∧ ¬ FloatGrammar.ExpSmall "1e655360".toList := by
  decide +kernel
example : DecFloat.parseF64N (Utf8.encode "1,5".toList) = none ∧ DecFloat.parseF64N (Utf8.encode "٣".toList) = none
    ∧ DecFloat.parseF64N (Utf8.encode " 1".toList) = none := by decide +kernel

end Sqlgrep.Props.C01
