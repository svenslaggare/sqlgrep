import SqlgrepModel.Lemmas.LimitAgg
/-
DISTINCT on aggregate statements at the level of the batch run: the loop does not look at DISTINCT, the final
table is deduplicated (fresh memory), then cut by LIMIT. In an update+result step (follow mode, `stepTable`) every result
table is deduplicated separately.
-/
namespace Sqlgrep
open Sqlgrep.Spec.Select

/-- **batch aggregate with DISTINCT**: same lines read; the printed table is the table printed without DISTINCT
(and without LIMIT) with every distinct row kept once at its first occurrence, then cut by LIMIT -/
theorem runBatch_agg_distinct (O : Oracles) (qy : Query) (q : AggStmt) (joined : List FileLine)
    (files : List (List FileLine))
    (hu : hasFailed (runBatch O (qy.withAgg ((q.withLimit none).withDistinct false)) joined files none) = false) :
    ∃ r : RowOut,
      runBatch O (qy.withAgg ((q.withLimit none).withDistinct false)) joined files none =
        { runBatch O (qy.withAgg ((q.withLimit none).withDistinct false)) joined files none with
          printed := r.rows.map (renderRecord r.columns) } ∧
      runBatch O (qy.withAgg (q.withDistinct true)) joined files none =
        { runBatch O (qy.withAgg ((q.withLimit none).withDistinct false)) joined files none with
          printed := ((match q.limit with
            | some n => (dedupFirst tupleSame r.rows).take n
            | none => dedupFirst tupleSame r.rows)).map (renderRecord r.columns) } := by
  have hs : SameAgg ((q.withLimit none).withDistinct false) (q.withDistinct true) := ⟨rfl, rfl, rfl, rfl, rfl, rfl⟩
  have hs2 : SameAgg ((q.withLimit none).withDistinct false) ((q.withLimit none).withDistinct true) :=
    ⟨rfl, rfl, rfl, rfl, rfl, rfl⟩
  have hs3 : SameAgg ((q.withLimit none).withDistinct true) (q.withDistinct true) := ⟨rfl, rfl, rfl, rfl, rfl, rfl⟩
  rw [runBatch_agg_eq] at hu ⊢
  rw [runBatch_agg_eq]
  cases hidx : joinIndexOf qy joined with
  | ok idx =>
    rw [hidx] at hu
    simp only at hu ⊢
    rw [runFiles_agg_same O hs qy idx files {}]
    generalize runFiles O (qy.withAgg ((q.withLimit none).withDistinct false)) idx false none files {} = ls at hu ⊢
    by_cases hf : hasFailed ls.out = true
    · simp only [hf, if_true] at hu
      cases hu
    · simp only [hf, Bool.false_eq_true, if_false] at hu ⊢
      rw [finalResult_eq] at hu ⊢
      rw [finalResult_eq, aggResult_same O hs3 rfl, aggResult_distinct O hs2 rfl rfl]
      cases har : aggResult O ((q.withLimit none).withDistinct false) ls.es.agg with
      | ok p =>
        refine ⟨p.2, ?_, ?_⟩
        · simp [Outcome.mapOk, Outcome.bind]
        · simp only [Outcome.mapOk, Outcome.bind, AggStmt.withDistinct_limit, AggStmt.withLimit_limit]
          cases q.limit <;> rfl
      | _ => rw [har] at hu; simp [Outcome.mapOk, Outcome.bind, failWith, hasFailed] at hu
  | _ => rw [hidx] at hu; simp [failWith, hasFailed] at hu

/-- one table with its duplicate rows removed -/
def dedupTable (r : RowOut) : RowOut := { r with rows := dedupFirst tupleSame r.rows }

/-- the result table of an update+result step: every environment of the line (one per join partner; exactly one
without a join) updates the state, then — iff one of them updated — ONE table is computed -/
def stepTable (O : Oracles) (q : AggStmt) (envs : List (Env × List String)) (st : AggState) : Outcome (AggState × Option RowOut) :=
  (aggEnvs O q envs st false).bind (fun p =>
    if p.2 then (aggResult O q p.1).bind (fun r => .ok (r.1, some r.2)) else .ok (p.1, none))

theorem stepTable_distinct (O : Oracles) {q q' : AggStmt} (h : SameAgg q q') (hd' : q'.distinct = true)
    (hd : q.distinct = false) (envs : List (Env × List String)) (st : AggState) :
    stepTable O q' envs st = Outcome.mapOk (fun t => (t.1, t.2.map dedupTable)) (stepTable O q envs st) := by
  simp only [stepTable, aggEnvs_same O h, aggResult_distinct O h hd' hd]
  cases aggEnvs O q envs st false with
  | ok pr =>
    obtain ⟨st', u⟩ := pr
    simp only [Outcome.bind]
    cases u with
    | false => rfl
    | true =>
      simp only [if_true]
      cases aggResult O q st' <;> rfl
  | _ => rfl

theorem executeLine_agg_result (O : Oracles) (qy : Query) (q : AggStmt) (hq : qy.stmt = .aggregate q) (idx : JoinIndex)
    (es : EngineState) (l : Line) :
    executeLine O qy idx true es l =
      if !anyResult l.row then .ok (updateLimit false q.limit es none)
      else (lineEnvs qy idx false l).bind (fun envs =>
        (stepTable O q envs es.agg).bind (fun t =>
          .ok (updateLimit false q.limit { es with agg := t.1 } t.2))) := by
  by_cases hadm : anyResult l.row = true
  · rw [executeLine_follow_join O qy q idx es l hq hadm]
    simp only [hadm, Bool.not_true, Bool.false_eq_true, if_false, stepTable, Outcome.bind_assoc]
    congr 1; funext envs; congr 1; funext p
    cases p.2 <;> simp only [Bool.false_eq_true, if_false, if_true, Outcome.bind_assoc, Outcome.ok_bind]
  · simp only [executeLine, hq, hadm, Bool.not_false, if_true]

end Sqlgrep
