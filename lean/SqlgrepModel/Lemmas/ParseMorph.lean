import SqlgrepModel.Lemmas.ParseMap
import SqlgrepModel.Lemmas.ParseClauses
/-
The expression parser reads the tokens and nothing else, and nothing behind a boundary token.

One theorem (`morph_all`): the six mutually recursive functions commute with every *morphism* of their input — a
transformation `g` of parser states that acts token by token (`ℓ` on locations, `ρ` on identifiers: a change of letter
case that respects the `.` of qualified names and fixes the two names the parser makes up itself, `NameMap`), except at
a set of *opaque* boundary tokens (clause keywords, `;`, `End`), which `g` may exchange for one another and behind which
it may do anything. What a `Morph` has to say is how `g` acts on the current token and on `next`. Each body is walked
once in `bind` form (`Lemmas/ParseMap.lean`), by induction on the fuel.

Instances: relabelling the tokens (`Morph.relabel`, nothing opaque: `Lemmas/ParseRename.lean`) and the barrier
(`Morph.swap`, all boundary tokens opaque: `Lemmas/ParsePrefix.lean`).
-/
namespace Sqlgrep
namespace Parse
variable {α β : Type}

theorem boundary_cases {t : Tok} (h : Boundary t) :
    t = .kw .where ∨ t = .kw .inner ∨ t = .kw .outer ∨ t = .kw .group ∨ t = .kw .having ∨ t = .kw .limit ∨ t = .eof ∨ t = .semi := by
  unfold Boundary ClauseKw at h
  rcases h with (h | h | h | h | h | h) | h | h <;> simp [h]

theorem nb_of_call {s : PSt} {name : List Char}
    (h : ¬(!(decide (s.cur.tok = Tok.lp) || decide (s.cur.tok = Tok.lsq ∧ lowerChars name = "array".toList))) = true) :
    ¬ Boundary s.cur.tok := by
  intro hb
  apply h
  rcases boundary_cases hb with e | e | e | e | e | e | e | e <;> simp [e]

theorem boundary_not_op {t : Tok} (h : Boundary t) : ∀ o, t ≠ .op o := by
  intro o ho; subst ho
  unfold Boundary ClauseKw at h
  simp at h

theorem consumeIdentifier_atB {s : PSt} (h : Boundary s.cur.tok) : consumeIdentifier s = mkErr s .expectedIdentifier := by
  unfold consumeIdentifier
  rcases boundary_cases h with h | h | h | h | h | h | h | h <;> rw [h]

theorem consumeString_atB {s : PSt} (h : Boundary s.cur.tok) : consumeString s = mkErr s .expectedString := by
  unfold consumeString
  rcases boundary_cases h with h | h | h | h | h | h | h | h <;> rw [h]

theorem consumeInt_atB {s : PSt} (h : Boundary s.cur.tok) : consumeInt s = mkErr s .expectedInt := by
  unfold consumeInt
  rcases boundary_cases h with h | h | h | h | h | h | h | h <;> rw [h]

theorem parsePrimary_atB (T : PrecTables) (n : Nat) {s : PSt} (h : Boundary s.cur.tok) :
    parsePrimary T (n + 1) s = mkErr s .expectedExpression := by
  rw [parsePrimary]; dsimp only
  rcases boundary_cases h with h | h | h | h | h | h | h | h <;> rw [h]

theorem parseUnary_atB (T : PrecTables) (n : Nat) {s : PSt} (h : Boundary s.cur.tok) :
    parseUnary T (n + 1) s = parsePrimary T n s := by
  rw [parseUnary]; dsimp only
  rcases boundary_cases h with h | h | h | h | h | h | h | h <;> rw [h] <;> rfl

/-- A transformation `g` of parser states under which the parser's answers are transformed alike: outside the opaque
tokens it acts token by token (`ℓ` on the location, `ρ` on an identifier); opaque tokens are boundary tokens without
precedence; `next` commutes with `g` off the opaque tokens. -/
structure Morph (T : PrecTables) where
  g : PSt → PSt
  ℓ : Loc → Loc
  ρ : List Char → List Char
  /-- tokens at which the two runs may see different tokens (`Morph.relabel`: none, `fun _ => False`; `Morph.swap`: the
  boundary tokens, `Boundary`) -/
  Opq : Tok → Prop
  /-- loop levels of `parse_binary_operator_rhs` that an opaque token stops (`Morph.relabel`: all, `fun _ => True`;
  `Morph.swap`: `fun p => 0 ≤ p` — the parser enters the loop at non-negative levels only, and a boundary token has
  precedence −1, so it ends the loop: `lvl_stop`) -/
  Lvl : Int → Prop
  names : NameMap ρ
  identPrec : ∀ n, lookupTok T.other (.ident (ρ n)) = lookupTok T.other (.ident n)
  opq_boundary : ∀ t, Opq t → Boundary t
  opq_prec : ∀ t, Opq t → lookupTok T.other t = none
  lvl_zero : Lvl 0
  lvl_up : ∀ p q, Lvl p → p ≤ q → Lvl q
  lvl_stop : ∀ p t, Lvl p → Opq t → (-1 : Int) < p
  loc : ∀ s, (g s).cur.loc = ℓ s.cur.loc
  tok : ∀ s, ¬ Opq s.cur.tok → (g s).cur.tok = s.cur.tok.ren ρ
  opq : ∀ s, Opq s.cur.tok → Opq (g s).cur.tok
  next : ∀ s, ¬ Opq s.cur.tok → (Parse.next s).map id (PErr.relabelAll ℓ ρ) g = Parse.next (g s)

namespace Morph
variable {T : PrecTables} (τ : Morph T) {α β : Type}

@[reducible] def res (f : α → β) (x : PRes α) : PRes β := x.map f (PErr.relabelAll τ.ℓ τ.ρ) τ.g
@[reducible] def fx : PExpr → PExpr := PExpr.mapAll τ.ℓ τ.ρ τ.ρ

theorem nb {X : Tok} (hX : ¬ Boundary X) : ¬ τ.Opq X := fun h => hX (τ.opq_boundary _ h)

theorem nopq_of_eq {s : PSt} {X : Tok} (h : s.cur.tok = X) (hX : ¬ τ.Opq X) : ¬ τ.Opq s.cur.tok := h ▸ hX

theorem test {X : Tok} (hX : ¬ τ.Opq X) (hi : ∀ t : Tok, (t.ren τ.ρ = X) = (t = X)) (s : PSt) :
    ((τ.g s).cur.tok = X) = (s.cur.tok = X) := by
  by_cases ho : τ.Opq s.cur.tok
  · exact propext ⟨fun e => absurd (e ▸ τ.opq s ho) hX, fun e => absurd (e ▸ ho) hX⟩
  · rw [τ.tok s ho, hi]

theorem mkErr (s : PSt) {k : PErrKind} (hk : k.ren τ.ρ = k) (f : α → β) : τ.res f (mkErr s k) = Parse.mkErr (τ.g s) k := by
  simp only [Parse.mkErr, PRes.map, PErr.relabelAll, hk, τ.loc]

theorem ite {X : Tok} (hX : ¬ τ.Opq X) (hi : ∀ t : Tok, (t.ren τ.ρ = X) = (t = X)) {s : PSt} {i : Decidable (s.cur.tok = X)}
    {i' : Decidable ((τ.g s).cur.tok = X)} {f : α → β} {a b : PRes α} {a' b' : PRes β}
    (ha : s.cur.tok = X → ¬ τ.Opq s.cur.tok → τ.res f a = a') (hb : ¬ s.cur.tok = X → τ.res f b = b') :
    τ.res f (@_root_.ite _ (s.cur.tok = X) i a b) = @_root_.ite _ ((τ.g s).cur.tok = X) i' a' b' := by
  by_cases h : s.cur.tok = X
  · rw [if_pos h, if_pos ((τ.test hX hi s).mpr h)]; exact ha h (τ.nopq_of_eq h hX)
  · rw [if_neg h, if_neg (mt (τ.test hX hi s).mp h)]; exact hb h

theorem expectConsume {X : Tok} (hX : ¬ τ.Opq X) (hi : ∀ t : Tok, (t.ren τ.ρ = X) = (t = X)) {k : PErrKind}
    (hk : k.ren τ.ρ = k) (s : PSt) :
    τ.res id (expectConsume X k s) = Parse.expectConsume X k (τ.g s) :=
  τ.ite hX hi (fun _ h => τ.next s h) (fun _ => τ.mkErr s hk id)

theorem consumeIdentifier (s : PSt) : τ.res τ.ρ (consumeIdentifier s) = Parse.consumeIdentifier (τ.g s) := by
  by_cases ho : τ.Opq s.cur.tok
  · rw [consumeIdentifier_atB (τ.opq_boundary _ ho), consumeIdentifier_atB (τ.opq_boundary _ (τ.opq s ho))]
    exact τ.mkErr s rfl _
  · unfold Parse.consumeIdentifier
    rw [τ.tok s ho]
    cases s.cur.tok <;> first | exact τ.mkErr s rfl _ | exact map_bind (τ.next s ho) (fun _ _ _ => rfl)

theorem consumeString (s : PSt) : τ.res id (consumeString s) = Parse.consumeString (τ.g s) := by
  by_cases ho : τ.Opq s.cur.tok
  · rw [consumeString_atB (τ.opq_boundary _ ho), consumeString_atB (τ.opq_boundary _ (τ.opq s ho))]
    exact τ.mkErr s rfl _
  · unfold Parse.consumeString
    rw [τ.tok s ho]
    cases s.cur.tok <;> first | exact τ.mkErr s rfl _ | exact map_bind (τ.next s ho) (fun _ _ _ => rfl)

theorem consumeInt (s : PSt) : τ.res id (consumeInt s) = Parse.consumeInt (τ.g s) := by
  by_cases ho : τ.Opq s.cur.tok
  · rw [consumeInt_atB (τ.opq_boundary _ ho), consumeInt_atB (τ.opq_boundary _ (τ.opq s ho))]
    exact τ.mkErr s rfl _
  · unfold Parse.consumeInt
    rw [τ.tok s ho]
    cases s.cur.tok <;> first | exact τ.mkErr s rfl _ | exact map_bind (τ.next s ho) (fun _ _ _ => rfl)

theorem tokenPrecedence_opq {s : PSt} (ho : τ.Opq s.cur.tok) : Parse.tokenPrecedence T s = .ok (-1) s := by
  unfold Parse.tokenPrecedence
  split
  · rename_i o ho'; exact absurd ho' (boundary_not_op (τ.opq_boundary _ ho) o)
  · simp [τ.opq_prec _ ho]

theorem tokenPrecedence (s : PSt) : τ.res id (tokenPrecedence T s) = Parse.tokenPrecedence T (τ.g s) := by
  by_cases ho : τ.Opq s.cur.tok
  · rw [τ.tokenPrecedence_opq ho, τ.tokenPrecedence_opq (τ.opq s ho)]; rfl
  · unfold Parse.tokenPrecedence
    rw [τ.tok s ho]
    cases s.cur.tok <;> try rfl
    · dsimp only [Tok.ren]; split
      · rfl
      · exact τ.mkErr s rfl _
    · simp only [Tok.ren, τ.identPrec]; rfl

theorem nopq_of_prec {s s' : PSt} {tp p : Int} (hp : τ.Lvl p) (h : Parse.tokenPrecedence T s = .ok tp s') (hlt : ¬ tp < p) :
    ¬ τ.Opq s'.cur.tok := by
  intro ho
  obtain rfl := tokenPrecedence_ok h
  rw [τ.tokenPrecedence_opq ho] at h; cases h
  exact hlt (τ.lvl_stop _ _ hp ho)

end Morph

structure MorphIH {T : PrecTables} (τ : Morph T) (n : Nat) : Prop where
  e : ∀ s, τ.res τ.fx (parseExpr T n s) = parseExpr T n (τ.g s)
  r : ∀ p l s, τ.Lvl p → τ.res τ.fx (parseRhs T n p l s) = parseRhs T n p (τ.fx l) (τ.g s)
  u : ∀ s, τ.res τ.fx (parseUnary T n s) = parseUnary T n (τ.g s)
  p : ∀ s, τ.res τ.fx (parsePrimary T n s) = parsePrimary T n (τ.g s)
  c : ∀ loc cl s, τ.res τ.fx (parseCase T n loc cl s) =
    parseCase T n (τ.ℓ loc) (PExpr.mapAllClauses τ.ℓ τ.ρ τ.ρ cl) (τ.g s)
  l : ∀ c acc s, ¬ τ.Opq c → (∀ t : Tok, (t.ren τ.ρ = c) = (t = c)) →
    τ.res (PExpr.mapAllList τ.ℓ τ.ρ τ.ρ) (parseList T n c acc s) = parseList T n c (PExpr.mapAllList τ.ℓ τ.ρ τ.ρ acc) (τ.g s)

/-- Walk a goal `τ.res f (body s) = body' (τ.g s)`, both bodies in `bind` form: `map_bind` at a call followed by more,
`Morph.ite` at a test of the current token (where it succeeds the run is not at an opaque token), `map_ite` at any
other test; `next` where the context says that the run is not at an opaque token; `expectConsume`, `consumeIdentifier`
and `mkErr` by the facts above; any other call by the fact about it in the first list (for a morphism without opaque
tokens `τ.next _ (h _)` is such a fact, and the hypothesis `h` answers the side condition of `Morph.ite`); a returned
value by `rfl`; then rewriting with the second list, then `split`. -/
macro "morph_walk " τ:ident " [" ts:term,* "]" " [" ls:Lean.Parser.Tactic.simpLemma,* "]" : tactic => `(tactic| repeat' first
  | (with_reducible refine' map_bind ?_ (fun _ _ _ => ?_); rotate_left)
  | (with_reducible refine map_ok ?_; exact rfl)
  | (with_reducible refine' Morph.ite $τ ?hX ?hi (fun _ _ => ?_) (fun _ => ?_)
     case hX => first | exact Morph.nb $τ (by decide) | assumption | apply_assumption
     case hi => first | exact tok_ren_eq _ rfl | assumption)
  | (with_reducible refine' map_ite (fun _ => ?_) (fun _ => ?_); rotate_left)
  | with_reducible exact Morph.next $τ _ ‹_›
  | with_reducible exact Morph.expectConsume $τ (Morph.nb $τ (by decide)) (tok_ren_eq _ rfl) rfl _
  | with_reducible exact Morph.consumeIdentifier $τ _
  | with_reducible exact Morph.mkErr $τ _ rfl _
  $[| refine $ts]*
  | exact rfl
  | simp +decide only [id_eq, $ls,*]
  | split)

variable {T : PrecTables} {τ : Morph T} {n : Nat}

theorem morph_expr (ih : MorphIH τ n) (s : PSt) : τ.res τ.fx (parseExpr T (n + 1) s) = parseExpr T (n + 1) (τ.g s) := by
  rw [parseExpr, parseExpr]
  simp only [parse_bind]
  morph_walk τ [ih.u _, ih.r _ _ _ τ.lvl_zero] []

theorem morph_case (ih : MorphIH τ n) (loc : Loc) (cl : List (PExpr × PExpr)) (s : PSt) :
    τ.res τ.fx (parseCase T (n + 1) loc cl s) =
      parseCase T (n + 1) (τ.ℓ loc) (PExpr.mapAllClauses τ.ℓ τ.ρ τ.ρ cl) (τ.g s) := by
  rw [parseCase, parseCase]
  simp only [parse_bind]
  morph_walk τ [ih.e _, ih.c _ _ _] [← PExpr.mapAllClauses_snoc]

theorem morph_list (ih : MorphIH τ n) (c : Tok) (acc : List PExpr) (s : PSt) (hc : ¬ τ.Opq c)
    (hi : ∀ t : Tok, (t.ren τ.ρ = c) = (t = c)) :
    τ.res (PExpr.mapAllList τ.ℓ τ.ρ τ.ρ) (parseList T (n + 1) c acc s) =
      parseList T (n + 1) c (PExpr.mapAllList τ.ℓ τ.ρ τ.ρ acc) (τ.g s) := by
  rw [parseList, parseList]
  simp only [parse_bind]
  morph_walk τ [ih.e _, ih.l _ _ _ hc hi] [← PExpr.mapAllList_snoc]

theorem morph_unary (ih : MorphIH τ n) (s : PSt) : τ.res τ.fx (parseUnary T (n + 1) s) = parseUnary T (n + 1) (τ.g s) := by
  by_cases ho : τ.Opq s.cur.tok
  · rw [parseUnary_atB T n (τ.opq_boundary _ ho), parseUnary_atB T n (τ.opq_boundary _ (τ.opq s ho))]; exact ih.p s
  · have hR : ∀ (c : Prop) [Decidable c] l s, τ.res τ.fx (parseRhs T n (if c then 4 else 8) l s) =
        parseRhs T n (if c then 4 else 8) (τ.fx l) (τ.g s) :=
      fun c _ l s => ih.r _ l s (τ.lvl_up 0 _ τ.lvl_zero (by split <;> decide))
    rw [parseUnary, parseUnary]
    simp +decide only [parse_bind, τ.tok s ho, τ.loc, parseUnary.match_1_ren, tok_ren_eq]
    morph_walk τ [ih.p _, ih.u _, hR _ _ _] []

/-- `lhs op rhs` in `parseRhs`: the tree `combine` builds goes on, its error is returned -/
theorem Morph.combine (τ : Morph T) {loc : Loc} {op : Tok} {l r : PExpr} {s : PSt} {K K' : PExpr → PRes PExpr}
    (hK : ∀ t, τ.res τ.fx (K t) = K' (τ.fx t)) :
    τ.res τ.fx (parseRhs.match_7 (fun _ => PRes PExpr) (Parse.combine loc op l r) K (fun e => .err e s)) =
      parseRhs.match_7 (fun _ => PRes PExpr) (Parse.combine (τ.ℓ loc) (op.ren τ.ρ) (τ.fx l) (τ.fx r)) K'
        (fun e => .err e (τ.g s)) := by
  rw [combine_relabel τ.names]
  cases Parse.combine loc op l r with
  | ok t => exact hK t
  | error e => rfl

theorem morph_rhs (ih : MorphIH τ n) (p : Int) (l : PExpr) (s : PSt) (hp : τ.Lvl p) :
    τ.res τ.fx (parseRhs T (n + 1) p l s) = parseRhs T (n + 1) p (τ.fx l) (τ.g s) := by
  rw [parseRhs, parseRhs]
  simp only [parse_bind, ne_eq, ite_not]
  refine map_bind (τ.tokenPrecedence s) fun tp s' htp => map_ite (fun _ => rfl) fun hlt => ?_
  -- a token whose precedence does not stop the loop is not opaque
  have hnb : ¬ τ.Opq s'.cur.tok := τ.nopq_of_prec hp htp hlt
  have hR := fun l s => ih.r p l s hp
  have hR' := fun l s => ih.r (tp + 1) l s (τ.lvl_up p _ hp (by omega))
  have hL := fun acc s => ih.l .rp acc s (τ.nb (by decide)) (tok_ren_eq _ rfl)
  refine map_bind (τ.next s' hnb) fun _ s2 _ => ?_
  simp +decide only [id_eq, τ.loc, τ.tok s' hnb, parseRhs.match_11_ren, tok_ren_beq]
  split
  all_goals morph_walk τ [ih.e _, ih.u _, hR _ _, hR' _ _, τ.tokenPrecedence _, hL _ _, τ.combine (fun _ => ?_)] []

theorem morph_primary (ih : MorphIH τ n) (s : PSt) :
    τ.res τ.fx (parsePrimary T (n + 1) s) = parsePrimary T (n + 1) (τ.g s) := by
  by_cases ho : τ.Opq s.cur.tok
  · rw [parsePrimary_atB T n (τ.opq_boundary _ ho), parsePrimary_atB T n (τ.opq_boundary _ (τ.opq s ho))]
    exact τ.mkErr s rfl _
  · have hco : ∀ n, lowerChars (τ.ρ n) = lowerChars n := τ.names.caseOnly
    -- the tests of the identifier branch, and the closing token they choose
    have e1 := τ.test (τ.nb (show ¬ Boundary Tok.lp by decide)) (tok_ren_eq _ rfl)
    have e2 := τ.test (τ.nb (show ¬ Boundary Tok.lsq by decide)) (tok_ren_eq _ rfl)
    have e3 := τ.test (τ.nb (show ¬ Boundary (Tok.kw .distinct) by decide)) (tok_ren_eq _ rfl)
    have hcl : ∀ (c : Prop) [Decidable c], ¬ τ.Opq (if c then Tok.rsq else Tok.rp) := fun c _ => τ.nb (by split <;> decide)
    have hcli : ∀ (c : Prop) [Decidable c] (t : Tok),
        (t.ren τ.ρ = if c then Tok.rsq else Tok.rp) = (t = if c then Tok.rsq else Tok.rp) :=
      fun c _ => tok_ren_eq _ (by split <;> rfl)
    have e4 := fun (c : Prop) [Decidable c] => τ.test (hcl c) (hcli c)
    have hL := fun acc s => ih.l .rp acc s (τ.nb (by decide)) (tok_ren_eq _ rfl)
    have hL' := fun (c : Prop) [Decidable c] acc s => ih.l _ acc s (hcl c) (hcli c)
    simp only [parsePrimary, parse_bind, τ.tok s ho, τ.loc, parsePrimary.match_5_ren]
    split
    -- `h_7`, `h_8`: the 7th and 8th alternative of the match on the current token, `.ident name` and `.lp`
    case h_7 name _ =>
      morph_walk τ [hL' _ _ _] [e1, e2, e3, e4, hco, τ.loc]
      -- left: the `next`s behind a test that is no test of the current token alone, and the made-up call name
      all_goals first
        | exact τ.next _ fun h => nb_of_call ‹_› (τ.opq_boundary _ h)
        | exact τ.next _ (τ.nopq_of_eq (And.right ‹_›) (τ.nb (by decide)))
        | exact τ.next _ (τ.nopq_of_eq ‹_› (hcl _))
        | exact congrArg (fun n => PRes.ok (PExpr.call _ n _ _) _) τ.names.createArray
        | exact rfl
    case h_8 =>
      refine map_bind (τ.next _ ho) (fun _ _ _ => map_inspect (ih.e _) (fun _ _ => ?_) (fun _ _ => ?_))
      all_goals morph_walk τ [hL _ _] []
    all_goals morph_walk τ [ih.e _, ih.c _ _ _] [hco, τ.loc]
    exact congrArg (fun n => PRes.ok (PExpr.call _ n _ _) _) (τ.names.extract _)

theorem morph_all (τ : Morph T) : ∀ n, MorphIH τ n
  | 0 => by
    refine ⟨?_, ?_, ?_, ?_, ?_, ?_⟩ <;> intros
    · rw [parseExpr, parseExpr]; rfl
    · rw [parseRhs, parseRhs]; rfl
    · rw [parseUnary, parseUnary]; rfl
    · rw [parsePrimary, parsePrimary]; rfl
    · rw [parseCase, parseCase]; rfl
    · rw [parseList, parseList]; rfl
  | n + 1 =>
    have ih := morph_all τ n
    ⟨morph_expr ih, fun p l s hp => morph_rhs ih p l s hp, morph_unary ih, morph_primary ih, morph_case ih,
      fun c acc s hc hi => morph_list ih c acc s hc hi⟩

end Parse
end Sqlgrep
