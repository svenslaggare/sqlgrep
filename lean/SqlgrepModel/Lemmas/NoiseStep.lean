import SqlgrepModel.Lemmas.SelectRun
/-
Lines that yield no row (`anyResult row = false`, the engine's answer to them is `executeLine_noise`): the join
loader skips them.
-/
namespace Sqlgrep

theorem loadJoin_noise (j : JoinInfo) (lines : List Line) :
    loadJoin j lines = loadJoin j (lines.filter (fun l => anyResult l.row)) := by
  unfold loadJoin
  cases indexOf? j.joined.columns j.joinedColumn with
  | none => rfl
  | some ki => simp only [loadFold_eq_build, List.filter_filter, Bool.and_self]

/-- a physical line is noise when it is readable and yields no row -/
def isNoise (fl : FileLine) : Bool := fl.readable && !anyResult fl.line.row

/-- a file without its noise lines (unreadable lines stay: they are errors, not noise) -/
def denoise (fls : List FileLine) : List FileLine := fls.filter (fun fl => !isNoise fl)

/-- no unreadable line is noise -/
theorem denoise_any_unreadable (lines : List FileLine) :
    (denoise lines).any (fun fl => !fl.readable) = lines.any (fun fl => !fl.readable) := by
  rw [denoise, List.any_filter]
  congr 1
  funext fl
  cases hr : fl.readable <;> simp [isNoise, hr]

/-- of readable lines, the noise is what the loader's filter drops anyway -/
theorem denoise_rows (lines : List FileLine) (hall : ∀ fl ∈ lines, fl.readable = true) :
    ((denoise lines).map (·.line)).filter (fun l => anyResult l.row) = (lines.map (·.line)).filter (fun l => anyResult l.row) := by
  rw [denoise, List.filter_map, List.filter_map, List.filter_filter]
  congr 1
  refine List.filter_congr fun fl hfl => ?_
  simp [isNoise, hall fl hfl]

theorem loadJoinFile_noise (j : JoinInfo) (lines : List FileLine) :
    loadJoinFile j (denoise lines) = loadJoinFile j lines := by
  unfold loadJoinFile
  rw [denoise_any_unreadable]
  split
  · rfl
  · split
    · rfl
    · rename_i hbad
      have hall : ∀ fl ∈ lines, fl.readable = true := fun fl hfl => by
        cases hr : fl.readable with
        | true => rfl
        | false => exact absurd (List.any_eq_true.2 ⟨fl, hfl, by simp [hr]⟩) hbad
      rw [loadJoin_noise j (lines.map (·.line)), loadJoin_noise j ((denoise lines).map (·.line)), denoise_rows lines hall]

end Sqlgrep
