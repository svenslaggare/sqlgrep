import SqlgrepModel.Lemmas.Civil
/-!
The day number of the model's calendar (`Civil.daysFromCE`, chrono's `num_days_from_ce`) *counts days*:
0001-01-01 is day 1 and the day after any date of the proleptic Gregorian calendar (month lengths
`monthLen`, leap rule `isLeap`) has the next number.  Together with the leap rule (`CivilE.isLeap_iff` and `CivilE.isLeap_eq` of `Lemmas/CivilAgree.lean`, which this file does not
import; stated for `Civil.isLeap` as `Props/C03Time.leap_rule`) this is a specification of
`daysFromCE` that does not mention the closed formulas `daysBeforeYear` / `daysBeforeMonth` (audit item L17:
the cumulative table `daysBeforeMonth` was not tied to `monthLen`).
-/
namespace Sqlgrep
namespace Civil

/-- the calendar day after `(y, m, d)` -/
def nextDay (y : Int) (m d : Nat) : Int × Nat × Nat :=
  if d < monthLen y m then (y, m, d + 1)
  else if m < 12 then (y, m + 1, 1)
  else (y + 1, 1, 1)

theorem daysBeforeYear_one : daysBeforeYear 1 = 0 := by decide

theorem daysFromCE_origin : daysFromCE 1 1 1 = 1 := by decide

theorem daysFromCE_nextDay (y : Int) (m d : Nat) (hm : 1 ≤ m ∧ m ≤ 12) (hd : 1 ≤ d ∧ d ≤ monthLen y m) :
    daysFromCE (nextDay y m d).1 (nextDay y m d).2.1 (nextDay y m d).2.2 = daysFromCE y m d + 1 := by
  unfold nextDay
  by_cases h1 : d < monthLen y m
  · simp only [h1, if_true, daysFromCE]; omega
  · have hd' : d = monthLen y m := by omega
    by_cases h2 : m < 12
    · simp only [h1, h2, if_true, if_false, daysFromCE]
      rw [daysBeforeMonth_succ y m ⟨hm.1, h2⟩, hd']; omega
    · have hm' : m = 12 := by omega
      simp only [h1, h2, if_false, daysFromCE]
      rw [dby_succ, yearLen_eq_months, hd', hm', daysBeforeMonth_one]; omega

theorem monthLen_pos (y : Int) (m : Nat) (hm : 1 ≤ m ∧ m ≤ 12) : 1 ≤ monthLen y m := by
  unfold monthLen
  rcases CivilE.twelve m hm with h | h | h | h | h | h | h | h | h | h | h | h <;> subst h <;> cases isLeap y <;> decide

/-- the day after a valid date is a valid date (up to chrono's last year) -/
theorem nextDay_valid (y : Int) (m d : Nat) (h : validDate y m d = true) (hy : y < maxYear) :
    validDate (nextDay y m d).1 (nextDay y m d).2.1 (nextDay y m d).2.2 = true := by
  obtain ⟨hy', hm, hd⟩ := (validDate_iff y m d).1 h
  unfold nextDay
  by_cases h1 : d < monthLen y m
  · rw [if_pos h1]
    exact (validDate_iff y m (d + 1)).2 ⟨hy', hm, by omega⟩
  · by_cases h2 : m < 12
    · rw [if_neg h1, if_pos h2]
      exact (validDate_iff y (m + 1) 1).2 ⟨hy', by omega, Nat.le_refl 1, monthLen_pos y (m + 1) (by omega)⟩
    · rw [if_neg h1, if_neg h2]
      exact (validDate_iff (y + 1) 1 1).2 ⟨by omega, by decide, Nat.le_refl 1, monthLen_pos (y + 1) 1 (by decide)⟩

example : nextDay 2024 2 28 = (2024, 2, 29) ∧ nextDay 2023 2 28 = (2023, 3, 1) ∧ nextDay 1999 12 31 = (2000, 1, 1) := by decide

end Civil
end Sqlgrep
