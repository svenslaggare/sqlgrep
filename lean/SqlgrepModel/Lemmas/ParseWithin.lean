import SqlgrepModel.Lemmas.ParseBind
/-
Location half of C14: the parser's state always is a suffix of the token vector it was started on, and every error it
reports carries the location of one of those tokens (the current one, or one it saved earlier).

`s.Suffix toks` : `s.cur :: s.rest` is a suffix of `toks`.
`r.Within toks` : an `ok`/`err` result's state is a suffix of `toks`, and an error's location is a token location.
A function body in `bind` form (`Lemmas/ParseBind.lean`) is walked once with `Within.bind` as the sequence rule.
That the locations inside a returned tree are token locations too needs no walk: it follows from the parser's
equivariance under relabelling (`Lemmas/ParseFreeLoc.lean`).
-/
namespace Sqlgrep

def PSt.Suffix (s : PSt) (toks : List PTok) : Prop := (s.cur :: s.rest) <:+ toks

def TokLoc (toks : List PTok) (l : Loc) : Prop := l ∈ toks.map (·.loc)

def PRes.Within {α : Type} (r : PRes α) (toks : List PTok) : Prop :=
  (∀ a s', r = .ok a s' → s'.Suffix toks) ∧ (∀ e s', r = .err e s' → s'.Suffix toks ∧ TokLoc toks e.loc)

namespace Parse
variable {α β : Type} {toks : List PTok}

theorem suffix_loc {s : PSt} {toks : List PTok} (h : s.Suffix toks) : TokLoc toks s.cur.loc := by
  unfold PSt.Suffix at h
  unfold TokLoc
  have : s.cur ∈ toks := h.subset (by simp)
  exact List.mem_map_of_mem this

theorem within_err {α : Type} {e : PErr} {s : PSt} {toks} (hs : s.Suffix toks) (hl : TokLoc toks e.loc) :
    (PRes.err e s : PRes α).Within toks := by
  simp [PRes.Within, hs, hl]
theorem within_mkErr {α : Type} {k : PErrKind} {s : PSt} {toks} (hs : s.Suffix toks) :
    (mkErr s k : PRes α).Within toks := within_err hs (suffix_loc hs)
theorem within_ok {α : Type} {a : α} {s : PSt} {toks} (hs : s.Suffix toks) : (PRes.ok a s).Within toks := by
  simp [PRes.Within, hs]
theorem within_fuel {α : Type} {toks} : (PRes.fuel : PRes α).Within toks := by simp [PRes.Within]

end Parse

variable {α β : Type} {toks : List PTok}

theorem PRes.Within.bind {x : PRes α} {f : α → PSt → PRes β} (hx : x.Within toks)
    (hf : ∀ a s, s.Suffix toks → (f a s).Within toks) : (x.bind f).Within toks := by
  cases x with
  | ok a s => exact hf a s (hx.1 a s rfl)
  | err e s => exact Parse.within_err (hx.2 e s rfl).1 (hx.2 e s rfl).2
  | fuel => exact Parse.within_fuel

theorem PRes.Within.ite {c : Prop} [Decidable c] {x y : PRes α} (hx : x.Within toks) (hy : y.Within toks) :
    (if c then x else y).Within toks := by
  split <;> assumption

/-- the one place where the parser looks at the state a failed sub-parse left behind (`( expr`) -/
theorem PRes.Within.inspect {x : PRes PExpr} {fok : PExpr → PSt → PRes β}
    {ferr : PErr → PSt → PRes β} (hx : x.Within toks)
    (hok : ∀ a s, s.Suffix toks → (fok a s).Within toks)
    (herr : ∀ e s, s.Suffix toks → TokLoc toks e.loc → (ferr e s).Within toks) :
    (Parse.parsePrimary.match_1 (fun _ => PRes β) x (fun _ => .fuel) ferr fok).Within toks := by
  cases x with
  | ok a s => exact hok a s (hx.1 a s rfl)
  | err e s => exact herr e s (hx.2 e s rfl).1 (hx.2 e s rfl).2
  | fuel => exact Parse.within_fuel

namespace Parse

theorem next_within {s : PSt} {toks} (h : s.Suffix toks) : (next s).Within toks := by
  unfold next
  split
  · exact within_mkErr h
  · rename_i t r heq
    apply within_ok
    unfold PSt.Suffix at *
    simp only
    rw [heq] at h
    exact (List.suffix_cons _ _).trans h

theorem expectConsume_within {t k} {s : PSt} {toks} (h : s.Suffix toks) : (expectConsume t k s).Within toks := by
  unfold expectConsume
  split
  · exact next_within h
  · exact within_mkErr h

theorem expectConsumeOp_within {o} {s : PSt} {toks} (h : s.Suffix toks) : (expectConsumeOp o s).Within toks :=
  expectConsume_within h

theorem bind_ok_within {α β : Type} {x : PRes α} {b : β} {toks} (h : x.Within toks) :
    (x.bind (fun _ s => .ok b s)).Within toks := h.bind fun _ _ hs => within_ok hs

theorem consumeIdentifier_within {s : PSt} {toks} (h : s.Suffix toks) : (consumeIdentifier s).Within toks := by
  unfold consumeIdentifier
  split
  · exact bind_ok_within (next_within h)
  · exact within_mkErr h

theorem consumeString_within {s : PSt} {toks} (h : s.Suffix toks) : (consumeString s).Within toks := by
  unfold consumeString
  split
  · exact bind_ok_within (next_within h)
  · exact within_mkErr h

theorem consumeInt_within {s : PSt} {toks} (h : s.Suffix toks) : (consumeInt s).Within toks := by
  unfold consumeInt
  split
  · exact bind_ok_within (next_within h)
  · exact within_mkErr h

theorem tokenPrecedence_within {T} {s : PSt} {toks} (h : s.Suffix toks) : (tokenPrecedence T s).Within toks := by
  unfold tokenPrecedence
  split
  · split
    · exact within_ok h
    · exact within_mkErr h
  · exact within_ok h

theorem combine_err {l : Loc} {op : Tok} {a b : PExpr} {e : PErr} (h : combine l op a b = .error e) : e.loc = l := by
  unfold combine at h
  split at h
  all_goals (try split at h)
  all_goals (try split at h)
  all_goals (first | (cases h; rfl) | simp at h)

/-- `loc_walk f [ws]` unfolds `f`, brings its body into `bind` form and walks it, one rule per node: a `bind` by
the sequence rule (its continuation by `intro`), a call by its specification (`Within` of a primitive or one of `ws`),
a leaf by the rule for `ok`/`err`/`mkErr`, an `if` by `Within.ite`, a `match` on tokens by `split`.
What a rule leaves is a hypothesis (the state is a suffix) or the location of a token. The rules are tried by `apply`
at reducible transparency, so that one which does not fit the node fails at once. -/
macro "loc_walk " f:ident " [" ws:term,* "]" : tactic => `(tactic| (
  rw [$f:ident]
  simp only [parse_bind]
  repeat' first
  | with_reducible first
    | intro _ _ _ _
    | intro _ _ _
    | apply PRes.Within.bind
    | (first | apply next_within | apply expectConsume_within | apply consumeIdentifier_within
             | apply expectConsumeOp_within | apply consumeInt_within | apply consumeString_within
             $[| apply $ws]*
       assumption)
    | (apply within_ok; assumption)
    | (apply within_err <;> first | assumption | exact suffix_loc ‹_›)
    | (apply within_mkErr; assumption)
    | apply PRes.Within.ite
    | apply PRes.Within.inspect
  | split))

structure LocIH (T : PrecTables) (toks : List PTok) (fuel : Nat) : Prop where
  e : ∀ s, s.Suffix toks → (parseExpr T fuel s).Within toks
  r : ∀ prec lhs s, s.Suffix toks → (parseRhs T fuel prec lhs s).Within toks
  u : ∀ s, s.Suffix toks → (parseUnary T fuel s).Within toks
  p : ∀ s, s.Suffix toks → (parsePrimary T fuel s).Within toks
  c : ∀ loc cl s, s.Suffix toks → (parseCase T fuel loc cl s).Within toks
  l : ∀ close acc s, s.Suffix toks → (parseList T fuel close acc s).Within toks

theorem locIH_all (T : PrecTables) : ∀ fuel, LocIH T toks fuel := by
  intro fuel
  induction fuel with
  | zero =>
    constructor
    all_goals (intros; simp only [parseExpr, parseRhs, parseUnary, parsePrimary, parseCase, parseList]; exact within_fuel)
  | succ n ih =>
    refine ⟨?_, ?_, ?_, ?_, ?_, ?_⟩ <;> intros
    · loc_walk parseExpr [ih.u _, ih.r _ _ _]
    · loc_walk parseRhs [ih.e _, ih.r _ _ _, ih.u _, ih.l _ _ _, tokenPrecedence_within]
      -- left: an error of `combine` sits at the operator
      exact within_err ‹_› (combine_err ‹_› ▸ suffix_loc ‹_›)
    · loc_walk parseUnary [ih.r _ _ _, ih.u _, ih.p _]
    · loc_walk parsePrimary [ih.e _, ih.c _ _ _, ih.l _ _ _]
    · loc_walk parseCase [ih.e _, ih.c _ _ _]
    · loc_walk parseList [ih.e _, ih.l _ _ _]

end Parse
end Sqlgrep
