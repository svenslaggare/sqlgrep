import SqlgrepModel.Lemmas.LexNear
/-
The excerpt of `extract_near` is a piece of the located line: consecutive words of a line are separated by exactly one
whitespace character, so "previous word, space, word, space, next word" is a contiguous part of the line in which the
separating whitespace characters are shown as spaces.
-/
namespace Sqlgrep.Lex
open Sqlgrep

/-- `a` reads like `b`: equal, except that a whitespace character of `b` may be shown as a space -/
def SimChars (o : Oracles) : List Char → List Char → Prop
  | [], [] => True
  | x :: a, y :: b => (x = y ∨ (x = ' ' ∧ (o.info y).white = true)) ∧ SimChars o a b
  | _, _ => False

theorem SimChars.refl (o : Oracles) : ∀ a : List Char, SimChars o a a
  | [] => trivial
  | _ :: a => ⟨Or.inl rfl, SimChars.refl o a⟩

theorem SimChars.append (o : Oracles) : ∀ {a b c d : List Char}, SimChars o a b → SimChars o c d → SimChars o (a ++ c) (b ++ d)
  | [], [], _, _, _, h => h
  | _ :: a, _ :: b, _, _, h1, h2 => ⟨h1.1, SimChars.append o (a := a) (b := b) h1.2 h2⟩
  | [], _ :: _, _, _, h1, _ => h1.elim
  | _ :: _, [], _, _, h1, _ => h1.elim

def wordList (w : WordSt) : List (Nat × Nat) := if w.len > 0 then (w.start, w.len) :: w.words else w.words

theorem wordsOf_eq (o : Oracles) (line : List Char) : wordsOf o line = (wordList (line.foldl (wordStep o) {})).reverse := rfl

theorem wordsOf_links (o : Oracles) (line : List Char) (j : Nat) (a b : Nat × Nat)
    (ha : (wordsOf o line)[j]? = some a) (hb : (wordsOf o line)[j + 1]? = some b) : Link o line a b := by
  have h := wordsOf_linv o line
  rw [wordsOf_eq] at ha hb
  generalize line.foldl (wordStep o) {} = w at h ha hb
  have hlinks : ∀ j a b, (wordList w)[j + 1]? = some a → (wordList w)[j]? = some b → Link o line a b := by
    intro j a b h1 h2
    unfold wordList at h1 h2
    by_cases hlen : w.len > 0
    · simp only [hlen, if_true] at h1 h2
      cases j with
      | zero =>
        simp only [List.getElem?_cons_zero, Option.some.injEq] at h2
        simp only [Nat.zero_add, List.getElem?_cons_succ] at h1
        subst h2
        exact h.head a h1
      | succ j =>
        simp only [List.getElem?_cons_succ] at h1 h2
        exact h.links j a b h1 h2
    · simp only [hlen, if_false] at h1 h2
      exact h.links j a b h1 h2
  generalize wordList w = L at ha hb hlinks
  have hj1 : j + 1 < L.length := by
    have := (List.getElem?_eq_some_iff.mp hb).1
    simpa using this
  rw [List.getElem?_reverse (by omega)] at ha
  rw [List.getElem?_reverse hj1] at hb
  have e : L.length - 1 - j = (L.length - 1 - (j + 1)) + 1 := by omega
  rw [e] at ha
  exact hlinks _ a b ha hb

theorem slice_join (line : List Char) (s a b : Nat) (c : Char) (hc : line[s + a]? = some c) :
    (line.drop s).take (a + 1 + b) = (line.drop s).take a ++ c :: (line.drop (s + a + 1)).take b := by
  rw [List.take_add, List.take_add_one, List.getElem?_drop, hc, List.drop_drop, Nat.add_assoc]
  simp

theorem SimChars.space (o : Oracles) {c : Char} (hc : (o.info c).white = true) {a b : List Char} (h : SimChars o a b) :
    SimChars o (' ' :: a) (c :: b) := ⟨Or.inr ⟨rfl, hc⟩, h⟩

def IsPiece (o : Oracles) (line s : List Char) : Prop :=
  ∃ off len, off + len ≤ line.length ∧ SimChars o s ((line.drop off).take len)

theorem excerpt_piece (o : Oracles) (line : List Char) (i : Nat) (w : Nat × Nat) (s : List Char)
    (hw : (wordsOf o line)[i]? = some w) (he : excerpt line (wordsOf o line) i w = .text s) : IsPiece o line s := by
  have hb := wordsOf_bounds o line
  have hbw : w.1 + w.2 ≤ line.length := hb w (List.mem_of_getElem? hw)
  unfold excerpt at he
  rw [getSubstr_some line w hbw] at he
  have hprev : prevPart line (wordsOf o line) i = some [] ∨
      ∃ p, Link o line p w ∧ p.1 + p.2 ≤ line.length ∧
        prevPart line (wordsOf o line) i = some ((line.drop p.1).take p.2 ++ [' ']) :=
    (prevPart_cases line _ i hb).imp id fun ⟨p, hi, hp, h⟩ =>
      ⟨p, wordsOf_links o line (i - 1) p w hp (by rw [Nat.sub_add_cancel hi]; exact hw), hb p (List.mem_of_getElem? hp), h⟩
  have hnext : nextPart line (wordsOf o line) i = some [] ∨
      ∃ n, Link o line w n ∧ n.1 + n.2 ≤ line.length ∧
        nextPart line (wordsOf o line) i = some (' ' :: (line.drop n.1).take n.2) :=
    (nextPart_cases line _ i hb).imp id fun ⟨n, hn, h⟩ =>
      ⟨n, wordsOf_links o line i w n hw hn, hb n (List.mem_of_getElem? hn), h⟩
  rcases hprev with hp | ⟨p, ⟨hp1, c1, hc1, hw1⟩, hbp, hp⟩ <;> rcases hnext with hn | ⟨n, ⟨hn1, c2, hc2, hw2⟩, hbn, hn⟩ <;>
    rw [hp, hn] at he <;> simp only [Near.text.injEq] at he <;> subst he
  · exact ⟨w.1, w.2, hbw, by simpa using SimChars.refl o _⟩
  · refine ⟨w.1, w.2 + 1 + n.2, by omega, ?_⟩
    rw [slice_join line w.1 w.2 n.2 c2 hc2, ← hn1]
    simpa using SimChars.append o (SimChars.refl o _) (SimChars.space o hw2 (SimChars.refl o _))
  · refine ⟨p.1, p.2 + 1 + w.2, by omega, ?_⟩
    rw [slice_join line p.1 p.2 w.2 c1 hc1, ← hp1]
    simpa using SimChars.append o (SimChars.refl o _) (SimChars.space o hw1 (SimChars.refl o _))
  · refine ⟨p.1, p.2 + 1 + (w.2 + 1 + n.2), by omega, ?_⟩
    rw [slice_join line p.1 p.2 _ c1 hc1, ← hp1, slice_join line w.1 w.2 n.2 c2 hc2, ← hn1]
    simpa using SimChars.append o (SimChars.refl o _)
      (SimChars.space o hw1 (SimChars.append o (SimChars.refl o _) (SimChars.space o hw2 (SimChars.refl o _))))

theorem nearFrom_piece (o : Oracles) (line : List Char) (col : Nat) (s : List Char) : ∀ (rest : List (Nat × Nat)) (i : Nat),
    (∀ k w, rest[k]? = some w → (wordsOf o line)[i + k]? = some w) →
    nearFrom line col (wordsOf o line) i rest = .text s → IsPiece o line s := by
  intro rest
  induction rest with
  | nil =>
    intro i _ h
    simp only [nearFrom, Near.text.injEq] at h
    subst h
    exact ⟨0, 0, Nat.zero_le _, by simp [SimChars]⟩
  | cons w rest ih =>
    intro i hidx h
    unfold nearFrom at h
    split at h
    · exact excerpt_piece o line i w s (by simpa using hidx 0 w rfl) h
    · exact ih (i + 1) (fun k x hx => by
        have := hidx (k + 1) x (by simpa using hx)
        rwa [show i + (k + 1) = i + 1 + k by omega] at this) h

/-- **the excerpt is a piece of the located line** (whitespace characters inside it shown as spaces) -/
theorem extractNear_piece (o : Oracles) (loc : Loc) (text line s : List Char) (hl : (lines text)[loc.line]? = some line)
    (h : extractNear o loc text = .text s) : IsPiece o line s := by
  unfold extractNear at h
  rw [hl] at h
  exact nearFrom_piece o line loc.column s _ 0 (fun k w hk => by simpa using hk) h

end Sqlgrep.Lex
