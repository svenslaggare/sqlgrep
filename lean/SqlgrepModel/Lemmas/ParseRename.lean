import SqlgrepModel.Lemmas.ParseMorph
/-
Relabelling the tokens is a morphism of the parser's input (`Morph.relabel`: `PSt.relabelAll ℓ ρ`, nothing opaque), so
the expression parser run on the token vector in which every location `l` is replaced by `ℓ l` and every identifier
token `n` by `ρ n` gives the same answer with every location and every name of the tree changed alike (`relabel_all`;
type names never reach the tree, `x::INT` and `x::int` are the same node). Respelling alone (`ℓ = id`: `PSt.ren`,
`PExpr.renAll`, `ren_all`) is read off here, erasing the locations alone (`ρ = id`) in `Lemmas/ParseLoc.lean`.
-/
namespace Sqlgrep
namespace Parse
variable {α β : Type} {ℓ : Loc → Loc} {ρ : List Char → List Char}

@[reducible] def Morph.relabel {T : PrecTables} (ℓ : Loc → Loc) {ρ : List Char → List Char} (hρ : NameMap ρ)
    (hT : ∀ n, lookupTok T.other (.ident (ρ n)) = lookupTok T.other (.ident n)) : Morph T where
  g := PSt.relabelAll ℓ ρ
  ℓ := ℓ
  ρ := ρ
  Opq := fun _ => False
  Lvl := fun _ => True
  names := hρ
  identPrec := hT
  opq_boundary := fun _ h => h.elim
  opq_prec := fun _ h => h.elim
  lvl_zero := trivial
  lvl_up := fun _ _ _ _ => trivial
  lvl_stop := fun _ _ _ h => h.elim
  loc := fun _ => rfl
  tok := fun _ _ => rfl
  opq := fun _ h => h
  next := fun s _ => next_relabel s

structure RelabelIH (ℓ : Loc → Loc) (ρ : List Char → List Char) (T : PrecTables) (n : Nat) : Prop where
  e : ∀ s, (parseExpr T n s).relabelAll ℓ ρ (PExpr.mapAll ℓ ρ ρ) = parseExpr T n (s.relabelAll ℓ ρ)
  r : ∀ p l s, (parseRhs T n p l s).relabelAll ℓ ρ (PExpr.mapAll ℓ ρ ρ) = parseRhs T n p (l.mapAll ℓ ρ ρ) (s.relabelAll ℓ ρ)
  u : ∀ s, (parseUnary T n s).relabelAll ℓ ρ (PExpr.mapAll ℓ ρ ρ) = parseUnary T n (s.relabelAll ℓ ρ)
  p : ∀ s, (parsePrimary T n s).relabelAll ℓ ρ (PExpr.mapAll ℓ ρ ρ) = parsePrimary T n (s.relabelAll ℓ ρ)
  c : ∀ loc cl s, (parseCase T n loc cl s).relabelAll ℓ ρ (PExpr.mapAll ℓ ρ ρ) =
    parseCase T n (ℓ loc) (PExpr.mapAllClauses ℓ ρ ρ cl) (s.relabelAll ℓ ρ)
  l : ∀ c acc s, (∀ t : Tok, (t.ren ρ = c) = (t = c)) → (parseList T n c acc s).relabelAll ℓ ρ (PExpr.mapAllList ℓ ρ ρ) =
    parseList T n c (PExpr.mapAllList ℓ ρ ρ acc) (s.relabelAll ℓ ρ)

theorem relabel_all {T : PrecTables} (hρ : NameMap ρ) (hT : ∀ n, lookupTok T.other (.ident (ρ n)) = lookupTok T.other (.ident n))
    (n : Nat) : RelabelIH ℓ ρ T n :=
  have h := morph_all (Morph.relabel ℓ hρ hT) n
  ⟨h.e, fun p l s => h.r p l s trivial, h.u, h.p, h.c, fun c acc s hc => h.l c acc s id hc⟩

theorem relabel_id_ren (f : α → α) (x : PRes α) : x.relabelAll id ρ f = x.ren ρ f := by cases x <;> rfl

section
variable (ρ)

theorem next_ren (s : PSt) : next (s.ren ρ) = (next s).ren ρ id :=
  (next_relabel (ℓ := id) s).symm.trans (relabel_id_ren ..)

theorem mkErr_ren {α} (s : PSt) (k : PErrKind) (f : α → α) (hk : k.ren ρ = k) :
    (mkErr (s.ren ρ) k : PRes α) = (mkErr s k).ren ρ f := by
  simp only [mkErr, PRes.ren, PErr.ren, hk]; rfl

theorem expectConsume_ren (t : Tok) (k : PErrKind) (s : PSt) (ht : ∀ n, t ≠ .ident n) (hk : k.ren ρ = k) :
    expectConsume t k (s.ren ρ) = (expectConsume t k s).ren ρ id := by
  unfold expectConsume
  simp only [ren_cur_tok, tok_ren_eq ρ (isIdent_eq_false ht)]
  split
  · exact next_ren ρ s
  · exact mkErr_ren ρ s k id hk

/-- a primitive that returns the payload of the current token, respelled by `f`, behind `next` -/
theorem bind_next_ren {α : Type} (f : α → α) (a : α) (s : PSt) :
    (next (s.ren ρ)).bind (fun _ s => .ok (f a) s) = ((next s).bind fun _ s => .ok a s).ren ρ f := by
  rw [next_ren]; cases next s <;> rfl

theorem consumeIdentifier_ren (s : PSt) : consumeIdentifier (s.ren ρ) = (consumeIdentifier s).ren ρ ρ := by
  unfold consumeIdentifier
  rw [ren_cur_tok]
  cases s.cur.tok <;> first | rfl | exact bind_next_ren ρ ρ _ s

end

theorem consumeString_ren (s : PSt) : consumeString (s.ren ρ) = (consumeString s).ren ρ id := by
  unfold consumeString
  rw [ren_cur_tok]
  cases s.cur.tok <;> first | rfl | exact bind_next_ren ρ id _ s

theorem consumeInt_ren (s : PSt) : consumeInt (s.ren ρ) = (consumeInt s).ren ρ id := by
  unfold consumeInt
  rw [ren_cur_tok]
  cases s.cur.tok <;> first | rfl | exact bind_next_ren ρ id _ s

variable (T)

theorem ren_all (hρ : NameMap ρ) (hT : NoIdentOps T) (n : Nat) :
    (∀ s, parseExpr T n (s.ren ρ) = (parseExpr T n s).ren ρ (PExpr.renAll ρ)) ∧
    (∀ p l s, parseRhs T n p (l.renAll ρ) (s.ren ρ) = (parseRhs T n p l s).ren ρ (PExpr.renAll ρ)) ∧
    (∀ s, parseUnary T n (s.ren ρ) = (parseUnary T n s).ren ρ (PExpr.renAll ρ)) ∧
    (∀ s, parsePrimary T n (s.ren ρ) = (parsePrimary T n s).ren ρ (PExpr.renAll ρ)) ∧
    (∀ loc cl s, parseCase T n loc (PExpr.renAllClauses ρ cl) (s.ren ρ) =
      (parseCase T n loc cl s).ren ρ (PExpr.renAll ρ)) ∧
    (∀ c acc s, (∀ i, c ≠ .ident i) → parseList T n c (PExpr.renAllList ρ acc) (s.ren ρ) =
      (parseList T n c acc s).ren ρ (PExpr.renAllList ρ)) := by
  have h : RelabelIH id ρ T n := relabel_all hρ (fun i => (hT _).trans (hT i).symm) n
  obtain ⟨he, hr, hu, hp, hc, hl⟩ := h
  rw [← funext (PExpr.renAll_eq_mapAll ρ).1] at he hr hu hp hc
  rw [← funext (PExpr.renAll_eq_mapAll ρ).2.2] at hc
  rw [← funext (PExpr.renAll_eq_mapAll ρ).2.1] at hl
  exact ⟨fun s => ((he s).symm.trans (relabel_id_ren _ _)), fun p l s => (hr p l s).symm.trans (relabel_id_ren _ _),
    fun s => (hu s).symm.trans (relabel_id_ren _ _), fun s => (hp s).symm.trans (relabel_id_ren _ _),
    fun loc cl s => (hc loc cl s).symm.trans (relabel_id_ren _ _),
    fun c acc s hc => (hl c acc s (tok_ren_eq ρ (isIdent_eq_false hc))).symm.trans (relabel_id_ren _ _)⟩

end Parse
end Sqlgrep
