import SqlgrepModel.Lemmas.NoPanic
import SqlgrepModel.Lemmas.ExecT
import SqlgrepModel.Lemmas.EnumFrom
import SqlgrepModel.Lemmas.Folds
import SqlgrepModel.Lemmas.AggColumns
/-
Statement-level totality (property C09): a whole batch run stops abnormally only where a function call does
(`runBatch_faults`); in particular it never takes a panic outcome.

The engines have two panic sites that data could reach in principle: in `execute_result` the select-list item
`GroupKey(column)` is read with `group_key_mapping[&hash]` and `group_key.0[index]` — both panic when the key
part is not a GROUP BY part or the stored key is too short. They are unreachable: a group exists only after an
update that went through every select-list item, and the update of a `GroupKey` item *validates* it against
the GROUP BY list (`validate_group_key`), and every stored key has one value per GROUP BY part. This file proves
that invariant, then walks the engines and the executor once (`Outcome.FaultsIn`): a panic needs a broken invariant, a
missing fact comes out of `eval`.
-/
namespace Sqlgrep.NoPanicEngine
open Sqlgrep
open Sqlgrep.Outcome (bind_eq_ok)

def keyLen (q : AggStmt) : Nat :=
  match q.groupBy with
  | some parts => parts.length
  | none => 1

/-- every `GroupKey` item of the select list names a GROUP BY part -/
def GoodKeys (q : AggStmt) : Prop :=
  ∀ item ∈ q.items, ∀ e canon, item.kind = .groupKey e canon → validateGroupKey q canon = .ok ()

def KeysLen {α : Type} (n : Nat) (m : GroupMap α) : Prop := ∀ g ∈ m, g.1.length = n

structure Inv (q : AggStmt) (st : AggState) : Prop where
  vals : KeysLen (keyLen q) st.vals
  aggs : KeysLen (keyLen q) st.aggs
  good : (st.vals ≠ [] ∨ st.aggs ≠ []) → GoodKeys q

theorem Inv.init (q : AggStmt) : Inv q {} :=
  ⟨fun _ h => (by cases h), fun _ h => (by cases h), fun h => (by rcases h with h | h <;> exact absurd rfl h)⟩

theorem KeysLen.modify {α : Type} {n : Nat} {m : GroupMap α} (h : KeysLen n m) (k : List Value) (hk : k.length = n)
    (f : List (Nat × α) → List (Nat × α)) : KeysLen n (gmModify m k f) := by
  induction m with
  | nil => exact List.forall_mem_cons.2 ⟨hk, nofun⟩
  | cons p r ih =>
    obtain ⟨hp, hr⟩ := List.forall_mem_cons.1 h
    unfold gmModify
    split
    · exact List.forall_mem_cons.2 ⟨hk, h⟩
    · exact List.forall_mem_cons.2 ⟨hp, hr⟩
    · exact List.forall_mem_cons.2 ⟨hp, ih hr⟩

theorem gmModify_ne_nil {α : Type} (m : GroupMap α) (k : List Value) (f : List (Nat × α) → List (Nat × α)) :
    gmModify m k f ≠ [] := by
  cases m with
  | nil => simp [gmModify]
  | cons p r =>
    unfold gmModify
    cases Value.cmpList k p.1 <;> simp

theorem writeCell_inv {q : AggStmt} {st : AggState} (h : Inv q st) (hg : GoodKeys q) (key : List Value)
    (hk : key.length = keyLen q) (idx : Nat) (c : Cell) : Inv q (writeCell st key idx c) := by
  unfold writeCell
  cases c.agg <;> cases c.val <;> simp only [setAgg, setVal, gmSet]
  · exact h
  · exact ⟨h.vals.modify key hk _, h.aggs, fun _ => hg⟩
  · exact ⟨h.vals, h.aggs.modify key hk _, fun _ => hg⟩
  · exact ⟨h.vals.modify key hk _, h.aggs.modify key hk _, fun _ => hg⟩

theorem updateAggregate_ok {O : Oracles} {q : AggStmt} {env : Env} {key : List Value} {idx : Nat} {k : AggKind}
    {st st' : AggState} (h : updateAggregate O q env key idx k st = .ok st') :
    (∃ c, st' = writeCell st key idx c) ∧ (∀ e canon, k = .groupKey e canon → validateGroupKey q canon = .ok ()) := by
  unfold updateAggregate at h
  obtain ⟨c, hc, h2⟩ := bind_eq_ok h
  refine ⟨⟨c, ?_⟩, ?_⟩
  · simp only [pure, Outcome.ok.injEq] at h2; exact h2.symm
  · intro e canon hk
    subst hk
    unfold cellStep at hc
    obtain ⟨u, hu, _⟩ := bind_eq_ok hc
    cases u; exact hu

theorem updateAggregates_validated {O : Oracles} {q : AggStmt} {env : Env} {key : List Value} {l : List (Nat × AggKind)}
    {st st' : AggState} (h : updateAggregates O q env key l st = .ok st') :
    ∀ p ∈ l, ∀ e canon, p.2 = .groupKey e canon → validateGroupKey q canon = .ok () := by
  induction l generalizing st with
  | nil => intro p hp; cases hp
  | cons p0 rest ih =>
    obtain ⟨i, k⟩ := p0
    unfold updateAggregates at h
    obtain ⟨s1, h1, h2⟩ := bind_eq_ok h
    intro p hp e canon hk
    rcases List.mem_cons.1 hp with e0 | hp
    · subst e0; exact (updateAggregate_ok h1).2 e canon hk
    · exact ih h2 p hp e canon hk

theorem updateAggregates_inv {O : Oracles} {q : AggStmt} {env : Env} {key : List Value} {l : List (Nat × AggKind)}
    {st st' : AggState} (h : updateAggregates O q env key l st = .ok st') (hg : GoodKeys q)
    (hk : key.length = keyLen q) (hi : Inv q st) : Inv q st' := by
  rw [updateAggregates_eq_foldlM] at h
  refine Outcome.foldlM_inv (Inv q) (fun p _ s s' hs h1 => ?_) h hi
  obtain ⟨c, hc⟩ := (updateAggregate_ok h1).1
  exact hc ▸ writeCell_inv hs hg key hk p.1 c

theorem havingUpdates_inv {O : Oracles} {q : AggStmt} {env : Env} {key : List Value} {l : List HavingRef} {j : Nat}
    {st st' : AggState} (h : havingUpdates O q env key l j st = .ok st') (hg : GoodKeys q)
    (hk : key.length = keyLen q) (hi : Inv q st) : Inv q st' := by
  induction l generalizing st j with
  | nil => simp only [havingUpdates, Outcome.ok.injEq] at h; rw [← h]; exact hi
  | cons r rest ih =>
    cases r with
    | key canon =>
      unfold havingUpdates at h
      obtain ⟨_, _, h2⟩ := bind_eq_ok h
      exact ih h2 hi
    | agg id kind =>
      unfold havingUpdates at h
      obtain ⟨s1, h1, h2⟩ := bind_eq_ok h
      obtain ⟨c, hc⟩ := (updateAggregate_ok h1).1
      exact ih h2 (hc ▸ writeCell_inv hi hg key hk _ c)

theorem aggUpdateRow_inv {O : Oracles} {q : AggStmt} {st st' : AggState} {env : Env} {u : Bool}
    (h : aggUpdateRow O q st env = .ok (st', u)) (hi : Inv q st) : Inv q st' := by
  unfold aggUpdateRow at h
  obtain ⟨valid, _, h⟩ := bind_eq_ok h
  split at h
  · cases h; exact hi
  · obtain ⟨key, hkey, h⟩ := bind_eq_ok h
    obtain ⟨s1, h1, h⟩ := bind_eq_ok h
    obtain ⟨s2, h2, h⟩ := bind_eq_ok h
    cases h
    have hk : key.length = keyLen q := by
      unfold keyLen
      split at hkey
      · rw [‹q.groupBy = _›, evalList_length hkey, List.length_map]
      · cases hkey; rw [‹q.groupBy = _›]; rfl
    have hg : GoodKeys q := by
      intro item hitem e canon hkind
      obtain ⟨i, hi'⟩ := enumFrom_exists _ 0 _ (List.mem_map.2 ⟨item, hitem, rfl⟩ : item.kind ∈ q.items.map (·.kind))
      exact updateAggregates_validated h1 _ hi' e canon hkind
    have i1 := updateAggregates_inv h1 hg hk hi
    split at h2
    · exact havingUpdates_inv h2 hg hk i1
    · cases h2; exact i1

theorem setVal_inv {q : AggStmt} {st : AggState} (h : Inv q st) (hg : GoodKeys q) (key : List Value)
    (hk : key.length = keyLen q) (idx : Nat) (v : Value) : Inv q (setVal st key idx v) :=
  ⟨h.vals.modify key hk _, h.aggs, fun _ => hg⟩

theorem publish_inv {q : AggStmt} {st : AggState} (h : Inv q st) : Inv q (publishPercentiles st) := by
  unfold publishPercentiles
  refine List.foldlRecOn _ _ h fun acc hacc g hg => ?_
  obtain ⟨key, subs⟩ := g
  refine List.foldlRecOn _ _ hacc fun acc hacc y _ => ?_
  obtain ⟨idx, a⟩ := y
  have hg' := h.good (Or.inr (List.ne_nil_of_mem hg))
  dsimp only
  split
  · split
    · exact setVal_inv hacc hg' key (h.aggs _ hg) idx _
    · exact hacc
  · exact hacc

theorem mappingGet_some {cs : List String} {canon : String} (h : cs.any (· == canon) = true) :
    ∃ i, mappingGet ((enumFrom 0 cs).map (fun (p : Nat × String) => (p.2, p.1))) canon = some i ∧ i < cs.length := by
  obtain ⟨c, hc, he⟩ := List.any_eq_true.1 h
  obtain ⟨i, hi⟩ := enumFrom_exists _ 0 _ hc
  unfold mappingGet
  cases hf : ((enumFrom 0 cs).map (fun (p : Nat × String) => (p.2, p.1))).reverse.find? (·.1 == canon) with
  | none =>
    exact absurd he (List.find?_eq_none.1 hf (c, i) (List.mem_reverse.2 (List.mem_map.2 ⟨(i, c), hi, rfl⟩)))
  | some x =>
    obtain ⟨p, hp, rfl⟩ := List.mem_map.1 (List.mem_reverse.1 (List.mem_of_find?_eq_some hf))
    exact ⟨p.1, rfl, by simpa using enumFrom_lt hp⟩

/-- under the invariant the two lookups of a `GroupKey` cell succeed -/
theorem groupKey_lookup {q : AggStmt} {item : AggItem} {key : List Value} {e : Expr} {canon : String}
    (hitem : item ∈ q.items) (hg : GoodKeys q) (hk : key.length = keyLen q) (hkind : item.kind = .groupKey e canon) :
    ∃ i v, mappingGet (keyMapping q) canon = some i ∧ key[i]? = some v := by
  have hv := hg item hitem e canon hkind
  unfold validateGroupKey at hv
  cases hgb : q.groupBy with
  | none => rw [hgb] at hv; cases hv
  | some parts =>
    rw [hgb] at hv
    simp only at hv
    by_cases hany : parts.any (·.2 == canon) = true
    · have hany' : (parts.map (·.2)).any (· == canon) = true := by
        rw [List.any_map]; exact hany
      obtain ⟨i, hi, h2⟩ := mappingGet_some hany'
      have hlt : i < key.length := by
        rw [hk]; unfold keyLen; rw [hgb]; simpa using h2
      refine ⟨i, key[i], ?_, List.getElem?_eq_getElem hlt⟩
      unfold keyMapping; rw [hgb]; exact hi
    · simp [hany] at hv

theorem mem_enumFrom {α : Type} {l : List α} {n i : Nat} {x : α} (h : (i, x) ∈ enumFrom n l) : x ∈ l :=
  enumFrom_mem_snd l n i x h

theorem items_enum (q : AggStmt) : ∀ p ∈ enumFrom 0 q.items, p.2 ∈ q.items := fun p hp => enumFrom_mem_snd _ _ p.1 _ (by cases p; exact hp)

theorem aggResult_inv {O : Oracles} {q : AggStmt} {st st' : AggState} {out : RowOut}
    (h : aggResult O q st = .ok (st', out)) (hi : Inv q st) : Inv q st' := by
  unfold aggResult at h
  simp only at h
  obtain ⟨_, _, h⟩ := bind_eq_ok h
  obtain ⟨_, _, h⟩ := bind_eq_ok h
  simp only [pure, Outcome.ok.injEq, Prod.mk.injEq] at h
  rw [← h.1]; exact publish_inv hi

theorem aggEnvs_inv {O : Oracles} {q : AggStmt} {envs : List (Env × List String)} {st st' : AggState} {any u : Bool}
    (h : aggEnvs O q envs st any = .ok (st', u)) (hi : Inv q st) : Inv q st' := by
  rw [aggEnvs_eq_foldlM] at h
  refine Outcome.foldlM_inv (fun p : AggState × Bool => Inv q p.1) (fun e _ s s' hs h1 => ?_) h hi
  obtain ⟨r, hr, h1⟩ := Outcome.bind_eq_ok h1
  exact Outcome.ok.inj h1 ▸ aggUpdateRow_inv hr hs

def EInv (qy : Query) (es : EngineState) : Prop :=
  match qy.stmt with
  | .aggregate q => Inv q es.agg
  | .select _ => True

theorem EInv.init (qy : Query) : EInv qy {} := by
  unfold EInv; split
  · exact Inv.init _
  · trivial

theorem executeLine_inv {O : Oracles} {qy : Query} {idx : JoinIndex} {w : Bool} {es es' : EngineState} {l : Line} {lo : LineOut}
    (h : executeLine O qy idx w es l = .ok (es', lo)) (hi : EInv qy es) : EInv qy es' := by
  unfold EInv at hi ⊢
  unfold executeLine at h
  split at h
  · rename_i hq; rw [hq]; trivial
  · rename_i q hq
    rw [hq] at hi ⊢
    dsimp only
    split at h
    · split at h <;> cases h <;> exact hi
    · obtain ⟨envs, _, h⟩ := bind_eq_ok h
      split at h
      · obtain ⟨⟨s1, u⟩, hagg, h⟩ := bind_eq_ok h
        have i1 := aggEnvs_inv hagg hi
        dsimp only at h
        split at h
        · obtain ⟨⟨s2, out⟩, hres, h⟩ := bind_eq_ok h
          cases h; exact aggResult_inv hres i1
        · cases h; exact i1
      · obtain ⟨⟨s1, u⟩, hagg, h⟩ := bind_eq_ok h
        cases h; exact aggEnvs_inv hagg hi

theorem Inv.groups {q : AggStmt} {st : AggState} (h : Inv q st) :
    ∀ g ∈ st.vals, GoodKeys q ∧ g.1.length = keyLen q :=
  fun g hg => ⟨h.good (Or.inl (List.ne_nil_of_mem hg)), h.vals g hg⟩

section
variable {P M : String → Prop}

theorem validateGroupKey_faults (q : AggStmt) (canon : String) : (validateGroupKey q canon).FaultsIn P M := by
  dsimp only [validateGroupKey]; branches

theorem addToSum_faults (s v : Value) : (addToSum s v).FaultsIn P M := by
  dsimp only [addToSum]; branches

theorem squareOf_faults (v : Value) : (squareOf v).FaultsIn P M := by
  dsimp only [squareOf]; branches

theorem aggUpdate_faults (a : Aggregator) (v : Value) : (aggUpdate a v).FaultsIn P M := by
  cases a with
  | sum s => exact .bind (addToSum_faults ..) fun _ _ => trivial
  | avg s c => exact .bind (addToSum_faults ..) fun _ _ => trivial
  | stddev s q c isVar =>
    exact .bind (squareOf_faults _) fun _ _ => .bind (addToSum_faults ..) fun _ _ => .bind (addToSum_faults ..) fun _ _ => trivial
  | percentile vals p => trivial
  | boolAnd cur => cases v <;> trivial
  | boolOr cur => cases v <;> trivial
  | countDistinct seen => exact .ite (fun _ => trivial) fun _ => trivial

theorem lineEnvs_faults (qy : Query) (idx : JoinIndex) (b : Bool) (l : Line) : (lineEnvs qy idx b l).FaultsIn P M := by
  dsimp only [lineEnvs]; branches

theorem setupJoin_faults (t : TableInfo) (j : JoinInfo) (lines : List FileLine) :
    (setupJoin t j (loadJoinFile j lines)).FaultsIn P M := by
  dsimp only [setupJoin, loadJoinFile, loadJoin]; branches

theorem resultRows_faults {O : Oracles} {q : AggStmt} {groups : GroupMap Value}
    (hcell : ∀ g ∈ groups, ∀ p ∈ enumFrom 0 q.items, (cellOf O q p.1 p.2 g.1 g.2).FaultsIn P M)
    (hacc : ∀ g ∈ groups, ∀ e, q.having = some e → (acceptGroup O q e g.1 g.2).FaultsIn P M) (seen : List (List Value)) :
    (resultRows O q groups seen).FaultsIn P M := by
  rw [resultRows_eq_seq]
  refine .bind (Outcome.seq_map_faults fun g hg => ?_) fun _ _ => trivial
  refine .bind (rowOf_eq_seq O q .. ▸ Outcome.seq_map_faults (hcell g hg)) fun _ _ => .bind ?_ fun _ _ => trivial
  unfold havingOk
  split
  · exact hacc g hg _ ‹_›
  · trivial

end

section
variable {P M : String → Prop} (O : Oracles) (ok : Func → Bool)
  (hc : ∀ f, ok f = true → ∀ args, (callFunction O f args).FaultsIn P M)
include hc

/-- WHERE, as `selectOne` and `aggUpdateRow` evaluate it -/
theorem filter_faults (env : Env) (f : Option Expr) : optAllFuncs ok f = true →
    (match f with
      | some f => do
        let v ← eval O env f
        condHolds v
      | none => pure true : Outcome Bool).FaultsIn P M := by
  intro h
  cases f with
  | none => trivial
  | some e => exact .bind (eval_faults O ok hc env e h) fun _ _ => condHolds_faults _

theorem cellStep_faults (q : AggStmt) (env : Env) (k : AggKind) (c : Cell) (h : k.allFuncs ok = true) :
    (cellStep O q env k c).FaultsIn P M := by
  have he : ∀ e, e.allFuncs ok = true → (eval O env e).FaultsIn P M := eval_faults O ok hc env
  cases k with
  | groupKey e canon => exact .bind (validateGroupKey_faults ..) fun _ _ => trivial
  | count col distinct =>
    dsimp only [cellStep]
    refine .ite (fun _ => trivial) fun _ => .bind (by branches) fun p _ => .bind ?_ fun p' _ => by branches
    exact .ite (fun _ => .bind (aggUpdate_faults ..) fun _ _ => trivial) fun _ => trivial
  | min e | max e =>
    exact .bind (he e h) fun _ _ => .ite (fun _ => trivial) fun _ => trivial
  | sum e | avg e | stddev e _ | percentile e _ | boolAnd e | boolOr e =>
    refine .bind (he e h) fun _ _ => .ite (fun _ => .bind (aggUpdate_faults ..) fun r _ => ?_) fun _ =>
      .ite (fun _ => trivial) fun _ => trivial
    branches
  | arrayAgg e => exact .bind (he e h) fun _ _ => by branches
  | stringAgg e delim => exact .bind (he e h) fun _ _ => by branches

theorem updateAggregate_faults (q : AggStmt) (env : Env) (key : List Value) (idx : Nat) (k : AggKind) (st : AggState)
    (h : k.allFuncs ok = true) : (updateAggregate O q env key idx k st).FaultsIn P M :=
  .bind (cellStep_faults O ok hc q env k _ h) fun _ _ => trivial

theorem havingUpdates_faults (q : AggStmt) (env : Env) (key : List Value) (l : List HavingRef) (j : Nat) (st : AggState)
    (h : l.all (·.allFuncs ok) = true) : (havingUpdates O q env key l j st).FaultsIn P M := by
  induction l generalizing st j with
  | nil => trivial
  | cons r rest ih =>
    simp only [List.all_cons, Bool.and_eq_true] at h
    cases r with
    | key canon => exact .bind (validateGroupKey_faults ..) fun _ _ => ih _ _ h.2
    | agg id kind => exact .bind (updateAggregate_faults O ok hc _ _ _ _ _ _ h.1) fun _ _ => ih _ _ h.2

omit hc in
theorem items_ok' (q : AggStmt) (h : q.items.all (·.allFuncs ok) = true) : ∀ p ∈ enumFrom 0 q.items, p.2.allFuncs ok = true :=
  fun p hp => List.all_eq_true.1 h p.2 (items_enum q p hp)

omit hc in
theorem kinds_ok (q : AggStmt) (h : q.items.all (·.allFuncs ok) = true) :
    ∀ p ∈ enumFrom 0 (q.items.map (·.kind)), p.2.allFuncs ok = true := by
  intro p hp
  obtain ⟨it, hit, e⟩ := List.mem_map.1 (enumFrom_mem_snd _ _ p.1 _ hp)
  have := List.all_eq_true.1 h it hit
  simp only [AggItem.allFuncs, Bool.and_eq_true] at this
  exact e ▸ this.1

theorem aggUpdateRow_faults (q : AggStmt) (st : AggState) (env : Env) (h : q.allFuncs ok = true) :
    (aggUpdateRow O q st env).FaultsIn P M := by
  simp only [AggStmt.allFuncs, Bool.and_eq_true] at h
  obtain ⟨⟨⟨⟨⟨hitems, hfilter⟩, hgroup⟩, _⟩, hvisit⟩, _⟩ := h
  refine .bind (filter_faults O ok hc env q.filter hfilter) fun _ _ => .ite (fun _ => trivial) fun _ =>
    .bind ?_ fun key _ => .bind (updateAggregates_eq_foldlM O q .. ▸ Outcome.foldlM_faults (fun p hp st => ?_) st) fun _ _ =>
      .bind ?_ fun _ _ => trivial
  · cases hg : q.groupBy with
    | none => trivial
    | some parts =>
      rw [hg] at hgroup
      exact evalList_faults O ok hc env _ (allFuncsList_map ok (·.1) parts hgroup)
  · exact updateAggregate_faults O ok hc _ _ _ _ _ _ (kinds_ok ok q hitems p hp)
  · split
    · exact havingUpdates_faults O ok hc _ _ _ _ _ _ hvisit
    · trivial

/-- the two panic sites: reached only with a key the invariant excludes. From here on every walk carries the hypothesis
`(∀ s, P s) ∨ Inv …`: with the invariant it bounds the panics (`P := fun _ => False`, "no panic under the invariant"), and
with `P` anything it needs no invariant and bounds the missing facts (`Lemmas/NoSkipEngine.lean`) — one walk for both. -/
theorem cellOf_faults (q : AggStmt) (idx : Nat) (item : AggItem) (key : List Value) (subs : List (Nat × Value))
    (h : item.allFuncs ok = true) (hk : (∀ s, P s) ∨ (item ∈ q.items ∧ GoodKeys q ∧ key.length = keyLen q)) :
    (cellOf O q idx item key subs).FaultsIn P M := by
  simp only [AggItem.allFuncs, Bool.and_eq_true] at h
  unfold cellOf
  split
  · rcases hk with hP | ⟨hitem, hg, hlen⟩
    · branches <;> exact hP _
    · obtain ⟨i, v, h1, h2⟩ := groupKey_lookup hitem hg hlen ‹_›
      simp only [h1, h2]
      trivial
  · unfold applyTransform
    cases ht : item.transform with
    | none => trivial
    | some e => exact eval_faults O ok hc _ e (by simpa [ht, optAllFuncs] using h.2)

theorem aggResult_faults (q : AggStmt) (st : AggState) (h : q.allFuncs ok = true) (hk : (∀ s, P s) ∨ Inv q st) :
    (aggResult O q st).FaultsIn P M := by
  simp only [AggStmt.allFuncs, Bool.and_eq_true] at h
  obtain ⟨⟨⟨⟨⟨hitems, _⟩, _⟩, hhaving⟩, _⟩, _⟩ := h
  have hcell : ∀ g ∈ (publishPercentiles st).vals, ∀ p ∈ enumFrom 0 q.items,
      (cellOf O q p.1 p.2 g.1 g.2).FaultsIn P M := fun g hg p hp =>
    cellOf_faults O ok hc q _ _ _ _ (items_ok' ok q hitems p hp)
      (hk.imp id fun hi => ⟨items_enum q p hp, (publish_inv hi).groups g hg⟩)
  refine .bind (aggColumns_eq_seq O q .. ▸ Outcome.seq_map_faults fun p hp =>
      aggColumn_eq_seq O q .. ▸ Outcome.seq_map_faults fun g hg => hcell g hg p hp) fun _ _ =>
    .bind (resultRows_faults hcell (fun g _ e he => ?_) []) fun _ _ => trivial
  rw [he] at hhaving
  exact .bind (eval_faults O ok hc _ e hhaving) fun _ _ => condHolds_faults _

theorem finalResult_faults (q : AggStmt) (es : EngineState) (h : q.allFuncs ok = true) (hk : (∀ s, P s) ∨ Inv q es.agg) :
    (finalResult O q es).FaultsIn P M :=
  .bind (aggResult_faults O ok hc q es.agg h hk) fun _ _ => trivial

theorem selectOne_faults (q : SelectStmt) (seen : List (List Value)) (env : Env) (keys : List String)
    (h : q.allFuncs ok = true) : (selectOne O q seen env keys).FaultsIn P M := by
  simp only [SelectStmt.allFuncs, Bool.and_eq_true] at h
  refine .bind (filter_faults O ok hc env q.filter h.2) fun _ _ => .ite (fun _ => trivial) fun _ => ?_
  dsimp only
  refine .bind ?_ fun _ _ => by branches
  split
  · exact evalList_faults O ok hc env _ (allFuncsList_columns ok keys)
  · exact evalList_faults O ok hc env _ (allFuncsList_map ok (·.2) q.projections h.1)

/-- **one line through the engine (batch mode and follow mode) stops abnormally only where a function call does** —
a panic moreover only in a state that breaks the invariant -/
theorem executeLine_faults (qy : Query) (idx : JoinIndex) (w : Bool) (es : EngineState) (l : Line)
    (h : qy.stmt.allFuncs ok = true) (hk : (∀ s, P s) ∨ EInv qy es) : (executeLine O qy idx w es l).FaultsIn P M := by
  unfold executeLine
  split
  · rename_i q hq
    rw [hq] at h
    exact .ite (fun _ => trivial) fun _ => .bind (lineEnvs_faults ..) fun _ _ =>
      .bind (selectEnvs_eq_foldlM O q .. ▸ Outcome.foldlM_faults
        (fun p _ s => .bind (selectOne_faults O ok hc q s.1 p.1 p.2 h) fun _ _ => trivial) _) fun _ _ => trivial
  · rename_i q hq
    rw [hq] at h
    have hk' : (∀ s, P s) ∨ Inv q es.agg := hk.imp id fun hi => by unfold EInv at hi; rw [hq] at hi; exact hi
    have ha : ∀ envs, (aggEnvs O q envs es.agg false).FaultsIn P M := fun envs =>
      aggEnvs_eq_foldlM O q .. ▸ Outcome.foldlM_faults
        (fun p _ s => .bind (aggUpdateRow_faults O ok hc q s.1 p.1 h) fun _ _ => trivial) _
    refine .ite (fun _ => by split <;> trivial) fun _ => .bind (lineEnvs_faults ..) fun envs _ => ?_
    split
    · refine .bind (ha envs) fun p hp => ?_
      obtain ⟨s1, u⟩ := p
      exact .ite (fun _ => .bind (aggResult_faults O ok hc q s1 h (hk'.imp id (aggEnvs_inv hp))) fun _ _ => trivial)
        fun _ => trivial
    · exact .bind (ha envs) fun _ _ => trivial

end

@[reducible] def _root_.Sqlgrep.RunOut.FaultsIn (P M : String → Prop) (ro : RunOut) : Prop :=
  (ro.panicked = true → ∃ s, P s) ∧ ∀ w, ro.skipped = some w → M w

theorem failWith_faults {α : Type} {P M : String → Prop} (ro : RunOut) (o : Outcome α) (ho : o.FaultsIn P M)
    (h : ro.FaultsIn P M) : (failWith ro o).FaultsIn P M := by
  cases o with
  | ok a => exact h
  | error k => exact h
  | panic s => exact ⟨fun _ => ⟨s, ho⟩, h.2⟩
  | oracleMissing w => exact ⟨h.1, fun w' hw => Option.some.inj hw ▸ ho⟩

section
variable {P M : String → Prop} (O : Oracles) (ok : Func → Bool)
  (hc : ∀ f, ok f = true → ∀ args, (callFunction O f args).FaultsIn P M)
include hc

theorem drive_faults (m : Mode) (qy : Query) (idx : JoinIndex) (w : Bool) (sa : Option Nat) (fls : List FileLine)
    {s : TraceState} (hq : qy.stmt.allFuncs ok = true) (h : s.ls.out.FaultsIn P M ∧ EInv qy s.ls.es) :
    (drive m (executeLine O qy idx w) sa fls s).ls.out.FaultsIn P M ∧ EInv qy (drive m (executeLine O qy idx w) sa fls s).ls.es := by
  refine drive_inv m _ (fun s => s.ls.out.FaultsIn P M ∧ EInv qy s.ls.es) sa (fun s fl _ h => ?_) fls h
  rcases m.step_cases (executeLine O qy idx w) s fl with ⟨_, e⟩ | ⟨es, lo, _, hx, e⟩ | ⟨_, _, e⟩ <;> rw [e]
  · exact h
  · exact ⟨h.1, executeLine_inv hx h.2⟩
  · exact ⟨failWith_faults _ _ (executeLine_faults O ok hc qy idx w s.ls.es fl.line hq (Or.inr h.2)) h.1, h.2⟩

theorem runFiles_faults (qy : Query) (idx : JoinIndex) (w : Bool) (stopAt : Option Nat) (fs : List (List FileLine))
    (ls : LoopState) (hq : qy.stmt.allFuncs ok = true) (h : ls.out.FaultsIn P M ∧ EInv qy ls.es) :
    (runFiles O qy idx w stopAt fs ls).out.FaultsIn P M ∧ EInv qy (runFiles O qy idx w stopAt fs ls).es := by
  rw [runFiles_eq_drive]
  split
  · exact h
  · exact drive_faults O ok hc .batch qy idx w stopAt _ (s := ⟨ls, []⟩) hq h

theorem endRun_faults (qy : Query) (s : TraceState) (hq : qy.stmt.allFuncs ok = true)
    (h : s.ls.out.FaultsIn P M ∧ EInv qy s.ls.es) : (endRun O qy s).out.FaultsIn P M := by
  unfold endRun
  split
  · exact h.1
  · cases hs : qy.stmt with
    | select q => exact h.1
    | aggregate q =>
      rw [hs] at hq
      have he := h.2
      unfold EInv at he
      rw [hs] at he
      have hf := finalResult_faults O ok hc q s.ls.es hq (Or.inr he)
      dsimp only
      split
      · exact h.1
      · exact failWith_faults _ _ hf h.1

theorem runWithIndex_faults (qy : Query) (idxO : Outcome JoinIndex) (hidx : idxO.FaultsIn P M) (files : List (List FileLine))
    (stopAt : Option Nat) (hq : qy.stmt.allFuncs ok = true) : (runWithIndex O qy idxO files stopAt).FaultsIn P M := by
  have init : ({} : RunOut).FaultsIn P M := ⟨nofun, nofun⟩
  cases idxO with
  | ok idx =>
    rw [runWithIndex_ok]
    exact endRun_faults O ok hc qy _ hq (runFiles_faults O ok hc qy _ _ stopAt files {} hq ⟨init, EInv.init qy⟩)
  | _ => exact failWith_faults _ _ hidx init

/-- **a batch run stops abnormally only where a function call does**: it reports `panicked` only if a call of a
function of the statement can panic with a site in `P` (none can: `run_never_panics`), and `skipped` only with a fact a
call of one of them can miss -/
theorem runBatch_faults (qy : Query) (joined : List FileLine) (files : List (List FileLine)) (stopAt : Option Nat)
    (hq : qy.stmt.allFuncs ok = true) : (runBatch O qy joined files stopAt).FaultsIn P M := by
  rw [runBatch_eq_runWithIndex]
  refine runWithIndex_faults O ok hc qy _ ?_ files stopAt hq
  unfold joinOutcome
  split
  · exact setupJoin_faults ..
  · trivial

end

theorem NP_setupJoin (t : TableInfo) (j : JoinInfo) (lines : List FileLine) : NP (setupJoin t j (loadJoinFile j lines)) :=
  NP_iff_faultsIn.2 (setupJoin_faults ..)

theorem NP_executeLine (O : Oracles) (qy : Query) (idx : JoinIndex) (w : Bool) (es : EngineState) (l : Line)
    (hi : EInv qy es) : NP (executeLine O qy idx w es l) :=
  NP_iff_faultsIn.2 (executeLine_faults O anyFunc (fun f _ => callFunction_faults_np O f) qy idx w es l
    (Stmt.allFuncs_any _) (Or.inr hi))

theorem NP_finalResult (O : Oracles) (q : AggStmt) (es : EngineState) (hi : Inv q es.agg) : NP (finalResult O q es) :=
  NP_iff_faultsIn.2 (finalResult_faults O anyFunc (fun f _ => callFunction_faults_np O f) q es
    (Stmt.allFuncs_any (.aggregate q)) (Or.inr hi))

theorem failWith_panicked {α : Type} (ro : RunOut) (o : Outcome α) (hn : NP o) (h : ro.panicked = false) :
    (failWith ro o).panicked = false := by
  cases o with
  | panic s => cases hn
  | _ => exact h

structure LInv (qy : Query) (ls : LoopState) : Prop where
  np : ls.out.panicked = false
  es : EInv qy ls.es

theorem runFiles_inv (O : Oracles) (qy : Query) (idx : JoinIndex) (w : Bool) (stopAt : Option Nat) (fs : List (List FileLine))
    (ls : LoopState) (h : LInv qy ls) : LInv qy (runFiles O qy idx w stopAt fs ls) := by
  obtain ⟨⟨hp, _⟩, he⟩ := runFiles_faults O anyFunc (fun f _ => callFunction_faults_np O f) qy idx w stopAt fs ls
    (Stmt.allFuncs_any _) ⟨⟨fun hp => (by rw [h.np] at hp; cases hp), fun _ _ => trivial⟩, h.es⟩
  exact ⟨eq_false_of_ne_true fun hp' => (hp hp').elim fun _ hf => hf, he⟩

end Sqlgrep.NoPanicEngine
