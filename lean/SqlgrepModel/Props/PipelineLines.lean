import SqlgrepModel.Lemmas.PipelineLines
import SqlgrepModel.Props.Pipeline
import SqlgrepModel.Props.C01
import SqlgrepModel.Props.C02
/-
END-TO-END theorems, part two: the LINE STRUCTURE of the input. Four more properties carried from their stage
theorems to the whole program `Pipeline.runText` (`Model/Pipeline.lean`: definition TEXT, query TEXT, output format,
file BYTES ↦ the lines handed to `Printer::println`, or the error) — the function the compiled driver executes for
every `e2e` case. Like `Props/Pipeline.lean` this file has no property id of its own; each theorem names the property
it carries:

* C06 at byte level — `same_rows_same_output`, `noise_block_invisible`, `noise_line_invisible`,
  `joined_noise_block_invisible`: inserting into / deleting from any input file (or the joined file), at any line
  boundary, newline-terminated lines that yield no row for the table they are read with leaves the OUTPUT of the
  program unchanged — printed lines and error / ok status, in every output format, for every statement kind.
  "Output" is `Answer.output`: everything but the statistics counter `totalLines`, which does change (noise lines are
  lines read; see the example).
  Boundary conditions, exactly: the insertion point is a line boundary (`NlTerminated pre`: start of file or just
  after a `\n` — the end of a file that lacks a final newline is NOT one: bytes inserted there continue its last line,
  see the example); the inserted bytes are whole lines (`NlTerminated block`); each of them, AS THE READER YIELDS IT
  (the `\n` and one `\r` before it removed: CRLF input is covered), is valid UTF-8 (an invalid line is an error, not
  noise: the example shows the answer change to `FailReadFile`) and yields no row by the facts shipped with the case
  (`noRow`: `Extract.admitted = false`); what follows the insertion point (`post`) is arbitrary — with or without a
  final newline, valid UTF-8 or not. The FROM table must be defined (`queriedTable = some t`): with an undefined
  table there are no rows at all and the first line read raises `TableNotFound` (example).
* C12 at program level — `multi_file_eq_concat_program`: the program over several newline-terminated files answers
  exactly as over the one file holding their concatenation, for EVERY pair of texts (every statement, with or without
  LIMIT, join, rejected texts included), counter included; `invalid_utf8_never_ok`, `invalid_utf8_is_reported`: if any
  file holds a line that is not valid UTF-8, a statement without LIMIT never ends `records … Ok`; it ends in an error
  report — `FailReadFile`, unless an earlier line (or the join set-up) already ended the run with its own error.
  (With LIMIT the run may end `Ok` BEFORE the bad line is reached: it stops reading, C07 — example.)
  `lines_before_invalid_line_are_processed` (non-aggregate statements, LIMIT or not): the answer over input whose lines
  are `A ++ invalid :: rest` is the answer over the lines `A` alone — same printed lines, same count — ended the same
  way if that run had ended on its own, and with `FailReadFile` if it ended `Ok`.
* C15 at program level — `line_order_irrelevant`, `permuted_lines_same_answer`: for an aggregate statement text
  whose lowered statement is `PermSafe` on the input, every permutation of the input LINES (within and across
  files) gives the same answer; `split_input_is_merge_of_summaries`, `split_file_is_split_input`: over an input split in
  two the program prints the table of the key-wise merged per-part summaries (`partSummaries`, `mergeSummaries`) — the
  summaries BEFORE HAVING, not the parts' printed tables (`having_parts_do_not_determine_the_whole`); the parts must be outside
  D10's shape, which for statements with COUNT(*) every cut is (`split_input_all_cuts_of_count_star`).
* C01 / C02 inside the program — `query_sees_extracted_rows`, `seen_row_is_specified`, `seen_json_column_is_specified`:
  the row the statement is given for a line of an input file (or of the joined file) is `Extract.extractRow` of the
  table definition the definition text lowers to, on the facts of that very line — so the theorems of `Props/C01.lean`
  / `Props/C02.lean` about `extractRow` speak about what the query sees.

Helper lemmas: `Lemmas/ExecTLines.lean`, `Lemmas/ExecTAgg.lean`, `Lemmas/PipelineLines.lean` (they strengthen
`runBatch_noise`, `exec_multi_file_eq_concat`, `runBatch_perm_invariant`, `batch_refines_spec_nojoin` from the text
rendering of the records to the result tables handed to the printer model, which every output format is computed from).
-/
namespace Sqlgrep.Props.PipelineLines
open Sqlgrep Sqlgrep.Pipeline Sqlgrep.Spec.Pipeline Sqlgrep.Reader Sqlgrep.Extract Sqlgrep.Spec.Agg
open Sqlgrep.Props.Pipeline (exFacts exDefs recordsOf exRun exFacts_eq)

/-- **Same rows, same output** (C06, the general form of "inserted into or deleted from any positions"): two lists of
input files — any bytes — that are equally covered by the facts shipped and whose files hold the same lines once the
lines that yield no row are removed (`denoise`; a line that is not valid UTF-8 is not noise and stays) give the same
output: the same printed lines in the requested format and the same way of ending, for every definition text, query
text (plain, DISTINCT, LIMIT, aggregate, with or without join), format and display option. `t` is the table the lines
are read with. -/
theorem same_rows_same_output (F : Facts) (defsText queryText : List Char) (fmt : Print.Format) (single : Bool)
    (files files' : List (List Nat)) (t : Table) (ht : queriedTable F defsText queryText = some t)
    (hcov : filesCovered F t.defn files = filesCovered F t.defn files')
    (hden : (files.map (fileOf (extractedLine F t.defn))).map denoise =
            (files'.map (fileOf (extractedLine F t.defn))).map denoise) :
    (runText F defsText queryText fmt single files).output = (runText F defsText queryText fmt single files').output := by
  rw [runText_eq_front, runText_eq_front]
  refine Front.answer_rel (fun a b : Answer => a.output = b.output) (fun _ => rfl) _ fun ts s f j hf => ?_
  rw [queriedTable_of_front hf] at ht
  exact answerOfOpt_output F fmt single (runStatement_same_rows F ts s f j files files' t ht hcov hden)

/-- **Inserting (or deleting) lines that yield no row, at any line boundary of any input file** (C06 at byte level).
`pre ++ block ++ post` is an input file with a block of bytes inserted between `pre` and `post`; `pre` ends at a line
boundary, the block consists of whole lines, and every line of the block — as `BufRead::lines` yields it — is valid
UTF-8 and yields no row for the table `t` the statement reads from (`noRow`: the facts are shipped and
`Extract.admitted = false`). Then the program's output over the files with the block equals its output over the files
without it. Read from right to left this is deletion. -/
theorem noise_block_invisible (F : Facts) (defsText queryText : List Char) (fmt : Print.Format) (single : Bool)
    (before after : List (List Nat)) (pre block post : List Nat) (t : Table)
    (ht : queriedTable F defsText queryText = some t) (hpre : NlTerminated pre) (hblock : NlTerminated block)
    (hnoise : ∀ item ∈ Reader.lines block, ∃ l, item = .ok l ∧ noRow F t.defn l = true) :
    (runText F defsText queryText fmt single (before ++ [pre ++ block ++ post] ++ after)).output =
    (runText F defsText queryText fmt single (before ++ [pre ++ post] ++ after)).output := by
  obtain ⟨hc, hd⟩ := insert_noise_block F t.defn pre block post hpre hblock hnoise
  apply same_rows_same_output F defsText queryText fmt single _ _ t ht
  · simp only [filesCovered, List.all_append, List.all_cons, List.all_nil, Bool.and_true, hc]
  · simp only [List.map_append, List.map_cons, List.map_nil, hd]

/-- the single-line form: `line` holds no `\n`, `line ++ "\n"` is valid UTF-8, and the line the reader yields for it
(`stripCr`: one `\r` before the `\n` removed) yields no row -/
theorem noise_line_invisible (F : Facts) (defsText queryText : List Char) (fmt : Print.Format) (single : Bool)
    (before after : List (List Nat)) (pre line post : List Nat) (t : Table)
    (ht : queriedTable F defsText queryText = some t) (hpre : NlTerminated pre)
    (hnl : nl ∉ line) (hutf : validUtf8 (line ++ [nl]) = true) (hnoise : noRow F t.defn (stripCr line) = true) :
    (runText F defsText queryText fmt single (before ++ [pre ++ (line ++ [nl]) ++ post] ++ after)).output =
    (runText F defsText queryText fmt single (before ++ [pre ++ post] ++ after)).output := by
  apply noise_block_invisible F defsText queryText fmt single before after pre (line ++ [nl]) post t ht hpre
    (nlTerminated_snoc line)
  intro item hi
  rw [lines_single line hnl] at hi
  simp only [List.mem_singleton] at hi
  subst hi
  exact ⟨stripCr line, by simp [finishLine, hutf], hnoise⟩

/-- **… and of the JOINED file** (C06, the other side of a join). The joined file lives in the file system around the
run (`F.fs`); `fs'` is the file system in which the file `name` holds `pre ++ post` instead of `pre ++ block ++ post`
and every other file is as before. If every line of the block yields no row for the joined table `u` (whenever `name`
is the file the statement joins with), the answer of the program is the same — counter included: the loader's lines
are not counted. -/
theorem joined_noise_block_invisible (F : Facts) (fs' : List (String × List Nat)) (defsText queryText : List Char)
    (fmt : Print.Format) (single : Bool) (files : List (List Nat)) (name : String) (pre block post : List Nat)
    (h1 : F.fs.lookup name = some (pre ++ block ++ post)) (h2 : fs'.lookup name = some (pre ++ post))
    (hother : ∀ n, n ≠ name → fs'.lookup n = F.fs.lookup n)
    (hpre : NlTerminated pre) (hblock : NlTerminated block)
    (hnoise : ∀ u, joinedSource F defsText queryText = some (u, name) →
      ∀ item ∈ Reader.lines block, ∃ l, item = .ok l ∧ noRow F u.defn l = true) :
    runText F defsText queryText fmt single files = runText { F with fs := fs' } defsText queryText fmt single files := by
  rw [runText_eq_front, runText_eq_front, show front { F with fs := fs' } defsText queryText = front F defsText queryText from rfl]
  refine Front.answer_rel (· = ·) (fun _ => rfl) _ fun tables stmt fromTable join hf => ?_
  refine (congrArg _ (runStatement_fs F fs' tables stmt fromTable join files fun t j fs _ hj => ?_)).trans
    (answerOfOpt_fs F fs' fmt single _).symm
  subst hj
  by_cases hn : j.joinedFilename = name
  · apply runDefined_joined_noise F fs' tables stmt t j fs pre block post hpre hblock (by rw [hn]; exact h1) (by rw [hn]; exact h2)
    intro u hu
    apply hnoise u
    rw [joinedSource_of_front hf, hu, hn]
    rfl
  · unfold runDefined
    have : openJoined { F with fs := fs' } j = openJoined F j := hother _ hn
    simp only [this, fileLines_fs]

/-- **Multi-file = concatenation, for the whole program** (C12). For every definition text, every query text (any
statement — plain, DISTINCT, LIMIT, aggregate, join —, also texts that are rejected), every format and display option:
the program over files of which all but the last are newline-terminated (or empty) answers exactly as over the one
file holding their concatenation — same printed lines, same error / ok status, same line count. -/
theorem multi_file_eq_concat_program (F : Facts) (defsText queryText : List Char) (fmt : Print.Format) (single : Bool)
    (files : List (List Nat)) (last : List Nat) (h : ∀ f ∈ files, NlTerminated f) :
    runText F defsText queryText fmt single (files ++ [last]) =
      runText F defsText queryText fmt single [(files ++ [last]).flatten] := by
  rw [runText_eq_front, runText_eq_front]
  refine Front.answer_rel (· = ·) (fun _ => rfl) _ fun ts s f j _ => ?_
  rw [runStatement_concat F ts s f j files last h]

/-- the statement of the query text has no LIMIT that could end the batch loop early (an aggregate statement's LIMIT
cuts the final table only) -/
def QueryNoLimit (F : Facts) (queryText : List Char) : Prop :=
  ∀ query stmt fromTable join, parseText (lexOracles F) (regexValidFn F) queryText = .stmt query →
    stmtOf query = some (stmt, fromTable, join) → NoLimit stmt

/-- **A line that is not valid UTF-8 never lets the program end `Ok`** (C12: "never causes later lines to be dropped
silently"). If some input file holds such a line, then for every definition text and every query text without LIMIT the
answer is never `records … Ok` — not with fewer rows, not with any rows. (What it is: `invalid_utf8_is_reported`.) -/
theorem invalid_utf8_never_ok (F : Facts) (defsText queryText : List Char) (fmt : Print.Format) (single : Bool)
    (files : List (List Nat)) (hbad : .error () ∈ files.flatMap Reader.lines) (hnl : QueryNoLimit F queryText)
    (n : Nat) (ls : List Print.Bytes) : runText F defsText queryText fmt single files ≠ .records none n ls := by
  apply runText_pred (fun a => a ≠ .records none n ls) (by simp) (by simp) (by simp) (by simp) (by simp)
  intro defs query tables stmt fromTable join _ hq _ hs
  cases hr : runStatement F tables stmt fromTable join files with
  | none => simp [answerOfOpt]
  | some t =>
    exact answerOf_failed F fmt single t
      (runStatement_unreadable_fails F tables stmt fromTable join files (hnl query stmt fromTable join hq hs) hbad t hr) n ls

/-- **… it ends in an error report**: when both texts are accepted, the definitions are CREATE TABLEs, the query is a
query and the facts the run asks for are shipped (the answer is a run: `records`), the run carries an error kind —
`FailReadFile` raised at the invalid line, unless an earlier line or the join set-up already ended the run with its
own error (the batch loop stops at the first failure, `Props/C12.lean` `exec_read_error_reported`). -/
theorem invalid_utf8_is_reported (F : Facts) (defsText queryText : List Char) (fmt : Print.Format) (single : Bool)
    (files : List (List Nat)) (hbad : .error () ∈ files.flatMap Reader.lines) (hnl : QueryNoLimit F queryText)
    (e : Option ErrKind) (n : Nat) (ls : List Print.Bytes)
    (h : runText F defsText queryText fmt single files = .records e n ls) : ∃ k, e = some k := by
  cases e with
  | some k => exact ⟨k, rfl⟩
  | none => exact absurd h (invalid_utf8_never_ok F defsText queryText fmt single files hbad hnl n ls)

/-- the statement of the query text is not an aggregate statement -/
def QueryIsSelect (F : Facts) (queryText : List Char) : Prop :=
  ∀ query stmt fromTable join, parseText (lexOracles F) (regexValidFn F) queryText = .stmt query →
    stmtOf query = some (stmt, fromTable, join) → ∃ s, stmt = .select s

/-- **Which error, and what of the lines before** (C12, non-aggregate statements, with or without LIMIT). Let the lines
of all input files be `A ++ invalid :: rest` — `invalid` the first line that is not valid UTF-8 — and let `files'` be any
input holding exactly the lines `A` (e.g. the files cut off before that line). Then the answer over `files` is
(a) `skip` — the case did not ship a fact about a later line —, or (b) the answer over `files'` itself — that run had
ended before reaching the line: an error of its own, LIMIT reached, a rejected text —, or (c) the answer over `files'`,
which ended `Ok`, with the SAME printed lines and the SAME line count and the error `FailReadFile`: every line before
the invalid one is processed and printed exactly as if the input ended there, and the invalid line is reported.
With `invalid_utf8_never_ok`: without LIMIT, (b) can only be an error that an earlier line raised. -/
theorem lines_before_invalid_line_are_processed (F : Facts) (defsText queryText : List Char) (fmt : Print.Format)
    (single : Bool) (files files' : List (List Nat)) (rest : List (Except Unit (List Nat)))
    (hsplit : files.flatMap Reader.lines = files'.flatMap Reader.lines ++ .error () :: rest)
    (hsel : QueryIsSelect F queryText) :
    runText F defsText queryText fmt single files = .skip "line facts" ∨
    runText F defsText queryText fmt single files = runText F defsText queryText fmt single files' ∨
    ∃ n ls, runText F defsText queryText fmt single files' = .records none n ls ∧
      runText F defsText queryText fmt single files = .records (some .failReadFile) n ls := by
  rw [runText_eq_front, runText_eq_front]
  refine Front.answer_rel (fun a b : Answer => a = .skip "line facts" ∨ a = b ∨
    ∃ n ls, b = .records none n ls ∧ a = .records (some .failReadFile) n ls) (fun _ => .inr (.inl rfl)) _
    fun tables stmt fromTable join hf => ?_
  obtain ⟨query, hq, hs⟩ := front_run_query hf
  obtain ⟨q, rfl⟩ := hsel query stmt fromTable join hq hs
  rcases runStatement_read_error F tables q fromTable join files files' rest hsplit with h | h | ⟨t, h1, h2, h3⟩
  · left; rw [h]; rfl
  · right; left; rw [h]
  · rw [h1, h3]
    rcases answerOf_read_error F fmt single t h2 with e | ⟨n, ls, e1, e2⟩
    · right; left; exact e
    · right; right; exact ⟨n, ls, e1, e2⟩

/-- **The program ignores the order of the input lines** (C15 at program level). Two lists of input files whose LINES
(`BufRead::lines` of all files, in order) are permutations of each other give the same answer — same printed table in
every format, same status, same line count — for every definition text and every aggregate statement text without
join, whenever for the first input the specification `Spec.Agg.batch` answers with an empty deviation class on the
extracted rows, the lowered statement is `PermSafe` on them (the hypotheses of `Props/C15.lean`: order-insensitive
aggregates, exact extremes, order-free sums). `StmtWF` is discharged by the lowering
(`lowered_aggregate_is_wellformed`); that the second input is covered by the facts, prepared, and outside D10 / D15 as
well follows from the first (`deviationClass_perm`: the class is a function of the multiset of the lines). -/
theorem line_order_irrelevant (F : Facts) (defsText queryText : List Char) (fmt : Print.Format) (single : Bool)
    (files₁ files₂ : List (List Nat)) (hperm : (files₁.flatMap Reader.lines).Perm (files₂.flatMap Reader.lines))
    (defs : LStmt) (tables : List Table) (a : AggStmt) (fromTable : String) (file : Option String) (p₁ : Prepared) (ro : RunOut)
    (hc : classesCover F defsText = true ∧ classesCover F queryText = true)
    (hd : parseText (lexOracles F) (regexValidFn F) defsText = .stmt defs)
    (hp : (createPatterns defs).all (fun re => ((Utf8.decode re).bind (regexValidOf F)).isSome) = true)
    (hq : parseText (lexOracles F) (regexValidFn F) queryText = .stmt (.aggregate a fromTable file none))
    (ht : addTables defs = some tables)
    (hprep : prepare F tables (.aggregate a) fromTable none files₁ = some p₁)
    (hb : Spec.Agg.batch F.eval p₁.qy a p₁.joined p₁.files = some (ro, ""))
    (hsafe : ∀ keyed, keyedRows F.eval a (envsOf p₁.qy.table p₁.files.flatten) = some keyed → PermSafe F.eval a keyed) :
    runText F defsText queryText fmt single files₁ = runText F defsText queryText fmt single files₂ := by
  obtain ⟨t, hg, hcov, rfl⟩ := prepare_nojoin_iff.1 hprep
  have hcov₂ : filesCovered F t.defn files₂ = true := by
    rw [filesCovered_flatMap] at hcov ⊢
    rw [← hperm.all_eq]; exact hcov
  have hfr := front_eq_run_iff.2 ⟨defs, _, hc, hd, hp, hq, ht, rfl⟩
  rw [runText_of_prepared hfr hg hcov, runText_of_prepared hfr hg hcov₂]
  refine congrArg _ (runBatchT_perm_invariant rfl (Props.Pipeline.lowered_aggregate_is_wellformed _ _ _ a fromTable file none hq)
    rfl [] (some []) ?_ hsafe hb)
  rw [fileOf_flatten, fileOf_flatten]
  exact hperm.map _

/-- **re-joining permuted lines**: the lines read back from `unlines ls₂` are a permutation of the lines read back from
`unlines ls₁` whenever `ls₂` is a permutation of `ls₁` (lines without `\n`; CR LF ends and invalid UTF-8 allowed: an
item is the line as the reader yields it) — the hypothesis `hperm` of `line_order_irrelevant` for a file whose lines
were shuffled -/
theorem permuted_lines_read_back (ls₁ ls₂ : List (List Nat)) (hp : ls₁.Perm ls₂) (h : ∀ l ∈ ls₁, nl ∉ l) :
    ([unlines ls₁].flatMap Reader.lines).Perm ([unlines ls₂].flatMap Reader.lines) ∧
    Reader.lines (unlines ls₂) = ls₂.map (fun l => finishLine l true) := by
  have h₂ : ∀ l ∈ ls₂, nl ∉ l := fun l hl => h l (hp.mem_iff.2 hl)
  simp only [List.flatMap_cons, List.flatMap_nil, List.append_nil]
  rw [lines_unlines ls₁ h, lines_unlines ls₂ h₂]
  exact ⟨hp.map _, rfl⟩

/-- **Permuting the lines of an input file leaves the answer unchanged** (C15): `line_order_irrelevant` for the one
file `ls₁` written out line by line and any permutation `ls₂` of its lines written out the same way -/
theorem permuted_lines_same_answer (F : Facts) (defsText queryText : List Char) (fmt : Print.Format) (single : Bool)
    (ls₁ ls₂ : List (List Nat)) (hperm : ls₁.Perm ls₂) (hnl : ∀ l ∈ ls₁, nl ∉ l)
    (defs : LStmt) (tables : List Table) (a : AggStmt) (fromTable : String) (file : Option String) (p₁ : Prepared) (ro : RunOut)
    (hc : classesCover F defsText = true ∧ classesCover F queryText = true)
    (hd : parseText (lexOracles F) (regexValidFn F) defsText = .stmt defs)
    (hp : (createPatterns defs).all (fun re => ((Utf8.decode re).bind (regexValidOf F)).isSome) = true)
    (hq : parseText (lexOracles F) (regexValidFn F) queryText = .stmt (.aggregate a fromTable file none))
    (ht : addTables defs = some tables)
    (hprep : prepare F tables (.aggregate a) fromTable none [unlines ls₁] = some p₁)
    (hb : Spec.Agg.batch F.eval p₁.qy a p₁.joined p₁.files = some (ro, ""))
    (hsafe : ∀ keyed, keyedRows F.eval a (envsOf p₁.qy.table p₁.files.flatten) = some keyed → PermSafe F.eval a keyed) :
    runText F defsText queryText fmt single [unlines ls₁] = runText F defsText queryText fmt single [unlines ls₂] :=
  line_order_irrelevant F defsText queryText fmt single _ _ (permuted_lines_read_back ls₁ ls₂ hperm hnl).1
    defs tables a fromTable file p₁ ro hc hd hp hq ht hprep hb hsafe

/-- **The program over a split input prints the table of the merged summaries of the parts** (C15, input split, at program
level). Input files `files₁` followed by `files₂` (any bytes; e.g. one file each), an aggregate statement text without join
whose aggregates are order-insensitive. Whenever the runs over the two parts are prepared (`p₁`, `p₂`: tables defined, facts
shipped — the run over all files is then prepared too), the specification `Spec.Agg.batch` answers for the rows extracted
from `files₁`, from `files₂` and from all files — with an empty deviation class for the two parts; the class `cls` of the whole
is then empty too —, and `SplitSafe` holds per group (the provisos of
`Props/C15.lean`): there are keyed summaries `S₁`, `S₂` — `Sᵢ = partSummaries` of the rows extracted from part i, what that
part has to remember — such that the program's answer over part i is the rendering, in the requested format, of the one table
`tableOfSummaries … Sᵢ` (`tableTrace`: `Ok`, the part's lines counted, one final print call), and its answer over
`files₁ ++ files₂` is the rendering of `tableOfSummaries … (mergeSummaries a S₁ S₂)` with all lines counted: the output over
the whole input is determined by the per-part summaries. `StmtWF` is discharged by the lowering.
Read carefully: (1) merged are the parts' SUMMARIES (per group and aggregate, of the rows passing WHERE) BEFORE HAVING, transforms,
DISTINCT, LIMIT — not what the part runs PRINT. With HAVING the printed part tables do not determine the whole:
`having_parts_do_not_determine_the_whole` below. (2) `hb₁`, `hb₂` with the class `""` exclude every cut that leaves a group
without a value entry (the shape of finding D10) in one of the parts — e.g. every cut of `SELECT k … GROUP BY k` — although the
program is consistent there; for statement texts with COUNT(*) no cut is excluded: `split_input_all_cuts_of_count_star`. -/
theorem split_input_is_merge_of_summaries (F : Facts) (defsText queryText : List Char) (fmt : Print.Format) (single : Bool)
    (files₁ files₂ : List (List Nat))
    (defs : LStmt) (tables : List Table) (a : AggStmt) (fromTable : String) (file : Option String) (p₁ p₂ : Prepared)
    (ro ro₁ ro₂ : RunOut) (cls : String)
    (hc : classesCover F defsText = true ∧ classesCover F queryText = true)
    (hd : parseText (lexOracles F) (regexValidFn F) defsText = .stmt defs)
    (hp : (createPatterns defs).all (fun re => ((Utf8.decode re).bind (regexValidOf F)).isSome) = true)
    (hq : parseText (lexOracles F) (regexValidFn F) queryText = .stmt (.aggregate a fromTable file none))
    (ht : addTables defs = some tables)
    (hprep₁ : prepare F tables (.aggregate a) fromTable none files₁ = some p₁)
    (hprep₂ : prepare F tables (.aggregate a) fromTable none files₂ = some p₂)
    (hOI : ∀ kind ∈ slotKinds a, orderInsensitive kind = true)
    (hb : Spec.Agg.batch F.eval p₁.qy a p₁.joined (p₁.files ++ p₂.files) = some (ro, cls))
    (hb₁ : Spec.Agg.batch F.eval p₁.qy a p₁.joined p₁.files = some (ro₁, ""))
    (hb₂ : Spec.Agg.batch F.eval p₂.qy a p₂.joined p₂.files = some (ro₂, ""))
    (hsafe : ∀ k₁ k₂, keyedRows F.eval a (envsOf p₁.qy.table p₁.files.flatten) = some k₁ →
      keyedRows F.eval a (envsOf p₂.qy.table p₂.files.flatten) = some k₂ →
      ∀ k, SplitSafe F.eval a (rowsOfKey k k₁) (rowsOfKey k k₂)) :
    ∃ S₁ S₂ t₁ t₂ t,
      partSummaries F.eval a (envsOf p₁.qy.table p₁.files.flatten) = some S₁ ∧
      partSummaries F.eval a (envsOf p₂.qy.table p₂.files.flatten) = some S₂ ∧
      tableOfSummaries F.eval a S₁ = some t₁ ∧ tableOfSummaries F.eval a S₂ = some t₂ ∧
      tableOfSummaries F.eval a (mergeSummaries a S₁ S₂) = some t ∧
      runText F defsText queryText fmt single files₁ = answerOf F fmt single (tableTrace a t₁ p₁.files.flatten.length) ∧
      runText F defsText queryText fmt single files₂ = answerOf F fmt single (tableTrace a t₂ p₂.files.flatten.length) ∧
      runText F defsText queryText fmt single (files₁ ++ files₂) =
        answerOf F fmt single (tableTrace a t (p₁.files.flatten.length + p₂.files.flatten.length)) := by
  obtain ⟨t, hg, hcov₁, rfl⟩ := prepare_nojoin_iff.1 hprep₁
  obtain ⟨t', hg', hcov₂, rfl⟩ := prepare_nojoin_iff.1 hprep₂
  cases Option.some.inj (hg'.symm.trans hg)
  have hcov : filesCovered F t.defn (files₁ ++ files₂) = true := by rw [filesCovered_append, hcov₁, hcov₂]; rfl
  obtain ⟨S₁, S₂, t₁, t₂, tt, hS₁, hS₂, hT₁, hT₂, hT, r₁, r₂, r⟩ :=
    runBatchT_concat_merge_summaries rfl (Props.Pipeline.lowered_aggregate_is_wellformed _ _ _ a fromTable file none hq) rfl hOI
      [] (some []) (List.flatten_append) hb hb₁ hb₂ hsafe
  have hfr := front_eq_run_iff.2 ⟨defs, _, hc, hd, hp, hq, ht, rfl⟩
  refine ⟨S₁, S₂, t₁, t₂, tt, hS₁, hS₂, hT₁, hT₂, hT, ?_, ?_, ?_⟩
  · rw [runText_of_prepared hfr hg hcov₁, r₁]
  · rw [runText_of_prepared hfr hg hcov₂, r₂]
  · rw [runText_of_prepared hfr hg hcov, List.map_append, r]

/-- **all cut points, for statements with COUNT(*)**: `split_input_is_merge_of_summaries` without the hypothesis that the
specification's class for the parts is empty. For a statement text whose aggregates are order-insensitive and which has COUNT(*)
in its select list or in HAVING, the classes `c₁`, `c₂`, `cls` the specification reports are empty for EVERY input (COUNT(*)
creates an entry in every group that has a row: `deviationClass_empty_of_countStar`), so every way of splitting the input files
in two is covered. -/
theorem split_input_all_cuts_of_count_star (F : Facts) (defsText queryText : List Char) (fmt : Print.Format) (single : Bool)
    (files₁ files₂ : List (List Nat))
    (defs : LStmt) (tables : List Table) (a : AggStmt) (fromTable : String) (file : Option String) (p₁ p₂ : Prepared)
    (ro ro₁ ro₂ : RunOut) (cls c₁ c₂ : String)
    (hc : classesCover F defsText = true ∧ classesCover F queryText = true)
    (hd : parseText (lexOracles F) (regexValidFn F) defsText = .stmt defs)
    (hp : (createPatterns defs).all (fun re => ((Utf8.decode re).bind (regexValidOf F)).isSome) = true)
    (hq : parseText (lexOracles F) (regexValidFn F) queryText = .stmt (.aggregate a fromTable file none))
    (ht : addTables defs = some tables)
    (hprep₁ : prepare F tables (.aggregate a) fromTable none files₁ = some p₁)
    (hprep₂ : prepare F tables (.aggregate a) fromTable none files₂ = some p₂)
    (hOI : ∀ kind ∈ slotKinds a, orderInsensitive kind = true)
    (hstar : AggKind.count none false ∈ slotKinds a)
    (hb : Spec.Agg.batch F.eval p₁.qy a p₁.joined (p₁.files ++ p₂.files) = some (ro, cls))
    (hb₁ : Spec.Agg.batch F.eval p₁.qy a p₁.joined p₁.files = some (ro₁, c₁))
    (hb₂ : Spec.Agg.batch F.eval p₂.qy a p₂.joined p₂.files = some (ro₂, c₂))
    (hsafe : ∀ k₁ k₂, keyedRows F.eval a (envsOf p₁.qy.table p₁.files.flatten) = some k₁ →
      keyedRows F.eval a (envsOf p₂.qy.table p₂.files.flatten) = some k₂ →
      ∀ k, SplitSafe F.eval a (rowsOfKey k k₁) (rowsOfKey k k₂)) :
    ∃ S₁ S₂ t₁ t₂ t,
      partSummaries F.eval a (envsOf p₁.qy.table p₁.files.flatten) = some S₁ ∧
      partSummaries F.eval a (envsOf p₂.qy.table p₂.files.flatten) = some S₂ ∧
      tableOfSummaries F.eval a S₁ = some t₁ ∧ tableOfSummaries F.eval a S₂ = some t₂ ∧
      tableOfSummaries F.eval a (mergeSummaries a S₁ S₂) = some t ∧
      runText F defsText queryText fmt single files₁ = answerOf F fmt single (tableTrace a t₁ p₁.files.flatten.length) ∧
      runText F defsText queryText fmt single files₂ = answerOf F fmt single (tableTrace a t₂ p₂.files.flatten.length) ∧
      runText F defsText queryText fmt single (files₁ ++ files₂) =
        answerOf F fmt single (tableTrace a t (p₁.files.flatten.length + p₂.files.flatten.length)) := by
  obtain ⟨_, _, _, rfl⟩ := prepare_nojoin_iff.1 hprep₁
  obtain ⟨_, _, _, rfl⟩ := prepare_nojoin_iff.1 hprep₂
  have e₁ : c₁ = "" := specBatch_class_of_countStar rfl hOI hstar hb₁
  have e₂ : c₂ = "" := specBatch_class_of_countStar rfl hOI hstar hb₂
  subst e₁; subst e₂
  exact split_input_is_merge_of_summaries F defsText queryText fmt single files₁ files₂ defs tables a fromTable file _ _
    ro ro₁ ro₂ cls hc hd hp hq ht hprep₁ hprep₂ hOI hb hb₁ hb₂ hsafe

/-- … and for ONE file cut in two at a line boundary: the program over the file `pre ++ post` (`pre` ends with a newline, or
is empty) answers as over the two files `[pre, post]` (`multi_file_eq_concat_program`, C12), i.e. with the table of the merged
summaries of `pre` and `post` -/
theorem split_file_is_split_input (F : Facts) (defsText queryText : List Char) (fmt : Print.Format) (single : Bool)
    (pre post : List Nat) (h : NlTerminated pre) :
    runText F defsText queryText fmt single [pre ++ post] = runText F defsText queryText fmt single ([pre] ++ [post]) := by
  have := multi_file_eq_concat_program F defsText queryText fmt single [pre] post (by simpa using h)
  rw [this]
  simp

/-- **The row the statement sees for a line is `Extract.extractRow` of the lowered table definition on that line's
facts** (C01 / C02 inside the program). For every definition text, query text, format and file list whose run is
prepared (both texts accepted, the tables the statement names defined by the definition text, the joined file present,
the facts shipped): the answer of the program is the answer of the engine-level run `runBatchT` over `p.files` /
`p.joined`, where `t` is the FROM table as the definition text defines it (`getTable`: the last definition of the name)
and every readable line `fl` of every input file carries its own text and the row
`extractRow (extractOracles F) t.defn (lineOracle fl.line.text …)` — the extraction of `t`'s definition on what `regex` /
`serde_json` answered about THIS line (never another line's facts, never another table's definition); `p.files` are
the files' `BufRead::lines` in order, one `FileLine` per item; likewise the joined file under the joined table `u`. -/
theorem query_sees_extracted_rows (F : Facts) (defsText queryText : List Char) (fmt : Print.Format) (single : Bool)
    (files : List (List Nat)) (defs query : LStmt) (tables : List Table) (stmt : Stmt) (fromTable : String)
    (join : Option LJoin) (p : Prepared)
    (hc : classesCover F defsText = true ∧ classesCover F queryText = true)
    (hd : parseText (lexOracles F) (regexValidFn F) defsText = .stmt defs)
    (hp : (createPatterns defs).all (fun re => ((Utf8.decode re).bind (regexValidOf F)).isSome) = true)
    (hq : parseText (lexOracles F) (regexValidFn F) queryText = .stmt query)
    (ht : addTables defs = some tables) (hs : stmtOf query = some (stmt, fromTable, join))
    (hprep : prepare F tables stmt fromTable join files = some p) :
    runText F defsText queryText fmt single files = answerOf F fmt single (runBatchT F.eval p.qy (some p.joined) p.files) ∧
    ∃ t, getTable tables fromTable = some t ∧ p.qy.table = t.info ∧
      p.files = files.map (fun bytes => (Reader.lines bytes).map (toFileLine (extractedLine F t.defn))) ∧
      (∀ f ∈ p.files, ∀ fl ∈ f, fl.readable = true →
        fl.line.row = extractRow (extractOracles F) t.defn (lineOracle fl.line.text ((F.lines.lookup fl.line.text).getD {}))) ∧
      (∀ j, join = some j → ∃ u bytes, getTable tables j.joinedTable = some u ∧ openJoined F j = some bytes ∧
        p.joined = (Reader.lines bytes).map (toFileLine (extractedLine F u.defn)) ∧
        ∀ fl ∈ p.joined, fl.readable = true →
          fl.line.row = extractRow (extractOracles F) u.defn (lineOracle fl.line.text ((F.lines.lookup fl.line.text).getD {}))) := by
  refine ⟨?_, ?_⟩
  · rw [runText_of_front (front_eq_run_iff.2 ⟨defs, query, hc, hd, hp, hq, ht, hs⟩),
      (runStatement_of_prepare F tables stmt fromTable join files p hprep).1]; rfl
  obtain ⟨t, ji, jl, hg, -, hj, rfl⟩ := prepare_iff.1 hprep
  refine ⟨t, hg, rfl, rfl, fun f hf fl hfl hr => ?_, fun j hj' => ?_⟩
  · obtain ⟨bytes, _, rfl⟩ := List.mem_map.1 hf
    exact congrArg Line.row (fileOf_row (fun _ => rfl) hfl hr)
  · subst hj'
    obtain ⟨u, bytes, hu, ho, -, -, rfl⟩ := hj
    exact ⟨u, bytes, hu, ho, rfl, fun fl hfl hr => congrArg Line.row (fileOf_row (fun _ => rfl) hfl hr)⟩

/-- … hence **every cell the query sees is the specified one** (C01 `extract_column_spec` about the program's rows): the
row of a line of an input file — unless a NOT NULL column cut it to the empty row — holds for each column of the table
the definition text lowers to exactly `specColumn`: the referenced group's text of this line converted to the declared
type, NULL / DEFAULT, BOOLEAN = existence, TRIM, arrays and timestamps position by position; and for a JSON-path column
the value at its path in this line's JSON document (C02 `json_column_spec`, next theorem). -/
theorem seen_row_is_specified (F : Facts) (t : Table) (bytes : List Nat)
    (fl : FileLine) (hfl : fl ∈ (Reader.lines bytes).map (toFileLine (extractedLine F t.defn))) (hr : fl.readable = true)
    (hkeep : ¬ cutBy (extractOracles F) (ParsingInput.new t.defn (lineOracle fl.line.text ((F.lines.lookup fl.line.text).getD {})))
      t.defn.columns) :
    fl.line.row = t.defn.columns.map (fun c => specColumn (extractOracles F) c
      (ParsingInput.new t.defn (lineOracle fl.line.text ((F.lines.lookup fl.line.text).getD {})))) := by
  obtain ⟨x, _, rfl⟩ := List.mem_map.1 hfl
  cases x with
  | error u => cases hr
  | ok l => exact Props.C01.extract_column_spec (extractOracles F) t.defn _ hkeep

/-- C02 about the program's rows: position `i` of the row the query sees is column `i`'s value, and a JSON-path
column's value is the one found by following its path through this line's JSON document, typed without coercion -/
theorem seen_json_column_is_specified (F : Facts) (t : Table) (bytes : List Nat)
    (fl : FileLine) (hfl : fl ∈ (Reader.lines bytes).map (toFileLine (extractedLine F t.defn))) (hr : fl.readable = true)
    (hkeep : ¬ cutBy (extractOracles F) (ParsingInput.new t.defn (lineOracle fl.line.text ((F.lines.lookup fl.line.text).getD {})))
      t.defn.columns)
    (i : Nat) (c : Column) (hc : t.defn.columns[i]? = some c) (a : JsonAccess) (hp : c.parsing = .json a) :
    fl.line.row[i]? = some (applyTrim c
      (match followPath a.steps (ParsingInput.new t.defn (lineOracle fl.line.text ((F.lines.lookup fl.line.text).getD {}))).json with
        | none => c.defaultValue
        | some v =>
          if c.options.convert then (match v with | .str s => literal (extractOracles F) c.type s | _ => .null)
          else noCoercion c.type v)) := by
  obtain ⟨x, _, rfl⟩ := List.mem_map.1 hfl
  cases x with
  | error u => cases hr
  | ok l =>
    have h1 := Props.C02.row_is_columnwise (extractOracles F) t.defn
      (lineOracle l ((F.lines.lookup l).getD {})) hkeep i c hc
    rw [Props.C02.json_column_spec (extractOracles F) c _ a hp] at h1
    exact h1

/-! ### non-vacuity and concrete behaviour (kernel-evaluated on `exFacts` / `exDefs` of `Props/Fixture.lean`) -/

/-- the hypotheses of `noise_block_invisible` as a decidable check: the FROM table is defined and every line of the
block is readable and yields no row by the shipped facts -/
def exNoiseHyps (F : Facts) (defsText queryText : List Char) (pre block : List Nat) : Bool :=
  match queriedTable F defsText queryText with
  | some t => decide (NlTerminated pre) && decide (NlTerminated block) &&
      (Reader.lines block).all (fun item => match item with
        | .ok l => noRow F t.defn l
        | .error _ => false)
  | none => false

theorem exNoiseHyps_sound {F : Facts} {defsText queryText : List Char} {pre block : List Nat}
    (h : exNoiseHyps F defsText queryText pre block = true) :
    ∃ t, queriedTable F defsText queryText = some t ∧ NlTerminated pre ∧ NlTerminated block ∧
      ∀ item ∈ Reader.lines block, ∃ l, item = .ok l ∧ noRow F t.defn l = true := by
  unfold exNoiseHyps at h
  split at h
  · rename_i t ht
    simp only [Bool.and_eq_true, decide_eq_true_eq, List.all_eq_true] at h
    refine ⟨t, ht, h.1.1, h.1.2, fun item hi => ?_⟩
    have := h.2 item hi
    cases item with
    | ok l => exact ⟨l, rfl, this⟩
    | error u => cases this
  · cases h

/-- `zzz` does not match the pattern: a block of two such lines (one with CR LF) after the first line -/
theorem exNoise_checked :
    exNoiseHyps exFacts exDefs "select distinct k from t limit 5".toList (strBytes "a;1\n") (strBytes "zzz\r\nzzz\n") = true := by
  unfold exDefs
  rw [String.toList_ofList, String.toList_ofList, exFacts_eq, exNoiseHyps, queriedTable, parseText_eq_K, parseText_eq_K]
  decide +kernel

example : exNoiseHyps exFacts exDefs "select distinct k from t limit 5".toList (strBytes "a;1\n") (strBytes "zzz\r\nzzz\n") = true :=
  exNoise_checked

/-- … from which the hypotheses of `same_rows_same_output` follow for the files with and without the block
(`insert_noise_block`): equally covered, the same lines once the noise is removed -/
example : ∃ t, queriedTable exFacts exDefs "select distinct k from t limit 5".toList = some t ∧
    filesCovered exFacts t.defn [strBytes "a;1\n" ++ strBytes "zzz\r\nzzz\n" ++ strBytes "b;2"] =
      filesCovered exFacts t.defn [strBytes "a;1\n" ++ strBytes "b;2"] ∧
    ([strBytes "a;1\n" ++ strBytes "zzz\r\nzzz\n" ++ strBytes "b;2"].map (fileOf (extractedLine exFacts t.defn))).map denoise =
      ([strBytes "a;1\n" ++ strBytes "b;2"].map (fileOf (extractedLine exFacts t.defn))).map denoise := by
  obtain ⟨t, ht, hpre, hblock, hn⟩ := exNoiseHyps_sound exNoise_checked
  obtain ⟨h1, h2⟩ := insert_noise_block exFacts t.defn _ _ (strBytes "b;2") hpre hblock hn
  exact ⟨t, ht, by simp only [filesCovered, List.all_cons, List.all_nil, Bool.and_true, h1],
    by simp only [List.map_cons, List.map_nil, h2]⟩

/-- the hypotheses of `noise_line_invisible` for the line `zzz` with a CR LF end: no `\n` inside, valid UTF-8 with its
newline, and the line the reader yields (`zzz`, the `\r` removed) yields no row -/
example : nl ∉ strBytes "zzz\r" ∧ validUtf8 (strBytes "zzz\r" ++ [nl]) = true ∧
    ((queriedTable exFacts exDefs "select k from t".toList).map (fun t => noRow exFacts t.defn (stripCr (strBytes "zzz\r")))) = some true := by
  unfold exDefs
  rw [String.toList_ofList, String.toList_ofList, exFacts_eq, queriedTable, parseText_eq_K, parseText_eq_K]
  decide +kernel

/-- … and the output with and without the block is the same; the line counter is not (4 lines read against 2) -/
example :
    recordsOf (runText exFacts exDefs "select distinct k from t limit 5".toList .text false [strBytes "a;1\nzzz\r\nzzz\nb;2"]) =
      some (none, 4, [strBytes "k: 'a'", strBytes "k: 'b'"]) ∧
    recordsOf (runText exFacts exDefs "select distinct k from t limit 5".toList .text false [strBytes "a;1\nb;2"]) =
      some (none, 2, [strBytes "k: 'a'", strBytes "k: 'b'"]) := by
  rw [exRun, exRun, String.toList_ofList]; decide +kernel

/-- boundary: the end of a file without final newline is not a line boundary — the inserted bytes continue the last
line (`b;2zzz` is another line; here the case does not even ship its facts) -/
example : ¬ NlTerminated (strBytes "a;1\nb;2") ∧
    recordsOf (runText exFacts exDefs "select k from t".toList .text false [strBytes "a;1\nb;2" ++ strBytes "zzz\n"]) = none := by
  rw [exRun, String.toList_ofList]; decide +kernel

/-- boundary: a line that is not valid UTF-8 is not noise — inserting it turns the answer into `FailReadFile` -/
example : recordsOf (runText exFacts exDefs "select k from t".toList .text false [strBytes "a;1\n" ++ [255, 10] ++ strBytes "b;2\n"]) =
    some (some .failReadFile, 1, [strBytes "k: 'a'"]) := by
  rw [exRun, String.toList_ofList]; decide +kernel

/-- boundary: with the FROM table not defined there are no rows; the first line read raises `TableNotFound`, so even a
line that "matches nothing" changes the status of a run over an empty file -/
example : recordsOf (runText exFacts exDefs "select k from nosuch".toList .text false [[]]) = some (none, 0, []) ∧
    recordsOf (runText exFacts exDefs "select k from nosuch".toList .text false [strBytes "zzz\n"]) = some (some .tableNotFound, 1, []) := by
  rw [exRun, exRun, String.toList_ofList]; decide +kernel

/-- a joined file (`u.log`) with a noise line: facts, definitions of both tables -/
def exJoinFacts (joined : List Nat) : Facts := { exFacts with fs := [("u.log", joined)] }
def exJoinDefs : List Char :=
  "CREATE TABLE t(line = '^([a-z]+);([0-9]+)$', line[1] => k TEXT, line[2] => v INT); CREATE TABLE u(line = '^([a-z]+);([0-9]+)$', line[1] => k TEXT, line[2] => w INT);".toList

/-- hypotheses of `joined_noise_block_invisible`: the joined table is defined, the block's line yields no row for it -/
example : (match joinedSource (exJoinFacts (strBytes "a;1\nzzz\nb;2\n")) exJoinDefs "select t.k, w from t inner join u::'u.log' on t.k = u.k".toList with
    | some (u, name) => name == "u.log" && noRow (exJoinFacts (strBytes "a;1\nzzz\nb;2\n")) u.defn (strBytes "zzz")
    | none => false) = true := by
  -- evaluated under `Option.map`: under a `match` the kernel would run the unrewritten text as well
  have h : (joinedSource (exJoinFacts (strBytes "a;1\nzzz\nb;2\n")) exJoinDefs "select t.k, w from t inner join u::'u.log' on t.k = u.k".toList).map
      (fun p => p.2 == "u.log" && noRow (exJoinFacts (strBytes "a;1\nzzz\nb;2\n")) p.1.defn (strBytes "zzz")) = some true := by
    unfold exJoinDefs exJoinFacts
    rw [String.toList_ofList, String.toList_ofList, exFacts_eq, joinedSource, parseText_eq_K, parseText_eq_K]
    decide +kernel
  split
  · next u name hj => rw [hj] at h; exact Option.some.inj h
  · next hj => rw [hj] at h; cases h

example :
    recordsOf (runText (exJoinFacts (strBytes "a;1\nzzz\nb;2\n")) exJoinDefs "select t.k, w from t inner join u::'u.log' on t.k = u.k".toList .text false [strBytes "b;2\n"]) =
    recordsOf (runText (exJoinFacts (strBytes "a;1\nb;2\n")) exJoinDefs "select t.k, w from t inner join u::'u.log' on t.k = u.k".toList .text false [strBytes "b;2\n"]) ∧
    recordsOf (runText (exJoinFacts (strBytes "a;1\nb;2\n")) exJoinDefs "select t.k, w from t inner join u::'u.log' on t.k = u.k".toList .text false [strBytes "b;2\n"]) =
      some (none, 1, [strBytes "t.k: 'b', w: 2"]) := by
  unfold exJoinDefs exJoinFacts; rw [String.toList_ofList, String.toList_ofList, exFacts_eq]
  simp only [runText_eq_K]
  decide +kernel

/-- `multi_file_eq_concat_program` on three files (CR LF, an empty file, a last line without newline), with LIMIT -/
example : (∀ f ∈ [strBytes "a;1\r\n", [], strBytes "zzz\n"], NlTerminated f) ∧
    recordsOf (runText exFacts exDefs "select k, v from t limit 2".toList (.csv [59]) false ([strBytes "a;1\r\n", [], strBytes "zzz\n"] ++ [strBytes "b;2"])) =
    recordsOf (runText exFacts exDefs "select k, v from t limit 2".toList (.csv [59]) false [strBytes "a;1\r\nzzz\nb;2"]) := by
  have h : ∀ f ∈ [strBytes "a;1\r\n", [], strBytes "zzz\n"], NlTerminated f := by decide +kernel
  have e : ([strBytes "a;1\r\n", [], strBytes "zzz\n"] ++ [strBytes "b;2"]).flatten = strBytes "a;1\r\nzzz\nb;2" := by decide +kernel
  rw [multi_file_eq_concat_program _ _ _ _ _ _ _ h, e]
  exact ⟨h, rfl⟩

/-- hypotheses of `invalid_utf8_never_ok`: a file with an invalid line after a good one; the answer is `FailReadFile`
with the record before it printed; the later line `b;2` is not processed, and that is reported, not silent -/
example : Except.error () ∈ [[97, 59, 49, 10, 195, 10, 98, 59, 50, 10]].flatMap Reader.lines := by
  show Except.error () ∈ [Except.ok [97, 59, 49], Except.error (), Except.ok [98, 59, 50]]
  simp
example : recordsOf (runText exFacts exDefs "select count(*) from t".toList .text false [strBytes "a;1\n" ++ [195, 10] ++ strBytes "b;2\n"]) =
    some (some .failReadFile, 1, []) := by
  rw [exRun, String.toList_ofList]; decide +kernel

theorem queryNoLimit_of_shape {F : Facts} {queryText : List Char}
    (h : exQueryShape F queryText (fun st => match st with | .select s => s.limit.isNone | .aggregate _ => true) = true) :
    QueryNoLimit F queryText := by
  intro query stmt f j hq hs
  have := exQueryShape_sound F _ _ h query stmt f j hq hs
  cases stmt with
  | select s => simp only [Option.isNone_iff_eq_none] at this; exact this
  | aggregate a => trivial

theorem queryIsSelect_of_shape {F : Facts} {queryText : List Char}
    (h : exQueryShape F queryText (fun st => match st with | .select _ => true | .aggregate _ => false) = true) :
    QueryIsSelect F queryText := by
  intro query stmt f j hq hs
  have := exQueryShape_sound F _ _ h query stmt f j hq hs
  cases stmt with
  | select s => exact ⟨s, rfl⟩
  | aggregate a => cases this

/-- `QueryNoLimit` holds for `select count(*) from t` and for `select k from t`; `QueryIsSelect` for the latter -/
example : QueryNoLimit exFacts "select count(*) from t".toList :=
  queryNoLimit_of_shape (by rw [String.toList_ofList, exFacts_eq]; decide +kernel)
example : QueryNoLimit exFacts "select k from t".toList ∧ QueryIsSelect exFacts "select k from t".toList :=
  ⟨queryNoLimit_of_shape (by rw [String.toList_ofList, exFacts_eq]; decide +kernel),
    queryIsSelect_of_shape (by rw [String.toList_ofList, exFacts_eq]; decide +kernel)⟩

/-- hypothesis of `lines_before_invalid_line_are_processed`: the lines of the files are the lines of the cut-off input,
the invalid line, and the rest; its case (c): the same record, the same count, `Ok` against `FailReadFile` -/
example : [[97, 59, 49, 10, 195, 10, 98, 59, 50, 10]].flatMap Reader.lines =
    [[97, 59, 49, 10]].flatMap Reader.lines ++ Except.error () :: [Except.ok [98, 59, 50]] := by rfl
example : recordsOf (runText exFacts exDefs "select k from t".toList .text false [strBytes "a;1\n"]) = some (none, 1, [strBytes "k: 'a'"]) ∧
    recordsOf (runText exFacts exDefs "select k from t".toList .text false [strBytes "a;1\n" ++ [195, 10] ++ strBytes "b;2\n"]) =
      some (some .failReadFile, 1, [strBytes "k: 'a'"]) := by
  rw [exRun, exRun, String.toList_ofList]; decide +kernel
/-- with LIMIT the run may end `Ok` before the invalid line is reached: it stopped reading (C07) -/
example : recordsOf (runText exFacts exDefs "select k from t limit 1".toList .text false [strBytes "a;1\n" ++ [195, 10] ++ strBytes "b;2\n"]) =
    some (none, 1, [strBytes "k: 'a'"]) := by
  rw [exRun, String.toList_ofList]; decide +kernel

/-- equality of `BufRead::lines` items is decidable (for the `Perm` hypothesis below) -/
instance : DecidableEq (Except Unit (List Nat))
  | .ok a, .ok b => if h : a = b then isTrue (by rw [h]) else isFalse (fun e => h (Except.ok.inj e))
  | .error _, .error _ => isTrue rfl
  | .ok _, .error _ => isFalse (fun e => by cases e)
  | .error _, .ok _ => isFalse (fun e => by cases e)

/-- the hypotheses of `line_order_irrelevant` that can be evaluated (texts lower, run prepared, the specification
answers with an empty deviation class for the first input) on a concrete pair of inputs … -/
def exPermHyps (F : Facts) (defsText queryText : List Char) (files₁ files₂ : List (List Nat)) : Bool :=
  classesCover F defsText && classesCover F queryText &&
  decide ((files₁.flatMap Reader.lines).Perm (files₂.flatMap Reader.lines)) &&
  match parseText (lexOracles F) (regexValidFn F) defsText, parseText (lexOracles F) (regexValidFn F) queryText with
  | .stmt defs, .stmt (.aggregate a fromTable _ none) =>
    (createPatterns defs).all (fun re => ((Utf8.decode re).bind (regexValidOf F)).isSome) &&
    match addTables defs with
    | some tables =>
      match prepare F tables (.aggregate a) fromTable none files₁ with
      | some p₁ =>
        (match Spec.Agg.batch F.eval p₁.qy a p₁.joined p₁.files with
          | some (_, cls) => cls == ""
          | none => false)
      | none => false
    | none => false
  | _, _ => false

example : exPermHyps exFacts exDefs "select k, count(*), max(v), sum(v) from t group by k".toList
    [strBytes "a;1\nb;2\nzzz\n", strBytes "a;1\n"] [strBytes "a;1\r\nzzz\n", strBytes "a;1\nb;2"] = true := by
  unfold exDefs
  rw [String.toList_ofList, String.toList_ofList, exFacts_eq, exPermHyps, parseText_eq_K, parseText_eq_K]
  decide +kernel

/-- … the hypothesis `hsafe` of `line_order_irrelevant` on that invocation: the admitted rows of the first input pass the
check, hence are `PermSafe` -/
def exPermSafe (F : Facts) (defsText queryText : List Char) (files₁ : List (List Nat)) : Bool :=
  match parseText (lexOracles F) (regexValidFn F) defsText, parseText (lexOracles F) (regexValidFn F) queryText with
  | .stmt defs, .stmt (.aggregate a fromTable _ none) =>
    match (addTables defs).bind (fun tables => prepare F tables (.aggregate a) fromTable none files₁) with
    | some p₁ => (match keyedRows F.eval a (envsOf p₁.qy.table p₁.files.flatten) with
      | some keyed => permSafeB F.eval a keyed
      | none => false)
    | none => false
  | _, _ => false

example : exPermSafe exFacts exDefs "select k, count(*), max(v), sum(v) from t group by k".toList
    [strBytes "a;1\nb;2\nzzz\n", strBytes "a;1\n"] = true := by
  unfold exDefs
  rw [String.toList_ofList, String.toList_ofList, exFacts_eq, exPermSafe, parseText_eq_K, parseText_eq_K]
  decide +kernel

/-- … whose answers are the same table -/
example :
    recordsOf (runText exFacts exDefs "select k, count(*), max(v), sum(v) from t group by k".toList .text false [strBytes "a;1\nb;2\nzzz\n", strBytes "a;1\n"]) =
    recordsOf (runText exFacts exDefs "select k, count(*), max(v), sum(v) from t group by k".toList .text false [strBytes "a;1\r\nzzz\n", strBytes "a;1\nb;2"]) := by
  rw [exRun, exRun, String.toList_ofList]; decide +kernel

/-- the hypotheses of `split_input_is_merge_of_summaries` that can be evaluated (texts lower, order-insensitive aggregates,
both parts prepared, the specification answers with an empty deviation class for the parts and for the whole, `SplitSafe` by
the decidable check `splitSafeInputsB`) on a concrete invocation … -/
def exSplitHyps (F : Facts) (defsText queryText : List Char) (files₁ files₂ : List (List Nat)) : Bool :=
  classesCover F defsText && classesCover F queryText &&
  match parseText (lexOracles F) (regexValidFn F) defsText, parseText (lexOracles F) (regexValidFn F) queryText with
  | .stmt defs, .stmt (.aggregate a fromTable _ none) =>
    (createPatterns defs).all (fun re => ((Utf8.decode re).bind (regexValidOf F)).isSome) &&
    (slotKinds a).all orderInsensitive &&
    match addTables defs with
    | some tables =>
      match prepare F tables (.aggregate a) fromTable none files₁, prepare F tables (.aggregate a) fromTable none files₂ with
      | some p₁, some p₂ =>
        (Spec.Agg.batch F.eval p₁.qy a p₁.joined (p₁.files ++ p₂.files)).map (·.2) == some "" &&
        (Spec.Agg.batch F.eval p₁.qy a p₁.joined p₁.files).map (·.2) == some "" &&
        (Spec.Agg.batch F.eval p₂.qy a p₂.joined p₂.files).map (·.2) == some "" &&
        splitSafeInputsB F.eval a (envsOf p₁.qy.table p₁.files.flatten) (envsOf p₂.qy.table p₂.files.flatten)
      | _, _ => false
    | none => false
  | _, _ => false

example : exSplitHyps exFacts exDefs
    "select k, count(*), max(v), sum(v), avg(v), min(v), count(distinct v), percentile(v, 0.5) from t group by k".toList
    [strBytes "a;1\nb;2\nzzz\n"] [strBytes "b;2\nb;2\na;1"] = true := by
  unfold exDefs
  rw [String.toList_ofList, String.toList_ofList, exFacts_eq, exSplitHyps, parseText_eq_K, parseText_eq_K]
  decide +kernel

/-- … whose answers are: over the parts (a: 1 row, b: 1 row | a: 1 row, b: 2 rows) and over the whole, as two files and as one
file cut at the line boundary — counts and sums added, extremes combined, 6 lines counted -/
example :
    recordsOf (runText exFacts exDefs "select k, count(*), max(v), sum(v), avg(v), min(v), count(distinct v), percentile(v, 0.5) from t group by k".toList
      .text false [strBytes "a;1\nb;2\nzzz\n"]) =
      some (none, 3, [strBytes "k: 'a', count1: 1, max2: 1, sum3: 1, avg4: 1, min5: 1, count6: 1, percentile7: 1",
                      strBytes "k: 'b', count1: 1, max2: 2, sum3: 2, avg4: 2, min5: 2, count6: 1, percentile7: 2"]) ∧
    recordsOf (runText exFacts exDefs "select k, count(*), max(v), sum(v), avg(v), min(v), count(distinct v), percentile(v, 0.5) from t group by k".toList
      .text false [strBytes "b;2\nb;2\na;1"]) =
      some (none, 3, [strBytes "k: 'a', count1: 1, max2: 1, sum3: 1, avg4: 1, min5: 1, count6: 1, percentile7: 1",
                      strBytes "k: 'b', count1: 2, max2: 2, sum3: 4, avg4: 2, min5: 2, count6: 1, percentile7: 2"]) ∧
    recordsOf (runText exFacts exDefs "select k, count(*), max(v), sum(v), avg(v), min(v), count(distinct v), percentile(v, 0.5) from t group by k".toList
      .text false ([strBytes "a;1\nb;2\nzzz\n"] ++ [strBytes "b;2\nb;2\na;1"])) =
      some (none, 6, [strBytes "k: 'a', count1: 2, max2: 1, sum3: 2, avg4: 1, min5: 1, count6: 1, percentile7: 1",
                      strBytes "k: 'b', count1: 3, max2: 2, sum3: 6, avg4: 2, min5: 2, count6: 1, percentile7: 2"]) ∧
    runText exFacts exDefs "select k, count(*), max(v), sum(v), avg(v), min(v), count(distinct v), percentile(v, 0.5) from t group by k".toList
      .text false [strBytes "a;1\nb;2\nzzz\n" ++ strBytes "b;2\nb;2\na;1"] =
    runText exFacts exDefs "select k, count(*), max(v), sum(v), avg(v), min(v), count(distinct v), percentile(v, 0.5) from t group by k".toList
      .text false ([strBytes "a;1\nb;2\nzzz\n"] ++ [strBytes "b;2\nb;2\na;1"]) := by
  rw [← and_assoc, ← and_assoc]
  refine ⟨?_, split_file_is_split_input _ _ _ _ _ _ _ (by decide +kernel)⟩
  rw [exRun, exRun, exRun, String.toList_ofList, strBytes_ofList, strBytes_ofList, strBytes_ofList, strBytes_ofList, strBytes_ofList,
    strBytes_ofList, strBytes_ofList]
  decide +kernel

/-- **With HAVING the parts' PRINTED tables do not determine the whole** (why the split theorems speak of summaries).
Statement `select k, count(*), sum(v) from t where v > 0 group by k having count(*) > 1`. Part 1 = lines (a,1), (b,2), (b,2):
group a has ONE row and fails HAVING, the part prints `[b, 2, 4]`. Part 2 = line (a,1): prints nothing. The whole prints
`[a, 2, 2], [b, 2, 4]`: group a, printed by NEITHER part, is in the result. With part 2' = a line that is no row the parts print
exactly the same two tables (`[b, 2, 4]` and nothing) and the whole prints `[b, 2, 4]` only. All hypotheses of
`split_input_is_merge_of_summaries` hold on both invocations (`exSplitHyps`; the statement has COUNT(*), so
`split_input_all_cuts_of_count_star` applies as well): what is merged are the per-group summaries before HAVING — part 1
remembers (a: count 1, sum 1) although it does not print it. (The real program prints the same records: third review, M9.) -/
theorem having_parts_do_not_determine_the_whole :
    let q := "select k, count(*), sum(v) from t where v > 0 group by k having count(*) > 1".toList
    recordsOf (runText exFacts exDefs q .text false [strBytes "a;1\nb;2\nb;2\n"]) = some (none, 3, [strBytes "k: 'b', count1: 2, sum2: 4"]) ∧
    recordsOf (runText exFacts exDefs q .text false [strBytes "a;1\n"]) = some (none, 1, []) ∧
    recordsOf (runText exFacts exDefs q .text false [strBytes "zzz\n"]) = some (none, 1, []) ∧
    recordsOf (runText exFacts exDefs q .text false ([strBytes "a;1\nb;2\nb;2\n"] ++ [strBytes "a;1\n"])) =
      some (none, 4, [strBytes "k: 'a', count1: 2, sum2: 2", strBytes "k: 'b', count1: 2, sum2: 4"]) ∧
    recordsOf (runText exFacts exDefs q .text false ([strBytes "a;1\nb;2\nb;2\n"] ++ [strBytes "zzz\n"])) =
      some (none, 4, [strBytes "k: 'b', count1: 2, sum2: 4"]) ∧
    exSplitHyps exFacts exDefs q [strBytes "a;1\nb;2\nb;2\n"] [strBytes "a;1\n"] = true ∧
    exSplitHyps exFacts exDefs q [strBytes "a;1\nb;2\nb;2\n"] [strBytes "zzz\n"] = true := by
  dsimp only
  simp only [exRun]
  unfold exDefs
  rw [String.toList_ofList, String.toList_ofList, exFacts_eq, exSplitHyps, exSplitHyps, parseText_eq_K, parseText_eq_K]
  decide +kernel

/-- the hypothesis of `query_sees_extracted_rows` (a prepared run) holds on the invocations of `Props/Pipeline.lean`
(`exSelectHyps`, `exAggHyps` evaluate `prepare … = some p`); the row seen for `a;1` is the extracted one -/
example : ((queriedTable exFacts exDefs "select k from t".toList).bind (fun t => fileLines exFacts t.defn (strBytes "a;1\nzzz\n"))).map
      (fun fls => fls.map (fun fl => (fl.readable, fl.line.row.map display))) =
    some [(true, ["'a'", "1"]), (true, ["NULL", "NULL"])] := by
  unfold exDefs
  rw [String.toList_ofList, String.toList_ofList, exFacts_eq, queriedTable, parseText_eq_K, parseText_eq_K]
  decide +kernel

end Sqlgrep.Props.PipelineLines
