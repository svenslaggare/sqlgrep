import SqlgrepModel.Lemmas.ParseLoc
import SqlgrepModel.Lemmas.ParseRenameCreate
/-
The statement parser does not depend on token locations: running `Parser::parse` (`Model/ParseStmt.lean`) on the token
vector with every location replaced by the default one gives the same answer with every location erased (tree,
error kind, remaining state): the theorems of `Lemmas/ParseRenameStmt.lean` (SELECT, JOIN, the clause loop) and
`Lemmas/ParseRenameCreate.lean` (CREATE TABLE, column definitions and types) at the morphism `Morph.strip`, which sends
every location to the default one and respells no identifier.
-/
namespace Sqlgrep

/-- projections with the locations of their expressions erased -/
def eraseProj (ps : List (Option (List Char) × PExpr)) : List (Option (List Char) × PExpr) :=
  ps.map (fun p => (p.1, p.2.eraseLoc))

def Clauses.eraseLoc (c : Clauses) : Clauses :=
  { filter := c.filter.map PExpr.eraseLoc, groupBy := c.groupBy.map PExpr.eraseLoc.eraseLocs,
    having := c.having.map PExpr.eraseLoc, join := c.join, limit := c.limit }

def PCreate.eraseLoc (c : PCreate) : PCreate := { c with loc := default, endLoc := default }

def POp.eraseLoc : POp → POp
  | .select q => .select { q with loc := default, projections := eraseProj q.projections,
                                  filter := q.filter.map PExpr.eraseLoc,
                                  groupBy := q.groupBy.map PExpr.eraseLoc.eraseLocs,
                                  having := q.having.map PExpr.eraseLoc }
  | .createTable c => .createTable c.eraseLoc
  | .multiple cs => .multiple (cs.map PCreate.eraseLoc)

def ParseOutcome.strip : ParseOutcome → ParseOutcome
  | .tree t => .tree t.eraseLoc
  | .error e => .error e.strip
  | .fuel => .fuel
  | .panic => .panic

namespace Parse

theorem eraseProj_single (a : Option (List Char)) (e : PExpr) : eraseProj [(a, e)] = [(a, e.eraseLoc)] := rfl
theorem eraseProj_nil : eraseProj [] = [] := rfl

theorem relabel_eraseLoc_create : PCreate.relabelAll (fun _ => default) id = PCreate.eraseLoc := by
  funext c
  have hp : renPatterns id c.patterns = c.patterns := List.map_id' c.patterns
  rw [PCreate.relabelAll, PCreate.renAll, hp, PColDef.renAll_id, List.map_id]; rfl

theorem relabel_eraseLoc_select (q : PSelect) : POp.eraseLoc (.select q) = .select (q.relabelAll (fun _ => default) id) := by
  have hj : PJoin.renAll id = id := rfl
  have hp : relabelProj (fun _ => default) id q.projections = eraseProj q.projections :=
    List.map_congr_left fun p _ => by rw [PExpr.eraseLoc_eq_mapAll.1, Option.map_id]; rfl
  rw [PSelect.relabelAll, hp, ← funext PExpr.eraseLoc_eq_mapAll.1, ← funext PExpr.eraseLoc_eq_mapAll.2.1, hj, Option.map_id]; rfl

theorem opOfCreates_erase (cs : List PCreate) : (opOfCreates cs).eraseLoc = opOfCreates (cs.map PCreate.eraseLoc) := by
  cases cs with
  | nil => rfl
  | cons c rest => cases rest <;> rfl

/-- **the statement parser reads only the tokens**: on the token vector with all locations reset, `Parser::parse`
answers what it answers on the original, locations erased (same tree up to locations, same error kind) -/
theorem parseTokens_strip (T : PrecTables) (toks : List PTok) :
    parseTokens T (toks.map PTok.strip) = (parseTokens T toks).strip := by
  have h := parseTokens_relabel (ℓ := fun _ => default) (ρ := id) (T := T) (fop := POp.eraseLoc) (toks := toks)
    fun t ts _ n => parseOp_relabel (parseStatement_morph (Morph.strip T) createNameMap_id (fun _ h => h) relabel_eraseLoc_select
      (fun cs => by rw [relabel_eraseLoc_create]; exact opOfCreates_erase cs) n _)
  rw [relabel_strip_tok, relabel_strip_err] at h
  rw [h]
  cases parseTokens T toks <;> rfl

end Parse
end Sqlgrep
