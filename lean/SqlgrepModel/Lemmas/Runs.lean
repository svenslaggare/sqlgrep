import SqlgrepModel.Lemmas.Drive
import SqlgrepModel.Lemmas.SelectList
/-
The executors as `endRun ∘ drive`. The loops over the files and over delivered lines under an interrupt (C19): a run whose
`running` flag is found cleared before input line `k` is the uninterrupted run over the first `k` lines, looks at no line
beyond them, and against the uninterrupted run over the same input it is identical or frozen at the clearing point (`Rel`).
What `runBatch`, `runWithIndex`, `runBatchI`, `runWithIndexT` and `runBatchT` do after the loop over the files is one function
of the loop's final state, `endRun`; a fact about the end of a run is proved about `endRun`.
-/
namespace Sqlgrep

/-- the first `k` lines of the input files (file boundaries kept) -/
def takeLines : Nat → List (List FileLine) → List (List FileLine)
  | _, [] => []
  | k, f :: rest => f.take k :: takeLines (k - f.length) rest

/-- the specification's `takeBlocks`, on files -/
theorem takeLines_eq_takeBlocks (k : Nat) (files : List (List FileLine)) : takeLines k files = Spec.Select.takeBlocks k files := by
  induction files generalizing k with
  | nil => rfl
  | cons f rest ih => rw [takeLines, Spec.Select.takeBlocks, ih]

theorem takeLines_flatten (k : Nat) (files : List (List FileLine)) : (takeLines k files).flatten = files.flatten.take k :=
  takeLines_eq_takeBlocks k files ▸ Spec.Select.takeBlocks_flatten k files

theorem runFiles_stop_eq_take (O : Oracles) (qy : Query) (idx : JoinIndex) (w : Bool) (k : Nat)
    (files : List (List FileLine)) (ls : LoopState) (h : ls.consumed ≤ k) :
    runFiles O qy idx w (some k) files ls = runFiles O qy idx w none (takeLines (k - ls.consumed) files) ls := by
  rw [runFiles_eq_drive, runFiles_eq_drive, takeLines_flatten]
  split
  · rfl
  · next hs => rw [drive_take _ _ k _ ⟨ls, []⟩ (Bool.or_eq_false_iff.1 (Bool.eq_false_iff.2 hs)).1 h]

theorem runFiles_stop_consumed_le (O : Oracles) (qy : Query) (idx : JoinIndex) (w : Bool) (k : Nat)
    (fs : List (List FileLine)) (ls : LoopState) (h : ls.consumed ≤ k) :
    (runFiles O qy idx w (some k) fs ls).consumed ≤ k := by
  rw [runFiles_eq_drive]
  split
  · exact h
  · exact drive_consumed_le _ _ k _ (s := ⟨ls, []⟩) h

theorem runFiles_sound (O : Oracles) (qy : Query) (idx : JoinIndex) (w : Bool) (sa : Option Nat)
    (files : List (List FileLine)) (ls : LoopState) (h : Sound ls) : Sound (runFiles O qy idx w sa files ls) := by
  rw [runFiles_eq_drive]
  split
  · exact h
  · exact drive_sound _ _ sa _ (s := ⟨ls, []⟩) h

theorem runFiles_rel (O : Oracles) (qy : Query) (idx : JoinIndex) (w : Bool) (k : Nat)
    (files : List (List FileLine)) (ls : LoopState) (hc : ls.consumed ≤ k) :
    Rel k (runFiles O qy idx w (some k) files ls) (runFiles O qy idx w none files ls) := by
  rw [runFiles_eq_drive, runFiles_eq_drive]
  split
  · exact .inl rfl
  · next hs => exact drive_rel _ _ k _ ⟨ls, []⟩ hc (Bool.or_eq_false_iff.1 (Bool.eq_false_iff.2 hs)).1

theorem runFiles_takeLines_zero (O : Oracles) (qy : Query) (idx : JoinIndex) (w : Bool)
    (files : List (List FileLine)) (ls : LoopState) :
    runFiles O qy idx w none (takeLines 0 files) ls = ls := by
  rw [runFiles_eq, takeLines_flatten, List.take_zero, runFile, ite_self]

theorem runFollow_stop_eq_take (O : Oracles) (qy : Query) (k : Nat) (lines : List Line) (ls : LoopState)
    (h : ls.consumed ≤ k) (hs : ls.stop = false := by rfl) :
    runFollow O qy (some k) lines ls = runFollow O qy none (lines.take (k - ls.consumed)) ls := by
  rw [runFollow_eq_drive _ _ _ _ _ hs, runFollow_eq_drive _ _ _ _ _ hs, drive_take _ _ k _ ⟨ls, []⟩ hs h, readableFile_take]

theorem runFollow_rel (O : Oracles) (qy : Query) (k : Nat) (lines : List Line) (ls : LoopState)
    (hc : ls.consumed ≤ k) (hst : ls.stop = false) :
    Rel k (runFollow O qy (some k) lines ls) (runFollow O qy none lines ls) := by
  rw [runFollow_eq_drive _ _ _ _ _ hst, runFollow_eq_drive _ _ _ _ _ hst]
  exact drive_rel _ _ k _ ⟨ls, []⟩ hc hst

theorem runFollow_totalLines_le (O : Oracles) (qy : Query) (sa : Option Nat) (lines : List Line) (ls : LoopState)
    (hs : ls.stop = false := by rfl) :
    (runFollow O qy sa lines ls).out.totalLines ≤ ls.out.totalLines + lines.length := by
  rw [runFollow_eq_drive _ _ _ _ _ hs]
  simpa [readableFile] using drive_totalLines_le (.follow qy) (executeLine O qy [] true) sa (readableFile lines) ⟨ls, []⟩

theorem runFollowAll_eq (O : Oracles) (qy : Query) (stopAt : Option Nat) (lines : List Line) :
    runFollowAll O qy stopAt lines = if reachedLimit qy {} then {} else (runFollow O qy stopAt lines {}).out := rfl

theorem runFollowAll_of_not_limit (O : Oracles) (qy : Query) (stopAt : Option Nat) (lines : List Line)
    (h : reachedLimit qy {} = false) : runFollowAll O qy stopAt lines = (runFollow O qy stopAt lines {}).out := by
  simp [runFollowAll, h]

/-- the lines the follow loop is given: with the limit reached before the first line (`LIMIT 0`) nothing is read. A follow run
is the loop over these lines from the initial state (`runFollowAll_eq_loop`, `runFollowAllT_eq_loop`), so a fact about the
loop over any lines is a fact about the run, with no case of its own for `LIMIT 0` -/
def followInput (qy : Query) (lines : List Line) : List Line := if reachedLimit qy {} then [] else lines

theorem followInput_take (qy : Query) (k : Nat) (lines : List Line) :
    followInput qy (lines.take k) = (followInput qy lines).take k := by
  unfold followInput
  split
  · exact List.take_nil.symm
  · rfl

theorem followInput_filter (qy : Query) (p : Line → Bool) (lines : List Line) :
    followInput qy (lines.filter p) = (followInput qy lines).filter p := by
  unfold followInput
  split <;> rfl

theorem runFollowAll_eq_loop (O : Oracles) (qy : Query) (sa : Option Nat) (lines : List Line) :
    runFollowAll O qy sa lines = (runFollow O qy sa (followInput qy lines) {}).out := by
  unfold runFollowAll followInput
  split <;> rfl

theorem runFollowAllT_eq_loop (O : Oracles) (qy : Query) (sa : Option Nat) (lines : List Line) :
    runFollowAllT O qy sa lines =
      { out := (runFollowT O qy sa (followInput qy lines) {}).ls.out, calls := (runFollowT O qy sa (followInput qy lines) {}).calls } := by
  unfold runFollowAllT followInput
  split <;> rfl

theorem runFollow_nil (O : Oracles) (qy : Query) (stopAt : Option Nat) (ls : LoopState) :
    runFollow O qy stopAt [] ls = ls := rfl

/-- one uninterrupted step, the engine answered without a result table: the loop goes on (the limit flag is not
looked at) -/
theorem runFollow_cons_noresult (O : Oracles) (qy : Query) (l : Line) (rest : List Line) (ls : LoopState)
    (es : EngineState) (lo : LineOut) (hx : executeLine O qy [] true ls.es l = .ok (es, lo)) (hr : lo.result = none) :
    runFollow O qy none (l :: rest) ls = runFollow O qy none rest { (followCounted ls) with es := es } := by
  have hn : ¬((none : Option Nat) == some ls.consumed) = true := Bool.false_ne_true
  rw [runFollow, if_neg hn]
  simp only [hx, hr]
  rfl

/-- one uninterrupted step with a result table: it is printed; the loop ends there iff the limit flag is set -/
theorem runFollow_cons_result (O : Oracles) (qy : Query) (l : Line) (rest : List Line) (ls : LoopState)
    (es : EngineState) (lo : LineOut) (r : RowOut) (hx : executeLine O qy [] true ls.es l = .ok (es, lo))
    (hr : lo.result = some r) :
    runFollow O qy none (l :: rest) ls =
      (if lo.reachedLimit then { followResult qy ls es r with stop := true }
       else runFollow O qy none rest (followResult qy ls es r)) := by
  have hn : ¬((none : Option Nat) == some ls.consumed) = true := Bool.false_ne_true
  rw [runFollow, if_neg hn]
  simp only [hx, hr]
  rfl

/-- one uninterrupted step on which the engine fails: the failure is recorded and the loop ends -/
theorem runFollow_cons_fail (O : Oracles) (qy : Query) (l : Line) (rest : List Line) (ls : LoopState)
    (h : ∀ p, executeLine O qy [] true ls.es l ≠ .ok p) :
    runFollow O qy none (l :: rest) ls =
      { (followCounted ls) with out := failWith (followCounted ls).out (executeLine O qy [] true ls.es l), stop := true } := by
  have hn : ¬((none : Option Nat) == some ls.consumed) = true := Bool.false_ne_true
  rw [runFollow, if_neg hn]
  dsimp only
  cases hx : executeLine O qy [] true ls.es l with
  | ok p => exact absurd hx (h p)
  | _ => rfl

/-- after the loop over the files: a failed run is left as it is; an aggregate statement prints its table -/
def endRun (O : Oracles) (qy : Query) (s : TraceState) : TraceOut :=
  if hasFailed s.ls.out then { out := s.ls.out, calls := s.calls }
  else match qy.stmt with
    | .aggregate q =>
      match finalResult O q s.ls.es with
      | .ok r => { out := { s.ls.out with printed := s.ls.out.printed ++ printResult r true },
                   calls := s.calls ++ [{ result := r, final := true }] }
      | o => { out := failWith s.ls.out o, calls := s.calls }
    | _ => { out := s.ls.out, calls := s.calls }

theorem runWithIndexT_ok (O : Oracles) (qy : Query) (idx : JoinIndex) (files : List (List FileLine)) :
    runWithIndexT O qy (.ok idx) files = endRun O qy (runFilesT O qy idx (!isUpdated qy) files {}) := rfl

theorem endRun_out (O : Oracles) (qy : Query) (s : TraceState) (cs : List PrintCall) :
    (endRun O qy { s with calls := cs }).out = (endRun O qy s).out := by
  unfold endRun
  dsimp only
  split
  · rfl
  · cases qy.stmt with
    | select q => rfl
    | aggregate q => dsimp only; cases finalResult O q s.ls.es <;> rfl

theorem runWithIndex_ok (O : Oracles) (qy : Query) (idx : JoinIndex) (files : List (List FileLine)) (sa : Option Nat) :
    runWithIndex O qy (.ok idx) files sa = (endRun O qy ⟨runFiles O qy idx (!isUpdated qy) sa files {}, []⟩).out := by
  unfold runWithIndex endRun isUpdated
  cases hq : qy.stmt with
  | select q => dsimp only; split <;> rfl
  | aggregate q =>
    dsimp only
    split
    · rfl
    · cases finalResult O q (runFiles O qy idx (!true) sa files {}).es <;> rfl

theorem endRun_printed (O : Oracles) (qy : Query) (s : TraceState) (h : s.ls.out.printed = renderCalls s.calls) :
    (endRun O qy s).out.printed = renderCalls (endRun O qy s).calls := by
  unfold endRun
  split
  · exact h
  · cases qy.stmt with
    | select q => exact h
    | aggregate q =>
      dsimp only
      cases finalResult O q s.ls.es with
      | ok r => simp [h, renderCalls, PrintCall.text]
      | _ => simpa using h

theorem endRun_select (O : Oracles) (qy : Query) (q : SelectStmt) (hq : qy.stmt = .select q) (s : TraceState) :
    endRun O qy s = { out := s.ls.out, calls := s.calls } := by
  unfold endRun
  rw [hq]
  split <;> rfl

def joinOutcome (qy : Query) (joined : List FileLine) : Outcome JoinIndex :=
  match qy.join with
  | some j => setupJoin qy.table j (loadJoinFile j joined)
  | none => .ok []

theorem runBatch_eq_runWithIndex (O : Oracles) (qy : Query) (joined : List FileLine) (files : List (List FileLine))
    (sa : Option Nat) : runBatch O qy joined files sa = runWithIndex O qy (joinOutcome qy joined) files sa := rfl

theorem runFiles_stop_init (O : Oracles) (qy : Query) (idx : JoinIndex) (w : Bool) (k : Nat) (files : List (List FileLine)) :
    runFiles O qy idx w (some k) files {} = runFiles O qy idx w none (takeLines k files) {} := by
  have := runFiles_stop_eq_take O qy idx w k files {} (Nat.zero_le _)
  simpa using this

theorem runWithIndex_stop_eq_take (O : Oracles) (qy : Query) (idxO : Outcome JoinIndex) (files : List (List FileLine)) (k : Nat) :
    runWithIndex O qy idxO files (some k) = runWithIndex O qy idxO (takeLines k files) none := by
  cases idxO <;> simp only [runWithIndex, runFiles_stop_init]

theorem runFiles_rel_init (O : Oracles) (qy : Query) (idx : JoinIndex) (w : Bool) (k : Nat) (files : List (List FileLine)) :
    Rel k (runFiles O qy idx w (some k) files {}) (runFiles O qy idx w none files {}) :=
  runFiles_rel O qy idx w k files {} (Nat.zero_le _)

theorem runWithIndex_select (O : Oracles) (qy : Query) (q : SelectStmt) (hq : qy.stmt = .select q) (idx : JoinIndex)
    (files : List (List FileLine)) (sa : Option Nat) :
    runWithIndex O qy (.ok idx) files sa = (runFiles O qy idx true sa files {}).out := by
  rw [runWithIndex_ok, endRun_select O qy q hq, show isUpdated qy = false by simp [isUpdated, hq]]
  rfl

theorem endRun_totalLines (O : Oracles) (qy : Query) (s : TraceState) :
    (endRun O qy s).out.totalLines = s.ls.out.totalLines := by
  unfold endRun
  split
  · rfl
  · cases qy.stmt with
    | select q => rfl
    | aggregate q => dsimp only; cases finalResult O q s.ls.es <;> rfl

theorem runWithIndex_totalLines (O : Oracles) (qy : Query) (idx : JoinIndex) (files : List (List FileLine)) (sa : Option Nat) :
    (runWithIndex O qy (.ok idx) files sa).totalLines = (runFiles O qy idx (!isUpdated qy) sa files {}).out.totalLines := by
  rw [runWithIndex_ok, endRun_totalLines]

end Sqlgrep
