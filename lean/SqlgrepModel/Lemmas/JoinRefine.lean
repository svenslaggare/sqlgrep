import SqlgrepModel.Lemmas.JoinIndex
import SqlgrepModel.Spec.Join
/- The model's per-line join (`lineEnvs` over the loaded index) is the nested loop of `Spec/Join.lean`
(`lineEnvs_eq_rowsOf`). -/
namespace Sqlgrep
open Value Spec.Join

theorem keysMatch_iff_bucket (kr ks : Value) :
    (!ks.isNull && beq ks kr) = keysMatch kr ks := by
  unfold keysMatch
  cases h : beq ks kr
  · have : beq kr ks = false := by rw [beq_symm]; exact h
    simp [this]
  · have h' : beq kr ks = true := by rw [beq_symm]; exact h
    have := isNull_eq_of_beq h
    simp [h', this]

theorem matchingRows_eq_partners (qy : Query) (j : JoinInfo) (ki kj : Nat) (joined : List (List Value)) (r : Line)
    (hki : indexOf? qy.table.columns j.joinerColumn = some ki)
    (hkj : indexOf? j.joined.columns j.joinedColumn = some kj) :
    matchingRows kj (r.row.getD ki .null) joined = partners qy j joined r := by
  unfold matchingRows partners keyOf
  rw [hki, hkj]
  apply List.filter_congr
  intro s _
  exact keysMatch_iff_bucket _ _

theorem loadJoin_ok_index (j : JoinInfo) (lines : List Line) (idx : JoinIndex) (h : loadJoin j lines = .ok idx) :
    ∃ kj, indexOf? j.joined.columns j.joinedColumn = some kj := by
  unfold loadJoin at h
  cases hk : indexOf? j.joined.columns j.joinedColumn with
  | none => rw [hk] at h; cases h
  | some kj => exact ⟨kj, rfl⟩

theorem lineEnvs_eq_rowsOf (qy : Query) (j : JoinInfo) (joinedLines : List Line) (idx : JoinIndex)
    (allowOuter : Bool) (r : Line) (ki : Nat)
    (hj : qy.join = some j) (hki : indexOf? qy.table.columns j.joinerColumn = some ki)
    (hl : loadJoin j joinedLines = .ok idx) :
    lineEnvs qy idx allowOuter r = .ok (rowsOf qy j (admittedRows joinedLines) allowOuter r) := by
  obtain ⟨kj, hkj⟩ := loadJoin_ok_index j joinedLines idx hl
  unfold lineEnvs
  simp only [hj, hki]
  rw [joinIndexGet_loadJoin j joinedLines idx kj hkj hl]
  have hp := matchingRows_eq_partners qy j ki kj (admittedRows joinedLines) r hki hkj
  unfold admittedRows admitted at hp
  simp only [hp]
  unfold rowsOf
  have hadm : admittedRows joinedLines = (joinedLines.filter (fun l => anyResult l.row)).map (·.row) := rfl
  rw [hadm]
  cases hps : partners qy j ((joinedLines.filter (fun l => anyResult l.row)).map (·.row)) r with
  | nil =>
    simp only [List.isEmpty_nil, Bool.true_and, if_true]
    by_cases ho : (j.isOuter && allowOuter) = true
    · simp only [ho, if_true]; rfl
    · simp only [ho]; rfl
  | cons p ps => simp [pairRow]

end Sqlgrep
