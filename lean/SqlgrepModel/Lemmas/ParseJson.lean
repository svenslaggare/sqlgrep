import SqlgrepModel.Lemmas.ParseFuel
import SqlgrepModel.Lemmas.ParseBind
/-
The parser never builds a JSON column with an empty path (`JsonAccess::from_linear` is only reached with a
non-empty list of parts, so its `unwrap` cannot fail): `{ } => …` is answered with `ExpectedJsonColumnPartStart`.
-/
namespace Sqlgrep

def PRes.OkP {α : Type} (r : PRes α) (P : α → Prop) : Prop := ∀ a s', r = .ok a s' → P a

def PColDef.PathOk (c : PColDef) : Prop := c.parsing ≠ .json []
def PCreate.PathsOk (c : PCreate) : Prop := ∀ col ∈ c.columns, col.PathOk
def POp.PathsOk : POp → Prop
  | .select _ => True
  | .createTable c => c.PathsOk
  | .multiple cs => ∀ c ∈ cs, c.PathsOk

namespace Parse

theorem okP_err {α : Type} {e : PErr} {s : PSt} {P : α → Prop} : (PRes.err e s : PRes α).OkP P := by simp [PRes.OkP]
theorem okP_mkErr {α : Type} {k : PErrKind} {s : PSt} {P : α → Prop} : (mkErr s k : PRes α).OkP P := by simp [PRes.OkP, mkErr]
theorem okP_fuel {α : Type} {P : α → Prop} : (PRes.fuel : PRes α).OkP P := by simp [PRes.OkP]
theorem okP_ok {α : Type} {a : α} {s : PSt} {P : α → Prop} (h : P a) : (PRes.ok a s).OkP P := by
  intro b s' hb; cases hb; exact h

theorem okP_bind {α β : Type} {x : PRes α} {K : α → PSt → PRes β} {P : β → Prop}
    (hK : ∀ a s, x = .ok a s → (K a s).OkP P) : (x.bind K).OkP P := by
  cases x with
  | ok a s => exact hK a s rfl
  | err e s => exact okP_err
  | fuel => exact okP_fuel

theorem okP_ite {β : Type} {c : Prop} [Decidable c] {a b : PRes β} {P : β → Prop} (ha : c → a.OkP P) (hb : ¬ c → b.OkP P) :
    (if c then a else b).OkP P := by
  split
  · exact ha ‹_›
  · exact hb ‹_›

/-- `okp_walk` walks a function body in `bind` form down to the results it returns: `bind` and `if` go by their rules
(the answer of each call stays in the context as an equation), a `match` is split, errors carry no value; what is left
are the goals `(PRes.ok v s).OkP P`. -/
macro "okp_walk" : tactic => `(tactic| repeat' first
  | with_reducible first
    | refine okP_bind (fun _ _ _ => ?_)
    | refine okP_ite (fun _ => ?_) (fun _ => ?_)
    | exact okP_err
    | exact okP_mkErr
    | exact okP_fuel
  | split)

theorem parseDefineColumn_parsing (T : PrecTables) (fuel : Nat) (p : PColParsing) (s : PSt) :
    (parseDefineColumn T fuel p s).OkP (fun c => c.parsing = p) := by
  unfold parseDefineColumn; simp only [parse_bind]; okp_walk
  all_goals exact okP_ok rfl

theorem parsingOfRefs_ne (rs : List PRegexRef) : parsingOfRefs rs ≠ .json [] := by
  unfold parsingOfRefs; split <;> simp

theorem colItem_paths (T : PrecTables) (fuel : Nat) (ps : Patterns) (cs : List PColDef) (s : PSt)
    (hcs : ∀ c ∈ cs, c.PathOk) :
    (colItem T fuel ps cs s).OkP (fun r => ∀ pc, r = some pc → ∀ c ∈ pc.2, c.PathOk) := by
  have hd := parseDefineColumn_parsing T fuel
  have hr := parsingOfRefs_ne
  unfold colItem; simp only [parse_bind]; okp_walk
  all_goals (apply okP_ok; grind [PRes.OkP, PColDef.PathOk, List.isEmpty_iff])

theorem colLoop_paths (T : PrecTables) : ∀ fuel ps cs s, (∀ c ∈ cs, c.PathOk) →
    (colLoop T fuel ps cs s).OkP (fun pc => ∀ c ∈ pc.2, c.PathOk) := by
  intro fuel
  induction fuel with
  | zero => intro ps cs s _; rw [colLoop]; exact okP_fuel
  | succ n ih =>
    intro ps cs s hcs
    have hi := colItem_paths T n ps cs s hcs
    rw [colLoop]; simp only [parse_bind]; okp_walk
    all_goals first
      | (apply okP_ok; grind [PRes.OkP])
      | (apply ih; grind [PRes.OkP])

theorem parseCreateTable_paths (T : PrecTables) (fuel : Nat) (s : PSt) :
    (parseCreateTable T fuel s).OkP PCreate.PathsOk := by
  have hl := colLoop_paths T fuel [] []
  unfold parseCreateTable; simp only [parse_bind]; okp_walk
  apply okP_ok; grind [PRes.OkP, PCreate.PathsOk]

theorem opOfCreates_paths (cs : List PCreate) (h : ∀ c ∈ cs, c.PathsOk) : (opOfCreates cs).PathsOk := by
  unfold opOfCreates
  split
  · simp [POp.PathsOk]; exact h _ (by simp)
  · simpa [POp.PathsOk] using h

theorem multiCreateLoop_paths (T : PrecTables) : ∀ fuel acc s, (∀ c ∈ acc, c.PathsOk) →
    (multiCreateLoop T fuel acc s).OkP POp.PathsOk := by
  intro fuel
  induction fuel with
  | zero => intro acc s _; rw [multiCreateLoop]; exact okP_fuel
  | succ n ih =>
    intro acc s hacc
    have hc := parseCreateTable_paths T n s
    rw [multiCreateLoop]; simp only [parse_bind]; okp_walk
    all_goals first
      | (apply okP_ok; apply opOfCreates_paths; grind [PRes.OkP])
      | (apply ih; grind [PRes.OkP])

theorem parseSelect_paths (T : PrecTables) (fuel : Nat) (s : PSt) : (parseSelect T fuel s).OkP POp.PathsOk := by
  unfold parseSelect; simp only [parse_bind]; okp_walk
  exact okP_ok trivial

theorem parseOp_paths (T : PrecTables) (fuel : Nat) (s : PSt) : (parseOp T fuel s).OkP POp.PathsOk := by
  have h1 := parseSelect_paths T fuel s
  have h2 := multiCreateLoop_paths T fuel [] s (by simp)
  unfold parseOp parseStatement; simp only [parse_bind]; okp_walk
  all_goals (apply okP_ok; grind [PRes.OkP])

end Parse
end Sqlgrep
