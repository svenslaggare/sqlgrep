import SqlgrepModel.Lemmas.AggFollowSim
/-
Concrete statements, rows and intermediate engine states for the negation witnesses of the findings D60 and D61, and the
statement and lines of the follow-mode printing example (`Props/C11.lean`).
-/
namespace Sqlgrep
open Value Spec.Agg

/-- `SELECT r, COUNT(v), PERCENTILE(w, p) FROM t GROUP BY r` -/
def d60Stmt (p : Nat) : AggStmt :=
  { items := [{ name := "r", kind := .groupKey (.column "r") "r", transform := none },
              { name := "count1", kind := .count (some "v") false, transform := none },
              { name := "percentile2", kind := .percentile (.column "w") p, transform := none }],
    filter := none, groupBy := some [(.column "r", "r")], having := none, havingAggs := [], havingKeys := [],
    havingVisit := [], limit := none, distinct := false }

def rowRVW (r : Nat) (v w : Value) : Env := { table := [("r", .real r), ("v", v), ("w", w)] }

theorem percentileValue_singleton (v : Value) (p : Nat) : percentileValue [v] p = some v := by
  simp [percentileValue, sortValues, insertSorted]

-- after the first row (r = 0.0, v NULL, w = 1): only the percentile aggregator exists, under key 0.0
def st1 (p : Nat) : AggState := { aggs := [([.real 0], [(2, .percentile [.int 1] p)])], vals := [] }
example (p : Nat) : aggUpdateRow {} (d60Stmt p) {} (rowRVW 0 .null (.int 1)) = .ok (st1 p, true) := rfl
-- batch: second row (r = -0.0, v = 1, w NULL): COUNT(v) creates the group_values entry under key -0.0
def st2b (p : Nat) : AggState := { aggs := [([.real 0], [(2, .percentile [.int 1] p)])], vals := [([.real (2^63)], [(1, .int 1)])] }
example (p : Nat) : aggUpdateRow {} (d60Stmt p) (st1 p) (rowRVW (2^63) (.int 1) .null) = .ok (st2b p, true) := rfl
theorem pub_b (p : Nat) : publishPercentiles (st2b p) = { aggs := (st2b p).aggs, vals := [([.real (2^63)], [(1, .int 1), (2, .int 1)])] } := by
  rw [publish_eq]
  simp [pubEntries, st2b, pubOf, percentileValue_singleton, applyPubs, setVal, gmSet, gmModify, Value.cmpList, Value.cmp, F64.cmp, F64.isNaN, F64.mag, F64.key, F64.signBit, alSet]
theorem pub_1 (p : Nat) : publishPercentiles (st1 p) = { aggs := (st1 p).aggs, vals := [([.real 0], [(2, .int 1)])] } := by
  rw [publish_eq]
  simp [pubEntries, st1, pubOf, percentileValue_singleton, applyPubs, setVal, gmSet, gmModify, alSet]
-- follow mode: the refresh after the first row has created the entry under key 0.0; the second row adds to it
def st2f (p : Nat) : AggState := { aggs := [([.real 0], [(2, .percentile [.int 1] p)])], vals := [([.real 0], [(2, .int 1), (1, .int 1)])] }
example (p : Nat) : aggUpdateRow {} (d60Stmt p) { aggs := (st1 p).aggs, vals := [([.real 0], [(2, .int 1)])] } (rowRVW (2^63) (.int 1) .null) =
    .ok (st2f p, true) := rfl
theorem pub_f (p : Nat) : publishPercentiles (st2f p) = st2f p := by
  rw [publish_eq]
  simp [pubEntries, st2f, pubOf, percentileValue_singleton, applyPubs, setVal, gmSet, gmModify, Value.cmpList, Value.cmp, F64.cmp, F64.isNaN, F64.mag, F64.key, F64.signBit, alSet]

def exCountQ : AggStmt :=
  { items := [{ name := "count0", kind := .count none false, transform := none }], filter := none, groupBy := none,
    having := none, havingAggs := [], havingKeys := [], havingVisit := [], limit := none, distinct := false }

/-- `SELECT COUNT(*) FROM a INNER JOIN b ON a.k = b.k` -/
def d61Query : Query :=
  { stmt := .aggregate exCountQ, table := { name := "a", columns := ["x", "k"] },
    join := some { joined := { name := "b", columns := ["y", "k"] }, joinerColumn := "k", joinedColumn := "k", isOuter := false } }
/-- the joined file has two rows with key 1 -/
def d61Index : JoinIndex := [(.int 1, [[.text [120], .int 1], [.text [121], .int 1]])]
def d61Line : Line := { text := [65], row := [.text [109], .int 1] }
/-- … as the lines of the joined file (`d61Index` is what the loader makes of them) -/
def d61Joined : List FileLine :=
  [{ readable := true, line := { text := [66], row := [.text [120], .int 1] } },
   { readable := true, line := { text := [66], row := [.text [121], .int 1] } }]

/-- `SELECT COUNT(*) FROM a WHERE k = 1` -/
def exWhereStmt : AggStmt :=
  { items := [{ name := "count0", kind := .count none false, transform := none }],
    filter := some (.compare .eq (.column "k") (.value (.int 1))), groupBy := none,
    having := none, havingAggs := [], havingKeys := [], havingVisit := [], limit := none, distinct := false }
def exWhereQuery : Query := { stmt := .aggregate exWhereStmt, table := { name := "a", columns := ["x", "k"] }, join := none }
/-- `k = 1`: admitted, WHERE admits it -/
def exLineShown : Line := { text := [65], row := [.text [109], .int 1] }
/-- `k = 2`: admitted, WHERE rejects it -/
def exLineRejected : Line := { text := [66], row := [.text [110], .int 2] }
/-- no column extracted: the line is not admitted -/
def exLineNotAdmitted : Line := { text := [67], row := [.null, .null] }

end Sqlgrep
