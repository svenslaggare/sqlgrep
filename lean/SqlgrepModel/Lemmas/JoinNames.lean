import SqlgrepModel.Model.Exec
/-
Helper lemmas for C05 (`Props.C05.join_names_*`): which value a name is bound to in the column mapping of a joined row
(`create_joined_column_mapping`), from the law of the `HashMap`: the last insertion for a name wins (`lastGet_concat`).
Three facts about the fold over the joined row: a name no step inserts keeps its binding (`lastGet_jfold_frame`), a
table-qualified name is bound to the joined value (`lastGet_jfold_qualified`), so is a plain name that was not bound before
(`lastGet_jfold_plain`). The ordinary join (`NamesOk`) and the self-join (`SelfOk`) are both read off these.
-/
namespace Sqlgrep

abbrev Binds := List (String × Value)

/-- the value the `HashMap` built by the insertions `ins` holds for `n` -/
def lastGet (ins : Binds) (n : String) : Option Value := (ins.reverse.find? (fun p => p.1 == n)).map (·.2)

theorem env_get_table (ins : Binds) (n : String) : (envOfInsertions ins).get .table n = lastGet ins n := rfl

def keysOf (ins : Binds) : List String := ins.map (·.1)

theorem hasKey_iff (ins : Binds) (n : String) : hasKey ins n = true ↔ n ∈ keysOf ins := by
  unfold hasKey keysOf
  simp only [List.any_eq_true, List.mem_map, beq_iff_eq]

theorem lastGet_concat (ins : Binds) (k : String) (v : Value) (n : String) :
    lastGet (ins ++ [(k, v)]) n = if k = n then some v else lastGet ins n := by
  unfold lastGet
  rw [List.reverse_append, List.reverse_singleton, List.singleton_append, List.find?_cons]
  by_cases h : k = n
  · rw [if_pos h, beq_iff_eq.2 h]; rfl
  · rw [if_neg h, beq_eq_false_iff_ne.2 h]

theorem List.find?_fst_of_nodup {κ α : Type} [BEq κ] [LawfulBEq κ] {xs : List (κ × α)} {k : κ} {v : α}
    (hnd : (xs.map (·.1)).Nodup) (hm : (k, v) ∈ xs) : xs.find? (fun p => p.1 == k) = some (k, v) := by
  induction xs with
  | nil => cases hm
  | cons x rest ih =>
    rw [List.map_cons, List.nodup_cons] at hnd
    rcases List.mem_cons.1 hm with rfl | h
    · simp
    · have hx : (x.1 == k) = false := beq_eq_false_iff_ne.2 fun e => hnd.1 (e ▸ List.mem_map.2 ⟨(k, v), h, rfl⟩)
      rw [List.find?_cons, hx]
      exact ih hnd.2 h

theorem lastGet_of_nodup (ins : Binds) (n : String) (v : Value) (hnd : (keysOf ins).Nodup) (hm : (n, v) ∈ ins) :
    lastGet ins n = some v := by
  unfold lastGet
  have hnd' : (keysOf ins.reverse).Nodup := by
    unfold keysOf at *
    rw [List.map_reverse]
    unfold List.Nodup at *
    rw [List.pairwise_reverse]
    exact hnd.imp (fun h => Ne.symm h)
  rw [List.find?_fst_of_nodup hnd' (List.mem_reverse.2 hm)]
  rfl

def baseKeys (t : TableInfo) : List String := t.columns.flatMap (fun n => [n, t.name ++ "." ++ n]) ++ ["input"]

theorem keysOf_columnsMapping_sub (t : TableInfo) (row : List Value) (line : Bytes) :
    (keysOf (columnsMapping t row line)).Sublist (baseKeys t) := by
  unfold columnsMapping baseKeys keysOf
  rw [List.map_append]
  apply List.Sublist.append _ (List.Sublist.refl _)
  generalize t.columns = cols
  induction cols generalizing row with
  | nil => simp
  | cons c cs ih =>
    cases row with
    | nil => simp
    | cons v vs =>
      simp only [List.zip_cons_cons, List.flatMap_cons, List.map_append, List.map_cons, List.map_nil]
      exact List.Sublist.append (List.Sublist.refl _) (ih vs)

theorem mem_columnsMapping (t : TableInfo) (row : List Value) (line : Bytes) (n : String) (v : Value)
    (h : (n, v) ∈ t.columns.zip row) :
    (n, v) ∈ columnsMapping t row line ∧ (t.name ++ "." ++ n, v) ∈ columnsMapping t row line := by
  unfold columnsMapping
  exact ⟨List.mem_append_left _ (List.mem_flatMap.2 ⟨(n, v), h, by simp⟩),
    List.mem_append_left _ (List.mem_flatMap.2 ⟨(n, v), h, by simp⟩)⟩

theorem input_mem_columnsMapping (t : TableInfo) (row : List Value) (line : Bytes) :
    ("input", Value.text line) ∈ columnsMapping t row line := by
  unfold columnsMapping; simp

theorem keysOf_columnsMapping_full (t : TableInfo) (row : List Value) (line : Bytes)
    (hr : t.columns.length = row.length) : ∀ n ∈ t.columns, n ∈ keysOf (columnsMapping t row line) := by
  intro n hn
  obtain ⟨i, hi, rfl⟩ := List.getElem_of_mem hn
  have hi' : i < row.length := hr ▸ hi
  have hm : (t.columns[i], row[i]) ∈ t.columns.zip row := by
    rw [List.mem_iff_getElem]
    exact ⟨i, by simp only [List.length_zip]; omega, by simp⟩
  exact List.mem_map.2 ⟨_, (mem_columnsMapping t row line _ _ hm).1, rfl⟩

def jstep (u : String) (acc : Binds) (p : String × Value) : Binds :=
  (if hasKey acc p.1 then acc else acc ++ [(p.1, p.2)]) ++ [(u ++ "." ++ p.1, p.2)]

def jfold (u : String) (acc : Binds) (l : Binds) : Binds := l.foldl (jstep u) acc

theorem joinedMapping_fst (t : TableInfo) (row : List Value) (line : Bytes) (j : JoinInfo) (jrow : List Value) :
    (joinedMapping t row line j jrow).1 = jfold j.joined.name (columnsMapping t row line) (j.joined.columns.zip jrow) := rfl

theorem keysOf_jstep (u : String) (acc : Binds) (p : String × Value) :
    keysOf (jstep u acc p) = (if hasKey acc p.1 then keysOf acc else keysOf acc ++ [p.1]) ++ [u ++ "." ++ p.1] := by
  unfold jstep keysOf
  split <;> simp

/-- one column of the joined row: its qualified name is bound; its plain name is bound if it was not yet -/
theorem lastGet_jstep (u : String) (acc : Binds) (p : String × Value) (n : String) :
    lastGet (jstep u acc p) n =
      if u ++ "." ++ p.1 = n then some p.2 else if hasKey acc p.1 = false ∧ p.1 = n then some p.2 else lastGet acc n := by
  unfold jstep
  rw [lastGet_concat]
  cases hasKey acc p.1
  · simp only [Bool.false_eq_true, if_false, lastGet_concat, true_and]
  · simp only [if_true, Bool.true_eq_false, false_and, if_false]

theorem lastGet_jfold_frame (u k : String) (l acc : Binds) (hq : ∀ m ∈ keysOf l, u ++ "." ++ m ≠ k)
    (hb : k ∈ keysOf l → k ∈ keysOf acc) : lastGet (jfold u acc l) k = lastGet acc k := by
  induction l generalizing acc with
  | nil => rfl
  | cons p rest ih =>
    have hk : k ∈ keysOf acc → k ∈ keysOf (jstep u acc p) := fun h => by
      rw [keysOf_jstep]; split <;> simp [h]
    rw [show jfold u acc (p :: rest) = jfold u (jstep u acc p) rest from rfl,
      ih _ (fun m hm => hq m (List.mem_cons_of_mem _ hm)) (fun h => hk (hb (List.mem_cons_of_mem _ h))),
      lastGet_jstep, if_neg (hq p.1 List.mem_cons_self), if_neg]
    rintro ⟨hn, rfl⟩
    rw [(hasKey_iff acc p.1).2 (hb List.mem_cons_self)] at hn
    cases hn

variable {u : String} {l : Binds}

theorem lastGet_jfold_qualified (acc : Binds) (n : String) (v : Value) (hm : (n, v) ∈ l)
    (hq : ((keysOf l).map (fun m => u ++ "." ++ m)).Nodup) (hpq : ∀ m ∈ keysOf l, ∀ m' ∈ keysOf l, m' ≠ u ++ "." ++ m) :
    lastGet (jfold u acc l) (u ++ "." ++ n) = some v := by
  induction l generalizing acc with
  | nil => cases hm
  | cons p rest ih =>
    rw [keysOf, List.map_cons, List.map_cons, List.nodup_cons] at hq
    rcases List.mem_cons.1 hm with rfl | hm
    · rw [show jfold u acc ((n, v) :: rest) = jfold u (jstep u acc (n, v)) rest from rfl, lastGet_jfold_frame, lastGet_jstep,
        if_pos rfl]
      · exact fun m hm e => hq.1 (List.mem_map.2 ⟨m, hm, e⟩)
      · exact fun h => absurd rfl (hpq n List.mem_cons_self _ (List.mem_cons_of_mem _ h))
    · exact ih _ hm hq.2 fun m h m' h' => hpq m (List.mem_cons_of_mem _ h) m' (List.mem_cons_of_mem _ h')

theorem lastGet_jfold_plain (acc : Binds) (n : String) (v : Value) (hm : (n, v) ∈ l) (hnd : (keysOf l).Nodup)
    (hpq : ∀ m ∈ keysOf l, ∀ m' ∈ keysOf l, m' ≠ u ++ "." ++ m) (hk : n ∉ keysOf acc) :
    lastGet (jfold u acc l) n = some v := by
  induction l generalizing acc with
  | nil => cases hm
  | cons p rest ih =>
    rw [keysOf, List.map_cons, List.nodup_cons] at hnd
    have hpq' : ∀ m ∈ keysOf rest, ∀ m' ∈ keysOf rest, m' ≠ u ++ "." ++ m :=
      fun m h m' h' => hpq m (List.mem_cons_of_mem _ h) m' (List.mem_cons_of_mem _ h')
    rcases List.mem_cons.1 hm with rfl | hm
    · have hf : hasKey acc n = false := Bool.eq_false_iff.2 fun h => hk ((hasKey_iff acc n).1 h)
      rw [show jfold u acc ((n, v) :: rest) = jfold u (jstep u acc (n, v)) rest from rfl, lastGet_jfold_frame, lastGet_jstep,
        if_neg (hpq n List.mem_cons_self n List.mem_cons_self).symm, if_pos ⟨hf, rfl⟩]
      · exact fun m h => (hpq m (List.mem_cons_of_mem _ h) n List.mem_cons_self).symm
      · exact fun h => absurd h hnd.1
    · have hn : n ∈ keysOf rest := List.mem_map.2 ⟨(n, v), hm, rfl⟩
      refine ih _ hm hnd.2 hpq' ?_
      rw [keysOf_jstep]
      have h1 : n ≠ p.1 := fun e => hnd.1 (e ▸ hn)
      have h2 : n ≠ u ++ "." ++ p.1 := hpq p.1 List.mem_cons_self n (List.mem_cons_of_mem _ hn)
      split <;> simp [hk, h1, h2]

/-- the names of the two tables do not collide other than through equal plain column names: the queried
table's plain and qualified names and `input` are pairwise distinct, the joined table's qualified names are
distinct from each other, from those and from the joined table's plain names, and a joined plain name that is
not a queried column is not a qualified name or `input` either. Holds whenever column and table names are
identifiers without `.` other than `input` and the two tables have different names. -/
def NamesOk (t : TableInfo) (j : JoinInfo) : Prop :=
  (baseKeys t).Nodup ∧
  (j.joined.columns.map (fun m => j.joined.name ++ "." ++ m)).Nodup ∧
  j.joined.columns.Nodup ∧
  (∀ m ∈ j.joined.columns, j.joined.name ++ "." ++ m ∉ baseKeys t) ∧
  (∀ m ∈ j.joined.columns, ∀ m' ∈ j.joined.columns, m' ≠ j.joined.name ++ "." ++ m) ∧
  (∀ n ∈ j.joined.columns, n ∉ t.columns → n ∉ baseKeys t)

instance (t : TableInfo) (j : JoinInfo) : Decidable (NamesOk t j) := by unfold NamesOk; infer_instance

theorem keysOf_zip_sublist (cols : List String) (vals : List Value) : (keysOf (cols.zip vals)).Sublist cols := by
  induction cols generalizing vals with
  | nil => simp [keysOf]
  | cons c cs ih =>
    cases vals with
    | nil => simp [keysOf]
    | cons v vs =>
      simp only [keysOf, List.zip_cons_cons, List.map_cons]
      exact List.Sublist.cons_cons _ (ih vs)

section
variable (t : TableInfo) (row : List Value) (line : Bytes) (j : JoinInfo) (jrow : List Value)

theorem lastGet_base (hb : (baseKeys t).Nodup) {k : String} {v : Value} (hm : (k, v) ∈ columnsMapping t row line)
    (hq : ∀ m ∈ j.joined.columns, j.joined.name ++ "." ++ m ≠ k) : lastGet (joinedMapping t row line j jrow).1 k = some v := by
  rw [joinedMapping_fst, lastGet_jfold_frame _ _ _ _ (fun m h => hq m ((keysOf_zip_sublist _ jrow).subset h))
    fun _ => List.mem_map.2 ⟨_, hm, rfl⟩]
  exact lastGet_of_nodup _ _ _ ((keysOf_columnsMapping_sub t row line).nodup hb) hm

variable (h : NamesOk t j)
include h

theorem lastGet_base_ok {k : String} {v : Value} (hm : (k, v) ∈ columnsMapping t row line) :
    lastGet (joinedMapping t row line j jrow).1 k = some v :=
  lastGet_base t row line j jrow h.1 hm fun m hmem e =>
    h.2.2.2.1 m hmem (e ▸ (keysOf_columnsMapping_sub t row line).subset (List.mem_map.2 ⟨_, hm, rfl⟩))

theorem lastGet_queried (n : String) (v : Value) (hm : (n, v) ∈ t.columns.zip row) :
    lastGet (joinedMapping t row line j jrow).1 n = some v ∧
    lastGet (joinedMapping t row line j jrow).1 (t.name ++ "." ++ n) = some v :=
  ⟨lastGet_base_ok t row line j jrow h (mem_columnsMapping t row line n v hm).1,
    lastGet_base_ok t row line j jrow h (mem_columnsMapping t row line n v hm).2⟩

theorem lastGet_input : lastGet (joinedMapping t row line j jrow).1 "input" = some (.text line) :=
  lastGet_base_ok t row line j jrow h (input_mem_columnsMapping t row line)

theorem lastGet_joined_qualified (n : String) (v : Value) (hm : (n, v) ∈ j.joined.columns.zip jrow) :
    lastGet (joinedMapping t row line j jrow).1 (j.joined.name ++ "." ++ n) = some v :=
  have hsub := keysOf_zip_sublist j.joined.columns jrow
  lastGet_jfold_qualified _ n v hm ((hsub.map _).nodup h.2.1) fun m hm m' hm' => h.2.2.2.2.1 m (hsub.subset hm) m' (hsub.subset hm')

theorem lastGet_joined_plain (n : String) (v : Value) (hm : (n, v) ∈ j.joined.columns.zip jrow) (hc : n ∉ t.columns) :
    lastGet (joinedMapping t row line j jrow).1 n = some v :=
  have hsub := keysOf_zip_sublist j.joined.columns jrow
  lastGet_jfold_plain _ n v hm (hsub.nodup h.2.2.1) (fun m hm m' hm' => h.2.2.2.2.1 m (hsub.subset hm) m' (hsub.subset hm'))
    fun hk => h.2.2.2.2.2 n (List.of_mem_zip hm).1 hc ((keysOf_columnsMapping_sub t row line).subset hk)

end

/-- the name under which `*` lists a joined column -/
def starKey (t : TableInfo) (j : JoinInfo) (n : String) : String :=
  if t.columns.contains n then j.joined.name ++ "." ++ n else n

theorem joinedMapping_snd (t : TableInfo) (row : List Value) (line : Bytes) (j : JoinInfo) (jrow : List Value) :
    (joinedMapping t row line j jrow).2 = t.columns ++ j.joined.columns.map (starKey t j) := rfl

theorem lastGet_starKey (t : TableInfo) (row : List Value) (line : Bytes) (j : JoinInfo) (jrow : List Value)
    (h : NamesOk t j) (n : String) (v : Value) (hm : (n, v) ∈ j.joined.columns.zip jrow) :
    lastGet (joinedMapping t row line j jrow).1 (starKey t j n) = some v := by
  unfold starKey
  by_cases hc : n ∈ t.columns
  · rw [List.contains_iff_mem.2 hc, if_pos rfl]
    exact lastGet_joined_qualified t row line j jrow h n v hm
  · rw [Bool.eq_false_iff.2 fun hh => hc (List.contains_iff_mem.1 hh), if_neg Bool.false_ne_true]
    exact lastGet_joined_plain t row line j jrow h n v hm hc

theorem map_lookup_zip (g : String → Option Value) (f : String → String) (cols : List String) (vals : List Value)
    (hl : cols.length = vals.length) (h : ∀ p ∈ cols.zip vals, g (f p.1) = some p.2) :
    (cols.map f).map g = vals.map some := by
  induction cols generalizing vals with
  | nil => cases vals with
    | nil => rfl
    | cons _ _ => cases hl
  | cons c cs ih =>
    cases vals with
    | nil => cases hl
    | cons v vs =>
      simp only [List.map_cons, List.cons.injEq]
      refine ⟨h (c, v) (by simp), ih vs (by simpa using hl) ?_⟩
      intro p hp
      exact h p (by simp [hp])

theorem star_values (t : TableInfo) (row : List Value) (line : Bytes) (j : JoinInfo) (jrow : List Value)
    (h : NamesOk t j) (hr : t.columns.length = row.length) (hjr : j.joined.columns.length = jrow.length) :
    (joinedMapping t row line j jrow).2.map (lastGet (joinedMapping t row line j jrow).1) = (row ++ jrow).map some := by
  rw [joinedMapping_snd, List.map_append, List.map_append]
  congr 1
  · have := map_lookup_zip (lastGet (joinedMapping t row line j jrow).1) id t.columns row hr
      (fun p hp => (lastGet_queried t row line j jrow h p.1 p.2 hp).1)
    simpa using this
  · exact map_lookup_zip _ _ _ _ hjr (fun p hp => lastGet_starKey t row line j jrow h p.1 p.2 hp)

/-- names of one table that do not collide: plain names, qualified names and `input` pairwise distinct -/
def SelfOk (t : TableInfo) : Prop :=
  (baseKeys t).Nodup ∧
  (t.columns.map (fun m => t.name ++ "." ++ m)).Nodup ∧
  t.columns.Nodup ∧
  (∀ n ∈ t.columns ++ ["input"], ∀ m ∈ t.columns, n ≠ t.name ++ "." ++ m)

instance (t : TableInfo) : Decidable (SelfOk t) := by unfold SelfOk; infer_instance

section
variable (t : TableInfo) (row : List Value) (line : Bytes) (j : JoinInfo) (jrow : List Value)
  (h : SelfOk t) (hname : j.joined.name = t.name) (hcols : j.joined.columns = t.columns)
include h hname hcols

/-- self-join: the table-qualified name addresses the JOINED row (the binding of the queried row is overwritten) -/
theorem lastGet_self_qualified (n : String) (v : Value) (hm : (n, v) ∈ t.columns.zip jrow) :
    lastGet (joinedMapping t row line j jrow).1 (t.name ++ "." ++ n) = some v := by
  have hsub := keysOf_zip_sublist t.columns jrow
  rw [joinedMapping_fst, hname, hcols]
  exact lastGet_jfold_qualified _ n v hm ((hsub.map _).nodup h.2.1) fun m hm m' hm' =>
    h.2.2.2 m' (List.mem_append_left _ (hsub.subset hm')) m (hsub.subset hm)

/-- self-join: a plain name (and `input`) addresses the QUERIED row -/
theorem lastGet_self_plain :
    (∀ n w, (n, w) ∈ t.columns.zip row → lastGet (joinedMapping t row line j jrow).1 n = some w) ∧
    lastGet (joinedMapping t row line j jrow).1 "input" = some (.text line) := by
  have hq : ∀ k ∈ t.columns ++ ["input"], ∀ m ∈ j.joined.columns, j.joined.name ++ "." ++ m ≠ k :=
    fun k hk m hm e => h.2.2.2 k hk m (hcols ▸ hm) (hname ▸ e.symm)
  exact ⟨fun n w hm => lastGet_base t row line j jrow h.1 (mem_columnsMapping t row line n w hm).1
      (hq n (List.mem_append_left _ (List.of_mem_zip hm).1)),
    lastGet_base t row line j jrow h.1 (input_mem_columnsMapping t row line) (hq _ (by simp))⟩

theorem star_values_self (hr : t.columns.length = row.length) (hjr : t.columns.length = jrow.length) :
    (joinedMapping t row line j jrow).2 = t.columns ++ t.columns.map (fun n => t.name ++ "." ++ n) ∧
    (joinedMapping t row line j jrow).2.map (lastGet (joinedMapping t row line j jrow).1) = (row ++ jrow).map some := by
  have hk : (joinedMapping t row line j jrow).2 = t.columns ++ t.columns.map (fun n => t.name ++ "." ++ n) := by
    rw [joinedMapping_snd, hcols]
    congr 1
    apply List.map_congr_left
    intro n hn
    simp [starKey, hname, hn]
  refine ⟨hk, ?_⟩
  rw [hk, List.map_append, List.map_append]
  congr 1
  · have := map_lookup_zip (lastGet (joinedMapping t row line j jrow).1) id t.columns row hr
      (fun p hp => (lastGet_self_plain t row line j jrow h hname hcols).1 p.1 p.2 hp)
    simpa using this
  · exact map_lookup_zip _ _ _ _ hjr
      (fun p hp => lastGet_self_qualified t row line j jrow h hname hcols p.1 p.2 hp)

end

end Sqlgrep
