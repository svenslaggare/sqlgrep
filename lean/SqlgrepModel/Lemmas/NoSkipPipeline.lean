import SqlgrepModel.Lemmas.Pipeline
import SqlgrepModel.Lemmas.NoSkipEngine
/-
"Never skipped for a missing evaluator fact" of the end-to-end model: the reading `M := fun _ => False` of
`Pipeline.runStatement_faults` (`Lemmas/Pipeline.lean`), and the answer `answerOf` makes of such a run
(`answerOf_of_not_skipped`).
-/
namespace Sqlgrep.Pipeline
open Sqlgrep Sqlgrep.Spec.Pipeline

/-- **the engine part of the end-to-end run is not skipped** when the statement's functions are answered under the
evaluator's tables `F.eval` (whatever tables exist, whatever files exist) -/
theorem runStatement_not_skipped (F : Facts) (ok : Func → Bool)
    (hok : ∀ f, ok f = true → ∀ args, NM (callFunction F.eval f args))
    (tables : List Table) (stmt : Stmt) (fromTable : String) (join : Option LJoin)
    (files : List (List Nat)) (t : TraceOut) (hq : stmt.allFuncs ok = true)
    (h : runStatement F tables stmt fromTable join files = some t) : t.out.skipped = none :=
  (runStatement_faults F ok (faults_of_answered F.eval ok hok) tables stmt fromTable join files t hq h).not_skipped

/-- the answer made of a run that did not skip for an evaluator fact: printed records, unless the rendering of a REAL
that gets printed was not shipped -/
theorem answerOf_of_not_skipped (F : Facts) (fmt : Print.Format) (single : Bool) (t : TraceOut)
    (hp : t.out.panicked = false) (ha : CallsAligned t.calls) (hs : t.out.skipped = none) :
    answerOf F fmt single t =
      if realsCover F t.calls then
        .records t.out.error t.out.totalLines
          ((Print.printAll (realOracle F) fmt true (printCalls single t.calls)).map Print.Line.bytes)
      else .skip "REAL rendering" := by
  cases hc : realsCover F t.calls with
  | true => simp only [if_true]; exact answerOf_records F fmt single t hp ha hs hc
  | false =>
    unfold answerOf
    simp [hp, hs, hc]

end Sqlgrep.Pipeline
