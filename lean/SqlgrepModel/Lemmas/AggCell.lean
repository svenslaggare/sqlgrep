import SqlgrepModel.Lemmas.AggMap
import SqlgrepModel.Lemmas.Outcome
/-
One aggregate, one group: the cell (`group_aggregators[key][idx]`, `group_values[key][idx]`) an aggregate owns.
* `cellStep` factors into "evaluate the argument on the row" (`Spec.Agg.argument`) and a step on the value (`stepV`);
* a step never removes an entry;
* locality: `updateAggregate` on (key, idx) changes exactly the cell (key, idx).
-/
set_option linter.unusedSimpArgs false
namespace Sqlgrep
open Value

/-- does this row count for `COUNT(col)` / `COUNT(*)` -/
def countValid (col : Option String) (v : Value) : Bool :=
  match col with
  | some _ => !v.isNull
  | none => true

/-- `*group_value += 1` -/
def bumpCount (c : Cell) : Cell :=
  match c.val.getD (.int 0) with
  | .int n => { c with val := some (.int (n + 1)) }
  | other => { c with val := some other }

/-- `if let Some(this_valid) = aggregator.update(..)? { valid = this_valid.bool() }` -/
def validAfter (r : Option Value) (valid : Bool) : Bool :=
  match r with
  | some x => x.truthy
  | none => valid

def stepCount (col : Option String) (distinct : Bool) (v : Value) (c : Cell) : Outcome Cell :=
  if countValid col v && distinct then
    (aggUpdate (c.agg.getD (.countDistinct [])) v).bind (fun p =>
      let c1 : Cell := { c with agg := some p.1 }
      .ok (if validAfter p.2 (countValid col v) then bumpCount c1 else c1))
  else .ok (if countValid col v then bumpCount c else c)

/-- `cellStep` as a function of the already evaluated argument value -/
def stepV (k : AggKind) (v : Value) (c : Cell) : Outcome Cell :=
  match k with
  | .groupKey _ _ => .ok c
  | .count col distinct => stepCount col distinct v c
  | .min _ | .max _ =>
    if !v.isNull then
      let cur := c.val.getD v
      let better : Bool := match k with
        | .min _ => cur.isNull || Value.cmp v cur == .lt
        | _ => cur.isNull || Value.cmp v cur == .gt
      .ok { c with val := some (if better then v else cur) }
    else .ok { c with val := some (c.val.getD .null) }
  | .sum _ | .avg _ | .stddev _ _ | .percentile _ _ | .boolAnd _ | .boolOr _ =>
    let a := c.agg.getD (defaultAggregator k v)
    if !v.isNull then do
      let (a', r) ← aggUpdate a v
      match r with
      | some value => pure { agg := some a', val := some value }
      | none => pure { c with agg := some a' }
    else if aggIsNull a then .ok { agg := some a, val := some .null }
    else .ok { c with agg := some a }
  | .arrayAgg _ =>
    match c.val with
    | some (.array t xs) => .ok { c with val := some (.array t (xs ++ [v])) }
    | some _ => .ok c
    | none =>
      match v.valueType with
      | some t => .ok { c with val := some (.array t [v]) }
      | none => .error .cannotCreateArrayOfNullType
  | .stringAgg _ delim =>
    match v with
    | .text s =>
      match c.val with
      | none => .ok { c with val := some (.text s) }
      | some (.text cur) => .ok { c with val := some (.text (cur ++ delim ++ s)) }
      | some other => .ok { c with val := some other }
    | .null => .ok c
    | _ => .error .expectedStringValue

theorem cellStep_eq (O : Oracles) (q : AggStmt) (env : Env) (k : AggKind) (c : Cell) :
    cellStep O q env k c = (Spec.Agg.argument O q env k).bind (fun v => stepV k v c) := by
  cases k with
  | groupKey e canon =>
    simp only [cellStep, Spec.Agg.argument, stepV]
    cases validateGroupKey q canon <;> rfl
  | count col distinct =>
    cases col with
    | none =>
      cases distinct
      · simp only [cellStep, Spec.Agg.argument, stepV, stepCount, countValid, bumpCount]
        simp [Outcome.bind, bind, pure]
        generalize c.val.getD (Value.int 0) = w; cases w <;> rfl
      · simp [cellStep, Spec.Agg.argument, stepV, Outcome.bind, bind, pure]
    | some cn =>
      simp only [cellStep, Spec.Agg.argument, stepV, stepCount, countValid, bumpCount, validAfter]
      cases env.get .table cn with
      | none => simp [Outcome.ofOption, Outcome.bind, bind, pure]
      | some v =>
        cases hn : v.isNull <;> cases distinct
        · simp [Outcome.ofOption, Outcome.bind, bind, pure, hn]
          generalize c.val.getD (Value.int 0) = w; cases w <;> rfl
        · simp only [Outcome.ofOption, Outcome.bind, bind, pure, hn]
          simp
          cases aggUpdate (c.agg.getD (Aggregator.countDistinct [])) v with
          | ok p =>
            obtain ⟨a', r⟩ := p
            cases r with
            | none => simp [hn]; generalize c.val.getD (Value.int 0) = w; cases w <;> rfl
            | some x =>
              cases hx : x.truthy <;> simp [hx]
              generalize c.val.getD (Value.int 0) = w; cases w <;> rfl
          | _ => rfl
        · simp [Outcome.ofOption, Outcome.bind, bind, pure, hn]
        · simp [Outcome.ofOption, Outcome.bind, bind, pure, hn]
  | min e | max e | sum e | avg e | stddev e _ | percentile e _ | boolAnd e | boolOr e | arrayAgg e | stringAgg e _ =>
    simp only [cellStep, Spec.Agg.argument, stepV]; cases eval O env e <;> rfl

theorem bind_ok {α β : Type} {x : Outcome α} {f : α → Outcome β} {b : β} (h : x >>= f = .ok b) :
    ∃ a, x = .ok a ∧ f a = .ok b := Outcome.bind_eq_ok h

theorem obind_ok {α β : Type} {x : Outcome α} {f : α → Outcome β} {b : β} (h : x.bind f = .ok b) :
    ∃ a, x = .ok a ∧ f a = .ok b := Outcome.bind_eq_ok h

/-- `c'` has every entry `c` has -/
def Cell.Extends (c' c : Cell) : Prop := (c.agg.isSome → c'.agg.isSome) ∧ (c.val.isSome → c'.val.isSome)

theorem Cell.Extends.refl (c : Cell) : Cell.Extends c c := ⟨id, id⟩

theorem bumpCount_extends (c : Cell) : (bumpCount c).agg = c.agg ∧ (bumpCount c).val.isSome := by
  unfold bumpCount
  generalize c.val.getD (Value.int 0) = w
  cases w <;> simp

theorem bumpIf_extends (b : Bool) (c1 : Cell) :
    (if b = true then bumpCount c1 else c1).agg = c1.agg ∧
      (c1.val.isSome → (if b = true then bumpCount c1 else c1).val.isSome) := by
  cases b
  · simp
  · simp only [if_true]
    exact ⟨(bumpCount_extends c1).1, fun _ => (bumpCount_extends c1).2⟩

theorem stepV_shape {k : AggKind} {v : Value} {c d : Cell} (h : stepV k v c = .ok d) :
    (c.val.isSome → d.val.isSome) ∧
      (d.agg = c.agg ∨ d.agg = some (c.agg.getD (defaultAggregator k v)) ∨
        ∃ a' r, aggUpdate (c.agg.getD (defaultAggregator k v)) v = .ok (a', r) ∧ d.agg = some a') := by
  cases k with
  | groupKey e canon => simp only [stepV, Outcome.ok.injEq] at h; subst h; exact ⟨id, .inl rfl⟩
  | count col distinct =>
    simp only [stepV, stepCount] at h
    split at h
    · obtain ⟨⟨a', r⟩, h1, h2⟩ := obind_ok h
      simp only [Outcome.ok.injEq] at h2
      have hb := bumpIf_extends (validAfter r (countValid col v)) { agg := some a', val := c.val }
      rw [← h2]
      exact ⟨hb.2, .inr (.inr ⟨a', r, h1, hb.1⟩)⟩
    · simp only [Outcome.ok.injEq] at h
      have hb := bumpIf_extends (countValid col v) c
      rw [← h]
      exact ⟨hb.2, .inl hb.1⟩
  | min e | max e =>
    simp only [stepV] at h
    split at h <;> (simp only [Outcome.ok.injEq] at h; subst h; exact ⟨fun _ => rfl, .inl rfl⟩)
  | arrayAgg e =>
    simp only [stepV] at h
    split at h
    · simp only [Outcome.ok.injEq] at h; subst h; exact ⟨fun _ => rfl, .inl rfl⟩
    · simp only [Outcome.ok.injEq] at h; subst h; exact ⟨id, .inl rfl⟩
    · split at h
      · simp only [Outcome.ok.injEq] at h; subst h; exact ⟨fun _ => rfl, .inl rfl⟩
      · simp at h
  | stringAgg e dl =>
    simp only [stepV] at h
    split at h
    · split at h <;> (simp only [Outcome.ok.injEq] at h; subst h; exact ⟨fun _ => rfl, .inl rfl⟩)
    · simp only [Outcome.ok.injEq] at h; subst h; exact ⟨id, .inl rfl⟩
    · simp at h
  | sum e | avg e | stddev e b | percentile e p | boolAnd e | boolOr e =>
    simp only [stepV] at h
    split at h
    · obtain ⟨⟨a', r⟩, h1, h2⟩ := bind_ok h
      simp only at h2
      split at h2 <;> (simp only [pure, Outcome.ok.injEq] at h2; subst h2)
      · exact ⟨fun _ => rfl, .inr (.inr ⟨a', _, h1, rfl⟩)⟩
      · exact ⟨id, .inr (.inr ⟨a', _, h1, rfl⟩)⟩
    · split at h <;> (simp only [Outcome.ok.injEq] at h; subst h)
      · exact ⟨fun _ => rfl, .inr (.inl rfl)⟩
      · exact ⟨id, .inr (.inl rfl)⟩

theorem stepV_extends {k : AggKind} {v : Value} {c c' : Cell} (h : stepV k v c = .ok c') : Cell.Extends c' c := by
  obtain ⟨hv, ha⟩ := stepV_shape h
  refine ⟨fun hc => ?_, hv⟩
  rcases ha with ha | ha | ⟨a', r, _, ha⟩ <;> rw [ha]
  · exact hc
  · rfl
  · rfl

theorem cellStep_extends {O : Oracles} {q : AggStmt} {env : Env} {k : AggKind} {c c' : Cell}
    (h : cellStep O q env k c = .ok c') : Cell.Extends c' c := by
  rw [cellStep_eq] at h
  obtain ⟨v, _, h2⟩ := obind_ok h
  exact stepV_extends h2

structure AggSorted (st : AggState) : Prop where
  aggs : GmSorted st.aggs
  vals : GmSorted st.vals

theorem aggSorted_init : AggSorted {} := ⟨gmSorted_nil, gmSorted_nil⟩

theorem readCell_congr (st : AggState) {k k' : List Value} (hk : cmpList k k' = .eq) (i : Nat) :
    readCell st k i = readCell st k' i := by
  simp only [readCell, gmLookup, gmGet_congr _ hk]

theorem aggSorted_writeCell {st : AggState} (hs : AggSorted st) (k : List Value) (i : Nat) (c : Cell) :
    AggSorted (writeCell st k i c) := by
  unfold writeCell
  cases ha : c.agg <;> cases hv : c.val <;> simp only [setAgg, setVal]
  · exact hs
  · exact ⟨hs.aggs, gmSorted_gmModify hs.vals _ _⟩
  · exact ⟨gmSorted_gmModify hs.aggs _ _, hs.vals⟩
  · exact ⟨gmSorted_gmModify hs.aggs _ _, gmSorted_gmModify hs.vals _ _⟩

theorem readCell_writeCell {st : AggState} (hs : AggSorted st) (k : List Value) (i : Nat) (c : Cell)
    (hext : Cell.Extends c (readCell st k i)) (k' : List Value) (i' : Nat) :
    readCell (writeCell st k i c) k' i' = if cmpList k k' = .eq ∧ i = i' then c else readCell st k' i' := by
  have ha : (writeCell st k i c).aggs = c.agg.elim st.aggs (gmSet st.aggs k i) := by
    unfold writeCell; cases c.agg <;> cases c.val <;> rfl
  have hv : (writeCell st k i c).vals = c.val.elim st.vals (gmSet st.vals k i) := by
    unfold writeCell; cases c.agg <;> cases c.val <;> rfl
  simp only [readCell, ha, hv, gmLookup_setOpt hs.aggs k i c.agg hext.1, gmLookup_setOpt hs.vals k i c.val hext.2]
  split <;> rfl

/-- shape invariants of the two maps: no aggregate index twice in a group, no empty group in `group_values`,
every stored key is one of the keys `S` (the keys of the rows seen). `valsNonempty` is what makes "the key is in
`group_values`" the same as "one of its cells has a value" (`vals_key_iff`, `Lemmas/AggResult.lean`: which groups the result
shows); `aggsInner` is what lets `publishPercentiles` be read cell by cell (`readCell_publish`, ibid.). -/
structure Shape (st : AggState) (S : List (List Value)) : Prop where
  aggsInner : ∀ g ∈ st.aggs, (g.2.map (·.1)).Nodup
  valsNonempty : ∀ g ∈ st.vals, g.2 ≠ []
  aggsKeys : ∀ g ∈ st.aggs, g.1 ∈ S
  valsKeys : ∀ g ∈ st.vals, g.1 ∈ S

theorem shape_init (S : List (List Value)) : Shape {} S :=
  ⟨fun _ h => by simp at h, fun _ h => by simp at h, fun _ h => by simp at h, fun _ h => by simp at h⟩

theorem shape_mono {st : AggState} {S S' : List (List Value)} (h : Shape st S) (hsub : ∀ k ∈ S, k ∈ S') : Shape st S' :=
  ⟨h.aggsInner, h.valsNonempty, fun g hg => hsub _ (h.aggsKeys g hg), fun g hg => hsub _ (h.valsKeys g hg)⟩

theorem shape_setVal {st : AggState} {S : List (List Value)} (h : Shape st S) {k : List Value} (hk : k ∈ S) (i : Nat) (v : Value) :
    Shape (setVal st k i v) S := by
  refine ⟨h.aggsInner, ?_, h.aggsKeys, ?_⟩
  · exact gm_all_gmModify (P := fun l => l ≠ []) (f := fun l => alSet l i v) h.valsNonempty k (alSet_ne_nil _ _ _) (fun l _ => alSet_ne_nil l _ _)
  · intro g hg
    rcases gm_key_gmModify st.vals k _ g hg with h1 | h1
    · rw [h1]; exact hk
    · obtain ⟨g', hg', he⟩ := List.mem_map.mp h1
      rw [← he]; exact h.valsKeys g' hg'

theorem shape_setAgg {st : AggState} {S : List (List Value)} (h : Shape st S) {k : List Value} (hk : k ∈ S) (i : Nat) (a : Aggregator) :
    Shape (setAgg st k i a) S := by
  refine ⟨?_, h.valsNonempty, ?_, h.valsKeys⟩
  · exact gm_all_gmModify (P := fun l => (l.map (·.1)).Nodup) (f := fun l => alSet l i a) h.aggsInner k
      (alSet_nodup [] i a (by simp)) (fun l hl => alSet_nodup l i a hl)
  · intro g hg
    rcases gm_key_gmModify st.aggs k _ g hg with h1 | h1
    · rw [h1]; exact hk
    · obtain ⟨g', hg', he⟩ := List.mem_map.mp h1
      rw [← he]; exact h.aggsKeys g' hg'

theorem shape_writeCell {st : AggState} {S : List (List Value)} (h : Shape st S) {k : List Value} (hk : k ∈ S) (i : Nat) (c : Cell) :
    Shape (writeCell st k i c) S := by
  unfold writeCell
  cases c.agg <;> cases c.val <;> simp only
  · exact h
  · exact shape_setVal h hk _ _
  · exact shape_setAgg h hk _ _
  · exact shape_setVal (shape_setAgg h hk _ _) hk _ _

theorem updateAggregate_cells {O : Oracles} {q : AggStmt} {env : Env} {key : List Value} {idx : Nat} {k : AggKind}
    {st st' : AggState} (hs : AggSorted st) (h : updateAggregate O q env key idx k st = .ok st') :
    AggSorted st' ∧ ∃ c', cellStep O q env k (readCell st key idx) = .ok c' ∧
      ∀ k' i', readCell st' k' i' = if cmpList key k' = .eq ∧ idx = i' then c' else readCell st k' i' := by
  unfold updateAggregate at h
  obtain ⟨c', h1, h2⟩ := bind_ok h
  simp only [pure, Outcome.ok.injEq] at h2
  subst h2
  exact ⟨aggSorted_writeCell hs _ _ _, c', h1, readCell_writeCell hs key idx c' (cellStep_extends h1)⟩

theorem updateAggregate_shape {O : Oracles} {q : AggStmt} {env : Env} {key : List Value} {idx : Nat} {k : AggKind}
    {st st' : AggState} {S : List (List Value)} (hsh : Shape st S) (hk : key ∈ S)
    (h : updateAggregate O q env key idx k st = .ok st') : Shape st' S := by
  unfold updateAggregate at h
  obtain ⟨c', _, h2⟩ := bind_ok h
  simp only [pure, Outcome.ok.injEq] at h2
  subst h2
  exact shape_writeCell hsh hk _ _

end Sqlgrep
