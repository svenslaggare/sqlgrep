import SqlgrepModel.Lemmas.JsonNumber
/-
Facts about the RFC 8259 grammar of `Spec/JsonGrammar.lean` that do not involve the printer:
a text with a denotation is a text of the plain grammar.
-/
namespace Sqlgrep.JsonGrammar

theorem ws_nil : Ws [] := fun _ h => nomatch h

theorem sep_bare (c : Char) : Sep c [c] := ⟨[], [], ws_nil, ws_nil, rfl⟩

theorem hex4_hexDig {a b c d : Char} {n : Nat} (h : hex4 a b c d = some n) :
    HexDig a ∧ HexDig b ∧ HexDig c ∧ HexDig d := by
  unfold hex4 at h
  split at h
  · rename_i ha hb hc hd
    unfold HexDig
    rw [ha, hb, hc, hd]
    exact ⟨rfl, rfl, rfl, rfl⟩
  · cases h

theorem StrCharD.strChar {cs : List Char} {x : Char} (h : StrCharD cs x) : Chars cs := by
  have one : ∀ {c}, StrChar c → Chars c := fun hc => by simpa using Chars.cons hc Chars.nil
  cases h with
  | unescaped hu => exact one (.unescaped hu)
  | escape he => exact one (.escape (List.mem_map.mpr ⟨_, he, rfl⟩))
  | unicode hh _ =>
    obtain ⟨ha, hb, hc, hd⟩ := hex4_hexDig hh
    exact one (.unicode ha hb hc hd)
  | surrogates h1 h2 _ _ _ _ =>
    obtain ⟨ha, hb, hc, hd⟩ := hex4_hexDig h1
    obtain ⟨he, hf, hg, hh⟩ := hex4_hexDig h2
    exact Chars.cons (c := ['\\', 'u', _, _, _, _]) (.unicode ha hb hc hd) (one (.unicode he hf hg hh))

theorem Chars.append {a b : List Char} (ha : Chars a) (hb : Chars b) : Chars (a ++ b) := by
  induction ha with
  | nil => exact hb
  | cons hc _ ih => rw [List.append_assoc]; exact .cons hc ih

theorem CharsD.chars {cs xs : List Char} (h : CharsD cs xs) : Chars cs := by
  induction h with
  | nil => exact .nil
  | cons hc _ ih => exact hc.strChar.append ih

theorem StrD.str {cs xs : List Char} (h : StrD cs xs) : Str cs := by
  cases h with
  | mk hc => exact .mk hc.chars

mutual
theorem ValD.val {cs : List Char} {x : JVal} : ValD cs x → Val cs
  | .false => .false
  | .null => .null
  | .true => .true
  | .object h => .object h.obj
  | .array h => .array h.arr
  | .number h => .number h.num
  | .string h => .string h.str
theorem ObjD.obj {cs : List Char} {xs : List (List Char × JVal)} : ObjD cs xs → Obj cs
  | .empty hb he => .empty hb he
  | .members hb hm he => .members hb hm.members he
theorem MembersD.members {cs : List Char} {xs : List (List Char × JVal)} : MembersD cs xs → Members cs
  | .one h => .one h.member
  | .cons h hs ht => .cons h.member hs ht.members
theorem MemberD.member {cs : List Char} {x : List Char × JVal} : MemberD cs x → Member cs
  | .mk hk hs hv => .mk hk.str hs hv.val
theorem ArrD.arr {cs : List Char} {xs : List JVal} : ArrD cs xs → Arr cs
  | .empty hb he => .empty hb he
  | .elements hb hv he => .elements hb hv.elems he
theorem ElemsD.elems {cs : List Char} {xs : List JVal} : ElemsD cs xs → Elems cs
  | .one h => .one h.val
  | .cons h hs ht => .cons h.val hs ht.elems
end

end Sqlgrep.JsonGrammar
