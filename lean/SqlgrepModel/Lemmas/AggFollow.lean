import SqlgrepModel.Lemmas.AggRun
import SqlgrepModel.Lemmas.AggKinds
/-
Follow mode: `execute_result` runs between updates. `publishPercentiles` leaves published values in PERCENTILE cells;
the coupling is kept in the weaker form `CoupledP` (stored cell similar to the ideal fold), which every update and
every `publishPercentiles` preserves and which determines the same table.
-/
set_option linter.unusedSimpArgs false
namespace Sqlgrep
open Value

def isPct : Option Aggregator → Bool
  | some (.percentile _ _) => true
  | _ => false

def isPctKind : AggKind → Bool
  | .percentile _ _ => true
  | _ => false

theorem aggUpdate_isPct {a a' : Aggregator} {v : Value} {r : Option Value} (h : aggUpdate a v = .ok (a', r)) :
    isPct (some a') = isPct (some a) := by
  cases a with
  | sum s =>
    simp only [aggUpdate] at h
    obtain ⟨s', _, h2⟩ := bind_ok h
    simp only [pure, Outcome.ok.injEq, Prod.mk.injEq] at h2
    rw [← h2.1]; rfl
  | avg s c =>
    simp only [aggUpdate] at h
    obtain ⟨s', _, h2⟩ := bind_ok h
    simp only [pure, Outcome.ok.injEq, Prod.mk.injEq] at h2
    rw [← h2.1]; rfl
  | stddev s q c b =>
    simp only [aggUpdate] at h
    obtain ⟨_, _, h⟩ := bind_ok h
    obtain ⟨_, _, h⟩ := bind_ok h
    obtain ⟨_, _, h2⟩ := bind_ok h
    simp only [pure, Outcome.ok.injEq, Prod.mk.injEq] at h2
    rw [← h2.1]; rfl
  | percentile xs p =>
    simp only [aggUpdate, pure, Outcome.ok.injEq, Prod.mk.injEq] at h
    rw [← h.1]; rfl
  | boolAnd cur =>
    cases v with
    | bool b => simp only [aggUpdate, pure, Outcome.ok.injEq, Prod.mk.injEq] at h; rw [← h.1]; rfl
    | _ => simp [aggUpdate] at h
  | boolOr cur =>
    cases v with
    | bool b => simp only [aggUpdate, pure, Outcome.ok.injEq, Prod.mk.injEq] at h; rw [← h.1]; rfl
    | _ => simp [aggUpdate] at h
  | countDistinct seen =>
    simp only [aggUpdate] at h
    split at h <;> (simp only [pure, Outcome.ok.injEq, Prod.mk.injEq] at h; rw [← h.1]) <;> rfl

theorem default_notPct {kind : AggKind} (hk : isPctKind kind = false) (v : Value) :
    isPct (some (defaultAggregator kind v)) = false := by
  cases kind <;> simp [isPctKind] at hk <;> rfl

theorem stepV_notPct {kind : AggKind} {v : Value} {c d : Cell} (hk : isPctKind kind = false) (hc : isPct c.agg = false)
    (h : stepV kind v c = .ok d) : isPct d.agg = false := by
  have hdef : isPct (some (c.agg.getD (defaultAggregator kind v))) = false := by
    cases hca : c.agg with
    | none => exact default_notPct hk v
    | some a => rw [hca] at hc; simpa using hc
  rcases (stepV_shape h).2 with e | e | ⟨a', r, hu, e⟩
  · rw [e]; exact hc
  · rw [e]; exact hdef
  · rw [e, aggUpdate_isPct hu]; exact hdef

/-- the stored cell `c'` against the ideal fold `c`: identical, except that `publishPercentiles` may have left a
(possibly stale) published value in a PERCENTILE cell — which the next `publishPercentiles` overwrites -/
def CellSim (kind : AggKind) (c' c : Cell) : Prop :=
  match kind with
  | .percentile _ _ =>
    c'.agg = c.agg ∧ c.val = none ∧ (∀ a, c.agg = some a → ∃ xs p, a = .percentile xs p) ∧
      (c'.val = none ∨ ∃ xs p, c.agg = some (.percentile xs p) ∧ xs ≠ [])
  | _ => c' = c ∧ isPct c.agg = false

theorem CellSim.refl_init (kind : AggKind) : CellSim kind {} {} := by
  cases kind <;> simp [CellSim, isPct]

/-- the two forms of a similar pair of PERCENTILE cells: both empty; or the same aggregator over some `xs`, nothing published on
the ideal side and, on the stored side, a published value only when `xs` is not empty -/
theorem CellSim.percentile_cases {e : Expr} {p : Nat} {c' c : Cell} (h : CellSim (.percentile e p) c' c) :
    (c' = {} ∧ c = {}) ∨ ∃ xs p0 w, c' = { agg := some (.percentile xs p0), val := w } ∧
      c = { agg := some (.percentile xs p0), val := none } ∧ (w = none ∨ xs ≠ []) := by
  obtain ⟨a', w⟩ := c'
  obtain ⟨a, v⟩ := c
  obtain ⟨hagg, hval, hshape, hstale⟩ := h
  simp only at hagg hval hshape hstale
  subst hagg hval
  cases a' with
  | none =>
    rcases hstale with h1 | ⟨xs, p', h2, _⟩
    · subst h1
      exact .inl ⟨rfl, rfl⟩
    · cases h2
  | some a =>
    obtain ⟨xs, p0, rfl⟩ := hshape a rfl
    refine .inr ⟨xs, p0, w, rfl, rfl, ?_⟩
    rcases hstale with h1 | ⟨ys, q0, h2, hne⟩
    · exact .inl h1
    · cases h2
      exact .inr hne

/-- a PERCENTILE cell shows its aggregator's value; a stored value would only show over an empty list -/
theorem published_percentile (xs : List Value) (p0 : Nat) (w : Option Value) (hw : w = none ∨ xs ≠ []) :
    published { agg := some (.percentile xs p0), val := w } = percentileValue xs p0 := by
  unfold published
  simp only
  cases hv : percentileValue xs p0 with
  | some v => rfl
  | none =>
    rcases hw with rfl | hne
    · rfl
    · have := percentileValue_isSome xs p0
      rw [hv] at this
      cases xs with
      | nil => exact absurd rfl hne
      | cons _ _ => simp at this

theorem CellSim.published {kind : AggKind} {c' c : Cell} (h : CellSim kind c' c) : published c' = published c := by
  cases kind with
  | percentile e p =>
    rcases h.percentile_cases with ⟨rfl, rfl⟩ | ⟨xs, p0, w, rfl, rfl, hw⟩
    · rfl
    · rw [published_percentile xs p0 w hw, published_percentile xs p0 none (.inl rfl)]
  | _ => simp only [CellSim] at h; rw [h.1]

/-- `publishPercentiles` on the stored side keeps a cell similar to its ideal counterpart -/
theorem cellSim_publish {kind : AggKind} {c' c : Cell} (hsim : CellSim kind c' c) :
    CellSim kind { agg := c'.agg, val := published c' } c := by
  cases kind with
  | percentile e p =>
    rcases hsim.percentile_cases with ⟨rfl, rfl⟩ | ⟨xs, p0, w, rfl, rfl, hw⟩
    · exact hsim
    · refine ⟨rfl, rfl, fun a ha => ⟨xs, p0, (Option.some.inj ha).symm⟩, ?_⟩
      rw [published_percentile xs p0 w hw]
      cases xs with
      | nil => exact .inl rfl
      | cons x xs => exact .inr ⟨_, _, rfl, List.cons_ne_nil x xs⟩
  | _ =>
    simp only [CellSim] at hsim ⊢
    obtain ⟨he, hp⟩ := hsim
    refine ⟨?_, hp⟩
    rw [he]
    have : published c = c.val := by
      unfold published
      cases ha : c.agg with
      | none => rfl
      | some a => cases a <;> first | rfl | (rw [ha] at hp; simp [isPct] at hp)
    rw [this]

theorem stepV_percentile_form (e : Expr) (p : Nat) (v : Value) (c : Cell) (xs : List Value) (p0 : Nat)
    (ha : c.agg.getD (defaultAggregator (.percentile e p) v) = .percentile xs p0) :
    stepV (.percentile e p) v c = .ok { c with agg := some (.percentile (if v.isNull then xs else xs ++ [v]) p0) } := by
  simp only [stepV, ha]
  cases hv : v.isNull
  · simp [aggUpdate, bind, Outcome.bind, pure]
  · simp [aggIsNull]

theorem cellStep_sim {O : Oracles} {q : AggStmt} {env : Env} {kind : AggKind} {c' c d' : Cell} (hs : CellSim kind c' c)
    (h : cellStep O q env kind c' = .ok d') : ∃ d, cellStep O q env kind c = .ok d ∧ CellSim kind d' d := by
  cases kind with
  | percentile e p =>
    rw [cellStep_eq] at h ⊢
    obtain ⟨v, hv, hstep⟩ := obind_ok h
    rw [hv]
    simp only [Outcome.bind]
    -- either way both cells step with the same aggregator, and a value stays stored only beside a non-empty list
    rcases hs.percentile_cases with ⟨rfl, rfl⟩ | ⟨xs, p0, w, rfl, rfl, hw⟩
    · rw [stepV_percentile_form e p v {} [] p rfl] at hstep ⊢
      cases hstep
      exact ⟨_, rfl, rfl, rfl, fun a ha => ⟨_, _, (Option.some.inj ha).symm⟩, .inl rfl⟩
    · rw [stepV_percentile_form e p v { agg := some (.percentile xs p0), val := w } xs p0 rfl] at hstep
      rw [stepV_percentile_form e p v { agg := some (.percentile xs p0), val := none } xs p0 rfl]
      cases hstep
      refine ⟨_, rfl, rfl, rfl, fun a ha => ⟨_, _, (Option.some.inj ha).symm⟩, ?_⟩
      rcases hw with rfl | hne
      · exact .inl rfl
      · exact .inr ⟨_, _, rfl, by cases v.isNull <;> simp [hne]⟩
  | _ =>
    simp only [CellSim] at hs
    obtain ⟨he, hp⟩ := hs
    subst he
    refine ⟨d', h, rfl, ?_⟩
    rw [cellStep_eq] at h
    obtain ⟨v, _, hstep⟩ := obind_ok h
    exact stepV_notPct rfl hp hstep

theorem cellFold_sim {O : Oracles} {q : AggStmt} {kind : AggKind} (g : List Env) {c' c d' : Cell} (hs : CellSim kind c' c)
    (h : cellFold O q kind g c' = .ok d') : ∃ d, cellFold O q kind g c = .ok d ∧ CellSim kind d' d := by
  induction g generalizing c' c with
  | nil => simp only [cellFold, Outcome.ok.injEq] at h; subst h; exact ⟨c, rfl, hs⟩
  | cons env rest ih =>
    simp only [cellFold] at h ⊢
    obtain ⟨c1', h1, h2⟩ := obind_ok h
    obtain ⟨c1, hc1, hs1⟩ := cellStep_sim hs h1
    rw [hc1]
    exact ih hs1 h2

theorem cellFold_selfSim {O : Oracles} {q : AggStmt} {kind : AggKind} (g : List Env) {c : Cell}
    (h : cellFold O q kind g {} = .ok c) : CellSim kind c c := by
  obtain ⟨d, hd, hs⟩ := cellFold_sim g (CellSim.refl_init kind) h
  cases h.symm.trans hd
  exact hs

/-- the coupling as it holds in follow mode, where `execute_result` runs between updates: every stored cell is
`CellSim`ilar to the fold of its aggregate over its group's rows -/
structure CoupledP (O : Oracles) (q : AggStmt) (st : AggState) (rows : List (List Value × Env)) : Prop where
  sorted : AggSorted st
  cells : ∀ key i kind, (i, kind) ∈ rowSlots q →
    ∃ c, cellFold O q kind (Spec.Agg.rowsOfKey key rows) {} = .ok c ∧ CellSim kind (readCell st key i) c
  others : ∀ key i, i ∉ (rowSlots q).map (·.1) → readCell st key i = {}
  shape : Shape st (rows.map (·.1))

theorem coupledP_of_coupled {O : Oracles} {q : AggStmt} {st : AggState} {rows : List (List Value × Env)}
    (hc : Coupled O q st rows) : CoupledP O q st rows :=
  ⟨hc.sorted, fun key i kind hm => ⟨_, hc.cells key i kind hm, cellFold_selfSim _ (hc.cells key i kind hm)⟩, hc.others, hc.shape⟩

theorem coupledP_init (O : Oracles) (q : AggStmt) : CoupledP O q {} [] := coupledP_of_coupled (coupled_init O q)

theorem coupledP_step {O : Oracles} {q : AggStmt} {st st' : AggState} {rows : List (List Value × Env)} {env : Env} {u : Bool}
    (hc : CoupledP O q st rows) (h : aggUpdateRow O q st env = .ok (st', u)) :
    Spec.Agg.passes O q env = some u ∧
    (u = false → CoupledP O q st' rows) ∧
    (u = true → ∃ key, Spec.Agg.keyOf O q env = some key ∧ CoupledP O q st' (rows ++ [(key, env)])) := by
  obtain ⟨hs', hpass, hfalse, htrue⟩ := aggUpdateRow_cells hc.sorted h
  refine ⟨hpass, fun hu => by rw [hfalse hu]; exact hc, fun hu => ?_⟩
  obtain ⟨key, hkey, hin, hout, hshape⟩ := htrue hu
  refine ⟨key, hkey, hs', fun k' i kind hmem => ?_, fun k' i hi => by rw [hout k' i (Or.inr hi)]; exact hc.others k' i hi,
    hshape _ (shape_mono hc.shape (fun k hk => by simp [hk])) (by simp)⟩
  obtain ⟨c, hfold, hsim⟩ := hc.cells k' i kind hmem
  exact cells_step CellSim cellStep_sim hin hout hmem hfold hsim

end Sqlgrep
