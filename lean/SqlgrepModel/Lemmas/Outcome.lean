import SqlgrepModel.Model.Expr
/-
`Outcome` as a monad, in one place: a bind succeeds iff both halves do, and looks at its continuation only where the first
half succeeded (`bind_eq_ok_iff`, `bind_congr`); `FaultsIn P M` bounds the two abnormal forms (`panic site`,
`oracleMissing fact`) and is kept by `bind`; a list of outcomes in sequence (`seq`) and its first failure (`firstFail`,
`void`); what is true of every monadic fold (`foldlM_*`); and `Iter.ORel R`, two outcomes that are the same failure or
values related by `R`.
-/
namespace Sqlgrep
namespace Outcome
variable {α β γ σ : Type}

@[simp] theorem pure_eq (a : α) : (pure a : Outcome α) = .ok a := rfl

/-- `do` notation and `>>=` are `Outcome.bind`; the `bind` lemmas below are stated for `bind` (`FaultsIn.bind` and `ORel.bind`, used
under `do` blocks as they stand, for `>>=`) -/
@[simp] theorem bind_def (x : Outcome α) (f : α → Outcome β) : x >>= f = x.bind f := rfl

@[simp] theorem ok_bind (a : α) (f : α → Outcome β) : (Outcome.ok a).bind f = f a := rfl

theorem bind_eq_ok_iff {x : Outcome α} {f : α → Outcome β} {b : β} :
    x.bind f = .ok b ↔ ∃ a, x = .ok a ∧ f a = .ok b := by
  cases x <;> simp [Outcome.bind]

theorem bind_eq_ok {x : Outcome α} {f : α → Outcome β} {b : β} (h : x.bind f = .ok b) :
    ∃ a, x = .ok a ∧ f a = .ok b := bind_eq_ok_iff.1 h

theorem bind_congr {x : Outcome α} {f g : α → Outcome β} (h : ∀ a, x = .ok a → f a = g a) : x.bind f = x.bind g := by
  cases x with
  | ok a => exact h a rfl
  | _ => rfl

theorem bind_assoc (x : Outcome α) (f : α → Outcome β) (g : β → Outcome γ) :
    (x.bind f).bind g = x.bind fun a => (f a).bind g := by
  cases x <;> rfl

theorem ok_or_not (o : Outcome α) : (∃ a, o = .ok a) ∨ ∀ a, o ≠ .ok a := by
  cases o with
  | ok a => exact .inl ⟨a, rfl⟩
  | _ => exact .inr fun _ h => nomatch h

instance : LawfulMonad Outcome :=
  LawfulMonad.mk' Outcome (id_map := fun x => by cases x <;> rfl) (pure_bind := fun _ _ => rfl)
    (bind_assoc := fun x _ _ => by cases x <;> rfl)

/-! ### the two abnormal forms

A run reports them as `panicked` and as `skipped`. `o.FaultsIn P M`: a panic of `o` has a site in `P`, a missing fact of
`o` is in `M`. "Never panics" is `P := fun _ => False`, "never stops for a missing fact" is `M := fun _ => False`; a
definition is walked once, with `FaultsIn.bind` at every `←`, for whatever `P` and `M` its callees allow. -/

@[reducible] def FaultsIn (P M : String → Prop) : Outcome α → Prop
  | .panic s => P s
  | .oracleMissing w => M w
  | _ => True

namespace FaultsIn
variable {P M P' M' : String → Prop}

theorem bind {x : Outcome α} {f : α → Outcome β} (hx : x.FaultsIn P M) (hf : ∀ a, x = .ok a → (f a).FaultsIn P M) :
    (x >>= f).FaultsIn P M := by
  cases x with
  | ok a => exact hf a rfl
  | error k => trivial
  | panic s => exact hx
  | oracleMissing w => exact hx

theorem mono {o : Outcome α} (h : o.FaultsIn P M) (hP : ∀ s, P s → P' s) (hM : ∀ w, M w → M' w) : o.FaultsIn P' M' := by
  cases o with
  | ok a => trivial
  | error k => trivial
  | panic s => exact hP s h
  | oracleMissing w => exact hM w h

theorem ne_panic {o : Outcome α} (h : o.FaultsIn (fun _ => False) M) (s : String) : o ≠ .panic s :=
  fun e => (e ▸ h : Outcome.FaultsIn _ M (.panic s))

theorem ne_missing {o : Outcome α} (h : o.FaultsIn P (fun _ => False)) (w : String) : o ≠ .oracleMissing w :=
  fun e => (e ▸ h : Outcome.FaultsIn P _ (.oracleMissing w))

theorem ite {c : Prop} [Decidable c] {a b : Outcome α} (ha : c → a.FaultsIn P M) (hb : ¬c → b.FaultsIn P M) :
    (if c then a else b).FaultsIn P M := by
  split
  · exact ha ‹_›
  · exact hb ‹_›

end FaultsIn

/-! ### a list of outcomes in sequence, and its first failure -/

/-- an outcome seen as a failure only (`ok` of anything becomes `ok ()`) -/
def void : Outcome α → Outcome Unit
  | .ok _ => .ok ()
  | .error k => .error k
  | .panic s => .panic s
  | .oracleMissing w => .oracleMissing w

/-- all values, or the first failure -/
def seq : List (Outcome α) → Outcome (List α)
  | [] => .ok []
  | x :: xs => x.bind (fun a => (seq xs).bind (fun as => .ok (a :: as)))

end Outcome

/-- the first outcome of the list that is no value, as a failure; `ok ()` when every outcome is a value -/
def firstFail {α : Type} : List (Outcome α) → Outcome Unit
  | [] => .ok ()
  | .ok _ :: rest => firstFail rest
  | .error k :: _ => .error k
  | .panic s :: _ => .panic s
  | .oracleMissing w :: _ => .oracleMissing w

theorem firstFail_append {α : Type} (a b : List (Outcome α)) :
    firstFail (a ++ b) = (firstFail a).bind (fun _ => firstFail b) := by
  induction a with
  | nil => rfl
  | cons x xs ih => cases x <;> simp [firstFail, ih, Outcome.bind]

theorem firstFail_ok_iff {α : Type} (l : List (Outcome α)) : firstFail l = .ok () ↔ ∀ x ∈ l, ∃ v, x = .ok v := by
  induction l with
  | nil => simp [firstFail]
  | cons x xs ih => cases x <;> simp [firstFail, ih]

theorem firstFail_error_at {α : Type} (pre : List (Outcome α)) (k : ErrKind) (post : List (Outcome α))
    (h : ∀ x ∈ pre, ∃ v, x = .ok v) : firstFail (pre ++ .error k :: post) = .error k := by
  rw [firstFail_append, (firstFail_ok_iff pre).mpr h]; rfl

theorem void_ok_iff {α : Type} (x : Outcome α) : x.void = .ok () ↔ ∃ a, x = .ok a := by
  cases x <;> simp [Outcome.void]

theorem void_bind {α β : Type} (x : Outcome α) (f : α → Outcome β) :
    (x.bind f).void = x.void.bind (fun _ => match x with | .ok a => (f a).void | _ => .ok ()) := by
  cases x <;> rfl

namespace Outcome
variable {α β σ : Type}

theorem seq_void (l : List (Outcome α)) : (seq l).void = firstFail l := by
  induction l with
  | nil => rfl
  | cons x xs ih =>
    cases x with
    | ok a =>
      simp only [seq, ok_bind, firstFail, ← ih]
      cases seq xs <;> rfl
    | _ => rfl

theorem seq_eq_ok_iff {l : List (Outcome α)} {r : List α} : seq l = .ok r ↔ l = r.map .ok := by
  induction l generalizing r with
  | nil => cases r <;> simp [seq]
  | cons x xs ih =>
    cases x with
    | ok a =>
      simp only [seq, ok_bind, bind_eq_ok_iff, ih, Outcome.ok.injEq]
      cases r with
      | nil => simp
      | cons b bs =>
        simp only [List.cons.injEq, List.map_cons, Outcome.ok.injEq]
        constructor
        · rintro ⟨as, rfl, rfl, rfl⟩; exact ⟨rfl, rfl⟩
        · rintro ⟨rfl, rfl⟩; exact ⟨bs, rfl, rfl, rfl⟩
    | _ => cases r <;> simp [seq, Outcome.bind]

theorem seq_map_faults {P M : String → Prop} {f : α → Outcome β} {l : List α} (h : ∀ a ∈ l, (f a).FaultsIn P M) :
    (seq (l.map f)).FaultsIn P M := by
  induction l with
  | nil => trivial
  | cons a l ih =>
    exact .bind (h a List.mem_cons_self) fun _ _ => .bind (ih fun a ha => h a (List.mem_cons_of_mem _ ha)) fun _ _ => trivial

/-! ### monadic folds: where a fold can stop abnormally, that it reads its step on the members of the list only, what a
successful fold keeps, where its first failure comes from -/

theorem foldlM_ok (f : σ → α → σ) (ys : List α) (s : σ) :
    ys.foldlM (fun s y => Outcome.ok (f s y)) s = .ok (ys.foldl f s) := by
  induction ys generalizing s with
  | nil => rfl
  | cons y ys ih => simp only [List.foldlM_cons, List.foldl_cons, bind_def, ok_bind, ih]

theorem foldlM_faults {P M : String → Prop} {f : σ → α → Outcome σ} {l : List α}
    (h : ∀ a ∈ l, ∀ s, (f s a).FaultsIn P M) (s : σ) : (l.foldlM f s).FaultsIn P M := by
  induction l generalizing s with
  | nil => trivial
  | cons a l ih =>
    exact .bind (h a List.mem_cons_self s) fun _ _ => ih (fun a ha => h a (List.mem_cons_of_mem _ ha)) _

theorem foldlM_congr {f g : σ → α → Outcome σ} {l : List α} (h : ∀ a ∈ l, ∀ s, f s a = g s a) (s : σ) :
    l.foldlM f s = l.foldlM g s := by
  induction l generalizing s with
  | nil => rfl
  | cons a l ih =>
    rw [List.foldlM_cons, List.foldlM_cons, h a List.mem_cons_self s]
    exact bind_congr fun s' _ => ih (fun a ha => h a (List.mem_cons_of_mem _ ha)) s'

theorem foldlM_inv (Q : σ → Prop) {f : σ → α → Outcome σ} {l : List α}
    (h : ∀ a ∈ l, ∀ s s', Q s → f s a = .ok s' → Q s') {s s' : σ} (hr : l.foldlM f s = .ok s') (hs : Q s) : Q s' := by
  induction l generalizing s with
  | nil => exact Outcome.ok.inj hr ▸ hs
  | cons a l ih =>
    obtain ⟨s1, h1, h2⟩ := bind_eq_ok hr
    exact ih (fun a ha => h a (List.mem_cons_of_mem _ ha)) h2 (h a List.mem_cons_self s s1 hs h1)

theorem foldlM_append_cons {f : σ → α → Outcome σ} {pre : List α} (a : α) (post : List α) {s s' : σ}
    (hpre : pre.foldlM f s = .ok s') : (pre ++ a :: post).foldlM f s = (f s' a).bind (post.foldlM f) := by
  rw [List.foldlM_append, hpre, bind_def, ok_bind, List.foldlM_cons, bind_def]

/-- a loop over a list written out as its own recursion is the monadic fold of its step -/
theorem eq_foldlM {run : List α → σ → Outcome σ} {step : σ → α → Outcome σ} (hnil : ∀ s, run [] s = .ok s)
    (hcons : ∀ a l s, run (a :: l) s = (step s a).bind (run l)) (l : List α) (s : σ) : run l s = l.foldlM step s := by
  induction l generalizing s with
  | nil => exact hnil s
  | cons a l ih =>
    rw [hcons, List.foldlM_cons]
    exact bind_congr fun s' _ => ih s'

/-- a loop that is a monadic fold, run over `a ++ b`, is the loop over `a`, then over `b` from where that ended -/
theorem append_of_foldlM {run : List α → σ → Outcome σ} {step : σ → α → Outcome σ} (h : ∀ l s, run l s = l.foldlM step s)
    (a b : List α) (s : σ) : run (a ++ b) s = (run a s).bind (run b) := by
  rw [funext (h b), h, h, List.foldlM_append]
  rfl

end Outcome

/-! ### two outcomes that are the same failure, or values related by `R` -/

namespace Iter

def ORel {α : Type} (R : α → α → Prop) : Outcome α → Outcome α → Prop
  | .ok a, .ok b => R a b
  | .error k, .error k' => k = k'
  | .panic s, .panic s' => s = s'
  | .oracleMissing w, .oracleMissing w' => w = w'
  | _, _ => False

theorem ORel.refl {α : Type} (x : Outcome α) : ORel Eq x x := by cases x <;> exact rfl

theorem ORel.eq {α : Type} {x y : Outcome α} (h : ORel Eq x y) : x = y := by
  cases x <;> cases y <;> first | exact congrArg _ h | exact False.elim h

theorem ORel.bind {α β : Type} {R : α → α → Prop} {S : β → β → Prop} {x y : Outcome α} {f g : α → Outcome β}
    (h : ORel R x y) (hf : ∀ a b, R a b → ORel S (f a) (g b)) : ORel S (x >>= f) (y >>= g) := by
  cases x <;> cases y <;> first | exact hf _ _ h | exact h | exact False.elim h

theorem ORel.pure {α : Type} {R : α → α → Prop} {a b : α} (h : R a b) : ORel R (Pure.pure a : Outcome α) (Pure.pure b) := h

theorem foldlM_rel {σ α : Type} {R : σ → σ → Prop} {f g : σ → α → Outcome σ} {l : List α}
    (h : ∀ a ∈ l, ∀ s t, R s t → ORel R (f s a) (g t a)) {s t : σ} (hst : R s t) : ORel R (l.foldlM f s) (l.foldlM g t) := by
  induction l generalizing s t with
  | nil => exact hst
  | cons a l ih =>
    exact ORel.bind (h a List.mem_cons_self s t hst) fun _ _ h' => ih (fun a ha => h a (List.mem_cons_of_mem _ ha)) h'

end Iter

end Sqlgrep
