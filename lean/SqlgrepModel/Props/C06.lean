import SqlgrepModel.Lemmas.ExtractRow
import SqlgrepModel.Lemmas.NoiseRun
import SqlgrepModel.Lemmas.NoiseIncr
import SqlgrepModel.Lemmas.FollowBridge
/-
C06 — lines that yield no row are invisible to every query.

Model: admission is `anyResult (extractRow …)` (Model/Extract.lean: `TableDefinition::extract` with the NOT NULL
cut, `Row::any_result`); the engines see a line as its raw text plus that extracted row (`Line`), and every entry
point tests `anyResult l.row` before touching any state (Model/Engine.lean `executeLine`: the three guards of
`execute_select`, `execute_aggregate`, `execute_aggregate_update`; `loadJoin`: the joined file goes through a
SELECT). `runBatch` (Model/Exec.lean) is `FileExecutor::execute`; `feedLines` is the line-at-a-time execution
with update + result that the `incr` driver renders (`incr_driver_is_feedLines`); `runFollowAll` (Model/ExecI.lean,
driver kind `followi`) is `FollowFileExecutor::execute`, and `follow_run_is_answers` expresses it through `feedLines`.

"Noise" = a readable physical line whose extracted row has no non-NULL column (`isNoise`); `denoise` removes the
noise lines of a file (a line that is not valid UTF-8 is an error, not noise, and stays). The cleanest form of
"insert or delete such lines at any position" is: the output is a function of the denoised input
(`noise_invisible_batch`), from which insertion and deletion at arbitrary positions follow
(`noise_invariance`): two inputs with the same denoised files give the same output.
`totalLines` (the statistics counter) legitimately differs: noise lines are counted as lines read — see the
last example; `SameOut` compares everything else (records, error, panic).
Interruption after k lines (`stopAt`) counts physical lines and is C19's subject; the theorems are for
uninterrupted runs.
Only this file states property theorems; helper lemmas live in `Lemmas/`.
-/
namespace Sqlgrep.Props.C06
open Sqlgrep Sqlgrep.Spec.Select

/-- **a line becomes a row iff at least one column obtains a non-NULL value (a declared DEFAULT counts: it is
what `specColumn` yields for an absent pattern, group or path) and every NOT NULL column is non-NULL.**
Stated for the test the engines apply (`anyResult` of the extracted row); column values are the specified
ones of C01/C02 (`specColumn`). -/
theorem admitted_iff (o : Extract.Oracles) (d : Extract.TableDef) (lo : Extract.LineOracle) :
    anyResult (Extract.extractRow o d lo) = true ↔
      (∃ c ∈ d.columns, (Extract.specColumn o c (Extract.ParsingInput.new d lo)).isNull = false) ∧
      (∀ c ∈ d.columns, c.options.nullable = false →
        (Extract.specColumn o c (Extract.ParsingInput.new d lo)).isNull = false) :=
  Extract.admitted_iff o d lo

/-- any other line contributes the empty row or a row of NULLs only — in both cases `anyResult` is false and,
when a NOT NULL column is NULL, the whole row is cleared -/
theorem not_null_failure_clears_row (o : Extract.Oracles) (d : Extract.TableDef) (lo : Extract.LineOracle)
    (h : ∃ c ∈ d.columns, c.options.nullable = false ∧
      (Extract.columnValue o c (Extract.ParsingInput.new d lo)).isNull = true) :
    Extract.extractRow o d lo = [] ∧ anyResult (Extract.extractRow o d lo) = false := by
  have : Extract.extractRow o d lo = [] := Extract.extractWith_cut o d _ h
  rw [this]; exact ⟨rfl, rfl⟩

/-- **step identity**: on a line that yields no row every engine entry point — SELECT, aggregate update-only
(batch), aggregate update+result (follow) — returns the state unchanged and no result. (The `reached_limit`
flag that travels with the answer is `noiseFlag`: whether the limit had been reached before.) -/
theorem noise_step_identity (O : Oracles) (qy : Query) (idx : JoinIndex) (w : Bool) (es : EngineState) (l : Line)
    (h : anyResult l.row = false) :
    executeLine O qy idx w es l = .ok (es, { result := none, reachedLimit := noiseFlag qy w es }) :=
  executeLine_noise O qy idx w es l h

/-- the join loader skips them: the index built from the joined file is the index built from its rows -/
theorem noise_step_identity_loader (j : JoinInfo) (lines : List Line) (joined : List FileLine) :
    loadJoin j lines = loadJoin j (lines.filter (fun l => anyResult l.row)) ∧
    loadJoinFile j (denoise joined) = loadJoinFile j joined :=
  ⟨loadJoin_noise j lines, loadJoinFile_noise j joined⟩

/-- adding a row with a NULL key leaves the index as it is (what a row with a non-NULL key does to a lookup is
`joinIndexGet_add`, Lemmas/JoinIndex.lean) -/
theorem loader_step (idx : JoinIndex) (row : List Value) : joinIndexAdd idx .null row = idx := rfl

/-- **batch mode, every statement kind** (plain, DISTINCT, LIMIT, aggregate with or without HAVING, INNER/OUTER
JOIN — noise in the queried files and in the joined file): the run over the input and the run over the input
without its noise lines print the same records and end the same way -/
theorem noise_invisible_batch (O : Oracles) (qy : Query) (joined : List FileLine) (files : List (List FileLine)) :
    SameOut (runBatch O qy joined files none) (runBatch O qy (denoise joined) (files.map denoise) none) :=
  runBatch_noise O qy joined files

/-- only the non-empty denoised files matter: whole files that hold nothing but noise (or nothing at all) may
appear or disappear, noise lines may stand anywhere in the queried files and in the joined file -/
theorem noise_invariance_any_files (O : Oracles) (qy : Query) (joined joined' : List FileLine)
    (files files' : List (List FileLine)) (hf : dropEmpty (files.map denoise) = dropEmpty (files'.map denoise))
    (hj : denoise joined = denoise joined') :
    SameOut (runBatch O qy joined files none) (runBatch O qy joined' files' none) := by
  have h1 := runBatch_noise O qy joined files
  have h2 := runBatch_noise O qy joined' files'
  rw [← runBatch_dropEmpty O qy (denoise joined) (files.map denoise), hf, hj, runBatch_dropEmpty] at h1
  exact h1.trans h2.symm

/-- **insertion and deletion at any positions**: two inputs that differ only by noise lines — anywhere in any of
the queried files, anywhere in the joined file — give the same output -/
theorem noise_invariance (O : Oracles) (qy : Query) (joined joined' : List FileLine)
    (files files' : List (List FileLine)) (hf : files.map denoise = files'.map denoise)
    (hj : denoise joined = denoise joined') :
    SameOut (runBatch O qy joined files none) (runBatch O qy joined' files' none) :=
  noise_invariance_any_files O qy joined joined' files files' (congrArg dropEmpty hf) hj

/-- inserting one noise line at any position of any file is such a difference -/
theorem insert_one_noise_line (pre post : List FileLine) (x : FileLine) (hx : isNoise x = true) :
    denoise (pre ++ x :: post) = denoise (pre ++ post) := by
  simp [denoise, List.filter_append, hx]

/-- **follow mode** — the executed follow loop (`Model/ExecI.lean` `runFollowAll`, `FollowFileExecutor::execute`,
driver kind `followi`), every statement kind, with or without LIMIT: over the delivered lines and over the
delivered lines that yield a row it prints the same records and ends the same way (no error, or the same
error / panic). Only the line counter differs. -/
theorem noise_invisible_follow (O : Oracles) (qy : Query) (lines : List Line) :
    SameOut (runFollowAll O qy none (lines.filter (fun l => anyResult l.row))) (runFollowAll O qy none lines) :=
  runFollowAll_noise O qy lines

/-- insertion and deletion at any positions of what the follow iterator delivers -/
theorem noise_invariance_follow (O : Oracles) (qy : Query) (lines lines' : List Line)
    (h : lines.filter (fun l => anyResult l.row) = lines'.filter (fun l => anyResult l.row)) :
    SameOut (runFollowAll O qy none lines) (runFollowAll O qy none lines') := by
  have h1 := noise_invisible_follow O qy lines
  have h2 := noise_invisible_follow O qy lines'
  rw [h] at h1
  exact h1.symm.trans h2

/-- the executed follow loop in terms of the engine's line-at-a-time answers (`feedLines`, any statement kind):
what it prints is `followPrinted` of the answers, and it ends without error when an answer with a result carried
the `reached_limit` flag, else the way the feeding ended. (Bridging lemma: statements about `feedLines` /
`followPrinted` are statements about `runFollowAll`.) -/
theorem follow_run_is_answers (O : Oracles) (qy : Query) (lines : List Line) :
    (runFollowAll O qy none lines).printed =
        (if reachedLimit qy {} then [] else followPrinted (followSingleResult qy) (feedLines O qy [] true lines {}).1) ∧
    endStatus (runFollowAll O qy none lines) =
        (if reachedLimit qy {} || hasCut (feedLines O qy [] true lines {}).1 then endStatus {}
         else endStatus (failWith {} (feedLines O qy [] true lines {}).2)) :=
  ⟨runFollowAll_printed O qy lines, runFollowAll_status O qy lines⟩

/-- **line at a time, any join index** (what the `incr` driver executes, see `incr_driver_is_feedLines`): the
engine's answers that carry a result table — with their `reached_limit` flags — and the final state or failure are
those of the run over the lines that yield a row -/
theorem noise_invisible_answers (O : Oracles) (qy : Query) (idx : JoinIndex) (lines : List Line) (es : EngineState)
    (single : Bool) :
    withResult (feedLines O qy idx true (lines.filter (fun l => anyResult l.row)) es).1 =
        withResult (feedLines O qy idx true lines es).1 ∧
    (feedLines O qy idx true (lines.filter (fun l => anyResult l.row)) es).2 = (feedLines O qy idx true lines es).2 ∧
    followPrinted single (feedLines O qy idx true (lines.filter (fun l => anyResult l.row)) es).1 =
        followPrinted single (feedLines O qy idx true lines es).1 := by
  obtain ⟨h1, h2⟩ := feedLines_noise O qy idx true lines es
  refine ⟨h1, h2, ?_⟩
  rw [← followPrinted_withResult, h1, followPrinted_withResult]

/-- `feedLines` is what the `incr` driver executes: its answer is the rendering of the engine's answers -/
theorem incr_driver_is_feedLines (O : Oracles) (qy : Query) (idx : JoinIndex) (fls : List FileLine) :
    Drivers.Run.incrLoop O qy idx fls {} [] =
      match (feedLines O qy idx true (fls.map (·.line)) {}).2 with
      | .ok _ => (feedLines O qy idx true (fls.map (·.line)) {}).1.map incrItem
      | .error k => (feedLines O qy idx true (fls.map (·.line)) {}).1.map incrItem ++ ["err:" ++ k.name]
      | .panic _ => (feedLines O qy idx true (fls.map (·.line)) {}).1.map incrItem ++ ["panic"]
      | .oracleMissing w => ["skip " ++ w] := by
  rw [incrLoop_eq_feedLines]
  cases (feedLines O qy idx true (fls.map (·.line)) {}).2 <;> simp

/-! ### non-vacuity and concrete behaviour -/

def exTable : TableInfo := { name := "t", columns := ["v", "w"] }
def exQuery : Query :=
  { stmt := .select { projections := [("v", .column "v")], wildcard := false, filter := none, limit := some 2, distinct := true },
    table := exTable, join := none }
def row (v : Value) : FileLine := { readable := true, line := { text := [], row := [v, .int 7] } }
/-- a line that matched nothing (empty row) and a line whose columns are all NULL -/
def noise1 : FileLine := { readable := true, line := { text := [], row := [] } }
def noise2 : FileLine := { readable := true, line := { text := [120], row := [.null, .null] } }

example : isNoise noise1 = true ∧ isNoise noise2 = true ∧ isNoise (row .null) = false := by decide +kernel
-- hypotheses of `noise_invariance` on a non-trivial pair of inputs
example : [[noise1, row (.int 1), noise2, row (.int 1)], [noise2, row (.int 2), noise1]].map denoise =
    [[row (.int 1), row (.int 1)], [row (.int 2)]].map denoise := by rfl
-- same records; the line counter differs (noise lines are read)
example : (runBatch {} exQuery [] [[noise1, row (.int 1), noise2, row (.int 1)], [noise2, row (.int 2), noise1]] none).printed = ["v: 1", "v: 2"] ∧
    (runBatch {} exQuery [] [[row (.int 1), row (.int 1)], [row (.int 2)]] none).printed = ["v: 1", "v: 2"] ∧
    (runBatch {} exQuery [] [[noise1, row (.int 1), noise2, row (.int 1)], [noise2, row (.int 2), noise1]] none).totalLines = 6 ∧
    (runBatch {} exQuery [] [[row (.int 1), row (.int 1)], [row (.int 2)]] none).totalLines = 3 := by decide +kernel

end Sqlgrep.Props.C06
