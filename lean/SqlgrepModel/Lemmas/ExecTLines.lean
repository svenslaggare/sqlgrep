import SqlgrepModel.Lemmas.ExecT
import SqlgrepModel.Lemmas.NoiseRun
import SqlgrepModel.Lemmas.ReaderExec
import SqlgrepModel.Lemmas.InterruptLoad
/-
The traced batch loop (`Model/ExecT.lean`: what `Pipeline.runText` executes, with the calls of `OutputPrinter::print`
kept as data) under changes of the LINE STRUCTURE of its input:

* noise lines (C06): the run over files and a joined file equals, in everything but the line counter — the recorded
  print calls included —, the run over the same files without their noise lines (`runBatchT_noise`; two joined files that
  differ only by noise lines give the same run: `runBatchT_joined_noise`);
* file boundaries (C12): the run over several files is the run over the one file holding all their lines
  (`runBatchT_flatten`), LIMIT or not;
* an unreadable line (C12): a run whose statement never raises the LIMIT flag and whose input holds an unreadable line
  ends failed (`runWithIndexT_unreadable_fails`); for a non-aggregate statement it is the run over the lines before it —
  as it ended, or, if it had not ended, with `FailReadFile` as its error (`runWithIndexT_read_error`).

These strengthen `runBatch_noise` (Lemmas/NoiseRun.lean) and `exec_multi_file_eq_concat` (Props/C12.lean) from the text
rendering `RunOut.printed` to the result tables handed to the printer model, which is what the end-to-end answer is
computed from in every output format.
-/
namespace Sqlgrep
open Sqlgrep.Spec.Select

theorem joinSetup_noise (qy : Query) (joined : Option (List FileLine)) :
    joinSetup qy (joined.map denoise) = joinSetup qy joined := by
  unfold joinSetup
  cases qy.join with
  | none => rfl
  | some j =>
    cases joined with
    | none => rfl
    | some jl =>
      simp only [Option.map_some]
      rw [loadJoinFileI_none, loadJoinFileI_none, loadJoinFile_noise]

/-- **noise lines are invisible to the traced batch run** — in the input files and in the joined file, for every
statement kind: same print calls, same text records, same error / panic / skip; only `totalLines` may differ -/
theorem runBatchT_noise (O : Oracles) (qy : Query) (joined : Option (List FileLine)) (files : List (List FileLine)) :
    TSame (runBatchT O qy joined files) (runBatchT O qy (joined.map denoise) (files.map denoise)) := by
  unfold runBatchT
  rw [joinSetup_noise]
  exact runWithIndexT_noise O qy _ files

theorem runBatchT_joined_noise (O : Oracles) (qy : Query) (j₁ j₂ : List FileLine) (files : List (List FileLine))
    (h : denoise j₁ = denoise j₂) : runBatchT O qy (some j₁) files = runBatchT O qy (some j₂) files := by
  unfold runBatchT
  have h1 := joinSetup_noise qy (some j₁)
  have h2 := joinSetup_noise qy (some j₂)
  simp only [Option.map_some] at h1 h2
  rw [← h1, ← h2, h]

/-- **several files = the one file holding all their lines**, for the traced run: every statement, join, LIMIT -/
theorem runWithIndexT_flatten (O : Oracles) (qy : Query) (idxO : Outcome JoinIndex) (files : List (List FileLine)) :
    runWithIndexT O qy idxO files = runWithIndexT O qy idxO [files.flatten] := by
  cases idxO with
  | ok idx =>
    rw [runWithIndexT_ok, runWithIndexT_ok, runFilesT_eq, runFilesT_eq, List.flatten_cons, List.flatten_nil, List.append_nil]
  | _ => rfl

theorem runBatchT_flatten (O : Oracles) (qy : Query) (joined : Option (List FileLine)) (files : List (List FileLine)) :
    runBatchT O qy joined files = runBatchT O qy joined [files.flatten] :=
  runWithIndexT_flatten O qy _ files

/-- a statement that never raises the LIMIT flag in the batch loop: no LIMIT clause on a non-aggregate statement (the
LIMIT of an aggregate statement applies to the final table only) -/
def NoLimit : Stmt → Prop
  | .select s => s.limit = none
  | .aggregate _ => True

theorem noLimit_start (qy : Query) (h : NoLimit qy.stmt) (es : EngineState) : reachedLimit qy es = false := by
  cases hq : qy.stmt with
  | select q => rw [hq] at h; simp only [NoLimit] at h; simp [reachedLimit, hq, h]
  | aggregate q => simp [reachedLimit, hq]

theorem runFiles_unreadable (O : Oracles) (qy : Query) (idx : JoinIndex) (w : Bool)
    (hflag : ∀ es es1 l lo, executeLine O qy idx w es l = .ok (es1, lo) → lo.reachedLimit = false)
    (hstart : ∀ es, reachedLimit qy es = false)
    (files : List (List FileLine)) (ls : LoopState) (hinv : ls.stop = true → hasFailed ls.out = true)
    (hbad : ∃ fl ∈ files.flatten, fl.readable = false) :
    hasFailed (runFiles O qy idx w none files ls).out = true := by
  rw [runFiles_eq_drive, hstart, Bool.or_false]
  split
  · next hs => exact hinv hs
  · obtain ⟨bad, hm, hb⟩ := hbad
    obtain ⟨a, b, e⟩ := List.append_of_mem hm
    rw [e, drive_append]
    -- a loop that has stopped has failed: no answer carries the flag
    have hA : (drive .batch (executeLine O qy idx w) none a ⟨ls, []⟩).ls.stop = true →
        hasFailed (drive .batch (executeLine O qy idx w) none a ⟨ls, []⟩).ls.out = true := by
      refine drive_inv .batch _ (fun r => r.ls.stop = true → hasFailed r.ls.out = true) none (fun r fl _ _ h => ?_) a hinv
      rcases Mode.batch.step_cases (executeLine O qy idx w) r fl with ⟨_, e⟩ | ⟨es, lo, _, hx, e⟩ | ⟨_, hx, e⟩ <;> rw [e] at h ⊢
      · rfl
      · rw [show (Mode.batch.after r (.ok (es, lo))).ls.stop = lo.reachedLimit from Mode.batch_cut lo, hflag _ _ _ _ hx] at h
        cases h
      · exact failWith_hasFailed _ hx
    cases hst : (drive .batch (executeLine O qy idx w) none a ⟨ls, []⟩).ls.stop with
    | true => rw [drive_of_stop _ _ _ _ hst]; exact hA hst
    | false =>
      rw [drive_cons _ _ _ _ _ (by rw [fileHalt_none]; exact hst), Mode.step, hb, drive_of_stop _ _ _ _ rfl]
      rfl

/-- **an unreadable line is never passed over silently**: the traced run of a statement without LIMIT flag over input
that holds an unreadable line ends failed (an error kind, or a missing oracle fact; never `Ok`), whatever the join -/
theorem runWithIndexT_unreadable_fails (O : Oracles) (qy : Query) (hnl : NoLimit qy.stmt) (idxO : Outcome JoinIndex)
    (files : List (List FileLine)) (hbad : ∃ fl ∈ files.flatten, fl.readable = false) :
    hasFailed (runWithIndexT O qy idxO files).out = true := by
  rw [runWithIndexT_out]
  cases idxO with
  | ok idx =>
    have h : hasFailed (runFiles O qy idx (!isUpdated qy) none files {}).out = true := by
      refine runFiles_unreadable O qy idx _ (fun es es1 l lo hx => ?_) (noLimit_start qy hnl) files {} (by intro h; cases h) hbad
      cases hq : qy.stmt with
      | select q =>
        rw [hq] at hnl
        exact noLimit_flag_select O qy q hq hnl idx _ es es1 l lo hx
      | aggregate q =>
        rw [show isUpdated qy = true by simp [isUpdated, hq]] at hx
        exact (executeLine_agg_update_out O qy hq idx es es1 l lo hx).2.1
    rw [runWithIndex_ok, endRun, if_pos h]
    exact h
  | _ => simp [runWithIndex, failWith, hasFailed]

theorem runFilesT_single (O : Oracles) (qy : Query) (idx : JoinIndex) (w : Bool) (x : List FileLine) (s : TraceState) :
    runFilesT O qy idx w [x] s = if s.ls.stop || reachedLimit qy s.ls.es then s else runFileT O qy idx w x s := by
  rw [runFilesT_eq, List.flatten_cons, List.flatten_nil, List.append_nil]

/-- **an unreadable line in the input of a non-aggregate statement**: the traced run over input whose lines are
`A ++ unreadable :: rest` is the run over `A` — if that one had already ended (an error, LIMIT reached, the join
set-up failed) — or else the run over `A`, which did not fail, with `FailReadFile` as its error: the same print calls,
the same count; nothing after the line is looked at -/
theorem runWithIndexT_read_error (O : Oracles) (qy : Query) (q : SelectStmt) (hq : qy.stmt = .select q)
    (idxO : Outcome JoinIndex) (fs fsA : List (List FileLine)) (bad : FileLine) (rest : List FileLine)
    (hbad : bad.readable = false) (hsplit : fs.flatten = fsA.flatten ++ bad :: rest) :
    runWithIndexT O qy idxO fs = runWithIndexT O qy idxO fsA ∨
    (hasFailed (runWithIndexT O qy idxO fsA).out = false ∧
      runWithIndexT O qy idxO fs =
        { out := { (runWithIndexT O qy idxO fsA).out with error := some .failReadFile },
          calls := (runWithIndexT O qy idxO fsA).calls }) := by
  cases idxO with
  | ok idx =>
    simp only [runWithIndexT_ok, endRun_select O qy q hq, runFilesT_eq_drive, hsplit, drive_append]
    split
    · exact .inl rfl
    · generalize hA : drive .batch (executeLine O qy idx (!isUpdated qy)) none fsA.flatten {} = sA
      have hsound : Sound sA.ls := hA ▸ drive_sound _ _ none _ sound_init
      cases hs : sA.ls.stop with
      | true => rw [drive_of_stop _ _ _ _ hs]; exact .inl rfl
      | false =>
        rw [drive_cons _ _ _ _ _ (by rw [fileHalt_none]; exact hs), Mode.step, hbad, drive_of_stop _ _ _ _ rfl]
        refine .inr ⟨?_, rfl⟩
        cases hf : hasFailed sA.ls.out with
        | false => rfl
        | true => rw [hsound.2 hf] at hs; cases hs
  | _ => left; rfl

end Sqlgrep
