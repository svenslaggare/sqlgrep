import SqlgrepModel.Lemmas.PrintLines
import SqlgrepModel.Lemmas.PrintString
import SqlgrepModel.Lemmas.PrintChars
import SqlgrepModel.Lemmas.PrintText
/-
C17 — printed records faithfully carry the result rows in every output format.

Model (`Model/Print.lean`): `printResult`/`printAll` = `OutputPrinter::print` over any sequence of
results on one printer (state `first_line`), `renderRecord` = the record line of one row in the three
formats, `displayValue` = `impl Display for Value`, `jsonValue` + `Json.render`/`renderObject` =
`Value::json_value` + serde_json's compact writer with `preserve_order`. Every printed line is
tagged with the `println` that emitted it (`Line.header` / `.record` / `.separator`); the bytes
handed to the printer are `Line.bytes`.

Oracle (not modelled): `{:.2}` and ryu renderings of REAL (`RealOracle`); REAL fidelity in JSON is
ryu's shortest-round-trip guarantee: not proved, checked on every case (`RealReadsBack`, `Props/C17Json.lean`).
The JSON and CSV clauses against the grammars of RFC 8259 and RFC 4180 are `Props/C17Json.lean` and
`Props/C17Csv.lean`; helper lemmas live in `Lemmas/Print*.lean`.
-/
namespace Sqlgrep.Props.C17
open Sqlgrep Sqlgrep.Print

/-- One `print` call, any format, any state: the record lines (everything except the CSV header and
the blank separator) are exactly the rows, rendered, in order. -/
theorem one_record_per_row_in_order (o : RealOracle) (fmt : Format) (first : Bool) (r : ResultRow)
    (single : Bool) :
    records (printResult o fmt first r single).1 = r.rows.map (renderRecord o fmt r.columns) :=
  records_printResult o fmt first r single

/-- Any sequence of `print` calls on one printer: the record lines are the rows of all results in
order, each rendered with the column names of its own result. -/
theorem one_record_per_row_in_order_seq (o : RealOracle) (fmt : Format) (first : Bool)
    (seq : List (ResultRow × Bool)) :
    records (printAll o fmt first seq) = (allRows seq).map (fun cr => renderRecord o fmt cr.1 cr.2) :=
  records_printAll o fmt first seq

/-- The lines that are not records: at most the separator after the rows, and (CSV only) the header
before the first row; i.e. the whole output of one call has this shape. -/
theorem print_shape (o : RealOracle) (fmt : Format) (first : Bool) (cols : List Bytes)
    (row : List Value) (more : List (List Value)) (single : Bool) :
    (printResult o fmt first ⟨cols, row :: more⟩ single).1
      = headerLines fmt cols first ++ .record (renderRecord o fmt cols row)
          :: (more.map (fun r => Line.record (renderRecord o fmt cols r))
              ++ (if more ≠ [] ∧ single = false then [Line.separator] else [])) := by
  have hrows : ∀ rows : List (List Value),
      printRows o fmt cols false rows = rows.map (fun r => Line.record (renderRecord o fmt cols r)) := by
    intro rows
    induction rows with
    | nil => rfl
    | cons r rs ih => cases fmt <;> simp [printRows, printRow, headerLines, ih]
  simp only [printResult, printRows, printRow, hrows, separatorLines, List.append_assoc,
    List.cons_append, List.nil_append, List.length_cons]
  cases more <;> cases single <;> simp

/-- Over any sequence of results printed by a fresh CSV printer: nothing is printed before the first
row; the first row is printed as the header (column names joined by the delimiter) immediately
followed by its record; no other line of the whole output is a header. -/
theorem csv_header_once_before_first (o : RealOracle) (d : Bytes) (seq : List (ResultRow × Bool))
    (cols : List Bytes) (row : List Value) (more : List (List Bytes × List Value))
    (h : allRows seq = (cols, row) :: more) :
    ∃ rest, printAll o (.csv d) true seq
        = .header (joinWith d cols) :: .record (renderRecord o (.csv d) cols row) :: rest
      ∧ headers rest = [] ∧ (headers (printAll o (.csv d) true seq)).length = 1 := by
  obtain ⟨rest, h1, h2⟩ := (printAll_csv_first o d seq).2 cols row more h
  exact ⟨rest, h1, h2, by rw [h1]; simp [headers, h2]⟩

/-- a sequence without rows prints nothing at all (so no header either) -/
theorem csv_no_rows_no_header (o : RealOracle) (d : Bytes) (seq : List (ResultRow × Bool))
    (h : allRows seq = []) : printAll o (.csv d) true seq = [] :=
  (printAll_csv_first o d seq).1 h

/-- text and JSON output never contain a header line -/
theorem no_header_unless_csv (o : RealOracle) (first : Bool) (seq : List (ResultRow × Bool)) :
    headers (printAll o .text first seq) = [] ∧ headers (printAll o .json first seq) = [] :=
  ⟨headers_not_csv o .text (by intro d h; cases h) first seq,
   headers_not_csv o .json (by intro d h; cases h) first seq⟩

/-- `jsonUnescape` (a reader of JSON string bodies) inverts serde_json's escaping for every byte
string: quotes, backslashes, all control characters, and every UTF-8 byte ≥ 0x20 verbatim. -/
theorem json_string_roundtrip (s : Bytes) : jsonUnescape (jsonEscape s) = some s :=
  jsonUnescape_jsonEscape s

/-- inside a document: reading a rendered string token stops exactly after its closing quote -/
theorem json_string_token_roundtrip (s rest : Bytes) :
    ∃ body, renderString s ++ rest = 34 :: body ∧ readStr body = some (s, rest) :=
  ⟨jsonEscape s ++ 34 :: rest, by simp [renderString], readStr_jsonEscape s rest⟩

/-- the decimal rendering of any integer (all of i64 included) parses back to it -/
theorem json_int_roundtrip (i : Int) : parseInt (renderInt i) = some i := parseInt_renderInt i

/-- Under distinct column names, the JSON record of a row — read by `readObject`, a reader for compact
one-level JSON objects defined in `Lemmas/PrintJson.lean` — is a valid object whose keys are the
column names in column order. (`OracleOk`: ryu renders a finite REAL as a number token.) -/
theorem json_keys_in_order (o : RealOracle) (ho : OracleOk o) (cols : List Bytes) (row : List Value)
    (hd : cols.Nodup) (hl : cols.length = row.length) :
    (readObject (renderRecord o .json cols row)).map (fun kvs => kvs.map Prod.fst) = some cols := by
  rw [readObject_record o ho cols row hd hl]
  simp [jsonMembers_keys o cols row hl]

/-- ... and the member values are, in order, the cell documents `Value::json_value` builds: the
object read back is exactly `columns.zip (row.map jsonValue)`. -/
theorem json_record_members (o : RealOracle) (ho : OracleOk o) (cols : List Bytes) (row : List Value)
    (hd : cols.Nodup) (hl : cols.length = row.length) :
    readObject (renderRecord o .json cols row) = some (cols.zip (row.map (jsonValue o))) := by
  rw [readObject_record o ho cols row hd hl]
  simp [jsonMembers, List.zip_map_right]

/-- A cell document determines the cell: NULL → null, BOOLEAN, INT (the number token parses back to
the same integer, all of i64 included), TEXT (the same bytes), arrays element-wise at any depth,
TIMESTAMP / INTERVAL → the string of their text form (`jsonMeaning`). REAL is excluded here: its
number token is the ryu oracle's (`json_real_is_oracle_token`). -/
theorem json_cell_recovers_value (o : RealOracle) (v : Value) (h : noReal v = true) :
    decodeCell (jsonValue o v) = some (jsonMeaning v) := decodeCell_jsonValue o v h

/-- the record read back recovers the whole row (distinct column names, REAL-free row) -/
theorem json_record_recovers_row (o : RealOracle) (ho : OracleOk o) (cols : List Bytes)
    (row : List Value) (hd : cols.Nodup) (hl : cols.length = row.length)
    (hnr : ∀ v ∈ row, noReal v = true) :
    ∃ kvs, readObject (renderRecord o .json cols row) = some kvs
      ∧ kvs.map Prod.fst = cols
      ∧ kvs.map (fun kv => decodeCell kv.2) = row.map (fun v => some (jsonMeaning v)) := by
  refine ⟨jsonMembers o cols row, readObject_record o ho cols row hd hl, jsonMembers_keys o cols row hl, ?_⟩
  simp only [jsonMembers, List.map_map]
  have e : ((fun (kv : Bytes × Json) => decodeCell kv.2) ∘ fun (nv : Bytes × Value) => (nv.1, jsonValue o nv.2))
      = fun nv => decodeCell (jsonValue o nv.2) := by funext nv; rfl
  rw [e, zip_map_snd cols row (fun v => decodeCell (jsonValue o v)) hl]
  exact List.map_congr_left (fun v hv => decodeCell_jsonValue o v (hnr v hv))

/-- REAL cells: a finite REAL is printed as the oracle's (ryu) number token, a non-finite one as `null` -/
theorem json_real_is_oracle_token (o : RealOracle) (b : Nat) :
    jsonValue o (.real b) = if isFinite b then .num (o.json b) else .null := by
  simp only [jsonValue]

/-- timestamps and intervals are printed as JSON strings of their text form -/
theorem json_temporal_is_text_form (o : RealOracle) (d s f n : Int) :
    jsonValue o (.timestamp d s f) = .str (displayValue o (.timestamp d s f))
    ∧ jsonValue o (.interval n) = .str (displayValue o (.interval n)) := ⟨rfl, rfl⟩

/-- CSV with a one-byte delimiter `d` that `Display` never writes by itself (`;` — the delimiter of
`--format csv` —, tab, `|`, …): if no TEXT payload of the row (cells or array elements) contains the
delimiter (and the `{:.2}` oracle does not produce it), splitting the record at the delimiter gives
exactly the rendered cells in order — one field per column. Quotes and line breaks in TEXT do not even
have to be excluded for this. -/
theorem csv_field_count (o : RealOracle) (d : Nat) (cols : List Bytes) (row : List Value)
    (hne : cols ≠ []) (hl : cols.length = row.length) (hd : ¬ Structural d)
    (htexts : ∀ v ∈ row, ∀ s ∈ allTexts v, d ∉ s) (hreal : ∀ b, d ∉ o.fixed2 b) :
    splitOn d (renderRecord o (.csv [d]) cols row) = row.map (displayValue o)
    ∧ (splitOn d (renderRecord o (.csv [d]) cols row)).length = cols.length := by
  have h := splitOn_csv_record o d cols row hne hl
    (fun v hv => not_mem_displayValue o d v hd (htexts v hv) hreal)
  exact ⟨h, by rw [h, List.length_map, hl]⟩

/-- the header has one field per column as well (column names free of the delimiter) -/
theorem csv_header_field_count (d : Nat) (cols : List Bytes) (hne : cols ≠ []) (hn : ∀ n ∈ cols, d ∉ n) :
    splitOn d (joinWith [d] cols) = cols := splitOn_joinWith d cols hne hn

/-- text format: unless the lone-`input` rule applies, the record is the list of `name: value` pairs in
column order, joined by `, ` (all rows, no guard) -/
theorem text_record_is_pairs (o : RealOracle) (cols : List Bytes) (row : List Value)
    (hlone : loneInput .text cols row = false) :
    renderRecord o .text cols row
      = joinWith [44, 32] ((cols.zip row).map fun nv => nv.1 ++ ([58, 32] ++ displayValue o nv.2)) := by
  simp only [renderRecord, hlone, Bool.false_eq_true, if_false]

/-- a lone `input` column prints just the value, without `input: ` -/
theorem text_lone_input (o : RealOracle) (v : Value) :
    renderRecord o .text [sInput] [v] = displayValue o v := by
  simp [renderRecord, loneInput]

/-- Text format under the property's guard. `splitTop 0 false` (Lemmas/PrintText.lean) reads a record
by splitting it at the commas outside `'…'` and `{…}`. If no TEXT payload of the row (cells and array
elements at any depth) contains the quote `'` — the property's guard also excludes `,`, `"` and line
breaks, which is not even needed —, and the column names and the `{:.2}` oracle are free of `' , { }`
(every name the engine generates is an identifier or `pN`), then the record read back is the list of
`name: value` pairs in column order (each pair after the first preceded by the space of `, `).
Arrays of any length and nesting are covered. -/
theorem text_pairs_in_order (o : RealOracle) (cols : List Bytes) (row : List Value)
    (hlone : loneInput .text cols row = false) (hne : cols ≠ []) (hl : cols.length = row.length)
    (hnames : ∀ n ∈ cols, ∀ c ∈ n, Inert c) (hreal : ∀ b, ∀ c ∈ o.fixed2 b, Inert c)
    (htexts : ∀ v ∈ row, ∀ s ∈ allTexts v, 39 ∉ s) :
    splitTop 0 false (renderRecord o .text cols row)
      = spaced ((cols.zip row).map fun nv => nv.1 ++ ([58, 32] ++ displayValue o nv.2)) :=
  splitTop_text_record o cols row hlone hne hl hnames hreal htexts

/-- the same with a plain split at every `,`, for rows whose rendered cells contain no `,` at all
(no arrays of two or more elements) -/
theorem text_pairs_comma_split (o : RealOracle) (cols : List Bytes) (row : List Value)
    (hlone : loneInput .text cols row = false) (hne : cols ≠ []) (hl : cols.length = row.length)
    (hnames : ∀ n ∈ cols, 44 ∉ n) (hfree : ∀ v ∈ row, 44 ∉ displayValue o v) :
    splitOn 44 (renderRecord o .text cols row)
      = spaced ((cols.zip row).map fun nv => nv.1 ++ ([58, 32] ++ displayValue o nv.2)) :=
  splitOn_text_record o cols row hlone hne hl hnames hfree

/-! ## non-vacuity -/

def o0 : RealOracle := { fixed2 := fun _ => [49, 46, 53, 48], json := fun _ => [49, 46, 53] }

example : (printAll o0 (.csv [59]) true
    [(⟨[[97], [98]], []⟩, false),
     (⟨[[97], [98]], [[.bool false, .text [104, 105]], [.null, .bool true]]⟩, false),
     (⟨[[97], [98]], [[.real 0, .null]]⟩, true)]).map Line.bytes
  = [[97, 59, 98], [102, 97, 108, 115, 101, 59, 39, 104, 105, 39], [78, 85, 76, 76, 59, 116, 114, 117, 101], [],
     [49, 46, 53, 48, 59, 78, 85, 76, 76]] := by decide +kernel

example : ∃ cols row more, allRows [((⟨[[97]], []⟩ : ResultRow), false), (⟨[[97]], [[.int 1]]⟩, true)]
    = (cols, row) :: more := ⟨_, _, _, rfl⟩

example : jsonEscape [34, 92, 10, 1, 31, 127, 195, 169] =
    [92, 34, 92, 92, 92, 110, 92, 117, 48, 48, 48, 49, 92, 117, 48, 48, 49, 102, 127, 195, 169] := by decide +kernel

example : renderInt (-9223372036854775808) = [45, 57, 50, 50, 51, 51, 55, 50, 48, 51, 54, 56, 53, 52, 55, 55, 53, 56, 48, 56] := by
  decide +kernel

example : OracleOk o0 := by
  intro b _; show (Json.num [49, 46, 53]).ok = true; decide

-- the guards are satisfiable: `;`, tab and `|` are never written by `Display` itself
example : ¬ Structural 59 ∧ ¬ Structural 9 ∧ ¬ Structural 124 := by decide +kernel

-- a row satisfying every hypothesis of `json_record_recovers_row`, and what is read back
example : readObject (renderRecord o0 .json [[97], [34, 98]]
      [.text [104, 34, 10, 195, 169], .array .bool [.bool true, .null, .array .text []]])
    = some [([97], .str [104, 34, 10, 195, 169]), ([34, 98], .arr [.bool true, .null, .arr []])] :=
  json_record_members o0 (by intro b _; show (Json.num [49, 46, 53]).ok = true; decide) _ _ (by decide) rfl

example : [[97], [34, 98]].Nodup ∧ noReal (.array .bool [.bool true, .null, .array .text []]) = true := by
  decide +kernel

-- a row satisfying the hypotheses of `csv_field_count` for `;` with quotes and commas in its TEXT
example : splitOn 59 (renderRecord o0 (.csv [59]) [[97], [98], [99]]
      [.text [39, 44, 10], .array .text [.text [120], .null], .real 0])
    = [[39, 39, 44, 10, 39], [123, 39, 120, 39, 44, 32, 78, 85, 76, 76, 125], [49, 46, 53, 48]] := by decide +kernel

example : ∀ v ∈ [Value.text [39, 44, 10], .array .text [.text [120], .null], .real 0],
    ∀ s ∈ allTexts v, 59 ∉ s := by decide +kernel

-- `text_pairs_in_order` on a row with a nested array and TEXT containing `,` `{` `"` and a line break
example : splitTop 0 false (renderRecord o0 .text [[97], [98]]
      [.array (.array .text) [.array .text [.text [44, 123, 34, 10], .null], .array .text []], .text [120]])
    = [[97, 58, 32, 123, 123, 39, 44, 123, 34, 10, 39, 44, 32, 78, 85, 76, 76, 125, 44, 32, 123, 125, 125],
       [32, 98, 58, 32, 39, 120, 39]] := by decide +kernel

example : (∀ n ∈ [[97], [98]], ∀ c ∈ n, Inert c) ∧ (∀ b, ∀ c ∈ o0.fixed2 b, Inert c)
    ∧ (∀ v ∈ [Value.array (.array .text) [.array .text [.text [44, 123, 34, 10], .null], .array .text []], .text [120]],
        ∀ s ∈ allTexts v, 39 ∉ s) := by
  refine ⟨by decide, ?_, by decide⟩
  intro b; show ∀ c ∈ [49, 46, 53, 48], Inert c; decide

-- `text_pairs_comma_split` on a two-column row
example : splitOn 44 (renderRecord o0 .text [[97], [98]] [.bool true, .text [120]])
    = [[97, 58, 32, 116, 114, 117, 101], [32, 98, 58, 32, 39, 120, 39]] := by decide +kernel

example : loneInput .text [[97], [98]] [.bool true, .text [120]] = false := by decide +kernel

end Sqlgrep.Props.C17
