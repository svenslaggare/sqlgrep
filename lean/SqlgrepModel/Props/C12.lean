import SqlgrepModel.Lemmas.ReaderUtf8
import SqlgrepModel.Lemmas.ReaderExec
/-
C12 — every line of every input file reaches the query exactly once, in order.

Model (`Model/Reader.lean`): `lines` = `BufRead::lines` over the content of one file (`read_line` into a fresh
`String`: bytes through the next `\n` or to the end; `Ok(0)` ends; the chunk — newline included — must be
valid UTF-8, else the item is `Err`; one `\n` and then one `\r` are stripped); `execFiles` = the double loop of
`FileExecutor::execute` (files in command-line order, lines in file order; a line that cannot be read ends
the run with `ExecutionError::FailReadFile`; an engine error ends it too), generic in the engine `step`;
the joined-file loader (src/execution/join.rs) is the same loop over one file. `presented` = `execFiles` with
the engine that records what it is given. LIMIT and interruption are C07/C19 and not part of this model.
Spec vocabulary (`Lemmas/ReaderSpec.lean`, `Lemmas/ReaderLines.lean`): `splitNl` — the unique split of a byte
string at `\n` (`joinNl (splitNl bs) = bs`, no piece contains `\n`); `assemble`/`specLines` — every piece but
the last is a newline-terminated line, the last piece is a line only if non-empty; `NlTerminated`.
All theorems quantify over all byte contents (valid UTF-8 or not), all file lists and every engine.
Only this file states property theorems; helper lemmas live in `Lemmas/`.
-/
namespace Sqlgrep.Props.C12
open Sqlgrep Sqlgrep.Reader

/-- `lines` yields exactly the pieces of the split at `\n`, in order: all but the last as terminated lines
(`\r` before the `\n` removed), the last only if it is non-empty (final line without newline) -/
theorem lines_spec (bs : List Nat) : lines bs = specLines bs := lines_eq_spec bs

/-- the split that `lines_spec` refers to loses, duplicates and reorders nothing -/
theorem split_exact (bs : List Nat) : joinNl (splitNl bs) = bs ∧ (∀ l ∈ splitNl bs, nl ∉ l) :=
  ⟨joinNl_splitNl bs, splitNl_no_nl bs⟩

/-- the number of lines of a file: one per `\n`, plus one for a non-empty unterminated last line -/
theorem lines_count (bs : List Nat) :
    (lines bs).length = (completeLines bs).length + (if tailOf bs = [] then 0 else 1) := by
  rw [lines_eq, List.length_append, List.length_map]
  split <;> rfl

/-- a file that is valid UTF-8 as a whole has no unreadable line -/
theorem lines_valid_no_error (bs : List Nat) (h : validUtf8 bs = true) : .error () ∉ lines bs := by
  intro hmem
  have := lines_allOk_of_valid bs h
  rw [(allOk_false_iff _).2 hmem] at this
  exact Bool.noConfusion this

/-- `validUtf8` is the validity notion of `Utf8.decode` (Model/Text.lean) -/
theorem valid_iff_decodes (bs : List Nat) : validUtf8 bs = (Utf8.decode bs).isSome := validUtf8_eq_decode bs

/-- a newline-terminated (or empty) file followed by more content reads as the lines of the one followed by
the lines of the other -/
theorem lines_concat (f₁ f₂ : List Nat) (h : NlTerminated f₁) : lines (f₁ ++ f₂) = lines f₁ ++ lines f₂ :=
  lines_append f₁ f₂ h

/-- the double loop is a single loop over the lines of all files, in command-line and file order -/
theorem files_in_order {σ ε : Type} (step : σ → List Nat → Except ε σ) (s : σ) (files : List (List Nat)) :
    execFiles step s files = feed step s (files.flatMap lines) := execFiles_eq_feed step s files

/-- **Multi-file = concatenation**, for every engine (SELECT, aggregate, …: any state, any step function,
failing or not): running over files of which all but the last are newline-terminated is the same as running
over their concatenation — same final engine state, same outcome. -/
theorem multi_file_eq_concat {σ ε : Type} (step : σ → List Nat → Except ε σ) (s : σ)
    (files : List (List Nat)) (last : List Nat) (h : ∀ f ∈ files, NlTerminated f) :
    execFiles step s (files ++ [last]) = execFiles step s [(files ++ [last]).flatten] := by
  rw [execFiles_eq_feed, execFiles_eq_feed, flatMap_lines_eq files last h]
  simp

/-- **Exactly once, in order.** What a successful run presented to the query is, item for item, the
sequence of the lines of all files (each line once, files in order, lines in order). -/
theorem every_line_once_in_order (files : List (List Nat)) (h : (presented files).2 = .ok) :
    (presented files).1.map .ok = files.flatMap lines := by
  unfold presented at h ⊢
  rw [execFiles_eq_feed, feed_record] at h ⊢
  simp only [List.nil_append] at h ⊢
  cases ha : allOk (files.flatMap lines) with
  | true => exact ((allOk_iff _).1 ha).symm
  | false => rw [ha] at h; simp at h

/-- up to the first unreadable line nothing is lost either: the run presents exactly the lines before it -/
theorem presented_until_error (files : List (List Nat)) :
    (presented files).1 = okPrefix (files.flatMap lines) := by
  unfold presented
  rw [execFiles_eq_feed, feed_record]
  simp

/-- **No silent drop.** If any line of any file is not valid UTF-8, the run ends in the reported error
`FailReadFile` — it never returns `Ok` having skipped that line or the lines after it. -/
theorem no_silent_drop (files : List (List Nat)) (h : .error () ∈ files.flatMap lines) :
    (presented files).2 = .readError := by
  unfold presented
  rw [execFiles_eq_feed, feed_record, (allOk_false_iff _).2 h]
  simp

/-- the same for every engine: a run that ends `Ok` has been given every line of every file -/
theorem no_silent_drop_any_engine {σ ε : Type} (step : σ → List Nat → Except ε σ) (s : σ) (files : List (List Nat))
    (h : (execFiles step s files).2 = .ok) :
    files.flatMap lines = (okPrefix (files.flatMap lines)).map .ok := by
  rw [execFiles_eq_feed] at h
  exact (allOk_iff _).1 (feed_ok_all step s _ h)

/-- valid UTF-8 files are always read to the end: every line presented, outcome `Ok` -/
theorem valid_files_all_presented (files : List (List Nat)) (h : ∀ f ∈ files, validUtf8 f = true) :
    (presented files).2 = .ok ∧ (presented files).1.map .ok = files.flatMap lines := by
  have hall : allOk (files.flatMap lines) = true := by
    cases ha : allOk (files.flatMap lines) with
    | true => rfl
    | false =>
      have hm := (allOk_false_iff _).1 ha
      obtain ⟨f, hf, hmem⟩ := List.mem_flatMap.1 hm
      exact absurd hmem (lines_valid_no_error f (h f hf))
  have hok : (presented files).2 = .ok := by
    unfold presented
    rw [execFiles_eq_feed, feed_record, hall]
    simp
  exact ⟨hok, every_line_once_in_order files hok⟩

/-! ## The executed run: `Reader.execFiles` and `runFiles`

`execFiles` above is generic in the engine; what `runBatch`, `runBatchI` and `Pipeline.runText` execute is `runFiles`
(Model/Exec.lean) over `FileLine`s, with the real engine, LIMIT and the final loop state. `fileOf mk bytes` is a file's
`Reader.lines` as `FileLine`s (`Pipeline.fileLines` produces exactly this: `fileLines_eq_fileOf`), `lineStep` the engine
step of `runFile` (a LIMIT stop or an engine failure leaves the loop, carried as the `engineError` payload) and
`finish` the state in which each ending leaves the run (`readError` ↦ `error := FailReadFile`, stopped). -/

/-- **the executed double loop is the reader loop of this file**, instantiated with the real engine step -/
theorem exec_is_reader_loop (O : Oracles) (qy : Query) (idx : JoinIndex) (w : Bool) (mk : List Nat → Line)
    (files : List (List Nat)) (ls : LoopState) (hst : ls.stop = false) (hrl : reachedLimit qy ls.es = false) :
    runFiles O qy idx w none (files.map (fileOf mk)) ls = finish (execFiles (lineStep O qy idx w mk) ls files) :=
  runFiles_eq_execFiles O qy idx w mk files ls hst hrl

/-- … hence a single loop over the lines of all files, in command-line and file order -/
theorem exec_files_in_order (O : Oracles) (qy : Query) (idx : JoinIndex) (w : Bool) (mk : List Nat → Line)
    (files : List (List Nat)) (ls : LoopState) (hst : ls.stop = false) (hrl : reachedLimit qy ls.es = false) :
    runFiles O qy idx w none (files.map (fileOf mk)) ls =
      finish (feed (lineStep O qy idx w mk) ls (files.flatMap lines)) := by
  rw [runFiles_eq_execFiles O qy idx w mk files ls hst hrl, execFiles_eq_feed]

/-- **multi-file = concatenation for the executed run** (`runBatchI` = `FileExecutor::execute`, any statement, join,
LIMIT): over files of which all but the last are newline-terminated the run is the run over their concatenation —
same records, same line count, same outcome -/
theorem exec_multi_file_eq_concat (O : Oracles) (qy : Query) (joined : Option (List FileLine)) (mk : List Nat → Line)
    (files : List (List Nat)) (last : List Nat) (h : ∀ f ∈ files, NlTerminated f) :
    (runBatchI O qy joined ((files ++ [last]).map (fileOf mk)) none none).1 =
      (runBatchI O qy joined [fileOf mk (files ++ [last]).flatten] none none).1 := by
  obtain ⟨o, ho⟩ := runBatchI_plain O qy joined
  rw [ho, ho]
  apply runWithIndex_congr_files
  intro idx w
  by_cases hrl : reachedLimit qy ({} : LoopState).es = true
  · -- LIMIT 0: nothing is read on either side
    cases hfs : (files ++ [last]).map (fileOf mk) with
    | nil => simp at hfs
    | cons a as => simp [runFiles, hrl]
  · have hrl' : reachedLimit qy ({} : LoopState).es = false := by simpa using hrl
    have h1 := runFiles_eq_execFiles O qy idx w mk (files ++ [last]) {} rfl hrl'
    have h2 := runFiles_eq_execFiles O qy idx w mk [(files ++ [last]).flatten] {} rfl hrl'
    simp only [List.map_cons, List.map_nil] at h2
    rw [h1, h2, multi_file_eq_concat _ _ files last h]

/-- **no silent drop in the executed run**: a run that went through all files without stopping (no failure, no
LIMIT reached) has been given every line of every file, none of them unreadable -/
theorem exec_no_silent_drop (O : Oracles) (qy : Query) (idx : JoinIndex) (w : Bool) (mk : List Nat → Line)
    (files : List (List Nat)) (ls : LoopState) (hst : ls.stop = false) (hrl : reachedLimit qy ls.es = false)
    (hend : (runFiles O qy idx w none (files.map (fileOf mk)) ls).stop = false) :
    .error () ∉ files.flatMap lines ∧ files.flatMap lines = (okPrefix (files.flatMap lines)).map .ok := by
  rw [runFiles_eq_execFiles O qy idx w mk files ls hst hrl] at hend
  have hok := finish_stop_false (fun e he => execFiles_lineStep_engineError O qy idx w mk files ls e he) hend
  have hall := no_silent_drop_any_engine _ ls files hok
  refine ⟨?_, hall⟩
  intro hmem
  have := (allOk_false_iff _).2 hmem
  rw [(allOk_iff _).2 hall] at this
  cases this

/-- **an unreadable line is reported at the point where it stands**: when the reader loop ends in a read error, the
executed run ends with `FailReadFile`, stopped, in the state reached over the lines before it -/
theorem exec_read_error_reported (O : Oracles) (qy : Query) (idx : JoinIndex) (w : Bool) (mk : List Nat → Line)
    (files : List (List Nat)) (ls : LoopState) (hst : ls.stop = false) (hrl : reachedLimit qy ls.es = false)
    (s : LoopState) (h : execFiles (lineStep O qy idx w mk) ls files = (s, .readError)) :
    runFiles O qy idx w none (files.map (fileOf mk)) ls =
      { s with out := { s.out with error := some .failReadFile }, stop := true } := by
  rw [runFiles_eq_execFiles O qy idx w mk files ls hst hrl, h]
  rfl

-- hypotheses of the `exec_*` theorems on the initial loop state of a `SELECT * … LIMIT 3`
example : ({} : LoopState).stop = false ∧
    reachedLimit ⟨.select ⟨[], true, none, some 3, false⟩, ⟨"t", ["k"]⟩, none⟩ ({} : LoopState).es = false := by decide +kernel

/-! Non-vacuity and concrete behaviour (97 = 'a', 98 = 'b', 99 = 'c', 10 = LF, 13 = CR, 255 = invalid byte). -/

-- CRLF, an empty line, a final line without newline
example : lines [97, 13, 10, 10, 98] = [.ok [97], .ok [], .ok [98]] := by rfl
-- only one CR is removed, and only directly before the LF; a lone CR is content
example : lines [97, 13, 13, 10, 13, 98, 10] = [.ok [97, 13], .ok [13, 98]] := by rfl
-- an invalid line is an `Err` item; the iterator itself would continue
example : lines [97, 10, 255, 10, 98, 10] = [.ok [97], .error (), .ok [98]] := by rfl
-- ... and the run stops there with the error reported, having presented what came before
example : presented [[97, 10, 255, 10], [98, 10]] = ([[97]], .readError) := by rfl
-- two files, the first newline-terminated, equal their concatenation
example : NlTerminated [97, 10] ∧ presented [[97, 10], [98]] = presented [[97, 10, 98]] := by
  constructor
  · decide
  · rfl
-- without the hypothesis the relation is false (the implementation agrees: lines do not continue across files)
example : presented [[97], [98]] = ([[97], [98]], .ok) ∧ presented [[97, 98]] = ([[97, 98]], .ok) := by
  constructor <;> rfl
-- hypothesis of `no_silent_drop` is satisfiable; hypothesis of `valid_files_all_presented` too
example : .error () ∈ [[97, 10, 195, 10]].flatMap lines := by
  show Except.error () ∈ [Except.ok [97], Except.error ()]
  simp
example : validUtf8 [97, 195, 169, 10, 226, 130, 172] = true := by decide +kernel

end Sqlgrep.Props.C12
