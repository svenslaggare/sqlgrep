import SqlgrepModel.Model.PipelineFollow
import SqlgrepModel.Lemmas.PipelineLines
import SqlgrepModel.Lemmas.PipelineFront
import SqlgrepModel.Lemmas.ExecFT
import SqlgrepModel.Lemmas.ExecFTBatch
import SqlgrepModel.Props.C10
/-
Glue lemmas of the end-to-end model of follow mode (`Model/PipelineFollow.lean` `followText`): the reduction of
statements about the program's answer to statements about the run of the statement (`followLines_eq_front`, read with
`Front.answer_rel`), the never-panics composition, what `deliveredBy` is (C10), delivered lines that the batch reader
reads as the same text (`PlainLine`), the terminal (`termItems`), and what `Props/PipelineFollow.lean` needs to lift the
traced-run theorems of `Lemmas/ExecFT.lean` / `Lemmas/ExecFTBatch.lean` (C06, C11, C19) to the answer of the whole program.
-/
namespace Sqlgrep.Pipeline
open Sqlgrep Sqlgrep.Extract Sqlgrep.Reader Sqlgrep.Spec.Pipeline

def Early.followAnswer : Early → FollowAnswer
  | .skip w => .skip w
  | .rejected w p => .rejected w p
  | .notCreateTable => .notCreateTable
  | .notAQuery => .notAQuery

theorem followLines_eq_front (F : Facts) (defsText queryText : List Char) (fmt : Print.Format) (dl : List (List Nat))
    (sa : Option Nat) :
    followLines F defsText queryText fmt dl sa =
      (front F defsText queryText).answer Early.followAnswer
        (fun ts s f j => followAnswerOf F fmt (followStatement F ts s f j dl sa)) := by
  have hdt := parseText_total (lexOracles F) (regexValidFn F) defsText
  have hqt := parseText_total (lexOracles F) (regexValidFn F) queryText
  unfold followLines front frontWith
  split
  · rfl
  · cases hd : parseText (lexOracles F) (regexValidFn F) defsText with
    | stmt defs =>
      dsimp only
      split
      · rfl
      · cases hq : parseText (lexOracles F) (regexValidFn F) queryText with
        | stmt query =>
          dsimp only [followLowered, Front.ofLowered]
          cases addTables defs with
          | none => rfl
          | some tables => cases stmtOf query <;> rfl
        | panic s => exact absurd hq (hqt.1 s)
        | fuel => exact absurd hq hqt.2
        | _ => rfl
    | panic s => exact absurd hd (hdt.1 s)
    | fuel => exact absurd hd hdt.2
    | _ => rfl

theorem followLines_of_front {F : Facts} {defsText queryText : List Char} {ts : List Table} {s : Stmt} {f : String}
    {j : Option LJoin} (h : front F defsText queryText = .run ts s f j) (fmt : Print.Format) (dl : List (List Nat))
    (sa : Option Nat) :
    followLines F defsText queryText fmt dl sa = followAnswerOf F fmt (followStatement F ts s f j dl sa) := by
  rw [followLines_eq_front, h]; rfl

def followQuery (F : Facts) (tables : List Table) (queryText : List Char) (fmt : Print.Format) (dl : List (List Nat))
    (sa : Option Nat) : FollowAnswer :=
  (frontQuery F tables queryText).answer Early.followAnswer
    (fun ts s f j => followAnswerOf F fmt (followStatement F ts s f j dl sa))

theorem followLines_of_defsTables {F : Facts} {defsText : List Char} {tables : List Table}
    (h : defsTables F defsText = some tables) (queryText : List Char) (fmt : Print.Format) (dl : List (List Nat))
    (sa : Option Nat) :
    followLines F defsText queryText fmt dl sa = followQuery F tables queryText fmt dl sa := by
  rw [followLines_eq_front, front_of_defsTables h, followQuery]

/-- for evaluation: any run of follow mode, whatever its texts come to -/
theorem followLines_eq_K (F : Facts) (defsText queryText : List Char) (fmt : Print.Format) (dl : List (List Nat))
    (sa : Option Nat) :
    followLines F defsText queryText fmt dl sa =
      (frontK F defsText queryText).answer Early.followAnswer
        (fun ts s f j => followAnswerOf F fmt (followStatement F ts s f j dl sa)) := by
  rw [followLines_eq_front, front_eq_K]

theorem followStatement_defined (F : Facts) (tables : List Table) (stmt : Stmt) (fromTable : String) (dl : List (List Nat))
    (sa : Option Nat) (t : Table) (hg : getTable tables fromTable = some t) :
    followStatement F tables stmt fromTable none dl sa =
      ((handedLines dl sa).mapM (mkFollowLine F t.defn)).map
        (fun ls => .ran (runFollowAllT F.eval { stmt := stmt, table := t.info, join := none } sa ls)) := by
  unfold followStatement
  simp only [hg, bind, pure]
  cases (handedLines dl sa).mapM (mkFollowLine F t.defn) <;> rfl

theorem followStatement_undefined (F : Facts) (tables : List Table) (stmt : Stmt) (fromTable : String) (dl : List (List Nat))
    (sa : Option Nat) (hg : getTable tables fromTable = none) :
    followStatement F tables stmt fromTable none dl sa = some (.ran (followNoTable stmt fromTable dl.length sa)) := by
  unfold followStatement
  rw [hg]

/-- with the table undefined too, finding the flag cleared after `k` lines is the run over the first `k` lines -/
theorem followNoTable_stopAt (stmt : Stmt) (fromTable : String) (n k : Nat) :
    followNoTable stmt fromTable n (some k) = followNoTable stmt fromTable (min k n) none := by
  unfold followNoTable
  cases k <;> cases n <;> simp

/-- … and the run over fewer lines has done nothing, or is already the run over all of them (only the first line is
ever executed) -/
theorem followNoTable_of_le (stmt : Stmt) (fromTable : String) {m n : Nat} (h : m ≤ n) :
    followNoTable stmt fromTable m none = {} ∨
      followNoTable stmt fromTable m none = followNoTable stmt fromTable n none := by
  unfold followNoTable
  cases m with
  | zero => left; simp
  | succ m =>
    cases n with
    | zero => omega
    | succ n => right; simp

theorem followStatement_ran (F : Facts) (tables : List Table) (stmt : Stmt) (fromTable : String) (join : Option LJoin)
    (dl : List (List Nat)) (sa : Option Nat) (t : TraceOut)
    (h : followStatement F tables stmt fromTable join dl sa = some (.ran t)) :
    t.out.panicked = false ∧ CallsAligned t.calls := by
  cases join with
  | some j => cases h
  | none =>
    cases hg : getTable tables fromTable with
    | none =>
      rw [followStatement_undefined F tables stmt fromTable dl sa hg] at h
      cases h
      unfold followNoTable
      dsimp only
      split
      · exact ⟨rfl, nofun⟩
      · split <;> exact ⟨rfl, nofun⟩
    | some tb =>
      rw [followStatement_defined F tables stmt fromTable dl sa tb hg] at h
      obtain ⟨ls, -, h⟩ := Option.map_eq_some_iff.1 h
      cases h
      exact ⟨runFollowAllT_no_panic _ _ _ _, runFollowAllT_aligned _ _ _ _⟩

/-- a batch answer read as a follow-mode answer: the printed lines as terminal lines, the line counter dropped -/
def batchAsFollow : Answer → FollowAnswer
  | .rejected w p => .rejected w p
  | .notCreateTable => .notCreateTable
  | .notAQuery => .notAQuery
  | .records e _ ls => .ran e (ls.map TermItem.line)
  | .panic s => .panic s
  | .skip w => .skip w

theorem followAnswerOf_ran_eq (F : Facts) (fmt : Print.Format) (t : TraceOut) :
    followAnswerOf F fmt (some (.ran t)) =
      ((blocked F fmt t).map batchAsFollow).getD (.ran t.out.error (termItems (realOracle F) fmt true t.calls)) := by
  unfold followAnswerOf blocked
  dsimp only
  cases t.out.skipped.isSome <;> cases t.out.panicked <;> cases realsCover F t.calls <;>
    cases t.calls.any (fun c => Print.resultPanics fmt (toResultRow c.result)) <;> rfl

theorem followAnswerOf_no_panic (F : Facts) (fmt : Print.Format) (r : Option FollowRun)
    (h : ∀ t, r = some (.ran t) → t.out.panicked = false ∧ CallsAligned t.calls) :
    ∀ site, followAnswerOf F fmt r ≠ .panic site := by
  intro site
  match r with
  | none => exact FollowAnswer.noConfusion
  | some .joinNotSupported => exact FollowAnswer.noConfusion
  | some (.ran t) =>
    obtain ⟨hp, ha⟩ := h t rfl
    rw [followAnswerOf_ran_eq]
    refine getD_ne FollowAnswer.noConfusion fun a hm e => ?_
    obtain ⟨b, hb, rfl⟩ := Option.map_eq_some_iff.1 hm
    rcases blocked_eq_some hb with ⟨w, rfl⟩ | ⟨s, rfl⟩ <;> cases e
    exact blocked_ne_panic hp ha site hb

theorem followLines_no_panic (F : Facts) (defsText queryText : List Char) (fmt : Print.Format) (dl : List (List Nat))
    (sa : Option Nat) : ∀ site, followLines F defsText queryText fmt dl sa ≠ .panic site := by
  intro site
  rw [followLines_eq_front]
  cases front F defsText queryText with
  | run ts s f j => exact followAnswerOf_no_panic F fmt _ (followStatement_ran F ts s f j dl sa) site
  | early e => cases e <;> exact FollowAnswer.noConfusion

/-- the bytes the writer appends in the course of a schedule, in order -/
def appendedBytes : List FollowOp → List Nat
  | [] => []
  | .append bs :: rest => bs ++ appendedBytes rest
  | _ :: rest => appendedBytes rest

/-- the content the follower reads from: the whole file with `--head`, else what is appended after start-up -/
def followedContent (head : Bool) (initial : List Nat) (ops : List FollowOp) : List Nat :=
  (initial ++ appendedBytes ops).drop (if head then 0 else initial.length)

theorem readerOps_append (a b : List FollowOp) : readerOps (a ++ b) = readerOps a ++ readerOps b := by
  induction a with
  | nil => rfl
  | cons op rest ih => cases op <;> simp [readerOps, ih]

theorem readerOps_polls (ks : List Nat) : readerOps (ks.map FollowOp.poll) = ks.map Reader.Op.poll := by
  induction ks with
  | nil => rfl
  | cons k ks ih => simp [readerOps, ih]

theorem run_file_appended (s : Follow) (ops : List FollowOp) :
    (Reader.run s (readerOps ops)).file = s.file ++ appendedBytes ops := by
  unfold Reader.run
  induction ops generalizing s with
  | nil => simp [readerOps, appendedBytes]
  | cons op rest ih =>
    cases op with
    | append bs =>
      simp only [readerOps, List.foldl_cons, appendedBytes]
      rw [ih]
      simp [Reader.step]
    | poll k =>
      simp only [readerOps, List.foldl_cons, appendedBytes]
      rw [ih, (poll_frame s k).1]
    | interrupt =>
      simp only [readerOps, appendedBytes]
      exact ih s

theorem driveReader_append (s : Follow) (pre rest : List FollowOp) (h : FollowOp.interrupt ∉ pre) :
    driveReader s false (pre ++ rest) = driveReader (Reader.run s (readerOps pre)) false rest := by
  induction pre generalizing s with
  | nil => rfl
  | cons op pre ih =>
    have hr : FollowOp.interrupt ∉ pre := fun hm => h (List.mem_cons_of_mem _ hm)
    cases op with
    | append bs => simp only [List.cons_append, driveReader, readerOps, Reader.run, List.foldl_cons]; exact ih _ hr
    | poll k =>
      simp only [List.cons_append, driveReader, readerOps, Reader.run, List.foldl_cons, Bool.false_and, Bool.false_eq_true, if_false]
      exact ih _ hr
    | interrupt => exact absurd (List.mem_cons_self ..) h

theorem driveReader_no_interrupt (s : Follow) (ops : List FollowOp) (h : FollowOp.interrupt ∉ ops) :
    driveReader s false ops = (Reader.run s (readerOps ops), false) := by
  rw [← List.append_nil ops, driveReader_append s ops [] h, List.append_nil]; rfl

theorem driveReader_delivered_le_run (s : Follow) (i : Bool) (ops : List FollowOp) :
    (driveReader s i ops).1.delivered <+: (Reader.run s (readerOps ops)).delivered := by
  induction ops generalizing s i with
  | nil => exact List.prefix_refl _
  | cons op rest ih =>
    cases op with
    | append bs => simp only [driveReader, readerOps, Reader.run, List.foldl_cons]; exact ih _ _
    | interrupt => simp only [driveReader, readerOps]; exact ih _ _
    | poll k =>
      simp only [driveReader, readerOps, Reader.run, List.foldl_cons]
      split
      · exact run_delivered_prefix _ _
      · exact ih _ _

theorem driveReader_extends (s : Follow) (i : Bool) (ops : List FollowOp) :
    s.delivered <+: (driveReader s i ops).1.delivered := by
  induction ops generalizing s i with
  | nil => exact List.prefix_refl _
  | cons op rest ih =>
    have step1 : ∀ o, s.delivered <+: (Reader.step s o).delivered := by
      intro o
      have := run_delivered_prefix s [o]
      simpa [Reader.run] using this
    cases op with
    | append bs => simp only [driveReader]; exact (step1 _).trans (ih _ _)
    | interrupt => simp only [driveReader]; exact ih _ _
    | poll k =>
      simp only [driveReader]
      split
      · exact step1 _
      · exact (step1 _).trans (ih _ _)

theorem deliveredBy_eq (head : Bool) (initial : List Nat) (ops : List FollowOp) (h : FollowOp.interrupt ∉ ops) :
    deliveredBy head initial ops = (Props.C10.reached initial head followCap (readerOps ops)).delivered := by
  unfold deliveredBy
  rw [driveReader_no_interrupt _ _ h]
  rfl

/-- **what had been delivered stays delivered**: the lines delivered by a schedule without interrupt are a prefix of the
lines delivered by every continuation of it — interrupted or not -/
theorem deliveredBy_stable (head : Bool) (initial : List Nat) (pre rest : List FollowOp) (h : FollowOp.interrupt ∉ pre) :
    deliveredBy head initial pre <+: deliveredBy head initial (pre ++ rest) := by
  unfold deliveredBy
  rw [driveReader_append _ pre rest h, driveReader_no_interrupt _ pre h]
  exact driveReader_extends _ _ _

theorem beforeInterrupt_split (pre rest : List FollowOp) (h : FollowOp.interrupt ∉ pre) :
    beforeInterrupt (pre ++ FollowOp.interrupt :: rest) = some pre := by
  induction pre with
  | nil => rfl
  | cons op pre ih =>
    have hr : FollowOp.interrupt ∉ pre := fun hm => h (List.mem_cons_of_mem _ hm)
    cases op with
    | interrupt => exact absurd (List.mem_cons_self ..) h
    | append bs => simp [beforeInterrupt, ih hr]
    | poll k => simp [beforeInterrupt, ih hr]

/-- **where the interrupt falls**: the flag is found cleared after exactly the lines the schedule before the interrupt
had delivered -/
theorem interruptPoint_split (head : Bool) (initial : List Nat) (pre rest : List FollowOp) (h : FollowOp.interrupt ∉ pre) :
    interruptPoint head initial (pre ++ FollowOp.interrupt :: rest) = some (deliveredBy head initial pre).length := by
  unfold interruptPoint
  rw [beforeInterrupt_split pre rest h]
  rfl

theorem reached_content (head : Bool) (initial : List Nat) (ops : List FollowOp) :
    let s := Props.C10.reached initial head followCap (readerOps ops)
    s.file.drop s.start = followedContent head initial ops := by
  intro s
  have h1 : s.file = initial ++ appendedBytes ops := by
    show (Reader.run (Follow.init initial head followCap) (readerOps ops)).file = _
    rw [run_file_appended]
    cases head <;> rfl
  have h2 := Props.C10.start_offset initial head followCap (readerOps ops)
  show s.file.drop s.start = _
  rw [h1]
  show List.drop (Props.C10.reached initial head followCap (readerOps ops)).start _ = _
  rw [h2]
  rfl

/-- **exactly once, in order**: whatever the schedule, what has been delivered is a prefix of the complete lines of
the followed content -/
theorem deliveredBy_prefix (head : Bool) (initial : List Nat) (ops : List FollowOp) :
    deliveredBy head initial ops <+: completeLines (followedContent head initial ops) := by
  have h := Props.C10.follow_exactly_once_in_order initial head followCap (readerOps ops)
  have e := reached_content head initial ops
  simp only at h e
  rw [e] at h
  exact (driveReader_delivered_le_run _ false ops).trans h

theorem appendedBytes_polls (ops : List FollowOp) (ks : List Nat) :
    appendedBytes (ops ++ ks.map FollowOp.poll) = appendedBytes ops := by
  induction ops with
  | nil =>
    induction ks with
    | nil => rfl
    | cons k ks ih => simpa [appendedBytes] using ih
  | cons op rest ih => cases op <;> simp [appendedBytes, ih]

/-- **progress**: when the schedule ends with at least as many polls as there were bytes pending, every complete line
has been delivered -/
theorem deliveredBy_quiescent (head : Bool) (initial : List Nat) (ops : List FollowOp) (ks : List Nat)
    (hi : FollowOp.interrupt ∉ ops)
    (hn : pending (Props.C10.reached initial head followCap (readerOps ops)) ≤ ks.length) :
    deliveredBy head initial (ops ++ ks.map .poll) = completeLines (followedContent head initial ops) := by
  have h := (Props.C10.follow_progress initial head followCap (by decide) (readerOps ops) ks hn).1
  have e : readerOps (ops ++ ks.map FollowOp.poll) = readerOps ops ++ ks.map Reader.Op.poll := by
    rw [readerOps_append, readerOps_polls]
  have e' := reached_content head initial (ops ++ ks.map .poll)
  simp only at h e'
  have hi' : FollowOp.interrupt ∉ ops ++ ks.map FollowOp.poll := by simp [hi]
  rw [deliveredBy_eq _ _ _ hi', e, h, ← e, e']
  have := appendedBytes_polls ops ks
  unfold followedContent
  rw [this]

theorem beforeInterrupt_none_iff (ops : List FollowOp) : beforeInterrupt ops = none ↔ FollowOp.interrupt ∉ ops := by
  induction ops with
  | nil => simp [beforeInterrupt]
  | cons op rest ih =>
    cases op with
    | interrupt => simp [beforeInterrupt]
    | append bs => simp [beforeInterrupt, ih]
    | poll k => simp [beforeInterrupt, ih]

theorem interruptPoint_none (head : Bool) (initial : List Nat) (ops : List FollowOp) (h : FollowOp.interrupt ∉ ops) :
    interruptPoint head initial ops = none := by
  unfold interruptPoint
  rw [(beforeInterrupt_none_iff ops).2 h]
  rfl

theorem poll_retry_of_pending_zero (s : Follow) (k : Nat) (hinv : Inv s) (h0 : pending s = 0) :
    s.retries < (Reader.step s (.poll k)).retries := by
  obtain ⟨_, hacc, _, _, _⟩ := hinv
  unfold pending at h0
  have hb : s.buf = [] := List.eq_nil_of_length_eq_zero (by omega)
  have hd : List.drop s.pos s.file = [] := List.drop_eq_nil_of_le (by omega)
  have hnl : endsWithNl s.acc = false := by
    unfold endsWithNl
    cases hl : s.acc.getLast? with
    | none => rfl
    | some x =>
      have hx : x ≠ nl := fun e => hacc (by rw [← e]; exact List.mem_of_getLast? hl)
      simp [hx]
  simp only [Reader.step, fill, hb, if_true, hd, List.take_nil, consume, afterRead, hnl, Bool.false_eq_true, if_false]
  omega

/-- after an interrupt the iterator ends within the polls needed to drain what is pending, plus one -/
theorem driveReader_polls_end (s : Follow) (hinv : Inv s) (hc : 1 ≤ s.cap) (ks : List Nat) (h : pending s < ks.length) :
    (driveReader s true (ks.map FollowOp.poll)).2 = true := by
  induction ks generalizing s with
  | nil => simp at h
  | cons k ks ih =>
    simp only [List.map_cons, driveReader, Bool.true_and]
    by_cases hr : s.retries < (Reader.step s (.poll k)).retries
    · simp [hr]
    · simp only [hr, decide_false, Bool.false_eq_true, if_false]
      have hp : 0 < pending s := by
        rcases Nat.eq_zero_or_pos (pending s) with h0 | h0
        · exact absurd (poll_retry_of_pending_zero s k hinv h0) hr
        · exact h0
      have h1 := poll_pending s k hc
      refine ih _ (step_inv s _ hinv) (by rw [(poll_frame s k).2.2]; exact hc) ?_
      simp only [List.length_cons] at h
      omega

/-- **an interrupted follow run stops waiting**: after the interrupt, within as many polls as there are bytes pending
plus one, `next()` returns `None` — whatever the file does not do any more -/
theorem iteratorEnded_after_interrupt (head : Bool) (initial : List Nat) (pre : List FollowOp) (ks : List Nat)
    (hi : FollowOp.interrupt ∉ pre)
    (hn : pending (Props.C10.reached initial head followCap (readerOps pre)) < ks.length) :
    iteratorEnded head initial (pre ++ FollowOp.interrupt :: ks.map FollowOp.poll) = true := by
  unfold iteratorEnded
  rw [driveReader_append _ pre _ hi]
  simp only [driveReader]
  apply driveReader_polls_end _ (run_inv _ _ (init_inv initial head followCap)) _ ks hn
  rw [(Props.C10.run_frame _ _).2.2]
  show 1 ≤ followCap
  decide

/-- a delivered line whose text is the same for `BufRead::lines`: no `\n` inside (true of every delivered line), valid
UTF-8 (so `from_utf8_lossy` is the identity), no `\r` at its end (the batch reader would remove it) -/
def PlainLine (l : List Nat) : Prop := nl ∉ l ∧ validUtf8 l = true ∧ l.getLast? ≠ some cr

instance (l : List Nat) : Decidable (PlainLine l) :=
  inferInstanceAs (Decidable (nl ∉ l ∧ validUtf8 l = true ∧ l.getLast? ≠ some cr))

theorem lines_wire_plain (ls : List (List Nat)) (h : ∀ l ∈ ls, PlainLine l) : Reader.lines (wire ls) = ls.map .ok := by
  have e : wire ls = unlines ls := rfl
  rw [e, lines_unlines ls (fun l hl => (h l hl).1)]
  apply List.map_congr_left
  intro l hl
  obtain ⟨_, h2, h3⟩ := h l hl
  have hv : validUtf8 (l ++ [nl]) = true := by
    have := validUtf8_split_nl l []
    simp only [h2, Bool.true_and] at this
    rw [this]; rfl
  simp only [finishLine, hv, if_true, stripCr, h3, if_false]

theorem followNoTable_calls (stmt : Stmt) (fromTable : String) (n : Nat) (sa : Option Nat) :
    (followNoTable stmt fromTable n sa).calls = [] := by
  unfold followNoTable
  dsimp only
  split
  · rfl
  · split <;> rfl

/-- with the table undefined a non-aggregate statement over lines the batch reader reads as the same texts runs alike
in both modes: LIMIT 0 or no line and nothing happens, else the first line asks for the table -/
theorem followNoTable_select_eq_runNoTable (O : Oracles) (s : SelectStmt) (fromTable : String) (ls : List (List Nat))
    (h : ∀ l ∈ ls, PlainLine l) :
    followNoTable (.select s) fromTable ls.length none = runNoTable O (.select s) fromTable [wire ls] := by
  unfold followNoTable runNoTable
  rw [show [wire ls].flatMap Reader.lines = ls.map .ok by simp [lines_wire_plain ls h]]
  simp only
  split
  · rfl
  · cases ls <;> rfl

theorem mkFollowLine_valid (F : Facts) (d : TableDef) (l : List Nat) (hv : validUtf8 l = true) :
    mkFollowLine F d l = if factsCover F d l then some (extractedLine F d l) else none := by
  simp only [mkFollowLine, lineText, hv, if_true, extractedLine]

theorem mapM_mkFollowLine_valid (F : Facts) (d : TableDef) (ls : List (List Nat)) (hv : ∀ l ∈ ls, validUtf8 l = true) :
    ls.mapM (mkFollowLine F d) = if ls.all (factsCover F d) then some (ls.map (extractedLine F d)) else none :=
  mapM_if _ _ _ ls (fun l hl => mkFollowLine_valid F d l (hv l hl))

theorem fileLines_wire_plain (F : Facts) (d : TableDef) (ls : List (List Nat)) (h : ∀ l ∈ ls, PlainLine l) :
    fileLines F d (wire ls) =
      if ls.all (factsCover F d) then some (readableFile (ls.map (extractedLine F d))) else none := by
  rw [fileLines_eq, lines_wire_plain ls h]
  have e1 : (ls.map Except.ok).all (itemCovered F d) = ls.all (factsCover F d) := by
    rw [List.all_map]; rfl
  have e2 : fileOf (extractedLine F d) (wire ls) = readableFile (ls.map (extractedLine F d)) := by
    unfold fileOf readableFile
    rw [lines_wire_plain ls h, List.map_map, List.map_map]
    rfl
  rw [e1, e2]

/-- the printer's `first_line` after a sequence of calls -/
def firstAfter (o : Print.RealOracle) (fmt : Print.Format) : Bool → List PrintCall → Bool
  | first, [] => first
  | first, c :: rest => firstAfter o fmt (Print.printResult o fmt (c.final || first) (toResultRow c.result) c.final).2 rest

theorem termItems_append (o : Print.RealOracle) (fmt : Print.Format) (first : Bool) (a b : List PrintCall) :
    termItems o fmt first (a ++ b) = termItems o fmt first a ++ termItems o fmt (firstAfter o fmt first a) b := by
  induction a generalizing first with
  | nil => rfl
  | cons c rest ih => simp only [List.cons_append, termItems, firstAfter, ih, List.append_assoc]

theorem termItems_prefix (o : Print.RealOracle) (fmt : Print.Format) (first : Bool) {a b : List PrintCall} (h : a <+: b) :
    termItems o fmt first a <+: termItems o fmt first b := by
  obtain ⟨c, rfl⟩ := h
  rw [termItems_append]
  exact List.prefix_append _ _

theorem termItems_no_clear (o : Print.RealOracle) (fmt : Print.Format) (first : Bool) (calls : List PrintCall)
    (h : ∀ c ∈ calls, c.final = false) :
    termItems o fmt first calls =
      ((Print.printAll o fmt first (printCalls false calls)).map Print.Line.bytes).map TermItem.line := by
  induction calls generalizing first with
  | nil => rfl
  | cons c rest ih =>
    have hc : c.final = false := h c (by simp)
    simp only [termItems, printCalls, List.map_cons, Print.printAll, hc, Bool.false_eq_true, if_false, List.nil_append,
      Bool.or_false, Bool.false_or, List.map_append, List.map_map]
    rw [ih _ (fun x hx => h x (by simp [hx]))]
    simp only [printCalls, List.map_map, Bool.or_false]
    rfl

theorem screens_ne_nil (w : List TermItem) : screens w ≠ [] := by
  induction w with
  | nil => simp [screens]
  | cons it rest ih =>
    cases it with
    | clear => simp [screens]
    | line bs =>
      simp only [screens]
      cases h : screens rest with
      | nil => simp
      | cons s ss => simp

theorem screens_lines (ls : List Print.Bytes) : screens (ls.map TermItem.line) = [ls] := by
  induction ls with
  | nil => rfl
  | cons l rest ih => simp only [List.map_cons, screens, ih]

theorem screens_append_clear (w₀ : List TermItem) (ls : List Print.Bytes) :
    screens (w₀ ++ TermItem.clear :: ls.map TermItem.line) = screens w₀ ++ [ls] := by
  induction w₀ with
  | nil => simp [screens, screens_lines]
  | cons it rest ih =>
    cases it with
    | clear => simp only [List.cons_append, screens, ih]
    | line bs =>
      simp only [List.cons_append, screens, ih]
      cases h : screens rest with
      | nil => exact absurd h (screens_ne_nil _)
      | cons s ss => rfl

theorem screens_last_after_clear (w₀ : List TermItem) (ls : List Print.Bytes) :
    (screens (w₀ ++ TermItem.clear :: ls.map TermItem.line)).getLast? = some ls ∧
    2 ≤ (screens (w₀ ++ TermItem.clear :: ls.map TermItem.line)).length := by
  rw [screens_append_clear, List.getLast?_append, List.length_append]
  exact ⟨rfl, Nat.succ_le_succ (List.length_pos_iff.2 (screens_ne_nil w₀))⟩

theorem keysExact_of_simple (ks : List (List Value)) (h : ks.all (fun k => k.all Spec.Agg.simpleValue) = true) : KeysExact ks :=
  .of_simple (List.all_eq_true.1 h)

theorem followAnswerOf_ran (F : Facts) (fmt : Print.Format) (t : TraceOut) (hp : t.out.panicked = false)
    (ha : CallsAligned t.calls) (hs : t.out.skipped = none) (hc : realsCover F t.calls = true) :
    followAnswerOf F fmt (some (.ran t)) = .ran t.out.error (termItems (realOracle F) fmt true t.calls) := by
  rw [followAnswerOf_ran_eq, blocked_eq_none_iff.2 ⟨hs, hp, hc, calls_no_print_panic fmt ha⟩]
  rfl

theorem followAnswerOf_eq_ran (F : Facts) (fmt : Print.Format) (r : Option FollowRun) (e : Option ErrKind) (w : List TermItem)
    (h : followAnswerOf F fmt r = .ran e w) :
    ∃ t, r = some (.ran t) ∧ t.out.skipped = none ∧ realsCover F t.calls = true ∧ e = t.out.error ∧
      w = termItems (realOracle F) fmt true t.calls := by
  match r with
  | none => cases h
  | some .joinNotSupported => cases h
  | some (.ran t) =>
    rw [followAnswerOf_ran_eq] at h
    obtain ⟨hb, hk⟩ := getD_eq_inv (fun a ha => by
      obtain ⟨b, hb, rfl⟩ := Option.map_eq_some_iff.1 ha
      rcases blocked_eq_some hb with ⟨w, rfl⟩ | ⟨s, rfl⟩ <;> exact FollowAnswer.noConfusion) h
    cases hk
    obtain ⟨hs, -, hc, -⟩ := blocked_eq_none_iff.1 (Option.map_eq_none_iff.1 hb)
    exact ⟨t, rfl, hs, hc, rfl, rfl⟩

theorem realsCover_prefix (F : Facts) {a b : List PrintCall} (h : a <+: b) (hb : realsCover F b = true) :
    realsCover F a = true := by
  obtain ⟨c, rfl⟩ := h
  unfold realsCover at hb ⊢
  rw [List.all_append, Bool.and_eq_true] at hb
  exact hb.1

/-- a line that yields no row in follow mode: its text (`from_utf8_lossy`) is known, its facts are shipped and
`Extract.admitted` is false -/
def noRowFollow (F : Facts) (d : TableDef) (l : List Nat) : Bool :=
  match lineText F l with
  | some t => noRow F d t
  | none => false

theorem mkFollowLine_noise (F : Facts) (d : TableDef) (l : List Nat) (h : noRowFollow F d l = true) :
    ∃ ln, mkFollowLine F d l = some ln ∧ Sqlgrep.anyResult ln.row = false := by
  unfold noRowFollow at h
  cases ht : lineText F l with
  | none => rw [ht] at h; cases h
  | some t =>
    rw [ht] at h
    simp only [noRow, Bool.and_eq_true, Bool.not_eq_true', Extract.admitted] at h
    refine ⟨{ text := t, row := extractRow (extractOracles F) d (lineOracle t ((F.lines.lookup t).getD {})) }, ?_, ?_⟩
    · simp only [mkFollowLine, ht, h.1, if_true]
    · exact h.2

theorem mapM_noise (F : Facts) (d : TableDef) (a ns b : List (List Nat)) (h : ∀ l ∈ ns, noRowFollow F d l = true) :
    ((a ++ ns ++ b).mapM (mkFollowLine F d) = none ∧ (a ++ b).mapM (mkFollowLine F d) = none) ∨
    ∃ x y, (a ++ ns ++ b).mapM (mkFollowLine F d) = some x ∧ (a ++ b).mapM (mkFollowLine F d) = some y ∧
      x.filter (fun l => Sqlgrep.anyResult l.row) = y.filter (fun l => Sqlgrep.anyResult l.row) := by
  have hns : ∃ n, ns.mapM (mkFollowLine F d) = some n ∧ n.filter (fun l => Sqlgrep.anyResult l.row) = [] := by
    induction ns with
    | nil => exact ⟨[], rfl, rfl⟩
    | cons l rest ih =>
      obtain ⟨ln, h1, h2⟩ := mkFollowLine_noise F d l (h l (by simp))
      obtain ⟨n, h3, h4⟩ := ih (fun x hx => h x (by simp [hx]))
      refine ⟨ln :: n, ?_, ?_⟩
      · rw [List.mapM_cons, h1, h3]; rfl
      · simp only [List.filter_cons, h2, Bool.false_eq_true, if_false]; exact h4
  obtain ⟨n, hn1, hn2⟩ := hns
  rw [List.append_assoc, List.mapM_append, List.mapM_append, List.mapM_append, hn1]
  cases ha : a.mapM (mkFollowLine F d) with
  | none => left; exact ⟨rfl, rfl⟩
  | some xa =>
    cases hb : b.mapM (mkFollowLine F d) with
    | none => left; exact ⟨rfl, rfl⟩
    | some xb =>
      right
      refine ⟨xa ++ (n ++ xb), xa ++ xb, rfl, rfl, ?_⟩
      simp only [List.filter_append, hn2, List.nil_append]

theorem followAnswerOf_no_clear (F : Facts) (fmt : Print.Format) (t : TraceOut) (h : ∀ c ∈ t.calls, c.final = false) :
    followAnswerOf F fmt (some (.ran t)) = batchAsFollow (answerOf F fmt false t) := by
  rw [followAnswerOf_ran_eq, answerOf_eq]
  cases blocked F fmt t with
  | some a => rfl
  | none =>
    simp only [Option.map_none, Option.getD_none, batchAsFollow]
    rw [termItems_no_clear _ _ _ _ h]

theorem followCalls_final (single : Bool) (los : List LineOut) : ∀ c ∈ followCalls single los, c.final = single := by
  induction los with
  | nil => intro c hc; cases hc
  | cons lo rest ih =>
    intro c hc
    unfold followCalls at hc
    cases hr : lo.result with
    | none => rw [hr] at hc; exact ih c hc
    | some r =>
      rw [hr] at hc
      simp only [List.mem_cons] at hc
      rcases hc with rfl | hc
      · rfl
      · split at hc
        · cases hc
        · exact ih c hc

theorem runFollowAllT_calls_final (O : Oracles) (qy : Query) (lines : List Line) :
    ∀ c ∈ (runFollowAllT O qy none lines).calls, c.final = isUpdated qy := by
  rw [runFollowAllT_calls]
  split
  · intro c hc; cases hc
  · exact followCalls_final _ _

theorem runStatement_wire (F : Facts) (tables : List Table) (stmt : Stmt) (fromTable : String) (t : Table)
    (hg : getTable tables fromTable = some t) (ls : List (List Nat)) (h : ∀ l ∈ ls, PlainLine l) :
    runStatement F tables stmt fromTable none [wire ls] =
      if ls.all (factsCover F t.defn) then
        some (runBatchT F.eval { stmt := stmt, table := t.info, join := none } none [readableFile (ls.map (extractedLine F t.defn))])
      else none := by
  rw [runStatement_defined F tables stmt fromTable none _ t hg]
  simp only [List.mapM_cons, List.mapM_nil, fileLines_wire_plain F t.defn ls h]
  cases ls.all (factsCover F t.defn) <;> rfl

theorem followStatement_plain (F : Facts) (tables : List Table) (stmt : Stmt) (fromTable : String) (t : Table)
    (hg : getTable tables fromTable = some t) (ls : List (List Nat)) (h : ∀ l ∈ ls, validUtf8 l = true) :
    followStatement F tables stmt fromTable none ls none =
      if ls.all (factsCover F t.defn) then
        some (.ran (runFollowAllT F.eval { stmt := stmt, table := t.info, join := none } none (ls.map (extractedLine F t.defn))))
      else none := by
  rw [followStatement_defined F tables stmt fromTable ls none t hg]
  show (ls.mapM (mkFollowLine F t.defn)).map _ = _
  rw [mapM_mkFollowLine_valid F t.defn ls h]
  cases ls.all (factsCover F t.defn) <;> rfl

end Sqlgrep.Pipeline
