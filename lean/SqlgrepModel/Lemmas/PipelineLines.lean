import SqlgrepModel.Lemmas.Pipeline
import SqlgrepModel.Lemmas.ExecTLines
import SqlgrepModel.Lemmas.ExecTAgg
/-
The end-to-end model `Pipeline.runText` under changes of the LINE STRUCTURE of its input bytes (glue for
`Props/PipelineLines.lean`): how `Reader.lines` reads an inserted newline-terminated block and lines written out
(`unlines`); the answer of the program as a function of the run of the statement (`runText_rel`, `runText_pred`); and the
lifting of the traced-run theorems of `Lemmas/ExecTLines.lean` to `runStatement` over files. `exQueryShape` and `permSafeB`
are decidable forms of hypotheses, for the evaluated examples.
-/
namespace Sqlgrep

namespace Reader

theorem nlTerminated_snoc (l : List Nat) : NlTerminated (l ++ [nl]) := .inr (by simp)

theorem nlTerminated_append {a b : List Nat} (ha : NlTerminated a) (hb : NlTerminated b) : NlTerminated (a ++ b) := by
  rcases hb with hb | hb
  · subst hb; simpa using ha
  · right
    obtain ⟨g, hg⟩ := List.getLast?_eq_some_iff.1 hb
    subst hg
    rw [← List.append_assoc]; simp

theorem linesAux_no_nl (cur l : List Nat) (h : nl ∉ l) :
    linesAux cur (l ++ [nl]) = [finishLine (cur.reverse ++ l) true] := by
  induction l generalizing cur with
  | nil => simp [linesAux]
  | cons b l ih =>
    have hb : b ≠ nl := fun e => h (by simp [e])
    have hl : nl ∉ l := fun e => h (by simp [e])
    simp only [List.cons_append, linesAux, hb, if_false]
    rw [ih _ hl]
    simp

theorem lines_single (l : List Nat) (h : nl ∉ l) : lines (l ++ [nl]) = [finishLine l true] := by
  unfold lines
  rw [linesAux_no_nl [] l h]
  simp

/-- a list of lines written out, each terminated by `\n` -/
def unlines (ls : List (List Nat)) : List Nat := ls.flatMap (· ++ [nl])

theorem nlTerminated_unlines (ls : List (List Nat)) : NlTerminated (unlines ls) := by
  induction ls with
  | nil => exact .inl rfl
  | cons l ls ih =>
    have : unlines (l :: ls) = (l ++ [nl]) ++ unlines ls := by simp [unlines]
    rw [this]
    exact nlTerminated_append (nlTerminated_snoc l) ih

theorem lines_unlines (ls : List (List Nat)) (h : ∀ l ∈ ls, nl ∉ l) :
    lines (unlines ls) = ls.map (fun l => finishLine l true) := by
  induction ls with
  | nil => rfl
  | cons l ls ih =>
    have e : unlines (l :: ls) = (l ++ [nl]) ++ unlines ls := by simp [unlines]
    rw [e, lines_append _ _ (nlTerminated_snoc l), lines_single l (h l (by simp)), ih (fun x hx => h x (by simp [hx]))]
    rfl

theorem lines_insert (pre block post : List Nat) (hpre : NlTerminated pre) (hblock : NlTerminated block) :
    lines (pre ++ block ++ post) = lines pre ++ lines block ++ lines post := by
  rw [List.append_assoc, lines_append _ _ hpre, lines_append _ _ hblock, List.append_assoc]

end Reader

namespace Pipeline
open Sqlgrep.Extract Sqlgrep.Reader Sqlgrep.Spec.Pipeline

/-- what the property sentences call the output of an invocation: the printed lines and the way the run ended —
everything but the statistics counter `totalLines` -/
def Answer.output : Answer → Answer
  | .records e _ ls => .records e 0 ls
  | a => a

/-- a line (as the reader yields it) that yields no row under table definition `d`, by the facts shipped with the case:
`Extract.admitted = false` -/
def noRow (F : Facts) (d : TableDef) (l : List Nat) : Bool :=
  factsCover F d l && !Extract.admitted (extractOracles F) d (lineOracle l ((F.lines.lookup l).getD {}))

theorem fileOf_flatten (mk : List Nat → Line) (files : List (List Nat)) :
    (files.map (fileOf mk)).flatten = (files.flatMap lines).map (toFileLine mk) := by
  induction files with
  | nil => rfl
  | cons f fs ih => simp only [List.map_cons, List.flatten_cons, List.flatMap_cons, List.map_append, ih, fileOf]

theorem filesCovered_flatMap (F : Facts) (d : TableDef) (files : List (List Nat)) :
    filesCovered F d files = (files.flatMap lines).all (itemCovered F d) := by
  unfold filesCovered
  induction files with
  | nil => rfl
  | cons f fs ih => simp only [List.all_cons, List.flatMap_cons, List.all_append, ih]

theorem answerOf_output (F : Facts) (fmt : Print.Format) (single : Bool) {t t' : TraceOut} (h : TSame t t') :
    (answerOf F fmt single t).output = (answerOf F fmt single t').output := by
  have hb : blocked F fmt t = blocked F fmt t' := by
    unfold blocked
    rw [h.out.skipped, h.out.panicked, h.calls]
  rw [answerOf_eq, answerOf_eq, hb, h.out.error, h.calls]
  cases blocked F fmt t' <;> rfl

def OptTSame : Option TraceOut → Option TraceOut → Prop
  | none, none => True
  | some a, some b => TSame a b
  | _, _ => False

theorem answerOfOpt_output (F : Facts) (fmt : Print.Format) (single : Bool) {r r' : Option TraceOut} (h : OptTSame r r') :
    (answerOfOpt F fmt single r).output = (answerOfOpt F fmt single r').output := by
  cases r <;> cases r' <;> simp only [OptTSame] at h
  · rfl
  · exact answerOf_output F fmt single h

theorem fileLines_fs (F : Facts) (fs' : List (String × List Nat)) (d : TableDef) (b : List Nat) :
    fileLines { F with fs := fs' } d b = fileLines F d b := rfl

theorem answerOfOpt_fs (F : Facts) (fs' : List (String × List Nat)) (fmt : Print.Format) (single : Bool) (r : Option TraceOut) :
    answerOfOpt { F with fs := fs' } fmt single r = answerOfOpt F fmt single r := by
  cases r <;> rfl

/-- **the answer depends on the input files (and on the file system) only through the run of the statement**: a relation
that holds between the runs of every statement over every set of defined tables holds between the answers of the
whole program — whatever the texts are (rejected texts, non-queries … give the same answer on both sides) -/
theorem runText_rel (R : Answer → Answer → Prop) (hR : ∀ a, R a a) (F : Facts) (fs' : List (String × List Nat))
    (defsText queryText : List Char) (fmt : Print.Format) (single : Bool) (files files' : List (List Nat))
    (h : ∀ defs query tables stmt fromTable join,
      parseText (lexOracles F) (regexValidFn F) defsText = .stmt defs →
      parseText (lexOracles F) (regexValidFn F) queryText = .stmt query →
      addTables defs = some tables → stmtOf query = some (stmt, fromTable, join) →
      R (answerOfOpt F fmt single (runStatement F tables stmt fromTable join files))
        (answerOfOpt F fmt single (runStatement { F with fs := fs' } tables stmt fromTable join files'))) :
    R (runText F defsText queryText fmt single files) (runText { F with fs := fs' } defsText queryText fmt single files') := by
  rw [runText_eq_front, runText_eq_front, show front { F with fs := fs' } defsText queryText = front F defsText queryText from rfl]
  refine Front.answer_rel R (fun _ => hR _) _ fun ts s f j hf => ?_
  obtain ⟨defs, query, -, hd, -, hq, ht, hs⟩ := front_eq_run_iff.1 hf
  rw [answerOfOpt_fs]
  exact h defs query ts s f j hd hq ht hs

/-- the unary form: a predicate that holds of every answer that is not a run, and of the answer of every run of a
statement over defined tables, holds of the answer of the program -/
theorem runText_pred (P : Answer → Prop) (hskip : ∀ w, P (.skip w)) (hpanic : ∀ s, P (.panic s))
    (hrej : ∀ w p, P (.rejected w p)) (hnc : P .notCreateTable) (hnq : P .notAQuery) (F : Facts)
    (defsText queryText : List Char) (fmt : Print.Format) (single : Bool) (files : List (List Nat))
    (h : ∀ defs query tables stmt fromTable join,
      parseText (lexOracles F) (regexValidFn F) defsText = .stmt defs →
      parseText (lexOracles F) (regexValidFn F) queryText = .stmt query →
      addTables defs = some tables → stmtOf query = some (stmt, fromTable, join) →
      P (answerOfOpt F fmt single (runStatement F tables stmt fromTable join files))) :
    P (runText F defsText queryText fmt single files) := by
  rw [runText_eq_front]
  cases hf : front F defsText queryText with
  | early e => cases e <;> first | exact hskip _ | exact hrej _ _ | exact hnc | exact hnq
  | run ts s f j =>
    obtain ⟨defs, query, -, hd, -, hq, ht, hs⟩ := front_eq_run_iff.1 hf
    exact h defs query ts s f j hd hq ht hs

/-- the table the lines of the input files are extracted with: the FROM table of the query text as defined by the
definition text (`none`: a text is rejected, or the table is not defined — then no line "yields a row" or fails to) -/
def queriedTable (F : Facts) (defsText queryText : List Char) : Option Table :=
  match parseText (lexOracles F) (regexValidFn F) defsText, parseText (lexOracles F) (regexValidFn F) queryText with
  | .stmt defs, .stmt query =>
    match addTables defs, stmtOf query with
    | some tables, some (_, fromTable, _) => getTable tables fromTable
    | _, _ => none
  | _, _ => none

/-- the table the lines of the JOINED file are extracted with, and the name of that file -/
def joinedSource (F : Facts) (defsText queryText : List Char) : Option (Table × String) :=
  match parseText (lexOracles F) (regexValidFn F) defsText, parseText (lexOracles F) (regexValidFn F) queryText with
  | .stmt defs, .stmt query =>
    match addTables defs, stmtOf query with
    | some tables, some (_, _, some j) => (getTable tables j.joinedTable).map (fun u => (u, j.joinedFilename))
    | _, _ => none
  | _, _ => none

theorem queriedTable_of_front {F : Facts} {defsText queryText : List Char} {ts : List Table} {s : Stmt} {f : String}
    {j : Option LJoin} (h : front F defsText queryText = .run ts s f j) : queriedTable F defsText queryText = getTable ts f := by
  obtain ⟨defs, query, -, hd, -, hq, ht, hs⟩ := front_eq_run_iff.1 h
  unfold queriedTable
  rw [hd, hq]; simp only
  rw [ht, hs]

theorem joinedSource_of_front {F : Facts} {defsText queryText : List Char} {ts : List Table} {s : Stmt} {f : String}
    {j : LJoin} (h : front F defsText queryText = .run ts s f (some j)) :
    joinedSource F defsText queryText = (getTable ts j.joinedTable).map (fun u => (u, j.joinedFilename)) := by
  obtain ⟨defs, query, -, hd, -, hq, ht, hs⟩ := front_eq_run_iff.1 h
  unfold joinedSource
  rw [hd, hq]; simp only
  rw [ht, hs]

theorem anyResult_eq (row : List Value) : Sqlgrep.anyResult row = Extract.anyResult row := rfl

theorem isNoise_of_noRow (F : Facts) (d : TableDef) (l : List Nat) (h : noRow F d l = true) :
    isNoise (toFileLine (extractedLine F d) (.ok l)) = true ∧ itemCovered F d (.ok l) = true := by
  simp only [noRow, Bool.and_eq_true, Bool.not_eq_true', Extract.admitted] at h
  refine ⟨?_, h.1⟩
  simp only [isNoise, toFileLine, extractedLine, anyResult_eq, h.2, Bool.not_false, Bool.and_self]

theorem noise_block (F : Facts) (d : TableDef) (items : List (Except Unit (List Nat)))
    (h : ∀ item ∈ items, ∃ l, item = .ok l ∧ noRow F d l = true) :
    items.all (itemCovered F d) = true ∧ denoise (items.map (toFileLine (extractedLine F d))) = [] := by
  induction items with
  | nil => exact ⟨rfl, rfl⟩
  | cons x xs ih =>
    obtain ⟨l, rfl, hl⟩ := h x (by simp)
    obtain ⟨h1, h2⟩ := ih (fun i hi => h i (by simp [hi]))
    obtain ⟨n1, n2⟩ := isNoise_of_noRow F d l hl
    refine ⟨by simp only [List.all_cons, n2, h1, Bool.and_self], ?_⟩
    unfold denoise at h2 ⊢
    simp only [List.map_cons, List.filter_cons, n1, Bool.not_true, Bool.false_eq_true, if_false]
    exact h2

theorem denoise_append (a b : List FileLine) : denoise (a ++ b) = denoise a ++ denoise b := by
  simp [denoise, List.filter_append]

theorem insert_noise_block (F : Facts) (d : TableDef) (pre block post : List Nat) (hpre : NlTerminated pre)
    (hblock : NlTerminated block) (h : ∀ item ∈ lines block, ∃ l, item = .ok l ∧ noRow F d l = true) :
    (lines (pre ++ block ++ post)).all (itemCovered F d) = (lines (pre ++ post)).all (itemCovered F d) ∧
    denoise (fileOf (extractedLine F d) (pre ++ block ++ post)) = denoise (fileOf (extractedLine F d) (pre ++ post)) := by
  obtain ⟨h1, h2⟩ := noise_block F d _ h
  unfold fileOf
  rw [lines_insert pre block post hpre hblock, lines_append pre post hpre]
  constructor
  · simp only [List.all_append, h1, Bool.and_true]
  · simp only [List.map_append, denoise_append, h2, List.append_nil]

theorem runStatement_same_rows (F : Facts) (tables : List Table) (stmt : Stmt) (fromTable : String) (join : Option LJoin)
    (files files' : List (List Nat)) (t : Table) (hg : getTable tables fromTable = some t)
    (hcov : filesCovered F t.defn files = filesCovered F t.defn files')
    (hden : (files.map (fileOf (extractedLine F t.defn))).map denoise = (files'.map (fileOf (extractedLine F t.defn))).map denoise) :
    OptTSame (runStatement F tables stmt fromTable join files) (runStatement F tables stmt fromTable join files') := by
  rcases runStatement_over F tables stmt fromTable join t hg with hn | ⟨qy, idxO, -, -, hs⟩
  · rw [hn, hn]; trivial
  · rw [hs, hs, hcov]
    split
    · show TSame _ _
      have a := runWithIndexT_noise F.eval qy idxO (files.map (fileOf (extractedLine F t.defn)))
      have b := runWithIndexT_noise F.eval qy idxO (files'.map (fileOf (extractedLine F t.defn)))
      rw [hden] at a
      exact a.trans b.symm
    · trivial

theorem filesCovered_append (F : Facts) (d : TableDef) (a b : List (List Nat)) :
    filesCovered F d (a ++ b) = (filesCovered F d a && filesCovered F d b) := by
  simp [filesCovered, List.all_append]

/-- the joined file with a noise block inserted: the run is the same (the loader skips lines that yield no row) -/
theorem runDefined_joined_noise (F : Facts) (fs' : List (String × List Nat)) (tables : List Table) (stmt : Stmt) (t : Table)
    (j : LJoin) (fs : List (List FileLine)) (pre block post : List Nat) (hpre : NlTerminated pre) (hblock : NlTerminated block)
    (h1 : F.fs.lookup j.joinedFilename = some (pre ++ block ++ post)) (h2 : fs'.lookup j.joinedFilename = some (pre ++ post))
    (hnoise : ∀ u, getTable tables j.joinedTable = some u →
      ∀ item ∈ lines block, ∃ l, item = .ok l ∧ noRow F u.defn l = true) :
    runDefined F tables stmt t (some j) fs = runDefined { F with fs := fs' } tables stmt t (some j) fs := by
  unfold runDefined
  simp only
  cases hu : getTable tables j.joinedTable with
  | none => rfl
  | some u =>
    simp only
    have o1 : openJoined F j = some (pre ++ block ++ post) := h1
    have o2 : openJoined { F with fs := fs' } j = some (pre ++ post) := h2
    rw [o1, o2]
    simp only [fileLines_fs]
    obtain ⟨c, dn⟩ := insert_noise_block F u.defn pre block post hpre hblock (hnoise u hu)
    rw [fileLines_eq, fileLines_eq, c]
    split
    · simp only [Option.map_some]
      congr 1
      exact runBatchT_joined_noise F.eval _ _ _ fs dn
    · rfl

theorem runStatement_fs (F : Facts) (fs' : List (String × List Nat)) (tables : List Table) (stmt : Stmt) (fromTable : String)
    (join : Option LJoin) (files : List (List Nat))
    (h : ∀ t j fs, getTable tables fromTable = some t → join = some j →
      runDefined F tables stmt t (some j) fs = runDefined { F with fs := fs' } tables stmt t (some j) fs) :
    runStatement F tables stmt fromTable join files = runStatement { F with fs := fs' } tables stmt fromTable join files := by
  cases hg : getTable tables fromTable with
  | none =>
    rw [runStatement_undefined F tables stmt fromTable join files hg, runStatement_undefined _ tables stmt fromTable join files hg]
  | some t =>
    rw [runStatement_defined F tables stmt fromTable join files t hg,
      runStatement_defined { F with fs := fs' } tables stmt fromTable join files t hg]
    have : files.mapM (fileLines { F with fs := fs' } t.defn) = files.mapM (fileLines F t.defn) := rfl
    rw [this]
    cases files.mapM (fileLines F t.defn) with
    | none => rfl
    | some fs =>
      simp only [Option.bind]
      cases join with
      | none => rfl
      | some j => exact h t j fs hg rfl

theorem runStatement_concat (F : Facts) (tables : List Table) (stmt : Stmt) (fromTable : String) (join : Option LJoin)
    (files : List (List Nat)) (last : List Nat) (h : ∀ f ∈ files, NlTerminated f) :
    runStatement F tables stmt fromTable join (files ++ [last]) =
      runStatement F tables stmt fromTable join [(files ++ [last]).flatten] := by
  have hl : (files ++ [last]).flatMap lines = [(files ++ [last]).flatten].flatMap lines := by
    rw [flatMap_lines_eq files last h]; simp
  cases hg : getTable tables fromTable with
  | none =>
    rw [runStatement_undefined F tables stmt fromTable join _ hg, runStatement_undefined F tables stmt fromTable join _ hg]
    cases join with
    | none => simp only [runNoTable, hl]
    | some j => rfl
  | some t =>
    rcases runStatement_over F tables stmt fromTable join t hg with hn | ⟨qy, idxO, -, -, hs⟩
    · rw [hn, hn]
    · rw [hs, hs, filesCovered_flatMap, filesCovered_flatMap, hl]
      split
      · rw [runWithIndexT_flatten F.eval qy idxO ((files ++ [last]).map _), fileOf_flatten, hl]
        congr 3
        simp [fileOf]
      · rfl

theorem unreadable_of_error (mk : List Nat → Line) (files : List (List Nat)) (h : .error () ∈ files.flatMap lines) :
    ∃ fl ∈ (files.map (fileOf mk)).flatten, fl.readable = false := by
  rw [fileOf_flatten]
  exact ⟨toFileLine mk (.error ()), List.mem_map.2 ⟨_, h, rfl⟩, rfl⟩

theorem runStatement_unreadable_fails (F : Facts) (tables : List Table) (stmt : Stmt) (fromTable : String)
    (join : Option LJoin) (files : List (List Nat)) (hnl : NoLimit stmt) (hbad : .error () ∈ files.flatMap lines)
    (t : TraceOut) (h : runStatement F tables stmt fromTable join files = some t) : hasFailed t.out = true := by
  cases hg : getTable tables fromTable with
  | none =>
    rw [runStatement_undefined F tables stmt fromTable join files hg] at h
    cases h
    cases join with
    | none =>
      unfold runNoTable
      have h0 : reachedLimit { stmt := stmt, table := { name := fromTable, columns := [] }, join := none } ({} : EngineState) = false :=
        noLimit_start _ hnl _
      simp only [h0, Bool.false_eq_true, if_false]
      cases hh : (files.flatMap lines).head? with
      | none =>
        rw [List.head?_eq_none_iff] at hh
        rw [hh] at hbad
        cases hbad
      | some x => cases x <;> rfl
    | some j => rfl
  | some tb =>
    rcases runStatement_over F tables stmt fromTable join tb hg with hn | ⟨qy, idxO, hq, -, hs⟩
    · rw [hn] at h; cases h
    · rw [hs] at h
      split at h
      · cases h
        exact runWithIndexT_unreadable_fails F.eval qy (by rw [hq]; exact hnl) idxO _ (unreadable_of_error _ files hbad)
      · cases h

theorem answerOf_failed (F : Facts) (fmt : Print.Format) (single : Bool) (t : TraceOut) (h : hasFailed t.out = true)
    (n : Nat) (ls : List Print.Bytes) : answerOf F fmt single t ≠ .records none n ls := by
  intro heq
  obtain ⟨hb, he, -⟩ := answerOf_records_inv heq
  obtain ⟨hs, hp, -⟩ := blocked_eq_none_iff.1 hb
  simp [hasFailed, ← he, hs, hp] at h

/-- **where the first invalid line stands** (non-aggregate statements): with the lines of all files being
`A ++ invalid :: rest` and `files'` holding exactly the lines `A`, the run over `files` lacks a fact (about a later
line), or is the run over `files'` (which had ended already), or is the run over `files'` — not failed — with
`FailReadFile` as its error, the same print calls and the same count -/
theorem runStatement_read_error (F : Facts) (tables : List Table) (q : SelectStmt) (fromTable : String)
    (join : Option LJoin) (files files' : List (List Nat)) (rest : List (Except Unit (List Nat)))
    (hsplit : files.flatMap lines = files'.flatMap lines ++ .error () :: rest) :
    runStatement F tables (.select q) fromTable join files = none ∨
    runStatement F tables (.select q) fromTable join files = runStatement F tables (.select q) fromTable join files' ∨
    ∃ t, runStatement F tables (.select q) fromTable join files' = some t ∧ hasFailed t.out = false ∧
      runStatement F tables (.select q) fromTable join files =
        some { out := { t.out with error := some .failReadFile }, calls := t.calls } := by
  cases hg : getTable tables fromTable with
  | none =>
    rw [runStatement_undefined F tables _ fromTable join files hg, runStatement_undefined F tables _ fromTable join files' hg]
    cases join with
    | some j => right; left; rfl
    | none =>
      simp only
      unfold runNoTable
      simp only [hsplit]
      split
      · right; left; rfl
      · rename_i hrl
        cases hA : files'.flatMap lines with
        | nil =>
          right; right
          simp only [List.nil_append, List.head?_cons, List.head?_nil]
          refine ⟨_, rfl, ?_, ?_⟩
          · simp only [runBatchT, joinSetup, runWithIndexT, runFilesT, hasFailed]
            rfl
          · simp only [runBatchT, joinSetup, runWithIndexT, runFilesT, hasFailed]
            rfl
        | cons x xs => right; left; simp only [List.cons_append, List.head?_cons]
  | some tb =>
    rcases runStatement_over F tables (.select q) fromTable join tb hg with hn | ⟨qy, idxO, hq, -, hs⟩
    · right; left; rw [hn, hn]
    · rw [hs, hs]
      by_cases hc : filesCovered F tb.defn files = true
      · have hc' : filesCovered F tb.defn files' = true := by
          rw [filesCovered_flatMap] at hc ⊢
          rw [hsplit, List.all_append] at hc
          simp only [Bool.and_eq_true] at hc
          exact hc.1
        rw [if_pos hc, if_pos hc']
        have hflat : (files.map (fileOf (extractedLine F tb.defn))).flatten =
            (files'.map (fileOf (extractedLine F tb.defn))).flatten ++
              toFileLine (extractedLine F tb.defn) (.error ()) :: rest.map (toFileLine (extractedLine F tb.defn)) := by
          rw [fileOf_flatten, fileOf_flatten, hsplit, List.map_append, List.map_cons]
        rcases runWithIndexT_read_error F.eval qy q hq idxO _ _ _ _ rfl hflat with h | ⟨h1, h2⟩
        · right; left; rw [h]
        · right; right
          exact ⟨_, rfl, h1, by rw [h2]⟩
      · left
        rw [if_neg hc]

/-- the answer of a run that did not fail, and of the same run with `FailReadFile` as its error: the same answer when
it is not a run's (a REAL rendering is missing), else the same count and the same printed lines under the two statuses -/
theorem answerOf_read_error (F : Facts) (fmt : Print.Format) (single : Bool) (t : TraceOut) (h : hasFailed t.out = false) :
    answerOf F fmt single { out := { t.out with error := some .failReadFile }, calls := t.calls } = answerOf F fmt single t ∨
    ∃ n ls, answerOf F fmt single t = .records none n ls ∧
      answerOf F fmt single { out := { t.out with error := some .failReadFile }, calls := t.calls } =
        .records (some .failReadFile) n ls := by
  have he : t.out.error = none := by
    cases hx : t.out.error with
    | none => rfl
    | some k => simp [hasFailed, hx] at h
  rw [answerOf_eq, answerOf_eq, show blocked F fmt { out := { t.out with error := some .failReadFile }, calls := t.calls } =
    blocked F fmt t from rfl, he]
  cases blocked F fmt t with
  | some a => exact .inl rfl
  | none => exact .inr ⟨_, _, rfl, rfl⟩

theorem prepare_nojoin_iff {F : Facts} {tables : List Table} {stmt : Stmt} {fromTable : String} {files : List (List Nat)}
    {p : Prepared} :
    prepare F tables stmt fromTable none files = some p ↔
      ∃ t, getTable tables fromTable = some t ∧ filesCovered F t.defn files = true ∧
        p = { qy := { stmt := stmt, table := t.info, join := none }, joined := [],
              files := files.map (fileOf (extractedLine F t.defn)) } :=
  prepare_iff.trans ⟨fun ⟨t, _, _, hg, hc, ⟨rfl, rfl⟩, hp⟩ => ⟨t, hg, hc, hp⟩,
    fun ⟨t, hg, hc, hp⟩ => ⟨t, none, [], hg, hc, ⟨rfl, rfl⟩, hp⟩⟩

theorem runText_of_prepared {F : Facts} {d q : List Char} {ts : List Table} {s : Stmt} {f : String} {t : Table}
    (hf : front F d q = .run ts s f none) (hg : getTable ts f = some t) {files : List (List Nat)}
    (hc : filesCovered F t.defn files = true) (fmt : Print.Format) (single : Bool) :
    runText F d q fmt single files = answerOf F fmt single (runBatchT F.eval { stmt := s, table := t.info, join := none }
      (some []) (files.map (fileOf (extractedLine F t.defn)))) := by
  rw [runText_of_front hf, (runStatement_of_prepare F ts s f none files _ (prepare_nojoin_iff.2 ⟨t, hg, hc, rfl⟩)).1]; rfl

/-- a decidable form of `QueryNoLimit` / `QueryIsSelect` for a concrete query text -/
def exQueryShape (F : Facts) (queryText : List Char) (p : Stmt → Bool) : Bool :=
  match parseText (lexOracles F) (regexValidFn F) queryText with
  | .stmt query => (match stmtOf query with
    | some (stmt, _, _) => p stmt
    | none => true)
  | _ => true

theorem exQueryShape_sound (F : Facts) (queryText : List Char) (p : Stmt → Bool) (h : exQueryShape F queryText p = true)
    (query : LStmt) (stmt : Stmt) (fromTable : String) (join : Option LJoin)
    (hq : parseText (lexOracles F) (regexValidFn F) queryText = .stmt query) (hs : stmtOf query = some (stmt, fromTable, join)) :
    p stmt = true := by
  unfold exQueryShape at h
  rw [hq] at h
  simp only [hs] at h
  exact h

open Sqlgrep.Spec.Agg in
/-- the checkable sufficient condition for `PermSafe` (`permSafe_of_small_ints`): order-insensitive aggregates whose
arguments on every admitted row are NULL or INTs within ±2^20, at most 2^20 rows -/
def permSafeB (O : Oracles) (a : AggStmt) (keyed : List (List Value × Env)) : Bool :=
  (slotKinds a).all (fun kind => orderInsensitive kind &&
    keyed.all (fun r => (okOf (argument O a r.2 kind)).all smallIntOrNull)) && decide (keyed.length ≤ 1048576)

theorem permSafeB_sound (O : Oracles) (a : AggStmt) (keyed : List (List Value × Env)) (h : permSafeB O a keyed = true) :
    PermSafe O a keyed := by
  simp only [permSafeB, Bool.and_eq_true, List.all_eq_true, decide_eq_true_eq] at h
  exact permSafe_of_small_ints (fun kind hk => (h.1 kind hk).1) (fun kind hk r hr => (h.1 kind hk).2 r hr) h.2

end Pipeline
end Sqlgrep
