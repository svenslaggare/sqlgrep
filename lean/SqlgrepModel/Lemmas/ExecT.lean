import SqlgrepModel.Lemmas.Runs
import SqlgrepModel.Lemmas.InterruptLoad
/- The traced batch run (`Model/ExecT.lean`) is the batch run of `Model/Exec.lean` / `Model/ExecI.lean`. -/
namespace Sqlgrep

theorem TraceOut.ext : ∀ {a b : TraceOut}, a.out = b.out → a.calls = b.calls → a = b
  | ⟨_, _⟩, ⟨_, _⟩, rfl, rfl => rfl

theorem runFilesT_printed (O : Oracles) (qy : Query) (idx : JoinIndex) (w : Bool) (files : List (List FileLine)) (s : TraceState)
    (h : s.ls.out.printed = renderCalls s.calls) :
    (runFilesT O qy idx w files s).ls.out.printed = renderCalls (runFilesT O qy idx w files s).calls := by
  rw [runFilesT_eq_drive]
  split
  · exact h
  · exact drive_printed _ _ _ _ _ h

theorem runWithIndexT_out (O : Oracles) (qy : Query) (idxO : Outcome JoinIndex) (files : List (List FileLine)) :
    (runWithIndexT O qy idxO files).out = runWithIndex O qy idxO files none := by
  cases idxO with
  | ok idx =>
    rw [runWithIndexT_ok, runWithIndex_ok, show ({} : LoopState) = ({} : TraceState).ls from rfl, ← runFilesT_ls]
    exact (endRun_out O qy _ []).symm
  | _ => rfl

theorem runWithIndexT_printed (O : Oracles) (qy : Query) (idxO : Outcome JoinIndex) (files : List (List FileLine)) :
    (runWithIndexT O qy idxO files).out.printed = renderCalls (runWithIndexT O qy idxO files).calls := by
  cases idxO with
  | ok idx => exact endRun_printed O qy _ (runFilesT_printed O qy idx _ files {} rfl)
  | _ => simp [runWithIndexT, failWith, renderCalls]

theorem runBatchT_out (O : Oracles) (qy : Query) (joined : Option (List FileLine)) (files : List (List FileLine)) :
    (runBatchT O qy joined files).out = (runBatchI O qy joined files none none).1 := by
  unfold runBatchT runBatchI joinSetup
  rw [runWithIndexT_out]
  cases qy.join with
  | none => rfl
  | some j => simp

theorem runBatchT_printed (O : Oracles) (qy : Query) (joined : Option (List FileLine)) (files : List (List FileLine)) :
    (runBatchT O qy joined files).out.printed = renderCalls (runBatchT O qy joined files).calls :=
  runWithIndexT_printed O qy _ files

/-- without a join the joined file is not looked at -/
theorem runBatchT_nojoin (O : Oracles) (qy : Query) (hj : qy.join = none) (joined : Option (List FileLine))
    (files : List (List FileLine)) : runBatchT O qy joined files = runBatchT O qy (some []) files := by
  unfold runBatchT joinSetup
  rw [hj]

/-- the run component of the traced batch run over a joined file that is there is `runBatch` -/
theorem runBatchT_some_out (O : Oracles) (qy : Query) (joined : List FileLine) (files : List (List FileLine)) :
    (runBatchT O qy (some joined) files).out = runBatch O qy joined files none := by
  rw [runBatchT_out, runBatchI_eq_runBatch]

end Sqlgrep
