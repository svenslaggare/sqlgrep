import SqlgrepModel.Lemmas.AggFollowRun
/-
Totality of the update half: when the specification fixes the table (and the input is outside D10/D15), every
complete per-group fold succeeds, hence every prefix fold, hence no `execute_update` fails — which turns the
partial-correctness refinement into the full one (`engine_refines_spec_total`).
-/
set_option linter.unusedSimpArgs false
namespace Sqlgrep
open Value Spec.Agg

theorem updateAggregates_progress {O : Oracles} {q : AggStmt} {env : Env} {key : List Value}
    (slots : List (Nat × AggKind)) (hnd : (slots.map (·.1)).Nodup) {st : AggState} (hs : AggSorted st)
    (h : ∀ i kind, (i, kind) ∈ slots → ∃ c, cellStep O q env kind (readCell st key i) = .ok c) :
    ∃ st', updateAggregates O q env key slots st = .ok st' := by
  induction slots generalizing st with
  | nil => exact ⟨st, rfl⟩
  | cons s rest ih =>
    obtain ⟨i, k⟩ := s
    simp only [List.map_cons, List.nodup_cons] at hnd
    obtain ⟨c, hc⟩ := h i k (by simp)
    have h1 : updateAggregate O q env key i k st = .ok (writeCell st key i c) := by
      simp only [updateAggregate, hc, bind, Outcome.bind, pure]
    obtain ⟨hs1, c', hc', hread⟩ := updateAggregate_cells hs h1
    have hrest : ∀ i2 kind, (i2, kind) ∈ rest → ∃ c2, cellStep O q env kind (readCell (writeCell st key i c) key i2) = .ok c2 := by
      intro i2 kind hm
      have hne : i ≠ i2 := by
        intro he; subst he
        exact hnd.1 (List.mem_map.mpr ⟨(i, kind), hm, rfl⟩)
      rw [hread key i2]
      simp only [hne, and_false, if_false]
      exact h i2 kind (by simp [hm])
    obtain ⟨st', hst'⟩ := ih hnd.2 hs1 hrest
    exact ⟨st', by simp only [updateAggregates, h1, bind, Outcome.bind]; exact hst'⟩

theorem aggUpdateRow_progress {O : Oracles} {q : AggStmt} {env : Env} {st : AggState} (hs : AggSorted st)
    {b : Bool} (hpass : passes O q env = some b)
    (hkey : b = true → ∃ key, keyOf O q env = some key ∧
      ∀ i kind, (i, kind) ∈ rowSlots q → ∃ c, cellStep O q env kind (readCell st key i) = .ok c)
    (hkeys : ∀ c, HavingRef.key c ∈ q.havingVisit → validateGroupKey q c = .ok ()) :
    ∃ st', aggUpdateRow O q st env = .ok (st', b) := by
  cases b with
  | false => exact ⟨st, aggUpdateRow_ok_iff.mpr ⟨hpass, fun _ => rfl, nofun⟩⟩
  | true =>
    obtain ⟨key, hk, hslots⟩ := hkey rfl
    obtain ⟨st', hall⟩ := updateAggregates_progress (rowSlots q) (rowSlots_nodup q) hs hslots
    exact ⟨st', aggUpdateRow_ok_iff.mpr ⟨hpass, nofun, fun _ => ⟨key, hk, fun _ => hkeys, hall⟩⟩⟩

/-- every complete fold (each slot, each group, over all rows of the input) succeeds -/
def FoldsOk (O : Oracles) (q : AggStmt) (rowsAll : List (List Value × Env)) : Prop :=
  ∀ key i kind, (i, kind) ∈ rowSlots q → ∃ c, cellFold O q kind (rowsOfKey key rowsAll) {} = .ok c

theorem aggRun_progress {O : Oracles} {q : AggStmt} (envs : List Env) {st : AggState} {rows0 more : List (List Value × Env)}
    (hc : Coupled O q st rows0) (hk : keyedRows O q envs = some more) (hfolds : FoldsOk O q (rows0 ++ more))
    (hkeys : ∀ c, HavingRef.key c ∈ q.havingVisit → validateGroupKey q c = .ok ()) :
    ∃ st', aggRun O q envs st = .ok st' := by
  induction envs generalizing st rows0 more with
  | nil => exact ⟨st, rfl⟩
  | cons env rest ih =>
    simp only [keyedRows] at hk
    cases hp : passes O q env with
    | none => simp [hp] at hk
    | some b =>
      cases b with
      | false =>
        simp only [hp] at hk
        obtain ⟨st', hst'⟩ := ih hc hk hfolds
        exact ⟨st', by simp only [aggRun, aggUpdateRow_of_rejected hp, Outcome.bind]; exact hst'⟩
      | true =>
        simp only [hp] at hk
        cases hkey : keyOf O q env with
        | none => simp [hkey] at hk
        | some key =>
          cases hr : keyedRows O q rest with
          | none => simp [hkey, hr] at hk
          | some more' =>
            simp only [hkey, hr, Option.some.injEq] at hk
            subst hk
            have hslots : ∀ i kind, (i, kind) ∈ rowSlots q → ∃ c, cellStep O q env kind (readCell st key i) = .ok c := by
              intro i kind hm
              obtain ⟨c, hcf⟩ := hfolds key i kind hm
              -- the group's complete fold passes through the stored cell, then takes this row
              have hsplit : rowsOfKey key (rows0 ++ (key, env) :: more') = rowsOfKey key rows0 ++ env :: rowsOfKey key more' := by
                simp [rowsOfKey, sameKey, cmpList_refl]
              rw [hsplit, cellFold_append, hc.cells key i kind hm] at hcf
              simp only [Outcome.bind, cellFold] at hcf
              obtain ⟨c1, hc1, _⟩ := obind_ok hcf
              exact ⟨c1, hc1⟩
            obtain ⟨st1, h1⟩ := aggUpdateRow_progress hc.sorted hp (fun _ => ⟨key, hkey, hslots⟩) hkeys
            obtain ⟨_, _, htrue⟩ := coupled_step hc h1
            obtain ⟨key', hkey', hc1⟩ := htrue rfl
            cases hkey.symm.trans hkey'
            obtain ⟨st', hst'⟩ := ih hc1 hr (by simpa using hfolds)
            exact ⟨st', by simp only [aggRun, h1, Outcome.bind]; exact hst'⟩

theorem cellFold_groupKey {O : Oracles} {q : AggStmt} {e : Expr} {canon : String} (hv : validateGroupKey q canon = .ok ())
    (g : List Env) (c : Cell) : cellFold O q (.groupKey e canon) g c = .ok c := by
  induction g with
  | nil => rfl
  | cons env rest ih => simp only [cellFold, cellStep, hv, bind, Outcome.bind, pure]; exact ih

theorem validate_of_valid {q : AggStmt} {canon : String}
    (h : (match q.groupBy with
      | some parts => parts.any (·.2 == canon)
      | none => false) = true) : validateGroupKey q canon = .ok () := by
  unfold validateGroupKey
  cases hg : q.groupBy with
  | none => simp [hg] at h
  | some parts => simp only [hg] at h; simp [h]

theorem foldsOk_of_spec {O : Oracles} {q : AggStmt} (hwf : StmtWF q) {envs : List Env} {rows : List (List Value × Env)}
    (hr : keyedRows O q envs = some rows) {t : List (List Value)} (hspec : table O q envs = some t)
    (hclass : deviationClass O q envs = "") :
    FoldsOk O q rows ∧ (∀ c, HavingRef.key c ∈ q.havingVisit → validateGroupKey q c = .ok ()) := by
  obtain ⟨rows', hr', hvalid, hex, htab⟩ := table_eq_some hspec
  cases hr.symm.trans hr'
  simp only [keyRefsValid, Bool.and_eq_true, List.all_eq_true] at hvalid
  obtain ⟨hitems, hvisit⟩ := hvalid
  obtain ⟨_, hd15⟩ := deviationClass_empty hr hclass
  rw [tableOfGroups_eq] at htab
  refine ⟨?_, ?_⟩
  · intro key i kind hm
    by_cases hg : rowsOfKey key rows = []
    · rw [hg]; exact ⟨{}, rfl⟩
    · -- a key of some row represents the group
      obtain ⟨k0, hk0, hke⟩ : ∃ k0 ∈ rows.map (·.1), cmpList k0 key = .eq :=
        Classical.byContradiction fun hno => hg (rowsOfKey_nil_of_absent fun k' hk' he => hno ⟨k', hk', he⟩)
      rw [← rowsOfKey_congr hke rows]
      have hmemg : (k0, rowsOfKey k0 rows) ∈ groups rows :=
        List.mem_map.mpr ⟨k0, (distinctKeys_mem_iff hex k0).mpr hk0, rfl⟩
      have hkind : kind ∈ slotKinds q := by
        rw [rowSlots_eq hwf] at hm
        exact enumFrom_mem_snd _ _ _ _ hm
      cases hall : collect ((groups rows).map (perGroup O q)) with
      | none => simp [hall] at htab
      | some all =>
        obtain ⟨ra, hra⟩ := collect_some_mem hall _ (List.mem_map.mpr ⟨_, hmemg, rfl⟩)
        by_cases hgk : ∃ e c, kind = .groupKey e c
        · obtain ⟨e, canon, hkd⟩ := hgk
          subst hkd
          -- a key column of the select list (a HAVING aggregate cannot be a key reference: its value is not fixed)
          simp only [slotKinds, List.mem_append, List.mem_map] at hkind
          rcases hkind with ⟨item, hitem, hik⟩ | ⟨p, hp, hpk⟩
          · have := hitems item hitem
            rw [hik] at this
            exact ⟨{}, cellFold_groupKey (validate_of_valid this) _ _⟩
          · exfalso
            obtain ⟨x, hx'⟩ := accept_values hwf (perGroup_eq_some.mp hra).2 p hp
            rw [hpk] at hx'
            cases harg : arguments O q (AggKind.groupKey e canon) (rowsOfKey k0 rows) <;>
              simp [groupValue, harg, aggregate] at hx'
        · have hnk : ∀ e c, kind ≠ .groupKey e c := fun e c he => hgk ⟨e, c, he⟩
          obtain ⟨rv, hrv⟩ := perGroup_values hwf hra kind hkind hnk
          obtain ⟨c, hc, _⟩ := group_aggregate_refines (rowsOfKey_ne_nil hk0) hrv
            (firstNull_of_group (hd15 _ hmemg) hkind)
          exact ⟨c, hc⟩
  · intro c hc
    have := hvisit (.key c) hc
    exact validate_of_valid this

/-- **`agg_refines_spec`** (engine level, full): for every statement and every list of rows, if the specification
fixes the table and the input is outside the known deviation classes D10/D15, then feeding the rows to
`execute_update` one after the other succeeds and `execute_result` (+ LIMIT) shows exactly that table. -/
theorem engine_refines_spec_total {O : Oracles} {q : AggStmt} (hwf : StmtWF q) (envs : List Env) {t : List (List Value)}
    (hspec : table O q envs = some t) (hclass : deviationClass O q envs = "") :
    (aggRun O q envs {}).bind (fun st => finalResult O q { agg := st }) = .ok { columns := q.items.map (·.name), rows := t } := by
  obtain ⟨rows, hr, _⟩ := table_eq_some hspec
  obtain ⟨hfolds, hkeys⟩ := foldsOk_of_spec hwf hr hspec hclass
  obtain ⟨st, hst⟩ := aggRun_progress envs (coupled_init O q) hr (by simpa using hfolds) hkeys
  rw [hst]
  exact engine_refines_spec hwf envs hst hspec hclass

end Sqlgrep
