import SqlgrepModel.Lemmas.Lower
/-
Letter case of function and aggregate names does not matter to the lowering: every lookup goes through
`lowerChars`; the only trace of the spelling is the payload of `UndefinedFunction`.

This and the companion fact about locations (`Lemmas/LowerStrip.lean`: they are read only into errors) are one
statement: the lowering commutes with a relabelling of a tree — locations mapped by any `lf`, call names respelt by a
`ρ` that changes letter case only, column names left alone (`PExpr.mapAll lf id ρ`, `Lemmas/TreeMap.lean`) — up to the same
relabelling of the error (`lowerStatement_relabel`).
-/
namespace Sqlgrep

mutual
/-- respell every call name of a tree -/
def PExpr.renameCalls (ρ : List Char → List Char) : PExpr → PExpr
  | .value l v => .value l v
  | .column l n => .column l n
  | .wildcard l => .wildcard l
  | .tuple l vs => .tuple l (PExpr.renameCallsList ρ vs)
  | .binop l o a b => .binop l o (a.renameCalls ρ) (b.renameCalls ρ)
  | .boolop l o a b => .boolop l o (a.renameCalls ρ) (b.renameCalls ρ)
  | .unop l o e => .unop l o (e.renameCalls ρ)
  | .invert l e => .invert l (e.renameCalls ρ)
  | .nullcmp l n a b => .nullcmp l n (a.renameCalls ρ) (b.renameCalls ρ)
  | .inList l n e vs => .inList l n (e.renameCalls ρ) (PExpr.renameCallsList ρ vs)
  | .call l n args d => .call l (ρ n) (PExpr.renameCallsList ρ args) d
  | .index l a i => .index l (a.renameCalls ρ) (i.renameCalls ρ)
  | .cast l e t => .cast l (e.renameCalls ρ) t
  | .case l cs els => .case l (PExpr.renameCallsClauses ρ cs) (els.renameCalls ρ)
def PExpr.renameCallsList (ρ : List Char → List Char) : List PExpr → List PExpr
  | [] => []
  | x :: xs => x.renameCalls ρ :: PExpr.renameCallsList ρ xs
def PExpr.renameCallsClauses (ρ : List Char → List Char) : List (PExpr × PExpr) → List (PExpr × PExpr)
  | [] => []
  | (c, r) :: xs => (c.renameCalls ρ, r.renameCalls ρ) :: PExpr.renameCallsClauses ρ xs
end

/-- the respelling shows only in the payload of `UndefinedFunction` -/
def CErr.rename (ρ : List Char → List Char) (e : CErr) : CErr :=
  match e.kind with
  | .undefinedFunction n => ⟨e.loc, .undefinedFunction (ρ n)⟩
  | _ => e

def LRes.mapErr {α : Type} (f : CErr → CErr) : LRes α → LRes α
  | .ok a => .ok a
  | .err e => .err (f e)
  | .panic s => .panic s

mutual
def Lower.XExpr.relabel (lf : Loc → Loc) (ρ : List Char → List Char) : Lower.XExpr → Lower.XExpr
  | .plain e => .plain (e.mapAll lf id ρ)
  | .hole => .hole
  | .binop l o a b => .binop (lf l) o (a.relabel lf ρ) (b.relabel lf ρ)
  | .boolop o a b => .boolop o (a.relabel lf ρ) (b.relabel lf ρ)
  | .unop l o e => .unop (lf l) o (e.relabel lf ρ)
  | .invert e => .invert (e.relabel lf ρ)
  | .nullcmp n a b => .nullcmp n (a.relabel lf ρ) (b.relabel lf ρ)
  | .index a i => .index (a.relabel lf ρ) (i.relabel lf ρ)
  | .cast e t => .cast (e.relabel lf ρ) t
  | .call l n args => .call (lf l) (ρ n) (Lower.XExpr.relabelList lf ρ args)
def Lower.XExpr.relabelList (lf : Loc → Loc) (ρ : List Char → List Char) : List Lower.XExpr → List Lower.XExpr
  | [] => []
  | x :: xs => x.relabel lf ρ :: Lower.XExpr.relabelList lf ρ xs
end

def Lower.Extracted.relabel (lf : Loc → Loc) (ρ : List Char → List Char) : Lower.Extracted → Lower.Extracted
  | .column n => .column n
  | .call n args d => .call (ρ n) (PExpr.mapAllList lf id ρ args) d

def PSelect.relabel (lf : Loc → Loc) (ρ : List Char → List Char) (q : PSelect) : PSelect :=
  { q with loc := lf q.loc, projections := q.projections.map (fun p => (p.1, p.2.mapAll lf id ρ)),
           filter := q.filter.map (PExpr.mapAll lf id ρ), groupBy := q.groupBy.map (PExpr.mapAllList lf id ρ),
           having := q.having.map (PExpr.mapAll lf id ρ) }

def PCreate.relabel (lf : Loc → Loc) (c : PCreate) : PCreate := { c with loc := lf c.loc, endLoc := lf c.endLoc }

def POp.relabel (lf : Loc → Loc) (ρ : List Char → List Char) : POp → POp
  | .select q => .select (q.relabel lf ρ)
  | .createTable c => .createTable (c.relabel lf)
  | .multiple cs => .multiple (cs.map (PCreate.relabel lf))

def CErr.relabel (lf : Loc → Loc) (ρ : List Char → List Char) (e : CErr) : CErr :=
  ⟨lf e.loc, match e.kind with | .undefinedFunction n => .undefinedFunction (ρ n) | k => k⟩

namespace Lower

@[lower_mapErr] theorem mapErr_ok {α : Type} (f : CErr → CErr) (a : α) : (LRes.ok a).mapErr f = .ok a := rfl
@[lower_mapErr] theorem mapErr_err {α : Type} (f : CErr → CErr) (e : CErr) : (LRes.err e : LRes α).mapErr f = .err (f e) := rfl
theorem mapErr_panic {α : Type} (f : CErr → CErr) (s : String) : (LRes.panic s : LRes α).mapErr f = .panic s := rfl
@[lower_mapErr] theorem mapErr_bind {α β : Type} (g : CErr → CErr) (x : LRes α) (f : α → LRes β) :
    (x.bind f).mapErr g = (x.mapErr g).bind fun a => (f a).mapErr g := by cases x <;> rfl
@[lower_mapErr] theorem mapErr_ofOption {α : Type} (g : CErr → CErr) (e : CErr) (x : Option α) :
    (LRes.ofOption e x).mapErr g = .ofOption (g e) x := by cases x <;> rfl
@[lower_mapErr] theorem mapErr_ite {α : Type} (g : CErr → CErr) (c : Prop) [Decidable c] (x y : LRes α) :
    (if c then x else y).mapErr g = if c then x.mapErr g else y.mapErr g := apply_ite ..

theorem functionOfName_case {n1 n2 : List Char} (h : lowerChars n1 = lowerChars n2) :
    functionOfName n1 = functionOfName n2 := by
  unfold functionOfName; rw [h]

theorem isAggregateName_case {n1 n2 : List Char} (h : lowerChars n1 = lowerChars n2) :
    isAggregateName n1 = isAggregateName n2 := by
  unfold isAggregateName; rw [h]

/-- `transform_call_aggregate` sees the name only lower-cased -/
theorem lowerCallAggregate_case {n1 n2 : List Char} (h : lowerChars n1 = lowerChars n2) (loc args d i) :
    lowerCallAggregate loc n1 args d i = lowerCallAggregate loc n2 args d i := by
  unfold lowerCallAggregate; rw [h]

section
variable (lf : Loc → Loc) (ρ : List Char → List Char) (hρ : CaseOnly ρ)

theorem loc_mapAll (ρc : List Char → List Char) (e : PExpr) : PExpr.loc (e.mapAll lf ρc ρ) = lf (PExpr.loc e) := by
  cases e <;> rfl

theorem relabel_kind (e : CErr) : (CErr.relabel lf ρ e).kind = .undefinedAggregate ↔ e.kind = .undefinedAggregate := by
  unfold CErr.relabel; cases e.kind <;> simp

theorem holeOr_relabel (b : Bool) (x : XExpr) : (holeOr b x).relabel lf ρ = holeOr b (x.relabel lf ρ) := by
  cases b <;> rfl

theorem firstSome_relabel (a b : Option Extracted) :
    (firstSome a b).map (Extracted.relabel lf ρ) = firstSome (a.map (Extracted.relabel lf ρ)) (b.map (Extracted.relabel lf ρ)) := by
  cases a <;> rfl

/-- the argument loop of `extractAggregate`, its accumulator read as `firstSome` -/
theorem extractArgs_cons (x : PExpr) (xs : List PExpr) (acc : Option Extracted) :
    extractArgs (x :: xs) acc = ((extractArgs xs (firstSome (extractAggregate x).1 acc)).1,
      holeOr (extractAggregate x).2.1 (extractAggregate x).2.2 :: (extractArgs xs (firstSome (extractAggregate x).1 acc)).2) := by
  rw [extractArgs]; rfl

include hρ

/-- **letter case of function names does not matter, locations show only in errors** (expressions without aggregates) -/
theorem lowerPlain_relabel :
    (∀ e, lowerPlain (e.mapAll lf id ρ) = (lowerPlain e).mapErr (CErr.relabel lf ρ)) ∧
    (∀ es, lowerPlainList (PExpr.mapAllList lf id ρ es) = (lowerPlainList es).mapErr (CErr.relabel lf ρ)) ∧
    (∀ cs, lowerPlainClauses (PExpr.mapAllClauses lf id ρ cs) = (lowerPlainClauses cs).mapErr (CErr.relabel lf ρ)) := by
  have hfn : ∀ n, functionOfName (ρ n) = functionOfName n := fun n => functionOfName_case (hρ n)
  apply PExpr.induct3
  all_goals intros
  all_goals simp only [PExpr.mapAll, PExpr.mapAllList, PExpr.mapAllClauses, id_eq, lowerPlain, lowerPlainList,
    lowerPlainClauses, lower_bind, lowerBinop_eq, lowerUnop_eq, lowerCall_eq, lower_mapErr, CErr.relabel, *]

theorem countAggregates_relabel :
    (∀ e, countAggregates (e.mapAll lf id ρ) = countAggregates e) ∧
    (∀ es, countAggregatesList (PExpr.mapAllList lf id ρ es) = countAggregatesList es) ∧
    (∀ cs, countAggregatesClauses (PExpr.mapAllClauses lf id ρ cs) = countAggregatesClauses cs) := by
  have hn : ∀ n, isAggregateName (ρ n) = isAggregateName n := fun n => isAggregateName_case (hρ n)
  apply PExpr.induct3
  all_goals intros
  all_goals simp only [PExpr.mapAll, PExpr.mapAllList, PExpr.mapAllClauses, countAggregates, countAggregatesList,
    countAggregatesClauses, *]

theorem extractAggregate_relabel :
    (∀ e, extractAggregate (e.mapAll lf id ρ) =
      ((extractAggregate e).1.map (Extracted.relabel lf ρ), (extractAggregate e).2.1, (extractAggregate e).2.2.relabel lf ρ)) ∧
    (∀ es acc, extractArgs (PExpr.mapAllList lf id ρ es) (acc.map (Extracted.relabel lf ρ)) =
      ((extractArgs es acc).1.map (Extracted.relabel lf ρ), XExpr.relabelList lf ρ (extractArgs es acc).2)) ∧
    (∀ _cs : List (PExpr × PExpr), True) := by
  have hn : ∀ n, isAggregateName (ρ n) = isAggregateName n := fun n => isAggregateName_case (hρ n)
  apply PExpr.induct3
  case cons =>
    intro x xs ihx ihxs acc
    simp only [PExpr.mapAllList, extractArgs_cons, ihx, ← firstSome_relabel, ihxs, XExpr.relabelList, holeOr_relabel]
  case call =>
    intro l n args d ih
    simp only [PExpr.mapAll, extractAggregate, hn]
    split
    · rfl
    · have h := ih none
      rw [Option.map_none] at h
      simp only [h, XExpr.relabel]
  all_goals intros
  all_goals try simp only [PExpr.mapAll, PExpr.mapAllList, id_eq, extractAggregate, extractArgs, XExpr.relabel,
    XExpr.relabelList, Extracted.relabel, holeOr_relabel, firstSome_relabel, Option.map_some, Option.map_none, *]

theorem lowerX_relabel : ∀ x, lowerX (XExpr.relabel lf ρ x) = (lowerX x).mapErr (CErr.relabel lf ρ) := by
  have hfn : ∀ n, functionOfName (ρ n) = functionOfName n := fun n => functionOfName_case (hρ n)
  have hp := (lowerPlain_relabel lf ρ hρ).1
  apply XExpr.rec (motive_1 := fun x => lowerX (XExpr.relabel lf ρ x) = (lowerX x).mapErr (CErr.relabel lf ρ))
    (motive_2 := fun xs => lowerXList (XExpr.relabelList lf ρ xs) = (lowerXList xs).mapErr (CErr.relabel lf ρ))
  all_goals intros
  all_goals simp only [XExpr.relabel, XExpr.relabelList, lowerX, lowerXList, lower_bind, lowerBinop_eq, lowerUnop_eq,
    lowerCall_eq, lower_mapErr, CErr.relabel, *]

theorem lowerCallAggregate_relabel (loc n args d i) :
    lowerCallAggregate (lf loc) (ρ n) (PExpr.mapAllList lf id ρ args) d i
      = (lowerCallAggregate loc n args d i).mapErr (CErr.relabel lf ρ) := by
  have hp := (lowerPlain_relabel lf ρ hρ).1
  rw [lowerCallAggregate_eq, lowerCallAggregate_eq, hρ n]
  rcases args with _ | ⟨a, _ | ⟨b, _ | ⟨c, rest⟩⟩⟩
  all_goals simp only [PExpr.mapAllList, loc_mapAll, hp, lower_mapErr, CErr.relabel]

theorem lowerAggregate_relabel (tree : PExpr) (i : Nat) :
    lowerAggregate (tree.mapAll lf id ρ) i = (lowerAggregate tree i).mapErr (CErr.relabel lf ρ) := by
  simp only [lowerAggregate, lower_bind, (countAggregates_relabel lf ρ hρ).1, (extractAggregate_relabel lf ρ hρ).1,
    loc_mapAll, (lowerPlain_relabel lf ρ hρ).1, lower_mapErr, CErr.relabel]
  rcases (extractAggregate tree).1 with _ | _ | ⟨name, args, dd⟩
  all_goals simp only [Option.map_none, Option.map_some, Extracted.relabel, lowerCallAggregate_relabel lf ρ hρ,
    lowerX_relabel lf ρ hρ, lower_mapErr, CErr.relabel]

theorem lowerHaving_relabel :
    (∀ e st, lowerHaving (e.mapAll lf id ρ) st = (lowerHaving e st).mapErr (CErr.relabel lf ρ)) ∧
    (∀ es st, lowerHavingList (PExpr.mapAllList lf id ρ es) st = (lowerHavingList es st).mapErr (CErr.relabel lf ρ)) ∧
    (∀ cs st, lowerHavingClauses (PExpr.mapAllClauses lf id ρ cs) st = (lowerHavingClauses cs st).mapErr (CErr.relabel lf ρ)) := by
  have hfn : ∀ n, functionOfName (ρ n) = functionOfName n := fun n => functionOfName_case (hρ n)
  apply PExpr.induct3
  case call =>
    intro l n args d ih st
    simp only [PExpr.mapAll, lowerHaving, lower_bind, lowerCallAggregate_relabel lf ρ hρ]
    cases lowerCallAggregate l n args d 0 with
    | ok p => rfl
    | panic s => rfl
    | err e =>
      -- the test on the error kind is not affected; then as in every other arm
      simp only [lower_mapErr, ne_eq, relabel_kind]
      simp only [ih, lowerCall_eq, hfn, lower_mapErr, CErr.relabel]
  all_goals intros
  all_goals simp only [PExpr.mapAll, PExpr.mapAllList, PExpr.mapAllClauses, id_eq, lowerHaving, lowerHavingList,
    lowerHavingClauses, lower_bind, lowerBinop_eq, lowerUnop_eq, lower_mapErr, CErr.relabel, *]

theorem lowerOpt_relabel (o : Option PExpr) :
    lowerOpt lowerPlain (o.map (PExpr.mapAll lf id ρ)) = (lowerOpt lowerPlain o).mapErr (CErr.relabel lf ρ) := by
  cases o <;> simp only [Option.map, lowerOpt, lower_bind, (lowerPlain_relabel lf ρ hρ).1, lower_mapErr]

theorem lowerHavingOpt_relabel (o : Option PExpr) :
    lowerHavingOpt (o.map (PExpr.mapAll lf id ρ)) = (lowerHavingOpt o).mapErr (CErr.relabel lf ρ) := by
  cases o <;> simp only [Option.map, lowerHavingOpt, lower_bind, (lowerHaving_relabel lf ρ hρ).1, lower_mapErr]

theorem lowerGroupBy_relabel (o : Option (List PExpr)) :
    lowerGroupBy (o.map (PExpr.mapAllList lf id ρ)) = (lowerGroupBy o).mapErr (CErr.relabel lf ρ) := by
  cases o <;> simp only [Option.map, lowerGroupBy, lower_bind, (lowerPlain_relabel lf ρ hρ).2.1, lower_mapErr]

theorem lowerProjections_relabel : ∀ (ps : List (Option (List Char) × PExpr)) (i : Nat),
    lowerProjections (ps.map fun p => (p.1, p.2.mapAll lf id ρ)) i = (lowerProjections ps i).mapErr (CErr.relabel lf ρ)
  | [], _ => rfl
  | p :: rest, i => by
    simp only [List.map_cons, lowerProjections, lower_bind, (lowerPlain_relabel lf ρ hρ).1,
      lowerProjections_relabel rest, lower_mapErr]

theorem lowerItems_relabel : ∀ (ps : List (Option (List Char) × PExpr)) (i : Nat),
    lowerItems (ps.map fun p => (p.1, p.2.mapAll lf id ρ)) i = (lowerItems ps i).mapErr (CErr.relabel lf ρ)
  | [], _ => rfl
  | p :: rest, i => by
    simp only [List.map_cons, lowerItems, lower_bind, lowerAggregate_relabel lf ρ hρ, lowerItems_relabel rest, lower_mapErr]

omit hρ in
theorem lowerJoin_relabel (loc f j) : lowerJoin (lf loc) f j = (lowerJoin loc f j).mapErr (CErr.relabel lf ρ) := by
  cases j <;> simp only [lowerJoin, lower_mapErr, CErr.relabel]

theorem anyAggregates_relabel (ps : List (Option (List Char) × PExpr)) :
    anyAggregates (ps.map fun p => (p.1, p.2.mapAll lf id ρ)) = anyAggregates ps := by
  simp only [anyAggregates, List.any_map, Function.comp_def, (countAggregates_relabel lf ρ hρ).1]

theorem lowerSelect_relabel (q : PSelect) :
    lowerSelect (q.relabel lf ρ) = (lowerSelect q).mapErr (CErr.relabel lf ρ) := by
  simp only [lowerSelect, lower_bind, PSelect.relabel, lowerProjections_relabel lf ρ hρ, lowerOpt_relabel lf ρ hρ,
    lowerJoin_relabel lf ρ, lower_mapErr]

theorem lowerAggregateStmt_relabel (q : PSelect) :
    lowerAggregateStmt (q.relabel lf ρ) = (lowerAggregateStmt q).mapErr (CErr.relabel lf ρ) := by
  simp only [lowerAggregateStmt, lower_bind, PSelect.relabel, lowerItems_relabel lf ρ hρ, lowerOpt_relabel lf ρ hρ,
    lowerHavingOpt_relabel lf ρ hρ, lowerJoin_relabel lf ρ, lowerGroupBy_relabel lf ρ hρ, lower_mapErr]

omit hρ in
theorem lowerCreate_relabel (rv : List Char → Bool) (c : PCreate) :
    lowerCreate rv (c.relabel lf) = (lowerCreate rv c).mapErr (CErr.relabel lf ρ) := by
  simp only [lowerCreate, lower_bind, PCreate.relabel, lower_mapErr, CErr.relabel]
  cases h : lowerColumns c.columns with
  | err e => exact absurd h (lowerColumns_noErr _ _)
  | _ => rfl

omit hρ in
theorem lowerCreates_relabel (rv : List Char → Bool) : ∀ cs : List PCreate,
    lowerCreates rv (cs.map (PCreate.relabel lf)) = (lowerCreates rv cs).mapErr (CErr.relabel lf ρ)
  | [] => rfl
  | c :: rest => by
    simp only [List.map_cons, lowerCreates, lower_bind, lowerCreate_relabel lf ρ, lowerCreates_relabel rv rest, lower_mapErr]

/-- **the lowering commutes with a relabelling of the tree**: other locations and other letter case in call names give
the same lowered statement, and the same error up to its location and the spelling carried by `UndefinedFunction` -/
theorem lowerStatement_relabel (rv : List Char → Bool) (t : POp) :
    lowerStatement rv (t.relabel lf ρ) = (lowerStatement rv t).mapErr (CErr.relabel lf ρ) := by
  cases t with
  | select q =>
    simp only [POp.relabel, lowerStatement, lowerSelect_relabel lf ρ hρ, lowerAggregateStmt_relabel lf ρ hρ, lower_mapErr,
      CErr.relabel]
    simp only [PSelect.relabel, Option.isSome_map, anyAggregates_relabel lf ρ hρ]
  | createTable c => exact lowerCreate_relabel lf ρ rv c
  | multiple cs => simp only [POp.relabel, lowerStatement, lower_bind, lowerCreates_relabel lf ρ, lower_mapErr]

end

theorem renameCalls_eq_mapAll (ρ : List Char → List Char) :
    (∀ e, PExpr.renameCalls ρ e = e.mapAll id id ρ) ∧ (∀ es, PExpr.renameCallsList ρ es = PExpr.mapAllList id id ρ es) ∧
    (∀ cs, PExpr.renameCallsClauses ρ cs = PExpr.mapAllClauses id id ρ cs) := by
  apply PExpr.induct3
  all_goals intros
  all_goals simp only [PExpr.renameCalls, PExpr.renameCallsList, PExpr.renameCallsClauses, PExpr.mapAll,
    PExpr.mapAllList, PExpr.mapAllClauses, id, *]

theorem rename_eq_relabel (ρ : List Char → List Char) : CErr.rename ρ = CErr.relabel id ρ := by
  funext ⟨l, k⟩; cases k <;> rfl

theorem lowerPlain_case (ρ : List Char → List Char) (hρ : CaseOnly ρ) (e : PExpr) :
    lowerPlain (e.renameCalls ρ) = (lowerPlain e).mapErr (CErr.rename ρ) := by
  rw [(renameCalls_eq_mapAll ρ).1, rename_eq_relabel]; exact (lowerPlain_relabel id ρ hρ).1 e

theorem renameCallsList_length (ρ) : ∀ es : List PExpr, (PExpr.renameCallsList ρ es).length = es.length := by
  intro es; induction es with
  | nil => simp [PExpr.renameCallsList]
  | cons x xs ih => simp [PExpr.renameCallsList, ih]

/-- errors the respelling cannot show in: everything but `UndefinedFunction` -/
theorem rename_other (ρ) (loc : Loc) (k : CErrKind) (h : ∀ n, k ≠ .undefinedFunction n) : CErr.rename ρ ⟨loc, k⟩ = ⟨loc, k⟩ := by
  unfold CErr.rename; cases k <;> simp_all

end Lower

/-- respell every call name of a SELECT (projections, WHERE, GROUP BY, HAVING) -/
def PSelect.renameCalls (ρ : List Char → List Char) (q : PSelect) : PSelect :=
  { q with projections := q.projections.map (fun p => (p.1, p.2.renameCalls ρ)),
           filter := q.filter.map (PExpr.renameCalls ρ),
           groupBy := q.groupBy.map (PExpr.renameCallsList ρ),
           having := q.having.map (PExpr.renameCalls ρ) }

def POp.renameCalls (ρ : List Char → List Char) : POp → POp
  | .select q => .select (q.renameCalls ρ)
  | t => t

namespace Lower

theorem renameCalls_op_eq_relabel (ρ : List Char → List Char) (t : POp) : t.renameCalls ρ = t.relabel id ρ := by
  have h1 : PExpr.renameCalls ρ = PExpr.mapAll id id ρ := funext (renameCalls_eq_mapAll ρ).1
  have h2 : PExpr.renameCallsList ρ = PExpr.mapAllList id id ρ := funext (renameCalls_eq_mapAll ρ).2.1
  cases t with
  | select q => simp only [POp.renameCalls, POp.relabel, PSelect.renameCalls, PSelect.relabel, h1, h2, id]
  | createTable c => rfl
  | multiple cs => exact congrArg POp.multiple (List.map_id cs).symm

/-- **letter case of function and aggregate names does not matter to a whole statement**: respelling every call name
of a SELECT (projections, WHERE, GROUP BY, HAVING) by a change of letter case gives the same lowered statement; an
error differs only in the spelling carried by `UndefinedFunction` -/
theorem lowerStatement_rename (ρ : List Char → List Char) (hρ : CaseOnly ρ) (rv : List Char → Bool) (t : POp) :
    lowerStatement rv (t.renameCalls ρ) = (lowerStatement rv t).mapErr (CErr.rename ρ) := by
  rw [renameCalls_op_eq_relabel, rename_eq_relabel]; exact lowerStatement_relabel id ρ hρ rv t

end Lower
end Sqlgrep
