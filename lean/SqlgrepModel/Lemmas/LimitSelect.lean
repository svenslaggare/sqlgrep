import SqlgrepModel.Lemmas.SelectRun
/-
Varying LIMIT / DISTINCT of a non-aggregate statement: the candidate rows of the lines do not depend on them, so a
statement that differs at most in them runs over the same candidate rows (`runBatch_of_sameRows`, what C07 and C08 rest on),
and a run without LIMIT that does not fail is one that the specification decides.
-/
namespace Sqlgrep
open Sqlgrep.Spec.Select

/-- the same query with another non-aggregate statement -/
def Query.withSelect (qy : Query) (q : SelectStmt) : Query := { qy with stmt := .select q }

def SelectStmt.withLimit (q : SelectStmt) (lim : Option Nat) : SelectStmt := { q with limit := lim }
def SelectStmt.withDistinct (q : SelectStmt) (d : Bool) : SelectStmt := { q with distinct := d }
@[simp] theorem SelectStmt.withLimit_limit (q : SelectStmt) (lim : Option Nat) : (q.withLimit lim).limit = lim := rfl
@[simp] theorem SelectStmt.withLimit_distinct (q : SelectStmt) (lim : Option Nat) :
    (q.withLimit lim).distinct = q.distinct := rfl
@[simp] theorem SelectStmt.withDistinct_distinct (q : SelectStmt) (d : Bool) : (q.withDistinct d).distinct = d := rfl
@[simp] theorem SelectStmt.withDistinct_limit (q : SelectStmt) (d : Bool) : (q.withDistinct d).limit = q.limit := rfl

/-- two statements that differ at most in LIMIT and DISTINCT -/
def SameRows (q q' : SelectStmt) : Prop :=
  q'.projections = q.projections ∧ q'.wildcard = q.wildcard ∧ q'.filter = q.filter

theorem sameRows_limit (q : SelectStmt) (lim : Option Nat) : SameRows q (q.withLimit lim) := ⟨rfl, rfl, rfl⟩
theorem sameRows_distinct (q : SelectStmt) (d : Bool) : SameRows q (q.withDistinct d) := ⟨rfl, rfl, rfl⟩
theorem sameRows_both (q : SelectStmt) (lim : Option Nat) (d : Bool) :
    SameRows q ((q.withDistinct d).withLimit lim) := ⟨rfl, rfl, rfl⟩

theorem envRow_same (O : Oracles) (q q' : SelectStmt) (h : SameRows q q') (env : Env) (keys : List String) :
    envRow O q' env keys = envRow O q env keys := by
  obtain ⟨h1, h2, h3⟩ := h
  simp only [envRow, outExprs, h1, h2, h3]

theorem envsRows_same (O : Oracles) (q q' : SelectStmt) (h : SameRows q q') (envs : List (Env × List String)) :
    envsRows O q' envs = envsRows O q envs := by
  induction envs with
  | nil => rfl
  | cons p rest ih =>
    obtain ⟨env, keys⟩ := p
    simp only [envsRows, envRow_same O q q' h, ih]

theorem lineRows_same (O : Oracles) (qy : Query) (q q' : SelectStmt) (h : SameRows q q') (idx : JoinIndex) (l : Line) :
    lineRows O (qy.withSelect q') q' idx l = lineRows O qy q idx l := by
  have e : ∀ ao, lineEnvs (qy.withSelect q') idx ao l = lineEnvs qy idx ao l := fun _ => rfl
  simp only [lineRows, e, envsRows_same O q q' h]

theorem linesRows_same (O : Oracles) (qy : Query) (q q' : SelectStmt) (h : SameRows q q') (idx : JoinIndex)
    (ls : List Line) : linesRows O (qy.withSelect q') q' idx ls = linesRows O qy q idx ls := by
  induction ls with
  | nil => rfl
  | cons l ls ih => simp only [linesRows, lineRows_same O qy q q' h, ih]

theorem batchBlocks_same (O : Oracles) (qy : Query) (q q' : SelectStmt) (h : SameRows q q') (joined : List FileLine)
    (files : List (List FileLine)) :
    batchBlocks O (qy.withSelect q') q' joined files = batchBlocks O qy q joined files := by
  have e : joinIndexOf (qy.withSelect q') joined = joinIndexOf qy joined := rfl
  simp only [batchBlocks, e, linesRows_same O qy q q' h]

theorem columnsOf_same (qy : Query) (q q' : SelectStmt) (h : SameRows q q') :
    columnsOf (qy.withSelect q') q' = columnsOf qy q := by
  obtain ⟨h1, h2, _⟩ := h
  have e : queryKeys (qy.withSelect q') = queryKeys qy := rfl
  simp only [columnsOf, outNames, e, h1, h2]

/-- a statement that differs from `q` at most in LIMIT and DISTINCT runs over the candidate rows of `q` -/
theorem runBatch_of_sameRows (O : Oracles) (qy : Query) {q q' : SelectStmt} (hs : SameRows q q')
    (joined : List FileLine) (files : List (List FileLine)) {blocks : List (List (List Value))}
    (hb : batchBlocks O qy q joined files = some blocks) :
    runBatch O (qy.withSelect q') joined files none =
      { printed := render (columnsOf qy q) (outBlocks q' blocks),
        totalLines := linesConsumed q'.limit (applyDistinct q'.distinct blocks) } := by
  rw [← batchBlocks_same O qy q q' hs] at hb
  rw [runBatch_select_eq_spec O _ q' rfl joined files blocks hb, runOf, columnsOf_same qy q q' hs]

theorem hasFailed_error (ro : RunOut) (k : ErrKind) : hasFailed { ro with error := some k } = true := by
  simp [hasFailed]

theorem runFile_unlimited_ok (O : Oracles) (qy : Query) (q : SelectStmt) (hq : qy.stmt = .select q)
    (hl : q.limit = none) (idx : JoinIndex) (w : Bool) (fls : List FileLine) (ls : LoopState)
    (h : hasFailed (runFile O qy idx w none fls ls).out = false) :
    (∀ fl ∈ fls, fl.readable = true) ∧ ∃ blocks, linesRows O qy q idx (fls.map (·.line)) = .ok blocks := by
  induction fls generalizing ls with
  | nil =>
    refine ⟨?_, [], rfl⟩
    intro fl hfl
    cases hfl
  | cons fl rest ih =>
    cases hr : fl.readable with
    | false =>
      rw [runFile_cons_unreadable O qy idx w fl rest ls hr] at h
      cases h
    | true =>
      rcases Outcome.ok_or_not (executeLine O qy idx w ls.es fl.line) with ⟨⟨es1, lo⟩, hx⟩ | hx
      · rw [runFile_cons_ok O qy idx w fl rest ls es1 lo hr hx, executeLine_select_reached O qy q hq idx w ls.es es1 fl.line lo hx,
          reachedLimit_select_nolimit qy q hq hl, if_neg Bool.false_ne_true] at h
        rw [executeLine_select O qy q hq] at hx
        obtain ⟨b, hb, _⟩ := Outcome.bind_eq_ok hx
        obtain ⟨h1, bs, h2⟩ := ih _ h
        refine ⟨?_, b :: bs, ?_⟩
        · intro x hx
          rcases List.mem_cons.1 hx with rfl | hx
          · exact hr
          · exact h1 x hx
        · simp only [List.map_cons, linesRows, hb, h2, Outcome.bind_def, Outcome.ok_bind, Outcome.pure_eq]
      · rw [runFile_cons_failed O qy idx w fl rest ls hr hx, lineFailed, failWith_hasFailed _ hx] at h
        cases h

/-- a batch run without LIMIT that does not fail: the join was set up, every line was readable and every
expression had a value on every admitted line — the specification decides it -/
theorem batchBlocks_of_unlimited_ok (O : Oracles) (qy : Query) (q : SelectStmt) (hq : qy.stmt = .select q)
    (hl : q.limit = none) (joined : List FileLine) (files : List (List FileLine))
    (h : hasFailed (runBatch O qy joined files none) = false) :
    ∃ blocks, batchBlocks O qy q joined files = some blocks := by
  cases hj : joinIndexOf qy joined with
  | ok idx =>
    rw [runBatch_select_out O qy q hq joined files idx hj] at h
    have h0 : reachedLimit qy ({} : LoopState).es = false := by simp [reachedLimit, hq, hl]
    rw [runFiles_eq, if_neg (by simp [h0])] at h
    obtain ⟨h1, blocks, h2⟩ := runFile_unlimited_ok O qy q hq hl idx true files.flatten {} h
    refine ⟨blocks, ?_⟩
    have hall : files.flatten.all (·.readable) = true := List.all_eq_true.2 (fun x hx => by simpa using h1 x hx)
    simp only [batchBlocks, hj, hall, if_true, h2]
  | error k =>
    rw [runBatch_join_failed O qy joined files (by intro idx; rw [hj]; intro e; cases e)] at h; cases h
  | panic s =>
    rw [runBatch_join_failed O qy joined files (by intro idx; rw [hj]; intro e; cases e)] at h; cases h
  | oracleMissing s =>
    rw [runBatch_join_failed O qy joined files (by intro idx; rw [hj]; intro e; cases e)] at h; cases h

end Sqlgrep
