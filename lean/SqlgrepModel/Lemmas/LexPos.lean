import SqlgrepModel.Lemmas.LexRun
/-
Locations: the lines of a text (the unique split at `\n`), what "inside the text" means for a location, and the
invariant that every location the tokenizer produces — token locations and error locations — is inside the text.
Also two facts about the result as a whole: an accepted text's token vector ends with `End` (`tokenize_ends_eof`), and the
tokenizer never answers `missing` (`tokenize_never_missing`).
-/
namespace Sqlgrep.Lex
open Sqlgrep

/-- `(complete lines, current line)` while reading a text from the left -/
def splitStep (s : List (List Char) × List Char) (c : Char) : List (List Char) × List Char :=
  if c = '\n' then (s.1 ++ [s.2], []) else (s.1, s.2 ++ [c])

def splitFold (text : List Char) : List (List Char) × List Char := text.foldl splitStep ([], [])

/-- the split of a text at `\n`: one more piece than there are `\n` (the last piece may be empty) -/
def textLines (text : List Char) : List (List Char) := (splitFold text).1 ++ [(splitFold text).2]

/-- a location lies inside the text: its line exists and its column is at most the length of that line -/
def Inside (text : List Char) (loc : Loc) : Prop :=
  ∃ l, (textLines text)[loc.line]? = some l ∧ loc.column ≤ l.length

theorem splitFold_snoc (pre : List Char) (c : Char) : splitFold (pre ++ [c]) = splitStep (splitFold pre) c := by
  simp [splitFold, List.foldl_append]

theorem Inside.snoc {pre : List Char} {loc : Loc} (h : Inside pre loc) (c : Char) : Inside (pre ++ [c]) loc := by
  obtain ⟨l, hl, hc⟩ := h
  unfold Inside textLines at *
  rw [splitFold_snoc]
  generalize splitFold pre = s at hl ⊢
  obtain ⟨d, cur⟩ := s
  simp only at hl
  unfold splitStep
  by_cases hn : c = '\n'
  · simp only [hn, if_true]
    refine ⟨l, ?_, hc⟩
    rw [List.getElem?_append_left (by
      have := (List.getElem?_eq_some_iff.mp hl).1
      simpa using this)]
    exact hl
  · simp only [hn, if_false]
    by_cases hlt : loc.line < d.length
    · rw [List.getElem?_append_left hlt] at hl ⊢
      exact ⟨l, hl, hc⟩
    · have hlen := (List.getElem?_eq_some_iff.mp hl).1
      simp only [List.length_append, List.length_cons, List.length_nil] at hlen
      have he : loc.line = d.length := by omega
      rw [he, List.getElem?_append_right (Nat.le_refl _)] at hl ⊢
      simp only [Nat.sub_self, List.getElem?_cons_zero, Option.some.injEq] at hl ⊢
      subst hl
      exact ⟨_, rfl, by simp; omega⟩

theorem Inside.append {pre : List Char} {loc : Loc} (h : Inside pre loc) (rest : List Char) : Inside (pre ++ rest) loc := by
  induction rest generalizing pre with
  | nil => simpa using h
  | cons c rest ih =>
    have := ih (h.snoc c)
    simpa using this

def unsplit (s : List (List Char) × List Char) : List Char := s.1.flatMap (· ++ ['\n']) ++ s.2

theorem unsplit_step (s : List (List Char) × List Char) (c : Char) : unsplit (splitStep s c) = unsplit s ++ [c] := by
  unfold splitStep unsplit
  split
  · rename_i h; simp [h]
  · simp

theorem unsplit_foldl (text : List Char) : ∀ s, unsplit (text.foldl splitStep s) = unsplit s ++ text := by
  induction text with
  | nil => intro s; simp
  | cons c text ih => intro s; rw [List.foldl_cons, ih, unsplit_step]; simp

theorem unsplit_splitFold (text : List Char) : unsplit (splitFold text) = text := by
  have := unsplit_foldl text ([], [])
  simpa [unsplit, splitFold] using this

theorem noNl_foldl (text : List Char) : ∀ s : List (List Char) × List Char, (∀ l ∈ s.1, '\n' ∉ l) → '\n' ∉ s.2 →
    (∀ l ∈ (text.foldl splitStep s).1, '\n' ∉ l) ∧ '\n' ∉ (text.foldl splitStep s).2 := by
  induction text with
  | nil => intro s h1 h2; exact ⟨h1, h2⟩
  | cons c text ih =>
    intro s h1 h2
    rw [List.foldl_cons]
    apply ih
    · unfold splitStep
      split
      · intro l hl
        simp only [List.mem_append, List.mem_cons, List.not_mem_nil, or_false] at hl
        rcases hl with hl | rfl
        · exact h1 l hl
        · exact h2
      · exact h1
    · unfold splitStep
      split
      · simp
      · rename_i hc
        simp only [List.mem_append, List.mem_cons, List.not_mem_nil, or_false, not_or]
        exact ⟨h2, fun e => hc e.symm⟩

theorem textLines_noNl (text : List Char) : ∀ l ∈ textLines text, '\n' ∉ l := by
  have := noNl_foldl text ([], []) (fun _ h => by cases h) (by simp)
  intro l hl
  unfold textLines at hl
  simp only [List.mem_append, List.mem_cons, List.not_mem_nil, or_false] at hl
  rcases hl with hl | rfl
  · exact this.1 l hl
  · exact this.2

structure Pos where
  line : Nat
  col : Nat
  start : Nat
  locs : List Loc

def St.pos (st : St) : Pos := ⟨st.line, st.col, st.start, st.toks.map (·.loc)⟩

def Pos.add (p : Pos) : Pos := ⟨p.line, p.col, p.col, ⟨p.line, p.start⟩ :: p.locs⟩

def Pos.advance (p : Pos) (c : Char) : Pos :=
  if c = '\n' then ⟨p.line + 1, 0, 0, p.locs⟩ else ⟨p.line, p.col + 1, p.start, p.locs⟩

/-- the position bookkeeping agrees with the text read so far, and every token location is inside it -/
structure GoodPos (pre : List Char) (p : Pos) : Prop where
  line : p.line = (splitFold pre).1.length
  col : p.col = (splitFold pre).2.length
  start : p.start ≤ p.col
  locs : ∀ loc ∈ p.locs, Inside pre loc

theorem GoodPos.here {pre : List Char} {p : Pos} (h : GoodPos pre p) {c : Nat} (hc : c ≤ p.col) : Inside pre ⟨p.line, c⟩ := by
  refine ⟨(splitFold pre).2, ?_, by rw [← h.col]; exact hc⟩
  unfold textLines
  rw [h.line, List.getElem?_append_right (Nat.le_refl _)]
  simp

theorem GoodPos.add {pre : List Char} {p : Pos} (h : GoodPos pre p) : GoodPos pre p.add :=
  ⟨h.line, h.col, Nat.le_refl _, by
    intro loc hl
    simp only [Pos.add, List.mem_cons] at hl
    rcases hl with rfl | hl
    · exact h.here h.start
    · exact h.locs loc hl⟩

theorem GoodPos.tail {pre : List Char} {p : Pos} (h : GoodPos pre p) : GoodPos pre { p with locs := p.locs.tail } :=
  ⟨h.line, h.col, h.start, fun loc hl => h.locs loc (List.mem_of_mem_tail hl)⟩

theorem GoodPos.advance {pre : List Char} {p : Pos} (h : GoodPos pre p) (c : Char) : GoodPos (pre ++ [c]) (p.advance c) := by
  unfold Pos.advance
  by_cases hn : c = '\n'
  · simp only [hn, if_true]
    refine ⟨?_, ?_, Nat.le_refl _, fun loc hl => (h.locs loc hl).snoc _⟩
    · simp [splitFold_snoc, splitStep, h.line]
    · simp [splitFold_snoc, splitStep]
  · simp only [hn, if_false]
    refine ⟨?_, ?_, Nat.le_succ_of_le h.start, fun loc hl => (h.locs loc hl).snoc _⟩
    · simp [splitFold_snoc, splitStep, hn, h.line]
    · simp [splitFold_snoc, splitStep, hn, h.col]

/-- a character consumed by an inner loop (never a line break) -/
theorem GoodPos.consume {pre : List Char} {p : Pos} (h : GoodPos pre p) {c : Char} (hn : c ≠ '\n') :
    GoodPos (pre ++ [c]) { p with col := p.col + 1 } := by
  have := h.advance c
  simp only [Pos.advance, hn, if_false] at this
  exact this

theorem pos_add (st : St) (t : Tok) : (st.add t).pos = st.pos.add := rfl

theorem pos_setLast (st : St) (t : Tok) : (st.setLast t).pos = st.pos := by
  unfold St.setLast
  split
  · rfl
  · next p rest h => rw [St.pos, St.pos, h]; rfl

theorem pos_advance (st : St) (c : Char) : (st.advance c).pos = st.pos.advance c := by
  unfold St.advance Pos.advance
  split <;> rfl

theorem pos_addOp (st : St) (c : Char) : (addOp st c).pos = st.pos.add := rfl

theorem GoodPos.tail_toks {pre : List Char} {st st' : St} (h : GoodPos pre st.pos)
    (e : st'.pos = ⟨st.line, st.col, st.start, st.toks.tail.map (·.loc)⟩) : GoodPos pre st'.pos := by
  rw [e, List.map_tail]; exact h.tail

theorem TokOp.goodPos {pre : List Char} {a b a' b' : St} (ht : TokOp a b a' b') (h : GoodPos pre a.pos) :
    GoodPos pre a'.pos := by
  cases ht with
  | add t _ => exact h.add
  | addOp c => exact h.add
  | setLast t _ _ => rw [pos_setLast]; exact h

theorem body_good (o : Oracles) {pre : List Char} {st : St} (c : Char) (h : GoodPos pre st.pos) :
    GoodPos (pre ++ [c]) (body o st c).pos := by
  have ha : GoodPos (pre ++ [c]) (st.advance c).pos := by rw [pos_advance]; exact h.advance c
  have h1 : GoodPos (pre ++ [c]) (st.advance c).dashCheck.pos := by
    unfold St.dashCheck
    split
    · exact ha.tail_toks rfl
    · exact ha
  rw [body_eq]
  rcases bodyCore_cases o st.prevOp _ c with ⟨cur, esc, com, p, e⟩ | ⟨cur, esc, ht⟩
  · rw [e]; exact h1
  · exact ht.goodPos h1

def ROk (pre : List Char) (r : R) : Prop :=
  match r with
  | .run st' => GoodPos pre st'.pos
  | .fail loc _ => Inside pre loc
  | .missing _ => True

theorem ROk.bind {pre pre' : List Char} {r : R} {f : St → R} (h : ROk pre r)
    (hi : ∀ loc, Inside pre loc → Inside pre' loc) (hf : ∀ st, GoodPos pre st.pos → ROk pre' (f st)) : ROk pre' (r.bind f) := by
  cases r with
  | run st => exact hf st h
  | fail loc e => exact hi loc h
  | missing w => trivial

theorem flush_good (o : Oracles) {pre : List Char} {st : St} (h : GoodPos pre st.pos) : ROk pre (flush o st) := by
  rcases flush_cases o st with ⟨_, e⟩ | ⟨_, ⟨s', ht, e⟩ | ⟨_, e⟩⟩ <;> rw [e]
  · exact h
  · exact ht.goodPos h
  · exact h.here (Nat.le_refl _)

theorem not_nl_of_cont (o : Oracles) {c : Char} (h : isWordCont o c = true ∨ (o.info c).numeric = true ∨ c = '.') :
    c ≠ '\n' := by
  rintro rfl
  obtain ⟨_, hn, ha, _⟩ := info_special o '\n' (by decide)
  rw [isWordCont, ha, hn] at h
  revert h; decide

theorem step_good (o : Oracles) {pre : List Char} {st : St} (c : Char) (h : GoodPos pre st.pos) :
    ROk (pre ++ [c]) (step o st c) := by
  rcases step_cases o st c with ⟨p, _, _, hc, e⟩ | ⟨_, e⟩ | e <;> rw [e]
  · exact h.consume (not_nl_of_cont o hc)
  · exact (h.here (Nat.le_refl _)).snoc c
  · exact (flush_good o h).bind (fun _ hl => hl.snoc c) (fun _ => body_good o c)

theorem run_good (o : Oracles) (rest : List Char) : ∀ {pre : List Char} {st : St}, GoodPos pre st.pos →
    ROk (pre ++ rest) (run o st rest) := by
  induction rest with
  | nil => intro pre st h; rw [List.append_nil]; exact h
  | cons c rest ih =>
    intro pre st h
    rw [run_cons, List.append_cons]
    exact (step_good o c h).bind (fun _ hl => hl.append rest) (fun _ => ih)

theorem init_good : GoodPos [] ({} : St).pos := ⟨rfl, rfl, Nat.le_refl _, fun _ h => nomatch h⟩

theorem close_good {pre : List Char} {st : St} (h : GoodPos pre st.pos) : GoodPos pre st.close.pos := by
  unfold St.close
  split
  · exact (h.tail_toks (st' := { st with toks := st.toks.tail }) rfl).add
  · exact h.add

/-- every location in the result of `tokenize` — of a token or of the error — is inside the text -/
theorem tokenize_inside (o : Oracles) (text : List Char) :
    match tokenize o text with
    | .ok ts => ∀ p ∈ ts, Inside text p.loc
    | .error loc _ => Inside text loc
    | .missing _ => True := by
  have h : ROk text ((run o {} text).bind (finish o)) :=
    (run_good o text init_good).bind (fun _ hl => hl) fun _ hg =>
      (flush_good o hg).bind (fun _ hl => hl) fun _ => close_good
  rw [tokenize_eq]
  generalize (run o {} text).bind (finish o) = r at h
  cases r with
  | run st => exact fun p hp => (h : GoodPos text st.pos).locs p.loc (List.mem_map_of_mem (List.mem_reverse.mp hp))
  | fail loc e => exact h
  | missing w => trivial

theorem tokenize_ends_eof (o : Oracles) (text : List Char) (ts : List PTok) (h : tokenize o text = .ok ts) :
    ∃ init loc, ts = init ++ [⟨loc, .eof⟩] := by
  obtain ⟨st, st', _, _, rfl⟩ := (tokenize_ok o text ts).mp h
  exact ⟨_, _, by rw [St.close_toks, List.reverse_cons]⟩

theorem R.bind_ne_missing {r : R} {f : St → R} {w : List Char} (hr : r ≠ .missing w) (hf : ∀ st, f st ≠ .missing w) :
    r.bind f ≠ .missing w := by
  cases r with
  | run st => exact hf st
  | fail l e => exact R.noConfusion
  | missing w' => exact hr

theorem flush_ne_missing (o : Oracles) (st : St) (w : List Char) : flush o st ≠ .missing w := by
  rcases flush_cases o st with ⟨_, e⟩ | ⟨_, ⟨_, _, e⟩ | ⟨_, e⟩⟩ <;> rw [e] <;> exact R.noConfusion

theorem run_ne_missing (o : Oracles) (w text : List Char) : ∀ st, run o st text ≠ .missing w := by
  induction text with
  | nil => exact fun _ => R.noConfusion
  | cons c cs ih =>
    intro st
    rw [run_cons]
    refine R.bind_ne_missing ?_ ih
    rcases step_cases o st c with ⟨_, _, _, _, e⟩ | ⟨_, e⟩ | e <;> rw [e]
    · exact R.noConfusion
    · exact R.noConfusion
    · exact R.bind_ne_missing (flush_ne_missing o st w) fun _ => R.noConfusion

/-- **`missing` never happens**: a number text without a shipped `f64::from_str` fact is converted by
`DecFloat.parseF64`, so the tokenizer needs no oracle for numbers -/
theorem tokenize_never_missing (o : Oracles) (text : List Char) (w : List Char) : tokenize o text ≠ .missing w := by
  have h : (run o {} text).bind (finish o) ≠ .missing w :=
    R.bind_ne_missing (run_ne_missing o w text {}) fun st => R.bind_ne_missing (flush_ne_missing o st w) fun _ => R.noConfusion
  rw [tokenize_eq]
  cases hr : (run o {} text).bind (finish o) with
  | run st => exact Result.noConfusion
  | fail l e => exact Result.noConfusion
  | missing w' => intro e; cases e; exact h hr

end Sqlgrep.Lex
