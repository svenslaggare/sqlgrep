import SqlgrepModel.Lemmas.ParseLit
import SqlgrepModel.Lemmas.LexPos
import SqlgrepModel.Lemmas.LexNear
import SqlgrepModel.Lemmas.LexNearPiece
import SqlgrepModel.Lemmas.LexFast
import SqlgrepModel.Lemmas.FloatGrammar
/-
C14 — parsing is total: any text yields a statement or a located error — **tokenizer half**.
(The parser half is `Props/C14.lean`; this file is imported by `Lemmas/Pipeline.lean` and `Props/C14Text.lean`.)

Model (`Model/Lex.lean`): `tokenize` as the character fold; `extractNear` = `TokenLocation::extract_near` with every
slice as a bounds-checked access (`Near.panic` where Rust's slice indexing would panic).  All statements hold for every
text (any list of characters: any Unicode, any length) and every oracle `o` (Unicode classes of non-ASCII characters,
`f64::from_str`).

Where a location is: `textLines text` is the unique split of the text at `\n` (`split_exact`: the lines, each complete
one followed by `\n`, give the text back and none contains `\n`; there is one more line than there are `\n`, the last
one possibly empty).  `Inside text loc` says: line number `loc.line` exists among these lines and `loc.column` is
at most the length (in characters) of that line.  The column *can* equal the line length (an error at the end of a
line, see the `example`s) — it is a position between characters, not the index of a character.
`str::lines()`, which `extract_near` uses, yields the same lines except that it drops a final empty line and removes a
`\r` before the `\n`; a location on the (empty) last line of a text ending in `\n`, or in the empty text, is inside
the text although `lines()` has no such line: `extract_near` then yields the empty excerpt (`extractNear`'s `none` arm).
-/
namespace Sqlgrep.Props.C14Lex
open Sqlgrep Sqlgrep.Lex

/-- the split at `\n` that locations refer to loses, duplicates and reorders nothing -/
theorem split_exact (text : List Char) :
    ((splitFold text).1.flatMap (· ++ ['\n']) ++ (splitFold text).2 = text) ∧ ∀ l ∈ textLines text, '\n' ∉ l :=
  ⟨unsplit_splitFold text, textLines_noNl text⟩

/-- **`str::lines()` against the split**: the lines `extract_near` indexes are the complete lines of the split with a
`\r` directly before the `\n` removed, followed by the rest of the text if that is not empty.  So a location inside
the text is either on one of those lines, or on the empty last line (a text that is empty or ends in `\n`), where
`extract_near` takes its `None` arm and yields the empty excerpt. -/
theorem lines_spec (text : List Char) :
    lines text = (splitFold text).1.map stripCr ++ (if (splitFold text).2.isEmpty then [] else [(splitFold text).2]) :=
  lines_eq text

/-- **The error position lies inside the text**: `loc.line` is the number of an existing line and
`loc.column ≤` the length of that line. -/
theorem error_location_inside (o : Oracles) (text : List Char) (loc : Loc) (e : LexErr)
    (h : tokenize o text = .error loc e) : Inside text loc := by
  have := tokenize_inside o text
  rw [h] at this
  exact this

/-- every token of a successful result is located inside the text -/
theorem token_locations_inside (o : Oracles) (text : List Char) (ts : List PTok) (h : tokenize o text = .ok ts) :
    ∀ p ∈ ts, Inside text p.loc := by
  have := tokenize_inside o text
  rw [h] at this
  exact this

/-- **Tokenizing is total**: for every text the result is a token list that ends in `End` with every token located
inside the text, or an error located inside the text, or — only when the number oracle does not know a number text
the tokenizer had to convert — `missing` (the function itself is total: a Lean definition by structural recursion). -/
theorem tokenize_total (o : Oracles) (text : List Char) :
    (∃ ts init loc, tokenize o text = .ok ts ∧ ts = init ++ [⟨loc, .eof⟩] ∧ ∀ p ∈ ts, Inside text p.loc) ∨
    (∃ loc e, tokenize o text = .error loc e ∧ Inside text loc) ∨
    (∃ w, tokenize o text = .missing w ∧ o.fparse w = .missing) := by
  cases h : tokenize o text with
  | ok ts =>
    obtain ⟨init, loc, he⟩ := tokenize_ends_eof o text ts h
    exact Or.inl ⟨ts, init, loc, rfl, he, token_locations_inside o text ts h⟩
  | error loc e => exact Or.inr (Or.inl ⟨loc, e, rfl, error_location_inside o text loc e h⟩)
  | missing w => exact absurd h (tokenize_never_missing o text w)

/-- **Tokenizing is total, with no oracle hypothesis**: whatever number facts a case ships (none, some, all), the
result is tokens ending in `End` or a located error — a number text without a shipped fact is converted by
`DecFloat.parseF64` (`tokenize_never_missing`). -/
theorem tokenize_total_no_oracle (o : Oracles) (text : List Char) :
    (∃ ts init loc, tokenize o text = .ok ts ∧ ts = init ++ [⟨loc, .eof⟩] ∧ ∀ p ∈ ts, Inside text p.loc) ∨
    (∃ loc e, tokenize o text = .error loc e ∧ Inside text loc) := by
  rcases tokenize_total o text with h | h | ⟨w, hw, _⟩
  · exact Or.inl h
  · exact Or.inr h
  · exact absurd hw (tokenize_never_missing o text w)

/-- with an oracle that answers every number text (as `f64::from_str` does) the result is tokens or a located error
(the hypothesis is not needed: `tokenize_total_no_oracle`) -/
theorem tokenize_total_of_total_oracle (o : Oracles) (_ho : ∀ w, o.fparse w ≠ .missing) (text : List Char) :
    (∃ ts init loc, tokenize o text = .ok ts ∧ ts = init ++ [⟨loc, .eof⟩] ∧ ∀ p ∈ ts, Inside text p.loc) ∨
    (∃ loc e, tokenize o text = .error loc e ∧ Inside text loc) := tokenize_total_no_oracle o text

/-- **The 'near …' excerpt can be produced**: for every text and every location — produced by the tokenizer or
not, inside the text or not — `extract_near` performs no out-of-range slice access. -/
theorem extract_near_total (o : Oracles) (loc : Loc) (text : List Char) : ∃ s, extractNear o loc text = .text s :=
  extractNear_text o loc text

/-- **The excerpt is a piece of the located line**: for every text and every location whose line `str::lines()`
yields, the excerpt reads like a contiguous part of that line — `off` characters in, `len` characters long, inside the
line — in which whitespace characters may be shown as a space (`SimChars`: equal character by character, or a space
for a whitespace character).  (Consecutive words of a line are separated by exactly one whitespace character:
`Lemmas/LexNearPiece.lean`.)  For a location whose line does not exist the excerpt is empty. -/
theorem excerpt_is_piece (o : Oracles) (loc : Loc) (text line s : List Char) (hl : (lines text)[loc.line]? = some line)
    (h : extractNear o loc text = .text s) :
    ∃ off len, off + len ≤ line.length ∧ SimChars o s ((line.drop off).take len) :=
  extractNear_piece o loc text line s hl h

theorem excerpt_empty_without_line (o : Oracles) (loc : Loc) (text : List Char) (hl : (lines text)[loc.line]? = none) :
    extractNear o loc text = .text [] := by
  unfold extractNear; rw [hl]

/-- in particular for the location of a tokenizer error -/
theorem error_excerpt (o : Oracles) (text : List Char) (loc : Loc) (e : LexErr) (_ : tokenize o text = .error loc e) :
    ∃ s, extractNear o loc text = .text s := extract_near_total o loc text

/-! ### a number that is out of range is an error

`flushNumber` is the code after the tokenizer's number loop (`i64::from_str` on the collected digit run); the number loop
only ever collects ASCII digits and dots, and `classify` starts a number only at a digit, so a run without a dot is
exactly a non-empty digit string. -/

/-- **a digit run is a token exactly when its value fits 64 bits; otherwise the tokenizer reports `intConvert`, located
at the current position** — never a wrapped, saturated or truncated number -/
theorem int_run_token_or_error (o : Oracles) (st : St) (w : List Char) (hne : w ≠ [])
    (hd : ∀ c ∈ w, Lit.isDigit c.toNat = true) :
    flushNumber o st w false =
      (if Lit.digitsVal (w.map Char.toNat) < 2 ^ 63 then .run (st.add (.int (Lit.digitsVal (w.map Char.toNat))))
       else .fail ⟨st.line, st.col⟩ .intConvert) := by
  have hne' : w.map Char.toNat ≠ [] := by simpa using hne
  have hall : ∀ b ∈ w.map Char.toNat, Lit.isDigit b = true := by
    intro b hb; obtain ⟨c, hc, rfl⟩ := List.mem_map.1 hb; exact hd c hc
  -- `i64::from_str` answers a number exactly for the literals in range (`Lit.parseI64_exact`); a digit run has no sign
  have hp : Lit.parseI64 (w.map Char.toNat) =
      if Lit.digitsVal (w.map Char.toNat) < 2 ^ 63 then some (Lit.digitsVal (w.map Char.toNat) : Int) else none := by
    by_cases hlt : Lit.digitsVal (w.map Char.toNat) < 2 ^ 63
    · rw [if_pos hlt]
      exact (Lit.parseI64_exact _ _).2 ⟨⟨_, hne', hall, .inl ⟨rfl, rfl⟩⟩, by omega, by omega⟩
    · rw [if_neg hlt]
      cases hq : Lit.parseI64 (w.map Char.toNat) with
      | none => rfl
      | some n =>
        obtain ⟨⟨ds, _, _, ⟨e, rfl⟩ | ⟨e, _⟩ | ⟨e, _⟩⟩, _, hhi⟩ := (Lit.parseI64_exact _ _).1 hq
        · rw [← e] at hhi; omega
        · exact absurd (hall 43 (e ▸ List.mem_cons_self)) (by decide)
        · exact absurd (hall 45 (e ▸ List.mem_cons_self)) (by decide)
  unfold flushNumber
  rw [if_neg nofun, hp]
  by_cases hlt : Lit.digitsVal (w.map Char.toNat) < 2 ^ 63
  · rw [if_pos hlt, if_pos hlt]
  · rw [if_neg hlt, if_neg hlt]

/-- a number is out of range → error -/
theorem int_out_of_range_is_error (o : Oracles) (st : St) (w : List Char) (hne : w ≠ [])
    (hd : ∀ c ∈ w, Lit.isDigit c.toNat = true) (hbig : 2 ^ 63 ≤ Lit.digitsVal (w.map Char.toNat)) :
    flushNumber o st w false = .fail ⟨st.line, st.col⟩ .intConvert := by
  rw [int_run_token_or_error o st w hne hd, if_neg (by omega)]

/-- a number with a fraction is a token or the error `floatConvert`, as `f64::from_str` decides — never a panic, and
never `missing`: without a shipped fact the conversion is `DecFloat.parseF64` -/
theorem float_run_token_or_error (o : Oracles) (st : St) (w : List Char) :
    (∃ b, flushNumber o st w true = .run (st.add (.float b))) ∨
    flushNumber o st w true = .fail ⟨st.line, st.col⟩ .floatConvert := by
  unfold flushNumber
  simp only [if_true]
  cases o.fparse w with
  | bits b => exact Or.inl ⟨b, rfl⟩
  | err => simp
  | missing =>
    cases DecFloat.parseF64 w with
    | some b => exact Or.inl ⟨b, rfl⟩
    | none => simp

/-- the oracle that ships no number fact at all: every number text is converted by `DecFloat.parseF64`
(`Model/DecFloat.lean`, proved to round correctly in `Lemmas/DecFloat.lean`) -/
def noNumberFacts (ext : Char → CharInfo) : Oracles := { ext := ext, fparse := fun _ => .missing }

/-- without any shipped fact the REAL token of a number text with a fraction is `f64::from_str` as computed in Lean -/
theorem float_token_is_parseF64 (ext : Char → CharInfo) (st : St) (w : List Char) :
    flushNumber (noNumberFacts ext) st w true =
      match DecFloat.parseF64 w with
      | some b => .run (st.add (.float b))
      | none => .fail ⟨st.line, st.col⟩ .floatConvert := rfl

/-! ### what `f64::from_str` accepts: the grammar (L2)

`Spec/FloatGrammar.lean` formalises the grammar of Rust's `impl FromStr for f64` as inductive predicates with a
denotation, and `Lemmas/FloatGrammar.lean` proves `DecFloat.parseF64` sound and complete for it. The grammar has two
readings of the exponent digits: `FloatGrammar.FloatD text v` — the documented grammar, every digit string by its
mathematical value — and `FloatGrammar.FloatR text v` — what Rust computes: `dec2flt::parse::parse_scientific` stops
accumulating exponent digits once the accumulated magnitude has reached `0x10000` (observation N3 of DESIGN.md), and so
does the model (`DecFloat.capDigitsVal`). The two agree on every text whose exponent digits' value is below 65 536
(`FloatGrammar.ExpSmall`, decidable on the text); they differ observably only from ≈ 65 230 mantissa digits on
(`DecFloat.capped_exponent_witness`: `0.` + 65 299 zeros + `1e655360` is read as 1e236, not inf). SQL number tokens have
no exponent at all (`DecFloat.expSmall_of_no_e`). -/

/-- **from_str_grammar.** `DecFloat.parseF64 s` answers `Ok(b)` exactly when `s` is a `Float` of the grammar
`Sign? ( 'inf' | 'infinity' | 'nan' | (Digit+ | Digit+ '.' Digit* | Digit* '.' Digit+) ('e' Sign? Digit+)? )` (words and
`e` in any letter case) and `b` is the REAL of one of its denotations (`DecFloat.bitsOf`: the decimal
`(-1)^neg · mant · 10^exp` rounded to nearest, ties to even, `inf` from the overflow threshold on; the infinities; Rust's
NaN) — with Rust's reading of the exponent (`FloatR`) for every text, and with the documented reading (`FloatD`, the
mathematical value of the exponent digits) for every text whose exponent digits' value is below 65 536 (`ExpSmall`); and
`Err` exactly when the grammar does not derive `s` (for every text); the REAL is a function of the text. -/
theorem from_str_grammar (s : List Char) :
    (∀ b, DecFloat.parseF64 s = some b ↔ ∃ v, FloatGrammar.FloatR s v ∧ DecFloat.bitsOf v = b) ∧
    (DecFloat.parseF64 s = none ↔ ¬ ∃ v, FloatGrammar.FloatD s v) ∧
    (∀ v v', FloatGrammar.FloatR s v → FloatGrammar.FloatR s v' → DecFloat.bitsOf v = DecFloat.bitsOf v') ∧
    (FloatGrammar.ExpSmall s →
      (∀ v, FloatGrammar.FloatR s v ↔ FloatGrammar.FloatD s v) ∧
      (∀ b, DecFloat.parseF64 s = some b ↔ ∃ v, FloatGrammar.FloatD s v ∧ DecFloat.bitsOf v = b)) :=
  ⟨DecFloat.parseF64_iff_rust s, DecFloat.parseF64_none_iff s, fun _ _ h h' => DecFloat.FloatR.unique_bits h h',
   fun hs => ⟨DecFloat.floatR_iff_floatD hs, DecFloat.parseF64_iff hs⟩⟩

/-- the REAL token of a number text with a fraction, by the grammar: the text of a `Float` becomes the token carrying the
REAL of its denotation, any other text (`1.2e`, `1.e+`) is the located error `floatConvert`. (`ExpSmall w`: the exponent
digits' value is below 65 536 — true of every number token of the tokenizer, which has no exponent:
`DecFloat.expSmall_of_no_e`.) -/
theorem float_token_by_grammar (ext : Char → CharInfo) (st : St) (w : List Char) (hs : FloatGrammar.ExpSmall w) :
    (∀ v, FloatGrammar.FloatD w v → flushNumber (noNumberFacts ext) st w true = .run (st.add (.float (DecFloat.bitsOf v)))) ∧
    ((¬ ∃ v, FloatGrammar.FloatD w v) → flushNumber (noNumberFacts ext) st w true = .fail ⟨st.line, st.col⟩ .floatConvert) := by
  constructor
  · intro v hv
    rw [float_token_is_parseF64, (DecFloat.parseF64_iff hs _).2 ⟨v, hv, rfl⟩]
  · intro hn
    rw [float_token_is_parseF64, (DecFloat.parseF64_none_iff w).2 hn]

/-! ### non-vacuity and sharpness -/

/-- the hypotheses of `int_out_of_range_is_error` are met by the smallest number that does not fit, and the largest that
fits is a token -/
example : (∀ c ∈ "9223372036854775808".toList, Lit.isDigit c.toNat = true) ∧
    2 ^ 63 ≤ Lit.digitsVal ("9223372036854775808".toList.map Char.toNat) ∧
    tokenize Tables.asciiOnly "x = 9223372036854775808".toList = .error ⟨0, 23⟩ .intConvert ∧
    tokenize Tables.asciiOnly "9223372036854775807".toList = .ok [⟨⟨0, 0⟩, .int 9223372036854775807⟩, ⟨⟨0, 19⟩, .eof⟩] := by
  rw [String.toList_ofList, String.toList_ofList, String.toList_ofList, tokenize_eq_K, tokenize_eq_K]; decide +kernel


/-- an error in the middle of a line: `1.2.3` fails at the second dot, column 3 of a line of length 5 -/
example : tokenize Tables.asciiOnly "a\n1.2.3".toList = .error ⟨1, 3⟩ .alreadyHasDot := by
  rw [String.toList_ofList, tokenize_eq_K]; decide +kernel

/-- the column can equal the line length: the integer does not fit, the error is located after it -/
example : tokenize Tables.asciiOnly "99999999999999999999".toList = .error ⟨0, 20⟩ .intConvert := by
  rw [String.toList_ofList, tokenize_eq_K]; decide +kernel

/-- the `End` token of a text ending in a line break is on the last (empty) line, which `str::lines()` does not yield -/
example : tokenize Tables.asciiOnly "a\n".toList = .ok [⟨⟨0, 0⟩, .ident ['a']⟩, ⟨⟨1, 0⟩, .eof⟩] ∧
    lines "a\n".toList = [['a']] ∧ textLines "a\n".toList = [['a'], []] := by
  rw [String.toList_ofList, tokenize_eq_K]; decide +kernel

example : extractNear Tables.asciiOnly ⟨0, 7⟩ "select 1.2.3 from t".toList = .text "select 1.2.3 from".toList := by
  rw [String.toList_ofList, String.toList_ofList]; decide +kernel

/-- a tab between the words is shown as a space: the excerpt reads like the piece, it is not always equal to it -/
example : extractNear Tables.asciiOnly ⟨0, 3⟩ "ab\tcd ef".toList = .text "ab cd ef".toList := by
  rw [String.toList_ofList, String.toList_ofList]; decide +kernel

/-- derivations in the `f64::from_str` grammar: `-12.50e+3` denotes `-1250 · 10^1`, `.5` denotes `5 · 10^-1`, `5.` denotes
`5 · 10^0`, `iNf` is the infinity -/
example : FloatGrammar.FloatD "-12.50e+3".toList (.dec true 1250 1) :=
  .number (sg := ['-']) (body := "12.50e+3".toList) .minus
    (FloatGrammar.NumberDV.point (ip := ['1', '2']) (fp := ['5', '0']) (e := ['e', '+', '3']) (ev := 3) (by decide) (by decide)
      (Or.inl (by decide)) (FloatGrammar.ExpDV.some (sg := ['+']) (ds := ['3']) (neg := false) (Or.inl rfl) .plus (by decide)))
example : FloatGrammar.FloatD ".5".toList (.dec false 5 (-1)) :=
  .number (sg := []) (body := ".5".toList) .none
    (FloatGrammar.NumberDV.point (ip := []) (fp := ['5']) (e := []) (ev := 0) (by decide) (by decide) (Or.inr (by decide)) .none)
example : FloatGrammar.FloatD "5.".toList (.dec false 5 0) :=
  .number (sg := []) (body := "5.".toList) .none
    (FloatGrammar.NumberDV.point (ip := ['5']) (fp := []) (e := []) (ev := 0) (by decide) (by decide) (Or.inl (by decide)) .none)
example : FloatGrammar.FloatD "+iNf".toList (.inf false) :=
  .inf (sg := ['+']) (w := "iNf".toList) .plus
    (.cons (Or.inl rfl) (.cons (Or.inr rfl) (.cons (Or.inl rfl) .nil)))
-- … and what the function answers for them (by `from_str_grammar` these are the REALs of the denotations above)
example : DecFloat.parseF64 "-12.50e+3".toList = some 0xc0c86a0000000000 ∧ DecFloat.bitsOf (.dec true 1250 1) = 0xc0c86a0000000000 := by
  decide +kernel
example : DecFloat.parseF64 ".5".toList = some 0x3fe0000000000000 ∧ DecFloat.parseF64 "5.".toList = some 0x4014000000000000
    ∧ DecFloat.parseF64 "+iNf".toList = some 0x7ff0000000000000 ∧ DecFloat.parseF64 "-NAN".toList = some 0xfff8000000000000
    ∧ DecFloat.parseF64 "InFiNiTy".toList = some 0x7ff0000000000000 ∧ DecFloat.parseF64 "1e400".toList = some 0x7ff0000000000000 := by
  decide +kernel
-- texts outside the grammar: `Err` (so, by `from_str_grammar`, no derivation exists)
example : DecFloat.parseF64 "".toList = none ∧ DecFloat.parseF64 "-".toList = none ∧ DecFloat.parseF64 ".".toList = none
    ∧ DecFloat.parseF64 "1e".toList = none ∧ DecFloat.parseF64 "1e+".toList = none ∧ DecFloat.parseF64 " 1".toList = none
    ∧ DecFloat.parseF64 "1_0".toList = none ∧ DecFloat.parseF64 "0x10".toList = none ∧ DecFloat.parseF64 "infinit".toList = none
    ∧ DecFloat.parseF64 "+-1".toList = none ∧ DecFloat.parseF64 "1.2.3".toList = none ∧ DecFloat.parseF64 "１".toList = none := by
  decide +kernel
example : ¬ ∃ v, FloatGrammar.FloatD "1e+".toList v := (from_str_grammar _).2.1.1 (by decide +kernel)
-- the hypothesis `ExpSmall` of the documented-grammar half holds for the texts above and fails from `e65536` on; the
-- witness of the cap, for every number `n` of zeros: Rust's exponent is 65 536, the documented one 655 360
example : FloatGrammar.ExpSmall "-12.50e+3".toList ∧ FloatGrammar.ExpSmall "1e400".toList ∧ FloatGrammar.ExpSmall "5.".toList
    ∧ FloatGrammar.ExpSmall "1e65535".toList ∧ ¬ FloatGrammar.ExpSmall "1e65536".toList := by decide +kernel
example (n : Nat) : DecFloat.parseF64 (DecFloat.capWitness n) = some (DecFloat.decToF64 false 1 (65536 - ((n + 1 : Nat) : Int)))
    ∧ FloatGrammar.FloatD (DecFloat.capWitness n) (.dec false 1 (655360 - ((n + 1 : Nat) : Int))) :=
  ⟨(DecFloat.capped_exponent_witness n).1, (DecFloat.capped_exponent_witness n).2.1⟩

end Sqlgrep.Props.C14Lex
