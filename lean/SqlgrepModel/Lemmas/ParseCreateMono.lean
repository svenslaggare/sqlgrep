import SqlgrepModel.Lemmas.ParseSelectHead
/-
Fuel monotonicity of the CREATE TABLE path of the statement parser (`parse_type` … `parse_multiple_create_table`,
`Parser::parse`): more fuel never changes an answer that is not "out of fuel" (`PLe`). The SELECT path, and `Parser::parse`
whatever the first token (`parseOp_mono_le`), are in `Lemmas/ParseSemicolon.lean`, the expression parser in `Lemmas/ClimbMono.lean`.
-/
namespace Sqlgrep
namespace Parse
namespace Concat

theorem typeBrackets_mono : ∀ (n k : Nat) (s : PSt), PLe (typeBrackets n k s) (typeBrackets (n + 1) k s) := by
  intro n
  induction n with
  | zero => intro k s; rw [typeBrackets]; exact PLe.fuel _
  | succ n ih => intro k s; rw [typeBrackets, typeBrackets]; simp only [parse_bind]; mono_walk [ih]

theorem parseType_mono (n : Nat) (s : PSt) : PLe (parseType n s) (parseType (n + 1) s) := by
  unfold parseType; simp only [parse_bind]; mono_walk [typeBrackets_mono]

theorem parseDefineColumn_mono (T : PrecTables) (n : Nat) (p : PColParsing) (s : PSt) :
    PLe (parseDefineColumn T n p s) (parseDefineColumn T (n + 1) p s) := by
  unfold parseDefineColumn; simp only [parse_bind]; mono_walk [parseType_mono, (mono_all T n).p]

theorem refLoop_mono : ∀ (n : Nat) (acc : List PRegexRef) (s : PSt), PLe (refLoop n acc s) (refLoop (n + 1) acc s) := by
  intro n
  induction n with
  | zero => intro acc s; rw [refLoop]; exact PLe.fuel _
  | succ n ih => intro acc s; rw [refLoop, refLoop]; simp only [parse_bind]; mono_walk [ih]

theorem optRefs_mono (n : Nat) (f : PRegexRef) (s : PSt) : PLe (optRefs n f s) (optRefs (n + 1) f s) := by
  unfold optRefs; mono_walk [refLoop_mono]

theorem jsonLoop_mono : ∀ (n : Nat) (acc : List PJsonStep) (s : PSt), PLe (jsonLoop n acc s) (jsonLoop (n + 1) acc s) := by
  intro n
  induction n with
  | zero => intro acc s; rw [jsonLoop]; exact PLe.fuel _
  | succ n ih => intro acc s; rw [jsonLoop, jsonLoop]; simp only [parse_bind]; mono_walk [ih]

theorem colItem_mono (T : PrecTables) (n : Nat) (ps : Patterns) (cs : List PColDef) (s : PSt) :
    PLe (colItem T n ps cs s) (colItem T (n + 1) ps cs s) := by
  unfold colItem; simp only [parse_bind]; mono_walk [optRefs_mono, parseDefineColumn_mono, jsonLoop_mono]

theorem colLoop_mono (T : PrecTables) : ∀ (n : Nat) (ps : Patterns) (cs : List PColDef) (s : PSt),
    PLe (colLoop T n ps cs s) (colLoop T (n + 1) ps cs s) := by
  intro n
  induction n with
  | zero => intro ps cs s; rw [colLoop]; exact PLe.fuel _
  | succ n ih => intro ps cs s; rw [colLoop, colLoop]; simp only [parse_bind]; mono_walk [colItem_mono, ih]

theorem parseCreateTable_mono (T : PrecTables) (n : Nat) (s : PSt) :
    PLe (parseCreateTable T n s) (parseCreateTable T (n + 1) s) := by
  unfold parseCreateTable; simp only [parse_bind]; mono_walk [colLoop_mono]

theorem multiCreateLoop_mono (T : PrecTables) : ∀ (n : Nat) (acc : List PCreate) (s : PSt),
    PLe (multiCreateLoop T n acc s) (multiCreateLoop T (n + 1) acc s) := by
  intro n
  induction n with
  | zero => intro acc s; rw [multiCreateLoop]; exact PLe.fuel _
  | succ n ih =>
    intro acc s; rw [multiCreateLoop, multiCreateLoop]; simp only [parse_bind]; mono_walk [parseCreateTable_mono, ih]

theorem parseCreateTable_mono_le (T : PrecTables) {f f' : Nat} (h : f ≤ f') (s : PSt) :
    PLe (parseCreateTable T f s) (parseCreateTable T f' s) :=
  PLe.of_step (fun n => parseCreateTable_mono T n s) h

/-- `Parser::parse` on a token vector that starts with CREATE: more fuel, same answer -/
theorem parseOp_create_mono_le (T : PrecTables) {f f' : Nat} (h : f ≤ f') (s : PSt) (hs : s.cur.tok = .kw .create) :
    PLe (parseOp T f s) (parseOp T f' s) := by
  unfold parseOp parseStatement
  simp only [hs, ne_eq, not_true_eq_false, and_false, if_false]
  rcases PLe.of_step (fun n => multiCreateLoop_mono T n [] s) h with hm | hm
  · rw [hm]; exact PLe.fuel _
  · rw [hm]; exact PLe.refl _

end Concat
end Parse
end Sqlgrep
