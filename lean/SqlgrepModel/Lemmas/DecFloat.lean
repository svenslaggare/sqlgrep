import SqlgrepModel.Model.DecFloat
import SqlgrepModel.Lemmas.FloatOrder
/-
`DecFloat.decToF64` is *correct rounding*: theorems about the function the drivers execute.

Everything is stated in exact arithmetic on naturals, in units of 2^-1074 (`F64.umag`): the number `N / D` is
`A / D` units with `A = N · 2^1074`, a finite REAL `y` is `umag y` units, and the distance between them — over the
common denominator `D` — is `adist A (umag y · D)`.

* `magBits_nearest`: no finite REAL is closer to `N / D` than the result (when the result is finite);
* `magBits_tie_even`: if another REAL is exactly as close, the result's last mantissa bit is 0 (ties to even);
* `magBits_overflow_iff`: the result is `+inf` exactly from the midpoint between the largest finite REAL and `2^1024` on;
* `magBits_exact`: a number that *is* a finite REAL converts to that REAL; `decToF64_int`: integers below 2^53;
* `decToF64_neg`: sign symmetry; `clamp_inf_sound` / `clamp_zero_sound`: the exponent clamps of `decToF64`
  answer what the exact computation would answer;
* `magBits_mono`: the conversion is monotone (weakly increasing patterns for increasing numbers).
-/
namespace Sqlgrep
namespace DecFloat
open F64

/-- `|a − b|` on naturals -/
def adist (a b : Nat) : Nat := (a - b) + (b - a)

/-- all that linear arithmetic needs to know of `adist`, which stays folded elsewhere -/
theorem adist_cases (a b : Nat) : (a ≤ b ∧ adist a b + a = b) ∨ (b ≤ a ∧ adist a b + b = a) := by
  unfold adist
  rcases Nat.le_total a b with h | h
  · exact .inl ⟨h, by rw [Nat.sub_eq_zero_of_le h, Nat.zero_add, Nat.sub_add_cancel h]⟩
  · exact .inr ⟨h, by rw [Nat.sub_eq_zero_of_le h, Nat.add_zero, Nat.sub_add_cancel h]⟩

theorem adist_eq_zero {a b : Nat} : adist a b = 0 ↔ a = b := by
  have := adist_cases a b; omega

theorem adist_add_left (a b c : Nat) : adist (a + b) (a + c) = adist b c := by
  unfold adist; rw [Nat.add_sub_add_left, Nat.add_sub_add_left]

/-- two different multiples of `den` are `den` apart, so no number is nearer than `den / 2` to both -/
theorem adist_grid (A den : Nat) {s t : Nat} (h : s ≠ t) : den ≤ adist A (s * den) + adist A (t * den) := by
  have lt : ∀ {s t}, s < t → den ≤ adist A (s * den) + adist A (t * den) := by
    intro s t h
    have := Nat.mul_le_mul_right den (Nat.succ_le_of_lt h)
    rw [Nat.succ_mul] at this
    have hs := adist_cases A (s * den)
    have ht := adist_cases A (t * den)
    omega
  rcases Nat.lt_or_gt_of_ne h with h | h
  · exact lt h
  · rw [Nat.add_comm]; exact lt h

theorem mid_of_adist_le {u v : Nat} (h : u < v) (A : Nat) :
    (adist A v ≤ adist A u → u + v ≤ 2 * A) ∧ (adist A u ≤ adist A v → 2 * A ≤ u + v) := by
  have hu := adist_cases A u
  have hv := adist_cases A v
  omega

theorem roundQ_cases (q r den : Nat) :
    (roundQ q r den = q ∧ 2 * r ≤ den) ∨ (roundQ q r den = q + 1 ∧ den ≤ 2 * r) := by
  unfold roundQ
  by_cases h1 : 2 * r < den
  · rw [if_pos h1]; exact .inl ⟨rfl, Nat.le_of_lt h1⟩
  · rw [if_neg h1]
    by_cases h2 : den < 2 * r
    · rw [if_pos h2]; exact .inr ⟨rfl, Nat.le_of_lt h2⟩
    · rw [if_neg h2]
      rcases Nat.mod_two_eq_zero_or_one q with h | h <;> rw [h]
      · exact .inl ⟨rfl, Nat.le_of_not_lt h2⟩
      · exact .inr ⟨rfl, Nat.le_of_not_lt h1⟩

theorem roundQ_ge (q r den : Nat) : q ≤ roundQ q r den := by
  rcases roundQ_cases q r den with h | h <;> omega
theorem roundQ_le (q r den : Nat) : roundQ q r den ≤ q + 1 := by
  rcases roundQ_cases q r den with h | h <;> omega

theorem roundQ_dist (q r den : Nat) (hr : r < den) :
    (adist (q * den + r) (roundQ q r den * den) = r ∧ 2 * r ≤ den) ∨
    (adist (q * den + r) (roundQ q r den * den) + r = den ∧ den ≤ 2 * r) := by
  rcases roundQ_cases q r den with ⟨h, h2⟩ | ⟨h, h2⟩ <;> rw [h]
  · have := adist_cases (q * den + r) (q * den)
    exact .inl ⟨by omega, h2⟩
  · have := adist_cases r den
    rw [Nat.succ_mul, adist_add_left]
    exact .inr ⟨by omega, h2⟩

theorem roundQ_nearest (q r den t : Nat) (hr : r < den) :
    adist (q * den + r) (roundQ q r den * den) ≤ adist (q * den + r) (t * den) := by
  by_cases h : t = roundQ q r den
  · rw [h]; exact Nat.le_refl _
  · have := adist_grid (q * den + r) den h
    have := roundQ_dist q r den hr
    omega

theorem roundQ_tie (q r den t : Nat) (hr : r < den) (hne : t ≠ roundQ q r den)
    (heq : adist (q * den + r) (t * den) = adist (q * den + r) (roundQ q r den * den)) : 2 * r = den := by
  have := adist_grid (q * den + r) den hne
  have := roundQ_dist q r den hr
  omega

theorem roundQ_tie_even (q r den : Nat) (h : 2 * r = den) : roundQ q r den % 2 = 0 := by
  unfold roundQ
  rw [if_neg (by omega), if_neg (by omega)]
  rcases Nat.mod_two_eq_zero_or_one q with h | h <;> rw [h]
  · exact h
  · rw [Nat.add_mod, h]

theorem two_pow3 (a b c : Nat) : (2:Nat) ^ a * (2 ^ b * 2 ^ c) = 2 ^ (a + b + c) := by
  rw [← Nat.pow_add, ← Nat.pow_add, Nat.add_assoc]

theorem div_lt_of_lt_pow {A D m k : Nat} (hD : D ≠ 0) (h : A < 2 ^ (m + D.log2 + k)) : A / (D * 2 ^ k) < 2 ^ m := by
  rw [Nat.div_lt_iff_lt_mul (Nat.mul_pos (Nat.pos_of_ne_zero hD) (Nat.two_pow_pos _))]
  rw [← two_pow3] at h
  exact Nat.lt_of_lt_of_le h (Nat.mul_le_mul_left _ (Nat.mul_le_mul_right _ (Nat.log2_self_le hD)))

theorem le_div_of_pow_le {A D m k : Nat} (hD : 0 < D) (h : 2 ^ (m + (D.log2 + 1) + k) ≤ A) : 2 ^ m ≤ A / (D * 2 ^ k) := by
  rw [Nat.le_div_iff_mul_le (Nat.mul_pos hD (Nat.two_pow_pos _))]
  rw [← two_pow3] at h
  exact Nat.le_trans (Nat.mul_le_mul_left _ (Nat.mul_le_mul_right _ (Nat.le_of_lt Nat.lt_log2_self))) h

/-- with `k = gridExp A D` the quotient `A / (D · 2^k)` has at most 53 bits, and exactly 53 unless `k = 0` -/
theorem gridExp_spec (A D : Nat) (hD : 0 < D) :
    A / (D * 2 ^ gridExp A D) < 2 ^ 53 ∧ (gridExp A D = 0 ∨ 2 ^ 52 ≤ A / (D * 2 ^ gridExp A D)) := by
  by_cases hA : A = 0
  · subst hA; simp [gridExp]
  have hD0 : D ≠ 0 := Nat.ne_of_gt hD
  generalize hk0 : A.log2 - D.log2 - 53 = k0
  -- the first candidate gives a quotient below 2^54, and of at least 2^52 unless it is 0
  have hq0 : A / (D * 2 ^ k0) < 2 ^ 54 :=
    div_lt_of_lt_pow hD0 (Nat.lt_of_lt_of_le Nat.lt_log2_self (Nat.pow_le_pow_right (by decide) (by omega)))
  have hq0' : k0 = 0 ∨ 2 ^ 52 ≤ A / (D * 2 ^ k0) := by
    by_cases hz : k0 = 0
    · exact .inl hz
    · exact .inr (le_div_of_pow_le hD
        (Nat.le_trans (Nat.pow_le_pow_right (by decide) (by omega)) (Nat.log2_self_le hA)))
  unfold gridExp
  simp only [hk0]
  by_cases hc : A / (D * 2 ^ k0) < 2 ^ 53
  · rw [if_pos hc]; exact ⟨hc, hq0'⟩
  · rw [if_neg hc, Nat.pow_succ, ← Nat.mul_assoc, ← Nat.div_div_eq_div_mul]
    generalize A / (D * 2 ^ k0) = q0 at hq0 hc
    omega

/-! ### patterns with an unbounded exponent field

Rounding is first analysed on patterns read with `F64.uW` (`Lemmas/FloatOrder.lean`: no bound on the exponent field; on
the magnitude bits of a REAL it is `umag`), as `rawBits` produces them; the overflow cut of `magBits` comes last. -/

theorem uW_fields (E F : Nat) (hF : F < 2 ^ 52) : uW (E * 2 ^ 52 + F) = W E F := by
  unfold uW
  rw [Nat.add_comm, Nat.add_mul_div_right _ _ (by decide), Nat.add_mul_mod_self_right, Nat.div_eq_of_lt hF,
    Nat.mod_eq_of_lt hF, Nat.zero_add]

/-- a normal pattern: exponent field `k + 1`, fraction `R − 2^52` -/
theorem uW_encode_normal (k R : Nat) (h1 : 2 ^ 52 ≤ R) (h2 : R < 2 ^ 53) : uW (k * 2 ^ 52 + R) = R * 2 ^ k := by
  have e : (k + 1) * 2 ^ 52 + (R - 2 ^ 52) = k * 2 ^ 52 + R := by
    rw [Nat.succ_mul, Nat.add_assoc, Nat.add_sub_cancel' h1]
  rw [← e, uW_fields _ _ (by omega), W_succ, Nat.add_sub_cancel' h1]

theorem uW_encode (k R : Nat) (hR : R ≤ 2 ^ 53) (hk : k = 0 ∨ 2 ^ 52 ≤ R) : uW (k * 2 ^ 52 + R) = R * 2 ^ k := by
  by_cases h1 : R < 2 ^ 52
  · -- subnormal: exponent field 0
    obtain rfl : k = 0 := by omega
    rw [uW_fields 0 R h1, Nat.pow_zero, Nat.mul_one]; rfl
  · by_cases h2 : R = 2 ^ 53
    · -- the rounding carried into the next binade: `(k + 1) · 2^52 + 2^52`
      have e : (k + 1) * 2 ^ 52 + 2 ^ 52 = k * 2 ^ 52 + R := by omega
      rw [← e, uW_encode_normal _ _ (Nat.le_refl _) (by decide), h2, ← Nat.pow_add, ← Nat.pow_add]
      exact congrArg (2 ^ ·) (by omega)
    · exact uW_encode_normal k R (Nat.le_of_not_lt h1) (by omega)

theorem uW_grid (x k : Nat) : uW x < 2 ^ (52 + k) ∨ ∃ t, uW x = t * 2 ^ k := by
  unfold uW
  have hF : x % 2 ^ 52 < 2 ^ 52 := Nat.mod_lt _ (by decide)
  generalize x / 2 ^ 52 = E
  generalize x % 2 ^ 52 = F at hF
  by_cases h : E ≤ k
  · exact .inl (Nat.lt_of_lt_of_le (W_lt_pow E F hF) (Nat.pow_le_pow_right (by decide) (Nat.add_le_add_left h _)))
  · obtain ⟨E', rfl⟩ : ∃ E', E = E' + 1 := ⟨E - 1, by omega⟩
    refine .inr ⟨(2 ^ 52 + F) * 2 ^ (E' - k), ?_⟩
    rw [W_succ, Nat.mul_assoc, ← Nat.pow_add, Nat.sub_add_cancel (by omega)]

/-- what `rawBits N D` is computed from: the grid exponent `k`, quotient `q` and remainder `r` of
`A = N · 2^1074` by `den = D · 2^k`; over the denominator `D` the pattern stands for `roundQ q r den · den` -/
theorem raw_parts (N D : Nat) (hD : 0 < D) : ∃ k q r,
    rawBits N D = k * 2 ^ 52 + roundQ q r (D * 2 ^ k) ∧
    uW (rawBits N D) * D = roundQ q r (D * 2 ^ k) * (D * 2 ^ k) ∧
    N * unitScale = q * (D * 2 ^ k) + r ∧ r < D * 2 ^ k ∧ q < 2 ^ 53 ∧ (k = 0 ∨ 2 ^ 52 ≤ q) := by
  obtain ⟨hq, hk⟩ := gridExp_spec (N * unitScale) D hD
  have hraw : rawBits N D = gridExp (N * unitScale) D * 2 ^ 52 +
      roundQ (N * unitScale / (D * 2 ^ gridExp (N * unitScale) D)) (N * unitScale % (D * 2 ^ gridExp (N * unitScale) D))
        (D * 2 ^ gridExp (N * unitScale) D) := by
    unfold rawBits; exact rfl
  refine ⟨_, _, _, hraw, ?_, (Nat.div_add_mod' ..).symm,
    Nat.mod_lt _ (Nat.mul_pos hD (Nat.two_pow_pos _)), hq, hk⟩
  rw [hraw]
  generalize gridExp (N * unitScale) D = k at hq hk
  generalize N * unitScale / (D * 2 ^ k) = q at hq hk
  generalize N * unitScale % (D * 2 ^ k) = r
  have hR := roundQ_cases q r (D * 2 ^ k)
  rw [uW_encode k _ (by omega) (by omega), Nat.mul_assoc, Nat.mul_comm (2 ^ k) D]

/-- a pattern is on the grid of the result, or more than the rounding error away -/
theorem grid_or_far {A D k q r : Nat} (hD : 0 < D) (hA : A = q * (D * 2 ^ k) + r) (hr : r < D * 2 ^ k)
    (hk : k = 0 ∨ 2 ^ 52 ≤ q) (x : Nat) :
    (∃ t, uW x * D = t * (D * 2 ^ k)) ∨
      adist A (roundQ q r (D * 2 ^ k) * (D * 2 ^ k)) < adist A (uW x * D) := by
  have grid : ∀ t, uW x = t * 2 ^ k → uW x * D = t * (D * 2 ^ k) := fun t ht => by
    rw [ht, Nat.mul_assoc, Nat.mul_comm (2 ^ k) D]
  rcases uW_grid x k with hsm | ⟨t, ht⟩
  · rcases hk with rfl | hq
    · exact .inl ⟨uW x, grid _ (Nat.mul_one _).symm⟩
    · -- below the binade of the result, hence below `q · den`
      have h1 : uW x * D < 2 ^ (52 + k) * D := (Nat.mul_lt_mul_right hD).2 hsm
      rw [Nat.pow_add, Nat.mul_assoc, Nat.mul_comm (2 ^ k) D] at h1
      have h2 := Nat.mul_le_mul_right (D * 2 ^ k) hq
      have hd := roundQ_dist q r _ hr
      have hx := adist_cases A (uW x * D)
      rw [hA] at hx ⊢
      right
      omega
  · exact .inl ⟨t, grid t ht⟩

theorem raw_nearest (N D x : Nat) (hD : 0 < D) :
    adist (N * unitScale) (uW (rawBits N D) * D) ≤ adist (N * unitScale) (uW x * D) := by
  obtain ⟨k, q, r, -, hU, hA, hr, -, hk⟩ := raw_parts N D hD
  rw [hU]
  rcases grid_or_far hD hA hr hk x with ⟨t, ht⟩ | h
  · rw [ht, hA]; exact roundQ_nearest q r _ t hr
  · exact Nat.le_of_lt h

theorem unitScale_pos : 0 < unitScale := Nat.two_pow_pos 1074

theorem raw_tie_even (N D x : Nat) (hD : 0 < D) (hne : x ≠ rawBits N D)
    (heq : adist (N * unitScale) (uW x * D) = adist (N * unitScale) (uW (rawBits N D) * D)) :
    rawBits N D % 2 = 0 := by
  obtain ⟨k, q, r, hraw, hU, hA, hr, -, hk⟩ := raw_parts N D hD
  rw [hU] at heq
  generalize N * unitScale = A at hA heq
  generalize rawBits N D = b at hraw hU hne ⊢
  rcases grid_or_far hD hA hr hk x with ⟨t, ht⟩ | h
  · have htR : t ≠ roundQ q r (D * 2 ^ k) := fun e =>
      hne (uW_inj (Nat.eq_of_mul_eq_mul_right hD (by rw [ht, hU, e])))
    rw [ht, hA] at heq
    have ev := roundQ_tie_even q r _ (roundQ_tie q r _ t hr htR heq)
    rw [hraw]; omega
  · omega

theorem raw_mono (N1 N2 D : Nat) (hD : 0 < D) (h : N1 ≤ N2) : rawBits N1 D ≤ rawBits N2 D := by
  false_or_by_contra
  rename_i hlt
  -- the smaller number would lie at or above the midpoint of the two patterns, the larger at or below it
  have hu := (Nat.mul_lt_mul_right hD).2 (uW_strictMono (Nat.lt_of_not_le hlt))
  have n1 := (mid_of_adist_le hu (N1 * unitScale)).1 (raw_nearest N1 D (rawBits N2 D) hD)
  have n2 := (mid_of_adist_le hu (N2 * unitScale)).2 (raw_nearest N2 D (rawBits N1 D) hD)
  have hA : N1 * unitScale ≤ N2 * unitScale := Nat.mul_le_mul_right _ h
  obtain rfl : N1 = N2 := Nat.eq_of_mul_eq_mul_right unitScale_pos (Nat.le_antisymm hA (by omega))
  exact hlt (Nat.le_refl _)

/-- the largest finite REAL, `(2^53 − 1) · 2^971` -/
def maxFiniteBits : Nat := 0x7fefffffffffffff

/-- `2^-1074 · 2^2044 = 2^970`: half the spacing of the REALs in the top binade -/
def topHalfUlp : Nat := 2 ^ 2044

theorem uW_inf : uW infBits = 2 ^ 54 * topHalfUlp := by decide +kernel

theorem uW_maxFinite : uW maxFiniteBits = (2 ^ 54 - 2) * topHalfUlp := by decide +kernel

theorem magBits_le_inf (N D : Nat) : magBits N D ≤ infBits := Nat.min_le_right ..

theorem magBits_eq_inf_iff (N D : Nat) : magBits N D = infBits ↔ infBits ≤ rawBits N D := by
  unfold magBits; omega

/-- **Overflow exactly at the IEEE threshold.** The result is `+inf` iff `N / D ≥ (2^54 − 1) · 2^970`, the midpoint
between the largest finite REAL `(2^54 − 2) · 2^970` and `2^1024` (the midpoint itself goes up: the largest finite
REAL is odd). -/
theorem magBits_overflow_iff (N D : Nat) (hD : 0 < D) :
    magBits N D = infBits ↔ (2 ^ 54 - 1) * topHalfUlp * D ≤ N * unitScale := by
  rw [magBits_eq_inf_iff, Nat.mul_assoc]
  -- over `D`, `inf` and the largest finite REAL lie symmetrically about the threshold `T`
  have hmid : uW maxFiniteBits * D + uW infBits * D = 2 * ((2 ^ 54 - 1) * (topHalfUlp * D)) := by
    rw [uW_inf, uW_maxFinite, Nat.mul_assoc, Nat.mul_assoc]
    generalize topHalfUlp * D = z
    omega
  have nM := raw_nearest N D maxFiniteBits hD
  have nI := raw_nearest N D infBits hD
  have tie := raw_tie_even N D infBits hD
  generalize (2 ^ 54 - 1) * (topHalfUlp * D) = T at hmid ⊢
  generalize N * unitScale = A at nM nI tie ⊢
  constructor
  · intro h
    -- the result is at or above `inf` and no farther than the largest finite REAL: the number is at or above their midpoint
    have hlt := (Nat.mul_lt_mul_right hD).2 (uW_strictMono (Nat.lt_of_lt_of_le (by decide : maxFiniteBits < infBits) h))
    have hI := Nat.mul_le_mul_right D (uW_le h)
    have := (mid_of_adist_le hlt A).1 nM
    clear nM nI tie
    omega
  · intro h
    false_or_by_contra
    rename_i hlt
    -- a finite result no farther than `inf` puts the number at or below the midpoint, so on it: a tie with an odd result
    have hle : rawBits N D ≤ maxFiniteBits := Nat.le_of_lt_succ (Nat.lt_of_not_le hlt)
    have h1 := Nat.mul_le_mul_right D (uW_le hle)
    have hI := (Nat.mul_lt_mul_right hD).2 (uW_strictMono (Nat.lt_of_not_le hlt))
    have h2 := (mid_of_adist_le hI A).2 nI
    obtain ⟨hu, rfl⟩ : uW (rawBits N D) * D = uW maxFiniteBits * D ∧ A = T := by clear nM nI tie hI; omega
    have hraw : rawBits N D = maxFiniteBits := uW_inj (Nat.eq_of_mul_eq_mul_right hD hu)
    have heq : adist A (uW infBits * D) = adist A (uW (rawBits N D) * D) := by
      have a1 := adist_cases A (uW infBits * D)
      have a2 := adist_cases A (uW (rawBits N D) * D)
      clear nM nI tie h h1 h2
      omega
    have ev := tie (by rw [hraw]; decide) heq
    rw [hraw] at ev
    exact absurd ev (by decide)

theorem magBits_finite {N D : Nat} (hfin : magBits N D < infBits) :
    magBits N D = rawBits N D ∧ mag (magBits N D) = magBits N D ∧ isFinite (magBits N D) = true ∧
    signBit (magBits N D) = false := by
  have h63 : magBits N D < 2 ^ 63 := Nat.lt_trans hfin (by decide)
  refine ⟨by unfold magBits at hfin ⊢; omega, mag_of_lt h63, isFinite_iff.2 ?_, signBit_of_lt h63⟩
  rw [mag_of_lt h63]; exact hfin

theorem umag_magBits {N D : Nat} (hfin : magBits N D < infBits) : umag (magBits N D) = uW (rawBits N D) := by
  have h := magBits_finite hfin
  rw [umag_eq_uW, h.2.1, h.1]

/-- **Correct rounding, nearest.**  `N / D` is `N · 2^1074 / D` units of 2^-1074 and a REAL `y` is `umag y` units;
over the common denominator `D` the distance between them is `adist (N · 2^1074) (umag y · D)`.  When the result
is finite, no REAL is closer to `N / D` than the result. -/
theorem magBits_nearest (N D y : Nat) (hD : 0 < D) (hfin : magBits N D < infBits) :
    adist (N * unitScale) (umag (magBits N D) * D) ≤ adist (N * unitScale) (umag y * D) := by
  rw [umag_magBits hfin, umag_eq_uW y]; exact raw_nearest N D (mag y) hD

/-- **Correct rounding, ties to even.** If a REAL of another magnitude is exactly as close to `N / D` as the
(finite) result, the result's last mantissa bit is 0. -/
theorem magBits_tie_even (N D y : Nat) (hD : 0 < D) (hfin : magBits N D < infBits) (hne : mag y ≠ magBits N D)
    (heq : adist (N * unitScale) (umag y * D) = adist (N * unitScale) (umag (magBits N D) * D)) :
    magBits N D % 2 = 0 := by
  rw [umag_magBits hfin, umag_eq_uW y] at heq
  rw [(magBits_finite hfin).1] at hne ⊢
  exact raw_tie_even N D (mag y) hD hne heq

theorem magBits_mono (N1 N2 D : Nat) (hD : 0 < D) (h : N1 ≤ N2) : magBits N1 D ≤ magBits N2 D := by
  have := raw_mono N1 N2 D hD h
  unfold magBits; omega

theorem magBits_exact (N D y : Nat) (hD : 0 < D) (hy : isFinite y = true) (h : N * unitScale = umag y * D) :
    magBits N D = mag y := by
  have hmy : mag y < infBits := isFinite_iff.1 hy
  have n := raw_nearest N D (mag y) hD
  rw [← umag_eq_uW, ← h, adist_eq_zero.2 rfl, Nat.le_zero, adist_eq_zero, h, umag_eq_uW] at n
  have : rawBits N D = mag y := (uW_inj (Nat.eq_of_mul_eq_mul_right hD n)).symm
  unfold magBits; rw [this]; exact Nat.min_eq_left (Nat.le_of_lt hmy)

theorem rawBits_zero (D : Nat) : rawBits 0 D = 0 := by
  unfold rawBits
  simp [gridExp, roundQ]

theorem magBits_zero (D : Nat) : magBits 0 D = 0 := by
  unfold magBits; rw [rawBits_zero]; decide

theorem magBits_inf_of_ge (N : Nat) (h : 2 ^ 1024 ≤ N) : magBits N 1 = infBits := by
  rw [magBits_overflow_iff N 1 (by decide), Nat.mul_one]
  have h1 : 2 ^ 1024 * unitScale ≤ N * unitScale := Nat.mul_le_mul_right _ h
  have h2 : 2 ^ 1024 * unitScale = 2 ^ 54 * topHalfUlp := by
    unfold unitScale topHalfUlp
    rw [← Nat.pow_add, ← Nat.pow_add]
  have h3 : (2 ^ 54 - 1) * topHalfUlp ≤ 2 ^ 54 * topHalfUlp := Nat.mul_le_mul_right _ (by decide)
  omega

/-- a number below `2^-1075` (half the smallest subnormal) converts to `0` -/
theorem magBits_zero_of_lt (N D : Nat) (h : 2 * (N * unitScale) < D) : magBits N D = 0 := by
  have hD : 0 < D := by omega
  obtain ⟨k, q, r, hraw, -, hA, -, -, hk⟩ := raw_parts N D hD
  generalize N * unitScale = A at h hA
  -- `A < D ≤ den`: the quotient is 0, so the grid exponent is 0 and the remainder is `A`
  have hden : D ≤ D * 2 ^ k := Nat.le_mul_of_pos_right _ (Nat.two_pow_pos _)
  obtain rfl : q = 0 := by
    false_or_by_contra
    rename_i hq
    have := Nat.mul_le_mul_right (D * 2 ^ k) (Nat.one_le_iff_ne_zero.2 hq)
    omega
  obtain rfl : k = 0 := hk.resolve_right (by decide)
  rw [Nat.zero_mul, Nat.zero_add] at hA
  subst hA
  unfold magBits
  rw [hraw, Nat.pow_zero, Nat.mul_one]
  unfold roundQ
  rw [if_pos h]; rfl

theorem eight_pow_le (n : Nat) : 2 ^ (3 * n) ≤ 10 ^ n := by
  rw [Nat.pow_mul]; exact Nat.pow_le_pow_left (by decide) n

/-- the clamp to `inf`: what `decToF64` answers without computing the power of ten is what the exact computation answers -/
theorem clamp_inf_sound (mant e : Nat) (hm : mant ≠ 0) (h : 1024 ≤ mant.log2 + 3 * e) :
    magBits (mant * 10 ^ e) 1 = infBits := by
  apply magBits_inf_of_ge
  have h1 : 2 ^ mant.log2 ≤ mant := Nat.log2_self_le hm
  have h2 := eight_pow_le e
  have h3 : 2 ^ mant.log2 * 2 ^ (3 * e) ≤ mant * 10 ^ e := Nat.mul_le_mul h1 h2
  rw [← Nat.pow_add] at h3
  have h4 : (2:Nat) ^ 1024 ≤ 2 ^ (mant.log2 + 3 * e) := Nat.pow_le_pow_right (by decide) h
  omega

/-- the clamp to `0` -/
theorem clamp_zero_sound (mant n : Nat) (h : mant.log2 + 1076 ≤ 3 * n) : magBits mant (10 ^ n) = 0 := by
  apply magBits_zero_of_lt
  have h4 : 2 * (mant * unitScale) < 2 * (2 ^ (mant.log2 + 1) * unitScale) :=
    (Nat.mul_lt_mul_left (by decide)).2 ((Nat.mul_lt_mul_right unitScale_pos).2 Nat.lt_log2_self)
  have h5 : 2 * (2 ^ (mant.log2 + 1) * unitScale) = 2 ^ (mant.log2 + 1076) := by
    unfold unitScale
    rw [← Nat.pow_add, Nat.mul_comm, ← Nat.pow_succ]
  rw [h5] at h4
  exact Nat.lt_of_lt_of_le h4 (Nat.le_trans (Nat.pow_le_pow_right (by decide) h) (eight_pow_le n))

/-- numerator and denominator of `mant · 10^e` -/
def numOf (mant : Nat) (e : Int) : Nat := if 0 ≤ e then mant * 10 ^ e.toNat else mant
def denOf (e : Int) : Nat := if 0 ≤ e then 1 else 10 ^ (-e).toNat

theorem denOf_pos (e : Int) : 0 < denOf e := by
  unfold denOf; split
  · decide
  · exact Nat.pow_pos (by decide)

/-- **`decToF64` is the exact conversion**: with or without the shortcuts (zero mantissa, hopeless exponents) the
answer is the sign bit plus the correctly rounded magnitude of `mant · 10^e = numOf mant e / denOf e`. -/
theorem decToF64_eq (neg : Bool) (mant : Nat) (e : Int) :
    decToF64 neg mant e = (if neg then signMask else 0) + magBits (numOf mant e) (denOf e) := by
  unfold decToF64 numOf denOf
  by_cases hm : mant = 0
  · subst hm; simp [magBits_zero]
  · simp only [hm, if_false]
    by_cases he : 0 ≤ e
    · simp only [he, if_true]
      by_cases hc : 1024 ≤ mant.log2 + 3 * e.toNat
      · simp only [hc, if_true]; rw [clamp_inf_sound mant e.toNat hm hc]
      · simp only [hc, if_false]
    · simp only [he, if_false]
      by_cases hc : mant.log2 + 1076 ≤ 3 * (-e).toNat
      · simp only [hc, if_true]; rw [clamp_zero_sound mant (-e).toNat hc]; rfl
      · simp only [hc, if_false]

theorem decToF64_false (mant : Nat) (e : Int) : decToF64 false mant e = magBits (numOf mant e) (denOf e) := by
  rw [decToF64_eq, if_neg Bool.false_ne_true, Nat.zero_add]

theorem decToF64_neg (mant : Nat) (e : Int) : decToF64 true mant e = signMask + decToF64 false mant e := by
  rw [decToF64_eq, decToF64_false, if_pos rfl]

theorem decToF64_pos_le (mant : Nat) (e : Int) : decToF64 false mant e ≤ infBits := by
  rw [decToF64_false]; exact magBits_le_inf _ _

theorem decToF64_pos_lt (mant : Nat) (e : Int) : decToF64 false mant e < 2 ^ 63 :=
  Nat.lt_of_le_of_lt (decToF64_pos_le mant e) (by decide)

theorem decToF64_neg_eq_neg (mant : Nat) (e : Int) : decToF64 true mant e = F64.neg (decToF64 false mant e) := by
  rw [decToF64_neg]
  unfold F64.neg F64.negX
  rw [Nat.div_eq_of_lt (decToF64_pos_lt mant e)]
  exact Nat.add_comm ..

theorem numOf_mono (m1 m2 : Nat) (e : Int) (h : m1 ≤ m2) : numOf m1 e ≤ numOf m2 e := by
  unfold numOf; split
  · exact Nat.mul_le_mul_right _ h
  · exact h

/-- **monotone in the mantissa** (fixed exponent): patterns of non-negative numbers increase weakly … -/
theorem decToF64_mono (m1 m2 : Nat) (e : Int) (h : m1 ≤ m2) : decToF64 false m1 e ≤ decToF64 false m2 e := by
  rw [decToF64_false, decToF64_false]
  exact magBits_mono _ _ _ (denOf_pos e) (numOf_mono m1 m2 e h)

/-- … and so does the order key of `impl Ord for Float`; for negative numbers it decreases -/
theorem decToF64_mono_key (m1 m2 : Nat) (e : Int) (h : m1 ≤ m2) :
    F64.key (decToF64 false m1 e) ≤ F64.key (decToF64 false m2 e) ∧
    F64.key (decToF64 true m2 e) ≤ F64.key (decToF64 true m1 e) := by
  have pos : ∀ m, F64.key (decToF64 false m e) = (decToF64 false m e : Int) := fun m =>
    key_withSign false _ (decToF64_pos_lt m e)
  have neg : ∀ m, F64.key (decToF64 true m e) = -(decToF64 false m e : Int) := fun m => by
    rw [decToF64_neg]; exact key_withSign true _ (decToF64_pos_lt m e)
  rw [pos, pos, neg, neg]
  have := decToF64_mono m1 m2 e h
  omega

/-- **`decToF64` rounds correctly** (non-negative numbers; `decToF64_neg` mirrors them): the number is
`numOf mant e / denOf e`; when the answer is not `+inf` it is a finite REAL to which no REAL is closer, … -/
theorem decToF64_nearest (mant : Nat) (e : Int) (y : Nat) (hfin : decToF64 false mant e ≠ infBits) :
    isFinite (decToF64 false mant e) = true ∧
    adist (numOf mant e * unitScale) (umag (decToF64 false mant e) * denOf e) ≤
      adist (numOf mant e * unitScale) (umag y * denOf e) := by
  have hlt := Nat.lt_of_le_of_ne (decToF64_pos_le mant e) hfin
  rw [decToF64_false] at hlt ⊢
  exact ⟨(magBits_finite hlt).2.2.1, magBits_nearest _ _ y (denOf_pos e) hlt⟩

/-- … and when a REAL of another magnitude is exactly as close, the answer's last mantissa bit is 0 -/
theorem decToF64_tie_even (mant : Nat) (e : Int) (y : Nat) (hfin : decToF64 false mant e ≠ infBits)
    (hne : mag y ≠ decToF64 false mant e)
    (heq : adist (numOf mant e * unitScale) (umag y * denOf e) =
      adist (numOf mant e * unitScale) (umag (decToF64 false mant e) * denOf e)) :
    decToF64 false mant e % 2 = 0 := by
  have hlt := Nat.lt_of_le_of_ne (decToF64_pos_le mant e) hfin
  rw [decToF64_false] at hlt hne heq ⊢
  exact magBits_tie_even _ _ y (denOf_pos e) hlt hne heq

/-- the answer is `+inf` exactly from the IEEE overflow threshold `(2^54 − 1) · 2^970` on -/
theorem decToF64_overflow_iff (mant : Nat) (e : Int) :
    decToF64 false mant e = infBits ↔ (2 ^ 54 - 1) * topHalfUlp * denOf e ≤ numOf mant e * unitScale := by
  rw [decToF64_false]
  exact magBits_overflow_iff _ _ (denOf_pos e)

/-- a decimal number that is a finite REAL converts to that REAL -/
theorem decToF64_exact (mant : Nat) (e : Int) (y : Nat) (hy : isFinite y = true)
    (h : numOf mant e * unitScale = umag y * denOf e) : decToF64 false mant e = mag y := by
  rw [decToF64_false]
  exact magBits_exact _ _ y (denOf_pos e) hy h

/-- the pattern of the integer `m < 2^53`: exponent field `1023 + ⌊log2 m⌋`, the integer's bits left-aligned -/
def intBits (m : Nat) : Nat := if m = 0 then 0 else (1022 + m.log2) * 2 ^ 52 + m * 2 ^ (52 - m.log2)

theorem intBits_spec (m : Nat) (h : m < 2 ^ 53) :
    isFinite (intBits m) = true ∧ mag (intBits m) = intBits m ∧ umag (intBits m) = m * unitScale := by
  unfold intBits
  by_cases hm : m = 0
  · subst hm
    rw [if_pos rfl, Nat.zero_mul]
    exact ⟨by decide, by decide, by decide⟩
  · rw [if_neg hm]
    have hl : m.log2 ≤ 52 := Nat.le_of_lt_succ ((Nat.log2_lt hm).2 h)
    -- the integer's bits left-aligned are a 53-bit mantissa
    have r1 : 2 ^ 52 ≤ m * 2 ^ (52 - m.log2) := by
      have := Nat.mul_le_mul_right (2 ^ (52 - m.log2)) (Nat.log2_self_le hm)
      rwa [← Nat.pow_add, Nat.add_sub_cancel' hl] at this
    have r2 : m * 2 ^ (52 - m.log2) < 2 ^ 53 := by
      have := (Nat.mul_lt_mul_right (Nat.two_pow_pos (52 - m.log2))).2 (Nat.lt_log2_self (n := m))
      rwa [← Nat.pow_add, (by omega : m.log2 + 1 + (52 - m.log2) = 53)] at this
    have hu := uW_encode_normal (1022 + m.log2) _ r1 r2
    rw [Nat.mul_assoc m, ← Nat.pow_add, (by omega : 52 - m.log2 + (1022 + m.log2) = 1074)] at hu
    generalize m * 2 ^ (52 - m.log2) = R at r2 hu ⊢
    have hb : (1022 + m.log2) * 2 ^ 52 + R < infBits := by unfold infBits; omega
    have hmag := mag_of_lt (Nat.lt_trans hb (by decide))
    refine ⟨?_, hmag, ?_⟩
    · rw [isFinite_iff, hmag]; exact hb
    · rw [umag_eq_uW, hmag, hu]; rfl

/-- **integers that fit 53 bits are exact**: `decToF64` of `m < 2^53` is the REAL whose value is `m` -/
theorem decToF64_int (m : Nat) (h : m < 2 ^ 53) :
    decToF64 false m 0 = intBits m ∧ umag (decToF64 false m 0) = m * unitScale := by
  have s := intBits_spec m h
  have e1 : numOf m 0 = m := by unfold numOf; rw [if_pos (Int.le_refl 0)]; exact Nat.mul_one m
  have e2 : denOf 0 = 1 := by unfold denOf; rw [if_pos (Int.le_refl 0)]
  have : decToF64 false m 0 = intBits m := by
    rw [decToF64_exact m 0 (intBits m) s.1 (by rw [e1, e2, s.2.2, Nat.mul_one]), s.2.1]
  rw [this]; exact ⟨rfl, s.2.2⟩

/-- the same with the exact value of `Lemmas/FloatOrder.lean`: `F64.value (decToF64 false m 0)` is the number `m` -/
theorem decToF64_int_value (m : Nat) (h : m < 2 ^ 53) :
    Dy.Eqv (F64.value (decToF64 false m 0)) (Dy.ofInt m) := by
  unfold Dy.Eqv
  rw [Dy.cmp_eq_scale _ _ (-1074) (mantExp_exp_ge _) (by show (-1074 : Int) ≤ 0; decide), value_scale,
    Int.compare_eq_eq]
  unfold units
  rw [signBit_of_lt (decToF64_pos_lt m 0), (decToF64_int m h).2, if_neg Bool.false_ne_true, Int.natCast_mul]
  exact congrArg _ (Int.natCast_pow 2 1074)

end DecFloat
end Sqlgrep
