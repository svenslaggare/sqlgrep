import SqlgrepModel.Lemmas.IterOrder
import SqlgrepModel.Lemmas.Folds
import SqlgrepModel.Lemmas.AggColumns
/-
Every engine operation respects `StRel` (same maps, any iteration order of the inner hash maps) and gives
equal outputs on related states; `publishPercentiles` — the one loop of the code that iterates a hash map —
is independent of the iteration order.
-/
namespace Sqlgrep.Iter
open Sqlgrep

theorem updateAggregate_rel (O : Oracles) (q : AggStmt) (env : Env) (key : List Value) (idx : Nat) (k : AggKind)
    {a b : AggState} (h : StRel a b) :
    ORel StRel (updateAggregate O q env key idx k a) (updateAggregate O q env key idx k b) := by
  unfold updateAggregate
  rw [h.readCell]
  exact ORel.bind (ORel.refl _) (fun c c' e => by subst e; exact h.writeCell key idx c)

theorem updateAggregates_rel (O : Oracles) (q : AggStmt) (env : Env) (key : List Value) (l : List (Nat × AggKind))
    {a b : AggState} (h : StRel a b) :
    ORel StRel (updateAggregates O q env key l a) (updateAggregates O q env key l b) := by
  rw [updateAggregates_eq_foldlM, updateAggregates_eq_foldlM]
  exact foldlM_rel (fun p _ _ _ h => updateAggregate_rel O q env key p.1 p.2 h) h

theorem havingUpdates_rel (O : Oracles) (q : AggStmt) (env : Env) (key : List Value) (l : List HavingRef) (j : Nat)
    {a b : AggState} (h : StRel a b) :
    ORel StRel (havingUpdates O q env key l j a) (havingUpdates O q env key l j b) := by
  induction l generalizing a b j with
  | nil => exact h
  | cons r rest ih =>
    cases r with
    | key canon =>
      unfold havingUpdates
      exact ORel.bind (ORel.refl _) (fun _ _ _ => ih j h)
    | agg id kind =>
      unfold havingUpdates
      exact ORel.bind (updateAggregate_rel O q env key _ kind h) (fun _ _ h' => ih (j + 1) h')

def PairRel (p1 p2 : AggState × Bool) : Prop := StRel p1.1 p2.1 ∧ p1.2 = p2.2

theorem aggUpdateRow_rel (O : Oracles) (q : AggStmt) (env : Env) {a b : AggState} (h : StRel a b) :
    ORel PairRel (aggUpdateRow O q a env) (aggUpdateRow O q b env) := by
  unfold aggUpdateRow
  refine ORel.bind (ORel.refl _) (fun valid valid' e => ?_)
  subst e
  by_cases hv : valid = true
  · simp only [hv, Bool.not_true, Bool.false_eq_true, if_false]
    refine ORel.bind (ORel.refl _) (fun key key' e => ?_)
    subst e
    refine ORel.bind (updateAggregates_rel O q env key _ h) (fun s s' hs => ?_)
    refine ORel.bind (R := StRel) ?_ (fun s s' hs' => ⟨hs', rfl⟩)
    cases q.having with
    | none => exact hs
    | some _ => exact havingUpdates_rel O q env key _ 0 hs
  · have : valid = false := by simpa using hv
    simp only [this, Bool.not_false, if_true]
    exact ⟨h, rfl⟩

/-- what the loop body does for one entry of the inner hash map of group `key` -/
def pubStep (key : List Value) (st : AggState) (e : Nat × Aggregator) : AggState :=
  match e.2 with
  | .percentile vals p =>
    match percentileValue vals p with
    | some v => setVal st key e.1 v
    | none => st
  | _ => st

theorem publishPercentiles_eq (st : AggState) :
    publishPercentiles st = st.aggs.foldl (fun acc g => g.2.foldl (pubStep g.1) acc) st := by
  rfl

/-- one entry either leaves every state as it is or sets the same value in every state -/
theorem pubStep_cases (key : List Value) (e : Nat × Aggregator) :
    (∀ st, pubStep key st e = st) ∨ ∃ v, ∀ st, pubStep key st e = setVal st key e.1 v := by
  unfold pubStep
  cases e.2 with
  | percentile vals p =>
    dsimp only
    cases percentileValue vals p with
    | none => exact .inl fun _ => rfl
    | some v => exact .inr ⟨v, fun _ => rfl⟩
  | _ => exact .inl fun _ => rfl

theorem pubStep_rel (key : List Value) {a b : AggState} (h : StRel a b) (e : Nat × Aggregator) :
    StRel (pubStep key a e) (pubStep key b e) := by
  rcases pubStep_cases key e with he | ⟨v, he⟩
  · rw [he, he]; exact h
  · rw [he, he]; exact h.setVal key e.1 v

theorem pubStep_aggs (key : List Value) (a : AggState) (e : Nat × Aggregator) : (pubStep key a e).aggs = a.aggs := by
  rcases pubStep_cases key e with he | ⟨v, he⟩
  · rw [he]
  · rw [he]; rfl

theorem pubStep_comm (key : List Value) {a b : AggState} (h : StRel a b) (x y : Nat × Aggregator) (hxy : x.1 ≠ y.1) :
    StRel (pubStep key (pubStep key a x) y) (pubStep key (pubStep key b y) x) := by
  rcases pubStep_cases key x with hx | ⟨v, hx⟩ <;> rcases pubStep_cases key y with hy | ⟨w, hy⟩ <;> simp only [hx, hy]
  · exact h
  · exact h.setVal key y.1 w
  · exact h.setVal key x.1 v
  · exact ⟨h.aggs, h.vals.set_comm key x.1 y.1 v w hxy⟩

theorem foldl_pubStep_rel (key : List Value) (l : List (Nat × Aggregator)) {a b : AggState} (h : StRel a b) :
    StRel (l.foldl (pubStep key) a) (l.foldl (pubStep key) b) := by
  induction l generalizing a b with
  | nil => exact h
  | cons x l ih => exact ih (pubStep_rel key h x)

/-- **the iteration order of the inner hash map does not matter**: folding the publishing step over any
permutation of the entries gives the same maps -/
theorem foldl_pubStep_perm (key : List Value) {l1 l2 : List (Nat × Aggregator)} (p : l1.Perm l2)
    (hn : (keys l1).Nodup) {a b : AggState} (h : StRel a b) :
    StRel (l1.foldl (pubStep key) a) (l2.foldl (pubStep key) b) := by
  induction p generalizing a b with
  | nil => exact h
  | cons x _ ih =>
    simp only [List.foldl_cons]
    exact ih (List.nodup_cons.1 hn).2 (pubStep_rel key h x)
  | swap x y l =>
    simp only [List.foldl_cons]
    have hne : y.1 ≠ x.1 := by
      have := (List.nodup_cons.1 hn).1
      intro e
      apply this
      simp [e]
    exact foldl_pubStep_rel key l (pubStep_comm key h y x hne)
  | trans p1 _ ih1 ih2 =>
    have hn2 := (List.Perm.map (·.1) p1).nodup hn
    exact (ih1 hn h).trans (ih2 hn2 (h.symm.trans h))

theorem foldl_pubStep_aggs (key : List Value) (l : List (Nat × Aggregator)) (a : AggState) :
    (l.foldl (pubStep key) a).aggs = a.aggs := by
  induction l generalizing a with
  | nil => rfl
  | cons x l ih => rw [List.foldl_cons, ih, pubStep_aggs]

theorem publish_groups_rel {g1 g2 : GroupMap Aggregator} (hg : GmEq g1 g2) {a b : AggState} (h : StRel a b) :
    StRel (g1.foldl (fun acc g => g.2.foldl (pubStep g.1) acc) a) (g2.foldl (fun acc g => g.2.foldl (pubStep g.1) acc) b) := by
  induction hg generalizing a b with
  | nil => exact h
  | cons hs _ ih =>
    simp only [List.foldl_cons]
    exact ih (foldl_pubStep_perm _ hs.perm hs.2.1 h)

theorem publishPercentiles_rel {a b : AggState} (h : StRel a b) : StRel (publishPercentiles a) (publishPercentiles b) := by
  rw [publishPercentiles_eq, publishPercentiles_eq]
  exact publish_groups_rel h.aggs h

/-! ### results read the inner maps by lookup only -/

theorem cellOf_rel (O : Oracles) (q : AggStmt) (idx : Nat) (item : AggItem) (key : List Value)
    {s1 s2 : List (Nat × Value)} (h : SubRel s1 s2) : cellOf O q idx item key s1 = cellOf O q idx item key s2 :=
  cellOf_congr O q idx item key (funext h.1)

theorem rowOf_rel (O : Oracles) (q : AggStmt) (key : List Value) {s1 s2 : List (Nat × Value)} (h : SubRel s1 s2)
    (items : List (Nat × AggItem)) : rowOf O q key s1 items = rowOf O q key s2 items :=
  rowOf_congr O q key (funext h.1) items

theorem acceptGroup_rel (O : Oracles) (q : AggStmt) (having : Expr) (key : List Value) {s1 s2 : List (Nat × Value)}
    (h : SubRel s1 s2) : acceptGroup O q having key s1 = acceptGroup O q having key s2 :=
  acceptGroup_congr O q having key (funext h.1)

theorem GmEq.sameLookups {v1 v2 : GroupMap Value} (h : GmEq v1 v2) : lookupsOf v1 = lookupsOf v2 := by
  induction h with
  | nil => rfl
  | @cons k s1 s2 r1 r2 hs _ ih =>
    show (k, alGet s1) :: lookupsOf r1 = (k, alGet s2) :: lookupsOf r2
    rw [funext hs.1, ih]

theorem resultRows_rel (O : Oracles) (q : AggStmt) {v1 v2 : GroupMap Value} (h : GmEq v1 v2) (seen : List (List Value)) :
    resultRows O q v1 seen = resultRows O q v2 seen :=
  resultRows_sameLookups O q h.sameLookups seen

def ResRel (p1 p2 : AggState × RowOut) : Prop := StRel p1.1 p2.1 ∧ p1.2 = p2.2

theorem aggResult_rel (O : Oracles) (q : AggStmt) {a b : AggState} (h : StRel a b) :
    ORel ResRel (aggResult O q a) (aggResult O q b) := by
  have hp := publishPercentiles_rel h
  unfold aggResult
  simp only
  have e1 := aggColumns_sameLookups O q hp.vals.sameLookups (enumFrom 0 q.items)
  have e2 := resultRows_rel O q hp.vals []
  refine ORel.bind (R := Eq) ?_ (fun _ _ _ => ?_)
  · rw [e1]; exact ORel.refl _
  · rw [e2]
    exact ORel.bind (ORel.refl _) (fun rows rows' e => by subst e; exact ⟨hp, rfl⟩)

theorem finalResult_rel (O : Oracles) (q : AggStmt) {e1 e2 : EngineState} (h : StRel e1.agg e2.agg) :
    finalResult O q e1 = finalResult O q e2 := by
  unfold finalResult
  apply ORel.eq
  refine ORel.bind (aggResult_rel O q h) (fun p p' hp => ?_)
  obtain ⟨_, o⟩ := p
  obtain ⟨_, o'⟩ := p'
  have : o = o' := hp.2
  subst this
  exact ORel.refl _

structure ERel (a b : EngineState) : Prop where
  seen : a.seen = b.seen
  agg : StRel a.agg b.agg
  numOut : a.numOut = b.numOut

def LineRel (p1 p2 : EngineState × LineOut) : Prop := ERel p1.1 p2.1 ∧ p1.2 = p2.2

theorem updateLimit_rel (isSelect : Bool) (limit : Option Nat) {a b : EngineState} (h : ERel a b) (r : Option RowOut) :
    LineRel (updateLimit isSelect limit a r) (updateLimit isSelect limit b r) := by
  unfold updateLimit
  simp only [h.numOut]
  exact ⟨⟨h.seen, h.agg, rfl⟩, rfl⟩

theorem aggEnvs_rel (O : Oracles) (q : AggStmt) (envs : List (Env × List String)) {a b : AggState} (h : StRel a b) (any : Bool) :
    ORel PairRel (aggEnvs O q envs a any) (aggEnvs O q envs b any) := by
  rw [aggEnvs_eq_foldlM, aggEnvs_eq_foldlM]
  refine foldlM_rel (R := PairRel) (fun e _ p p' hp => ?_) ⟨h, rfl⟩
  refine ORel.bind (aggUpdateRow_rel O q e.1 hp.1) fun r r' hr => ?_
  exact ⟨hr.1, by rw [show p.2 = p'.2 from hp.2, show r.2 = r'.2 from hr.2]⟩

theorem executeLine_rel (O : Oracles) (qy : Query) (idx : JoinIndex) (w : Bool) {a b : EngineState} (h : ERel a b) (l : Line) :
    ORel LineRel (executeLine O qy idx w a l) (executeLine O qy idx w b l) := by
  unfold executeLine
  cases qy.stmt with
  | select q =>
    simp only
    by_cases hr : anyResult l.row = true
    · simp only [hr, Bool.not_true, Bool.false_eq_true, if_false]
      refine ORel.bind (ORel.refl _) (fun envs envs' e => ?_)
      subst e
      rw [h.seen]
      refine ORel.bind (ORel.refl _) (fun p p' e => ?_)
      subst e
      have e : ERel { a with seen := p.1 } { b with seen := p.1 } := ⟨rfl, h.agg, h.numOut⟩
      exact updateLimit_rel true q.limit e _
    · have : anyResult l.row = false := by simpa using hr
      simp only [this, Bool.not_false, if_true]
      exact updateLimit_rel true q.limit h none
  | aggregate q =>
    simp only
    by_cases hr : anyResult l.row = true
    · simp only [hr, Bool.not_true, Bool.false_eq_true, if_false]
      refine ORel.bind (ORel.refl _) (fun envs envs' e => ?_)
      subst e
      cases w with
      | true =>
        simp only [if_true]
        refine ORel.bind (aggEnvs_rel O q envs h.agg false) (fun p p' hp => ?_)
        obtain ⟨s, u⟩ := p
        obtain ⟨s', u'⟩ := p'
        have : u = u' := hp.2
        subst this
        cases u with
        | false =>
          simp only [Bool.false_eq_true, if_false]
          have e : ERel { a with agg := s } { b with agg := s' } := ⟨h.seen, hp.1, h.numOut⟩
          exact updateLimit_rel false q.limit e _
        | true =>
          simp only [if_true]
          refine ORel.bind (aggResult_rel O q hp.1) (fun r r' hr => ?_)
          obtain ⟨t, out⟩ := r
          obtain ⟨t', out'⟩ := r'
          have : out = out' := hr.2
          subst this
          have e : ERel { a with agg := t } { b with agg := t' } := ⟨h.seen, hr.1, h.numOut⟩
          exact updateLimit_rel false q.limit e _
      | false =>
        simp only [Bool.false_eq_true, if_false]
        refine ORel.bind (aggEnvs_rel O q envs h.agg false) (fun p p' hp => ?_)
        have e : ERel { a with agg := p.1 } { b with agg := p'.1 } := ⟨h.seen, hp.1, h.numOut⟩
        exact ⟨e, rfl⟩
    · have : anyResult l.row = false := by simpa using hr
      simp only [this, Bool.not_false, if_true]
      cases w with
      | true => exact updateLimit_rel false q.limit h none
      | false => exact ⟨h, rfl⟩

theorem reachedLimit_rel (qy : Query) {a b : EngineState} (h : ERel a b) : reachedLimit qy a = reachedLimit qy b := by
  unfold reachedLimit
  rw [h.numOut]

end Sqlgrep.Iter
