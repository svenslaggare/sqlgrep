import SqlgrepModel.Lemmas.ExtractRow
/- JSON side: path following, `from_linear`, independence of JSON columns, regex columns of mixed tables. -/
namespace Sqlgrep.Extract
open Lit

theorem followPath_none_iff (steps : List JsonStep) :
    ∀ j : Json, followPath steps j = none ↔
      ∃ (pre : List JsonStep) (s : JsonStep) (post : List JsonStep) (v : Json),
        steps = pre ++ s :: post ∧ followPath pre j = some v ∧ JsonAccess.step v s = none := by
  induction steps with
  | nil =>
    intro j
    simp only [followPath, reduceCtorEq, false_iff]
    rintro ⟨pre, s, post, v, h, _⟩
    cases pre <;> cases h
  | cons s rest ih =>
    intro j
    simp only [followPath]
    cases hs : JsonAccess.step j s with
    | none =>
      simp only [true_iff]
      exact ⟨[], s, rest, j, rfl, rfl, hs⟩
    | some v =>
      simp only []
      rw [ih v]
      constructor
      · rintro ⟨pre, s', post, w, h1, h2, h3⟩
        refine ⟨s :: pre, s', post, w, by rw [h1]; rfl, ?_, h3⟩
        simp only [followPath, hs, h2]
      · rintro ⟨pre, s', post, w, h1, h2, h3⟩
        cases pre with
        | nil =>
          simp only [List.nil_append, List.cons.injEq] at h1
          simp only [followPath, Option.some.injEq] at h2
          obtain ⟨rfl, rfl⟩ := h1
          subst h2
          rw [hs] at h3
          cases h3
        | cons p pre =>
          simp only [List.cons_append, List.cons.injEq] at h1
          obtain ⟨rfl, rfl⟩ := h1
          simp only [followPath, hs] at h2
          exact ⟨pre, s', post, w, rfl, h2, h3⟩

theorem followPath_append (pre post : List JsonStep) :
    ∀ j : Json, followPath (pre ++ post) j = (followPath pre j).bind (followPath post) := by
  induction pre with
  | nil => intro j; rfl
  | cons s pre ih =>
    intro j
    simp only [List.cons_append, followPath]
    cases JsonAccess.step j s with
    | none => rfl
    | some v => exact ih v

theorem foldl_setInner (rev : List JsonStep) (cur : JsonAccess) :
    ∃ a, rev.foldl (fun current part => some (JsonAccess.setInner (JsonAccess.last part) current)) (some cur) = some a ∧
      a.steps = rev.reverse ++ cur.steps := by
  induction rev generalizing cur with
  | nil => exact ⟨cur, rfl, rfl⟩
  | cons s rest ih =>
    simp only [List.foldl_cons, JsonAccess.setInner]
    obtain ⟨a, h1, h2⟩ := ih (JsonAccess.cons s cur)
    refine ⟨a, h1, ?_⟩
    rw [h2]
    simp [JsonAccess.steps]

/-- `from_linear` is total on non-empty part lists and builds exactly the listed path; on the empty list it has
no value (the `unwrap` of D30; the parser rejects an empty path before calling it) -/
theorem fromLinear_spec (parts : List JsonStep) :
    (parts = [] → JsonAccess.fromLinear parts = none) ∧
    (parts ≠ [] → ∃ a, JsonAccess.fromLinear parts = some a ∧ a.steps = parts) := by
  constructor
  · intro h; subst h; rfl
  · intro h
    unfold JsonAccess.fromLinear
    cases hr : parts.reverse with
    | nil => simp at hr; exact absurd hr h
    | cons s rest =>
      simp only [List.foldl_cons, JsonAccess.setInner]
      obtain ⟨a, h1, h2⟩ := foldl_setInner rest (JsonAccess.last s)
      refine ⟨a, h1, ?_⟩
      rw [h2]
      have : parts = (s :: rest).reverse := by rw [← hr, List.reverse_reverse]
      rw [this]
      simp [JsonAccess.steps]

theorem json_columnValue_congr (o : Oracles) (c : Column) (inp inp' : ParsingInput) (hj : c.isJson = true)
    (h : inp.json = inp'.json) : columnValue o c inp = columnValue o c inp' := by
  apply columnValue_congr
  refine ⟨?_, fun _ => h⟩
  intro r hr
  unfold Column.refs at hr
  unfold Column.isJson at hj
  cases hp : c.parsing with
  | json a => rw [hp] at hr; cases hr
  | regex r' => rw [hp] at hj; cases hj
  | multi rs => rw [hp] at hj; cases hj

/-- the table without its JSON columns -/
def withoutJson (d : TableDef) : TableDef :=
  { d with columns := d.columns.filter (fun c => !c.isJson) }

theorem regex_column_same_input (o : Oracles) (d : TableDef) (lo : LineOracle) (c : Column) (hj : c.isJson = false) :
    columnValue o c (ParsingInput.new d lo) = columnValue o c (ParsingInput.new (withoutJson d) lo) := by
  apply columnValue_congr
  refine ⟨fun r _ => rfl, ?_⟩
  intro h; rw [hj] at h; cases h

end Sqlgrep.Extract
