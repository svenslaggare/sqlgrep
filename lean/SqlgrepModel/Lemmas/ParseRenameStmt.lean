import SqlgrepModel.Lemmas.ParseRename
/-
`parse_select` — DISTINCT, the projection loop with AS, FROM, `::'file'`, the clause loop with JOIN / WHERE / GROUP BY /
HAVING / LIMIT — under a morphism of the parser's input (`Lemmas/ParseMorph.lean` for the expression parser), and
`Parser::parse` around it under relabelling the tokens: on the vector with every location `l` replaced by `ℓ l` and every
identifier `n` by `ρ n` the answer is the tree with every location and name changed alike (`PSelect.relabelAll`: column,
call, alias, table and join names; `parseOp_relabel`, `parseTokens_relabel`). With `ℓ = id`: `Parser::parse` on a token
vector that starts with SELECT is equivariant under respelling identifiers (`POp.renAll`, `parseTokens_select_ren`).
-/
namespace Sqlgrep

def PJoin.renAll (ρ : List Char → List Char) (j : PJoin) : PJoin :=
  { j with joinerTable := ρ j.joinerTable, leftTable := ρ j.leftTable, leftColumn := ρ j.leftColumn,
           rightTable := ρ j.rightTable, rightColumn := ρ j.rightColumn }

def renProj (ρ : List Char → List Char) (ps : List (Option (List Char) × PExpr)) : List (Option (List Char) × PExpr) :=
  ps.map (fun p => (p.1.map ρ, p.2.renAll ρ))

def PSelect.renAll (ρ : List Char → List Char) (q : PSelect) : PSelect :=
  { q with projections := renProj ρ q.projections, fromTable := ρ q.fromTable,
           filter := q.filter.map (PExpr.renAll ρ), groupBy := q.groupBy.map (PExpr.renAllList ρ),
           having := q.having.map (PExpr.renAll ρ), join := q.join.map (PJoin.renAll ρ) }

/-- respell every name of a SELECT tree (CREATE TABLE trees are left alone: the theorems below are about SELECT) -/
def POp.renAll (ρ : List Char → List Char) : POp → POp
  | .select q => .select (q.renAll ρ)
  | t => t

def ParseOutcome.ren (ρ : List Char → List Char) : ParseOutcome → ParseOutcome
  | .tree t => .tree (t.renAll ρ)
  | .error e => .error (e.ren ρ)
  | .fuel => .fuel
  | .panic => .panic

def relabelProj (ℓ : Loc → Loc) (ρ : List Char → List Char) (ps : List (Option (List Char) × PExpr)) :
    List (Option (List Char) × PExpr) :=
  ps.map (fun p => (p.1.map ρ, p.2.mapAll ℓ ρ ρ))

def Clauses.relabelAll (ℓ : Loc → Loc) (ρ : List Char → List Char) (c : Clauses) : Clauses :=
  { filter := c.filter.map (PExpr.mapAll ℓ ρ ρ), groupBy := c.groupBy.map (PExpr.mapAllList ℓ ρ ρ),
    having := c.having.map (PExpr.mapAll ℓ ρ ρ), join := c.join.map (PJoin.renAll ρ), limit := c.limit }

def PSelect.relabelAll (ℓ : Loc → Loc) (ρ : List Char → List Char) (q : PSelect) : PSelect :=
  { q with loc := ℓ q.loc, projections := relabelProj ℓ ρ q.projections, fromTable := ρ q.fromTable,
           filter := q.filter.map (PExpr.mapAll ℓ ρ ρ), groupBy := q.groupBy.map (PExpr.mapAllList ℓ ρ ρ),
           having := q.having.map (PExpr.mapAll ℓ ρ ρ), join := q.join.map (PJoin.renAll ρ) }

namespace Parse

variable {ρ : List Char → List Char}

theorem renProj_single (a : Option (List Char)) (e : PExpr) : renProj ρ [(a, e)] = [(a.map ρ, e.renAll ρ)] := rfl
theorem renProj_nil : renProj ρ [] = [] := rfl

theorem mkErr_ren' {α} (s : PSt) (k : PErrKind) (hk : k.ren ρ = k) (f : α → α) :
    (mkErr (s.ren ρ) k : PRes α) = (mkErr s k).ren ρ f := mkErr_ren ρ s k f hk

theorem ren_ite {α : Type} (f : α → α) (c : Prop) [Decidable c] (a b : PRes α) :
    PRes.ren ρ f (if c then a else b) = if c then PRes.ren ρ f a else PRes.ren ρ f b :=
  apply_ite ..

variable {ℓ : Loc → Loc}

theorem relabel_rest_isEmpty (s : PSt) : (s.relabelAll ℓ ρ).rest.isEmpty = s.rest.isEmpty := by
  cases h : s.rest <;> simp [PSt.relabelAll, h]

theorem ren_rest_isEmpty (s : PSt) : (s.ren ρ).rest.isEmpty = s.rest.isEmpty := relabel_rest_isEmpty (ℓ := id) s

theorem relabelProj_snoc (acc : List (Option (List Char) × PExpr)) (a : Option (List Char)) (e : PExpr) :
    relabelProj ℓ ρ (acc ++ [(a, e)]) = relabelProj ℓ ρ acc ++ [(a.map ρ, e.mapAll ℓ ρ ρ)] := by
  simp [relabelProj]

theorem optSemi_relabel (s : PSt) : (optSemi s).relabelAll ℓ ρ id = optSemi (s.relabelAll ℓ ρ) := by
  unfold optSemi
  simp +decide only [relabel_cur_tok, tok_ren_eq]
  exact map_ite (fun _ => next_relabel s) (fun _ => rfl)

theorem optSemi_ren (s : PSt) : optSemi (s.ren ρ) = (optSemi s).ren ρ id :=
  (optSemi_relabel (ℓ := id) s).symm.trans (relabel_id_ren ..)

/-! ### `parse_select` under a morphism of the input

The functions that stop in front of a clause keyword, `;` or `End` commute with every morphism; those that read such a
token (`parse_join`, the clause loop, `parse_select` itself) with every morphism that has no opaque token. -/

section stmt
variable {T : PrecTables} (τ : Morph T)

theorem optAlias_morph (s : PSt) : τ.res (Option.map τ.ρ) (optAlias s) = optAlias (τ.g s) := by
  unfold optAlias
  simp only [parse_bind]
  morph_walk τ [] []

theorem optDistinct_morph (s : PSt) : τ.res id (optDistinct s) = optDistinct (τ.g s) := by
  unfold optDistinct
  simp only [parse_bind]
  morph_walk τ [] []

theorem optFile_morph (s : PSt) : τ.res id (optFile s) = optFile (τ.g s) := by
  unfold optFile
  simp only [parse_bind]
  morph_walk τ [τ.consumeString _] []

theorem projLoop_morph : ∀ (n : Nat) (acc : List (Option (List Char) × PExpr)) (s : PSt),
    τ.res (relabelProj τ.ℓ τ.ρ) (projLoop T n acc s) = projLoop T n (relabelProj τ.ℓ τ.ρ acc) (τ.g s)
  | 0, _, _ => by rw [projLoop, projLoop]; rfl
  | n + 1, acc, s => by
    rw [projLoop, projLoop]
    simp only [parse_bind]
    morph_walk τ [(morph_all τ n).e _, optAlias_morph τ _, projLoop_morph n _ _] [← relabelProj_snoc]

theorem groupKeysLoop_morph : ∀ (n : Nat) (acc : List PExpr) (s : PSt),
    τ.res (PExpr.mapAllList τ.ℓ τ.ρ τ.ρ) (groupKeysLoop T n acc s) =
      groupKeysLoop T n (PExpr.mapAllList τ.ℓ τ.ρ τ.ρ acc) (τ.g s)
  | 0, _, _ => by rw [groupKeysLoop, groupKeysLoop]; rfl
  | n + 1, acc, s => by
    rw [groupKeysLoop, groupKeysLoop]
    simp only [parse_bind]
    morph_walk τ [(morph_all τ n).e _, groupKeysLoop_morph n _ _] [← PExpr.mapAllList_snoc]

variable (hτ : ∀ t, ¬ τ.Opq t)
include hτ

theorem parseJoin_morph (b : Bool) (s : PSt) : τ.res (PJoin.renAll τ.ρ) (parseJoin b s) = parseJoin b (τ.g s) := by
  unfold parseJoin
  simp only [parse_bind, expectConsumeOp]
  morph_walk τ [τ.next _ (hτ _), τ.consumeString _, τ.expectConsume (hτ _) (tok_ren_eq _ rfl) rfl _] []

theorem clauseTurn_morph (n : Nat) (c : Clauses) (s : PSt) :
    τ.res (fun r => (r.1.relabelAll τ.ℓ τ.ρ, r.2)) (clauseTurn T n c s) =
      clauseTurn T n (c.relabelAll τ.ℓ τ.ρ) (τ.g s) := by
  unfold clauseTurn
  simp only [parse_bind, Clauses.relabelAll, Option.isSome_map]
  morph_walk τ [τ.next _ (hτ _), (morph_all τ n).e _, parseJoin_morph τ hτ _ _, groupKeysLoop_morph τ n [_] _, τ.consumeInt _,
    τ.expectConsume (hτ _) (tok_ren_eq _ rfl) rfl _] []

theorem clauseLoop_morph : ∀ (n : Nat) (c : Clauses) (s : PSt),
    τ.res (Clauses.relabelAll τ.ℓ τ.ρ) (clauseLoop T n c s) = clauseLoop T n (c.relabelAll τ.ℓ τ.ρ) (τ.g s)
  | 0, _, _ => by rw [clauseLoop, clauseLoop]; rfl
  | n + 1, c, s => by
    rw [clauseLoop, clauseLoop]
    simp only [parse_bind]
    morph_walk τ [clauseTurn_morph τ hτ n _ _, clauseLoop_morph n _ _] []

theorem clauses_morph (n : Nat) (s : PSt) :
    τ.res (Clauses.relabelAll τ.ℓ τ.ρ) (clauses T n s) = clauses T n (τ.g s) := by
  unfold clauses
  simp only [ne_eq, ite_not]
  morph_walk τ [clauseLoop_morph τ hτ n {} _] []

/-- `fop` may be any map of statement trees that relabels a SELECT tree -/
theorem parseSelect_morph {fop : POp → POp} (hsel : ∀ q, fop (.select q) = .select (q.relabelAll τ.ℓ τ.ρ)) (n : Nat)
    (s : PSt) :
    τ.res fop (parseSelect T n s) = parseSelect T n (τ.g s) := by
  unfold parseSelect
  simp only [parse_bind]
  morph_walk τ [τ.next _ (hτ _), optDistinct_morph τ _, projLoop_morph τ n [] _, optFile_morph τ _,
    clauses_morph τ hτ n _] [τ.loc]
  exact congrArg (PRes.ok · _) (hsel _)

end stmt

/-- `Parser::parse` behind its first `next()` commutes with the relabelling if the statement parser does -/
theorem parseOp_relabel {T : PrecTables} {fop : POp → POp} {n : Nat} {s : PSt}
    (h : (parseStatement T n s).relabelAll ℓ ρ fop = parseStatement T n (s.relabelAll ℓ ρ)) :
    (parseOp T n s).relabelAll ℓ ρ fop = parseOp T n (s.relabelAll ℓ ρ) := by
  unfold parseOp
  rw [← h, relabel_cur_tok]
  simp +decide only [parse_bind, tok_ren_eq, ne_eq]
  refine map_ite (fun _ => rfl) (fun _ => ?_)
  cases parseStatement T n s with
  | fuel => rfl
  | ok op s1 =>
    refine map_bind (optSemi_relabel _) (fun _ s2 _ => ?_)
    rw [relabel_rest_isEmpty]
    exact map_ite (fun _ => rfl) (fun _ => rfl)
  | err e s1 => exact map_bind (optSemi_relabel _) (fun _ _ _ => rfl)

theorem parseTokens_relabel {T : PrecTables} {fop : POp → POp} {toks : List PTok}
    (h : ∀ t ts, toks = t :: ts → ∀ n, (parseOp T n ⟨t, ts⟩).relabelAll ℓ ρ fop = parseOp T n (PSt.relabelAll ℓ ρ ⟨t, ts⟩)) :
    parseTokens T (toks.map (PTok.relabelAll ℓ ρ)) =
      match parseTokens T toks with
      | .tree t => .tree (fop t)
      | .error e => .error (e.relabelAll ℓ ρ)
      | o => o := by
  unfold parseTokens parseTokensFuel
  cases toks with
  | nil => rfl
  | cons t ts =>
    simp only [List.map_cons, List.length_cons, List.length_map]
    have e := h t ts rfl (fuelBound (ts.length + 1))
    simp only [PSt.relabelAll] at e
    rw [← e]
    cases parseOp T (fuelBound (ts.length + 1)) ⟨t, ts⟩ <;> rfl

theorem parseTokens_select_ren (hρ : NameMap ρ) {T : PrecTables} (hT : NoIdentOps T) (toks : List PTok)
    (hs : toks.head?.map (·.tok) = some (.kw .select)) :
    parseTokens T (toks.map (PTok.ren ρ)) = (parseTokens T toks).ren ρ := by
  have hsel : ∀ q, POp.renAll ρ (.select q) = .select (q.relabelAll id ρ) := fun q => by
    simp only [POp.renAll, PSelect.renAll, PSelect.relabelAll, renProj, relabelProj, id, (PExpr.renAll_eq_mapAll ρ).1,
      funext (PExpr.renAll_eq_mapAll ρ).1, funext (PExpr.renAll_eq_mapAll ρ).2.1]
  refine (parseTokens_relabel (ℓ := id) (fop := POp.renAll ρ) fun t ts ht n => parseOp_relabel ?_).trans ?_
  · have ht' : t.tok = .kw .select := by simpa [ht] using hs
    unfold parseStatement
    simp only [relabel_cur_tok, ht', Tok.ren, if_true]
    exact parseSelect_morph (Morph.relabel id hρ fun i => (hT _).trans (hT i).symm) (fun _ h => h) hsel n _
  · cases parseTokens T toks <;> rfl

end Parse
end Sqlgrep
