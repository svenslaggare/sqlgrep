import SqlgrepModel.Lemmas.ClimbFinal
import SqlgrepModel.Lemmas.ParseFuelStmt
/-
C13 — "Every expression means the same as its fully parenthesised form under the standard SQL precedence - cast and
subscript and qualified names bind tightest, then unary minus, then * and /, then + and -, then comparisons with IS
and IN, then NOT, then AND, then OR, binary operators associating to the left - so in particular a OR b AND c is
a OR (b AND c), NOT a = b is NOT (a = b) and x + a[1] adds the element. A negative literal or negated operand may
follow any operator (x = -1, x - -1), a parenthesised sub-expression is always accepted where an operand is, and IN
accepts a list of one element."

The theorems are about `Parse.parseExpr` (the model of `Parser::parse_expression_internal` that the driver executes,
`Model/ParseExpr.lean`) run on the precedence tables regenerated from the running code (`Generated/PrecTable.lean`).
`Spec/Grammar.lean` is the reference grammar of the sentence: `specTables`, `notLevel`, `negLevel`, the expression
type `RExpr`, the printers `minimal` / `full` and the denoted tree `embed`.
A state `pushAll toks rest` is the token vector `toks ++ rest` (printed tokens at the default location).
-/
namespace Sqlgrep.Props.C13
open Sqlgrep Sqlgrep.Spec Sqlgrep.Parse

/-- **fuel_mono**: more fuel never changes an answer of the expression parser other than "out of fuel" (an `ok` or
`err` answer is final). The same holds for the five other mutually recursive functions (`Lemmas/ClimbMono.lean`). -/
theorem fuel_mono (T : PrecTables) {f f' : Nat} (h : f ≤ f') {s : PSt} {r : PRes PExpr}
    (hr : parseExpr T f s = r) (hne : r ≠ .fuel) : parseExpr T f' s = r :=
  fuel_mono_expr T h hr hne

/-- The table obligations: the tables as written in the model, the tables regenerated from the running code and the
reference tables satisfy the well-formedness `PrecTables.WF` that `climb_correct` needs (precedences ≥ 0; the
qualified-name dot defined, above every other operator and at least 8; IS / IS NOT / AND / OR / IN / NOT IN / `[` /
`::` defined; `)` `,` `]` not operators; unary minus defined). -/
theorem code_tables_wf : PrecTables.code.WF := code_wf

/-- the table the statement parser, the `pstmt` / `stmt` drivers and the end-to-end `Pipeline.runText` run with
(`PrecTables.code`) IS the table regenerated from the running code — hence (by `grammar_eq_spec` below) the reference
grammar's. So every theorem of this file stated for `Generated.precTables` speaks about the executed parser, and a
change of any precedence in /repo breaks this obligation at build time. -/
theorem code_tables_are_the_generated_tables : PrecTables.code = Generated.precTables := by decide +kernel
theorem generated_tables_wf : Generated.precTables.WF := generated_wf
theorem spec_tables_wf : specTables.WF := spec_wf

/-- **grammar_eq_spec** (tables): the precedence assignment the running code implements *is* the reference assignment
of the sentence: OR 1, AND 2, comparisons / IS / IS NOT / IN / NOT IN 4, `+ -` 5, `* /` (and `^`) 6, `[` and `::` 8,
qualified-name dot 9, unary operators = {`-`}. A changed entry in `operator.rs` / `get_token_precedence` breaks this
theorem at build time. -/
theorem grammar_eq_spec : Generated.precTables = specTables := generated_eq_spec

/-- **grammar_eq_spec** (structural rule for NOT): prefix NOT takes as operand a unary expression followed by the
operand loop at level `notLevel + 1 = 4`, i.e. NOT binds weaker than the comparisons and tighter than AND. -/
theorem not_attaches (T : PrecTables) {s s1 : PSt} {x : PExpr} {s2 : PSt} (hcur : s.cur.tok = .kw .not)
    (hnext : next s = .ok () s1) (hx : PExprAt T (notLevel + 1) s1 x s2) : PU T s (.invert s.cur.loc x) s2 :=
  PU_not T ⟨hcur, hnext⟩ hx

/-- **grammar_eq_spec** (structural rule for unary minus): a unary operator takes as operand a unary expression
followed by the operand loop at level `negLevel + 1 = 8`, i.e. unary minus binds weaker than cast / subscript /
qualified names and tighter than `*` `/`. -/
theorem neg_attaches (T : PrecTables) {s s1 : PSt} {o : Operator} {x : PExpr} {s2 : PSt} (hcur : s.cur.tok = .op o)
    (hstar : o ≠ .single '*') (hun : o ∈ T.unary) (hnext : next s = .ok () s1)
    (hx : PExprAt T (negLevel + 1) s1 x s2) : PU T s (.unop s.cur.loc o x) s2 :=
  PU_neg T ⟨hcur, hnext⟩ hstar hun hx

/-- **climb_correct**: for *any* well-formed precedence table `T` and any well-formed expression `e` — binary
operators, IS / IS NOT, AND / OR, prefix NOT and unary minus (also nested and after any operator), subscripts, casts,
qualified names, IN / NOT IN lists (one element included), calls (also `count(DISTINCT …)`, `count(*)`, `array[…]`,
`EXTRACT(… FROM …)`), tuples, CASE, user-written parentheses, nested to any depth —
running `parse_unary_operator` and then the operand loop at any level `m` on the printing of `e` for context `m`
(parentheses only where the levels require them) followed by a state that stops level `m` returns exactly the tree of
`e` and stops in front of that state, for every sufficiently large fuel. -/
theorem climb_correct (T : PrecTables) (hT : T.WF) (e : RExpr) (hwf : RExpr.WF T e) (m : Int) (rest : PSt)
    (hm : m ≤ dotPrec T) (hloc : rest.cur.loc = default) (hS : Stops T m rest) :
    ∃ f0, ∀ f, f0 ≤ f → ∃ u s1, parseUnary T f (pushAll (e.pr T m) rest) = .ok u s1 ∧
      parseRhs T f m u s1 = .ok e.embed rest := by
  obtain ⟨u, s1, ⟨f, hf⟩, ⟨g, hg⟩⟩ := Spec.climb_correct hT e hwf m rest hm hloc hS
  refine ⟨max f g, fun k hk => ⟨u, s1, ?_, ?_⟩⟩
  · exact fuel_mono_unary T (by omega) hf ok_ne_fuel
  · exact fuel_mono_rhs T (by omega) hg ok_ne_fuel

/-- `climb_correct` at the top level (`parse_expression_internal`). -/
theorem climb_correct_top (T : PrecTables) (hT : T.WF) (e : RExpr) (hwf : RExpr.WF T e) (rest : PSt)
    (hloc : rest.cur.loc = default) (hS : Stops T 0 rest) :
    ∃ f0, ∀ f, f0 ≤ f → parseExpr T f (pushAll (e.pr T 0) rest) = .ok e.embed rest :=
  parse_printed hT e hwf rest hloc hS

/-- **parse_minimal_parens**: with the tables of the running code, an expression written with minimal parentheses
under the reference grammar and its fully parenthesised form are both read as the tree the reference grammar
assigns to it: `parse (minimal e) = parse (full e) = embed e`. -/
theorem parse_minimal_parens (e : RExpr) (hwf : RExpr.WF specTables e) (rest : PSt)
    (hloc : rest.cur.loc = default) (hS : Stops specTables 0 rest) :
    ∃ f0, ∀ f, f0 ≤ f →
      parseExpr Generated.precTables f (pushAll (RExpr.minimal e) rest) = .ok e.embed rest ∧
      parseExpr Generated.precTables f (pushAll (RExpr.full e) rest) = .ok e.embed rest := by
  rw [grammar_eq_spec]
  obtain ⟨f1, h1⟩ := parse_printed spec_wf e hwf rest hloc hS
  obtain ⟨f2, h2⟩ := parse_printed spec_wf e.parenAll (WF_parenAll e hwf) rest hloc hS
  rw [embed_parenAll] at h2
  exact ⟨max f1 f2, fun f hf => ⟨h1 f (by omega), h2 f (by omega)⟩⟩

/-- Parsing does not depend on where the tokens stand in the text: on the token vector with every location replaced by
the default one the expression parser gives the same answer with every location erased (tree / error / rest). -/
theorem parse_ignores_locations (T : PrecTables) (n : Nat) (s : PSt) :
    parseExpr T n s.strip = (parseExpr T n s).strip PExpr.eraseLoc :=
  parseExpr_strip T n s

/-- **parse_minimal_parens** for token vectors with arbitrary locations (`mkSt ts rest` is the vector `ts` followed by
the vector `rest`): if the tokens of `ts₁` are `minimal e` and the tokens of `ts₂` are `full e`, both are read as
`embed e` up to locations, and the parser stops in front of `rest`. -/
theorem parse_minimal_parens_located (e : RExpr) (hwf : RExpr.WF specTables e) (ts₁ ts₂ : List PTok) (rest : PSt)
    (h₁ : ts₁.map (·.tok) = RExpr.minimal e) (h₂ : ts₂.map (·.tok) = RExpr.full e) (hS : Stops specTables 0 rest) :
    ∃ f0, ∀ f, f0 ≤ f → ∃ t₁ s₁ t₂ s₂,
      parseExpr Generated.precTables f (mkSt ts₁ rest) = .ok t₁ s₁ ∧
      parseExpr Generated.precTables f (mkSt ts₂ rest) = .ok t₂ s₂ ∧
      t₁.eraseLoc = e.embed ∧ t₂.eraseLoc = e.embed ∧ s₁.strip = rest.strip ∧ s₂.strip = rest.strip := by
  rw [grammar_eq_spec]
  obtain ⟨f1, g1⟩ := parse_located spec_wf e hwf ts₁ rest h₁ hS
  obtain ⟨f2, g2⟩ := parse_located spec_wf e.parenAll (WF_parenAll e hwf) ts₂ rest h₂ hS
  refine ⟨max f1 f2, fun f hf => ?_⟩
  obtain ⟨t₁, s₁, a1, a2, a3⟩ := g1 f (by omega)
  obtain ⟨t₂, s₂, b1, b2, b3⟩ := g2 f (by omega)
  rw [embed_parenAll] at b2
  exact ⟨t₁, s₁, t₂, s₂, a1, b1, a2, b2, a3, b3⟩

/-- "a parenthesised sub-expression is always accepted where an operand is": `RExpr.paren` may wrap any
sub-expression at any operand position of `e` in `parse_minimal_parens`, and it does not change the tree. -/
theorem paren_operand_accepted (e : RExpr) : (RExpr.paren e).embed = e.embed := rfl

/-- "A negative literal or negated operand may follow any operator": after *every* binary operator of the reference
grammar (symbolic, IS, IS NOT, AND, OR) the minimal printing of `l o (- r)` puts the minus sign directly after the
operator, without parentheses — and by `parse_minimal_parens` that token sequence is read as `l o (- r)`. -/
theorem neg_after_operator (o : BOp) (l r : RExpr)
    (h : ∀ s, o = .sym s → s ≠ .single '.' ∧ (lookupOp specTables.binary s).isSome) :
    RExpr.minimal (.bin o l (.neg r)) =
      RExpr.pr specTables (tokPrec specTables o.tok) l ++ [o.tok, .op (.single '-')] ++
        RExpr.pr specTables (RExpr.prefixCtx negLevel r) r :=
  minimal_neg_operand o l r h

/-- what may follow an expression: any token that is not `(`, not an operator character and has no precedence
(`End`, `FROM`, `AS`, `,`, `)`, `]`, `THEN`, …) -/
theorem stops_of_plain_token {s : PSt} (h1 : s.cur.tok ≠ .lp) (h2 : ∀ o, s.cur.tok ≠ .op o)
    (h3 : lookupTok specTables.other s.cur.tok = none) : Stops specTables 0 s :=
  stops_plain h1 h2 h3

/-! ### the fuel the code is modelled with is enough

The theorems above hold "for every sufficiently large fuel". The executed model runs with a fuel that is linear in the
number of tokens (`Drivers/ParseExpr.lean`: `8 n + 16`; `Parse.parseTokens`: `fuelBound`), and `Lemmas/ParseFuelStmt.lean`
shows that `3 · (tokens remaining)` is always enough for the expression parser not to run out. Together with `fuel_mono`:
the answer at the executed fuel IS the answer of the theorems. -/

/-- at every fuel of at least three times the number of remaining tokens the answer is the one the theorems speak about -/
theorem answer_at_linear_fuel (T : PrecTables) (s : PSt) (t : PExpr) (rest : PSt)
    (h : ∃ f0, ∀ f, f0 ≤ f → parseExpr T f s = .ok t rest) (f : Nat) (hf : 3 * s.remaining ≤ f) :
    parseExpr T f s = .ok t rest := by
  obtain ⟨f0, h0⟩ := h
  have hne : parseExpr T f s ≠ .fuel := (parseExpr_adv T f s hf).1
  have := fuel_mono_expr T (Nat.le_max_left f f0) rfl hne
  rw [h0 (max f f0) (Nat.le_max_right f f0)] at this
  exact this.symm

/-- **parse_minimal_parens at the executed fuel** -/
theorem parse_minimal_parens_linear_fuel (e : RExpr) (hwf : RExpr.WF specTables e) (rest : PSt)
    (hloc : rest.cur.loc = default) (hS : Stops specTables 0 rest) (f : Nat)
    (h1 : 3 * (pushAll (RExpr.minimal e) rest).remaining ≤ f) (h2 : 3 * (pushAll (RExpr.full e) rest).remaining ≤ f) :
    parseExpr Generated.precTables f (pushAll (RExpr.minimal e) rest) = .ok e.embed rest ∧
    parseExpr Generated.precTables f (pushAll (RExpr.full e) rest) = .ok e.embed rest := by
  obtain ⟨f0, h0⟩ := parse_minimal_parens e hwf rest hloc hS
  exact ⟨answer_at_linear_fuel _ _ _ _ ⟨f0, fun g hg => (h0 g hg).1⟩ f h1,
         answer_at_linear_fuel _ _ _ _ ⟨f0, fun g hg => (h0 g hg).2⟩ f h2⟩

/-- the driver's fuel `8 n + 16` for a vector of `n` tokens is such a fuel -/
theorem driver_fuel_is_enough (s : PSt) : 3 * s.remaining ≤ 8 * s.remaining + 16 := by omega

section instances
variable (rest : PSt) (a b c x : List Char)

/-- `a OR b AND c` is `a OR (b AND c)` -/
theorem or_and (hloc : rest.cur.loc = default) (hS : Stops specTables 0 rest) (ha : lowerChars a ≠ "array".toList) (hb : lowerChars b ≠ "array".toList) (hc : lowerChars c ≠ "array".toList) :
    ∃ f0, ∀ f, f0 ≤ f → parseExpr Generated.precTables f
      (pushAll [.ident a, .kw .or, .ident b, .kw .and, .ident c] rest) =
      .ok (.boolop default false (pcol a) (.boolop default true (pcol b) (pcol c))) rest :=
  inst (.bin .or (col a) (.bin .and (col b) (col c))) _ _ rest hloc hS
    (wf_kw (by simp) (wf_col ha) (wf_kw (by simp) (wf_col hb) (wf_col hc))) rfl rfl

/-- `NOT a = b` is `NOT (a = b)` -/
theorem not_eq (hloc : rest.cur.loc = default) (hS : Stops specTables 0 rest) (ha : lowerChars a ≠ "array".toList) (hb : lowerChars b ≠ "array".toList) :
    ∃ f0, ∀ f, f0 ≤ f → parseExpr Generated.precTables f
      (pushAll [.kw .not, .ident a, .op (.single '='), .ident b] rest) =
      .ok (.invert default (.binop default (.single '=') (pcol a) (pcol b))) rest :=
  inst (.not (.bin (.sym (.single '=')) (col a) (col b))) _ _ rest hloc hS
    (wf_sym (by decide) (wf_col ha) (wf_col hb)) rfl rfl

/-- `x + a[1]` adds the element -/
theorem plus_subscript (hloc : rest.cur.loc = default) (hS : Stops specTables 0 rest) (hx : lowerChars x ≠ "array".toList) (ha : lowerChars a ≠ "array".toList) :
    ∃ f0, ∀ f, f0 ≤ f → parseExpr Generated.precTables f
      (pushAll [.ident x, .op (.single '+'), .ident a, .lsq, .int 1, .rsq] rest) =
      .ok (.binop default (.single '+') (pcol x) (.index default (pcol a) (.value default (.int 1)))) rest :=
  inst (.bin (.sym (.single '+')) (col x) (.index (col a) (.lit (.int 1)))) _ _ rest hloc hS
    (wf_sym (by decide) (wf_col hx) ⟨wf_col ha, wf_lit _⟩) rfl rfl

/-- `x = -1`: a negative literal may follow a comparison -/
theorem eq_neg (hloc : rest.cur.loc = default) (hS : Stops specTables 0 rest) (hx : lowerChars x ≠ "array".toList) :
    ∃ f0, ∀ f, f0 ≤ f → parseExpr Generated.precTables f
      (pushAll [.ident x, .op (.single '='), .op (.single '-'), .int 1] rest) =
      .ok (.binop default (.single '=') (pcol x) (.unop default (.single '-') (.value default (.int 1)))) rest :=
  inst (.bin (.sym (.single '=')) (col x) (.neg (.lit (.int 1)))) _ _ rest hloc hS
    (wf_sym (by decide) (wf_col hx) (by simp [RExpr.WF])) rfl rfl

/-- `x - -1`: a negated operand may follow a minus -/
theorem minus_neg (hloc : rest.cur.loc = default) (hS : Stops specTables 0 rest) (hx : lowerChars x ≠ "array".toList) :
    ∃ f0, ∀ f, f0 ≤ f → parseExpr Generated.precTables f
      (pushAll [.ident x, .op (.single '-'), .op (.single '-'), .int 1] rest) =
      .ok (.binop default (.single '-') (pcol x) (.unop default (.single '-') (.value default (.int 1)))) rest :=
  inst (.bin (.sym (.single '-')) (col x) (.neg (.lit (.int 1)))) _ _ rest hloc hS
    (wf_sym (by decide) (wf_col hx) (by simp [RExpr.WF])) rfl rfl

/-- `x IN (1)`: IN accepts a list of one element -/
theorem in_singleton (hloc : rest.cur.loc = default) (hS : Stops specTables 0 rest) (hx : lowerChars x ≠ "array".toList) :
    ∃ f0, ∀ f, f0 ≤ f → parseExpr Generated.precTables f
      (pushAll [.ident x, .kw .in, .lp, .int 1, .rp] rest) =
      .ok (.inList default false (pcol x) [.value default (.int 1)]) rest :=
  inst (.inList false (col x) (.lit (.int 1)) []) _ _ rest hloc hS
    ⟨wf_col hx, wf_lit _, trivial⟩ rfl rfl

/-- `( a ) * ( b + c )`: parenthesised operands are accepted on both sides of an operator (and group) -/
theorem paren_operands (hloc : rest.cur.loc = default) (hS : Stops specTables 0 rest) (ha : lowerChars a ≠ "array".toList) (hb : lowerChars b ≠ "array".toList) (hc : lowerChars c ≠ "array".toList) :
    ∃ f0, ∀ f, f0 ≤ f → parseExpr Generated.precTables f
      (pushAll [.lp, .ident a, .rp, .op (.single '*'), .lp, .ident b, .op (.single '+'), .ident c, .rp] rest) =
      .ok (.binop default (.single '*') (pcol a) (.binop default (.single '+') (pcol b) (pcol c))) rest :=
  inst (.bin (.sym (.single '*')) (.paren (col a)) (.paren (.bin (.sym (.single '+')) (col b) (col c)))) _ _ rest hloc hS
    (wf_sym (by decide) (wf_col ha) (wf_sym (by decide) (wf_col hb) (wf_col hc))) rfl rfl

end instances

/-- the hypotheses of the theorems are satisfiable: the End token stops the top-level loop -/
example : Stops specTables 0 ⟨⟨default, .eof⟩, []⟩ := stops_of_plain_token (by simp) (by simp) (by decide)

/-- the printers on a non-trivial expression: `NOT a = b AND - c[1]::int IN (1)` / its fully parenthesised form -/
example : RExpr.minimal (.bin .and (.not (.bin (.sym (.single '=')) (.col ['a'] []) (.col ['b'] [])))
      (.inList false (.neg (.cast (.index (.col ['c'] []) (.lit (.int 1))) .int)) (.lit (.int 1)) [])) =
    [.kw .not, .ident ['a'], .op (.single '='), .ident ['b'], .kw .and, .op (.single '-'), .ident ['c'], .lsq, .int 1,
     .rsq, .dcolon, .ident "int".toList, .kw .in, .lp, .int 1, .rp] := by decide +kernel

/-- … and with the atoms of the operator grammar: `CASE WHEN a THEN count(DISTINCT b) ELSE array[1][1] END * EXTRACT(hour FROM c)` -/
example : RExpr.minimal (.bin (.sym (.single '*'))
      (.case (.col ['a'] []) (.countDistinct "count".toList (.col ['b'] []) []) []
        (.index (.array "array".toList [.lit (.int 1)]) (.lit (.int 1))))
      (.extract "hour".toList (.col ['c'] []))) =
    [.kw .case, .kw .when, .ident ['a'], .kw .then, .ident "count".toList, .lp, .kw .distinct, .ident ['b'], .rp, .kw .else,
     .ident "array".toList, .lsq, .int 1, .rsq, .lsq, .int 1, .rsq, .kw .end, .op (.single '*'), .kw .extract, .lp,
     .ident "hour".toList, .kw .from, .ident ['c'], .rp] := by decide +kernel

example : RExpr.WF specTables (.case (.col ['a'] []) (.countDistinct "count".toList (.col ['b'] []) []) []
    (.index (.array "array".toList [.lit (.int 1)]) (.lit (.int 1)))) := by
  simp [RExpr.WF, RExpr.WFs, RExpr.WFClauses]; decide

example : RExpr.full (.bin .or (.col ['a'] []) (.bin .and (.col ['b'] []) (.col ['c'] []))) =
    [.lp, .ident ['a'], .kw .or, .lp, .ident ['b'], .kw .and, .ident ['c'], .rp, .rp] := by decide +kernel

/-- the model run on concrete tokens (fuel 40): `a OR b AND c` followed by End -/
example : (match parseExpr Generated.precTables 40
      (pushAll [.ident ['a'], .kw .or, .ident ['b'], .kw .and, .ident ['c']] ⟨⟨default, .eof⟩, []⟩) with
    | .ok (.boolop _ false (.column _ ['a']) (.boolop _ true (.column _ ['b']) (.column _ ['c']))) _ => true
    | _ => false) = true := by decide +kernel

end Sqlgrep.Props.C13
