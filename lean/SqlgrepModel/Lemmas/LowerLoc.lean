import SqlgrepModel.Lemmas.LowerNames
/-
Every `ConvertParserTreeError` is located at a node of the tree (or at the statement's own location):
`t.AllLoc P → (lowerStatement rv t).ErrAt P` for every predicate `P` on locations. For a SELECT statement this follows from
the lowering's equivariance under relabelling of locations (`lowerStatement_relabel`, `Lemmas/LowerNames.lean`): a relabelling
that keeps the locations where `P` holds keeps the tree, hence the error, hence the error's location.
-/
namespace Sqlgrep

def LRes.ErrAt {α : Type} (r : LRes α) (P : Loc → Prop) : Prop := ∀ e, r = .err e → P e.loc

theorem LRes.ErrAt.bind {α β : Type} {P : Loc → Prop} {x : LRes α} {f : α → LRes β} (hx : x.ErrAt P)
    (hf : ∀ a, (f a).ErrAt P) : (x.bind f).ErrAt P := by
  cases x with
  | ok a => exact hf a
  | err e => exact fun e' h' => by cases h'; exact hx e rfl
  | panic s => exact fun _ h => nomatch h

def PSelect.AllLoc (P : Loc → Prop) (q : PSelect) : Prop :=
  P q.loc ∧ (∀ p ∈ q.projections, PExpr.AllLoc P p.2) ∧ (∀ e, q.filter = some e → PExpr.AllLoc P e) ∧
  (∀ ks, q.groupBy = some ks → PExpr.AllLocList P ks) ∧ (∀ e, q.having = some e → PExpr.AllLoc P e)

def POp.AllLoc (P : Loc → Prop) : POp → Prop
  | .select q => q.AllLoc P
  | .createTable c => P c.loc
  | .multiple cs => ∀ c ∈ cs, P c.loc

namespace Lower
variable {α : Type} {P Q : Loc → Prop}

theorem errAt_ok (a : α) : (LRes.ok a).ErrAt P := by intro e h; cases h
theorem errAt_err {e : CErr} (h : P e.loc) : (LRes.err e : LRes α).ErrAt P := by
  intro e' h'; cases h'; exact h

theorem allLoc_mono (h : ∀ l, P l → Q l) :
    (∀ e, PExpr.AllLoc P e → PExpr.AllLoc Q e) ∧ (∀ es, PExpr.AllLocList P es → PExpr.AllLocList Q es) ∧
    (∀ cs, PExpr.AllLocClauses P cs → PExpr.AllLocClauses Q cs) := by
  apply PExpr.induct3
  all_goals simp only [PExpr.AllLoc, PExpr.AllLocList, PExpr.AllLocClauses, and_imp]
  all_goals intros
  all_goals simp only [and_self, *]

theorem select_allLoc_mono (h : ∀ l, P l → Q l) {q : PSelect} (hq : q.AllLoc P) : q.AllLoc Q :=
  have hm := allLoc_mono h
  ⟨h _ hq.1, fun p hp => hm.1 _ (hq.2.1 p hp), fun e he => hm.1 _ (hq.2.2.1 e he), fun ks hk => hm.2.1 _ (hq.2.2.2.1 ks hk),
    fun e he => hm.1 _ (hq.2.2.2.2 e he)⟩

/-- a relabelling keeps a tree exactly when it keeps every location of the tree -/
theorem mapAll_eq_self_iff {lf : Loc → Loc} :
    (∀ e, e.mapAll lf id id = e ↔ PExpr.AllLoc (fun l => lf l = l) e) ∧
    (∀ es, PExpr.mapAllList lf id id es = es ↔ PExpr.AllLocList (fun l => lf l = l) es) ∧
    (∀ cs, PExpr.mapAllClauses lf id id cs = cs ↔ PExpr.AllLocClauses (fun l => lf l = l) cs) := by
  apply PExpr.induct3
  all_goals intros
  all_goals simp_all [PExpr.mapAll, PExpr.mapAllList, PExpr.mapAllClauses, PExpr.AllLoc, PExpr.AllLocList, PExpr.AllLocClauses, and_assoc]

theorem select_relabel_of_fixed {lf : Loc → Loc} {q : PSelect} (h : q.AllLoc (fun l => lf l = l)) : q.relabel lf id = q := by
  have hx := @mapAll_eq_self_iff lf
  obtain ⟨h1, h2, h3, h4, h5⟩ := h
  have e2 : q.projections.map (fun p => (p.1, p.2.mapAll lf id id)) = q.projections :=
    (List.map_congr_left fun p hp => by rw [(hx.1 _).2 (h2 p hp)]; rfl).trans (List.map_id _)
  have e3 : q.filter.map (PExpr.mapAll lf id id) = q.filter := by
    cases hf : q.filter with | none => rfl | some e => rw [Option.map_some, (hx.1 e).2 (h3 e hf)]
  have e4 : q.groupBy.map (PExpr.mapAllList lf id id) = q.groupBy := by
    cases hf : q.groupBy with | none => rfl | some e => rw [Option.map_some, (hx.2.1 e).2 (h4 e hf)]
  have e5 : q.having.map (PExpr.mapAll lf id id) = q.having := by
    cases hf : q.having with | none => rfl | some e => rw [Option.map_some, (hx.1 e).2 (h5 e hf)]
  simp only [PSelect.relabel, h1, e2, e3, e4, e5]

/-- relabel with the map that keeps the locations where `P` holds and sends every other one to the statement's: the tree
is kept, so by equivariance the error is, so its location is one where `P` holds -/
theorem lowerSelectStmt_errAt (rv : List Char → Bool) (q : PSelect) (h : q.AllLoc P) :
    (lowerStatement rv (.select q)).ErrAt P := by
  intro e he
  let lf : Loc → Loc := fun l => @ite _ (P l) (Classical.propDecidable _) l q.loc
  have hq : q.relabel lf id = q := select_relabel_of_fixed (select_allLoc_mono (fun l hl => if_pos hl) h)
  have hr := lowerStatement_relabel lf id (fun _ => rfl) rv (.select q)
  rw [show (POp.select q).relabel lf id = .select q by simp only [POp.relabel, hq], he] at hr
  have hl : lf e.loc = e.loc := congrArg CErr.loc (LRes.err.inj hr).symm
  by_cases hp : P e.loc
  · exact hp
  · rw [show lf e.loc = q.loc from if_neg hp] at hl; exact hl ▸ h.1

theorem lowerCreate_errAt (rv : List Char → Bool) (c : PCreate) (h : P c.loc) : (lowerCreate rv c).ErrAt P := by
  simp only [lowerCreate, lower_bind]
  refine .bind (fun e he => absurd he (lowerColumns_noErr _ _)) fun _ => ?_
  split
  · exact errAt_ok _
  · exact errAt_err h

theorem lowerCreates_errAt (rv : List Char → Bool) : ∀ cs : List PCreate, (∀ c ∈ cs, P c.loc) →
    (lowerCreates rv cs).ErrAt P
  | [], _ => errAt_ok _
  | c :: rest, h => by
    simp only [lowerCreates, lower_bind]
    exact .bind (lowerCreate_errAt rv c (h c (by simp))) fun _ =>
      .bind (lowerCreates_errAt rv rest fun c hc => h c (by simp [hc])) fun _ => errAt_ok _

theorem lowerStatement_errAt {P : Loc → Prop} (rv : List Char → Bool) (t : POp) (h : t.AllLoc P) :
    (lowerStatement rv t).ErrAt P := by
  cases t with
  | select q => exact lowerSelectStmt_errAt rv q h
  | createTable c => exact lowerCreate_errAt rv c h
  | multiple cs => simp only [lowerStatement, lower_bind]; exact .bind (lowerCreates_errAt rv cs h) fun _ => errAt_ok _

end Lower
end Sqlgrep
