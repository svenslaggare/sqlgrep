import SqlgrepModel.Lemmas.LexTables
/-
The tokenizer for kernel evaluation. The kernel evaluates `String.toList` of a string literal in time quadratic in its
length, and `Model/Lex.lean` spells its words as such literals (`keywordTable`: `"and".toList …`; `wNull`, `wTrue`,
`wFalse`), so every kernel-evaluated `tokenize` that ends one word pays for all thirty. `tokenizeK kw` is `tokenize`
with the keyword lookup as the parameter `kw` and the three literal words written as lists: `flushIdentK`, `flushK`,
`stepK`, `runK`, `tokenizeK` repeat `flushIdent`, `flush`, `step`, `run` (with `stepR`), `tokenize` (with `finish`), the
functions on the path from `tokenize` to `keywordOf`, and nothing else. The copy is tied to the model by `rfl` (`runK_keywordOf`,
`tokenizeK_keywordOf`: a change of one of these model functions stops this file from compiling); `run_eq_K` and
`tokenize_eq_K` put the table with written-out words, `Generated.keywords` (`Tables.keywords_eq`), in `kw`'s place.
-/
namespace Sqlgrep.Lex
open Sqlgrep

def flushIdentK (kw : List Char → Option Keyword) (o : Oracles) (st : St) (w : List Char) : St :=
  let lw := lower o w
  match kw lw with
  | some k => addKeyword st k
  | none =>
    if lw = ['n', 'u', 'l', 'l'] then st.add .null
    else if lw = ['t', 'r', 'u', 'e'] then st.add .tru
    else if lw = ['f', 'a', 'l', 's', 'e'] then st.add .fls
    else st.add (.ident w)

def flushK (kw : List Char → Option Keyword) (o : Oracles) (st : St) : R :=
  match st.pend with
  | .none => .run st
  | .ident r => .run (flushIdentK kw o { st with pend := .none } r.reverse)
  | .number r d => flushNumber o { st with pend := .none } r.reverse d

def stepK (kw : List Char → Option Keyword) (o : Oracles) (st : St) (c : Char) : R :=
  match st.pend with
  | .none => .run (body o st c)
  | .ident r =>
    if (o.info c).alnum || c = '_' then .run { st with pend := .ident (c :: r), col := st.col + 1 }
    else (flushK kw o st).bind (fun st => .run (body o st c))
  | .number r d =>
    if (o.info c).numeric then .run { st with pend := .number (c :: r) d, col := st.col + 1 }
    else if c = '.' then
      if d then .fail ⟨st.line, st.col⟩ .alreadyHasDot
      else .run { st with pend := .number (c :: r) true, col := st.col + 1 }
    else (flushK kw o st).bind (fun st => .run (body o st c))

def runK (kw : List Char → Option Keyword) (o : Oracles) (st : St) (text : List Char) : R :=
  text.foldl (fun r c => r.bind (fun st => stepK kw o st c)) (.run st)

def tokenizeK (kw : List Char → Option Keyword) (o : Oracles) (text : List Char) : Result :=
  match (runK kw o {} text).bind (fun st => (flushK kw o st).bind (fun st => .run st.close)) with
  | .run st => .ok st.toks.reverse
  | .fail l e => .error l e
  | .missing w => .missing w

theorem runK_keywordOf (o : Oracles) (st : St) (text : List Char) : runK keywordOf o st text = run o st text := rfl

theorem tokenizeK_keywordOf (o : Oracles) (text : List Char) : tokenizeK keywordOf o text = tokenize o text := rfl

theorem run_eq_K (o : Oracles) (st : St) (text : List Char) : run o st text = runK (Generated.keywords.lookup ·) o st text := by
  rw [← runK_keywordOf]; unfold keywordOf; rw [← Tables.keywords_eq]

theorem tokenize_eq_K (o : Oracles) (text : List Char) :
    tokenize o text = tokenizeK (Generated.keywords.lookup ·) o text := by
  rw [← tokenizeK_keywordOf]; unfold keywordOf; rw [← Tables.keywords_eq]

end Sqlgrep.Lex
