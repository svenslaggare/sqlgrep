import SqlgrepModel.Model.Eval
import SqlgrepModel.Lemmas.FloatOrder
/-
INT × REAL: `F64.cmpIntReal` (the model of `compare_int_float`) is the exact comparison of an integer with
the value of a REAL, and `compareValues` (the order `Compare`/`IN` use) is, on numbers, the comparison of an
integer-valued key — hence a total preorder across all INT/REAL mixes. Then the field ranges of TIMESTAMP values
(`TsValid`, `TsPlain`), under which their lexicographic (day, second of day, nanosecond) order is the order of instants.
-/
namespace Sqlgrep

namespace F64

/-- `compare_int_float` on a finite REAL is the exact comparison of the integer with the REAL's value -/
theorem cmpIntReal_eq_value_cmp (x : Int) (y : Nat) (hy : isFinite y = true) :
    cmpIntReal x y = Dy.cmp (Dy.ofInt x) (value y) := by
  unfold cmpIntReal
  rw [isNaN_false_of_finite hy, isInf_false_of_finite hy]
  simp only [Bool.false_eq_true, if_false]
  unfold Dy.cmp Dy.scale Dy.ofInt value
  simp only
  by_cases h : (mantExp y).2 ≥ 0
  · have hm : min 0 (mantExp y).2 = 0 := by omega
    rw [if_pos h, hm]
    have e1 : ((0 : Int) - 0).toNat = 0 := by decide
    have e2 : ((mantExp y).2 - 0).toNat = (mantExp y).2.toNat := by simp
    rw [e1, e2]; simp
  · have hm : min 0 (mantExp y).2 = (mantExp y).2 := by omega
    rw [if_neg h, hm]
    have e1 : ((0 : Int) - (mantExp y).2).toNat = (-(mantExp y).2).toNat := by simp
    have e2 : ((mantExp y).2 - (mantExp y).2).toNat = 0 := by omega
    rw [e1, e2]; simp

theorem cmpIntReal_eq_compare_units (x : Int) (y : Nat) (hy : isFinite y = true) :
    cmpIntReal x y = compare (x * 2 ^ 1074) (units y) := by
  rw [cmpIntReal_eq_value_cmp x y hy,
    Dy.cmp_eq_scale _ _ (-1074) (by simp [Dy.ofInt]) (mantExp_exp_ge y), value_scale]
  rfl

theorem cmpIntReal_nan (x : Int) (y : Nat) (hy : isNaN y = true) : cmpIntReal x y = .lt := by
  unfold cmpIntReal; rw [hy]; rfl

theorem cmpIntReal_inf (x : Int) (y : Nat) (hy : isInf y = true) :
    cmpIntReal x y = if signBit y then .gt else .lt := by
  unfold cmpIntReal; rw [isNaN_false_of_inf hy, hy]; rfl

end F64

def isNumber : Value → Bool
  | .int _ => true
  | .real _ => true
  | _ => false

/-- INT, or REAL that is neither NaN nor infinite -/
def isFiniteNumber : Value → Bool
  | .int _ => true
  | .real n => F64.isFinite n
  | _ => false

/-- the exact value of a finite number -/
def numValue : Value → Dy
  | .int i => Dy.ofInt i
  | .real n => F64.value n
  | _ => ⟨0, 0⟩

/-- `-1`: −inf, `0`: INT and finite REAL, `1`: +inf, `2`: NaN -/
def numClass : Value → Int
  | .real n => if F64.isNaN n then 2 else if F64.isInf n then (if F64.signBit n then -1 else 1) else 0
  | _ => 0

/-- exact value in units of 2^-1074 (an integer) of a finite number; 0 for ±inf and NaN -/
def numUnits : Value → Int
  | .int i => i * 2 ^ 1074
  | .real n => if F64.isFinite n then F64.units n else 0
  | _ => 0

theorem isNumber_of_finite {v : Value} (h : isFiniteNumber v = true) : isNumber v = true := by
  cases v <;> first | rfl | exact h

theorem isNull_of_isNumber {v : Value} (h : isNumber v = true) : v.isNull = false := by
  cases v <;> first | rfl | cases h

theorem numClass_finite {v : Value} (h : isFiniteNumber v = true) : numClass v = 0 := by
  cases v <;> simp [isFiniteNumber] at h <;> simp [numClass]
  simp [F64.isNaN_false_of_finite h, F64.isInf_false_of_finite h]

theorem numUnits_eq_scale {v : Value} (h : isFiniteNumber v = true) : numUnits v = (numValue v).scale (-1074) := by
  cases v <;> simp [isFiniteNumber] at h
  · simp only [numUnits, numValue, Dy.ofInt, Dy.scale]; rfl
  · simp only [numUnits, numValue, h, if_true, F64.value_scale]

theorem numValue_exp_ge {v : Value} : -1074 ≤ (numValue v).e := by
  cases v <;> simp [numValue, Dy.ofInt]
  exact F64.mantExp_exp_ge _

private theorem real_real_key (a b : Nat) :
    F64.cmp a b = (compare (numClass (.real a)) (numClass (.real b))).then
      (compare (numUnits (.real a)) (numUnits (.real b))) := by
  simp only [numClass, numUnits]
  rcases F64.classify a with ⟨fa, ia, na⟩ | ⟨fa, ia, na⟩ | ⟨fa, ia, na⟩ <;>
    rcases F64.classify b with ⟨fb, ib, nb⟩ | ⟨fb, ib, nb⟩ | ⟨fb, ib, nb⟩ <;>
    simp only [fa, ia, na, fb, ib, nb, if_true, if_false, Bool.false_eq_true]
  · -- finite, finite
    rw [F64.cmp_eq_compare_units a b na nb, intCompare_eq (rfl : (0 : Int) = 0)]; rfl
  · -- finite, inf
    cases sb : F64.signBit b
    · rw [F64.finite_lt_pos_inf b a ib sb fa]; rfl
    · have := F64.neg_inf_lt_finite b a ib sb fa
      rw [F64.cmp_swap b a, this]; rfl
  · rw [F64.cmp_lt_nan a b na nb]; rfl
  · -- inf, finite
    cases sa : F64.signBit a
    · have := F64.finite_lt_pos_inf a b ia sa fb
      rw [F64.cmp_swap b a, this]; rfl
    · rw [F64.neg_inf_lt_finite a b ia sa fb]; rfl
  · -- inf, inf
    cases sa : F64.signBit a <;> cases sb : F64.signBit b
    · rw [(F64.inf_eq_iff a b ia ib).2 (by rw [sa, sb])]; rfl
    · have := F64.neg_inf_lt_pos_inf b a ib sb ia sa
      rw [F64.cmp_swap b a, this]; rfl
    · rw [F64.neg_inf_lt_pos_inf a b ia sa ib sb]; rfl
    · rw [(F64.inf_eq_iff a b ia ib).2 (by rw [sa, sb])]; rfl
  · rw [F64.cmp_lt_nan a b na nb]; cases F64.signBit a <;> rfl
  · rw [F64.cmp_nan_gt a b na nb]; rfl
  · rw [F64.cmp_nan_gt a b na nb]; cases F64.signBit b <;> rfl
  · rw [F64.cmp_nan_nan a b na nb]; rfl

private theorem int_real_key (x : Int) (y : Nat) :
    F64.cmpIntReal x y = (compare (numClass (.int x)) (numClass (.real y))).then
      (compare (numUnits (.int x)) (numUnits (.real y))) := by
  simp only [numClass, numUnits]
  rcases F64.classify y with ⟨fy, iy, ny⟩ | ⟨fy, iy, ny⟩ | ⟨fy, iy, ny⟩ <;>
    simp only [fy, iy, ny, if_true, if_false, Bool.false_eq_true]
  · rw [F64.cmpIntReal_eq_compare_units x y fy, intCompare_eq (rfl : (0 : Int) = 0)]; rfl
  · rw [F64.cmpIntReal_inf x y iy]; cases F64.signBit y <;> rfl
  · rw [F64.cmpIntReal_nan x y ny]; rfl

/-- **the WHERE order on numbers is the order of an integer-valued key** (class, then exact value in
units of 2^-1074), for every mix of INT and REAL, infinities and NaN included. -/
theorem compareValues_eq_key (a b : Value) (ha : isNumber a = true) (hb : isNumber b = true) :
    compareValues a b = (compare (numClass a) (numClass b)).then (compare (numUnits a) (numUnits b)) := by
  cases a <;> simp [isNumber] at ha <;> cases b <;> simp [isNumber] at hb
  · rename_i i j
    simp only [compareValues, Value.cmp, numClass, numUnits]
    rw [intCompare_mul_pos _ _ _ (Int.pow_pos (by decide)), intCompare_eq (rfl : (0 : Int) = 0)]; rfl
  · exact int_real_key _ _
  · rename_i y x
    simp only [compareValues]
    rw [int_real_key x y, Ordering.swap_then, Int.compare_swap, Int.compare_swap (numUnits _)]
  · simp only [compareValues, Value.cmp]; exact real_real_key _ _

/-- the WHERE order is the derived (GROUP BY) order on every pair that is not an INT/REAL mix -/
theorem compareValues_eq_cmp (a b : Value)
    (h : ¬ ((∃ i n, a = .int i ∧ b = .real n) ∨ (∃ i n, a = .real n ∧ b = .int i))) :
    compareValues a b = Value.cmp a b := by
  unfold compareValues
  split
  · exact absurd (.inl ⟨_, _, rfl, rfl⟩) h
  · exact absurd (.inr ⟨_, _, rfl, rfl⟩) h
  · rfl

theorem compareValues_swap (a b : Value) : compareValues b a = (compareValues a b).swap := by
  by_cases h : (∃ i n, a = .int i ∧ b = .real n) ∨ (∃ i n, a = .real n ∧ b = .int i)
  · rcases h with ⟨i, n, rfl, rfl⟩ | ⟨i, n, rfl, rfl⟩
    · rfl
    · exact (Ordering.swap_swap).symm
  · have h' : ¬ ((∃ i n, b = .int i ∧ a = .real n) ∨ (∃ i n, b = .real n ∧ a = .int i)) :=
      fun h' => h (h'.elim (fun ⟨i, n, hb, ha⟩ => .inr ⟨i, n, ha, hb⟩) (fun ⟨i, n, hb, ha⟩ => .inl ⟨i, n, ha, hb⟩))
    rw [compareValues_eq_cmp a b h, compareValues_eq_cmp b a h', Value.cmp_swap]

theorem compareValues_T (a b c : Value) (ha : isNumber a = true) (hb : isNumber b = true) (hc : isNumber c = true) :
    T (compareValues a b) (compareValues b c) (compareValues a c) := by
  rw [compareValues_eq_key a b ha hb, compareValues_eq_key b c hb hc, compareValues_eq_key a c ha hc]
  exact T_then (T_of_transCmp ..) fun _ _ => T_of_transCmp ..

theorem compareValues_refl (a : Value) : compareValues a a = .eq := by
  cases a <;> simp only [compareValues] <;> exact Value.cmp_refl _

theorem compareValues_eq_value_cmp (a b : Value) (ha : isFiniteNumber a = true) (hb : isFiniteNumber b = true) :
    compareValues a b = Dy.cmp (numValue a) (numValue b) := by
  rw [compareValues_eq_key a b (isNumber_of_finite ha) (isNumber_of_finite hb), numClass_finite ha, numClass_finite hb, numUnits_eq_scale ha, numUnits_eq_scale hb,
    Dy.cmp_eq_scale _ _ (-1074) numValue_exp_ge numValue_exp_ge]
  rfl

/-- the ranges of the fields of every TIMESTAMP the model creates (`createTimestamp`, `tsOfTotal`, chrono's
`NaiveTime` invariant): second of day in [0, 86400), nanosecond in [0, 2·10^9) where [10^9, 2·10^9) is chrono's
leap-second representation -/
def TsValid (s f : Int) : Prop := 0 ≤ s ∧ s < 86400 ∧ 0 ≤ f ∧ f < 2000000000
/-- ... and not in the leap-second representation -/
def TsPlain (s f : Int) : Prop := 0 ≤ s ∧ s < 86400 ∧ 0 ≤ f ∧ f < 1000000000

/-- position on a time line on which every second has room for its leap second (2·10^9 slots per second) -/
def tsLeapKey (d s f : Int) : Int := (d * 86400 + s) * 2000000000 + f

theorem ts_lex_eq_instant (d s f d' s' f' : Int) (h : TsPlain s f) (h' : TsPlain s' f') :
    ((compare d d').then (compare s s')).then (compare f f') = compare (tsTotal d s f) (tsTotal d' s' f') := by
  unfold TsPlain at h h'
  unfold tsTotal nsPerSec
  rw [compare_radix _ _ f f' _ (by omega) (by omega), compare_radix d d' s s' _ (by omega) (by omega)]

theorem ts_lex_eq_leapKey (d s f d' s' f' : Int) (h : TsValid s f) (h' : TsValid s' f') :
    ((compare d d').then (compare s s')).then (compare f f') = compare (tsLeapKey d s f) (tsLeapKey d' s' f') := by
  unfold TsValid at h h'
  unfold tsLeapKey
  rw [compare_radix _ _ f f' _ (by omega) (by omega), compare_radix d d' s s' _ (by omega) (by omega)]

/-- timestamps made by `tsOfTotal` (timestamp ± interval) are in range and never in leap representation -/
theorem tsOfTotal_plain (t : Int) : ∃ d s f, tsOfTotal t = .timestamp d s f ∧ TsPlain s f := by
  refine ⟨_, _, _, rfl, ?_⟩
  unfold TsPlain nsPerSec
  omega

/-- what `create_timestamp` answers: the timestamp of the parts, when the date exists and the upper bounds of chrono's
time fields hold (a microsecond count from 10⁶ on only at second 59) -/
theorem createTimestamp_eq_some_iff (y mo d h mi s us : Int) (v : Value) :
    createTimestamp y mo d h mi s us = some v ↔
      (CivilE.validDate y mo d = true ∧ h < 24 ∧ mi < 60 ∧ s < 60 ∧ us < 2000000 ∧ (us < 1000000 ∨ s = 59)) ∧
        v = .timestamp (CivilE.daysFromCE y mo d) (h * 3600 + mi * 60 + s) (us * 1000) := by
  unfold createTimestamp
  split
  · rename_i hc
    simp only [Bool.and_eq_true, Bool.or_eq_true, decide_eq_true_eq, beq_iff_eq, and_assoc] at hc
    exact ⟨fun hv => ⟨hc, (Option.some.inj hv).symm⟩, fun hv => hv.2 ▸ rfl⟩
  · rename_i hc
    simp only [Bool.and_eq_true, Bool.or_eq_true, decide_eq_true_eq, beq_iff_eq, and_assoc] at hc
    exact ⟨nofun, fun hv => absurd hv.1 hc⟩

theorem createTimestamp_valid (y mo d h mi s us : Int) (v : Value)
    (h0 : 0 ≤ h) (m0 : 0 ≤ mi) (s0 : 0 ≤ s) (u0 : 0 ≤ us)
    (hv : createTimestamp y mo d h mi s us = some v) : ∃ dd ss ff, v = .timestamp dd ss ff ∧ TsValid ss ff := by
  obtain ⟨⟨_, h1, h2, h3, h4, _⟩, rfl⟩ := (createTimestamp_eq_some_iff y mo d h mi s us v).1 hv
  exact ⟨_, _, _, rfl, by unfold TsValid; omega⟩

end Sqlgrep
