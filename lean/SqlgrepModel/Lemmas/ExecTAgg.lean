import SqlgrepModel.Lemmas.ExecT
import SqlgrepModel.Lemmas.AggPermSafe
import SqlgrepModel.Lemmas.AggSplitSummaries
import SqlgrepModel.Lemmas.AggBatchSpec
import SqlgrepModel.Lemmas.LimitAgg
/-
The traced batch run (`Model/ExecT.lean`, what `Pipeline.runText` executes) of an aggregate statement in the scope of
its specification: when the updates succeed the run ends in the final result, its table handed to the printer once
(`runBatchT_agg_run`, `runBatchT_agg`), and that ONE print call carries the specification's table
(`runBatchT_agg_spec` — `batch_refines_spec_nojoin` strengthened from the text rendering to the result table handed to
the printer), hence the traced run ignores the order of the input lines and how they are spread over files
(`runBatchT_perm_invariant` — `runBatch_perm_invariant` for the traced run, several files), and over a split input it
hands the printer the table of the merged summaries of the parts (`runBatchT_concat_merge_summaries`).
-/
set_option linter.unusedSimpArgs false
namespace Sqlgrep
open Value Spec.Agg

/-- the batch loop of an aggregate statement hands nothing to the printer: `execute_aggregate_update` has no result -/
theorem runFilesT_agg_calls (O : Oracles) (qy : Query) (q : AggStmt) (hq : qy.stmt = .aggregate q) (idx : JoinIndex)
    (files : List (List FileLine)) (s : TraceState) : (runFilesT O qy idx false files s).calls = s.calls := by
  rw [runFilesT_eq_drive]
  split
  · rfl
  · exact (drive_quiet .batch _ (fun es l es' lo hx => (executeLine_agg_update_out O qy hq idx es es' l lo hx).1) none _ s).2

/-- **the traced batch run of an aggregate statement whose updates succeed** (no join, every line readable): every line is
counted, nothing is printed before the end, and the end is the final result — its table handed to the printer once, or
its failure -/
theorem runBatchT_agg_run (O : Oracles) (qy : Query) (q : AggStmt) (hq : qy.stmt = .aggregate q) (hj : qy.join = none)
    (joined : Option (List FileLine)) (files : List (List FileLine)) (hread : ∀ fl ∈ files.flatten, fl.readable = true)
    {st : AggState} (hrun : aggRun O q (envsOf qy.table files.flatten) {} = .ok st) :
    runBatchT O qy joined files =
      match finalResult O q { agg := st } with
      | .ok r => { out := { printed := printResult r true, totalLines := files.flatten.length },
                   calls := [{ result := r, final := true }] }
      | o => { out := failWith { totalLines := files.flatten.length } o, calls := [] } := by
  have hT : (runFilesT O qy [] false files {}).ls = afterLines {} st files.flatten.length := by
    rw [runFilesT_ls]; exact runFiles_agg O qy q hq hj files hread {} rfl hrun
  have hC : (runFilesT O qy [] false files {}).calls = [] := runFilesT_agg_calls O qy q hq [] files {}
  have hfin : finalResult O q { seen := ([] : List (List Value)), agg := st, numOut := 0 } = finalResult O q { agg := st } := rfl
  unfold runBatchT joinSetup runWithIndexT
  simp only [hj, hq, Bool.not_true, hT, hC]
  simp only [afterLines, hasFailed, hfin]
  cases finalResult O q { agg := st } <;> simp

theorem runBatchT_agg (O : Oracles) (qy : Query) (q : AggStmt) (hq : qy.stmt = .aggregate q) (hj : qy.join = none)
    (joined : Option (List FileLine)) (files : List (List FileLine)) (hread : ∀ fl ∈ files.flatten, fl.readable = true)
    {st : AggState} (hrun : aggRun O q (envsOf qy.table files.flatten) {} = .ok st)
    {r : RowOut} (hfin : finalResult O q { agg := st } = .ok r) :
    runBatchT O qy joined files =
      { out := { printed := printResult r true, totalLines := files.flatten.length },
        calls := [{ result := r, final := true }] } := by
  rw [runBatchT_agg_run O qy q hq hj joined files hread hrun, hfin]

/-- **the traced run of an aggregate statement inside its specification**: where `Spec.Agg.batch` answers with an empty
deviation class (no join), the run's `RunOut` is the specification's and the printer is called exactly once, finally,
with the specification's table under the statement's column names -/
theorem runBatchT_agg_spec {O : Oracles} {qy : Query} {q : AggStmt} (hq : qy.stmt = .aggregate q) (hwf : StmtWF q)
    (hj : qy.join = none) (joined : List FileLine) (joined' : Option (List FileLine)) (files : List (List FileLine))
    {ro : RunOut} (h : Spec.Agg.batch O qy q joined files = some (ro, "")) :
    ∃ t, table O q (envsOf qy.table files.flatten) = some t ∧
      runBatchT O qy joined' files =
        { out := ro, calls := [{ result := { columns := q.items.map (·.name), rows := t }, final := true }] } := by
  obtain ⟨t, st, ht, hro, hst, hfin⟩ := batch_nojoin_engine hwf hj h
  refine ⟨t, ht, ?_⟩
  rw [runBatchT_agg O qy q hq hj joined' files (batch_readable h) hst hfin, hro]
  rfl

/-- **the traced batch run ignores the order of the input lines** (and how they are spread over files): for an
aggregate statement without join and two inputs whose lines are permutations of each other — same `RunOut`, same
print call — whenever the specification answers for the first with an empty deviation class and `PermSafe` holds for its
admitted rows (the second input is then outside D10 / D15 as well: `specBatch_perm`, `deviationClass_perm`) -/
theorem runBatchT_perm_invariant {O : Oracles} {qy : Query} {q : AggStmt} (hq : qy.stmt = .aggregate q) (hwf : StmtWF q)
    (hj : qy.join = none) (joined : List FileLine) (joined' : Option (List FileLine)) {f1 f2 : List (List FileLine)}
    (hp : f1.flatten.Perm f2.flatten)
    (hsafe : ∀ keyed, keyedRows O q (envsOf qy.table f1.flatten) = some keyed → PermSafe O q keyed)
    {ro : RunOut} (h1 : Spec.Agg.batch O qy q joined f1 = some (ro, "")) :
    runBatchT O qy joined' f1 = runBatchT O qy joined' f2 := by
  have h2 := specBatch_perm hj joined hp hsafe h1
  obtain ⟨t1, ht1, e1⟩ := runBatchT_agg_spec hq hwf hj joined joined' f1 h1
  obtain ⟨t2, ht2, e2⟩ := runBatchT_agg_spec hq hwf hj joined joined' f2 h2
  have : t1 = t2 := by
    rw [table_perm (envsOf_perm qy.table hp) hsafe, ht2] at ht1
    exact (Option.some.inj ht1).symm
  rw [e1, e2, this]

/-- the traced run of an aggregate statement that ends well: the specification's `RunOut` and the one, final, print call -/
def tableTrace (q : AggStmt) (t : List (List Value)) (total : Nat) : TraceOut :=
  { out := tableOut q t total, calls := [{ result := { columns := q.items.map (·.name), rows := t }, final := true }] }

/-- **the traced batch run over a split input**: `runBatch_concat_merge_summaries` for the run `Pipeline.runText` executes —
the `RunOut` AND the table handed to the printer (which every output format is computed from) for the whole are those of
the merged summaries of the two parts; for each part those of its summaries -/
theorem runBatchT_concat_merge_summaries {O : Oracles} {qy : Query} {q : AggStmt} (hq : qy.stmt = .aggregate q) (hwf : StmtWF q)
    (hj : qy.join = none) (hOI : ∀ kind ∈ slotKinds q, orderInsensitive kind = true) (joined : List FileLine)
    (joined' : Option (List FileLine)) {f f₁ f₂ : List (List FileLine)} (hf : f.flatten = f₁.flatten ++ f₂.flatten)
    {ro ro₁ ro₂ : RunOut} {cls : String}
    (h : Spec.Agg.batch O qy q joined f = some (ro, cls)) (h₁ : Spec.Agg.batch O qy q joined f₁ = some (ro₁, ""))
    (h₂ : Spec.Agg.batch O qy q joined f₂ = some (ro₂, ""))
    (hsafe : ∀ k₁ k₂, keyedRows O q (envsOf qy.table f₁.flatten) = some k₁ → keyedRows O q (envsOf qy.table f₂.flatten) = some k₂ →
      ∀ k, SplitSafe O q (rowsOfKey k k₁) (rowsOfKey k k₂)) :
    ∃ S₁ S₂ t₁ t₂ t,
      partSummaries O q (envsOf qy.table f₁.flatten) = some S₁ ∧ partSummaries O q (envsOf qy.table f₂.flatten) = some S₂ ∧
      tableOfSummaries O q S₁ = some t₁ ∧ tableOfSummaries O q S₂ = some t₂ ∧
      tableOfSummaries O q (mergeSummaries q S₁ S₂) = some t ∧
      runBatchT O qy joined' f₁ = tableTrace q t₁ f₁.flatten.length ∧
      runBatchT O qy joined' f₂ = tableTrace q t₂ f₂.flatten.length ∧
      runBatchT O qy joined' f = tableTrace q t (f₁.flatten.length + f₂.flatten.length) := by
  have hcls := specBatch_concat_class hwf hj hOI joined hf h h₁ h₂
  subst hcls
  obtain ⟨S₁, S₂, t₁, t₂, t, hS₁, hS₂, _, hT₁, hT₂, hT, ht₁, ht₂, ht, e₁, e₂, e⟩ :=
    specBatch_concat_merge_summaries hwf hj hOI joined hf h h₁ h₂ hsafe
  obtain ⟨u₁, hu₁, r₁⟩ := runBatchT_agg_spec hq hwf hj joined joined' f₁ h₁
  obtain ⟨u₂, hu₂, r₂⟩ := runBatchT_agg_spec hq hwf hj joined joined' f₂ h₂
  obtain ⟨u, hu, r⟩ := runBatchT_agg_spec hq hwf hj joined joined' f h
  have i₁ : u₁ = t₁ := Option.some.inj (hu₁.symm.trans ht₁)
  have i₂ : u₂ = t₂ := Option.some.inj (hu₂.symm.trans ht₂)
  have i : u = t := Option.some.inj (hu.symm.trans ht)
  subst i₁; subst i₂; subst i
  simp only at e₁ e₂ e
  refine ⟨S₁, S₂, u₁, u₂, u, hS₁, hS₂, hT₁, hT₂, hT, ?_, ?_, ?_⟩
  · rw [r₁, e₁]; rfl
  · rw [r₂, e₂]; rfl
  · rw [r, e]; rfl

end Sqlgrep
