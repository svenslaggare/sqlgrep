import SqlgrepModel.Model.ExecI
/-
The joined-file loader of `Model/ExecI.lean`: without an interrupt its loop is the loader of `Model/Exec.lean`, so
`runBatchI` over a joined file that is there is `runBatch` (`runBatchI_eq_runBatch`); with the flag cleared before line
`m` it processes the lines up to the next sampling point (the first `n ≥ m` with `n > 0 ∧ n % 10 = 0`) and returns the
index of exactly those lines.
-/
namespace Sqlgrep

def loadStep (ki : Nat) (idx : JoinIndex) (fl : FileLine) : JoinIndex :=
  if anyResult fl.line.row then joinIndexAdd idx (fl.line.row.getD ki .null) fl.line.row else idx

theorem loadJoinLoop_none (ki : Nat) (lines : List FileLine) (a : Nat) (idx : JoinIndex) :
    loadJoinLoop ki none lines a idx =
      if lines.any (fun fl => !fl.readable) then .error .failReadFile
      else .ok (lines.foldl (loadStep ki) idx, a + lines.length) := by
  induction lines generalizing a idx with
  | nil => simp [loadJoinLoop]
  | cons fl rest ih =>
    simp only [loadJoinLoop, Bool.and_false, Bool.false_eq_true, if_false]
    by_cases hr : fl.readable = true
    · simp only [hr, Bool.not_true, Bool.false_eq_true, if_false, List.any_cons, Bool.false_or]
      rw [ih]
      simp only [List.foldl_cons, List.length_cons, loadStep]
      split
      · rfl
      · congr 2; omega
    · simp [hr]

theorem loadJoinFileI_none (j : JoinInfo) (lines : List FileLine) :
    (loadJoinFileI j (some lines) none).bind (fun p => .ok p.1) = loadJoinFile j lines := by
  unfold loadJoinFileI loadJoinFile loadJoin
  cases hk : indexOf? j.joined.columns j.joinedColumn with
  | none => simp [Outcome.bind]
  | some ki =>
    simp only [Option.isNone_some, Bool.false_eq_true, if_false]
    rw [loadJoinLoop_none]
    by_cases hb : lines.any (fun fl => !fl.readable) = true
    · simp [hb, Outcome.bind]
    · simp only [hb, Bool.false_eq_true, if_false, Outcome.bind]
      rw [List.foldl_map]
      rfl

/-- **the extended model is the model**: with the joined file there and no clearing during the load, `runBatchI` is
`runBatch` -/
theorem runBatchI_eq_runBatch (O : Oracles) (qy : Query) (joined : List FileLine) (files : List (List FileLine))
    (stopAt : Option Nat) : (runBatchI O qy (some joined) files none stopAt).1 = runBatch O qy joined files stopAt := by
  show _ = runWithIndex O qy (match qy.join with
    | some j => setupJoin qy.table j (loadJoinFile j joined)
    | none => .ok []) files stopAt
  unfold runBatchI
  cases qy.join with
  | none => rfl
  | some j => simp only [loadJoinFileI_none j joined, Bool.false_eq_true, if_false]

theorem loadJoinLoop_cut (ki m : Nat) (lines : List FileLine) (a : Nat) (idx idx' : JoinIndex) (n : Nat)
    (h : loadJoinLoop ki (some m) lines a idx = .ok (idx', n)) :
    a ≤ n ∧ n ≤ a + lines.length ∧
    loadJoinLoop ki none (lines.take (n - a)) a idx = .ok (idx', n) ∧
    (n < a + lines.length → n > 0 ∧ n % 10 = 0 ∧ m ≤ n) ∧
    (∀ x, a ≤ x → x < n → ¬ (x > 0 ∧ x % 10 = 0 ∧ m ≤ x)) := by
  induction lines generalizing a idx with
  | nil =>
    simp only [loadJoinLoop, Outcome.ok.injEq, Prod.mk.injEq] at h
    obtain ⟨h1, h2⟩ := h
    subst h1 h2
    simp [loadJoinLoop]
    intro x h1 h2; omega
  | cons fl rest ih =>
    simp only [loadJoinLoop] at h
    by_cases hbrk : (decide (a > 0) && a % 10 == 0 && decide (m ≤ a)) = true
    · simp only [hbrk, if_true, Outcome.ok.injEq, Prod.mk.injEq] at h
      obtain ⟨h1, h2⟩ := h
      subst h1 h2
      simp only [Bool.and_eq_true, decide_eq_true_eq, beq_iff_eq] at hbrk
      refine ⟨Nat.le_refl _, by simp, by simp [loadJoinLoop], fun _ => ⟨hbrk.1.1, hbrk.1.2, hbrk.2⟩, ?_⟩
      intro x h1 h2; omega
    · simp only [hbrk, Bool.false_eq_true, if_false] at h
      by_cases hr : fl.readable = true
      · simp only [hr, Bool.not_true, Bool.false_eq_true, if_false] at h
        obtain ⟨i1, i2, i3, i4, i5⟩ := ih _ _ h
        have hna : n - a = (n - (a + 1)) + 1 := by omega
        refine ⟨by omega, by simp only [List.length_cons]; omega, ?_, ?_, ?_⟩
        · rw [hna, List.take_succ_cons]
          simp only [loadJoinLoop, Bool.and_false, Bool.false_eq_true, if_false, hr, Bool.not_true]
          exact i3
        · intro hlt
          exact i4 (by simp only [List.length_cons] at hlt; omega)
        · intro x h1 h2
          by_cases hx : x = a
          · subst hx
            intro hc
            apply hbrk
            simp only [Bool.and_eq_true, decide_eq_true_eq, beq_iff_eq]
            exact ⟨⟨hc.1, hc.2.1⟩, hc.2.2⟩
          · exact i5 x (by omega) h2
      · simp [hr] at h

/-- **at most ten more**: after the flag is cleared before line `m`, the loader stops within ten lines -/
theorem loadJoinLoop_at_most_ten (ki m : Nat) (lines : List FileLine) (idx' : JoinIndex) (n : Nat)
    (h : loadJoinLoop ki (some m) lines 0 [] = .ok (idx', n)) : n ≤ m + 10 := by
  obtain ⟨_, _, _, _, h5⟩ := loadJoinLoop_cut ki m lines 0 [] idx' n h
  by_cases hn : n ≤ m + 10
  · exact hn
  · exfalso
    -- the first sampling point at or after `m`
    have := h5 (if m = 0 then 10 else (m + 9) / 10 * 10) (Nat.zero_le _)
    split at this
    · apply this (by omega); omega
    · apply this (by omega); omega

/-- the number of lines a loader run processed (for examples) -/
def linesLoaded : Outcome (JoinIndex × Nat) → Option Nat
  | .ok p => some p.2
  | _ => none

end Sqlgrep
