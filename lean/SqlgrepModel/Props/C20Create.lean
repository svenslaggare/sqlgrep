import SqlgrepModel.Lemmas.ParseCaseCreate
import SqlgrepModel.Lemmas.ParseRenameCreate
import SqlgrepModel.Props.C20Stmt
/-
C20 — CREATE TABLE texts at statement level (third review, coverage gap 7; the CREATE TABLE texts that the name-case
section of `Props/C20Stmt.lean` leaves to this file).

  "Two query or CREATE TABLE texts that differ only in the letter case of keywords, function, aggregate and TYPE NAMES …
   parse to the same statement and therefore produce the same output."

Keywords (CREATE, TABLE, NOT, NULL, DEFAULT, TRUE, FALSE) are normalised by the tokenizer (`Props/C20.lean`
`keyword_case_insensitive`, `layout_invariance`). What is left of letter case in a CREATE TABLE text are the identifier
tokens that `parse_create_table` compares lower-cased (`/repo/src/parsing/parser.rs` `parse_type`, `parse_regex_mode`,
`parse_define_column`; the model's `parseType`, `parseRegexMode`, `parseDefineColumn`):

  * the TYPE NAME of a column definition (`INT`, `Text`, `timestamp`, `real[]`, `TEXT[][]` …),
  * the pattern MODE behind `=` (`split`, `match`),
  * the column OPTION behind the type (`trim`, `convert`, `microseconds`).

These positions are determined by the two tokens in front of the identifier (`caseFreeAfter`): behind `=`; behind
`=> name`; behind `name TYPE` or `]`. `CaseVariant ts₁ ts₂`: the same tokens one by one (at any locations), except that
an identifier of `ts₁` in such a position may be spelled in `ts₂` as ANY identifier with the same lower-cased spelling —
EVERY OCCURRENCE ON ITS OWN (`a INT, b INT` against `a int, b Int`; a column called `int` of type `INT` against the
same column of type `int`). Everything else is the same token: table names, pattern names, column names, JSON path
fields, pattern texts, DEFAULT literals are case-sensitive and are NOT respelled — that is the side condition, and it
is part of the relation rather than a hypothesis about the tree. It is necessary (examples at the end: a respelled
column name is another statement).

Proved outright, for one or several `CREATE TABLE …;` statements:
  `create_table_name_case_tree`        same tree up to locations                      (`Parser::parse`)
  `create_table_name_case_statement`   same `LStmt` / same kind of conversion error   (`parsing::parse` on tokens)
  `create_table_name_case_text`        … for two texts                                (`parsing::parse`)
  `create_table_name_case_same_output` … the whole program answers alike              (`Pipeline.runText`)
  `create_table_name_case_rejected`    rejected by the parser iff the variant is      (error direction)
  `create_table_name_case_error_kind`  … with an error of the same kind               (kinds compared up to the quoted
                                       type name of `NotDefinedType`, which shows the spelling: `SameKind`)
  `create_table_respell_equivariant`   `Parser::parse` commutes with respelling EVERY identifier by one map `ρ`
                                       (`CreateNameMap ρ`, e.g. lower-casing): tree with its names respelled, or the
                                       same error with its payload respelled — the route to the error kinds
-/
namespace Sqlgrep.Props.C20Create
open Sqlgrep Sqlgrep.Parse Sqlgrep.Lower Sqlgrep.Pipeline

/-- a token vector that starts with CREATE -/
def CreateVector (toks : List PTok) : Prop := toks.head?.map (·.tok) = some (.kw .create)

instance (toks : List PTok) : Decidable (CreateVector toks) :=
  inferInstanceAs (Decidable (toks.head?.map (·.tok) = some (.kw .create)))

/-- `ts₂` is `ts₁` with type names, pattern modes and column options respelled by changes of letter case, each
occurrence on its own, at any token locations (head of the file; `caseVariantFrom`, `caseFreeAfter` in
`Lemmas/ParseCaseCreate.lean`) -/
def CaseVariant (ts₁ ts₂ : List PTok) : Prop :=
  caseVariantFrom .eof .eof (ts₁.map PTok.strip) (ts₂.map PTok.strip) = true

instance (ts₁ ts₂ : List PTok) : Decidable (CaseVariant ts₁ ts₂) :=
  inferInstanceAs (Decidable (caseVariantFrom .eof .eof (ts₁.map PTok.strip) (ts₂.map PTok.strip) = true))

theorem createVector_strip {toks : List PTok} (h : CreateVector toks) :
    (toks.map PTok.strip).head?.map (·.tok) = some (.kw .create) := by
  cases toks with
  | nil => simp [CreateVector] at h
  | cons t ts => simpa [CreateVector, PTok.strip] using h

theorem CaseVariant.symm {ts₁ ts₂ : List PTok} (h : CaseVariant ts₁ ts₂) : CaseVariant ts₂ ts₁ :=
  caseVariantFrom_symm _ _ _ _ _ _ (.inl rfl) (.inl rfl) h

theorem CaseVariant.createVector {ts₁ ts₂ : List PTok} (h : CaseVariant ts₁ ts₂) (hc : CreateVector ts₁) :
    CreateVector ts₂ := by
  unfold CaseVariant at h
  unfold CreateVector at hc ⊢
  cases ts₁ with
  | nil => simp at hc
  | cons a as =>
    cases ts₂ with
    | nil => simp [caseVariantFrom] at h
    | cons b bs =>
      have hst : StV .eof .eof ⟨a.strip, as.map PTok.strip⟩ ⟨b.strip, bs.map PTok.strip⟩ := h
      have ha : a.tok = .kw .create := by simpa using hc
      have := hst.tok_nonident (by intro n; show a.tok ≠ _; rw [ha]; simp)
      have hb : b.tok = a.tok := this
      simp [hb, ha]

/-- **Letter case of type names, pattern modes and column options, trees** (`create_table_name_case_tree`): a token
vector of one or several CREATE TABLE statements that `Parser::parse` reads as a tree, and any case variant of it
(per occurrence; names, pattern texts and literals untouched; any locations), are read as the same tree up to
locations. -/
theorem create_table_name_case_tree (toks₁ toks₂ : List PTok) (hc : CreateVector toks₁) (hv : CaseVariant toks₁ toks₂)
    (t₁ : POp) (h : parseTokens PrecTables.code toks₁ = .tree t₁) :
    ∃ t₂, parseTokens PrecTables.code toks₂ = .tree t₂ ∧ t₁.eraseLoc = t₂.eraseLoc := by
  have h1 : parseTokens PrecTables.code (toks₁.map PTok.strip) = .tree t₁.eraseLoc := by
    rw [parseTokens_strip, h]; rfl
  obtain ⟨t₂, h₂, he⟩ := tree_of_strip (parseTokens_create_var noIdentOps_code hv (createVector_strip hc) h1)
  exact ⟨t₂, h₂, he.symm⟩

/-- … at the same locations (two texts that differ in letter case only): the SAME tree -/
theorem create_table_name_case_tree_same_locations (toks₁ toks₂ : List PTok)
    (hc : toks₁.head?.map (·.tok) = some (.kw .create)) (hv : caseVariantFrom .eof .eof toks₁ toks₂ = true)
    (t : POp) (h : parseTokens PrecTables.code toks₁ = .tree t) : parseTokens PrecTables.code toks₂ = .tree t :=
  parseTokens_create_var noIdentOps_code hv hc h

/-- **… statements, in full** (`create_table_name_case_lowered`): `parsing::parse` (parser + lowering,
`Pipeline.parseToks`) answers the same on the two vectors up to the locations inside a conversion error — the same
statement, or a conversion error of the same kind (`ExpectedRegexPattern`, `UndefinedPattern` …) -/
theorem create_table_name_case_lowered (rv : List Char → Bool) (toks₁ toks₂ : List PTok) (hc : CreateVector toks₁)
    (hv : CaseVariant toks₁ toks₂) (t₁ : POp) (h : parseTokens PrecTables.code toks₁ = .tree t₁) :
    (parseToks rv toks₁).stripLoc = (parseToks rv toks₂).stripLoc := by
  obtain ⟨t₂, h₂, he⟩ := create_table_name_case_tree toks₁ toks₂ hc hv t₁ h
  exact parseToks_of_sameTree rv h h₂ he

/-- **Letter case of type names, pattern modes and column options, statements**
(`create_table_name_case_statement`): … and therefore `parsing::parse` answers the SAME `LStmt` on the variant -/
theorem create_table_name_case_statement (rv : List Char → Bool) (toks₁ toks₂ : List PTok) (hc : CreateVector toks₁)
    (hv : CaseVariant toks₁ toks₂) (s : LStmt) (h : parseToks rv toks₁ = .stmt s) : parseToks rv toks₂ = .stmt s := by
  obtain ⟨t₁, ht, _⟩ := tree_of_parseToks_stmt h
  obtain ⟨t₂, h₂, he⟩ := create_table_name_case_tree toks₁ toks₂ hc hv t₁ ht
  exact parseToks_stmt_of_sameTree rv ht h₂ he s h

/-- … iff: the relation is symmetric -/
theorem create_table_name_case_statement_iff (rv : List Char → Bool) (toks₁ toks₂ : List PTok) (hc : CreateVector toks₁)
    (hv : CaseVariant toks₁ toks₂) (s : LStmt) : parseToks rv toks₁ = .stmt s ↔ parseToks rv toks₂ = .stmt s :=
  ⟨create_table_name_case_statement rv toks₁ toks₂ hc hv s,
   create_table_name_case_statement rv toks₂ toks₁ (hv.createVector hc) hv.symm s⟩

/-- **… texts** (`create_table_name_case_text`): two CREATE TABLE texts whose token vectors are case variants of each
other — they differ in the letter case of type names, `split` / `match`, `trim` / `convert` / `microseconds` (and, by
`Props/C20.lean`, of keywords, in whitespace, line breaks, comments) — parse to the same statement -/
theorem create_table_name_case_text (o : Lex.Oracles) (rv : List Char → Bool) (text₁ text₂ : List Char)
    (ts₁ ts₂ : List PTok) (ht₁ : Lex.tokenize o text₁ = .ok ts₁) (ht₂ : Lex.tokenize o text₂ = .ok ts₂)
    (hc : CreateVector ts₁) (hv : CaseVariant ts₁ ts₂) (s : LStmt) (h : parseText o rv text₁ = .stmt s) :
    parseText o rv text₂ = .stmt s := by
  rw [parseText_of_tokenize ht₁] at h
  rw [parseText_of_tokenize ht₂]
  exact create_table_name_case_statement rv ts₁ ts₂ hc hv s h

/-- **… and therefore the same output** (`create_table_name_case_same_output`): the whole program
(`Pipeline.runText`: definitions text, query text, format, files ↦ printed records or error) answers the same under two
definitions texts that are case variants of each other — on every query, every input, every format and state of the
outside world -/
theorem create_table_name_case_same_output (F : Facts) (defs₁ defs₂ query : List Char) (fmt : Print.Format)
    (single : Bool) (files : List (List Nat)) (ts₁ ts₂ : List PTok)
    (ht₁ : Lex.tokenize (lexOracles F) defs₁ = .ok ts₁) (ht₂ : Lex.tokenize (lexOracles F) defs₂ = .ok ts₂)
    (hc : CreateVector ts₁) (hv : CaseVariant ts₁ ts₂) (d q : LStmt)
    (hc₁ : classesCover F defs₁ = true ∧ classesCover F query = true) (hc₂ : classesCover F defs₂ = true)
    (hd : parseText (lexOracles F) (regexValidFn F) defs₁ = .stmt d)
    (hp : (createPatterns d).all (fun re => ((Utf8.decode re).bind (regexValidOf F)).isSome) = true)
    (hq : parseText (lexOracles F) (regexValidFn F) query = .stmt q) :
    runText F defs₁ query fmt single files = runText F defs₂ query fmt single files :=
  Props.Pipeline.runText_depends_on_statements F defs₁ defs₂ query query fmt single files d q hc₁ ⟨hc₂, hc₁.2⟩ hd
    (create_table_name_case_text _ _ defs₁ defs₂ ts₁ ts₂ ht₁ ht₂ hc hv d hd) hp hq hq

theorem rejected_of_caseVariant {toks₁ toks₂ : List PTok} (hc : CreateVector toks₁) (hv : CaseVariant toks₁ toks₂) :
    (∃ e, parseTokens PrecTables.code toks₁ = .error e) → ∃ e, parseTokens PrecTables.code toks₂ = .error e := by
  rintro ⟨e, he⟩
  have hc₂ := hv.createVector hc
  have ne₂ : toks₂ ≠ [] := by intro h0; simp [h0, CreateVector] at hc₂
  rcases Props.C14.parse_total PrecTables.code toks₂ ne₂ with ⟨t, ht⟩ | h
  · obtain ⟨t', ht', _⟩ := create_table_name_case_tree toks₂ toks₁ hc₂ hv.symm t ht
    rw [he] at ht'; cases ht'
  · exact h

/-- **A rejected text stays rejected** (`create_table_name_case_rejected`): `Parser::parse` rejects a CREATE TABLE
token vector iff it rejects the case variant (per occurrence, as above). -/
theorem create_table_name_case_rejected (toks₁ toks₂ : List PTok) (hc : CreateVector toks₁) (hv : CaseVariant toks₁ toks₂) :
    (∃ e, parseTokens PrecTables.code toks₁ = .error e) ↔ (∃ e, parseTokens PrecTables.code toks₂ = .error e) :=
  ⟨rejected_of_caseVariant hc hv, rejected_of_caseVariant (hv.createVector hc) hv.symm⟩

/-- **`Parser::parse` on CREATE TABLE vectors is equivariant under respelling every identifier**
(`create_table_respell_equivariant`): for ONE map `ρ` that changes letter case only, is compatible with `.` and the
`[]` the parser appends to a type name, and fixes the names the parser makes up (`CreateNameMap ρ`: lower-casing is one,
`createNameMap_lowerChars`), the vector with EVERY identifier `n` replaced by `ρ n` — names included — is read as the
tree with its table, pattern, column and JSON field names respelled and everything else the same, or is rejected with
the same error at the same token, `NotDefinedType`'s quoted name respelled (`Lemmas/ParseRenameCreate.lean`:
`multiCreateLoop_morph` at the morphism `Morph.relabel id`, on top of `morph_all`). -/
theorem create_table_respell_equivariant (ρ : List Char → List Char) (hρ : CreateNameMap ρ) (toks : List PTok)
    (hc : CreateVector toks) :
    parseTokens PrecTables.code (toks.map (PTok.ren ρ)) = (parseTokens PrecTables.code toks).renCreate ρ :=
  parseTokens_create_ren hρ noIdentOps_code toks hc

/-- two parser error kinds are the same kind: equal, or both `NotDefinedType` quoting type names that are equal up to
letter case (the payload is the spelling found in the text: `NotDefinedType("FOO[]")` against `NotDefinedType("foo[]")`) -/
def SameKind (k₁ k₂ : PErrKind) : Prop :=
  k₁ = k₂ ∨ ∃ n m, k₁ = .notDefinedType n ∧ k₂ = .notDefinedType m ∧ lowerChars n = lowerChars m

/-- respelling touches the payload of `NotDefinedType` and nothing else -/
theorem ren_cases (k : PErrKind) :
    (∃ n, k = .notDefinedType n) ∨ ((∀ n, k ≠ .notDefinedType n) ∧ ∀ ρ, k.ren ρ = k) := by
  cases k <;> first | exact .inl ⟨_, rfl⟩ | exact .inr ⟨fun _ => PErrKind.noConfusion, fun _ => rfl⟩

theorem sameKind_of_lower {k₁ k₂ : PErrKind} (h : k₁.ren lowerChars = k₂.ren lowerChars) : SameKind k₁ k₂ := by
  rcases ren_cases k₁ with ⟨n, rfl⟩ | ⟨hn₁, e₁⟩ <;> rcases ren_cases k₂ with ⟨m, rfl⟩ | ⟨hn₂, e₂⟩
  · exact .inr ⟨n, m, rfl, rfl, PErrKind.notDefinedType.inj h⟩
  · rw [e₂] at h; exact absurd h.symm (hn₂ _)
  · rw [e₁] at h; exact absurd h (hn₁ _)
  · rw [e₁, e₂] at h; exact .inl h

theorem strip_ren (ρ : List Char → List Char) (ts : List PTok) :
    (ts.map PTok.strip).map (PTok.ren ρ) = (ts.map (PTok.ren ρ)).map PTok.strip := by
  simp only [List.map_map]
  rfl

/-- **A rejected text is rejected with an error of the same kind** (`create_table_name_case_error_kind`): if
`Parser::parse` rejects a CREATE TABLE token vector with the error `e₁`, it rejects every case variant (per occurrence)
with an error of the same kind (`SameKind`: up to the spelling quoted by `NotDefinedType`).
Route: both vectors have the same all-lower-case spelling (`caseVariantFrom_lower`), `Parser::parse` commutes with
lower-casing every identifier (`create_table_respell_equivariant`) and with relocating tokens (`parseTokens_strip`). -/
theorem create_table_name_case_error_kind (toks₁ toks₂ : List PTok) (hc : CreateVector toks₁) (hv : CaseVariant toks₁ toks₂)
    (e₁ : PErr) (h : parseTokens PrecTables.code toks₁ = .error e₁) :
    ∃ e₂, parseTokens PrecTables.code toks₂ = .error e₂ ∧ SameKind e₁.kind e₂.kind := by
  obtain ⟨e₂, h₂⟩ := (create_table_name_case_rejected toks₁ toks₂ hc hv).mp ⟨e₁, h⟩
  refine ⟨e₂, h₂, sameKind_of_lower ?_⟩
  have hl := caseVariantFrom_lower _ _ _ _ hv
  rw [strip_ren, strip_ren] at hl
  have h3 := congrArg (parseTokens PrecTables.code) hl
  rw [parseTokens_strip, parseTokens_strip,
    create_table_respell_equivariant _ createNameMap_lowerChars toks₁ hc,
    create_table_respell_equivariant _ createNameMap_lowerChars toks₂ (hv.createVector hc), h, h₂] at h3
  simp only [ParseOutcome.renCreate, ParseOutcome.strip, ParseOutcome.error.injEq, PErr.strip, PErr.ren, PErr.mk.injEq,
    true_and] at h3
  exact h3

/-- … at the same locations (two texts that differ in letter case only): the same kind at the same location -/
theorem create_table_name_case_error_kind_same_locations (toks₁ toks₂ : List PTok)
    (hc : toks₁.head?.map (·.tok) = some (.kw .create)) (hv : caseVariantFrom .eof .eof toks₁ toks₂ = true)
    (e₁ : PErr) (h : parseTokens PrecTables.code toks₁ = .error e₁) :
    ∃ e₂, parseTokens PrecTables.code toks₂ = .error e₂ ∧ e₂.loc = e₁.loc ∧ SameKind e₁.kind e₂.kind := by
  have hv' : CaseVariant toks₁ toks₂ := by
    unfold CaseVariant
    exact caseVariantFrom_strip _ _ _ _ hv
  obtain ⟨e₂, h₂, hk⟩ := create_table_name_case_error_kind toks₁ toks₂ hc hv' e₁ h
  refine ⟨e₂, h₂, ?_, hk⟩
  have hl := caseVariantFrom_lower _ _ _ _ hv
  have h3 := congrArg (parseTokens PrecTables.code) hl
  rw [create_table_respell_equivariant _ createNameMap_lowerChars toks₁ hc,
    create_table_respell_equivariant _ createNameMap_lowerChars toks₂ (hv'.createVector hc), h, h₂] at h3
  simp only [ParseOutcome.renCreate, ParseOutcome.error.injEq, PErr.ren, PErr.mk.injEq] at h3
  exact h3.1.symm

/-! ### non-vacuity: concrete texts (kernel-evaluated)

The token vectors are written out (`exT1` …) and shown to be what the tokenizer answers on the texts (`exTokens1` …,
one kernel evaluation of `Lex.tokenize` per text), so that every other closed fact is about a literal.
The kernel takes the characters of a string literal in quadratic time; `String.toList_ofList` hands it the list of a long
text (`rw [exD1, String.toList_ofList]`) before it evaluates. -/

def tk (l c : Nat) (t : Tok) : PTok := ⟨⟨l, c⟩, t⟩
def idt (s : String) : Tok := .ident s.toList
def isStmt (p : Parsed) : Bool := _root_.Sqlgrep.Props.C20Stmt.isStmt p

theorem stmt_of_isStmt {p : Parsed} (h : isStmt p = true) : ∃ s, p = .stmt s := by
  cases p <;> first | exact ⟨_, rfl⟩ | (simp [isStmt, Props.C20Stmt.isStmt] at h)

theorem parseText_of_tokens {text : String} {ts : List PTok} (h : Lex.tokenize Lex.Tables.asciiOnly text.toList = .ok ts) :
    parseText Lex.Tables.asciiOnly (fun _ => true) text.toList = parseToks (fun _ => true) ts :=
  parseText_of_tokenize h

def exD1 : String := "CREATE TABLE t(line = SPLIT ';', line[1] => a int, line[2] => b Text NOT NULL, line[3] => c REAL[] default NULL);"
/-- all lower case -/
def exD2 : String := "create table t(line = split ';', line[1] => a int, line[2] => b text not null, line[3] => c real[] default null);"
/-- all upper case — except the names `t`, `line`, `a`, `b`, `c`, which are case-sensitive -/
def exD3 : String := "CREATE TABLE t(line = SPLIT ';', line[1] => a INT, line[2] => b TEXT NOT NULL, line[3] => c REAL[] DEFAULT NULL);"

def exT1 : List PTok :=
  [tk 0 0 (.kw .create), tk 0 6 (.kw .table), tk 0 12 (idt "t"), tk 0 14 .lp, tk 0 15 (idt "line"),
   tk 0 19 (.op (.single '=')), tk 0 21 (idt "SPLIT"), tk 0 27 (.str ";".toList), tk 0 31 .comma,
   tk 0 32 (idt "line"), tk 0 37 .lsq, tk 0 38 (.int 1), tk 0 39 .rsq, tk 0 40 .rarrow, tk 0 42 (idt "a"),
   tk 0 45 (idt "int"), tk 0 49 .comma, tk 0 50 (idt "line"), tk 0 55 .lsq, tk 0 56 (.int 2), tk 0 57 .rsq,
   tk 0 58 .rarrow, tk 0 60 (idt "b"), tk 0 63 (idt "Text"), tk 0 68 (.kw .not), tk 0 72 .null, tk 0 77 .comma,
   tk 0 78 (idt "line"), tk 0 83 .lsq, tk 0 84 (.int 3), tk 0 85 .rsq, tk 0 86 .rarrow, tk 0 88 (idt "c"),
   tk 0 91 (idt "REAL"), tk 0 96 .lsq, tk 0 97 .rsq, tk 0 98 (.kw .default), tk 0 106 .null, tk 0 111 .rp,
   tk 0 112 .semi, tk 0 113 .eof]
def exT2 : List PTok :=
  [tk 0 0 (.kw .create), tk 0 6 (.kw .table), tk 0 12 (idt "t"), tk 0 14 .lp, tk 0 15 (idt "line"),
   tk 0 19 (.op (.single '=')), tk 0 21 (idt "split"), tk 0 27 (.str ";".toList), tk 0 31 .comma,
   tk 0 32 (idt "line"), tk 0 37 .lsq, tk 0 38 (.int 1), tk 0 39 .rsq, tk 0 40 .rarrow, tk 0 42 (idt "a"),
   tk 0 45 (idt "int"), tk 0 49 .comma, tk 0 50 (idt "line"), tk 0 55 .lsq, tk 0 56 (.int 2), tk 0 57 .rsq,
   tk 0 58 .rarrow, tk 0 60 (idt "b"), tk 0 63 (idt "text"), tk 0 68 (.kw .not), tk 0 72 .null, tk 0 77 .comma,
   tk 0 78 (idt "line"), tk 0 83 .lsq, tk 0 84 (.int 3), tk 0 85 .rsq, tk 0 86 .rarrow, tk 0 88 (idt "c"),
   tk 0 91 (idt "real"), tk 0 96 .lsq, tk 0 97 .rsq, tk 0 98 (.kw .default), tk 0 106 .null, tk 0 111 .rp,
   tk 0 112 .semi, tk 0 113 .eof]
def exT3 : List PTok :=
  [tk 0 0 (.kw .create), tk 0 6 (.kw .table), tk 0 12 (idt "t"), tk 0 14 .lp, tk 0 15 (idt "line"),
   tk 0 19 (.op (.single '=')), tk 0 21 (idt "SPLIT"), tk 0 27 (.str ";".toList), tk 0 31 .comma,
   tk 0 32 (idt "line"), tk 0 37 .lsq, tk 0 38 (.int 1), tk 0 39 .rsq, tk 0 40 .rarrow, tk 0 42 (idt "a"),
   tk 0 45 (idt "INT"), tk 0 49 .comma, tk 0 50 (idt "line"), tk 0 55 .lsq, tk 0 56 (.int 2), tk 0 57 .rsq,
   tk 0 58 .rarrow, tk 0 60 (idt "b"), tk 0 63 (idt "TEXT"), tk 0 68 (.kw .not), tk 0 72 .null, tk 0 77 .comma,
   tk 0 78 (idt "line"), tk 0 83 .lsq, tk 0 84 (.int 3), tk 0 85 .rsq, tk 0 86 .rarrow, tk 0 88 (idt "c"),
   tk 0 91 (idt "REAL"), tk 0 96 .lsq, tk 0 97 .rsq, tk 0 98 (.kw .default), tk 0 106 .null, tk 0 111 .rp,
   tk 0 112 .semi, tk 0 113 .eof]

theorem exTokens1 : Lex.tokenize Lex.Tables.asciiOnly exD1.toList = .ok exT1 := by
  rw [exD1, String.toList_ofList, Lex.tokenize_eq_K]; decide +kernel
theorem exTokens2 : Lex.tokenize Lex.Tables.asciiOnly exD2.toList = .ok exT2 := by
  rw [exD2, String.toList_ofList, Lex.tokenize_eq_K]; decide +kernel
theorem exTokens3 : Lex.tokenize Lex.Tables.asciiOnly exD3.toList = .ok exT3 := by
  rw [exD3, String.toList_ofList, Lex.tokenize_eq_K]; decide +kernel

/-- every other hypothesis of `create_table_name_case_text` holds on the text `exD1` against its lower-case and its
upper-case variant: the first token vector starts with CREATE, the other two are case variants of it, and the first
text parses to a statement -/
theorem exCreateHyps :
    CreateVector exT1 ∧ CaseVariant exT1 exT2 ∧ CaseVariant exT1 exT3 ∧ isStmt (parseToks (fun _ => true) exT1) = true := by
  decide +kernel

/-- … so the theorem applies: the three texts parse to one statement -/
example : ∃ s, parseText Lex.Tables.asciiOnly (fun _ => true) exD1.toList = .stmt s ∧
    parseText Lex.Tables.asciiOnly (fun _ => true) exD2.toList = .stmt s ∧
    parseText Lex.Tables.asciiOnly (fun _ => true) exD3.toList = .stmt s := by
  obtain ⟨hc, hv2, hv3, hs⟩ := exCreateHyps
  obtain ⟨s, hs⟩ := stmt_of_isStmt hs
  have h1 : parseText Lex.Tables.asciiOnly (fun _ => true) exD1.toList = .stmt s := by rw [parseText_of_tokens exTokens1, hs]
  exact ⟨s, h1, create_table_name_case_text _ _ _ _ _ _ exTokens1 exTokens2 hc hv2 s h1,
    create_table_name_case_text _ _ _ _ _ _ exTokens1 exTokens3 hc hv3 s h1⟩

/-- per occurrence: the same type name spelled differently at each occurrence, array types (`INT[]`, `TEXT[][]`), a
column that is called like a type (`int INT` against `int Int`: the first `int` is a name and stays), the modes and the
three options; two statements in one text -/
def exD4 : String := "CREATE TABLE t(p = MATCH 'a(b)', p[1] => int INT, p[1] => x INT[] convert, p[1] => y TEXT[][], 'z' => z Text TRIM); CREATE TABLE u({.f[0]} => ts TIMESTAMP microseconds);"
def exD5 : String := "CREATE TABLE t(p = match 'a(b)', p[1] => int Int, p[1] => x int[] CONVERT, p[1] => y text[][], 'z' => z TEXT trim); CREATE TABLE u({.f[0]} => ts timestamp MicroSeconds);"

def exT4 : List PTok :=
  [tk 0 0 (.kw .create), tk 0 6 (.kw .table), tk 0 12 (idt "t"), tk 0 14 .lp, tk 0 15 (idt "p"),
   tk 0 16 (.op (.single '=')), tk 0 18 (idt "MATCH"), tk 0 24 (.str "a(b)".toList), tk 0 31 .comma,
   tk 0 32 (idt "p"), tk 0 34 .lsq, tk 0 35 (.int 1), tk 0 36 .rsq, tk 0 37 .rarrow, tk 0 39 (idt "int"),
   tk 0 44 (idt "INT"), tk 0 48 .comma, tk 0 49 (idt "p"), tk 0 51 .lsq, tk 0 52 (.int 1), tk 0 53 .rsq,
   tk 0 54 .rarrow, tk 0 56 (idt "x"), tk 0 59 (idt "INT"), tk 0 63 .lsq, tk 0 64 .rsq, tk 0 65 (idt "convert"),
   tk 0 73 .comma, tk 0 74 (idt "p"), tk 0 76 .lsq, tk 0 77 (.int 1), tk 0 78 .rsq, tk 0 79 .rarrow,
   tk 0 81 (idt "y"), tk 0 84 (idt "TEXT"), tk 0 89 .lsq, tk 0 90 .rsq, tk 0 91 .lsq, tk 0 92 .rsq, tk 0 93 .comma,
   tk 0 94 (.str "z".toList), tk 0 98 .rarrow, tk 0 100 (idt "z"), tk 0 103 (idt "Text"), tk 0 108 (idt "TRIM"),
   tk 0 113 .rp, tk 0 114 .semi, tk 0 115 (.kw .create), tk 0 122 (.kw .table), tk 0 128 (idt "u"), tk 0 130 .lp,
   tk 0 131 .lcu, tk 0 132 (.op (.single '.')), tk 0 133 (idt "f"), tk 0 134 .lsq, tk 0 135 (.int 0), tk 0 136 .rsq,
   tk 0 137 .rcu, tk 0 138 .rarrow, tk 0 140 (idt "ts"), tk 0 144 (idt "TIMESTAMP"), tk 0 154 (idt "microseconds"),
   tk 0 167 .rp, tk 0 168 .semi, tk 0 169 .eof]
def exT5 : List PTok :=
  [tk 0 0 (.kw .create), tk 0 6 (.kw .table), tk 0 12 (idt "t"), tk 0 14 .lp, tk 0 15 (idt "p"),
   tk 0 16 (.op (.single '=')), tk 0 18 (idt "match"), tk 0 24 (.str "a(b)".toList), tk 0 31 .comma,
   tk 0 32 (idt "p"), tk 0 34 .lsq, tk 0 35 (.int 1), tk 0 36 .rsq, tk 0 37 .rarrow, tk 0 39 (idt "int"),
   tk 0 44 (idt "Int"), tk 0 48 .comma, tk 0 49 (idt "p"), tk 0 51 .lsq, tk 0 52 (.int 1), tk 0 53 .rsq,
   tk 0 54 .rarrow, tk 0 56 (idt "x"), tk 0 59 (idt "int"), tk 0 63 .lsq, tk 0 64 .rsq, tk 0 65 (idt "CONVERT"),
   tk 0 73 .comma, tk 0 74 (idt "p"), tk 0 76 .lsq, tk 0 77 (.int 1), tk 0 78 .rsq, tk 0 79 .rarrow,
   tk 0 81 (idt "y"), tk 0 84 (idt "text"), tk 0 89 .lsq, tk 0 90 .rsq, tk 0 91 .lsq, tk 0 92 .rsq, tk 0 93 .comma,
   tk 0 94 (.str "z".toList), tk 0 98 .rarrow, tk 0 100 (idt "z"), tk 0 103 (idt "TEXT"), tk 0 108 (idt "trim"),
   tk 0 113 .rp, tk 0 114 .semi, tk 0 115 (.kw .create), tk 0 122 (.kw .table), tk 0 128 (idt "u"), tk 0 130 .lp,
   tk 0 131 .lcu, tk 0 132 (.op (.single '.')), tk 0 133 (idt "f"), tk 0 134 .lsq, tk 0 135 (.int 0), tk 0 136 .rsq,
   tk 0 137 .rcu, tk 0 138 .rarrow, tk 0 140 (idt "ts"), tk 0 144 (idt "timestamp"), tk 0 154 (idt "MicroSeconds"),
   tk 0 167 .rp, tk 0 168 .semi, tk 0 169 .eof]

theorem exTokens4 : Lex.tokenize Lex.Tables.asciiOnly exD4.toList = .ok exT4 := by
  rw [exD4, String.toList_ofList, Lex.tokenize_eq_K]; decide +kernel
theorem exTokens5 : Lex.tokenize Lex.Tables.asciiOnly exD5.toList = .ok exT5 := by
  rw [exD5, String.toList_ofList, Lex.tokenize_eq_K]; decide +kernel

theorem exCreateHyps2 : CreateVector exT4 ∧ CaseVariant exT4 exT5 ∧ isStmt (parseToks (fun _ => true) exT4) = true := by
  decide +kernel

example : ∃ s, parseText Lex.Tables.asciiOnly (fun _ => true) exD4.toList = .stmt s ∧
    parseText Lex.Tables.asciiOnly (fun _ => true) exD5.toList = .stmt s := by
  obtain ⟨hc, hv, hs⟩ := exCreateHyps2
  obtain ⟨s, hs⟩ := stmt_of_isStmt hs
  have h1 : parseText Lex.Tables.asciiOnly (fun _ => true) exD4.toList = .stmt s := by rw [parseText_of_tokens exTokens4, hs]
  exact ⟨s, h1, create_table_name_case_text _ _ _ _ _ _ exTokens4 exTokens5 hc hv s h1⟩

/-- the side condition is necessary, and the relation sees it: the vector with the TABLE name (`T` for `t`), the PATTERN
name (`Line`), the pattern TEXT, a COLUMN name (`A` for `a`), the column name `int` of `exT4` or its JSON FIELD (`F`)
respelled is not a case variant — these names are case-sensitive (the column `A` is not the column `a`); nor is a
vector in which a type name is replaced by another type name -/
example :
    ¬ CaseVariant exT1 (exT1.set 2 (tk 0 12 (idt "T"))) ∧ ¬ CaseVariant exT1 (exT1.set 4 (tk 0 15 (idt "Line"))) ∧
    ¬ CaseVariant exT1 (exT1.set 7 (tk 0 27 (.str ":".toList))) ∧ ¬ CaseVariant exT1 (exT1.set 14 (tk 0 42 (idt "A"))) ∧
    ¬ CaseVariant exT4 (exT4.set 14 (tk 0 39 (idt "INT"))) ∧ ¬ CaseVariant exT4 (exT4.set 53 (tk 0 133 (idt "F"))) ∧
    ¬ CaseVariant exT1 (exT1.set 15 (tk 0 45 (idt "real"))) ∧ CaseVariant exT1 (exT1.set 15 (tk 0 45 (idt "iNt"))) := by
  decide +kernel

/-- facts about the lines `1;x;2.5` and `7;;` under the pattern `;` in split mode (what the `regex` crate answers) -/
def exFacts : Facts :=
  { regexValid := [(";".toList, true)]
    lines := [(strBytes "1;x;2.5", { splits := [(strBytes ";", [strBytes "1", strBytes "x", strBytes "2.5"])] }),
              (strBytes "7;;", { splits := [(strBytes ";", [strBytes "7", strBytes "", strBytes ""])] })] }

/-- the three definitions texts through the whole program over a small file: the same printed records -/
example : Props.Pipeline.recordsOf (runText exFacts exD1.toList "select a, b, c from t".toList .text false [strBytes "1;x;2.5\n7;;\n"]) =
    some (none, 2, [strBytes "a: 1, b: 'x', c: NULL", strBytes "a: 7, b: '', c: NULL"]) := by
  rw [exD1, String.toList_ofList, String.toList_ofList, runText_eq_K]; decide +kernel
example : Props.Pipeline.recordsOf (runText exFacts exD2.toList "select a, b, c from t".toList .text false [strBytes "1;x;2.5\n7;;\n"]) =
    some (none, 2, [strBytes "a: 1, b: 'x', c: NULL", strBytes "a: 7, b: '', c: NULL"]) := by
  rw [exD2, String.toList_ofList, String.toList_ofList, runText_eq_K]; decide +kernel
example : Props.Pipeline.recordsOf (runText exFacts exD3.toList "select a, b, c from t".toList .text false [strBytes "1;x;2.5\n7;;\n"]) =
    some (none, 2, [strBytes "a: 1, b: 'x', c: NULL", strBytes "a: 7, b: '', c: NULL"]) := by
  rw [exD3, String.toList_ofList, String.toList_ofList, runText_eq_K]; decide +kernel

/-- … whereas the definitions text with a column name respelled (`A` for `a`) defines another table: the query fails -/
example : Props.Pipeline.recordsOf (runText exFacts
      "CREATE TABLE t(line = SPLIT ';', line[1] => A int, line[2] => b Text NOT NULL, line[3] => c REAL[] default NULL);".toList
      "select a, b, c from t".toList .text false [strBytes "1;x;2.5\n7;;\n"]) ≠
    some (none, 2, [strBytes "a: 1, b: 'x', c: NULL", strBytes "a: 7, b: '', c: NULL"]) := by
  rw [String.toList_ofList, String.toList_ofList, runText_eq_K]; decide +kernel

def errorOf : ParseOutcome → Option PErr
  | .error e => some e
  | _ => none

/-- a rejected vector and its variant (`FOO[]` for `REAL[]`; `FOO` is no type): `create_table_name_case_rejected` and
`create_table_name_case_error_kind` apply; both are rejected, at the type name, with `NotDefinedType` quoting the
spelling found (`SameKind`: the payloads differ in letter case only) -/
example :
    CreateVector (exT1.set 33 (tk 0 91 (idt "FOO"))) ∧
    CaseVariant (exT1.set 33 (tk 0 91 (idt "FOO"))) (exT1.set 33 (tk 0 91 (idt "foo"))) ∧
    errorOf (parseTokens PrecTables.code (exT1.set 33 (tk 0 91 (idt "FOO")))) = some ⟨⟨0, 91⟩, .notDefinedType "FOO[]".toList⟩ ∧
    errorOf (parseTokens PrecTables.code (exT1.set 33 (tk 0 91 (idt "foo")))) = some ⟨⟨0, 91⟩, .notDefinedType "foo[]".toList⟩ := by
  decide +kernel

/-- `create_table_respell_equivariant` is not vacuous: lower-casing is a `CreateNameMap` -/
example : parseTokens PrecTables.code (exT1.map (PTok.ren lowerChars)) = (parseTokens PrecTables.code exT1).renCreate lowerChars :=
  create_table_respell_equivariant _ createNameMap_lowerChars exT1 exCreateHyps.1

end Sqlgrep.Props.C20Create
