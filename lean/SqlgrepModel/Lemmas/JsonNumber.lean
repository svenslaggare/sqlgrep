import SqlgrepModel.Spec.JsonGrammar
/-
RFC 8259 §6 numbers: the executable recogniser `numValue` / `isJsonNumber` of `Spec/JsonGrammar.lean`
is sound and complete for the grammar's `NumD` (hence a `number` has exactly one denotation), and a text
with a denotation is a `number` of the plain grammar.
-/
namespace Sqlgrep.JsonGrammar

section run
variable {α : Type} {p : α → Prop} [DecidablePred p]

theorem span_spec (l : List α) : l = l.takeWhile (p ·) ++ l.dropWhile (p ·) ∧ (∀ a ∈ l.takeWhile (p ·), p a) ∧
    ∀ c t, l.dropWhile (p ·) = c :: t → ¬ p c := by
  refine ⟨List.takeWhile_append_dropWhile.symm, fun a ha => ?_, fun c t h => ?_⟩
  · exact of_decide_eq_true (List.all_eq_true.1 List.all_takeWhile a ha)
  · have := List.head?_dropWhile_not (p ·) l
    rw [h] at this
    simpa using this

theorem span_append {l r : List α} (hl : ∀ a ∈ l, p a) (hr : ∀ c t, r = c :: t → ¬ p c) :
    (l ++ r).takeWhile (p ·) = l ∧ (l ++ r).dropWhile (p ·) = r := by
  have hl' : ∀ a ∈ l, decide (p a) = true := fun a ha => decide_eq_true (hl a ha)
  rw [List.takeWhile_append_of_pos hl', List.dropWhile_append_of_pos hl']
  cases r with
  | nil => exact ⟨List.append_nil l, rfl⟩
  | cons c t =>
    have hc : ¬ decide (p c) = true := fun h => hr c t rfl (of_decide_eq_true h)
    rw [List.takeWhile_cons_of_neg (p := (p ·)) hc, List.dropWhile_cons_of_neg (p := (p ·)) hc]
    exact ⟨List.append_nil l, rfl⟩

end run

theorem Digits.nil : Digits [] := fun _ h => nomatch h

theorem Digits.cons {c : Char} {cs : List Char} (h : Digit c) (hs : Digits cs) : Digits (c :: cs) :=
  List.forall_mem_cons.2 ⟨h, hs⟩

def NoDigitAhead (r : List Char) : Prop := ∀ c t, r = c :: t → ¬ Digit c

theorem spanDigits_eq (cs : List Char) : spanDigits cs = (cs.takeWhile (Digit ·), cs.dropWhile (Digit ·)) := by
  induction cs with
  | nil => rfl
  | cons c cs ih => by_cases h : Digit c <;> simp [spanDigits, h, ih]

theorem spanDigits_spec (cs : List Char) :
    cs = (spanDigits cs).1 ++ (spanDigits cs).2 ∧ Digits (spanDigits cs).1 ∧ NoDigitAhead (spanDigits cs).2 := by
  rw [spanDigits_eq]; exact span_spec cs

theorem spanDigits_append (ds r : List Char) (hd : Digits ds) (hr : NoDigitAhead r) :
    spanDigits (ds ++ r) = (ds, r) := by
  rw [spanDigits_eq, (span_append hd hr).1, (span_append hd hr).2]

theorem expValue_sound {cs : List Char} {ev : Int} (h : expValue cs = some ev) : ExpD cs ev := by
  revert h
  fun_cases expValue cs
  all_goals (intro h; cases h)
  case case1 => exact .none
  case case2 he _ hd => exact .minus he hd
  case case4 he _ hd => exact .plus he hd
  case case6 he _ _ _ hd => exact .plain he hd

theorem digit_ne_sign {c : Char} (h : Digit c) : c ≠ '-' ∧ c ≠ '+' ∧ c ≠ '.' ∧ c ≠ 'e' ∧ c ≠ 'E' := by
  refine ⟨?_, ?_, ?_, ?_, ?_⟩ <;> (intro e; subst e; revert h; decide)

theorem expValue_complete {cs : List Char} {ev : Int} (h : ExpD cs ev) : expValue cs = some ev := by
  cases h with
  | none => rfl
  | plain he hd =>
    rename_i e ds
    obtain ⟨d, ds, rfl⟩ := List.exists_cons_of_ne_nil hd.1
    have hs := digit_ne_sign (hd.2 d (List.mem_cons_self ..))
    simp only [expValue, he, if_true]
    split
    · rename_i heq; cases heq; exact absurd rfl hs.1
    · rename_i heq; cases heq; exact absurd rfl hs.2.1
    · rw [if_pos hd]
  | plus he hd => simp only [expValue, he, if_true, if_pos hd]
  | minus he hd => simp only [expValue, he, if_true, if_pos hd]

theorem ExpD.head {e : List Char} {ev : Int} (h : ExpD e ev) : ∀ c t, e = c :: t → c = 'e' ∨ c = 'E' := by
  intro c t hc
  cases h with
  | none => cases hc
  | plain he _ => cases hc; exact he
  | plus he _ => cases hc; exact he
  | minus he _ => cases hc; exact he

theorem exp_noDigit {e : List Char} {ev : Int} (h : ExpD e ev) : NoDigitAhead e := fun c t hc hd => by
  have := digit_ne_sign hd
  exact (h.head c t hc).elim this.2.2.2.1 this.2.2.2.2

theorem exp_head_ne_dot {e : List Char} {ev : Int} (h : ExpD e ev) : ∀ t, e ≠ '.' :: t := fun t hc => by
  have := h.head _ t hc
  revert this; decide

theorem fracExpValue_sound {cs fd : List Char} {ev : Int} (h : fracExpValue cs = some (fd, ev)) :
    ∃ f e, cs = f ++ e ∧ FracD f fd ∧ ExpD e ev := by
  revert h
  fun_cases fracExpValue cs
  case case1 => nofun
  case case2 t fd' r hs hne =>
    intro h
    obtain ⟨x, hx, h⟩ := Option.map_eq_some_iff.1 h
    cases h
    have ht := spanDigits_spec t
    rw [hs] at ht
    exact ⟨'.' :: fd, r, by rw [List.cons_append, ← ht.1], .some ⟨hne, ht.2.1⟩, expValue_sound hx⟩
  case case3 =>
    intro h
    obtain ⟨x, hx, h⟩ := Option.map_eq_some_iff.1 h
    cases h
    exact ⟨[], cs, rfl, .none, expValue_sound hx⟩

theorem fracExpValue_not_dot {cs : List Char} (h : ∀ t, cs ≠ '.' :: t) :
    fracExpValue cs = (expValue cs).map ([], ·) := by
  unfold fracExpValue
  split
  · rename_i t; exact absurd rfl (h t)
  · rfl

theorem fracExpValue_complete {f e fd : List Char} {ev : Int} (hf : FracD f fd) (he : ExpD e ev) :
    fracExpValue (f ++ e) = some (fd, ev) := by
  cases hf with
  | none =>
    rw [List.nil_append, fracExpValue_not_dot (exp_head_ne_dot he), expValue_complete he]; rfl
  | some hd =>
    have hs := spanDigits_append fd e hd.2 (exp_noDigit he)
    simp only [List.cons_append, fracExpValue, hs, if_neg hd.1, expValue_complete he, Option.map_some]

theorem frac_noDigit {f fd e : List Char} {ev : Int} (hf : FracD f fd) (he : ExpD e ev) : NoDigitAhead (f ++ e) := by
  cases hf with
  | none => exact exp_noDigit he
  | some _ => intro c t hc hd; cases hc; exact (digit_ne_sign hd).2.2.1 rfl

theorem digit19_digit {c : Char} (h : Digit19 c) : Digit c := by
  unfold Digit19 at h; unfold Digit; omega

theorem digit19_ne_zero {c : Char} (h : Digit19 c) : c ≠ '0' := by
  intro e; subst e; revert h; decide

theorem unsignedValue_sound {cs i fd : List Char} {ev : Int} (h : unsignedValue cs = some (i, fd, ev)) :
    ∃ f e, cs = i ++ f ++ e ∧ IntPart i ∧ FracD f fd ∧ ExpD e ev := by
  revert h
  fun_cases unsignedValue cs
  case case1 => nofun
  case case4 => nofun
  case case2 t =>
    intro h
    obtain ⟨x, hx, h⟩ := Option.map_eq_some_iff.1 h
    cases h
    obtain ⟨f, e, rfl, hf, he⟩ := fracExpValue_sound hx
    exact ⟨f, e, by simp, .zero, hf, he⟩
  case case3 d t _ hd ds r hs =>
    intro h
    obtain ⟨x, hx, h⟩ := Option.map_eq_some_iff.1 h
    cases h
    obtain ⟨f, e, rfl, hf, he⟩ := fracExpValue_sound hx
    have ht := spanDigits_spec t
    rw [hs] at ht
    exact ⟨f, e, by rw [ht.1]; simp, .nonzero hd ht.2.1, hf, he⟩

theorem unsignedValue_complete {i f e fd : List Char} {ev : Int} (hi : IntPart i) (hf : FracD f fd) (he : ExpD e ev) :
    unsignedValue (i ++ f ++ e) = some (i, fd, ev) := by
  cases hi with
  | zero =>
    simp only [List.cons_append, List.nil_append, unsignedValue, if_true, fracExpValue_complete hf he,
      Option.map_some]
  | nonzero hd hds =>
    rename_i d ds
    have hs := spanDigits_append ds (f ++ e) hds (frac_noDigit hf he)
    simp only [List.cons_append, List.append_assoc, unsignedValue, digit19_ne_zero hd, if_false, hd, if_true, hs,
      fracExpValue_complete hf he, Option.map_some]

theorem IntPart.digits {i : List Char} (hi : IntPart i) : Digits i := by
  cases hi with
  | zero => decide
  | nonzero hd hds => exact Digits.cons (digit19_digit hd) hds

theorem IntPart.head {i : List Char} (hi : IntPart i) : ∃ c t, i = c :: t ∧ Digit c := by
  cases hi with
  | zero => exact ⟨_, _, rfl, by decide⟩
  | nonzero hd _ => exact ⟨_, _, rfl, digit19_digit hd⟩

theorem intPart_head_ne_minus {i : List Char} (hi : IntPart i) : ∀ t, i ≠ '-' :: t := by
  obtain ⟨c, t, rfl, hc⟩ := hi.head
  intro t' h
  cases h
  exact (digit_ne_sign hc).1 rfl

theorem numValue_sound {cs : List Char} {d : Dec} (h : numValue cs = some d) : NumD cs d := by
  revert h
  fun_cases numValue cs
  all_goals
    intro h
    obtain ⟨⟨i, fd, ev⟩, hx, h⟩ := Option.map_eq_some_iff.1 h
    cases h
    obtain ⟨f, e, rfl, hi, hf, he⟩ := unsignedValue_sound hx
  · exact .neg hi hf he
  · exact .pos hi hf he

theorem numValue_complete {cs : List Char} {d : Dec} (h : NumD cs d) : numValue cs = some d := by
  cases h with
  | pos hi hf he =>
    unfold numValue
    split
    · rename_i t heq
      obtain ⟨c, i, rfl, hc⟩ := hi.head
      cases heq
      exact absurd rfl (digit_ne_sign hc).1
    · rw [unsignedValue_complete hi hf he]; rfl
  | neg hi hf he =>
    simp only [numValue, unsignedValue_complete hi hf he, Option.map_some]

theorem NumD.unique {cs : List Char} {d d' : Dec} (h : NumD cs d) (h' : NumD cs d') : d = d' := by
  have := numValue_complete h
  rw [numValue_complete h'] at this
  exact (Option.some.inj this).symm

theorem FracD.frac {f fd : List Char} (h : FracD f fd) : Opt Frac f := by
  cases h with
  | none => exact Or.inl rfl
  | some hd => exact Or.inr (.mk hd)

theorem ExpD.exp {e : List Char} {ev : Int} (h : ExpD e ev) : Opt Exp e := by
  cases h with
  | none => exact Or.inl rfl
  | plain he hd => exact Or.inr (Exp.mk (sign := []) he (Or.inl rfl) hd)
  | plus he hd => exact Or.inr (Exp.mk (sign := ['+']) he (Or.inr (Or.inr rfl)) hd)
  | minus he hd => exact Or.inr (Exp.mk (sign := ['-']) he (Or.inr (Or.inl rfl)) hd)

theorem NumD.num {cs : List Char} {d : Dec} (h : NumD cs d) : Num cs := by
  cases h with
  | pos hi hf he => exact Num.mk (m := []) (Or.inl rfl) hi hf.frac he.exp
  | neg hi hf he => exact Num.mk (m := ['-']) (Or.inr rfl) hi hf.frac he.exp

theorem isJsonNumber_denotes {cs : List Char} (h : isJsonNumber cs = true) : ∃ d, numValue cs = some d ∧ NumD cs d := by
  obtain ⟨d, hd⟩ := Option.isSome_iff_exists.1 h
  exact ⟨d, hd, numValue_sound hd⟩

theorem isJsonNumber_sound {cs : List Char} (h : isJsonNumber cs = true) : Num cs := by
  obtain ⟨d, _, hd⟩ := isJsonNumber_denotes h
  exact hd.num

def NumChar (c : Char) : Prop := Digit c ∨ c = '-' ∨ c = '+' ∨ c = '.' ∨ c = 'e' ∨ c = 'E'

instance : DecidablePred NumChar := fun c => by unfold NumChar; infer_instance

theorem unsigned_chars {i f e fd : List Char} {ev : Int} (hi : IntPart i) (hf : FracD f fd) (he : ExpD e ev) :
    ∀ c ∈ i ++ f ++ e, NumChar c := by
  have digits : ∀ {ds : List Char}, Digits ds → ∀ c ∈ ds, NumChar c := fun h c hc => Or.inl (h c hc)
  refine List.forall_mem_append.2 ⟨List.forall_mem_append.2 ⟨digits hi.digits, ?_⟩, ?_⟩
  · cases hf with
    | none => exact fun _ h => nomatch h
    | some hd => exact List.forall_mem_cons.2 ⟨by decide, digits hd.2⟩
  · have marker : ∀ {x : Char}, x = 'e' ∨ x = 'E' → NumChar x := fun h => .inr (.inr (.inr (.inr h)))
    cases he with
    | none => exact fun _ h => nomatch h
    | plain he hd => exact List.forall_mem_cons.2 ⟨marker he, digits hd.2⟩
    | plus he hd => exact List.forall_mem_cons.2 ⟨marker he, List.forall_mem_cons.2 ⟨by decide, digits hd.2⟩⟩
    | minus he hd => exact List.forall_mem_cons.2 ⟨marker he, List.forall_mem_cons.2 ⟨by decide, digits hd.2⟩⟩

theorem NumD.chars {cs : List Char} {d : Dec} (h : NumD cs d) : ∀ c ∈ cs, NumChar c := by
  cases h with
  | pos hi hf he => exact unsigned_chars hi hf he
  | neg hi hf he => exact List.forall_mem_cons.2 ⟨by decide, unsigned_chars hi hf he⟩

theorem NumD.ne_nil {cs : List Char} {d : Dec} (h : NumD cs d) : cs ≠ [] := by
  cases h with
  | pos hi _ _ => obtain ⟨c, t, rfl, _⟩ := hi.head; nofun
  | neg _ _ _ => nofun

end Sqlgrep.JsonGrammar
