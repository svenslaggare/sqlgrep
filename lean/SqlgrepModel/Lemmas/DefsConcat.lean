import SqlgrepModel.Lemmas.ParseConcat
import SqlgrepModel.Lemmas.LexConcat
import SqlgrepModel.Lemmas.ParseBlind
import SqlgrepModel.Lemmas.Pipeline
/-
`parsing::parse` (tokenizer, parser, lowering) on a concatenation of two definition texts, from the three stage lemmas
`Lex.Concat.tokenize_append`, `Parse.Concat.parseTokens_append` and the lowering of a list of CREATE TABLE statements
(`lowerCreates_append`): when `A` is accepted as CREATE TABLE statements and ends cleanly in `) ;`, and the first token of
`B` is `CREATE`, then `A ++ B` is read as the statements of `A` followed by the statements of `B`; if `B` is not accepted,
`A ++ B` is rejected with the same kind of error.
-/
namespace Sqlgrep

namespace Lower.Concat
open Sqlgrep.Lower

theorem lowerCreates_append (rv : List Char → Bool) : ∀ (a b : List PCreate),
    lowerCreates rv (a ++ b) =
      match lowerCreates rv a with
      | .ok sa =>
        (match lowerCreates rv b with
         | .ok sb => .ok (sa ++ sb)
         | .err e => .err e
         | .panic s => .panic s)
      | .err e => .err e
      | .panic s => .panic s := by
  intro a
  induction a with
  | nil => intro b; simp only [List.nil_append, lowerCreates]; cases lowerCreates rv b <;> rfl
  | cons c cs ih =>
    intro b
    simp only [List.cons_append, lowerCreates, ih b]
    cases lowerCreate rv c <;> cases lowerCreates rv cs <;> cases lowerCreates rv b <;> rfl

/-- the statements of a lowered definition text -/
def stmtsOf : LStmt → List LStmt
  | .multiple ss => ss
  | s => [s]

/-- the statement a list of lowered CREATE TABLE statements stands for -/
def ofStmts : List LStmt → LStmt
  | [s] => s
  | ss => .multiple ss

theorem lowerStatement_creates (rv : List Char → Bool) (cs : List PCreate) (hne : cs ≠ []) :
    lowerStatement rv (Parse.opOfCreates cs) =
      match lowerCreates rv cs with
      | .ok ss => .ok (ofStmts ss)
      | .err e => .err e
      | .panic s => .panic s := by
  cases cs with
  | nil => exact absurd rfl hne
  | cons c rest =>
    cases rest with
    | nil =>
      simp only [Parse.opOfCreates, lowerStatement, lowerCreates]
      cases lowerCreate rv c <;> rfl
    | cons c2 rest2 =>
      simp only [Parse.opOfCreates, lowerStatement]
      cases h : lowerCreates rv (c :: c2 :: rest2) with
      | err e => rfl
      | panic s => rfl
      | ok ss =>
        have hl := (Lower.lowerCreates_mem h).1
        match ss, hl with
        | _ :: _ :: _, _ => rfl

theorem lowerCreates_shape (rv : List Char → Bool) (cs : List PCreate) (ss : List LStmt) (h : lowerCreates rv cs = .ok ss) :
    ss.length = cs.length ∧ ∀ s ∈ ss, ∃ n t cols, s = .createTable n t cols := by
  refine ⟨(Lower.lowerCreates_mem h).1, fun s hs => ?_⟩
  obtain ⟨c, -, hc⟩ := (Lower.lowerCreates_mem h).2 s hs
  exact Lower.lowerCreate_shape hc

theorem stmtsOf_ofStmts (ss : List LStmt) (h : ∀ s ∈ ss, ∃ n t cols, s = LStmt.createTable n t cols) :
    stmtsOf (ofStmts ss) = ss := by
  cases ss with
  | nil => rfl
  | cons s rest =>
    cases rest with
    | nil => obtain ⟨n, t, cols, rfl⟩ := h s List.mem_cons_self; rfl
    | cons s2 rest2 => rfl

theorem ofStmts_two (a b : List LStmt) (ha : a ≠ []) (hb : b ≠ []) : ofStmts (a ++ b) = .multiple (a ++ b) := by
  cases a with
  | nil => exact absurd rfl ha
  | cons x xs =>
    cases b with
    | nil => exact absurd rfl hb
    | cons y ys => cases xs <;> rfl

end Lower.Concat

namespace Pipeline.Concat
open Sqlgrep.Pipeline Parse Lower Parse.Concat Lower.Concat

/-- what `parsing::parse` makes of `A ++ B` from what it makes of `B`, the statements of `A` being `ssA` -/
def concatParsed (ssA : List LStmt) : Parsed → Parsed
  | .stmt dB => .stmt (.multiple (ssA ++ stmtsOf dB))
  | p => p

theorem parseToks_append (rv : List Char → Bool) (A' : List PTok) (eA : PTok) (tsB tsC : List PTok) (dA : LStmt)
    (hend : ∃ A0 p q, A' = A0 ++ [p, q] ∧ p.tok = .rp ∧ q.tok = .semi)
    (hB : ∃ y Y, tsB = y :: Y ∧ y.tok = .kw .create)
    (hC : tsC.map (·.tok) = A'.map (·.tok) ++ tsB.map (·.tok))
    (hA : parseToks rv (A' ++ [eA]) = .stmt dA)
    (hcreates : ∀ s ∈ stmtsOf dA, ∃ n t cols, s = LStmt.createTable n t cols) :
    (parseToks rv tsC).stripLoc = (concatParsed (stmtsOf dA) (parseToks rv tsB)).stripLoc := by
  obtain ⟨y, Y, rfl, hy⟩ := hB
  -- everything at the default location
  have hCs : (parseToks rv tsC).stripLoc = (parseToks rv (A'.map PTok.strip ++ (y :: Y).map PTok.strip)).stripLoc := by
    apply parseToks_locations_irrelevant
    simp [hC, PTok.strip, Function.comp_def]
  have hBs : (parseToks rv (y :: Y)).stripLoc = (parseToks rv ((y :: Y).map PTok.strip)).stripLoc :=
    (parseToks_strip rv (y :: Y)).symm
  have hAs : parseToks rv ((A' ++ [eA]).map PTok.strip) = .stmt dA :=
    parseToks_stmt_of_same_tokens rv _ _ (by simp [PTok.strip, Function.comp_def]) dA hA
  have hstripC : ∀ (ss : List LStmt) (p : Parsed), (concatParsed ss p).stripLoc = (concatParsed ss p.stripLoc).stripLoc := by
    intro ss p; cases p <;> rfl
  rw [hCs, hstripC, hBs, ← hstripC]
  -- the tree of `A`
  obtain ⟨tA, htA, hlA⟩ := parseToks_stmt_inv hAs
  -- `A'` is not empty (it ends in `) ;`), starts with CREATE, and its tree is a list of CREATE TABLE statements
  obtain ⟨A0, p, q, hApq, hp, hq⟩ := hend
  cases hA'c : A' with
  | nil => rw [hA'c] at hApq; simp at hApq
  | cons c0 r0 =>
    rw [hA'c] at htA hApq
    simp only [List.cons_append, List.map_cons, List.map_append, List.map_nil] at htA
    have hnsel : ∀ qq, tA ≠ .select qq := by
      intro qq hq'
      subst hq'
      rcases Lower.lowerStatement_ok_cases hlA with ⟨a, b, c, e, rfl⟩ | ⟨a, b, c, e, rfl, -⟩ | ⟨_, _, _, _, ht, -⟩ | ⟨_, _, ht, -⟩
      · obtain ⟨n, t, cols, h⟩ := hcreates (LStmt.select a b c e) (by simp [stmtsOf]); cases h
      · obtain ⟨n, t, cols, h⟩ := hcreates (LStmt.aggregate a b c e) (by simp [stmtsOf]); cases h
      · cases ht
      · cases ht
    obtain ⟨hc0, cA, hcAne, rfl⟩ : (PTok.strip c0).tok = .kw .create ∧ ∃ cA, cA ≠ [] ∧ tA = opOfCreates cA := by
      rcases parseTokens_tree_cases htA with ⟨_, q, rfl⟩ | h
      · exact absurd rfl (hnsel q)
      · exact h
    -- the statements of `A`
    rw [lowerStatement_creates rv cA hcAne] at hlA
    cases hlcA : lowerCreates rv cA with
    | err e => rw [hlcA] at hlA; cases hlA
    | panic s => rw [hlcA] at hlA; cases hlA
    | ok ssA =>
      rw [hlcA] at hlA
      simp only [LRes.ok.injEq] at hlA
      obtain ⟨hlenA, hshapeA⟩ := lowerCreates_shape rv cA ssA hlcA
      have hssA : stmtsOf dA = ssA := by rw [← hlA]; exact stmtsOf_ofStmts ssA hshapeA
      have hssAne : ssA ≠ [] := by
        intro h0; rw [h0] at hlenA; exact hcAne (List.length_eq_zero_iff.1 hlenA.symm)
      -- the parser on the concatenation
      have hend' : ∃ A0' p' q', PTok.strip c0 :: r0.map PTok.strip = A0' ++ [p', q'] ∧ p'.tok = .rp ∧ q'.tok = .semi := by
        refine ⟨A0.map PTok.strip, PTok.strip p, PTok.strip q, ?_, hp, hq⟩
        have := congrArg (List.map PTok.strip) hApq
        simpa using this
      have hcat := parseTokens_append (T := PrecTables.code) inertBoundary_code (PTok.strip c0) (r0.map PTok.strip)
        (PTok.strip eA) (PTok.strip y) (Y.map PTok.strip) (opOfCreates cA) hc0 hy rfl hend' (by simpa using htA)
      rw [createsOf_opOfCreates cA hcAne] at hcat
      simp only [List.map_cons, List.cons_append] at hcat ⊢
      unfold parseToks
      rw [hcat]
      cases htB : parseTokens PrecTables.code (PTok.strip y :: Y.map PTok.strip) with
      | error e => rfl
      | fuel => rfl
      | panic => rfl
      | tree opB =>
        simp only []
        obtain ⟨cB, hcBne, rfl⟩ : ∃ cB, cB ≠ [] ∧ opB = opOfCreates cB := by
          rcases parseTokens_tree_cases htB with ⟨hs, _⟩ | ⟨_, h⟩
          · cases hy.symm.trans hs
          · exact h
        rw [createsOf_opOfCreates cB hcBne]
        have hne2 : cA ++ cB ≠ [] := by simp [hcAne]
        unfold lowerTree
        rw [lowerStatement_creates rv (cA ++ cB) hne2, lowerStatement_creates rv cB hcBne, lowerCreates_append, hlcA]
        simp only []
        cases hlcB : lowerCreates rv cB with
        | err e => rfl
        | panic s => rfl
        | ok ssB =>
          simp only []
          obtain ⟨hlenB, hshapeB⟩ := lowerCreates_shape rv cB ssB hlcB
          have hssBne : ssB ≠ [] := by
            intro h0; rw [h0] at hlenB; exact hcBne (List.length_eq_zero_iff.1 hlenB.symm)
          rw [ofStmts_two ssA ssB hssAne hssBne]
          simp only [concatParsed, hssA, stmtsOf_ofStmts ssB hshapeB]

theorem tokenize_of_cleanEnd (o : Lex.Oracles) (A : List Char) (st : Lex.St) (h : Lex.Concat.CleanEnd o A st) :
    ∃ eA : PTok, Lex.tokenize o A = .ok (st.toks.reverse ++ [eA]) := by
  obtain ⟨hrun, _, _, _, _, hpend, hlast⟩ := h
  unfold Lex.tokenize
  rw [hrun]
  simp only [Lex.R.bind, Lex.finish, Lex.flush, hpend, Lex.St.close, hlast]
  have : ¬ (some Tok.semi = some Lex.dashDash) := by decide
  simp only [this, if_false, Lex.St.add, List.reverse_cons]
  exact ⟨_, rfl⟩

/-- the first token of the text is `CREATE` (when the text tokenizes at all) -/
def FirstCreate (o : Lex.Oracles) (B : List Char) : Prop :=
  match Lex.tokenize o B with
  | .ok (t :: _) => t.tok = .kw .create
  | .ok [] => False
  | _ => True

/-- the text `A` ends, outside strings, comments and escapes, behind the `) ;` of a statement: `Lex.Concat.CleanEnd` with the
token before the final `;` being `)` (a second `;` there would make `Parser::parse` refuse what follows) -/
def EndsStatement (o : Lex.Oracles) (A : List Char) : Prop :=
  ∃ st : Lex.St, Lex.Concat.CleanEnd o A st ∧ ∃ q p rest, st.toks = q :: p :: rest ∧ p.tok = .rp

/-- **`parsing::parse` on a concatenation of definition texts.** `A` is accepted and lowers to CREATE TABLE statements,
and ends behind the `) ;` of its last statement; the first token of `B` is `CREATE`. Then `A ++ B` is read as the
statements of `A` followed by the statements of `B`, and is rejected exactly as `B` is if `B` is rejected (same kind of
tokenizer / parser / conversion error; locations differ: they are counted from the beginning of `A`). -/
theorem parseText_append (lo : Lex.Oracles) (rv : List Char → Bool) (A B : List Char) (dA : LStmt)
    (hend : EndsStatement lo A) (hA : parseText lo rv A = .stmt dA)
    (hcreates : ∀ s ∈ stmtsOf dA, ∃ n t cols, s = LStmt.createTable n t cols)
    (hB : FirstCreate lo B) :
    (parseText lo rv (A ++ B)).stripLoc = (concatParsed (stmtsOf dA) (parseText lo rv B)).stripLoc := by
  obtain ⟨st, hclean, q, p, rest, htoks, hp⟩ := hend
  obtain ⟨eA, htokA⟩ := tokenize_of_cleanEnd lo A st hclean
  have hq : q.tok = .semi := by
    have := hclean.2.2.2.2.2.2
    simp [Lex.St.lastTok, htoks] at this
    exact this
  unfold parseText at hA ⊢
  rw [htokA] at hA
  simp only [] at hA
  have happ := Lex.Concat.tokenize_append lo A B st hclean
  unfold FirstCreate at hB
  cases htB : Lex.tokenize lo B with
  | error loc e =>
    rw [htB] at happ
    obtain ⟨loc', hl⟩ := happ
    rw [hl]; rfl
  | missing w =>
    rw [htB] at happ
    simp only [] at happ
    rw [happ]; rfl
  | ok tsB =>
    rw [htB] at happ hB
    obtain ⟨ts, hts, hmap⟩ := happ
    rw [hts]
    simp only []
    cases tsB with
    | nil => exact hB.elim
    | cons y Y =>
      simp only [] at hB
      exact parseToks_append rv st.toks.reverse eA (y :: Y) ts dA
        ⟨rest.reverse, p, q, by simp [htoks], hp, hq⟩ ⟨y, Y, rfl, hB⟩ hmap hA hcreates

end Pipeline.Concat
end Sqlgrep
