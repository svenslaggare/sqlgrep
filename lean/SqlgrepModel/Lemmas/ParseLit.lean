import SqlgrepModel.Model.ParseLit
/-
Literal syntax lemmas: `parseI64` accepts exactly the decimal integer literals that fit 64 bits and
returns the integer they denote; a rendered integer is read back unchanged. `trim` (Rust's `str::trim`) returns a
contiguous piece of the text with whitespace-free ends (`trim_spec`).
-/
namespace Sqlgrep.Lit

theorem digitsVal_foldl (ds : List Nat) (acc : Nat) :
    ds.foldl (fun a b => a * 10 + (b - 48)) acc = acc * 10 ^ ds.length + digitsVal ds := by
  induction ds generalizing acc with
  | nil => simp [digitsVal]
  | cons b bs ih =>
    simp only [List.foldl_cons, List.length_cons, digitsVal]
    rw [ih, ih (0 * 10 + (b - 48))]
    simp only [Nat.zero_mul, Nat.zero_add, Nat.pow_succ]
    rw [Nat.add_mul, Nat.add_assoc]
    congr 1
    rw [Nat.mul_assoc, Nat.mul_comm 10]

theorem digitsVal_append_singleton (ds : List Nat) (b : Nat) :
    digitsVal (ds ++ [b]) = digitsVal ds * 10 + (b - 48) := by
  simp [digitsVal, List.foldl_append]

theorem parseDigits_some_iff (ds : List Nat) (k : Nat) :
    parseDigits ds = some k ↔ ds ≠ [] ∧ (∀ b ∈ ds, isDigit b = true) ∧ k = digitsVal ds := by
  unfold parseDigits
  cases ds with
  | nil => simp
  | cons b bs =>
    simp only [List.isEmpty_cons, Bool.false_eq_true, if_false, ne_eq, reduceCtorEq, not_false_eq_true, true_and]
    by_cases h : (b :: bs).all isDigit = true
    · simp only [h, if_true, Option.some.injEq]
      constructor
      · intro hk; exact ⟨by simpa [List.all_eq_true] using h, hk.symm⟩
      · intro hk; exact hk.2.symm
    · simp only [h, Bool.false_eq_true, if_false, reduceCtorEq, false_iff, not_and]
      intro hall
      exact absurd (List.all_eq_true.2 hall) h

/-- `s` is an optional sign followed by at least one ASCII digit and denotes the integer `n` -/
def IsIntLiteral (s : Text) (n : Int) : Prop :=
  ∃ ds : List Nat, ds ≠ [] ∧ (∀ b ∈ ds, isDigit b = true) ∧
    ((s = ds ∧ n = (digitsVal ds : Int)) ∨ (s = 43 :: ds ∧ n = (digitsVal ds : Int)) ∨
     (s = 45 :: ds ∧ n = -(digitsVal ds : Int)))

theorem inI64_iff (n : Int) : inI64 n = true ↔ -2 ^ 63 ≤ n ∧ n < 2 ^ 63 := by
  unfold inI64 i64Min i64Max
  simp only [Bool.and_eq_true, decide_eq_true_eq]
  omega

/-- the three shapes of a literal: after `-`, after `+`, and unsigned. A sign is not a digit, so the shape of `s`
decides which disjunct of `IsIntLiteral` can hold. -/
theorem isIntLiteral_neg (ds : Text) (n : Int) :
    IsIntLiteral (45 :: ds) n ↔ ds ≠ [] ∧ (∀ b ∈ ds, isDigit b = true) ∧ n = -(digitsVal ds : Int) := by
  constructor
  · rintro ⟨ds', hne, hall, ⟨rfl, _⟩ | ⟨h, _⟩ | ⟨h, hn⟩⟩
    · exact absurd (hall 45 List.mem_cons_self) (by decide)
    · cases h
    · cases h; exact ⟨hne, hall, hn⟩
  · exact fun ⟨hne, hall, hn⟩ => ⟨ds, hne, hall, .inr (.inr ⟨rfl, hn⟩)⟩

theorem isIntLiteral_pos (ds : Text) (n : Int) :
    IsIntLiteral (43 :: ds) n ↔ ds ≠ [] ∧ (∀ b ∈ ds, isDigit b = true) ∧ n = (digitsVal ds : Int) := by
  constructor
  · rintro ⟨ds', hne, hall, ⟨rfl, _⟩ | ⟨h, hn⟩ | ⟨h, _⟩⟩
    · exact absurd (hall 43 List.mem_cons_self) (by decide)
    · cases h; exact ⟨hne, hall, hn⟩
    · cases h
  · exact fun ⟨hne, hall, hn⟩ => ⟨ds, hne, hall, .inr (.inl ⟨rfl, hn⟩)⟩

theorem isIntLiteral_plain (s : Text) (n : Int) (h45 : ∀ ds, s ≠ 45 :: ds) (h43 : ∀ ds, s ≠ 43 :: ds) :
    IsIntLiteral s n ↔ s ≠ [] ∧ (∀ b ∈ s, isDigit b = true) ∧ n = (digitsVal s : Int) := by
  constructor
  · rintro ⟨ds', hne, hall, ⟨rfl, hn⟩ | ⟨h, _⟩ | ⟨h, _⟩⟩
    · exact ⟨hne, hall, hn⟩
    · exact absurd h (h43 _)
    · exact absurd h (h45 _)
  · exact fun ⟨hne, hall, hn⟩ => ⟨s, hne, hall, .inl ⟨rfl, hn⟩⟩

/-- digits read as a magnitude, given the sign `f` and checked against the `i64` range: what each branch of
`parseI64` returns -/
theorem parseSigned_iff (f : Nat → Int) (ds : Text) (n : Int) (r : Option Int)
    (hs : ∀ k, parseDigits ds = some k → r = if inI64 (f k) = true then some (f k) else none)
    (hn : parseDigits ds = none → r = none) :
    r = some n ↔ (ds ≠ [] ∧ (∀ b ∈ ds, isDigit b = true) ∧ n = f (digitsVal ds)) ∧ inI64 n = true := by
  cases hp : parseDigits ds with
  | none =>
    rw [hn hp]
    exact ⟨nofun, fun ⟨⟨hne, hall, _⟩, _⟩ => nomatch hp.symm.trans ((parseDigits_some_iff ds _).2 ⟨hne, hall, rfl⟩)⟩
  | some k =>
    obtain ⟨hne, hall, rfl⟩ := (parseDigits_some_iff ds k).1 hp
    rw [hs _ hp]
    by_cases hin : inI64 (f (digitsVal ds)) = true
    · rw [if_pos hin]
      exact ⟨fun h => by cases h; exact ⟨⟨hne, hall, rfl⟩, hin⟩, fun ⟨⟨_, _, e⟩, _⟩ => by rw [e]⟩
    · rw [if_neg hin]
      exact ⟨nofun, fun ⟨⟨_, _, e⟩, h⟩ => absurd (e ▸ h) hin⟩

theorem parseI64_exact (s : Text) (n : Int) :
    parseI64 s = some n ↔ IsIntLiteral s n ∧ -2 ^ 63 ≤ n ∧ n < 2 ^ 63 := by
  rw [← inI64_iff]
  unfold parseI64
  split
  · rename_i ds
    rw [isIntLiteral_neg]
    exact parseSigned_iff (fun k => -(k : Int)) ds n _ (fun k hk => by rw [hk]) (fun hk => by rw [hk])
  · rename_i ds
    rw [isIntLiteral_pos]
    exact parseSigned_iff (fun k => (k : Int)) ds n _ (fun k hk => by rw [hk]) (fun hk => by rw [hk])
  · rename_i h45 h43
    rw [isIntLiteral_plain s n h45 h43]
    exact parseSigned_iff (fun k => (k : Int)) s n _ (fun k hk => by rw [hk]) (fun hk => by rw [hk])

/-- canonical decimal rendering of a natural number -/
def renderNat (n : Nat) : List Nat :=
  if n < 10 then [48 + n] else renderNat (n / 10) ++ [48 + n % 10]
termination_by n
decreasing_by omega

/-- canonical decimal rendering of an integer (`-` for negatives) -/
def renderInt (n : Int) : Text := if n < 0 then 45 :: renderNat n.natAbs else renderNat n.natAbs

theorem renderNat_spec (n : Nat) :
    renderNat n ≠ [] ∧ (∀ b ∈ renderNat n, isDigit b = true) ∧ digitsVal (renderNat n) = n := by
  induction n using renderNat.induct with
  | case1 n h =>
    rw [renderNat]
    simp only [h, if_true]
    refine ⟨by simp, ?_, ?_⟩
    · intro b hb
      simp only [List.mem_singleton] at hb
      subst hb
      simp [isDigit]; omega
    · simp [digitsVal]
  | case2 n h ih =>
    rw [renderNat]
    simp only [h, if_false]
    obtain ⟨_, h2, h3⟩ := ih
    refine ⟨by simp, ?_, ?_⟩
    · intro b hb
      simp only [List.mem_append, List.mem_singleton] at hb
      rcases hb with hb | hb
      · exact h2 b hb
      · subst hb; simp [isDigit]; omega
    · rw [digitsVal_append_singleton, h3]; omega

/-- a rendered integer is read back unchanged: never truncated, wrapped or re-typed -/
theorem parseI64_render (n : Int) (h : -2 ^ 63 ≤ n ∧ n < 2 ^ 63) : parseI64 (renderInt n) = some n := by
  rw [parseI64_exact]
  refine ⟨?_, h⟩
  obtain ⟨h1, h2, h3⟩ := renderNat_spec n.natAbs
  refine ⟨renderNat n.natAbs, h1, h2, ?_⟩
  unfold renderInt
  by_cases hn : n < 0
  · rw [if_pos hn]
    right; right
    exact ⟨rfl, by rw [h3]; omega⟩
  · rw [if_neg hn]
    left
    exact ⟨rfl, by rw [h3]; omega⟩

theorem wsPrefix_le (s : Text) : wsPrefix s ≤ s.length := by
  unfold wsPrefix
  split
  · split
    · simp
    · split <;> (try split) <;> simp
  · simp

/-- `trimStartFuel` and `trimEndRevFuel` are one loop `g`: drop `k s` bytes from the head while `k s ≠ 0`. It removes a
prefix, and with fuel for every byte it stops only where `k` is 0. -/
theorem stripFuel_spec (k : Text → Nat) (g : Nat → Text → Text) (hk : ∀ s, k s ≤ s.length) (h0 : ∀ s, g 0 s = s)
    (hs : ∀ n s, g (n + 1) s = if (k s == 0) = true then s else g n (s.drop (k s))) (fuel : Nat) :
    ∀ s : Text, (∃ l, s = l ++ g fuel s) ∧ (s.length ≤ fuel → k (g fuel s) = 0) := by
  induction fuel with
  | zero =>
    intro s
    rw [h0]
    refine ⟨⟨[], rfl⟩, fun h => ?_⟩
    rw [List.length_eq_zero_iff.1 (Nat.le_zero.1 h)]
    exact Nat.le_zero.1 (hk [])
  | succ n ih =>
    intro s
    rw [hs]
    by_cases hz : k s = 0
    · rw [if_pos (beq_iff_eq.2 hz)]
      exact ⟨⟨[], rfl⟩, fun _ => hz⟩
    · rw [if_neg (mt beq_iff_eq.1 hz)]
      obtain ⟨⟨l, hl⟩, hd⟩ := ih (s.drop (k s))
      refine ⟨⟨s.take (k s) ++ l, ?_⟩, fun h => hd ?_⟩
      · rw [List.append_assoc, ← hl, List.take_append_drop]
      · have := hk s
        rw [List.length_drop]
        omega

theorem trimStart_spec (s : Text) : (∃ l, s = l ++ trimStart s) ∧ wsPrefix (trimStart s) = 0 :=
  have h := stripFuel_spec wsPrefix trimStartFuel wsPrefix_le (fun _ => rfl) (fun _ _ => rfl) s.length s
  ⟨h.1, h.2 (Nat.le_refl _)⟩

theorem wsSuffixRev_le (r : Text) : wsSuffixRev r ≤ r.length := by
  unfold wsSuffixRev
  split
  · simp
  · split
    · simp
    · split <;> (try split) <;> simp

theorem trimEnd_spec (s : Text) : (∃ r, s = trimEnd s ++ r) ∧ wsSuffixRev (trimEnd s).reverse = 0 := by
  unfold trimEnd
  obtain ⟨⟨l, hl⟩, hd⟩ :=
    stripFuel_spec wsSuffixRev trimEndRevFuel wsSuffixRev_le (fun _ => rfl) (fun _ _ => rfl) s.length s.reverse
  constructor
  · refine ⟨l.reverse, ?_⟩
    have := congrArg List.reverse hl
    simpa using this
  · rw [List.reverse_reverse]
    exact hd (by simp)

theorem trim_spec (s : Text) :
    (∃ l r, s = l ++ trim s ++ r) ∧ wsSuffixRev (trim s).reverse = 0 ∧
    (∃ r, trimStart s = trim s ++ r) ∧ wsPrefix (trimStart s) = 0 := by
  unfold trim
  obtain ⟨⟨l, hl⟩, h0⟩ := trimStart_spec s
  obtain ⟨⟨r, hr⟩, h1⟩ := trimEnd_spec (trimStart s)
  refine ⟨⟨l, r, ?_⟩, h1, ⟨r, hr⟩, h0⟩
  rw [List.append_assoc, ← hr, ← hl]

end Sqlgrep.Lit
