import SqlgrepModel.Model.ParseLit
/- `Lit.parseTimestampLit` (the Lean model of chrono's `parse_from_str(_, "%Y-%m-%d %H:%M:%S")`, which the evaluator
calls when no `tsparse` fact is shipped) answers a TIMESTAMP or nothing. -/
namespace Sqlgrep
namespace Lit
theorem parseTimestampLit_timestamp (s : Text) (v : Value) (h : parseTimestampLit s = some v) :
    ∃ d sec f, v = .timestamp d sec f := by
  unfold parseTimestampLit at h
  simp only [bind, Option.bind_eq_some_iff] at h
  -- trap: two `_` per bind of `parseTimestampLit` (its value, its equation; ten binds): an edit of the definition shifts `h` silently
  obtain ⟨_, _, _, _, _, _, _, _, _, _, _, _, _, _, _, _, _, _, _, _, h⟩ := h
  split at h
  · cases h
  · split at h
    · cases h
    · simp only [Option.some.injEq] at h
      exact ⟨_, _, _, h.symm⟩
end Lit
end Sqlgrep
