import SqlgrepModel.Lemmas.AggSummaryTable
import SqlgrepModel.Lemmas.AggPermSafe
import SqlgrepModel.Lemmas.AggSplitSummaries
import SqlgrepModel.Lemmas.AggBatchSpec
import SqlgrepModel.Lemmas.RealSums
import SqlgrepModel.Lemmas.ValueDecEq
/-
C15 — order-insensitive aggregates ignore line order and how the input is split.

Built on the C04 refinement: the engine's table for an input is the specification's table (`Spec/Agg.lean`), and in
the specification every cell is a function of its group's row list. Here:

  * `aggregate_multiset_function`  COUNT, COUNT(c), COUNT(DISTINCT c), SUM, AVG, STDDEV, VARIANCE, MIN, MAX,
        PERCENTILE, BOOL_AND, BOOL_OR are functions of the MULTISET of the group's argument values;
  * `agg_perm_invariant`           hence the specification's table is the same for every permutation of the rows;
  * `engine_perm_invariant`        and so is the table the engine shows (through the refinement);
  * `batch_run_ignores_line_order` and what the executed batch run `runBatch` prints for a file and any permutation of it;
  * `deviation_class_ignores_line_order` the known deviation classes of C04 (D10, D15) are a function of the multiset of the
        rows for these statements — so the theorems above ask for "outside D10 / D15" for ONE of the two inputs only;
  * `concat_*`                     the result over a concatenation is the key-wise combination of the parts: the groups
        are the union, a group's rows are its rows in part one followed by its rows in part two, counts and sums add,
        minima and maxima combine;
  * `agg_concat_merge` / `agg_concat_merge_all` the same at table level (all aggregates the property names: through keyed
        summaries); `agg_concat_merge_summaries`, `table_of_concat_is_merge_of_part_summaries` with the summaries NAMED:
        `partSummaries O q rᵢ` is what part i remembers, the summaries of `r₁ ++ r₂` are `mergeSummaries q S₁ S₂`, every
        table is `tableOfSummaries` of its summaries;
        WHAT IS MERGED ARE THE PARTS' SUMMARIES — per group and aggregate: count, sum, sum of squares, distinct set, sorted
        multiset, extreme — taken BEFORE HAVING, transforms, DISTINCT and LIMIT, not the parts' printed tables. With HAVING the
        parts' RESULT tables do not determine the whole (`… WHERE v > 0 GROUP BY k HAVING COUNT(*) > 1`: a group with one row in
        each part is printed by neither part and is in the result of the whole;
        `Props/PipelineLines.lean` `having_parts_do_not_determine_the_whole`, kernel-evaluated on the program model): the
        sentence's "key-wise combination of the results over each part" is proved at RESULT level for statements without HAVING /
        transforms made of COUNT, SUM(INT), MIN, MAX (`agg_concat_merge`) and at SUMMARY level for everything else;
  * which cuts are covered: the run-level theorems ask each part to be outside D10 (`= some (_, "")`); for statements with
        COUNT(*) every cut is (`deviation_class_empty_of_count_star`, `batch_run_of_split_all_cuts_of_count_star`); see the
        section "which cuts the split theorems cover";
  * `batch_run_of_split_is_merge_of_summaries`, `batch_run_of_concat_is_merge_of_summaries` at the level of the executed
        batch run: what `runBatch` prints for `l₁ ++ l₂` (one file, or the two files `[l₁, l₂]`) is the table of the merged
        per-part summaries (`Props/PipelineLines.lean` `split_input_is_merge_of_summaries` carries it to `runText`);
  * a complete instance at the end: GROUP BY with COUNT(*), SUM, AVG, VARIANCE, MIN, MAX, PERCENTILE, COUNT(DISTINCT), INT
        and REAL arguments, `SplitSafe` proved for every group key (`splitSafe_of_ints`, `splitSafeInputsB_sound`), every
        hypothesis discharged, summaries and tables evaluated by the kernel.

The hypotheses are stated, never hidden — and ONE of them the property does NOT grant:
  * `SumsOrderFree`, INT / INTERVAL clause (`intOk`): the partial sums stay within range in EVERY order. The sentence grants an
    exception for REAL sums only; for INT sums whose exact total fits while a partial sum in some order does not, the code
    (checked addition in arrival order) reports an overflow in one order and prints the total in another: that is the open
    finding **D71** (exhibited by the extreme-INT stream of `./check C15`), and every theorem below that takes `SumsOrderFree`
    (through `PermSafe` / `SplitSafe`) is about the inputs outside it. For REAL addends: `RealAddLaws` (`Lemmas/AggSumOf.lean`) — the model's `F64.add` satisfies
    `0.0 + y = y` and `x + y = y + x` on the addends and `(A + B) + C = A + (B + C)` on the partial sums of sub-multisets
    of the addends. That the REAL sum does not depend on the order, and that the sums of two parts add up to the sum of
    the whole, is PROVED from these laws; and the laws are PROVED (`Lemmas/RealSums.lean` `realAddLaws_of_exactSums`) for
    addends whose sums are exactly representable — `ExactSums rs`, decidable: every addend is a finite REAL other than
    `-0.0` and the exact sum of every sub-multiset of the addends is a REAL (`real_sum_order_free`, `concat_sum_adds_real`);
  * `ValuesExact` for MIN/MAX/PERCENTILE: equal in the value order ⇒ identical (no `0.0` next to `-0.0`; the harness
    excludes them too), since of equal extremes the first is shown;
  * group keys exact (implied by the specification answering: it declines array keys, `-0.0` and non-canonical NaN keys).

`F64.add` (`Model/FloatArith.lean`) is exact integer arithmetic on the bit pattern with correct rounding (compared with the
hardware on every case of every run), so IEEE addition's "the exact sum is returned when it is a REAL" is a theorem
(`F64.addX_exact`), `RealAddLaws` follows from `ExactSums`, and the kernel evaluates REAL sums (`decide +kernel`, examples at
the end). `ExactSums` is what the property's "sums exactly representable" grants; where a partial sum is rounded the order can
show in the last bit and the property says nothing. The law-based forms (`real_sum_order_free_of_laws`,
`concat_sum_adds_real_of_laws`) are what `SumsOrderFree` / `SplitSafe` need: they are stated with `RealAddLaws`, which
`ExactSums` implies (`sumsOrderFree_real_of_exactSums`).
-/
namespace Sqlgrep.Props.C15
open Sqlgrep Sqlgrep.Value Sqlgrep.Spec.Agg

/-- **each order-insensitive aggregate is a function of the multiset of its group's argument values.** -/
theorem aggregate_multiset_function (k : AggKind) {vs₁ vs₂ : List Value} (h : vs₁.Perm vs₂) (hk : orderInsensitive k = true)
    (hex : usesOrder k = true → ValuesExact (nonNull vs₁)) (hsum : usesSums k = true → SumsOrderFree (nonNull vs₁)) :
    aggregate k vs₁ = aggregate k vs₂ :=
  aggregate_perm k h hk hex hsum

/-- **`agg_perm_invariant`.** For every statement (any GROUP BY, WHERE, HAVING, DISTINCT, LIMIT, transforms) whose
aggregates are order-insensitive, and every two inputs that are permutations of each other, the specification's
result table is the same — under `PermSafe` (the hypotheses listed in the header, per group). -/
theorem agg_perm_invariant {O : Oracles} {q : AggStmt} {rows₁ rows₂ : List Env} (h : rows₁.Perm rows₂)
    (hsafe : ∀ keyed, keyedRows O q rows₁ = some keyed → PermSafe O q keyed) :
    table O q rows₁ = table O q rows₂ :=
  table_perm h hsafe

/-- the admitted rows of a permuted input are a permutation of the admitted rows (WHERE and the key are per row) -/
theorem keyed_rows_permute (O : Oracles) (q : AggStmt) {rows₁ rows₂ : List Env} (h : rows₁.Perm rows₂) :
    OptPerm (keyedRows O q rows₁) (keyedRows O q rows₂) := keyedRows_perm O q h

/-- **the known deviation classes of C04 (D10, D15) do not depend on line order** for the statements of C15: D15 looks at
the first value of ARRAY_AGG in a group (an order-sensitive aggregate, excluded here), D10 at whether some aggregate of a
group has an argument value at all / a non-NULL one — a property of the multiset of the group's rows. No hypothesis on
keys, values or sums. (With ARRAY_AGG it is false: `deviation_class_of_array_agg_depends_on_order` below.) -/
theorem deviation_class_ignores_line_order {O : Oracles} {q : AggStmt}
    (hOI : ∀ kind ∈ slotKinds q, orderInsensitive kind = true) {rows₁ rows₂ : List Env} (h : rows₁.Perm rows₂) :
    deviationClass O q rows₁ = deviationClass O q rows₂ :=
  deviationClass_perm hOI h

/-- **the engine's table ignores line order**: the engine run (every row through `execute_update`, then `execute_result`
+ LIMIT) over an input and over any permutation of it both succeed and show the same table, whenever the
specification fixes the outcome of the first and the first input is outside the known deviation classes of C04 (D10, D15)
— the permuted input is then outside them as well (`deviation_class_ignores_line_order`). -/
theorem engine_perm_invariant {O : Oracles} {q : AggStmt} (hwf : StmtWF q) {rows₁ rows₂ : List Env} (h : rows₁.Perm rows₂)
    (hsafe : ∀ keyed, keyedRows O q rows₁ = some keyed → PermSafe O q keyed)
    {t : List (List Value)} (hspec : table O q rows₁ = some t)
    (hc₁ : deviationClass O q rows₁ = "") :
    (aggRun O q rows₁ {}).bind (fun st => finalResult O q { agg := st }) =
      (aggRun O q rows₂ {}).bind (fun st => finalResult O q { agg := st }) := by
  have hc₂ : deviationClass O q rows₂ = "" := by rw [deviationClass_perm_of_safe h hsafe hspec]; exact hc₁
  rw [engine_refines_spec_total hwf rows₁ hspec hc₁]
  rw [engine_refines_spec_total hwf rows₂ (by rw [← table_perm h hsafe]; exact hspec) hc₂]

/-- **the executed batch run ignores line order** (`runBatch` = the `FileExecutor` loop the driver runs): for an aggregate
statement without join and two files whose lines are permutations of each other, the printed table and the line count
are the same — whenever the specification answers for the first file with an empty deviation class (C04) and `PermSafe`
holds for its admitted rows -/
theorem batch_run_ignores_line_order {O : Oracles} {qy : Query} {q : AggStmt} (hq : qy.stmt = .aggregate q) (hwf : StmtWF q)
    (hj : qy.join = none) (joined : List FileLine) {l₁ l₂ : List FileLine} (hp : l₁.Perm l₂)
    (hsafe : ∀ keyed, keyedRows O q (envsOf qy.table l₁) = some keyed → PermSafe O q keyed)
    {ro : RunOut} (h₁ : Spec.Agg.batch O qy q joined [l₁] = some (ro, "")) :
    runBatch O qy joined [l₁] none = runBatch O qy joined [l₂] none :=
  runBatch_perm_invariant hq hwf hj joined hp hsafe h₁

/-- the admitted rows of a concatenation are the admitted rows of the parts, in order -/
theorem concat_rows (O : Oracles) (q : AggStmt) (r₁ r₂ : List Env) {k₁ k₂ : List (List Value × Env)}
    (h₁ : keyedRows O q r₁ = some k₁) (h₂ : keyedRows O q r₂ = some k₂) :
    keyedRows O q (r₁ ++ r₂) = some (k₁ ++ k₂) := keyedRows_append O q r₁ r₂ h₁ h₂

/-- **the set of groups is the union** (and each key occurs once, ascending: `Props.C04.keys_ascending_each_once`) -/
theorem concat_groups_union {ks₁ ks₂ : List (List Value)} (hex : KeysExact (ks₁ ++ ks₂)) (k : List Value) :
    k ∈ distinctKeys (ks₁ ++ ks₂) ↔ k ∈ distinctKeys ks₁ ∨ k ∈ distinctKeys ks₂ := by
  have hex₁ : KeysExact ks₁ := fun a ha b hb => hex a (by simp [ha]) b (by simp [hb])
  have hex₂ : KeysExact ks₂ := fun a ha b hb => hex a (by simp [ha]) b (by simp [hb])
  rw [distinctKeys_mem_iff hex, distinctKeys_mem_iff hex₁, distinctKeys_mem_iff hex₂, List.mem_append]

/-- a group's rows in the concatenation: its rows in part one, then its rows in part two; likewise the argument values
of every aggregate — so every cell of the whole is a function of the two parts' groups -/
theorem concat_group_rows {O : Oracles} {q : AggStmt} (key : List Value) (k₁ k₂ : List (List Value × Env)) (kind : AggKind)
    {v₁ v₂ : List Value} (h₁ : arguments O q kind (rowsOfKey key k₁) = some v₁) (h₂ : arguments O q kind (rowsOfKey key k₂) = some v₂) :
    rowsOfKey key (k₁ ++ k₂) = rowsOfKey key k₁ ++ rowsOfKey key k₂ ∧
    arguments O q kind (rowsOfKey key (k₁ ++ k₂)) = some (v₁ ++ v₂) := by
  refine ⟨rowsOfKey_append key k₁ k₂, ?_⟩
  rw [rowsOfKey_append]
  exact arguments_append h₁ h₂

/-- **counts add**: COUNT(*) -/
theorem concat_count_star_adds (v₁ v₂ : List Value) :
    aggregate (.count none false) (v₁ ++ v₂) = some (.int (v₁.length + v₂.length)) := by
  simp [aggregate, List.length_append]

/-- **counts add**: COUNT(c) -/
theorem concat_count_adds (c : String) (v₁ v₂ : List Value) :
    aggregate (.count (some c) false) (v₁ ++ v₂) = some (.int ((nonNull v₁).length + (nonNull v₂).length)) := by
  simp [aggregate, nonNull_append, List.length_append]

/-- **sums add** (INT): NULL is neutral, otherwise the partial sums add — provided no partial sum of the whole
overflows (else the engine reports an error, which is outside the property) -/
theorem concat_sum_adds_int (e : Expr) (v₁ v₂ : List Value) (is₁ is₂ : List Int)
    (h₁ : nonNull v₁ = is₁.map Value.int) (h₂ : nonNull v₂ = is₂.map Value.int)
    (hok : partialSumsOk inI64 0 (is₁ ++ is₂) = true) :
    aggregate (.sum e) (v₁ ++ v₂) = some (mergeSum (intSumValue is₁) (intSumValue is₂)) := by
  simp only [aggregate, nonNull_append, h₁, h₂, ← List.map_append]
  rw [sumOf_ints _ hok, intSumValue_append]

/-- **sums add** (REAL), from the laws of the addition on the addends of both parts -/
theorem concat_sum_adds_real_of_laws (rs₁ rs₂ : List Nat) (hne : rs₂ ≠ []) (hlaws : RealAddLaws (rs₁ ++ rs₂)) :
    Value.real (realSum (rs₁ ++ rs₂)) = mergeSum (.real (realSum rs₁)) (.real (realSum rs₂)) := by
  simp only [mergeSum]
  rw [realSum_append_of_laws hlaws hne]

/-- **sums add** (REAL): when the sums of the addends of both parts are exactly representable (`ExactSums`), the sum of the
whole is the first part's sum plus the second part's sum -/
theorem concat_sum_adds_real (rs₁ rs₂ : List Nat) (hne : rs₂ ≠ []) (hex : ExactSums (rs₁ ++ rs₂)) :
    Value.real (realSum (rs₁ ++ rs₂)) = mergeSum (.real (realSum rs₁)) (.real (realSum rs₂)) :=
  concat_sum_adds_real_of_laws rs₁ rs₂ hne (realAddLaws_of_exactSums hex)

/-- **REAL sums ignore the order**, from the laws (zero neutral and commutativity on the addends, associativity on the
partial sums at hand). The proof walks through the swaps that generate the permutation; in front of two swapped addends
stands a partial sum of a sub-multiset, where the laws apply. -/
theorem real_sum_order_free_of_laws {rs l : List Nat} (hlaws : RealAddLaws rs) (hp : l.Perm rs) : realSum l = realSum rs :=
  realSum_perm_of_laws hlaws hp

/-- **REAL sums ignore the order**: when the sums of the addends are exactly representable (`ExactSums`: finite addends
other than `-0.0`, every sub-multiset sum a REAL), every order of adding them up — IEEE-754 addition, each step correctly
rounded — gives the same REAL, bit for bit -/
theorem real_sum_order_free {rs l : List Nat} (hex : ExactSums rs) (hp : l.Perm rs) : realSum l = realSum rs :=
  real_sum_order_free_of_laws (realAddLaws_of_exactSums hex) hp

/-- the REAL clauses of `SumsOrderFree` from `ExactSums` of the addends and of their squares -/
theorem sumsOrderFree_real_of_exactSums {rs : List Nat} (h : ExactSums rs) (hsq : ExactSums (rs.map (fun x => F64.mul x x))) :
    RealAddLaws rs ∧ RealAddLaws (rs.map (fun x => F64.mul x x)) :=
  ⟨realAddLaws_of_exactSums h, realAddLaws_of_exactSums hsq⟩

/-- the derivation itself, for ANY addition obeying the laws on the values at hand (so it can be instantiated) -/
theorem sum_order_free_of_laws {add : Nat → Nat → Nat} {z0 : Nat} {rs l : List Nat} (hlaws : AddLaws add z0 rs) (hp : l.Perm rs) :
    l.foldl add z0 = rs.foldl add z0 := fsum_perm_of_laws hlaws hp

/-- and the split, for any addition obeying the laws -/
theorem sum_split_of_laws {add : Nat → Nat → Nat} {z0 : Nat} {r₁ r₂ : List Nat} (hlaws : AddLaws add z0 (r₁ ++ r₂)) (hne : r₂ ≠ []) :
    (r₁ ++ r₂).foldl add z0 = add (r₁.foldl add z0) (r₂.foldl add z0) := fsum_append_of_laws hlaws hne

/-- **minima combine**: MIN of the whole is the lesser of the two parts' minima (the first part's on a tie) -/
theorem concat_min_combines (x : Value) (xs : List Value) (y : Value) (ys : List Value) :
    extreme true ((x :: xs) ++ (y :: ys)) =
      if Value.cmp (extreme true (y :: ys)) (extreme true (x :: xs)) == .lt then extreme true (y :: ys) else extreme true (x :: xs) := by
  have := extreme_append true x xs y ys
  simpa using this

/-- **maxima combine** -/
theorem concat_max_combines (x : Value) (xs : List Value) (y : Value) (ys : List Value) :
    extreme false ((x :: xs) ++ (y :: ys)) =
      if Value.cmp (extreme false (y :: ys)) (extreme false (x :: xs)) == .gt then extreme false (y :: ys) else extreme false (x :: xs) := by
  have := extreme_append false x xs y ys
  simpa using this

/-- **`agg_concat_merge`.** For every statement made of key columns, COUNT(*), COUNT(c), SUM over INT, MIN and MAX (any
GROUP BY, any WHERE; no arithmetic wrapper, HAVING, DISTINCT, LIMIT — `MergeableStmt`) and every two inputs `r₁`, `r₂`:
whenever the specification fixes the three tables, the table over `r₁ ++ r₂` is the key-wise combination `mergeKeyed`
of the tables over `r₁` and `r₂` — the set of groups is the union (ascending, each once), a group present in both
parts combines cell by cell (`mergeCell`: counts and sums add with NULL neutral, minima and maxima combine with NULL
neutral, key columns stay), a group present in one part keeps its row. Without HAVING the parts' RESULT tables are their
summaries, which is why this result-level form exists for these statements only (see `having_parts_do_not_determine_the_whole`).
Tables are taken with the group key attached, and the keyed tables are NAMED: `Tᵢ` is `keyedTable O q kᵢ` — the
specification's rows of part i, each labelled with ITS group's key, `kᵢ` the admitted rows of part i — and `T` that of
`k₁ ++ k₂`; `T.map (·.2)`, `Tᵢ.map (·.2)` are the tables themselves. (The label matters when the key is not in the select
list: rows of different groups need not be distinguishable by their cells.) `hint` = the SUM arguments are INT (for REAL
the property's exactness proviso would be needed: see `concat_sum_adds_real`). -/
theorem agg_concat_merge {O : Oracles} {q : AggStmt} (hm : MergeableStmt q) (r₁ r₂ : List Env) {t t₁ t₂ : List (List Value)}
    (h : table O q (r₁ ++ r₂) = some t) (h₁ : table O q r₁ = some t₁) (h₂ : table O q r₂ = some t₂)
    (hint : ∀ k₁ k₂, keyedRows O q r₁ = some k₁ → keyedRows O q r₂ = some k₂ →
      ∀ k, ∀ item ∈ q.items, ∀ e v1 v2, item.kind = .sum e → arguments O q item.kind (rowsOfKey k k₁) = some v1 →
        arguments O q item.kind (rowsOfKey k k₂) = some v2 → (ints (nonNull v1)).isSome ∧ (ints (nonNull v2)).isSome) :
    ∃ k₁ k₂ T T₁ T₂, keyedRows O q r₁ = some k₁ ∧ keyedRows O q r₂ = some k₂ ∧ keyedRows O q (r₁ ++ r₂) = some (k₁ ++ k₂) ∧
      keyedTable O q (k₁ ++ k₂) = some T ∧ keyedTable O q k₁ = some T₁ ∧ keyedTable O q k₂ = some T₂ ∧
      t = T.map (·.2) ∧ t₁ = T₁.map (·.2) ∧ t₂ = T₂.map (·.2) ∧ T = mergeKeyed q T₁ T₂ := by
  exact table_concat_merge_keyed hm r₁ r₂ h h₁ h₂ hint

/-- **`agg_concat_merge` for all the aggregates the property names.** For every statement whose aggregates are COUNT(*),
COUNT(c), COUNT(DISTINCT c), SUM, AVG, STDDEV, VARIANCE, MIN, MAX, PERCENTILE, BOOL_AND, BOOL_OR — any GROUP BY, WHERE,
HAVING (incl. hidden aggregates), arithmetic wrappers, DISTINCT, LIMIT — and every two inputs: the tables over `r₁`, `r₂`
and `r₁ ++ r₂` are `tableOfSummaries` of keyed summaries `S₁`, `S₂` and of their key-wise combination: the groups are the
union; in a group present in both parts (`combine`) counts add, the sets of distinct values unite, sums and sums of
squares add with NULL neutral (AVG / STDDEV / VARIANCE through their (sum, sum of squares, count) components), minima and
maxima combine, conjunctions / disjunctions combine, PERCENTILE's sorted multisets merge; a group present in one part
keeps its summaries. Provisos (`SplitSafe`, per group): for REAL addends (and their squares) `RealAddLaws` on the addends
of both parts together — implied by `ExactSums` of those addends, see the header; vacuous for non-REAL sums; PERCENTILE values
are exact (no `0.0` next to `-0.0`). `StmtWF` holds for every lowered
statement (`Props.Pipeline.lowered_aggregate_is_wellformed`).
NOTE what is combined: `S₁`, `S₂` are the parts' keyed SUMMARIES — one per group that has a row passing WHERE, BEFORE HAVING,
transforms, DISTINCT, LIMIT — not the parts' result tables `t₁`, `t₂`; `tableOfSummaries` applies HAVING etc. afterwards. With
HAVING (or LIMIT / DISTINCT) `t₁` and `t₂` do NOT determine `t`: a group that fails HAVING in both parts can pass it in the whole
(`Props/PipelineLines.lean` `having_parts_do_not_determine_the_whole`). The result-level statement is `agg_concat_merge`. -/
theorem agg_concat_merge_all {O : Oracles} {q : AggStmt} (hwf : StmtWF q)
    (hOI : ∀ kind ∈ slotKinds q, orderInsensitive kind = true) (r₁ r₂ : List Env) {t t₁ t₂ : List (List Value)}
    (h : table O q (r₁ ++ r₂) = some t) (h₁ : table O q r₁ = some t₁) (h₂ : table O q r₂ = some t₂)
    (hsafe : ∀ k₁ k₂, keyedRows O q r₁ = some k₁ → keyedRows O q r₂ = some k₂ →
      ∀ k, SplitSafe O q (rowsOfKey k k₁) (rowsOfKey k k₂)) :
    ∃ S₁ S₂, tableOfSummaries O q S₁ = some t₁ ∧ tableOfSummaries O q S₂ = some t₂ ∧
      tableOfSummaries O q (mergeG (combineS (slotList q)) S₁ S₂) = some t :=
  table_concat_merge_all hwf hOI r₁ r₂ h h₁ h₂ hsafe

/-- **`agg_concat_merge_all` with the summaries NAMED.** Same statements, inputs and provisos. `partSummaries O q r`
(`Lemmas/AggSplitSummaries.lean`) = `keyedSummaries` of the rows of `r` that pass WHERE: what a part has to remember — per
group, one summary per aggregate. Then: the admitted rows of `r₁ ++ r₂` are those of `r₁` followed by those of `r₂`; the
keyed summaries of the whole ARE the key-wise combination `mergeSummaries q S₁ S₂` (= `mergeG (combineS (slotList q)) S₁ S₂`)
of the parts' keyed summaries `S₁`, `S₂`; and the three tables are `tableOfSummaries` of `S₁`, `S₂` and of the combination.
The three `= some` hypotheses stay: the table of the whole can exist while a part's does not (an INT partial sum of the
second part alone may leave the range although, after the first part's sum, none does) and the other way round. -/
theorem agg_concat_merge_summaries {O : Oracles} {q : AggStmt} (hwf : StmtWF q)
    (hOI : ∀ kind ∈ slotKinds q, orderInsensitive kind = true) (r₁ r₂ : List Env) {t t₁ t₂ : List (List Value)}
    (h : table O q (r₁ ++ r₂) = some t) (h₁ : table O q r₁ = some t₁) (h₂ : table O q r₂ = some t₂)
    (hsafe : ∀ k₁ k₂, keyedRows O q r₁ = some k₁ → keyedRows O q r₂ = some k₂ →
      ∀ k, SplitSafe O q (rowsOfKey k k₁) (rowsOfKey k k₂)) :
    ∃ k₁ k₂ S₁ S₂, keyedRows O q r₁ = some k₁ ∧ keyedRows O q r₂ = some k₂ ∧ keyedRows O q (r₁ ++ r₂) = some (k₁ ++ k₂) ∧
      keyedSummaries O q k₁ = some S₁ ∧ keyedSummaries O q k₂ = some S₂ ∧
      keyedSummaries O q (k₁ ++ k₂) = some (mergeSummaries q S₁ S₂) ∧
      tableOfSummaries O q S₁ = some t₁ ∧ tableOfSummaries O q S₂ = some t₂ ∧
      tableOfSummaries O q (mergeSummaries q S₁ S₂) = some t :=
  table_concat_merge_summaries hwf hOI r₁ r₂ h h₁ h₂ hsafe

/-- … and without `∃`, as equations between functions of the inputs: the summaries of the whole are the merged summaries
of the parts, and every one of the three tables is `tableOfSummaries` of its summaries — so the table over `r₁ ++ r₂` is
determined by `partSummaries O q r₁` and `partSummaries O q r₂`: the SUMMARIES of the rows passing WHERE, taken BEFORE HAVING /
transforms / DISTINCT / LIMIT. It is NOT determined by the parts' tables `table O q rᵢ` when the statement has HAVING: on
`… WHERE v > 0 GROUP BY k HAVING COUNT(*) > 1` with a group that has one row in each part both part tables omit the group and the
whole shows it; all hypotheses of this theorem hold there (`Props/PipelineLines.lean` `having_parts_do_not_determine_the_whole`) -/
theorem table_of_concat_is_merge_of_part_summaries {O : Oracles} {q : AggStmt} (hwf : StmtWF q)
    (hOI : ∀ kind ∈ slotKinds q, orderInsensitive kind = true) (r₁ r₂ : List Env) {t t₁ t₂ : List (List Value)}
    (h : table O q (r₁ ++ r₂) = some t) (h₁ : table O q r₁ = some t₁) (h₂ : table O q r₂ = some t₂)
    (hsafe : ∀ k₁ k₂, keyedRows O q r₁ = some k₁ → keyedRows O q r₂ = some k₂ →
      ∀ k, SplitSafe O q (rowsOfKey k k₁) (rowsOfKey k k₂)) :
    partSummaries O q (r₁ ++ r₂) =
      (partSummaries O q r₁).bind (fun S₁ => (partSummaries O q r₂).map (fun S₂ => mergeSummaries q S₁ S₂)) ∧
    table O q r₁ = (partSummaries O q r₁).bind (tableOfSummaries O q) ∧
    table O q r₂ = (partSummaries O q r₂).bind (tableOfSummaries O q) ∧
    table O q (r₁ ++ r₂) = (partSummaries O q (r₁ ++ r₂)).bind (tableOfSummaries O q) :=
  partSummaries_concat hwf hOI r₁ r₂ h h₁ h₂ hsafe

/-- **the executed batch run over a split input** (`runBatch` = the `FileExecutor` loop the driver runs; carried there
through the C04 refinement `batch_refines_spec_nojoin`). For an aggregate statement without join whose aggregates are
order-insensitive, and file lists `f`, `f₁`, `f₂` such that the lines of `f` are the lines of `f₁` followed by the lines of `f₂`
(one file cut in two, a list of files cut in two, …): whenever the specification answers for the three inputs — with an
empty deviation class (C04: D10, D15) for the two parts; its class `cls` for the whole is then empty as well,
`specBatch_concat_class` — and `SplitSafe` holds per group, there are — explicitly: `Sᵢ = partSummaries` of the
rows of part i — keyed summaries `S₁`, `S₂` such that `runBatch` over part i prints `tableOfSummaries O q Sᵢ` and counts the
part's lines, and `runBatch` over the whole prints `tableOfSummaries O q (mergeSummaries q S₁ S₂)` and counts all lines
(`tableOut q t n` = the table `t` under the statement's column names printed once, `n` lines, no error).
Two things to read carefully. (1) Merged are the parts' SUMMARIES before HAVING, not what the part runs print (with HAVING the
printed tables do not determine the whole). (2) `h₁`, `h₂` with the class `""` EXCLUDE every cut that leaves a group without a
value entry (D10's shape) in a part — all cuts of `SELECT k … GROUP BY k`, and cuts after which a part has a group whose COUNT(c) /
COUNT(DISTINCT c) / PERCENTILE / BOOL_AND / BOOL_OR arguments are all NULL when the statement has no other aggregate. For
statements with COUNT(*) no cut is excluded: `batch_run_of_split_all_cuts_of_count_star`. -/
theorem batch_run_of_split_is_merge_of_summaries {O : Oracles} {qy : Query} {q : AggStmt} (hq : qy.stmt = .aggregate q)
    (hwf : StmtWF q) (hj : qy.join = none) (hOI : ∀ kind ∈ slotKinds q, orderInsensitive kind = true) (joined : List FileLine)
    {f f₁ f₂ : List (List FileLine)} (hf : f.flatten = f₁.flatten ++ f₂.flatten) {ro ro₁ ro₂ : RunOut} {cls : String}
    (h : Spec.Agg.batch O qy q joined f = some (ro, cls)) (h₁ : Spec.Agg.batch O qy q joined f₁ = some (ro₁, ""))
    (h₂ : Spec.Agg.batch O qy q joined f₂ = some (ro₂, ""))
    (hsafe : ∀ k₁ k₂, keyedRows O q (envsOf qy.table f₁.flatten) = some k₁ → keyedRows O q (envsOf qy.table f₂.flatten) = some k₂ →
      ∀ k, SplitSafe O q (rowsOfKey k k₁) (rowsOfKey k k₂)) :
    ∃ S₁ S₂ t₁ t₂ t,
      partSummaries O q (envsOf qy.table f₁.flatten) = some S₁ ∧ partSummaries O q (envsOf qy.table f₂.flatten) = some S₂ ∧
      tableOfSummaries O q S₁ = some t₁ ∧ tableOfSummaries O q S₂ = some t₂ ∧
      tableOfSummaries O q (mergeSummaries q S₁ S₂) = some t ∧
      runBatch O qy joined f₁ none = tableOut q t₁ f₁.flatten.length ∧
      runBatch O qy joined f₂ none = tableOut q t₂ f₂.flatten.length ∧
      runBatch O qy joined f none = tableOut q t (f₁.flatten.length + f₂.flatten.length) :=
  runBatch_concat_merge_summaries hq hwf hj hOI joined hf h h₁ h₂ hsafe

/-- **the deviation class of a concatenation is empty when the classes of both parts are** (and the table of the whole
exists): a group of the whole has rows in some part and is visible (D10) there; an aggregate that creates an entry for a part of
a group creates one for the whole group. Hence the split theorems ask "outside D10 / D15" of the PARTS only. The converse fails
(example at the end: a group invisible in one part, visible in the whole). -/
theorem deviation_class_of_concat {O : Oracles} {q : AggStmt} (hwf : StmtWF q)
    (hOI : ∀ kind ∈ slotKinds q, orderInsensitive kind = true) {r₁ r₂ : List Env} {t : List (List Value)}
    (h : table O q (r₁ ++ r₂) = some t) {k₁ k₂ : List (List Value × Env)}
    (hk₁ : keyedRows O q r₁ = some k₁) (hk₂ : keyedRows O q r₂ = some k₂)
    (hc₁ : deviationClass O q r₁ = "") (hc₂ : deviationClass O q r₂ = "") : deviationClass O q (r₁ ++ r₂) = "" :=
  deviationClass_concat hwf hOI h hk₁ hk₂ hc₁ hc₂

/-! ### which cuts the split theorems cover, and statements for which EVERY cut is covered (COUNT(*) present)

The split theorems at run level (`batch_run_of_split_is_merge_of_summaries`, `batch_run_of_concat_is_merge_of_summaries`,
`Props/PipelineLines.lean` `split_input_is_merge_of_summaries`) ask the specification's answer for each PART to carry the empty
deviation class: `Spec.Agg.batch … fᵢ = some (_, "")`. That EXCLUDES every cut that leaves, in one of the two parts, a group in
which no aggregate of the statement creates an entry (the shape of finding D10: `SELECT k … GROUP BY k` with key columns only —
every cut; a statement whose only aggregates are COUNT(c) / COUNT(DISTINCT c) / PERCENTILE / BOOL_AND / BOOL_OR over a column
that is NULL on all rows of some group of a part — even when the whole input has non-NULL values for that group, see the example
at the end: the converse of `deviation_class_of_concat` fails). There the MODEL of a part run (which mirrors D10) differs from the
specification's table of that part, so nothing is claimed about the part's run, although the program treats such cuts
consistently. (D15 cannot arise: the statements of C15 have no ARRAY_AGG, `arrayAggFirstNull_false`.)

For a statement with `COUNT(*)` in the select list or in HAVING no such group exists — COUNT(*) creates an entry for every group
that has a row (`deviation_class_empty_of_count_star`) — so for these statements the split theorems hold for ALL CUT POINTS, with no
hypothesis on the classes (`batch_run_of_split_all_cuts_of_count_star`). -/

/-- **no input falls into D10 / D15 for an order-insensitive statement with COUNT(*)** (in the select list or in HAVING): the
deviation class is empty for every list of rows — no hypothesis on the rows, the keys or the values. COUNT(*) creates an entry
for every group that has a row (`groupVisible_of_countStar`), and without ARRAY_AGG nothing is refused. -/
theorem deviation_class_empty_of_count_star {O : Oracles} {q : AggStmt}
    (hOI : ∀ kind ∈ slotKinds q, orderInsensitive kind = true) (hc : AggKind.count none false ∈ slotKinds q)
    (envs : List Env) : deviationClass O q envs = "" := deviationClass_empty_of_countStar hOI hc envs

/-- **all cut points, for statements with COUNT(*)** (`batch_run_of_split_is_merge_of_summaries` without the hypothesis on
the parts' classes): for an aggregate statement without join whose aggregates are order-insensitive and which has COUNT(*) in
its select list or in HAVING, and file lists with `f.flatten = f₁.flatten ++ f₂.flatten` — ANY cut —: whenever the
specification answers for the three inputs (whatever classes `cls`, `c₁`, `c₂` it reports: they are empty) and `SplitSafe` holds
per group, `runBatch` over part i prints the table of `Sᵢ = partSummaries` of part i and `runBatch` over the whole prints the
table of `mergeSummaries q S₁ S₂`, every line counted. -/
theorem batch_run_of_split_all_cuts_of_count_star {O : Oracles} {qy : Query} {q : AggStmt} (hq : qy.stmt = .aggregate q)
    (hwf : StmtWF q) (hj : qy.join = none) (hOI : ∀ kind ∈ slotKinds q, orderInsensitive kind = true)
    (hc : AggKind.count none false ∈ slotKinds q) (joined : List FileLine)
    {f f₁ f₂ : List (List FileLine)} (hf : f.flatten = f₁.flatten ++ f₂.flatten) {ro ro₁ ro₂ : RunOut} {cls c₁ c₂ : String}
    (h : Spec.Agg.batch O qy q joined f = some (ro, cls)) (h₁ : Spec.Agg.batch O qy q joined f₁ = some (ro₁, c₁))
    (h₂ : Spec.Agg.batch O qy q joined f₂ = some (ro₂, c₂))
    (hsafe : ∀ k₁ k₂, keyedRows O q (envsOf qy.table f₁.flatten) = some k₁ → keyedRows O q (envsOf qy.table f₂.flatten) = some k₂ →
      ∀ k, SplitSafe O q (rowsOfKey k k₁) (rowsOfKey k k₂)) :
    c₁ = "" ∧ c₂ = "" ∧ cls = "" ∧
    ∃ S₁ S₂ t₁ t₂ t,
      partSummaries O q (envsOf qy.table f₁.flatten) = some S₁ ∧ partSummaries O q (envsOf qy.table f₂.flatten) = some S₂ ∧
      tableOfSummaries O q S₁ = some t₁ ∧ tableOfSummaries O q S₂ = some t₂ ∧
      tableOfSummaries O q (mergeSummaries q S₁ S₂) = some t ∧
      runBatch O qy joined f₁ none = tableOut q t₁ f₁.flatten.length ∧
      runBatch O qy joined f₂ none = tableOut q t₂ f₂.flatten.length ∧
      runBatch O qy joined f none = tableOut q t (f₁.flatten.length + f₂.flatten.length) := by
  have e₁ : c₁ = "" := specBatch_class_of_countStar hj hOI hc h₁
  have e₂ : c₂ = "" := specBatch_class_of_countStar hj hOI hc h₂
  have e : cls = "" := specBatch_class_of_countStar hj hOI hc h
  subst e₁; subst e₂
  exact ⟨rfl, rfl, e, runBatch_concat_merge_summaries hq hwf hj hOI joined hf h h₁ h₂ hsafe⟩

/-- what a batch run answers for keyed summaries `S` and `n` lines read: their table printed once (`none`: HAVING or a
transform has no value on the finished summaries) -/
def outOfSummaries (O : Oracles) (q : AggStmt) (n : Nat) (S : List (List Value × List Summary)) : Option RunOut :=
  (tableOfSummaries O q S).map (fun t => tableOut q t n)

/-- **`batch_run_of_concat_is_merge_of_summaries`** — the same for two line lists, without `∃`: what `runBatch` answers for
the one file `l₁ ++ l₂` is `outOfSummaries` of the merged `partSummaries` of `l₁` and of `l₂`; for the two files `[l₁, l₂]` it
answers the same; and for each part alone it answers `outOfSummaries` of that part's `partSummaries`. So the output over
`l₁ ++ l₂` is a function of the two per-part summaries (and the two line counts). -/
theorem batch_run_of_concat_is_merge_of_summaries {O : Oracles} {qy : Query} {q : AggStmt} (hq : qy.stmt = .aggregate q)
    (hwf : StmtWF q) (hj : qy.join = none) (hOI : ∀ kind ∈ slotKinds q, orderInsensitive kind = true) (joined : List FileLine)
    (l₁ l₂ : List FileLine) {ro ro₁ ro₂ : RunOut} {cls : String}
    (h : Spec.Agg.batch O qy q joined [l₁ ++ l₂] = some (ro, cls)) (h₁ : Spec.Agg.batch O qy q joined [l₁] = some (ro₁, ""))
    (h₂ : Spec.Agg.batch O qy q joined [l₂] = some (ro₂, ""))
    (hsafe : ∀ k₁ k₂, keyedRows O q (envsOf qy.table l₁) = some k₁ → keyedRows O q (envsOf qy.table l₂) = some k₂ →
      ∀ k, SplitSafe O q (rowsOfKey k k₁) (rowsOfKey k k₂)) :
    some (runBatch O qy joined [l₁ ++ l₂] none) =
      ((partSummaries O q (envsOf qy.table l₁)).bind (fun S₁ =>
        (partSummaries O q (envsOf qy.table l₂)).map (fun S₂ => mergeSummaries q S₁ S₂))).bind
          (outOfSummaries O q (l₁.length + l₂.length)) ∧
    runBatch O qy joined [l₁, l₂] none = runBatch O qy joined [l₁ ++ l₂] none ∧
    some (runBatch O qy joined [l₁] none) = (partSummaries O q (envsOf qy.table l₁)).bind (outOfSummaries O q l₁.length) ∧
    some (runBatch O qy joined [l₂] none) = (partSummaries O q (envsOf qy.table l₂)).bind (outOfSummaries O q l₂.length) := by
  have hf : [l₁ ++ l₂].flatten = [l₁].flatten ++ [l₂].flatten := by simp
  have hcls := specBatch_concat_class hwf hj hOI joined hf h h₁ h₂
  subst hcls
  obtain ⟨S₁, S₂, t₁, t₂, t, hS₁, hS₂, hT₁, hT₂, hT, e₁, e₂, e⟩ :=
    runBatch_concat_merge_summaries hq hwf hj hOI joined hf h h₁ h₂ (by simpa using hsafe)
  simp only [List.flatten_cons, List.flatten_nil, List.append_nil] at hS₁ hS₂ e₁ e₂ e
  have h' : Spec.Agg.batch O qy q joined [l₁, l₂] = some (ro, "") := by
    rw [batch_flatten_congr O qy q joined (f := [l₁, l₂]) (g := [l₁ ++ l₂]) (by simp)]; exact h
  refine ⟨?_, ?_, ?_, ?_⟩
  · simp only [hS₁, hS₂, Option.bind_some, Option.map_some, outOfSummaries, hT, e]
  · rw [batch_refines_spec_nojoin hq hwf hj joined _ h', batch_refines_spec_nojoin hq hwf hj joined _ h]
  · simp only [hS₁, Option.bind_some, outOfSummaries, hT₁, Option.map_some, e₁]
  · simp only [hS₂, Option.bind_some, outOfSummaries, hT₂, Option.map_some, e₂]

/-- every order-insensitive aggregate is the `finishSummary` of its part-wise summary … -/
theorem aggregate_is_finished_summary (k : AggKind) (hk : orderInsensitive k = true) (vs : List Value) :
    aggregate k vs = (summarize k vs).bind (finishSummary k) := aggregate_eq_finish k hk vs

/-- … and the summary of a concatenation is the combination of the summaries (monoid homomorphism per aggregate) -/
theorem summary_of_concat (k : AggKind) (v₁ v₂ : List Value) {s s₁ s₂ : Summary}
    (h : summarize k (v₁ ++ v₂) = some s) (h₁ : summarize k v₁ = some s₁) (h₂ : summarize k v₂ = some s₂)
    (hsplit : usesSums k = true → SplitExact (nonNull v₁) (nonNull v₂))
    (hex : (∃ e p, k = .percentile e p) → ValuesExact (nonNull (v₁ ++ v₂))) :
    s = combine k s₁ s₂ := summarize_append k v₁ v₂ h h₁ h₂ hsplit hex

/-- per aggregate: the value over the concatenation of two argument lists is the combination of the values over the parts -/
theorem aggregate_concat_merges (k : AggKind) (hk : mergeable k = true) (v₁ v₂ : List Value) {a b r : Value}
    (h₁ : aggregate k v₁ = some a) (h₂ : aggregate k v₂ = some b) (h : aggregate k (v₁ ++ v₂) = some r)
    (hint : ∀ e, k = .sum e → (ints (nonNull v₁)).isSome ∧ (ints (nonNull v₂)).isSome) :
    r = mergeCell k a b := aggregate_merge k hk v₁ v₂ h₁ h₂ h hint

/-- the ingredients on their own (any statement): for inputs `r₁`, `r₂` with admitted rows `k₁`, `k₂`: the admitted rows of
`r₁ ++ r₂` are `k₁ ++ k₂`; a key is a group of the whole iff it is a group of a part; and the rows of each group are
the concatenation of its rows in the parts. -/
theorem concat_ingredients (O : Oracles) (q : AggStmt) (r₁ r₂ : List Env) {k₁ k₂ : List (List Value × Env)}
    (h₁ : keyedRows O q r₁ = some k₁) (h₂ : keyedRows O q r₂ = some k₂)
    (hex : KeysExact ((k₁ ++ k₂).map (·.1))) :
    keyedRows O q (r₁ ++ r₂) = some (k₁ ++ k₂) ∧
    (∀ k, k ∈ distinctKeys ((k₁ ++ k₂).map (·.1)) ↔ k ∈ distinctKeys (k₁.map (·.1)) ∨ k ∈ distinctKeys (k₂.map (·.1))) ∧
    (∀ k, rowsOfKey k (k₁ ++ k₂) = rowsOfKey k k₁ ++ rowsOfKey k k₂) := by
  refine ⟨keyedRows_append O q r₁ r₂ h₁ h₂, ?_, fun k => rowsOfKey_append k k₁ k₂⟩
  intro k
  rw [List.map_append] at hex ⊢
  exact concat_groups_union hex k

/-- the hypotheses of `aggregate_multiset_function` hold for SUM over `[3, NULL, -1]` and its reversal -/
example : aggregate (.sum (.column "v")) [.int 3, .null, .int (-1)] = aggregate (.sum (.column "v")) [.int (-1), .null, .int 3] := rfl
/-- MIN of TEXT values in two orders -/
example : aggregate (.min (.column "k")) [.text [98], .text [97], .text [99]] = aggregate (.min (.column "k")) [.text [99], .text [98], .text [97]] := rfl
/-- counts of a split add up -/
example : aggregate (.count none false) ([.null, .int 1] ++ [.int 2]) = some (.int (2 + 1)) := rfl

/-- `ValuesExact` holds for INT values (hypothesis of the MIN/MAX/PERCENTILE case) -/
example : ValuesExact [.int 3, .int 1, .int 2] := by
  intro a ha b hb h
  have hs : ∀ x ∈ [Value.int 3, .int 1, .int 2], simpleValue x = true := by
    intro x hx; simp at hx; rcases hx with rfl | rfl | rfl <;> rfl
  exact cmp_eq_of_simple (hs a ha) (hs b hb) h
/-- `SELECT COUNT(*) FROM t` -/
def exCount : AggStmt :=
  { items := [{ name := "count0", kind := .count none false, transform := none }], filter := none, groupBy := none,
    having := none, havingAggs := [], havingKeys := [], havingVisit := [], limit := none, distinct := false }

/-- `PermSafe` holds for `SELECT COUNT(*)` on any rows (COUNT needs neither exact values nor sums) -/
example (O : Oracles) (keyed : List (List Value × Env)) : PermSafe O exCount keyed := by
  refine ⟨?_, ?_⟩
  · intro kind hk; simp [slotKinds, exCount] at hk; subst hk; rfl
  · intro k kind vs hk _; simp [slotKinds, exCount] at hk; subst hk; exact ⟨by simp [usesOrder], by simp [usesSums]⟩

/-- `SELECT k, COUNT(*), SUM(v), AVG(v), VARIANCE(v), MIN(v), MAX(v) FROM t GROUP BY k` -/
def exSumMin : AggStmt :=
  { items := [{ name := "k", kind := .groupKey (.column "k") "k", transform := none },
              { name := "count1", kind := .count none false, transform := none },
              { name := "sum2", kind := .sum (.column "v"), transform := none },
              { name := "avg3", kind := .avg (.column "v"), transform := none },
              { name := "variance4", kind := .stddev (.column "v") true, transform := none },
              { name := "min5", kind := .min (.column "v"), transform := none },
              { name := "max6", kind := .max (.column "v"), transform := none }],
    filter := none, groupBy := some [(.column "k", "k")], having := none, havingAggs := [], havingKeys := [],
    havingVisit := [], limit := none, distinct := false }
/-- the same select list with `PERCENTILE(v, 0.5)` (bit pattern of 0.5) -/
def exPct : AggStmt :=
  { exSumMin with items := exSumMin.items ++ [{ name := "percentile7", kind := .percentile (.column "v") 0x3fe0000000000000, transform := none }] }
def rowKV (k : Nat) (v : Value) : Env := { table := [("k", .text [k]), ("v", v)] }
/-- rows (a, 3), (b, 7), (a, NULL), (a, -1), (b, 2) -/
def exRows : List Env := [rowKV 97 (.int 3), rowKV 98 (.int 7), rowKV 97 .null, rowKV 97 (.int (-1)), rowKV 98 (.int 2)]
def exKeyed : List (List Value × Env) :=
  [([.text [97]], rowKV 97 (.int 3)), ([.text [98]], rowKV 98 (.int 7)), ([.text [97]], rowKV 97 .null),
   ([.text [97]], rowKV 97 (.int (-1))), ([.text [98]], rowKV 98 (.int 2))]

example : keyedRows {} exSumMin exRows = some exKeyed := rfl
example : keyedRows {} exPct exRows = some exKeyed := rfl

/-- **`PermSafe` holds for a statement with SUM, AVG, VARIANCE, MIN and MAX** on these rows (every hypothesis of
`agg_perm_invariant` discharged: INT arguments, no partial sum near the 64-bit range in any order) -/
example : PermSafe {} exSumMin exKeyed :=
  permSafe_of_small_ints (by decide +kernel) (by decide +kernel) (by decide +kernel)
/-- … and for the statement with PERCENTILE as well -/
theorem exPct_permSafe : PermSafe {} exPct exKeyed :=
  permSafe_of_small_ints (by decide +kernel) (by decide +kernel) (by decide +kernel)
example : PermSafe {} exPct exKeyed := exPct_permSafe
/-- so the conclusion of `agg_perm_invariant` applies to every permutation of these rows (VARIANCE and PERCENTILE go
through `F64` operations the kernel cannot evaluate; the INT columns of the table are evaluated in the next example) -/
example (rows₂ : List Env) (h : exRows.Perm rows₂) : table {} exPct exRows = table {} exPct rows₂ :=
  agg_perm_invariant h (fun keyed hk => by
    have : keyed = exKeyed := by
      have h0 : keyedRows {} exPct exRows = some exKeyed := rfl
      rw [h0] at hk; exact (Option.some.inj hk).symm
    subst this
    exact exPct_permSafe)
/-- the table of `SELECT k, COUNT(*), SUM(v), MIN(v), MAX(v) … GROUP BY k` on these rows and on their reversal, evaluated -/
def exSumMinInt : AggStmt :=
  { exSumMin with items := [exSumMin.items[0]!, exSumMin.items[1]!, exSumMin.items[2]!, exSumMin.items[5]!, exSumMin.items[6]!] }
example : table {} exSumMinInt exRows = some [[.text [97], .int 3, .int 2, .int (-1), .int 3], [.text [98], .int 2, .int 9, .int 2, .int 7]] ∧
    table {} exSumMinInt exRows.reverse = table {} exSumMinInt exRows := by decide +kernel

/-- `SELECT ARRAY_AGG(v) FROM t` -/
def exArr : AggStmt :=
  { items := [{ name := "array_agg0", kind := .arrayAgg (.column "v"), transform := none }], filter := none, groupBy := none,
    having := none, havingAggs := [], havingKeys := [], havingVisit := [], limit := none, distinct := false }
/-- **why `deviation_class_ignores_line_order` excludes ARRAY_AGG**: for `SELECT ARRAY_AGG(v)` the rows (NULL, 1) fall into
D15 (the first value is NULL) and the same rows in the order (1, NULL) do not -/
theorem deviation_class_of_array_agg_depends_on_order :
    [rowKV 97 .null, rowKV 97 (.int 1)].Perm [rowKV 97 (.int 1), rowKV 97 .null] ∧
    deviationClass {} exArr [rowKV 97 .null, rowKV 97 (.int 1)] = "D15:array_agg-first-value-null" ∧
    deviationClass {} exArr [rowKV 97 (.int 1), rowKV 97 .null] = "" :=
  ⟨List.Perm.swap _ _ _, by decide +kernel, by decide +kernel⟩
/-- the deviation class of the example rows (`SELECT k, COUNT(*), SUM(v), … GROUP BY k`) is empty, and so it is for every
permutation of them -/
example (rows₂ : List Env) (h : exRows.Perm rows₂) : deviationClass {} exPct rows₂ = "" := by
  rw [← deviation_class_ignores_line_order (by decide) h]; decide +kernel

/-- the hypotheses of the input split (`SplitSafe` of `agg_concat_merge_all`) hold for INT arguments -/
example (v₁ v₂ : List Value) (h₁ : ∀ v ∈ nonNull v₁, ∃ i, v = .int i) (h₂ : ∀ v ∈ nonNull v₂, ∃ i, v = .int i) :
    SplitExact (nonNull v₁) (nonNull v₂) := splitExact_of_ints h₁ h₂

/-- **the laws are consistent and the derivation is not vacuous**: exact addition obeys `AddLaws` on every list of addends
(for `F64.add` see `realAddLaws_of_exactSums` and the REAL examples below) -/
example (rs : List Nat) : AddLaws (· + ·) 0 rs :=
  ⟨fun y _ => Nat.zero_add y, fun x _ y _ => Nat.add_comm x y, fun _ _ _ _ _ _ => Nat.add_assoc _ _ _⟩
example : [3, 1, 2].foldl (· + ·) 0 = [1, 2, 3].foldl (· + ·) 0 :=
  sum_order_free_of_laws (add := (· + ·))
    ⟨fun y _ => Nat.zero_add y, fun x _ y _ => Nat.add_comm x y, fun _ _ _ _ _ _ => Nat.add_assoc _ _ _⟩ (by decide)
/-- the REAL laws hold when there is nothing to add -/
example : RealAddLaws [] := realAddLaws_nil

/-- REAL addends `0.5, 1.5, -2.25, 100.0` (bit patterns): their sums are exactly representable, so every order gives the
same sum `99.75`, and a split adds up -/
def exReals : List Nat := [0x3fe0000000000000, 0x3ff8000000000000, 0xc002000000000000, 0x4059000000000000]
theorem exReals_exact : ExactSums exReals := by decide +kernel
theorem exReals_sum : realSum exReals = 0x4058f00000000000 := by decide +kernel
example : ExactSums exReals := exReals_exact
example : ExactSums (exReals.map (fun x => F64.mul x x)) := by decide +kernel
example : realSum exReals = 0x4058f00000000000 := exReals_sum
example : realSum [0x4059000000000000, 0xc002000000000000, 0x3ff8000000000000, 0x3fe0000000000000] = 0x4058f00000000000 := by decide +kernel
example : realSum [0xc002000000000000, 0x4059000000000000, 0x3fe0000000000000, 0x3ff8000000000000] = 0x4058f00000000000 := by decide +kernel
example (l : List Nat) (hp : l.Perm exReals) : realSum l = 0x4058f00000000000 := by
  rw [real_sum_order_free exReals_exact hp]; exact exReals_sum
example : Value.real (realSum exReals) =
    mergeSum (.real (realSum [0x3fe0000000000000, 0x3ff8000000000000])) (.real (realSum [0xc002000000000000, 0x4059000000000000])) :=
  concat_sum_adds_real [0x3fe0000000000000, 0x3ff8000000000000] [0xc002000000000000, 0x4059000000000000] (by decide) exReals_exact
/-- where a partial sum is rounded the hypothesis fails, and so may the conclusion: `1e16 + 1 + 1` in two orders -/
example : ¬ ExactSums [0x4341c37937e08000, 0x3ff0000000000000, 0x3ff0000000000000] := by decide +kernel
example : realSum [0x4341c37937e08000, 0x3ff0000000000000, 0x3ff0000000000000] ≠ realSum [0x3ff0000000000000, 0x3ff0000000000000, 0x4341c37937e08000] := by decide +kernel
/-- `-0.0` is excluded: `0.0 + -0.0 = 0.0`, so a lone `-0.0` does not sum to itself -/
example : ¬ ExactSums [0x8000000000000000] := by decide +kernel

/-- `SELECT COUNT(*), SUM(v), MIN(v) FROM t` is a `MergeableStmt`, and the combination of the rows `[2, 4, 1]` and `[1, 5, 5]`
of two parts is `[3, 9, 1]` -/
def exMerge : AggStmt :=
  { items := [{ name := "count0", kind := .count none false, transform := none },
              { name := "sum1", kind := .sum (.column "v"), transform := none },
              { name := "min2", kind := .min (.column "v"), transform := none }],
    filter := none, groupBy := none, having := none, havingAggs := [], havingKeys := [], havingVisit := [],
    limit := none, distinct := false }
example : MergeableStmt exMerge := by
  refine ⟨?_, rfl, rfl, rfl⟩
  intro item hi
  simp [exMerge] at hi
  rcases hi with rfl | rfl | rfl <;> exact ⟨rfl, rfl⟩
example : mergeKeyed exMerge [([.null], [.int 2, .int 4, .int 1])] [([.null], [.int 1, .int 5, .int 5])] =
    [([.null], [.int 3, .int 9, .int 1])] := rfl

/-- AVG over two parts through its components: (6, 2 values) and (3, 1 value) combine to (9, 3 values), average 3 -/
example : (summarize (.avg (.column "v")) [.int 2, .int 4]).bind (fun a => (summarize (.avg (.column "v")) [.null, .int 3]).bind
    (fun b => finishSummary (.avg (.column "v")) (combine (.avg (.column "v")) a b))) = some (.int 3) := rfl
/-- COUNT(DISTINCT) through set union: {1, 2} and {2, 3} unite to three values -/
example : combine (.count (some "v") true) (.distinct [.int 1, .int 2]) (.distinct [.int 2, .int 3]) = .distinct [.int 1, .int 2, .int 3] := rfl

deriving instance DecidableEq for Summary

/-- `SELECT k, COUNT(*), SUM(v), AVG(v), VARIANCE(v), MIN(v), MAX(v), PERCENTILE(v, 0.5), COUNT(DISTINCT v) FROM t GROUP BY k` -/
def exAll : AggStmt :=
  { exPct with items := exPct.items ++ [{ name := "count8", kind := .count (some "v") true, transform := none }] }
theorem exAll_wf : StmtWF exAll := ⟨rfl, fun _ => rfl⟩
theorem exAll_kinds : ∀ kind ∈ slotKinds exAll, orderInsensitive kind = true := by decide

/-- `exAll` has COUNT(*): no input falls into D10 / D15 and every cut is covered (`batch_run_of_split_all_cuts_of_count_star`) -/
example : AggKind.count none false ∈ slotKinds exAll ∧ ∀ envs, deviationClass {} exAll envs = "" :=
  ⟨by simp [slotKinds, exAll, exPct, exSumMin], deviation_class_empty_of_count_star exAll_kinds (by simp [slotKinds, exAll, exPct, exSumMin])⟩

/-- part two: rows (a, 5), (c, 4), (b, 7) — part one is `exRows`: (a, 3), (b, 7), (a, NULL), (a, -1), (b, 2) -/
def exPart₂ : List Env := [rowKV 97 (.int 5), rowKV 99 (.int 4), rowKV 98 (.int 7)]
def exKeyed₂ : List (List Value × Env) :=
  [([.text [97]], rowKV 97 (.int 5)), ([.text [99]], rowKV 99 (.int 4)), ([.text [98]], rowKV 98 (.int 7))]
example : keyedRows {} exAll exRows = some exKeyed ∧ keyedRows {} exAll exPart₂ = some exKeyed₂ := ⟨rfl, rfl⟩

/-- **`SplitSafe` holds for every group key** of these two parts — by the INT criterion … -/
example : ∀ k, SplitSafe {} exAll (rowsOfKey k exKeyed) (rowsOfKey k exKeyed₂) :=
  splitSafe_of_ints (by decide) (by decide)
/-- … and by the general decidable check (REAL addends `ExactSums`, PERCENTILE values simple), in the form the theorems take -/
theorem exAll_splitSafe : ∀ k₁ k₂, keyedRows {} exAll exRows = some k₁ → keyedRows {} exAll exPart₂ = some k₂ →
    ∀ k, SplitSafe {} exAll (rowsOfKey k k₁) (rowsOfKey k k₂) :=
  splitSafeInputsB_sound (by decide +kernel)

/-- the three tables (columns: k, COUNT(*), SUM, AVG, VARIANCE, MIN, MAX, PERCENTILE 0.5, COUNT DISTINCT; the variances
4.0, 6.25, 56/9, 50/9 as bit patterns) -/
def exT₁ : List (List Value) :=
  [[.text [97], .int 3, .int 2, .int 1, .real 0x4010000000000000, .int (-1), .int 3, .int 3, .int 2],
   [.text [98], .int 2, .int 9, .int 4, .real 0x4019000000000000, .int 2, .int 7, .int 7, .int 2]]
def exT₂ : List (List Value) :=
  [[.text [97], .int 1, .int 5, .int 5, .real 0, .int 5, .int 5, .int 5, .int 1],
   [.text [98], .int 1, .int 7, .int 7, .real 0, .int 7, .int 7, .int 7, .int 1],
   [.text [99], .int 1, .int 4, .int 4, .real 0, .int 4, .int 4, .int 4, .int 1]]
def exT : List (List Value) :=
  [[.text [97], .int 4, .int 7, .int 2, .real 0x4018e38e38e38e39, .int (-1), .int 5, .int 3, .int 3],
   [.text [98], .int 3, .int 16, .int 5, .real 0x401638e38e38e38e, .int 2, .int 7, .int 7, .int 2],
   [.text [99], .int 1, .int 4, .int 4, .real 0, .int 4, .int 4, .int 4, .int 1]]
theorem exAll_tables : table {} exAll exRows = some exT₁ ∧ table {} exAll exPart₂ = some exT₂ ∧
    table {} exAll (exRows ++ exPart₂) = some exT := by decide +kernel

/-- what each part remembers: per group — nothing for the key; the count; the sum; sum and count; sum, sum of squares and
count; the minimum; the maximum; the sorted values; the distinct values -/
def exS₁ : List (List Value × List Summary) :=
  [([.text [97]], [.key, .count 3, .sum (.int 2), .avg (.int 2) 2, .moments (.int 2) (.int 10) 2, .extreme (.int (-1)),
      .extreme (.int 3), .sorted [.int (-1), .int 3], .distinct [.int 3, .int (-1)]]),
   ([.text [98]], [.key, .count 2, .sum (.int 9), .avg (.int 9) 2, .moments (.int 9) (.int 53) 2, .extreme (.int 2),
      .extreme (.int 7), .sorted [.int 2, .int 7], .distinct [.int 7, .int 2]])]
def exS₂ : List (List Value × List Summary) :=
  [([.text [97]], [.key, .count 1, .sum (.int 5), .avg (.int 5) 1, .moments (.int 5) (.int 25) 1, .extreme (.int 5),
      .extreme (.int 5), .sorted [.int 5], .distinct [.int 5]]),
   ([.text [98]], [.key, .count 1, .sum (.int 7), .avg (.int 7) 1, .moments (.int 7) (.int 49) 1, .extreme (.int 7),
      .extreme (.int 7), .sorted [.int 7], .distinct [.int 7]]),
   ([.text [99]], [.key, .count 1, .sum (.int 4), .avg (.int 4) 1, .moments (.int 4) (.int 16) 1, .extreme (.int 4),
      .extreme (.int 4), .sorted [.int 4], .distinct [.int 4]])]
/-- the key-wise combination: groups a, b, c; in a and b counts add (3+1, 2+1), sums add (2+5, 9+7), sums of squares add
(10+25, 53+49), minima / maxima combine, sorted multisets merge, distinct sets unite (b: {7, 2} ∪ {7}); c is kept -/
def exS : List (List Value × List Summary) :=
  [([.text [97]], [.key, .count 4, .sum (.int 7), .avg (.int 7) 3, .moments (.int 7) (.int 35) 3, .extreme (.int (-1)),
      .extreme (.int 5), .sorted [.int (-1), .int 3, .int 5], .distinct [.int 3, .int (-1), .int 5]]),
   ([.text [98]], [.key, .count 3, .sum (.int 16), .avg (.int 16) 3, .moments (.int 16) (.int 102) 3, .extreme (.int 2),
      .extreme (.int 7), .sorted [.int 2, .int 7, .int 7], .distinct [.int 7, .int 2]]),
   ([.text [99]], [.key, .count 1, .sum (.int 4), .avg (.int 4) 1, .moments (.int 4) (.int 16) 1, .extreme (.int 4),
      .extreme (.int 4), .sorted [.int 4], .distinct [.int 4]])]
theorem exAll_summaries : partSummaries {} exAll exRows = some exS₁ ∧ partSummaries {} exAll exPart₂ = some exS₂ ∧
    mergeSummaries exAll exS₁ exS₂ = exS := by decide +kernel

/-- **`agg_concat_merge_summaries` applied**: every hypothesis discharged above; its conclusion, with the summaries and the
tables evaluated: the summaries of the whole are the combination `exS` of the parts' summaries, and the three tables are the
tables of `exS₁`, `exS₂`, `exS` -/
theorem exAll_summary_tables : partSummaries {} exAll (exRows ++ exPart₂) = some exS ∧
    tableOfSummaries {} exAll exS₁ = some exT₁ ∧ tableOfSummaries {} exAll exS₂ = some exT₂ ∧
    tableOfSummaries {} exAll exS = some exT := by
  obtain ⟨h, h₁, h₂, h₃⟩ := table_of_concat_is_merge_of_part_summaries exAll_wf exAll_kinds exRows exPart₂
    exAll_tables.2.2 exAll_tables.1 exAll_tables.2.1 exAll_splitSafe
  rw [exAll_summaries.1, exAll_summaries.2.1] at h
  simp only [Option.bind_some, Option.map_some, exAll_summaries.2.2] at h
  rw [exAll_summaries.1, exAll_tables.1] at h₁
  rw [exAll_summaries.2.1, exAll_tables.2.1] at h₂
  rw [h, exAll_tables.2.2] at h₃
  exact ⟨h, h₁.symm, h₂.symm, h₃.symm⟩
example : partSummaries {} exAll (exRows ++ exPart₂) = some exS ∧
    tableOfSummaries {} exAll exS₁ = some exT₁ ∧ tableOfSummaries {} exAll exS₂ = some exT₂ ∧
    tableOfSummaries {} exAll exS = some exT := exAll_summary_tables

/-- the same at the level of the executed batch run: the query over table `t(k, v)`, the rows as lines of two files (the
second file has a line that yields no row: it is counted, not aggregated) -/
def exQy : Query := { stmt := .aggregate exAll, table := { name := "t", columns := ["k", "v"] }, join := none }
def exLine (k : Nat) (v : Value) : FileLine := { readable := true, line := { text := [], row := [.text [k], v] } }
def exFile₁ : List FileLine := [exLine 97 (.int 3), exLine 98 (.int 7), exLine 97 .null, exLine 97 (.int (-1)), exLine 98 (.int 2)]
def exFile₂ : List FileLine :=
  [exLine 97 (.int 5), { readable := true, line := { text := [], row := [.null, .null] } }, exLine 99 (.int 4), exLine 98 (.int 7)]

/-- hypotheses of `batch_run_of_concat_is_merge_of_summaries`: the specification answers with an empty deviation class for
the whole and for both parts; `SplitSafe` for every group key -/
theorem exQy_spec : (Spec.Agg.batch {} exQy exAll [] [exFile₁ ++ exFile₂]).map (·.2) = some "" ∧
    (Spec.Agg.batch {} exQy exAll [] [exFile₁]).map (·.2) = some "" ∧
    (Spec.Agg.batch {} exQy exAll [] [exFile₂]).map (·.2) = some "" := by decide +kernel
theorem exQy_splitSafe : ∀ k₁ k₂, keyedRows {} exAll (envsOf exQy.table exFile₁) = some k₁ →
    keyedRows {} exAll (envsOf exQy.table exFile₂) = some k₂ → ∀ k, SplitSafe {} exAll (rowsOfKey k k₁) (rowsOfKey k k₂) :=
  splitSafeInputsB_sound (by decide +kernel)
theorem exQy_summaries : partSummaries {} exAll (envsOf exQy.table exFile₁) = some exS₁ ∧
    partSummaries {} exAll (envsOf exQy.table exFile₂) = some exS₂ ∧
    outOfSummaries {} exAll 5 exS₁ = some (tableOut exAll exT₁ 5) ∧ outOfSummaries {} exAll 4 exS₂ = some (tableOut exAll exT₂ 4) ∧
    tableOfSummaries {} exAll exS = some exT := by
  refine ⟨by decide +kernel, by decide +kernel, ?_, ?_, exAll_summary_tables.2.2.2⟩
  · simp only [outOfSummaries, exAll_summary_tables.2.1, Option.map_some]
  · simp only [outOfSummaries, exAll_summary_tables.2.2.1, Option.map_some]

/-- **`batch_run_of_concat_is_merge_of_summaries` applied**: `runBatch` over the one file `exFile₁ ++ exFile₂`, and over the two
files, prints the table `exT` of the merged summaries and counts 9 lines; over each part the table of that part's summaries -/
example : runBatch {} exQy [] [exFile₁ ++ exFile₂] none = tableOut exAll exT 9 ∧
    runBatch {} exQy [] [exFile₁, exFile₂] none = tableOut exAll exT 9 ∧
    runBatch {} exQy [] [exFile₁] none = tableOut exAll exT₁ 5 ∧ runBatch {} exQy [] [exFile₂] none = tableOut exAll exT₂ 4 := by
  obtain ⟨ro, h⟩ := batch_of_class exQy_spec.1
  obtain ⟨ro₁, h₁⟩ := batch_of_class exQy_spec.2.1
  obtain ⟨ro₂, h₂⟩ := batch_of_class exQy_spec.2.2
  obtain ⟨e, e', e₁, e₂⟩ := batch_run_of_concat_is_merge_of_summaries (qy := exQy) rfl exAll_wf rfl exAll_kinds [] exFile₁ exFile₂
    h h₁ h₂ exQy_splitSafe
  rw [exQy_summaries.1, exQy_summaries.2.1] at e
  simp only [Option.bind_some, Option.map_some, exAll_summaries.2.2, outOfSummaries, exQy_summaries.2.2.2.2] at e
  rw [exQy_summaries.1] at e₁
  rw [exQy_summaries.2.1] at e₂
  have l₁ : exFile₁.length = 5 := rfl
  have l₂ : exFile₂.length = 4 := rfl
  rw [l₁] at e e₁
  rw [l₂] at e e₂
  simp only [Option.bind_some, exQy_summaries.2.2.1, exQy_summaries.2.2.2.1] at e₁ e₂
  have e0 := Option.some.inj e
  exact ⟨e0, e'.trans e0, Option.some.inj e₁, Option.some.inj e₂⟩

/-- **REAL arguments**: part one (a, 0.5), (b, 100.0), (a, 1.5); part two (a, -2.25), (a, NULL), (b, 0.5). `SplitSafe` for every
group key by the decidable check: the addends of each group over both parts, and their squares, are `ExactSums` -/
def exReal₁ : List Env := [rowKV 97 (.real 0x3fe0000000000000), rowKV 98 (.real 0x4059000000000000), rowKV 97 (.real 0x3ff8000000000000)]
def exReal₂ : List Env := [rowKV 97 (.real 0xc002000000000000), rowKV 97 .null, rowKV 98 (.real 0x3fe0000000000000)]
theorem exReal_splitSafe : ∀ k₁ k₂, keyedRows {} exAll exReal₁ = some k₁ → keyedRows {} exAll exReal₂ = some k₂ →
    ∀ k, SplitSafe {} exAll (rowsOfKey k k₁) (rowsOfKey k k₂) :=
  splitSafeInputsB_sound (by decide +kernel)
/-- the tables of the parts and of the whole (group a: sum 2.0 / -2.25 / -0.25, average 1.0 / -2.25 / -1/12, variance 0.25 / 0 /
181/72, minimum 0.5 / -2.25 / -2.25, maximum 1.5 / -2.25 / 1.5, median 1.5 / -2.25 / 0.5; group b: sum 100.0 / 0.5 / 100.5, …) -/
def exRealT₁ : List (List Value) :=
  [[.text [97], .int 2, .real 0x4000000000000000, .real 0x3ff0000000000000, .real 0x3fd0000000000000, .real 0x3fe0000000000000,
     .real 0x3ff8000000000000, .real 0x3ff8000000000000, .int 2],
   [.text [98], .int 1, .real 0x4059000000000000, .real 0x4059000000000000, .real 0, .real 0x4059000000000000,
     .real 0x4059000000000000, .real 0x4059000000000000, .int 1]]
def exRealT₂ : List (List Value) :=
  [[.text [97], .int 2, .real 0xc002000000000000, .real 0xc002000000000000, .real 0, .real 0xc002000000000000,
     .real 0xc002000000000000, .real 0xc002000000000000, .int 1],
   [.text [98], .int 1, .real 0x3fe0000000000000, .real 0x3fe0000000000000, .real 0, .real 0x3fe0000000000000,
     .real 0x3fe0000000000000, .real 0x3fe0000000000000, .int 1]]
def exRealT : List (List Value) :=
  [[.text [97], .int 4, .real 0xbfd0000000000000, .real 0xbfb5555555555555, .real 0x40041c71c71c71c7, .real 0xc002000000000000,
     .real 0x3ff8000000000000, .real 0x3fe0000000000000, .int 3],
   [.text [98], .int 2, .real 0x4059200000000000, .real 0x4049200000000000, .real 0x40a3562000000000, .real 0x3fe0000000000000,
     .real 0x4059000000000000, .real 0x4059000000000000, .int 2]]
theorem exReal_tables : table {} exAll exReal₁ = some exRealT₁ ∧ table {} exAll exReal₂ = some exRealT₂ ∧
    table {} exAll (exReal₁ ++ exReal₂) = some exRealT := by decide +kernel
/-- **`table_of_concat_is_merge_of_part_summaries` applied to REAL arguments**: the table of the whole is the table of the
merged summaries of the parts (sums and sums of squares added by IEEE addition — exact here) -/
example : (partSummaries {} exAll exReal₁).bind (fun S₁ => (partSummaries {} exAll exReal₂).bind (fun S₂ =>
    tableOfSummaries {} exAll (mergeSummaries exAll S₁ S₂))) = some exRealT := by
  obtain ⟨h, _, _, h₃⟩ := table_of_concat_is_merge_of_part_summaries exAll_wf exAll_kinds exReal₁ exReal₂
    exReal_tables.2.2 exReal_tables.1 exReal_tables.2.1 exReal_splitSafe
  rw [h, exReal_tables.2.2] at h₃
  rw [h₃]
  generalize partSummaries {} exAll exReal₁ = X
  generalize partSummaries {} exAll exReal₂ = Y
  cases X <;> cases Y <;> rfl
/-- … and the merged summaries themselves, evaluated: group a remembers count 4, sum -0.25, sum of squares 7.5625, three values -/
example : ((partSummaries {} exAll exReal₁).bind (fun S₁ => (partSummaries {} exAll exReal₂).map (fun S₂ =>
    (mergeSummaries exAll S₁ S₂).map (fun ks => (ks.1, ks.2.take 5))))) =
    some [([.text [97]], [.key, .count 4, .sum (.real 0xbfd0000000000000), .avg (.real 0xbfd0000000000000) 3,
            .moments (.real 0xbfd0000000000000) (.real 0x401e400000000000) 3]),
          ([.text [98]], [.key, .count 2, .sum (.real 0x4059200000000000), .avg (.real 0x4059200000000000) 2,
            .moments (.real 0x4059200000000000) (.real 0x40c3882000000000) 2])] := by decide +kernel

/-- the classes of the example parts and of the whole are empty (hypotheses / conclusion of `deviation_class_of_concat`) -/
example : deviationClass {} exAll exRows = "" ∧ deviationClass {} exAll exPart₂ = "" ∧
    deviationClass {} exAll (exRows ++ exPart₂) = "" := by decide +kernel
/-- the converse of `deviation_class_of_concat` fails: `SELECT k, COUNT(v) … GROUP BY k` — the part (a, NULL) alone falls into D10
(COUNT(v) creates no entry), the whole (a, NULL), (a, 1) does not -/
def exCountV : AggStmt :=
  { items := [{ name := "k", kind := .groupKey (.column "k") "k", transform := none },
              { name := "count1", kind := .count (some "v") false, transform := none }],
    filter := none, groupBy := some [(.column "k", "k")], having := none, havingAggs := [], havingKeys := [],
    havingVisit := [], limit := none, distinct := false }
example : deviationClass {} exCountV [rowKV 97 .null] = "D10:group-without-value-entry" ∧
    deviationClass {} exCountV ([rowKV 97 .null] ++ [rowKV 97 (.int 1)]) = "" := by decide +kernel

/-- **why the three `= some` hypotheses of the split theorems stay**: `SELECT SUM(v)` — the table of the whole exists while
the second part's does not (after `-2^62 - 2^62` the sum `+ (2^63-1) + 2^62` stays in range; alone it overflows), and the
parts' tables exist while the whole's does not (`(2^63-1) + 1`) -/
def exSum : AggStmt :=
  { items := [{ name := "sum0", kind := .sum (.column "v"), transform := none }], filter := none, groupBy := none,
    having := none, havingAggs := [], havingKeys := [], havingVisit := [], limit := none, distinct := false }
example : table {} exSum ([rowKV 97 (.int (-2^62)), rowKV 97 (.int (-2^62))] ++ [rowKV 97 (.int (2^63-1)), rowKV 97 (.int (2^62))]) =
      some [[.int (2^62 - 1)]] ∧
    table {} exSum [rowKV 97 (.int (2^63-1)), rowKV 97 (.int (2^62))] = none ∧
    table {} exSum [rowKV 97 (.int (2^63-1))] = some [[.int (2^63-1)]] ∧ table {} exSum [rowKV 97 (.int 1)] = some [[.int 1]] ∧
    table {} exSum ([rowKV 97 (.int (2^63-1))] ++ [rowKV 97 (.int 1)]) = none := by decide +kernel

end Sqlgrep.Props.C15
