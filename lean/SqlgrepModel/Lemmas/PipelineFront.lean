import SqlgrepModel.Lemmas.ParseFast
import SqlgrepModel.Lemmas.Pipeline
/-
The front end for kernel evaluation: texts are read with `parseTextK`, `parseText` over the tokenizer with written-out
word tables (`Lemmas/ParseFast.lean`). `frontK` is `front` so read (`runText_eq_K`, for any two texts). For runs over a
FIXED definitions text the front end is taken in two steps, `defsTables` (the tables the text defines, evaluated once
per text) and `frontQuery` (`front` after its definitions text): `runText_of_defsTables`.
-/
namespace Sqlgrep.Pipeline
open Sqlgrep

/-- the tables a definitions text defines, if `front` gets as far as asking for them -/
def defsTables (F : Facts) (defsText : List Char) : Option (List Table) :=
  if classesCover F defsText then
    match parseTextK (lexOracles F) (regexValidFn F) defsText with
    | .stmt defs =>
      if (createPatterns defs).all (fun re => ((Utf8.decode re).bind (regexValidOf F)).isSome) then addTables defs else none
    | _ => none
  else none

/-- `front` after its definitions text: the query text over defined tables -/
def frontQuery (F : Facts) (tables : List Table) (queryText : List Char) : Front :=
  if !classesCover F queryText then .early (.skip "character class")
  else
    match parseTextK (lexOracles F) (regexValidFn F) queryText with
    | .stmt query =>
      match stmtOf query with
      | none => .early .notAQuery
      | some (stmt, fromTable, join) => .run tables stmt fromTable join
    | p => .ofRejected .query p

theorem front_of_defsTables {F : Facts} {defsText : List Char} {tables : List Table}
    (h : defsTables F defsText = some tables) (queryText : List Char) :
    front F defsText queryText = frontQuery F tables queryText := by
  unfold defsTables at h
  unfold front frontWith frontQuery
  simp only [parseText_eq_K]
  split at h
  · rename_i hc
    split at h
    · rename_i defs hd
      split at h
      · rename_i hp
        simp only [hc, hd, hp, Bool.not_true, Bool.false_or, Bool.false_eq_true, if_false, Front.ofLowered, h]
        rfl
      · cases h
    · cases h
  · cases h

theorem defsTables_congr {F G : Facts} (hc : F.classes = G.classes) (hn : F.numbers = G.numbers)
    (hr : F.regexValid = G.regexValid) (d : List Char) : defsTables F d = defsTables G d := by
  obtain ⟨c, n, r, _, _, _, _, _, _⟩ := F
  obtain ⟨c', n', r', _, _, _, _, _, _⟩ := G
  cases hc; cases hn; cases hr
  rfl

def runQuery (F : Facts) (tables : List Table) (queryText : List Char) (fmt : Print.Format) (single : Bool)
    (files : List (List Nat)) : Answer :=
  (frontQuery F tables queryText).answer Early.answer (fun ts s f j => answerOfOpt F fmt single (runStatement F ts s f j files))

theorem runText_of_defsTables {F : Facts} {defsText : List Char} {tables : List Table}
    (h : defsTables F defsText = some tables) (queryText : List Char) (fmt : Print.Format) (single : Bool)
    (files : List (List Nat)) :
    runText F defsText queryText fmt single files = runQuery F tables queryText fmt single files := by
  rw [runText_eq_front, front_of_defsTables h, runQuery]

/-- `front` with both texts read by `parseTextK` -/
def frontK (F : Facts) (defsText queryText : List Char) : Front :=
  frontWith (parseTextK (lexOracles F) (regexValidFn F)) F defsText queryText

theorem front_eq_K (F : Facts) (defsText queryText : List Char) : front F defsText queryText = frontK F defsText queryText :=
  congrArg (frontWith · F defsText queryText) (funext (parseText_eq_K (lexOracles F) (regexValidFn F)))

/-- for evaluation: any run, whatever its texts come to -/
theorem runText_eq_K (F : Facts) (defsText queryText : List Char) (fmt : Print.Format) (single : Bool)
    (files : List (List Nat)) :
    runText F defsText queryText fmt single files =
      (frontK F defsText queryText).answer Early.answer
        (fun ts s f j => answerOfOpt F fmt single (runStatement F ts s f j files)) := by
  rw [runText_eq_front, front_eq_K]

end Sqlgrep.Pipeline
