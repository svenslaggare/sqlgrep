import SqlgrepModel.Lemmas.ParseFuelStmt
import SqlgrepModel.Lemmas.ParseTokens
import SqlgrepModel.Lemmas.ParseWithinStmt
import SqlgrepModel.Lemmas.ParseJson
import SqlgrepModel.Lemmas.ParseFreeLoc
import SqlgrepModel.Lemmas.Lower
import SqlgrepModel.Lemmas.LowerTables
/-
C14 — parsing is total: any text yields a statement or a located error (parser part).

The theorems are about `Parse.parseTokens` / `Parse.parseTokensFuel` (`Model/ParseStmt.lean` on top of
`Model/ParseExpr.lean`), the definitions the driver executes for the `pstmt` cases, for *every* token vector, every
precedence table and every nesting depth. The tokenizer half (every text yields a non-empty token vector ending in
`End` whose locations lie inside the text; number conversion errors) is `Props/C14Lex.lean`; here the token vector is
arbitrary, and "non-empty" is the only hypothesis needed.

Trusted base specific to this file: the parser state is modelled as the non-empty suffix `cur :: rest` of the token
vector (so `tokens[index]` is total by construction); that the Rust parser maintains `0 ≤ index < tokens.len()` is
tied to the code by the `pstmt` correspondence (token vectors incl. every prefix, vectors without `End`, depth 200).
-/
namespace Sqlgrep.Props.C14
open Sqlgrep Sqlgrep.Parse

/-- `Parser::parse` answers a tree exactly when the vector is non-empty and `parseOp` on it answers that tree -/
theorem parseTokensFuel_tree_iff {T : PrecTables} {fuel : Nat} {toks : List PTok} {op : POp} :
    parseTokensFuel T fuel toks = .tree op ↔ ∃ t ts s', toks = t :: ts ∧ parseOp T fuel ⟨t, ts⟩ = .ok op s' :=
  parseTokensFuel_eq_tree_iff

/-- … and an error exactly when `parseOp` answers that error -/
theorem parseTokensFuel_error_iff {T : PrecTables} {fuel : Nat} {toks : List PTok} {e : PErr} :
    parseTokensFuel T fuel toks = .error e ↔ ∃ t ts s', toks = t :: ts ∧ parseOp T fuel ⟨t, ts⟩ = .err e s' :=
  parseTokensFuel_eq_error_iff

/-- **Termination.** With fuel `3·|tokens|+1` (a fortiori with the `3·|tokens|+3` the parser is run with) no parse
function gives the out-of-fuel answer: every loop turn and every recursive descent consumes a token or returns
(`Lemmas/ParseFuel.lean`: `FuelIH`, `fuelIH_all` for the six expression functions — `parseExpr` needs `3r`,
`parseUnary` `3r−1`, `parsePrimary` `3r−2`, `parseRhs` `3r+2`, `parseList` `3r+1`, `parseCase` `3r−1` units for `r`
remaining tokens; `Lemmas/ParseFuelStmt.lean` for the statement level: loops `3r+1`, the rest `3r`). -/
theorem parse_fuel_suffices (T : PrecTables) (toks : List PTok) (fuel : Nat) (h : 3 * toks.length + 1 ≤ fuel) :
    parseTokensFuel T fuel toks ≠ .fuel :=
  parseTokensFuel_ne_fuel h

/-- the fuel `Parser::parse` is modelled with is enough -/
theorem parse_never_out_of_fuel (T : PrecTables) (toks : List PTok) : parseTokens T toks ≠ .fuel :=
  parseTokens_ne_fuel T toks

/-- **No panic.** The only panic site of `Parser::parse` — `create_error` indexing `tokens[-1]` when the very first
`next()` fails — needs an empty token vector; every other `tokens[index]` is in range by the suffix representation. -/
theorem parse_never_panics (T : PrecTables) (toks : List PTok) (h : toks ≠ []) : parseTokens T toks ≠ .panic := by
  unfold parseTokens parseTokensFuel
  split
  · exact absurd rfl h
  · split <;> simp

/-- **Totality.** For every non-empty token vector — in particular for every vector the tokenizer produces, which
always ends in `End` (`Props/C14Lex.lean`) — parsing a query or a table definition ends with a tree or with an
error: never a panic, never out of fuel. -/
theorem parse_total (T : PrecTables) (toks : List PTok) (h : toks ≠ []) :
    (∃ t, parseTokens T toks = .tree t) ∨ (∃ e, parseTokens T toks = .error e) := by
  have h1 := parse_never_out_of_fuel T toks
  have h2 := parse_never_panics T toks h
  cases hp : parseTokens T toks with
  | tree t => exact .inl ⟨t, rfl⟩
  | error e => exact .inr ⟨e, rfl⟩
  | fuel => exact absurd hp h1
  | panic => exact absurd hp h2

/-- the hypothesis in the form the tokenizer delivers it: non-empty because the last token is `End` -/
theorem parse_total_of_eof (T : PrecTables) (toks : List PTok) (l : PTok) (h : toks.getLast? = some l) :
    (∃ t, parseTokens T toks = .tree t) ∨ (∃ e, parseTokens T toks = .error e) :=
  parse_total T toks (by intro h0; simp [h0] at h)

/-- the location of every parser error is the location of one of the input tokens, for any fuel -/
theorem error_location_is_a_token_location_fuel (T : PrecTables) (fuel : Nat) (toks : List PTok) (e : PErr)
    (h : parseTokensFuel T fuel toks = .error e) : e.loc ∈ toks.map (·.loc) := by
  obtain ⟨t, ts, s', rfl, heq⟩ := parseTokensFuel_error_iff.mp h
  exact ((parseOp_within (s := ⟨t, ts⟩) (List.suffix_refl (t :: ts))).2 _ _ heq).2

/-- **Located errors.** The location of every parser error is the location of one of the input tokens (the current
token, or a token whose location was saved earlier: operator locations, the type name of `parse_type`); with the
tokenizer's `token_locations_inside` it lies inside the text. -/
theorem error_location_is_a_token_location (T : PrecTables) (toks : List PTok) (e : PErr)
    (h : parseTokens T toks = .error e) : e.loc ∈ toks.map (·.loc) :=
  error_location_is_a_token_location_fuel T _ toks e h

/-- **Empty JSON path is rejected (local form).** A column item that starts with `{ }` is answered with an error
whatever follows (`ExpectedJsonColumnPartStart` when `=>` follows, the error of the missing `=>` otherwise). -/
theorem create_table_rejects_empty_json_path (T : PrecTables) (fuel : Nat) (ps : Patterns) (cs : List PColDef)
    (l1 l2 : Loc) (t3 : PTok) (rest : List PTok) :
    ∃ e s', colItem T (fuel + 1) ps cs { cur := ⟨l1, .lcu⟩, rest := ⟨l2, .rcu⟩ :: t3 :: rest } = .err e s' := by
  simp only [colItem, next, jsonLoop, expectConsume, mkErr]
  by_cases h3 : t3.tok = .rarrow
  · simp [h3]
    cases rest <;> simp
  · simp [h3]

/-- the error kind when `=>` follows: `ExpectedJsonColumnPartStart`, located after the `=>` -/
theorem create_table_rejects_empty_json_path_kind (T : PrecTables) (fuel : Nat) (ps : Patterns) (cs : List PColDef)
    (l1 l2 l3 : Loc) (t4 : PTok) (rest : List PTok) :
    colItem T (fuel + 1) ps cs { cur := ⟨l1, .lcu⟩, rest := ⟨l2, .rcu⟩ :: ⟨l3, .rarrow⟩ :: t4 :: rest }
      = .err ⟨t4.loc, .expectedJsonColumnPartStart⟩ { cur := t4, rest := rest } := by
  simp [colItem, next, jsonLoop, expectConsume, mkErr]

/-- **Empty JSON path is rejected (global form).** No tree the parser returns contains a JSON column with an empty
path — for every token vector; this is what makes the `unwrap` in `JsonAccess::from_linear` unreachable. -/
theorem no_empty_json_path_in_a_tree (T : PrecTables) (toks : List PTok) (t : POp)
    (h : parseTokens T toks = .tree t) : t.PathsOk := by
  obtain ⟨t0, ts, s', rfl, heq⟩ := parseTokensFuel_tree_iff.mp h
  exact parseOp_paths T _ _ _ _ heq

/-! ### the lowering (`parser_tree_converter.rs`, `Model/Lower.lean`) -/

open Lower in
/-- **The lowering never panics**: for every tree without an empty JSON path (every tree the parser returns,
`no_empty_json_path_in_a_tree`) and every regex oracle, `transform_statement` ends with a statement or a
`ConvertParserTreeError`. Every `arguments.remove(0)` site is guarded by the length test before it; the
`from_linear` `unwrap` needs an empty path. (It is total by structural recursion.) -/
theorem lower_never_panics (regexValid : List Char → Bool) (t : POp) (h : t.PathsOk) :
    ∀ site, lowerStatement regexValid t ≠ .panic site :=
  lowerStatement_noPanic regexValid t h

open Lower in
/-- **Parsing + lowering is total**: on every non-empty token vector `parsing::parse` (after the tokenizer) ends with a
statement, a parser error or a conversion error — no panic, no fuel exhaustion. -/
theorem parse_and_lower_total (T : PrecTables) (regexValid : List Char → Bool) (toks : List PTok) (h : toks ≠ []) :
    (∃ e, parseTokens T toks = .error e) ∨
    (∃ t, parseTokens T toks = .tree t ∧
      ((∃ s, lowerStatement regexValid t = .ok s) ∨ (∃ e, lowerStatement regexValid t = .err e))) := by
  rcases parse_total T toks h with ⟨t, ht⟩ | ⟨e, he⟩
  · right
    refine ⟨t, ht, ?_⟩
    have hp := lower_never_panics regexValid t (no_empty_json_path_in_a_tree T toks t ht)
    cases hl : lowerStatement regexValid t with
    | ok s => exact .inl ⟨s, rfl⟩
    | err e => exact .inr ⟨e, rfl⟩
    | panic s => exact absurd hl (hp s)
  · exact .inl ⟨e, he⟩

open Lower in
/-- **Wrong number of aggregate arguments is an error**: for an aggregate name (any letter case) with a number of
arguments other than the accepted one (`count`: 0 or 1; `percentile`, `string_agg`: 2; the others: 1),
`transform_call_aggregate` answers with an error (`ExpectedArgument` / `TooManyArguments`, or the error of an
argument) — never a panic, never an aggregate. -/
theorem wrong_aggregate_arity_is_error (loc : Loc) (name : List Char) (args : List PExpr) (distinct : Option Bool)
    (index : Nat) (hname : isAggregateName name = true)
    (harity : validArity (str (lowerChars name)) args.length = false) :
    ∃ e, lowerCallAggregate loc name args distinct index = .err e :=
  lowerCallAggregate_arity loc name args distinct index hname harity

open Lower in
/-- … and so is the projection that consists of such a call: `SELECT string_agg(x) FROM t` is rejected -/
theorem wrong_aggregate_arity_projection_is_error (loc : Loc) (name : List Char) (args : List PExpr)
    (distinct : Option Bool) (index : Nat) (hname : isAggregateName name = true)
    (harity : validArity (str (lowerChars name)) args.length = false) :
    ∃ e, lowerAggregate (.call loc name args distinct) index = .err e := by
  unfold lowerAggregate
  split
  · exact ⟨_, rfl⟩
  · have hpos : countAggregates (.call loc name args distinct) > 0 := by
      rw [countAggregates]; simp [hname]
    simp only [hpos, if_true]
    have hx : extractAggregate (.call loc name args distinct) = (some (.call name args distinct), true, .plain (.call loc name args distinct)) := by
      rw [extractAggregate]; simp [hname]
    obtain ⟨e, he⟩ := lowerCallAggregate_arity (PExpr.loc (.call loc name args distinct)) name args distinct index hname harity
    simp only [hx, he]
    exact ⟨_, rfl⟩

open Lower in
/-- **Invalid pattern is an error**: when `Regex::new` rejects one of the patterns of a table definition (oracle
`regexValid`), `create_create_table_statement` answers `InvalidPattern` at the statement's location. -/
theorem lower_invalid_pattern_is_error (regexValid : List Char → Bool) (c : PCreate) (h : c.PathsOk)
    (hbad : ∃ p ∈ c.patterns, regexValid p.2.1 = false) :
    lowerCreate regexValid c = .err ⟨c.loc, .invalidPattern⟩ := by
  have hnp := lowerColumns_noPanic c.columns h
  have hall : (c.patterns.all (fun p => regexValid p.2.1)) = false := by
    rw [Bool.eq_false_iff]
    intro hall
    rw [List.all_eq_true] at hall
    obtain ⟨p, hp, hv⟩ := hbad
    have := hall p hp
    simp [hv] at this
  unfold lowerCreate
  cases hc : lowerColumns c.columns with
  | ok cols => simp [hall]
  | err e => exact absurd hc (lowerColumns_noErr _ _)
  | panic s => exact absurd hc (hnp s)

/-- **Tree locations are token locations**: every location stored in a tree the parser returns (the statement's
own location and the location of every expression node) is the location of one of the input tokens. -/
theorem tree_locations_are_token_locations (T : PrecTables) (toks : List PTok) (t : POp)
    (h : parseTokens T toks = .tree t) : t.AllLoc (TokLoc toks) :=
  tree_locations_free T toks t h

open Lower in
/-- **Located conversion errors**: the location of every `ConvertParserTreeError` raised on a tree the parser
returned is the location of one of the input tokens (a node of the tree: an operator, a call, an argument, a
tuple; or the statement's location for join / HAVING / pattern errors). With `error_location_is_a_token_location`:
whatever error `parsing::parse` reports after tokenizing, it points at a token of the text. -/
theorem conversion_error_location_is_a_token_location (T : PrecTables) (regexValid : List Char → Bool)
    (toks : List PTok) (t : POp) (e : CErr) (h : parseTokens T toks = .tree t)
    (he : lowerStatement regexValid t = .err e) : e.loc ∈ toks.map (·.loc) :=
  lowerStatement_errAt regexValid t (tree_locations_are_token_locations T toks t h) e he

open Lower Lower.Tables in
/-- **The lowering's name tables are the running code's** (table obligation, re-checked on every run against
`Generated/LowerTables.lean`, which `harness tables` derives from `completion_words()`, one `parsing::parse` per name,
spelling and argument list, `ValueType::from_str` and one table definition per candidate word): the functions with
the function each name denotes, the aggregates, "every completion word is one or the other", the answer (function /
aggregate / which error) for every name in lower and upper case on seven argument lists — i.e. the accepted arities
behind `wrong_aggregate_arity_is_error` —, near-miss names, type words, pattern-mode words and modifier words. A new,
renamed or removed name, a changed arity or word in /repo breaks this theorem at build time. -/
theorem lowering_tables_match_the_code :
    sameSet Generated.lowerFunctions modelFunctions = true ∧
    sameSet Generated.lowerAggregates modelAggregates = true ∧
    sameSet Generated.lowerNames (modelFunctions.map (·.1) ++ modelAggregates) = true ∧
    Generated.lowerProbes = Generated.lowerProbes.map (fun p => (p.1, (List.range 7).map (modelProbe p.1))) ∧
    Generated.lowerUnknown = Generated.lowerUnknown.map (fun p => (p.1, modelProbe p.1 1)) ∧
    Generated.typeWords = Generated.typeWords.map (fun p => (p.1, p.2.1, (VType.ofIdent p.1).map (arrayOf p.2.1))) ∧
    Generated.regexModeWords = Generated.regexModeWords.map (fun p => (p.1, modelMode p.1)) ∧
    Generated.modifierWords = Generated.modifierWords.map (fun p => (p.1, modelModifier p.1)) :=
  tables_eq

open Lower in
/-- the README's `regex_matches` and the older `regexp_matches` are the same function -/
theorem regex_matches_both_spellings :
    functionOfName "regex_matches".toList = some .regexMatches ∧ functionOfName "regexp_matches".toList = some .regexMatches := by
  decide +kernel

/-! Number out of range is not a parser fact: `99999999999999999999` is rejected by the tokenizer (`IntConvertError`,
`Props/C14Lex.lean`; oracle: the `reject` texts of `harness/src/c14.rs`). An invalid regular expression is a
`Regex::new` fact, mapped to `InvalidPattern` by `lower_invalid_pattern_is_error`; the oracle is shipped with every
`stmt` case and the `reject` texts demand the error on the implementation. -/

private def tk (c : Nat) (t : Tok) : PTok := ⟨⟨0, c⟩, t⟩

/-- `SELECT x FROM t` parses to a tree -/
example : ∃ t, parseTokens .code [tk 0 (.kw .select), tk 6 (.ident ['x']), tk 8 (.kw .from), tk 13 (.ident ['t']), tk 15 .eof]
    = .tree t := ⟨_, rfl⟩

/-- `SELECT` alone is an error located at the `End` token (0:6), one of the token locations -/
example : parseTokens .code [tk 0 (.kw .select), tk 6 .eof] = .error ⟨⟨0, 6⟩, .expectedExpression⟩ := rfl

/-- `CREATE TABLE t({ } => x INT);` is rejected with `ExpectedJsonColumnPartStart` -/
example : parseTokens .code [tk 0 (.kw .create), tk 6 (.kw .table), tk 12 (.ident ['t']), tk 14 .lp, tk 15 .lcu, tk 17 .rcu,
    tk 18 .rarrow, tk 21 (.ident ['x']), tk 23 (.ident ['I', 'N', 'T']), tk 27 .rp, tk 28 .semi, tk 29 .eof]
    = .error ⟨⟨0, 21⟩, .expectedJsonColumnPartStart⟩ := rfl

/-- a table definition with a JSON column parses, and its path is not empty -/
example : ∃ t, parseTokens .code [tk 0 (.kw .create), tk 6 (.kw .table), tk 12 (.ident ['t']), tk 14 .lp, tk 15 .lcu,
    tk 16 (.op (.single '.')), tk 17 (.ident ['a']), tk 18 .rcu,
    tk 19 .rarrow, tk 22 (.ident ['x']), tk 24 (.ident ['I', 'N', 'T']), tk 28 .rp, tk 29 .semi, tk 30 .eof] = .tree t ∧ t.PathsOk :=
  ⟨_, rfl, by simp [POp.PathsOk, PCreate.PathsOk, PColDef.PathOk, opOfCreates]⟩

end Sqlgrep.Props.C14
