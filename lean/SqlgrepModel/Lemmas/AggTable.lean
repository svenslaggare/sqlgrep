import SqlgrepModel.Lemmas.AggKeys
/-
The specification's table (`Spec.Agg.table`, `tableOfGroups`, `deviationClass`) taken apart: one group's row and HAVING
verdict (`perGroup`), what an answer of the specification says about the input, and the statements whose HAVING walk is
consistent (`StmtWF`).
-/
set_option linter.unusedSimpArgs false
namespace Sqlgrep
open Value Spec.Agg

def havingAggOf : HavingRef → Option (Nat × AggKind)
  | .agg id k => some (id, k)
  | .key _ => none

/-- the lowered statement is consistent: `havingAggs` lists the non-key aggregates of the HAVING walk in order,
and there are none without HAVING (the harness serialises both from the same walk). Every statement that `parseText`
yields satisfies it: `Pipeline.parseText_aggregate_wf` (`Lemmas/Pipeline.lean`). -/
structure StmtWF (q : AggStmt) : Prop where
  visit : q.havingVisit.filterMap havingAggOf = q.havingAggs
  noHaving : q.having = none → q.havingAggs = []

/-- what `keyedRows` makes of one row: `none` = not fixed, `some none` = does not pass WHERE, else the row with its key -/
def keyedRow (O : Oracles) (q : AggStmt) (env : Env) : Option (Option (List Value × Env)) :=
  match passes O q env with
  | none => none
  | some false => some none
  | some true => (keyOf O q env).map (fun k => some (k, env))

theorem keyedRows_eq (O : Oracles) (q : AggStmt) (envs : List Env) :
    keyedRows O q envs = (collect (envs.map (keyedRow O q))).map (·.filterMap id) := by
  induction envs with
  | nil => rfl
  | cons env rest ih =>
    simp only [keyedRows, List.map_cons, keyedRow, ih]
    cases passes O q env with
    | none => rfl
    | some b =>
      cases b with
      | false => simp only [collect]; cases collect (rest.map (keyedRow O q)) <;> rfl
      | true =>
        cases keyOf O q env
        · rfl
        · simp only [Option.map_some, collect]; cases collect (rest.map (keyedRow O q)) <;> rfl

theorem keyedRows_append (O : Oracles) (q : AggStmt) (e1 e2 : List Env) {r1 r2 : List (List Value × Env)}
    (h1 : keyedRows O q e1 = some r1) (h2 : keyedRows O q e2 = some r2) : keyedRows O q (e1 ++ e2) = some (r1 ++ r2) := by
  simp only [keyedRows_eq, Option.map_eq_some_iff] at h1 h2 ⊢
  obtain ⟨l1, h1, rfl⟩ := h1
  obtain ⟨l2, h2, rfl⟩ := h2
  refine ⟨l1 ++ l2, ?_, List.filterMap_append⟩
  rw [collect_eq_some_iff] at *
  rw [List.map_append, h1, h2, List.map_append]

theorem keyedRows_perm (O : Oracles) (q : AggStmt) {e1 e2 : List Env} (h : e1.Perm e2) :
    OptPerm (keyedRows O q e1) (keyedRows O q e2) := by
  rw [keyedRows_eq, keyedRows_eq]
  have hc := collect_perm (h.map (keyedRow O q))
  cases h1 : collect (e1.map (keyedRow O q)) with
  | none => rw [h1] at hc; rw [optPerm_none_left hc]; trivial
  | some l1 =>
    rw [h1] at hc
    obtain ⟨l2, h2, hp⟩ := optPerm_some_left hc
    rw [h2]; exact hp.filterMap id

theorem arguments_append {O : Oracles} {q : AggStmt} {kind : AggKind} {g1 g2 : List Env} {v1 v2 : List Value}
    (h1 : arguments O q kind g1 = some v1) (h2 : arguments O q kind g2 = some v2) :
    arguments O q kind (g1 ++ g2) = some (v1 ++ v2) := by
  unfold arguments at *
  rw [List.map_append, collect_append_eq, h1, h2]; rfl

theorem arguments_perm (O : Oracles) (q : AggStmt) (kind : AggKind) {g1 g2 : List Env} (h : g1.Perm g2) :
    OptPerm (arguments O q kind g1) (arguments O q kind g2) := collect_perm (h.map _)

theorem arguments_length {O : Oracles} {q : AggStmt} {kind : AggKind} {g : List Env} {vs : List Value}
    (h : arguments O q kind g = some vs) : vs.length = g.length :=
  (collect_length h).trans (List.length_map _)

theorem arguments_ne_nil {O : Oracles} {q : AggStmt} {kind : AggKind} {g : List Env} {vs : List Value} (hg : g ≠ [])
    (h : arguments O q kind g = some vs) : vs ≠ [] := by
  intro he
  exact hg (List.eq_nil_of_length_eq_zero (by rw [← arguments_length h, he]; rfl))

theorem cell_nonkey (O : Oracles) (q : AggStmt) (key : List Value) (g : List Env) (item : AggItem)
    (hk : ∀ e c, item.kind ≠ .groupKey e c) :
    cell O q key g item = (groupValue O q item.kind g).bind (fun v => okOf (applyTransform O item.transform v)) := by
  unfold cell
  cases h : item.kind with
  | groupKey e c => exact absurd h (hk e c)
  | _ => rfl

def keptRows (all : List (List Value × Bool)) : List (List Value) := (all.filter (·.2)).map (·.1)

def perGroup (O : Oracles) (q : AggStmt) (kg : List Value × List Env) : Option (List Value × Bool) :=
  (row O q kg.1 kg.2).bind (fun r => (accept O q kg.1 kg.2).map (fun a => (r, a)))

theorem perGroup_eq_some {O : Oracles} {q : AggStmt} {k : List Value} {g : List Env} {ra : List Value × Bool} :
    perGroup O q (k, g) = some ra ↔ row O q k g = some ra.1 ∧ accept O q k g = some ra.2 := by
  obtain ⟨r, a⟩ := ra
  simp only [perGroup]
  cases row O q k g <;> cases accept O q k g <;> simp

theorem tableOfGroups_eq (O : Oracles) (q : AggStmt) (gs : List (List Value × List Env)) :
    tableOfGroups O q gs =
      match collect (gs.map (perGroup O q)) with
      | none => none
      | some all =>
        some (match q.limit with
          | some n => (if q.distinct then firstRows (keptRows all) else keptRows all).take n
          | none => if q.distinct then firstRows (keptRows all) else keptRows all) := rfl

theorem accept_values {O : Oracles} {q : AggStmt} (hwf : StmtWF q) {k : List Value} {g : List Env} {a : Bool}
    (h : accept O q k g = some a) : ∀ p ∈ q.havingAggs, ∃ r, groupValue O q p.2 g = some r := by
  intro p hp
  unfold accept at h
  cases hh : q.having with
  | none => rw [hwf.noHaving hh] at hp; simp at hp
  | some hx =>
    simp only [hh] at h
    split at h
    · simp at h
    · rename_i gvals hgv
      obtain ⟨x, _, hx'⟩ := (collect_map_mem hgv).1 p hp
      cases hg : groupValue O q p.2 g with
      | none => simp [hg] at hx'
      | some r => exact ⟨r, rfl⟩

theorem perGroup_values {O : Oracles} {q : AggStmt} (hwf : StmtWF q) {k : List Value} {g : List Env} {ra : List Value × Bool}
    (h : perGroup O q (k, g) = some ra) :
    ∀ kind ∈ slotKinds q, (∀ e c, kind ≠ .groupKey e c) → ∃ r, groupValue O q kind g = some r := by
  intro kind hkind hnk
  obtain ⟨hr, ha⟩ := perGroup_eq_some.mp h
  simp only [slotKinds, List.mem_append, List.mem_map] at hkind
  rcases hkind with ⟨item, hitem, rfl⟩ | ⟨p, hp, rfl⟩
  · obtain ⟨v, _, hv⟩ := (collect_map_mem hr).1 item hitem
    rw [cell_nonkey O q k g item hnk] at hv
    cases hg : groupValue O q item.kind g with
    | none => simp [hg] at hv
    | some r => exact ⟨r, rfl⟩
  · exact accept_values hwf ha p hp

theorem firstNull_of_group {O : Oracles} {q : AggStmt} {g : List Env} (h : arrayAggFirstNull O q g = false)
    {kind : AggKind} (hk : kind ∈ slotKinds q) : ∀ vs, arguments O q kind g = some vs → firstNull kind vs = false := by
  intro vs hvs
  unfold arrayAggFirstNull at h
  have := List.any_eq_false.mp h kind hk
  simpa [hvs] using this

theorem table_eq_some {O : Oracles} {q : AggStmt} {envs : List Env} {t : List (List Value)} (h : table O q envs = some t) :
    ∃ rows, keyedRows O q envs = some rows ∧ keyRefsValid q = true ∧ KeysExact (rows.map (·.1)) ∧
      tableOfGroups O q (groups rows) = some t := by
  unfold table at h
  cases hr : keyedRows O q envs with
  | none => simp [hr] at h
  | some rows =>
    simp only [hr] at h
    split at h
    · simp at h
    · rename_i hcond
      simp only [Bool.or_eq_true, Bool.not_eq_true', not_or, Bool.not_eq_false] at hcond
      exact ⟨rows, rfl, hcond.1, keysExact_of_simple hcond.2, h⟩

theorem keyedRows_of_table {O : Oracles} {q : AggStmt} {envs : List Env} {t : List (List Value)} (h : table O q envs = some t) :
    ∃ rows, keyedRows O q envs = some rows :=
  (table_eq_some h).imp fun _ h => h.1

theorem table_of_keyed {O : Oracles} {q : AggStmt} {envs : List Env} {rows : List (List Value × Env)} {t : List (List Value)}
    (hr : keyedRows O q envs = some rows) (h : table O q envs = some t) :
    tableOfGroups O q (groups rows) = some t ∧ KeysExact (rows.map (·.1)) := by
  obtain ⟨rows', hr', _, hex, htab⟩ := table_eq_some h
  cases hr.symm.trans hr'
  exact ⟨htab, hex⟩

/-- the deviation class is empty iff every group is visible (outside D10) and no ARRAY_AGG starts with NULL (D15) -/
theorem deviationClass_eq_empty_iff {O : Oracles} {q : AggStmt} {envs : List Env} {rows : List (List Value × Env)}
    (hr : keyedRows O q envs = some rows) :
    deviationClass O q envs = "" ↔
      (∀ kg ∈ groups rows, groupVisible O q kg.2 = true) ∧ (∀ kg ∈ groups rows, arrayAggFirstNull O q kg.2 = false) := by
  unfold deviationClass
  simp only [hr]
  split
  · rename_i h15
    obtain ⟨kg, hkg, hk⟩ := List.any_eq_true.mp h15
    exact ⟨fun h => absurd h (by decide), fun h => by rw [h.2 kg hkg] at hk; cases hk⟩
  · rename_i h15
    split
    · rename_i h10
      obtain ⟨kg, hkg, hk⟩ := List.any_eq_true.mp h10
      exact ⟨fun h => absurd h (by decide), fun h => by rw [h.1 kg hkg] at hk; cases hk⟩
    · rename_i h10
      simp only [Bool.not_eq_true] at h15 h10
      refine ⟨fun _ => ⟨fun kg hkg => ?_, fun kg hkg => ?_⟩, fun _ => rfl⟩
      · simpa using List.any_eq_false.mp h10 kg hkg
      · simpa using List.any_eq_false.mp h15 kg hkg

theorem deviationClass_empty {O : Oracles} {q : AggStmt} {envs : List Env} {rows : List (List Value × Env)}
    (hr : keyedRows O q envs = some rows) (h : deviationClass O q envs = "") :
    (∀ kg ∈ groups rows, groupVisible O q kg.2 = true) ∧ (∀ kg ∈ groups rows, arrayAggFirstNull O q kg.2 = false) :=
  (deviationClass_eq_empty_iff hr).mp h

/-- what a batch run of an aggregate statement that ends well hands back: the table printed once, every line counted -/
theorem envsOf_append (t : TableInfo) (a b : List FileLine) : envsOf t (a ++ b) = envsOf t a ++ envsOf t b := by
  simp [envsOf, List.filter_append]

def tableOut (q : AggStmt) (t : List (List Value)) (total : Nat) : RunOut :=
  { printed := printResult { columns := q.items.map (·.name), rows := t } true, totalLines := total }

/-- `Spec.Agg.batch` without a join: nothing if a line is unreadable, otherwise the table of the lines' rows -/
theorem batch_nojoin_eq (O : Oracles) {qy : Query} (q : AggStmt) (hj : qy.join = none) (joined : List FileLine)
    (files : List (List FileLine)) :
    Spec.Agg.batch O qy q joined files =
      if files.flatten.any (fun fl => !fl.readable) then none
      else (table O q (envsOf qy.table files.flatten)).map fun t =>
        (tableOut q t files.flatten.length, deviationClass O q (envsOf qy.table files.flatten)) := by
  simp only [Spec.Agg.batch, hj, Spec.Agg.batchOver]
  cases table O q (envsOf qy.table files.flatten) <;> rfl

theorem batch_nojoin_inv {O : Oracles} {qy : Query} {q : AggStmt} (hj : qy.join = none) {joined : List FileLine}
    {files : List (List FileLine)} {a : RunOut × String} (h : Spec.Agg.batch O qy q joined files = some a) :
    ∃ t, table O q (envsOf qy.table files.flatten) = some t ∧
      a = (tableOut q t files.flatten.length, deviationClass O q (envsOf qy.table files.flatten)) := by
  rw [batch_nojoin_eq O q hj] at h
  split at h
  · cases h
  · obtain ⟨t, ht, rfl⟩ := Option.map_eq_some_iff.mp h
    exact ⟨t, ht, rfl⟩

/-- the specification answers for a batch run only when every line could be read, join or not -/
theorem batch_readable {O : Oracles} {qy : Query} {q : AggStmt} {joined : List FileLine} {files : List (List FileLine)}
    {a : RunOut × String} (h : Spec.Agg.batch O qy q joined files = some a) : ∀ fl ∈ files.flatten, fl.readable = true := by
  intro fl hfl
  cases hany : files.flatten.any (fun fl => !fl.readable) with
  | true => simp [Spec.Agg.batch, hany] at h
  | false => simpa using List.any_eq_false.mp hany fl hfl

end Sqlgrep
