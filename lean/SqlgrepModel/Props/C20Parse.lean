import SqlgrepModel.Lemmas.ParseClauses
import SqlgrepModel.Lemmas.ParsePrefixClauses
import SqlgrepModel.Lemmas.ParseSemicolon
import SqlgrepModel.Lemmas.ParseClauseOrder
import SqlgrepModel.Lemmas.LowerNames
import SqlgrepModel.Props.Pipeline
/-
C20 — parser-level section (the lexical half — letter case of keywords, whitespace, comments, string literals — and
the C20 manifest are `Props/C20.lean`).

Clauses of the property sentence treated here, over the model the `pstmt` / `stmt` cases execute
(`Model/ParseStmt.lean`, `Model/ParseExpr.lean`, `Model/Lower.lean`):
  * an optional trailing semicolon,
  * the relative order of the JOIN / WHERE / GROUP BY / HAVING / LIMIT clauses,
  * letter case of function, aggregate and type names (and of the modifier / mode words that are identifiers).

WHERE THEY ARE CONTINUED. The theorems of this file are about the clause loop (`clauseLoop`), about parse trees (`parseTokens`
up to token locations, `PSelect.SameUpToLoc`) and about the lowering of trees (`renameCalls`, `eraseLoc`). Whole token vectors,
the lowered statement (`parseToks` / `parseText` = `parsing::parse`) and the answer of the whole program (`runText`) are in
`Props/C20Stmt.lean` (SELECT) and `Props/C20Create.lean` (CREATE TABLE):
  * `clause_order_invariance` / `_from_run` (clause loop, slots up to locations)   ⟶ `C20Stmt.clause_order_invariance_tree`,
    `…_statement`, `…_text`, `clause_order_same_output`
  * `trailing_semicolon_statement` (trees up to locations)                          ⟶ `C20Stmt.trailing_semicolon_lowered`,
    `trailing_semicolon_text` (the texts `q`, `q ++ ";"`, `q ++ " ;"`), `trailing_semicolon_same_output`
  * `names_case_insensitive_statement` (trees related by `renameCalls`), `cast_type_case_insensitive`
                                                                                    ⟶ `C20Stmt.name_case_statement_partial`,
    `name_case_text_partial`, `name_case_same_output_partial` (token vectors; SELECT statements; one `ρ` per text)
  * `column_type_case_insensitive`, `regex_mode_case_insensitive` (CREATE TABLE: `parse_type`, `parse_regex_mode`)
                                                                                    ⟶ `C20Create.create_table_name_case_tree`,
    `…_statement`, `…_text`, `create_table_name_case_same_output`
  * `lowering_ignores_locations` in usable form: `C20Stmt.same_tree_same_statement`.

The common piece is *prefix determinism* of
the expression parser (`Lemmas/ParsePrefix.lean`): the six mutually recursive functions never look
past the first boundary token (clause keyword, `;`, `End`) of their input and treat all boundary tokens alike. With it
every WHERE / HAVING / GROUP BY segment whose expression is read in front of *one* boundary token is a clause
(`IsClause`: consumed exactly, whatever follows, at any locations), so clause order and the trailing `;` are theorems
about arbitrary expressions, the latter also for whole statements (`trailing_semicolon_statement`).
-/
namespace Sqlgrep.Props.C20Parse
open Sqlgrep Sqlgrep.Parse Sqlgrep.Lower

/-- **The clause loop stores every clause in its own slot**: for clauses of pairwise different
kinds, the slots filled are the same for every order in which they are stored. -/
theorem clause_slots_order_irrelevant {vs ws : List ClauseVal} (hp : vs.Perm ws)
    (hd : vs.Pairwise (fun a b => a.kind ≠ b.kind)) (c : Clauses) : putAll vs c = putAll ws c :=
  putAll_perm hp hd c

/-- **Prefix determinism of the expression parser**: with `swapB t2 s` = the state `s` whose tail from its first
boundary token on is replaced by the tokens of `t2` (another boundary token and anything behind it), the expression
parser answers on `swapB t2 s` what it answers on `s`, with the state it leaves transformed in the same way — for every
answer (tree, error, out of fuel) and every fuel. The same holds for the five other functions of the mutual block. -/
theorem expression_prefix_determinism (T : PrecTables) (hT : InertBoundary T) (t2 : PSt) (h2 : Boundary t2.cur.tok)
    (fuel : Nat) (s : PSt) : parseExpr T fuel (swapB t2 s) = (parseExpr T fuel s).mapSt (swapB t2) :=
  parseExpr_swapB hT h2 fuel s

/-- … in the form the clause loop needs: if the boundary-free tokens `body` are read as `e` in front of one boundary
tail, the same tokens at any other locations are read, in front of any other boundary tail and with any larger fuel,
as a tree equal to `e` up to locations, and the parser stops exactly in front of that tail. -/
theorem expression_consumes_exactly_its_tokens (T : PrecTables) (hT : InertBoundary T) (body body' : List PTok)
    (hnb : ∀ t ∈ body, ¬ Boundary t.tok) (hbody : body'.map (·.tok) = body.map (·.tok)) (tail0 tail : PSt)
    (hb0 : Boundary tail0.cur.tok) (hb : Boundary tail.cur.tok) (fuel0 fuel : Nat) (hf : fuel0 ≤ fuel) (e : PExpr)
    (hrun : parseExpr T fuel0 (PSt.prepend body tail0) = .ok e tail0) :
    ∃ e', parseExpr T fuel (PSt.prepend body' tail) = .ok e' tail ∧ e'.noLoc = e.noLoc :=
  parseExpr_prefix hT body body' hnb hbody tail0 tail hb0 hb fuel0 fuel hf e hrun

/-- **Clause order does not matter, given clauses**: if every segment is a
clause, the runs of the clause loop over two orders of the same clauses both succeed, consume everything up to `End`,
and return the same slots up to token locations (permuting clauses moves every token, so locations cannot agree). -/
theorem clause_order_invariance_of_clauses (T : PrecTables) (fuel0 : Nat) (final1 final2 : PSt)
    (h1 : final1.cur.tok = .eof) (h2 : final2.cur.tok = .eof)
    (segs1 segs2 : List (List PTok × ClauseVal)) (hne : segs1 ≠ [])
    (hperm : (segs1.map (·.2)).Perm (segs2.map (·.2)))
    (hs1 : ∀ p ∈ segs1, IsClause T fuel0 p.1 p.2) (hs2 : ∀ p ∈ segs2, IsClause T fuel0 p.1 p.2)
    (hd : segs1.Pairwise (fun a b => a.2.kind ≠ b.2.kind))
    (fuel : Nat) (hfuel : fuel0 + segs1.length ≤ fuel) :
    ∃ c1 c2, clauseLoop T fuel {} (PSt.prependAll (segs1.map (·.1)) final1) = .ok c1 final1 ∧
      clauseLoop T fuel {} (PSt.prependAll (segs2.map (·.1)) final2) = .ok c2 final2 ∧ c1.Same c2 :=
  clauseLoop_perm T fuel0 final1 final2 h1 h2 segs1 segs2 hne hperm hs1 hs2 hd fuel hfuel

/-- **`WHERE e`, `HAVING e`, `GROUP BY e, …` are clauses, for arbitrary expressions**: a segment made of the keyword(s)
and expression tokens `body'` is a clause as soon as the same tokens (at any locations; no clause keyword, `;` or `End`
among them) are read by the expression parser in front of *one* boundary token. -/
theorem where_is_a_clause (T : PrecTables) (hT : InertBoundary T) (body body' : List PTok)
    (hnb : ∀ t ∈ body, ¬ Boundary t.tok) (hbody : body'.map (·.tok) = body.map (·.tok)) (tail0 : PSt)
    (hb0 : Boundary tail0.cur.tok) (fuel0 : Nat) (e : PExpr)
    (hrun : parseExpr T fuel0 (PSt.prepend body tail0) = .ok e tail0) (l : Loc) :
    IsClause T fuel0 (⟨l, .kw .where⟩ :: body') (.filter e) :=
  isClause_expr hT true body body' hnb hbody tail0 hb0 fuel0 e hrun l

theorem having_is_a_clause (T : PrecTables) (hT : InertBoundary T) (body body' : List PTok)
    (hnb : ∀ t ∈ body, ¬ Boundary t.tok) (hbody : body'.map (·.tok) = body.map (·.tok)) (tail0 : PSt)
    (hb0 : Boundary tail0.cur.tok) (fuel0 : Nat) (e : PExpr)
    (hrun : parseExpr T fuel0 (PSt.prepend body tail0) = .ok e tail0) (l : Loc) :
    IsClause T fuel0 (⟨l, .kw .having⟩ :: body') (.having e) :=
  isClause_expr hT false body body' hnb hbody tail0 hb0 fuel0 e hrun l

theorem group_by_is_a_clause (T : PrecTables) (hT : InertBoundary T) (body body' : List PTok)
    (hnb : ∀ t ∈ body, ¬ Boundary t.tok) (hbody : body'.map (·.tok) = body.map (·.tok)) (tail0 : PSt)
    (hb0 : Boundary tail0.cur.tok) (fuel0 : Nat) (ks : List PExpr)
    (hrun : groupKeys T fuel0 (PSt.prepend body tail0) = .ok ks tail0) (l1 l2 : Loc) :
    IsClause T fuel0 (⟨l1, .kw .group⟩ :: ⟨l2, .kw .by⟩ :: body') (.groupBy ks) :=
  isClause_groupBy hT body body' hnb hbody tail0 hb0 fuel0 ks hrun l1 l2

/-- **Clause order does not matter** (clause loop; for whole statements see `C20Stmt.clause_order_invariance_statement`)
— `clause_order_invariance`: let the first token vector consist of clauses
(`ClauseSeg`: `LIMIT n`, a JOIN, or `WHERE e` / `HAVING e` / `GROUP BY e, …` with *arbitrary* expressions, each
expression being readable on its own in front of some boundary token) of pairwise different kinds, followed by `End`;
let the second consist of the same clauses (`clauseKey`: the same token sequences with the same values, at any
locations) in any other order. Then the clause loop reads both completely and returns the same slots up to token
locations. That each clause parser consumes exactly its clause, whatever follows (`IsClause`), is not assumed: it follows
from `ClauseSeg` (`isClause_of_seg`). -/
theorem clause_order_invariance (T : PrecTables) (hT : InertBoundary T) (fuel0 : Nat) (final1 final2 : PSt)
    (h1 : final1.cur.tok = .eof) (h2 : final2.cur.tok = .eof)
    (segs1 segs2 : List (List PTok × ClauseVal)) (hne : segs1 ≠ [])
    (hs1 : ∀ p ∈ segs1, ClauseSeg T fuel0 (p.1.map (·.tok)) p.2)
    (hperm : (segs1.map clauseKey).Perm (segs2.map clauseKey))
    (hd : segs1.Pairwise (fun a b => a.2.kind ≠ b.2.kind))
    (fuel : Nat) (hfuel : fuel0 + segs1.length ≤ fuel) :
    ∃ c1 c2, clauseLoop T fuel {} (PSt.prependAll (segs1.map (·.1)) final1) = .ok c1 final1 ∧
      clauseLoop T fuel {} (PSt.prependAll (segs2.map (·.1)) final2) = .ok c2 final2 ∧ c1.Same c2 :=
  clauseLoop_perm_tokens hT fuel0 final1 final2 h1 h2 segs1 segs2 hne hs1 hperm hd fuel hfuel

/-- `LIMIT n` is a clause whatever follows (no hypothesis) -/
theorem limit_is_a_clause (T : PrecTables) (l1 l2 : Loc) (n : Int) :
    IsClause T 0 [⟨l1, .kw .limit⟩, ⟨l2, .int n⟩] (.limit (asUsize n)) := isClause_limit T l1 l2 n

/-- `INNER|OUTER JOIN u::'f' ON a.b = c.d` is a clause whatever follows (no hypothesis) -/
theorem join_is_a_clause (T : PrecTables) (l : Fin 13 → Loc) (outer : Bool) (u f a b c d : List Char) :
    IsClause T 0
      [⟨l 0, .kw (if outer then .outer else .inner)⟩, ⟨l 1, .kw .join⟩, ⟨l 2, .ident u⟩, ⟨l 3, .dcolon⟩, ⟨l 4, .str f⟩,
       ⟨l 5, .kw .on⟩, ⟨l 6, .ident a⟩, ⟨l 7, .op (.single '.')⟩, ⟨l 8, .ident b⟩, ⟨l 9, .op (.single '=')⟩,
       ⟨l 10, .ident c⟩, ⟨l 11, .op (.single '.')⟩, ⟨l 12, .ident d⟩]
      (.join { joinerTable := u, joinerFilename := f, leftTable := a, leftColumn := b, rightTable := c,
               rightColumn := d, isOuter := outer }) := isClause_join T l outer u f a b c d

/-- `WHERE x` / one identifier is a clause whatever follows, for every table that gives the clause keywords, `;` and
`End` no precedence (`inertBoundary_code`: true of the code's tables): the simplest instance of the expression case,
showing why the value can only be the same *up to locations* — the column node carries the location of the token
that follows it -/
theorem where_ident_is_a_clause (T : PrecTables) (hT : InertBoundary T) (l1 l2 : Loc) (x : List Char) :
    IsClause T 4 [⟨l1, .kw .where⟩, ⟨l2, .ident x⟩] (.filter (.column ⟨0, 0⟩ x)) := isClause_where_ident T hT l1 l2 x

/-- **Clause order does not matter, starting from "the first order parses"** — `clause_order_invariance_from_run`:
let `segs1` be segments of the shape "clause keyword, then tokens none of which is a clause keyword, `;` or `End`"
(`SegShape`: what one gets by cutting the token vector in front of every clause keyword) and suppose the clause loop
reads `segs1` followed by `End` without error. Then it stopped at that `End`, and for every rearrangement `segs2` of
the segments (the same token sequences, at any locations) followed by `End` the loop succeeds as well, stops at `End`,
and returns the same slots up to locations. No hypothesis about the individual clauses is left: that every segment is
a clause, with which value, and that the kinds are pairwise different is read off the successful run. -/
theorem clause_order_invariance_from_run (T : PrecTables) (hT : InertBoundary T) (fuel : Nat)
    (segs1 segs2 : List (List PTok)) (final1 final2 : PSt) (h1 : final1.cur.tok = .eof) (h2 : final2.cur.tok = .eof)
    (hshape : ∀ seg ∈ segs1, SegShape seg)
    (hperm : (segs1.map (fun seg => seg.map (·.tok))).Perm (segs2.map (fun seg => seg.map (·.tok))))
    (c1 : Clauses) (sF : PSt) (hrun : clauseLoop T fuel {} (PSt.prependAll segs1 final1) = .ok c1 sF) :
    sF = final1 ∧
      ∃ c2, clauseLoop T (fuel + segs1.length) {} (PSt.prependAll segs2 final2) = .ok c2 final2 ∧ c1.Same c2 :=
  clauseLoop_perm_of_run hT fuel segs1 segs2 final1 final2 h1 h2 hshape hperm c1 sF hrun

/-- the shape hypothesis on a segment with an expression: `WHERE a = 1` -/
example (w : Loc) (l : Fin 3 → Loc) : SegShape (⟨w, .kw .where⟩ :: exampleBody l) :=
  ⟨_, _, rfl, by simp [ClauseKw], exampleBody_nb l⟩

/-- **Optional trailing semicolon** — `trailing_semicolon` (clause level, arbitrary expressions): the same clauses
followed by `End`, or by `;` `End` (token vectors at any locations), are both read completely by the clause loop and
give the same slots up to locations; the `;` is consumed by the loop's own `;` arm. -/
theorem trailing_semicolon (T : PrecTables) (hT : InertBoundary T) (fuel0 : Nat) (l0 l l' : Loc)
    (segs1 segs2 : List (List PTok × ClauseVal)) (hne : segs1 ≠ [])
    (hs1 : ∀ p ∈ segs1, ClauseSeg T fuel0 (p.1.map (·.tok)) p.2)
    (hsame : segs1.map clauseKey = segs2.map clauseKey)
    (hd : segs1.Pairwise (fun a b => a.2.kind ≠ b.2.kind))
    (fuel : Nat) (hfuel : fuel0 + segs1.length + 1 ≤ fuel) :
    ∃ c1 c2, clauseLoop T fuel {} (PSt.prependAll (segs1.map (·.1)) ⟨⟨l0, .eof⟩, []⟩) = .ok c1 ⟨⟨l0, .eof⟩, []⟩ ∧
      clauseLoop T fuel {} (PSt.prependAll (segs2.map (·.1)) ⟨⟨l, .semi⟩, [⟨l', .eof⟩]⟩) = .ok c2 ⟨⟨l', .eof⟩, []⟩ ∧
      c1.Same c2 :=
  clauseLoop_trailing_semi hT fuel0 l0 l l' segs1 segs2 hne hs1 hsame hd fuel hfuel

/-- the local step: where a clause run ends at `End`, the same run followed by `;` `End` ends with the same slots, the
`;` being consumed by the loop's own `;` arm -/
theorem trailing_semicolon_loop_step (T : PrecTables) (fuel : Nat) (c : Clauses) (l l' : Loc) :
    clauseLoop T (fuel + 1) c { cur := ⟨l, .semi⟩, rest := [⟨l', .eof⟩] } = .ok c { cur := ⟨l', .eof⟩, rest := [] } := by
  simp [clauseLoop, clauseTurn, next]

/-- **Optional trailing semicolon, whole statements** (trees up to locations; composed with the lowering and the
tokenizer in `C20Stmt.trailing_semicolon_text`) — `trailing_semicolon_statement`: let `pre` be any token vector
without `;` and without `End` tokens. `Parser::parse` (with the fuel it is run with) reads `pre ++ [End]` as a SELECT
statement **iff** it reads `pre ++ [;, End]` as a SELECT statement, and then the two trees are the same up to token
locations (`PSelect.SameUpToLoc`: same DISTINCT flag, projections and aliases, table, file, and the same five clause
slots, expressions compared modulo locations) — for arbitrary projections and clause expressions, any locations of
`;` and `End`.
What the side condition excludes, and what happens there:
* `;` inside `pre`: the equivalence fails — `SELECT x FROM t ; ;` followed by `End` is accepted (the loop takes one `;`,
  `Parser::parse` the other) but followed by `;` `End` it is rejected with `TooManyTokens` (example below);
* CREATE TABLE statements: their `;` is not optional — it is the terminator `parse_create_table` demands
  (`ExpectedSemiColon` without it, example below), so the theorem is about SELECT trees only; a vector whose tree is a
  CREATE TABLE contains a `;` and is outside the side condition anyway. -/
theorem trailing_semicolon_statement (T : PrecTables) (hT : InertBoundary T) (pre : List PTok)
    (hpre : ∀ t ∈ pre, t.tok ≠ .semi ∧ t.tok ≠ .eof) (l0 l l' : Loc) :
    (∀ q, parseTokens T (pre ++ [⟨l0, .eof⟩]) = .tree (.select q) →
      ∃ q', parseTokens T (pre ++ [⟨l, .semi⟩, ⟨l', .eof⟩]) = .tree (.select q') ∧ q.SameUpToLoc q') ∧
    (∀ q', parseTokens T (pre ++ [⟨l, .semi⟩, ⟨l', .eof⟩]) = .tree (.select q') →
      ∃ q, parseTokens T (pre ++ [⟨l0, .eof⟩]) = .tree (.select q) ∧ q'.SameUpToLoc q) :=
  ⟨fun q h => semicolon_transfer hT pre hpre l0 l l' ⟨⟨l0, .eof⟩, []⟩ ⟨⟨l, .semi⟩, [⟨l', .eof⟩]⟩ (.inl ⟨rfl, rfl⟩) q h,
   fun q' h => semicolon_transfer hT pre hpre l0 l l' ⟨⟨l, .semi⟩, [⟨l', .eof⟩]⟩ ⟨⟨l0, .eof⟩, []⟩ (.inr ⟨rfl, rfl⟩) q' h⟩

/-- the hypotheses of `trailing_semicolon_statement` are satisfiable: the model reads
`SELECT a, b AS c FROM t WHERE a = 1 GROUP BY a End` as a SELECT statement -/
example : isSelect (parseTokens PrecTables.code (exampleSelect ++ [⟨⟨0, 15⟩, .eof⟩])) = true ∧
    (∀ t ∈ exampleSelect, t.tok ≠ .semi ∧ t.tok ≠ .eof) := by decide +kernel

/-- `; ;`: with a `;` inside `pre` the equivalence fails (accepted with `End`, `TooManyTokens` with `;` `End`) -/
example : isSelect (parseTokens PrecTables.code (exampleSelectTwoSemis ++ [⟨⟨0, 6⟩, .eof⟩])) = true ∧
    errKind? (parseTokens PrecTables.code (exampleSelectTwoSemis ++ [⟨⟨0, 6⟩, .semi⟩, ⟨⟨0, 7⟩, .eof⟩])) = some .tooManyTokens := by
  decide +kernel

/-- CREATE TABLE: the `;` is mandatory -/
example : isCreate (parseTokens PrecTables.code (exampleCreate ++ [⟨⟨0, 16⟩, .semi⟩, ⟨⟨0, 17⟩, .eof⟩])) = true ∧
    errKind? (parseTokens PrecTables.code (exampleCreate ++ [⟨⟨0, 16⟩, .eof⟩])) = some .expectedSemiColon := by
  decide +kernel

/-- … and without clauses: `SELECT … FROM t;` and `SELECT … FROM t` give the same (empty) slots -/
theorem trailing_semicolon_no_clause (T : PrecTables) (fuel : Nat) (l l' : Loc) :
    (∃ s', clauses T (fuel + 1) { cur := ⟨l, .semi⟩, rest := [⟨l', .eof⟩] } = .ok {} s') ∧
    (∃ s', clauses T (fuel + 1) { cur := ⟨l, .eof⟩, rest := [] } = .ok {} s') := by
  constructor
  · exact ⟨{ cur := ⟨l', .eof⟩, rest := [] }, by simp [clauses, clauseLoop, clauseTurn, next]⟩
  · exact ⟨{ cur := ⟨l, .eof⟩, rest := [] }, by simp [clauses]⟩

/-- after a statement, `Parser::parse` accepts one optional `;` and returns the statement unchanged (for every
statement parser result) -/
theorem trailing_semicolon_after_statement (T : PrecTables) (fuel : Nat) (s s' : PSt) (op : POp) (l l' : Loc)
    (hk : s.cur.tok = .kw .select ∨ s.cur.tok = .kw .create)
    (h : parseStatement T fuel s = .ok op s') :
    (s' = { cur := ⟨l', .eof⟩, rest := [] } → parseOp T fuel s = .ok op s') ∧
    (s' = { cur := ⟨l, .semi⟩, rest := [⟨l', .eof⟩] } → parseOp T fuel s = .ok op { cur := ⟨l', .eof⟩, rest := [] }) := by
  have hk' : ¬(s.cur.tok ≠ .kw .select ∧ s.cur.tok ≠ .kw .create) := by
    rcases hk with h | h <;> simp [h]
  constructor
  · intro hs
    unfold parseOp
    simp only [hk', if_false, h]
    subst hs
    simp [optSemi]
  · intro hs
    unfold parseOp
    simp only [hk', if_false, h]
    subst hs
    simp [optSemi, next]

/-- **Function names** (all expressions without aggregates — WHERE, GROUP BY parts, aggregate
arguments): respelling every call name by a change of letter case (`CaseOnly ρ`: the lower-cased word is the same)
does not change the lowering; only the payload of an `UndefinedFunction` error shows the spelling. -/
theorem names_case_insensitive (ρ : List Char → List Char) (hρ : CaseOnly ρ) (e : PExpr) :
    lowerPlain (e.renameCalls ρ) = (lowerPlain e).mapErr (CErr.rename ρ) :=
  lowerPlain_case ρ hρ e

/-- **Aggregate names**: `transform_call_aggregate` and the aggregate detection see a name only
lower-cased, so `SUM(x)`, `sum(x)` and `Sum(x)` are the same aggregate with the same default name. -/
theorem aggregate_names_case_insensitive {n1 n2 : List Char} (h : lowerChars n1 = lowerChars n2)
    (loc : Loc) (args : List PExpr) (d : Option Bool) (i : Nat) :
    lowerCallAggregate loc n1 args d i = lowerCallAggregate loc n2 args d i ∧
    isAggregateName n1 = isAggregateName n2 :=
  ⟨lowerCallAggregate_case h loc args d i, isAggregateName_case h⟩

/-- **Type names in casts**: `x::INT` and `x::int` build the same node -/
theorem cast_type_case_insensitive {n1 n2 : List Char} (h : lowerChars n1 = lowerChars n2) (loc l1 l2 : Loc)
    (lhs t : PExpr) :
    combine loc .dcolon lhs (.column l1 n1) = .ok t ↔ combine loc .dcolon lhs (.column l2 n2) = .ok t := by
  simp only [combine, h]
  cases VType.ofIdent (lowerChars n2) <;> simp

/-- **Type names in column definitions**: `INT`, `int`, `Int[]` … — the type `parse_type` returns
depends on the identifier only through its lower-cased spelling -/
theorem column_type_case_insensitive {n1 n2 : List Char} (h : lowerChars n1 = lowerChars n2) (fuel : Nat) (l : Loc)
    (rest : List PTok) (t : VType) (s' : PSt) :
    parseType fuel { cur := ⟨l, .ident n1⟩, rest := rest } = .ok t s' ↔
    parseType fuel { cur := ⟨l, .ident n2⟩, rest := rest } = .ok t s' := by
  simp only [parseType, consumeIdentifier, PRes.bind, next]
  cases rest with
  | nil => simp [mkErr]
  | cons r rs =>
    simp only
    cases typeBrackets fuel 0 { cur := r, rest := rs } with
    | ok n s1 => simp only [h]; cases VType.ofIdent (lowerChars n2) <;> simp
    | err e s1 => simp
    | fuel => simp

/-- **Pattern modes**: every spelling of `split` / `match` is recognised -/
theorem regex_mode_case_insensitive (n : List Char) (l : Loc) (t : PTok) (r : List PTok) :
    (lowerChars n = "split".toList →
      parseRegexMode { cur := ⟨l, .ident n⟩, rest := t :: r } = .ok .split { cur := t, rest := r }) ∧
    (lowerChars n = "match".toList →
      parseRegexMode { cur := ⟨l, .ident n⟩, rest := t :: r } = .ok .captures { cur := t, rest := r }) := by
  constructor
  · intro h; simp [parseRegexMode, h, next]
  · intro h
    simp [parseRegexMode, h, next]

/-- **The statement parser reads only the tokens**: on a token vector with other locations
`Parser::parse` returns the same tree up to locations, or an error of the same kind -/
theorem parser_ignores_locations (T : PrecTables) (toks : List PTok) :
    parseTokens T (toks.map PTok.strip) = (parseTokens T toks).strip :=
  parseTokens_strip T toks

/-- **The lowering reads a tree's locations only into errors**: trees equal up to locations lower
to the same statement, or to a conversion error of the same kind -/
theorem lowering_ignores_locations (rv : List Char → Bool) (t : POp) :
    lowerStatement rv t.eraseLoc = (lowerStatement rv t).mapErr CErr.strip :=
  lowerStatement_erase rv t

/-- whole-statement form of `names_case_insensitive`: letter case of function and aggregate names does not matter to
any statement (projections with aggregate extraction and naming, WHERE, GROUP BY, HAVING). The two trees are related
by `renameCalls`; that respelling the TOKENS respells the tree this way is `C20Stmt.name_case_tree_partial`. -/
theorem names_case_insensitive_statement (ρ : List Char → List Char) (hρ : CaseOnly ρ) (rv : List Char → Bool) (t : POp) :
    lowerStatement rv (t.renameCalls ρ) = (lowerStatement rv t).mapErr (CErr.rename ρ) :=
  lowerStatement_rename ρ hρ rv t

/-- **Parse to the same statement and therefore produce the same output** (C20 end to end): texts
that are layouts of the same lexemes — letter case of keywords, whitespace, line breaks, comments — give the same
end-to-end run of the program (`Props/Pipeline.lean`: tokenizer `layout_invariance` + `location_blind` +
`runText_depends_on_statements`) -/
theorem same_statement_same_output (F : Pipeline.Facts) (D₁ D₂ Q₁ Q₂ : Lex.Layout)
    (hD₁ : D₁.Ok (Pipeline.lexOracles F)) (hD₂ : D₂.Ok (Pipeline.lexOracles F))
    (hQ₁ : Q₁.Ok (Pipeline.lexOracles F)) (hQ₂ : Q₂.Ok (Pipeline.lexOracles F))
    (sameD : D₁.lexemes.map (·.tok (Pipeline.lexOracles F)) = D₂.lexemes.map (·.tok (Pipeline.lexOracles F)))
    (sameQ : Q₁.lexemes.map (·.tok (Pipeline.lexOracles F)) = Q₂.lexemes.map (·.tok (Pipeline.lexOracles F)))
    (fmt : Print.Format) (single : Bool) (files : List (List Nat)) (d q : LStmt)
    (hc₁ : Pipeline.classesCover F D₁.text = true ∧ Pipeline.classesCover F Q₁.text = true)
    (hc₂ : Pipeline.classesCover F D₂.text = true ∧ Pipeline.classesCover F Q₂.text = true)
    (hd : Pipeline.parseText (Pipeline.lexOracles F) (Pipeline.regexValidFn F) D₁.text = .stmt d)
    (hp : (Pipeline.createPatterns d).all (fun re => ((Utf8.decode re).bind (Pipeline.regexValidOf F)).isSome) = true)
    (hq : Pipeline.parseText (Pipeline.lexOracles F) (Pipeline.regexValidFn F) Q₁.text = .stmt q) :
    Pipeline.runText F D₁.text Q₁.text fmt single files = Pipeline.runText F D₂.text Q₂.text fmt single files :=
  Props.Pipeline.same_statement_same_output F D₁ D₂ Q₁ Q₂ hD₁ hD₂ hQ₁ hQ₂ sameD sameQ fmt single files d q hc₁ hc₂ hd hp hq

/-! ### non-vacuity -/

/-- a respelling that upper-cases one name is a change of case only -/
example : CaseOnly (fun n => if n = ['a', 'b', 's'] then ['A', 'B', 'S'] else n) := by
  intro n
  by_cases h : n = ['a', 'b', 's']
  · subst h; decide
  · simp [h]

example : lowerChars ['S', 'u', 'M'] = lowerChars ['s', 'u', 'm'] := by decide +kernel

example : lowerPlain (.call ⟨0, 0⟩ ['A', 'B', 'S'] [.column ⟨0, 4⟩ ['x']] none)
    = lowerPlain (.call ⟨0, 0⟩ ['a', 'b', 's'] [.column ⟨0, 4⟩ ['x']] none) := rfl

/-- three clauses in two orders: LIMIT, JOIN and LIMIT/JOIN swapped satisfy the hypotheses of
`clause_order_invariance_of_clauses` without any assumption -/
example (T : PrecTables) (l : Fin 13 → Loc) (l1 l2 e1 e2 : Loc) :
    ∃ c1 c2,
      clauseLoop T 2 {} (PSt.prependAll
        [[⟨l1, .kw .limit⟩, ⟨l2, .int 5⟩],
         [⟨l 0, .kw .inner⟩, ⟨l 1, .kw .join⟩, ⟨l 2, .ident ['u']⟩, ⟨l 3, .dcolon⟩, ⟨l 4, .str ['f']⟩, ⟨l 5, .kw .on⟩,
          ⟨l 6, .ident ['t']⟩, ⟨l 7, .op (.single '.')⟩, ⟨l 8, .ident ['k']⟩, ⟨l 9, .op (.single '=')⟩,
          ⟨l 10, .ident ['u']⟩, ⟨l 11, .op (.single '.')⟩, ⟨l 12, .ident ['k']⟩]]
        { cur := ⟨e1, .eof⟩, rest := [] }) = .ok c1 { cur := ⟨e1, .eof⟩, rest := [] } ∧
      clauseLoop T 2 {} (PSt.prependAll
        [[⟨l 0, .kw .inner⟩, ⟨l 1, .kw .join⟩, ⟨l 2, .ident ['u']⟩, ⟨l 3, .dcolon⟩, ⟨l 4, .str ['f']⟩, ⟨l 5, .kw .on⟩,
          ⟨l 6, .ident ['t']⟩, ⟨l 7, .op (.single '.')⟩, ⟨l 8, .ident ['k']⟩, ⟨l 9, .op (.single '=')⟩,
          ⟨l 10, .ident ['u']⟩, ⟨l 11, .op (.single '.')⟩, ⟨l 12, .ident ['k']⟩],
         [⟨l1, .kw .limit⟩, ⟨l2, .int 5⟩]]
        { cur := ⟨e2, .eof⟩, rest := [] }) = .ok c2 { cur := ⟨e2, .eof⟩, rest := [] } ∧ c1.Same c2 := by
  have hj := isClause_join T l false ['u'] ['f'] ['t'] ['k'] ['u'] ['k']
  have hl := isClause_limit T l1 l2 5
  exact clause_order_invariance_of_clauses T 0 _ _ rfl rfl
    [(_, .limit (asUsize 5)), (_, .join _)] [(_, .join _), (_, .limit (asUsize 5))] (by simp)
    (by simp; exact List.Perm.swap _ _ _)
    (by intro p hp; simp at hp; rcases hp with rfl | rfl; exact hl; exact hj)
    (by intro p hp; simp at hp; rcases hp with rfl | rfl; exact hj; exact hl)
    (by simp [ClauseVal.kind]) 2 (by simp)

/-- `WHERE x LIMIT 5` and `LIMIT 5 WHERE x` give the same slots (up to locations), with the code's tables -/
example (l1 l2 l3 l4 e1 e2 : Loc) :
    ∃ c1 c2,
      clauseLoop PrecTables.code 6 {} (PSt.prependAll
        [[⟨l1, .kw .where⟩, ⟨l2, .ident ['x']⟩], [⟨l3, .kw .limit⟩, ⟨l4, .int 5⟩]]
        { cur := ⟨e1, .eof⟩, rest := [] }) = .ok c1 { cur := ⟨e1, .eof⟩, rest := [] } ∧
      clauseLoop PrecTables.code 6 {} (PSt.prependAll
        [[⟨l3, .kw .limit⟩, ⟨l4, .int 5⟩], [⟨l1, .kw .where⟩, ⟨l2, .ident ['x']⟩]]
        { cur := ⟨e2, .eof⟩, rest := [] }) = .ok c2 { cur := ⟨e2, .eof⟩, rest := [] } ∧ c1.Same c2 := by
  have hw := isClause_where_ident PrecTables.code inertBoundary_code l1 l2 ['x']
  have hl : IsClause PrecTables.code 4 [⟨l3, .kw .limit⟩, ⟨l4, .int 5⟩] (.limit (asUsize 5)) :=
    ⟨(isClause_limit PrecTables.code l3 l4 5).head,
     fun fuel c tail _ hb hf => (isClause_limit PrecTables.code l3 l4 5).turn fuel c tail (by omega) hb hf⟩
  exact clause_order_invariance_of_clauses PrecTables.code 4 _ _ rfl rfl
    [(_, .filter (.column ⟨0, 0⟩ ['x'])), (_, .limit (asUsize 5))] [(_, .limit (asUsize 5)), (_, .filter (.column ⟨0, 0⟩ ['x']))]
    (by simp) (by simp; exact List.Perm.swap _ _ _)
    (by intro p hp; simp at hp; rcases hp with rfl | rfl; exact hw; exact hl)
    (by intro p hp; simp at hp; rcases hp with rfl | rfl; exact hl; exact hw)
    (by simp [ClauseVal.kind]) 6 (by simp)

/-- `WHERE a = 1 LIMIT 5` and `LIMIT 5 WHERE a = 1` (all tokens at arbitrary, different locations) satisfy the
hypotheses of `clause_order_invariance` with the code's tables: the only thing used about the expression is one run of
the model on `a = 1 End` -/
example (l m : Fin 3 → Loc) (w1 w2 k1 k2 k3 k4 e1 e2 : Loc) :
    ∃ c1 c2,
      clauseLoop PrecTables.code 20 {} (PSt.prependAll
        [⟨w1, .kw .where⟩ :: exampleBody l, [⟨k1, .kw .limit⟩, ⟨k2, .int 5⟩]] ⟨⟨e1, .eof⟩, []⟩) = .ok c1 ⟨⟨e1, .eof⟩, []⟩ ∧
      clauseLoop PrecTables.code 20 {} (PSt.prependAll
        [[⟨k3, .kw .limit⟩, ⟨k4, .int 5⟩], ⟨w2, .kw .where⟩ :: exampleBody m] ⟨⟨e2, .eof⟩, []⟩) = .ok c2 ⟨⟨e2, .eof⟩, []⟩ ∧
      c1.Same c2 := by
  let e : PExpr := .binop (l 1) (.single '=') (.column (l 1) ['a']) (.value (l 2) (.int 1))
  refine clause_order_invariance PrecTables.code inertBoundary_code 10 _ _ rfl rfl
    [(⟨w1, .kw .where⟩ :: exampleBody l, .filter e), ([⟨k1, .kw .limit⟩, ⟨k2, .int 5⟩], .limit (asUsize 5))]
    [([⟨k3, .kw .limit⟩, ⟨k4, .int 5⟩], .limit (asUsize 5)), (⟨w2, .kw .where⟩ :: exampleBody m, .filter e)]
    (by simp) ?_ ?_ (by simp [ClauseVal.kind]) 20 (by simp)
  · intro p hp
    simp only [List.mem_cons, List.mem_nil_iff, or_false] at hp
    rcases hp with rfl | rfl
    · exact ClauseSeg.filter (exampleBody l) (exampleBody_nb l) ⟨⟨e1, .eof⟩, []⟩ (by simp [Boundary]) e (exampleRun l e1)
    · exact ClauseSeg.limit 5
  · simp only [List.map_cons, List.map_nil, clauseKey, exampleBody]
    exact List.Perm.swap _ _ _

end Sqlgrep.Props.C20Parse
