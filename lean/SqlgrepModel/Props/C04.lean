import SqlgrepModel.Lemmas.AggJoin
/-
C04 — GROUP BY: one row per group, every aggregate computed from that group's rows.

The engine (`Model/Engine.lean`: `cellStep`, `updateAggregate(s)`, `aggUpdateRow`, `publishPercentiles`, `aggResult`,
`finalResult` — the definitions the driver executes) keeps running state per (group key, aggregate index) and never
remembers rows. The specification (`Spec/Agg.lean`) computes every cell from the complete list of its group's rows.
The theorems below relate the two for ALL statements, inputs and histories:

  1. locality          an update addresses exactly one cell; a row touches only its own group;
  2. coupling          after any sequence of rows, the cell (key, idx) is the fold of aggregate idx over exactly the
                       rows of group `key` (those that passed WHERE, in arrival order): `R init []`, `R` preserved;
  3. per aggregate     that fold shows the specification's value (COUNT(*), COUNT(c), COUNT(DISTINCT c), SUM, AVG,
                       STDDEV/VARIANCE, MIN, MAX, PERCENTILE, BOOL_AND, BOOL_OR, STRING_AGG, ARRAY_AGG);
  4. result            the table built from a coupled state is the specification's table: one row per distinct key,
                       ascending with NULL first, HAVING per group, DISTINCT per table, LIMIT = first n rows;
  5. refinement        2 + 4 for a whole input, including "no update fails", at engine level (`agg_refines_spec`) and for
                       the very function the driver executes against the answer `./check` compares (`batch_model_eq_spec`).

Known deviations of the code are carved out visibly, not hidden: D10 (a group in which no aggregate created a
`group_values` entry is not listed) and D15 (ARRAY_AGG whose first value is NULL is refused) appear as the
hypotheses `groupVisible` / `arrayAggFirstNull` (resp. `deviationClass … = ""`).
-/
namespace Sqlgrep.Props.C04
open Sqlgrep Sqlgrep.Value Sqlgrep.Spec.Agg

/-- `update_aggregate` for aggregate `idx` of group `key` performs one `cellStep` on the cell (key, idx) and leaves
every other cell — other aggregates of the group, every cell of every other group — exactly as it was:
"no value is ever shown in another group's row" starts here. -/
theorem cell_locality {O : Oracles} {q : AggStmt} {env : Env} {key : List Value} {idx : Nat} {k : AggKind}
    {st st' : AggState} (hs : AggSorted st) (h : updateAggregate O q env key idx k st = .ok st') :
    ∃ c', cellStep O q env k (readCell st key idx) = .ok c' ∧
      ∀ k' i', readCell st' k' i' = if Value.cmpList key k' = .eq ∧ idx = i' then c' else readCell st k' i' :=
  (updateAggregate_cells hs h).2

/-- a cell never loses an entry: `cellStep` only creates or overwrites the aggregator / the value of its cell -/
theorem cell_entries_never_removed {O : Oracles} {q : AggStmt} {env : Env} {k : AggKind} {c c' : Cell}
    (h : cellStep O q env k c = .ok c') : (c.agg.isSome → c'.agg.isSome) ∧ (c.val.isSome → c'.val.isSome) :=
  cellStep_extends h

/-- one input row: rejected by WHERE ⇒ the state is unchanged; admitted ⇒ every aggregate slot of the row's own
group (select list, then HAVING's hidden aggregates) takes exactly one step with this row, and the cells of all
other groups are untouched. -/
theorem row_updates_only_its_group {O : Oracles} {q : AggStmt} {env : Env} {st st' : AggState} {u : Bool}
    (hs : AggSorted st) (h : aggUpdateRow O q st env = .ok (st', u)) :
    passes O q env = some u ∧ (u = false → st' = st) ∧
    (u = true → ∃ key, keyOf O q env = some key ∧
      (∀ i kind, (i, kind) ∈ rowSlots q → cellStep O q env kind (readCell st key i) = .ok (readCell st' key i)) ∧
      (∀ k' i', (Value.cmpList key k' ≠ .eq ∨ i' ∉ (rowSlots q).map (·.1)) → readCell st' k' i' = readCell st k' i')) := by
  obtain ⟨_, hp, hf, ht⟩ := aggUpdateRow_cells hs h
  refine ⟨hp, hf, fun hu => ?_⟩
  obtain ⟨key, hk, hin, hout, _⟩ := ht hu
  exact ⟨key, hk, hin, hout⟩

/-- `R init []` -/
theorem coupling_init (O : Oracles) (q : AggStmt) : Coupled O q {} [] := coupled_init O q

/-- `R s g → update s r = ok s' → R s' (g with r appended to its group)` -/
theorem coupling_step {O : Oracles} {q : AggStmt} {st st' : AggState} {rows : List (List Value × Env)} {env : Env} {u : Bool}
    (hc : Coupled O q st rows) (h : aggUpdateRow O q st env = .ok (st', u)) :
    (u = false → Coupled O q st' rows) ∧
    (u = true → ∃ key, keyOf O q env = some key ∧ Coupled O q st' (rows ++ [(key, env)])) :=
  (coupled_step hc h).2

/-- **every cell is computed from exactly the rows of its group.** After feeding any list of rows to
`execute_update` (row after row, `aggRun`), for every group key and every aggregate slot of the statement the stored
cell equals the fold of that aggregate's step over `rowsOfKey key rows` — the rows that passed WHERE and whose
GROUP BY key equals `key`, in arrival order — and nothing else is stored. -/
theorem cells_are_folds_over_group_rows {O : Oracles} {q : AggStmt} (envs : List Env) {st : AggState}
    (h : aggRun O q envs {} = .ok st) :
    ∃ rows, keyedRows O q envs = some rows ∧
      (∀ key i kind, (i, kind) ∈ rowSlots q → cellFold O q kind (rowsOfKey key rows) {} = .ok (readCell st key i)) ∧
      (∀ key i, i ∉ (rowSlots q).map (·.1) → readCell st key i = {}) := by
  obtain ⟨rows, hr, hc⟩ := aggRun_coupled envs (coupled_init O q) h
  simp only [List.nil_append] at hc
  exact ⟨rows, hr, hc.cells, hc.others⟩

/-- **each aggregate against the property sentence**, on the executed step: for a group with rows `g`, folding
`update_aggregate`'s cell step of aggregate `kind` over `g` succeeds and shows `Spec.Agg.aggregate kind` of the
argument values of `g` — COUNT(*) their number, COUNT(c) the non-NULL ones, COUNT(DISTINCT c) the distinct non-NULL
values, SUM/AVG/STDDEV/VARIANCE/MIN/MAX/PERCENTILE/BOOL_AND/BOOL_OR/STRING_AGG over the non-NULL values (NULL if
none), ARRAY_AGG all values in arrival order — whenever the specification fixes the value. -/
theorem aggregate_from_group_rows {O : Oracles} {q : AggStmt} {kind : AggKind} {g : List Env} {r : Value} (hg : g ≠ [])
    (hv : groupValue O q kind g = some r)
    (hd15 : ∀ vs, arguments O q kind g = some vs → firstNull kind vs = false) :
    ∃ c, cellFold O q kind g {} = .ok c ∧ shownValue kind c = r :=
  group_aggregate_refines hg hv hd15

/-- the same on argument values, with the entry bookkeeping: the cell has a `group_values` entry exactly when
`createsEntry` says so (this is what decides whether the group is listed at all — finding D10) -/
theorem aggregate_fold_refines (k : AggKind) (vs : List Value) (r : Value) (hne : vs ≠ [])
    (h : aggregate k vs = some r) (hd15 : firstNull k vs = false) :
    ∃ c, foldV k vs {} = .ok c ∧ shownValue k c = r ∧ (published c).isSome = createsEntry k vs :=
  aggregate_refines k vs r hne h hd15

/-- COUNT(*) = the number of rows of the group -/
theorem count_star (vs : List Value) : aggregate (.count none false) vs = some (.int vs.length) := rfl
/-- COUNT(c) = the number of rows with c non-NULL (0 if none) -/
theorem count_column (c : String) (vs : List Value) : aggregate (.count (some c) false) vs = some (.int (nonNull vs).length) := rfl
/-- COUNT(DISTINCT c) = the number of distinct non-NULL values -/
theorem count_distinct (c : String) (vs : List Value) :
    aggregate (.count (some c) true) vs = some (.int (firstOccs (nonNull vs)).length) := rfl
/-- SUM of INTs = their sum, provided no partial sum leaves the 64-bit range (then the code reports an error) -/
theorem sum_ints (e : Expr) (vs : List Value) (i : Int) (is : List Int) (h : nonNull vs = (i :: is).map Value.int)
    (hok : partialSumsOk inI64 0 (i :: is) = true) : aggregate (.sum e) vs = some (.int (intSum (i :: is))) := by
  have hi : ints (Value.int i :: is.map Value.int) = some (i :: is) := ints_map_int (i :: is)
  simp only [aggregate, h, sumOf, List.map_cons, hi, hok, if_true]
/-- SUM, the overflow case: INT values (each an i64) with a partial sum outside the 64-bit range make the engine's SUM
fold report `UndefinedOperation` (an error message — C09 — not a wrapped value and not a panic) -/
theorem sum_overflow_is_error (e : Expr) (v : Value) (vs : List Value) (is : List Int)
    (h : nonNull (v :: vs) = is.map Value.int) (hrange : ∀ i ∈ is, inI64 i = true)
    (hov : partialSumsOk inI64 0 is = false) :
    foldV (.sum e) (v :: vs) {} = .error .undefinedOperation :=
  sum_int_overflow_is_error e v vs is h hrange hov
/-- MIN = a value of the group that no value of the group is below, by the value order of `Value.cmp` -/
theorem min_is_least (xs : List Value) (h : xs ≠ []) :
    extreme true xs ∈ xs ∧ ∀ y ∈ xs, Value.cmp (extreme true xs) y ≠ .gt := extreme_min_spec xs h
/-- MAX = a value of the group that no value of the group is above -/
theorem max_is_greatest (xs : List Value) (h : xs ≠ []) :
    extreme false xs ∈ xs ∧ ∀ y ∈ xs, Value.cmp (extreme false xs) y ≠ .lt := extreme_max_spec xs h
/-- PERCENTILE(p): the element at index min(⌊p·n⌋, n−1) of the ascending rearrangement of the non-NULL values -/
theorem percentile_index (e : Expr) (p : Nat) (vs : List Value) (hp : unitInterval p = true) (ht : sameType (nonNull vs) = true) :
    aggregate (.percentile e p) vs =
      some (((sortValues (nonNull vs))[min (f64ToNat (F64.mul p (F64.ofInt (sortValues (nonNull vs)).length)))
        ((sortValues (nonNull vs)).length - 1)]?).getD .null) ∧
    (sortValues (nonNull vs)).Perm (nonNull vs) ∧
    (sortValues (nonNull vs)).Pairwise (fun a b => Value.cmp a b ≠ .gt) := by
  refine ⟨?_, sortValues_perm _, sortValues_sorted _⟩
  simp [aggregate, percentileOf, hp, ht]

/-- **one row per distinct key, ascending, NULL first, none dropped or duplicated** (specification side): the key
list of the table is strictly ascending in the value order (hence duplicate-free), contains only keys that occur,
and represents every key that occurs; a NULL key is below every other key. -/
theorem keys_ascending_each_once (ks : List (List Value)) :
    (distinctKeys ks).Pairwise (fun a b => Value.cmpList a b = .lt) ∧
    (∀ k ∈ distinctKeys ks, k ∈ ks) ∧
    (∀ k ∈ ks, ∃ k' ∈ distinctKeys ks, Value.cmpList k' k = .eq) ∧
    (∀ v : Value, v.isNull = false → Value.cmp .null v = .lt) :=
  ⟨distinctKeys_sorted ks, distinctKeys_sub ks, distinctKeys_cover ks, null_lowest⟩

/-- **the result half**: for any state coupled to the admitted rows, `execute_result` followed by LIMIT returns
exactly the specification's table over the groups of those rows: its rows are the groups in ascending key order
(one per distinct key, none dropped, none duplicated), each cell the specification's value for that group, HAVING
evaluated on the group's own key and aggregates, DISTINCT per table, LIMIT the first n rows. Hypotheses: the group
keys are exact (equal in the value order ⇒ identical — always so without REAL/array keys), every group is visible
(outside D10) and no ARRAY_AGG starts with NULL (outside D15). -/
theorem result_is_spec_table {O : Oracles} {q : AggStmt} (hwf : StmtWF q) {st : AggState} {rows : List (List Value × Env)}
    (hc : Coupled O q st rows) (hex : KeysExact (rows.map (·.1))) {t : List (List Value)}
    (hspec : tableOfGroups O q (groups rows) = some t)
    (hvis : ∀ kg ∈ groups rows, groupVisible O q kg.2 = true)
    (hd15 : ∀ kg ∈ groups rows, arrayAggFirstNull O q kg.2 = false) :
    finalResult O q { agg := st } = .ok { columns := q.items.map (·.name), rows := t } :=
  finalResult_refines hwf hc hex hspec hvis hd15

/-- **columns stay aligned**: every row of the table has exactly one cell per select-list item (so no value is shifted
into another column or another group's row); with `agg_refines_spec` this holds for the engine's table -/
theorem columns_aligned {O : Oracles} {q : AggStmt} {envs : List Env} {t : List (List Value)}
    (h : table O q envs = some t) : ∀ r ∈ t, r.length = q.items.length := table_rows_aligned h

/-- `publishPercentiles` (the first loop of `execute_result`) cell by cell: aggregators untouched, the stored
value of a cell becomes what the cell publishes — so a second `execute_result` sees the same cells -/
theorem publish_cellwise {st : AggState} (hs : AggSorted st) (hinner : ∀ g ∈ st.aggs, (g.2.map (·.1)).Nodup)
    (k : List Value) (i : Nat) :
    readCell (publishPercentiles st) k i = { agg := (readCell st k i).agg, val := published (readCell st k i) } :=
  readCell_publish hs hinner k i

/-- **`agg_refines_spec`.** For every aggregate statement (any mix and order of aggregates and key expressions, with or
without GROUP BY, WHERE, HAVING incl. hidden aggregates, transforms, DISTINCT, LIMIT) and every list of rows: if the
specification fixes the table `t` and the input is outside the two known deviation classes (D10, D15), then feeding
the rows to `execute_update` one after the other succeeds, and `execute_result` + LIMIT shows exactly `t`:
one row per distinct key in ascending order with NULL first, every cell computed from exactly the rows of its group,
HAVING on the group's own key and aggregates, no group dropped or duplicated.

**What "the specification fixes the table" leaves out** (`table O q envs = none`, so the theorem says nothing there —
each of these is an ordinary input, not an exotic one):
* a GROUP BY key that is an ARRAY, the REAL key `-0.0`, a REAL key that is a NaN other than the canonical one (all other
  REAL keys, `0.0`, ±∞ and the canonical NaN included, are covered): two such keys are equal in the value order but print
  differently, and which one a group's row shows depends on the engine's history (finding D60, `Props/C11`);
* SUM / AVG / STDDEV over REALs whose first non-NULL addend is `-0.0` (`0.0 + -0.0 ≠ -0.0`: the sign of a zero sum);
* the non-NULL arguments of one aggregate in one group having more than one type (MIN/MAX/PERCENTILE/ARRAY_AGG; SUM/AVG
  /STDDEV need all INT, all REAL or all INTERVAL — STDDEV not INTERVAL; BOOL_AND/OR all BOOLEAN; STRING_AGG all TEXT);
* an INT / INTERVAL partial sum (for STDDEV also a square or a partial sum of squares) outside the 64-bit range;
* any evaluation error in WHERE, a key, an argument, a transform or HAVING; `COUNT(DISTINCT *)`; PERCENTILE with p outside
  [0, 1]; a select-list or HAVING key reference that names no GROUP BY part (`keyRefsValid`).
The evidence of a run records how many of the evaluated cases the specification decided
(`spec_comparisons_impl_vs_lean_spec` against `evaluations`). -/
theorem agg_refines_spec {O : Oracles} {q : AggStmt} (hwf : StmtWF q) (envs : List Env) {t : List (List Value)}
    (hspec : table O q envs = some t) (hclass : deviationClass O q envs = "") :
    (aggRun O q envs {}).bind (fun st => finalResult O q { agg := st }) = .ok { columns := q.items.map (·.name), rows := t } :=
  engine_refines_spec_total hwf envs hspec hclass

/-- the same in partial-correctness form: any state reached by a run that did not fail shows the specification's table -/
theorem agg_refines_spec_of_run {O : Oracles} {q : AggStmt} (hwf : StmtWF q) (envs : List Env) {st : AggState}
    (hrun : aggRun O q envs {} = .ok st) {t : List (List Value)} (hspec : table O q envs = some t)
    (hclass : deviationClass O q envs = "") :
    finalResult O q { agg := st } = .ok { columns := q.items.map (·.name), rows := t } :=
  engine_refines_spec hwf envs hrun hspec hclass

/-- totality of the update half on its own: when every complete per-group fold succeeds (which the specification's
answer implies), no `execute_update` fails — in particular no aggregate reports an overflow or a type error halfway -/
theorem updates_do_not_fail {O : Oracles} {q : AggStmt} (hwf : StmtWF q) (envs : List Env) {t : List (List Value)}
    (hspec : table O q envs = some t) (hclass : deviationClass O q envs = "") : ∃ st, aggRun O q envs {} = .ok st := by
  cases hr : keyedRows O q envs with
  | none => simp [table, hr] at hspec
  | some rows =>
    obtain ⟨hfolds, hkeys⟩ := foldsOk_of_spec hwf hr hspec hclass
    exact aggRun_progress envs (coupled_init O q) hr (by simpa using hfolds) hkeys

/-- **`agg_refines_spec` at the level of the check itself.** `runBatch` is the function the compiled driver executes
for a `batch` case (the `FileExecutor` loop over all files and lines, admission of lines, the hash index of a JOIN, the
engine, the final table printed once, the line count); `Spec.Agg.batch` is the specification's answer that `./check` compares with the
implementation's. Whenever the specification answers and names no known deviation class, the two are EQUAL — so a
case on which implementation and model agree (correspondence) and the class is empty is a case on which the
implementation meets the specification, and vice versa.

`Spec.Agg.batch` answers `none` — and this theorem is then silent — on everything `agg_refines_spec` lists (ARRAY keys, the
REAL keys `-0.0` and non-canonical NaN, a REAL sum starting at `-0.0`, mixed-type arguments in a group, overflow, evaluation
errors, p outside [0, 1], invalid key references), and in addition when some input line is unreadable (C12), when a line of
the joined file is unreadable or a join column is missing (C05), and it is stated for `stopAt = none` (no interrupt, C19). -/
theorem batch_model_eq_spec {O : Oracles} {qy : Query} {q : AggStmt} (hq : qy.stmt = .aggregate q) (hwf : StmtWF q)
    (joined : List FileLine) (files : List (List FileLine)) {ro : RunOut}
    (h : Spec.Agg.batch O qy q joined files = some (ro, "")) : runBatch O qy joined files none = ro :=
  batch_refines_spec hq hwf joined files h

/-- **aggregates over a JOIN**: the rows the statement sees are the nested loop of C05 (`Spec.Join.specJoin`: for every
admitted input row, in input order, one row per admitted joined row with an equal non-NULL key, in file order; never the
NULL-padded row), and the table is the specification's table over those rows -/
theorem batch_over_join_model_eq_spec {O : Oracles} {qy : Query} {q : AggStmt} (hq : qy.stmt = .aggregate q) (hwf : StmtWF q)
    {j : JoinInfo} (hj : qy.join = some j) (joined : List FileLine) (files : List (List FileLine)) {ro : RunOut}
    (h : Spec.Agg.batch O qy q joined files = some (ro, "")) : runBatch O qy joined files none = ro :=
  batch_refines_spec_join hq hwf hj joined files h

/-! ### negation witnesses of the two open findings (kernel-evaluated; the harness replays them on the implementation) -/

/-- `SELECT k, COUNT(v) FROM t GROUP BY k` -/
def d10Stmt : AggStmt :=
  { items := [{ name := "k", kind := .groupKey (.column "k") "k", transform := none },
              { name := "count1", kind := .count (some "v") false, transform := none }],
    filter := none, groupBy := some [(.column "k", "k")], having := none, havingAggs := [], havingKeys := [],
    havingVisit := [], limit := none, distinct := false }

def rowKV (k : Nat) (v : Value) : Env := { table := [("k", .text [k]), ("v", v)] }

/-- **D10**: on the rows (a, 1), (b, NULL) the property demands the rows `a, 1` and `b, 0`; the engine, which lists the
groups of `group_values`, shows only `a, 1` — the group `b` (no aggregate created an entry) is dropped -/
theorem d10_group_without_entry_dropped :
    table {} d10Stmt [rowKV 97 (.int 1), rowKV 98 .null] = some [[.text [97], .int 1], [.text [98], .int 0]] ∧
    (aggRun {} d10Stmt [rowKV 97 (.int 1), rowKV 98 .null] {}).bind (fun st => finalResult {} d10Stmt { agg := st }) =
      .ok { columns := ["k", "count1"], rows := [[.text [97], .int 1]] } ∧
    deviationClass {} d10Stmt [rowKV 97 (.int 1), rowKV 98 .null] = "D10:group-without-value-entry" :=
  ⟨rfl, rfl, rfl⟩

/-- `SELECT ARRAY_AGG(v) FROM t` -/
def d15Stmt : AggStmt :=
  { items := [{ name := "array_agg0", kind := .arrayAgg (.column "v"), transform := none }],
    filter := none, groupBy := none, having := none, havingAggs := [], havingKeys := [],
    havingVisit := [], limit := none, distinct := false }

/-- **D15**: on the values NULL, 5 the property demands the array `{NULL, 5}`; the engine refuses the statement
("cannot create array of null type") because the first value is NULL -/
theorem d15_array_agg_first_null_refused :
    table {} d15Stmt [rowKV 97 .null, rowKV 98 (.int 5)] = some [[.array .int [.null, .int 5]]] ∧
    aggRun {} d15Stmt [rowKV 97 .null, rowKV 98 (.int 5)] {} = .error .cannotCreateArrayOfNullType ∧
    deviationClass {} d15Stmt [rowKV 97 .null, rowKV 98 (.int 5)] = "D15:array_agg-first-value-null" :=
  ⟨rfl, rfl, rfl⟩

/-! ### the answers the two open findings PREDICT (`Spec.Agg.predicted`)

`./check` attributes a deviation from the specification to D10 / D15 only when the implementation's answer is exactly the
predicted one (DESIGN §10). On the two witness inputs the prediction is what the executed batch run of the model prints —
and not what the specification demands. -/

def kvQuery (q : AggStmt) : Query := { stmt := .aggregate q, table := { name := "t", columns := ["k", "v"] }, join := none }
def kvLine (k : Nat) (v : Value) : FileLine := { readable := true, line := { text := [k], row := [.text [k], v] } }

/-- D10: rows (a, 1), (b, NULL): the specification demands `a, 1` and `b, 0`; the finding predicts exactly `a, 1` (the
group `b` is missing, nothing else differs, both lines counted, no error) — and that is what the batch run prints -/
example :
    (Spec.Agg.batch {} (kvQuery d10Stmt) d10Stmt [] [[kvLine 97 (.int 1), kvLine 98 .null]]).map (·.1.printed) =
      some ["k: 'a', count1: 1", "k: 'b', count1: 0"] ∧
    Spec.Agg.predicted {} (kvQuery d10Stmt) d10Stmt [] [[kvLine 97 (.int 1), kvLine 98 .null]] =
      some { printed := ["k: 'a', count1: 1"], totalLines := 2 } ∧
    runBatch {} (kvQuery d10Stmt) [] [[kvLine 97 (.int 1), kvLine 98 .null]] none =
      { printed := ["k: 'a', count1: 1"], totalLines := 2 } := ⟨rfl, rfl, rfl⟩

/-- D15: values NULL, 5: the finding predicts the error `CannotCreateArrayOfNullType` while the FIRST line is fed (one
line counted, nothing printed); with the NULL in the second row of the group nothing is predicted (no finding applies) -/
example :
    Spec.Agg.predicted {} (kvQuery d15Stmt) d15Stmt [] [[kvLine 97 .null, kvLine 98 (.int 5)]] =
      some { error := some .cannotCreateArrayOfNullType, totalLines := 1 } ∧
    runBatch {} (kvQuery d15Stmt) [] [[kvLine 97 .null, kvLine 98 (.int 5)]] none =
      { error := some .cannotCreateArrayOfNullType, totalLines := 1 } ∧
    Spec.Agg.predicted {} (kvQuery d15Stmt) d15Stmt [] [[kvLine 98 (.int 5), kvLine 97 .null]] = none := ⟨rfl, rfl, rfl⟩

/-! ### non-vacuity -/

/-- `SELECT COUNT(*) FROM t` -/
def exCount : AggStmt :=
  { items := [{ name := "count0", kind := .count none false, transform := none }], filter := none, groupBy := none,
    having := none, havingAggs := [], havingKeys := [], havingVisit := [], limit := none, distinct := false }

example : StmtWF exCount := ⟨rfl, fun _ => rfl⟩
/-- the hypotheses of `agg_refines_spec` hold on a two-row input, and the conclusion is the one-row table `2` -/
example : ∃ st, aggRun {} exCount [{}, {}] {} = .ok st ∧ table {} exCount [{}, {}] = some [[.int 2]] ∧
    deviationClass {} exCount [{}, {}] = "" ∧
    finalResult {} exCount { agg := st } = .ok { columns := ["count0"], rows := [[.int 2]] } := by
  refine ⟨_, rfl, rfl, rfl, ?_⟩
  exact agg_refines_spec_of_run ⟨rfl, fun _ => rfl⟩ [{}, {}] rfl rfl rfl
/-- a non-trivial MIN: the least of 3, 1, 2 -/
example : aggregate (.min (.column "v")) [.int 3, .null, .int 1, .int 2] = some (.int 1) := rfl
/-- a sum that overflows: i64::MAX + 1 -/
example : foldV (.sum (.column "v")) [.int 9223372036854775807, .int 1] {} = .error .undefinedOperation :=
  sum_overflow_is_error _ _ _ [9223372036854775807, 1] rfl (by decide) rfl
/-- a sum whose partial sums stay in range -/
example : aggregate (.sum (.column "v")) [.int 3, .null, .int (-1)] = some (.int 2) := by
  exact sum_ints (.column "v") [.int 3, .null, .int (-1)] 3 [-1] rfl rfl

end Sqlgrep.Props.C04
