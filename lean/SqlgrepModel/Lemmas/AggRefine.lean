import SqlgrepModel.Lemmas.AggResult
/-
Update half + result half: one aggregate over one group's rows, and the engine's answer for a whole input, against the
specification (`Spec.Agg.groupValue`, `Spec.Agg.table`).
-/
set_option linter.unusedSimpArgs false
namespace Sqlgrep
open Value Spec.Agg

/-- **every aggregate, from its group's rows alone**: folding the engine's `update_aggregate` step of one aggregate
over the rows `g` of a group (in arrival order, starting from no entry) succeeds and shows the specification's value
of that aggregate over `g`, whenever the specification fixes it (and no ARRAY_AGG starts with NULL) -/
theorem group_aggregate_refines {O : Oracles} {q : AggStmt} {kind : AggKind} {g : List Env} {r : Value} (hg : g ≠ [])
    (hv : groupValue O q kind g = some r)
    (hd15 : ∀ vs, arguments O q kind g = some vs → firstNull kind vs = false) :
    ∃ c, cellFold O q kind g {} = .ok c ∧ shownValue kind c = r := by
  unfold groupValue at hv
  cases hargs : arguments O q kind g with
  | none => simp [hargs] at hv
  | some vs =>
    simp only [hargs, Option.bind_some] at hv
    obtain ⟨c, hc, hshow, _⟩ := aggregate_refines kind vs r (arguments_ne_nil hg hargs) hv (hd15 vs hargs)
    exact ⟨c, by rw [cellFold_of_args g {} hargs]; exact hc, hshow⟩

/-- **refinement, engine level** (`agg_refines_spec`, partial-correctness form): whatever rows are fed to
`execute_update`, if no update fails, the table `execute_result` (+ LIMIT) then shows is the specification's table
for those rows — whenever the specification fixes the outcome and the input is outside the two known deviation
classes (D10: a group without any `group_values` entry, D15: ARRAY_AGG starting with NULL). -/
theorem engine_refines_spec {O : Oracles} {q : AggStmt} (hwf : StmtWF q) (envs : List Env) {st : AggState}
    (hrun : aggRun O q envs {} = .ok st) {t : List (List Value)} (hspec : table O q envs = some t)
    (hclass : deviationClass O q envs = "") :
    finalResult O q { agg := st } = .ok { columns := q.items.map (·.name), rows := t } := by
  obtain ⟨rows, hrows, hc⟩ := aggRun_coupled envs (coupled_init O q) hrun
  simp only [List.nil_append] at hc
  obtain ⟨htab, hex⟩ := table_of_keyed hrows hspec
  obtain ⟨hvis, hd15⟩ := deviationClass_empty hrows hclass
  exact finalResult_refines hwf hc hex htab hvis hd15

end Sqlgrep
