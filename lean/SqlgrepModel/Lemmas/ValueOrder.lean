import SqlgrepModel.Model.Value
import SqlgrepModel.Lemmas.Order
/- Order laws for the model of `Value`'s derived comparison (`Value.cmp`, `Value.cmpList` are `Std.TransCmp`; `cmp … = .eq` is
`beq`), and `Hash` agreeing with `==`: values that are `beq` have the same `hashRepr` (`hashRepr_eq_of_beq`,
`F64.hashBits_eq_of_cmp_eq`). -/
namespace Sqlgrep
namespace F64

/-- total order key: NaN above every number -/
def okey (n : Nat) : Int := if isNaN n then 2^63 else key n

theorem key_lt (n : Nat) : key n < 2^63 ∧ -(2^63 : Int) < key n := by
  unfold key mag
  have : n % 2^63 < 2^63 := Nat.mod_lt _ (by decide)
  split <;> omega

theorem cmp_eq_compare (a b : Nat) : cmp a b = compare (okey a) (okey b) := by
  unfold cmp okey
  by_cases h1 : isNaN a = true <;> by_cases h2 : isNaN b = true
  · rw [if_pos h1, if_pos h2, if_pos h1, if_pos h2]; exact (Int.compare_eq_eq.2 rfl).symm
  · rw [if_pos h1, if_neg h2, if_pos h1, if_neg h2]; exact (Int.compare_eq_gt.2 (key_lt b).1).symm
  · rw [if_neg h1, if_pos h2, if_neg h1, if_pos h2]; exact (Int.compare_eq_lt.2 (key_lt a).1).symm
  · rw [if_neg h1, if_neg h2, if_neg h1, if_neg h2]

theorem cmp_T (a b c : Nat) : T (cmp a b) (cmp b c) (cmp a c) := by
  simp only [cmp_eq_compare]; exact T_of_transCmp ..

theorem cmp_swap (a b : Nat) : cmp b a = (cmp a b).swap := by
  simp only [cmp_eq_compare]; rw [Int.compare_swap]

theorem cmp_refl (a : Nat) : cmp a a = .eq := by
  simp only [cmp_eq_compare]; rw [Int.compare_eq_eq]

instance : Std.TransCmp cmp := transCmp_of_T cmp_swap cmp_T

/-- the only two magnitudes-with-sign of equal key are `+0.0` and `-0.0` -/
theorem key_eq_iff (a b : Nat) : key a = key b ↔ mag a = mag b ∧ (signBit a = signBit b ∨ mag a = 0) := by
  unfold key
  cases signBit a <;> cases signBit b <;> simp <;> omega

theorem hashBits_eq_of_cmp_eq {a b : Nat} (h : cmp a b = .eq) : hashBits a = hashBits b := by
  unfold cmp at h
  unfold hashBits
  by_cases h1 : isNaN a = true <;> by_cases h2 : isNaN b = true
  · rw [if_pos h1, if_pos h2]
  · rw [if_pos h1, if_neg h2] at h; cases h
  · rw [if_neg h1, if_pos h2] at h; cases h
  · rw [if_neg h1, if_neg h2, Int.compare_eq_eq, key_eq_iff] at h
    rw [if_neg h1, if_neg h2, ← h.1]
    rcases h.2 with hs | hm
    · rw [hs]
    · rw [hm]; rfl

end F64

namespace VType

/-- the derived order of `ValueType` is the lexicographic order of the words its `Hash` feeds: an array type is `4`
followed by the words of its element type, every other type its rank (never `4`) -/
theorem cmp_eq_compare (a b : VType) : cmp a b = compare (Value.hashVType a) (Value.hashVType b) := by
  induction a generalizing b with
  | array a ih =>
    cases b with
    | array b => rw [cmp, Value.hashVType, Value.hashVType, List.compare_cons_cons, ih b]; rfl
    | _ => rfl
  | _ => cases b <;> rfl

theorem hashVType_inj {a : VType} : ∀ {b : VType}, Value.hashVType a = Value.hashVType b → a = b := by
  induction a with
  | array a ih =>
    intro b h
    cases b with
    | array b => exact congrArg array (ih (List.tail_eq_of_cons_eq h))
    | _ => cases h
  | _ => intro b h; cases b <;> first | rfl | cases h

theorem cmp_T (a b c : VType) : T (cmp a b) (cmp b c) (cmp a c) := by
  simp only [cmp_eq_compare]; exact T_of_transCmp ..

theorem cmp_swap (a b : VType) : cmp b a = (cmp a b).swap := by
  simp only [cmp_eq_compare]; exact Std.OrientedCmp.eq_swap

instance : Std.TransCmp cmp := transCmp_of_T cmp_swap cmp_T

theorem cmp_eq_iff (a b : VType) : cmp a b = .eq ↔ a = b := by
  rw [cmp_eq_compare, Std.LawfulEqCmp.compare_eq_iff_eq]; exact ⟨hashVType_inj, congrArg _⟩

end VType

namespace Value

theorem cmpBytes_eq_compare : ∀ a b : List Nat, cmpBytes a b = compare a b
  | [], [] => rfl
  | [], _ :: _ => rfl
  | _ :: _, [] => rfl
  | x :: xs, y :: ys => by rw [cmpBytes, List.compare_cons_cons, cmpBytes_eq_compare xs ys]

theorem cmpBytes_swap (a b : List Nat) : cmpBytes b a = (cmpBytes a b).swap := by
  rw [cmpBytes_eq_compare, cmpBytes_eq_compare]; exact Std.OrientedCmp.eq_swap

theorem cmpBytes_eq_iff (a b : List Nat) : cmpBytes a b = .eq ↔ a = b := by
  rw [cmpBytes_eq_compare]; exact Std.LawfulEqCmp.compare_eq_iff_eq

theorem cmpBool_eq_iff (a b : Bool) : cmpBool a b = .eq ↔ a = b := by
  cases a <;> cases b <;> decide

theorem cmp_of_rank_ne {a b : Value} (h : a.rank ≠ b.rank) : cmp a b = compare a.rank b.rank := by
  cases a <;> cases b <;> first | rfl | exact absurd rfl h

/-- `OfRank b k`: `b` is of the variant whose `Value.rank` is `k`; with `eq_of_rank_eq` one `cases a` opens `b` too -/
def OfRank (b : Value) : Nat → Prop
  | 0 => b = null
  | 1 => ∃ i, b = int i
  | 2 => ∃ y, b = real y
  | 3 => ∃ c, b = bool c
  | 4 => ∃ t, b = text t
  | 5 => ∃ u ys, b = array u ys
  | 6 => ∃ d s f, b = timestamp d s f
  | 7 => ∃ i, b = interval i
  | _ => False

theorem ofRank_rank : ∀ b : Value, OfRank b b.rank
  | null => rfl
  | int _ => ⟨_, rfl⟩
  | real _ => ⟨_, rfl⟩
  | bool _ => ⟨_, rfl⟩
  | text _ => ⟨_, rfl⟩
  | array _ _ => ⟨_, _, rfl⟩
  | timestamp _ _ _ => ⟨_, _, _, rfl⟩
  | interval _ => ⟨_, rfl⟩

theorem eq_of_rank_eq {a b : Value} (h : a.rank = b.rank) : OfRank b a.rank := h ▸ ofRank_rank b

theorem cmp_rank_gt {a b : Value} (h : b.rank < a.rank) : cmp a b = .gt := by
  rw [cmp_of_rank_ne (by omega), Nat.compare_eq_gt]; exact h

theorem rank_le_of_cmp_ne_gt {a b : Value} (h : cmp a b ≠ .gt) : a.rank ≤ b.rank := by
  false_or_by_contra
  rename_i hn
  exact h (cmp_rank_gt (by omega))

theorem rank_eq_of_cmp_eq {a b : Value} (h : cmp a b = .eq) : a.rank = b.rank := by
  false_or_by_contra
  rename_i hn
  rw [cmp_of_rank_ne hn, Nat.compare_eq_eq] at h
  exact hn h

mutual
theorem cmp_T : ∀ (a b c : Value), T (cmp a b) (cmp b c) (cmp a c)
  | a, b, c => by
    refine T_of_rank rank cmp_of_rank_ne fun hab hbc => ?_
    cases a
    case null => cases eq_of_rank_eq hab; cases eq_of_rank_eq hbc; exact T_of_eq_eq rfl
    case int => 
      obtain ⟨_, rfl⟩ := eq_of_rank_eq hab; obtain ⟨_, rfl⟩ := eq_of_rank_eq hbc
      exact T_of_transCmp (cmp := compare) ..
    case real =>
      obtain ⟨_, rfl⟩ := eq_of_rank_eq hab; obtain ⟨_, rfl⟩ := eq_of_rank_eq hbc
      exact F64.cmp_T ..
    case bool =>
      obtain ⟨_, rfl⟩ := eq_of_rank_eq hab; obtain ⟨_, rfl⟩ := eq_of_rank_eq hbc
      exact T_of_transCmp (cmp := compare) ..
    case text =>
      obtain ⟨_, rfl⟩ := eq_of_rank_eq hab; obtain ⟨_, rfl⟩ := eq_of_rank_eq hbc
      simp only [cmp, cmpBytes_eq_compare]; exact T_of_transCmp ..
    case array t xs =>
      obtain ⟨u, ys, rfl⟩ := eq_of_rank_eq hab; obtain ⟨v, zs, rfl⟩ := eq_of_rank_eq hbc
      exact T_then (VType.cmp_T t u v) fun _ _ => cmpList_T xs ys zs
    case timestamp =>
      obtain ⟨_, _, _, rfl⟩ := eq_of_rank_eq hab; obtain ⟨_, _, _, rfl⟩ := eq_of_rank_eq hbc
      exact T_then (T_then (T_of_transCmp ..) fun _ _ => T_of_transCmp ..) fun _ _ => T_of_transCmp ..
    case interval =>
      obtain ⟨_, rfl⟩ := eq_of_rank_eq hab; obtain ⟨_, rfl⟩ := eq_of_rank_eq hbc
      exact T_of_transCmp (cmp := compare) ..
theorem cmpList_T : ∀ (a b c : List Value), T (cmpList a b) (cmpList b c) (cmpList a c)
  | [], [], [] => ⟨nofun, fun _ => rfl, fun _ => rfl⟩
  | [], [], _ :: _ => ⟨nofun, fun _ => rfl, nofun⟩
  | [], _ :: _, [] => ⟨nofun, nofun, nofun⟩
  | [], _ :: _, _ :: _ => ⟨fun _ _ => rfl, nofun, fun _ => rfl⟩
  | _ :: _, [], [] => ⟨nofun, nofun, fun _ => rfl⟩
  | _ :: _, [], _ :: _ => ⟨nofun, nofun, nofun⟩
  | _ :: _, _ :: _, [] => ⟨fun _ h => h, fun _ => rfl, nofun⟩
  | x :: xs, y :: ys, z :: zs => T_then (cmp_T x y z) fun _ _ => cmpList_T xs ys zs
end

mutual
theorem cmp_swap : ∀ (a b : Value), cmp b a = (cmp a b).swap
  | a, b => by
    by_cases hab : a.rank = b.rank
    · cases a
      case null => cases eq_of_rank_eq hab; rfl
      case int => obtain ⟨_, rfl⟩ := eq_of_rank_eq hab; exact (Int.compare_swap ..).symm
      case real => obtain ⟨_, rfl⟩ := eq_of_rank_eq hab; exact F64.cmp_swap ..
      case bool => obtain ⟨_, rfl⟩ := eq_of_rank_eq hab; exact (Nat.compare_swap ..).symm
      case text => obtain ⟨_, rfl⟩ := eq_of_rank_eq hab; exact cmpBytes_swap ..
      case array t xs =>
        obtain ⟨u, ys, rfl⟩ := eq_of_rank_eq hab
        rw [cmp, cmp, Ordering.swap_then, VType.cmp_swap t u, cmpList_swap xs ys]
      case timestamp =>
        obtain ⟨_, _, _, rfl⟩ := eq_of_rank_eq hab
        simp only [cmp, Ordering.swap_then, Int.compare_swap]
      case interval => obtain ⟨_, rfl⟩ := eq_of_rank_eq hab; exact (Int.compare_swap ..).symm
    · rw [cmp_of_rank_ne hab, cmp_of_rank_ne (Ne.symm hab), Nat.compare_swap]
theorem cmpList_swap : ∀ (a b : List Value), cmpList b a = (cmpList a b).swap
  | [], [] => rfl
  | [], _ :: _ => rfl
  | _ :: _, [] => rfl
  | x :: xs, y :: ys => by
    rw [cmpList, cmpList, Ordering.swap_then, cmp_swap x y, cmpList_swap xs ys]
end

instance : Std.TransCmp cmp := transCmp_of_T cmp_swap cmp_T
instance : Std.TransCmp cmpList := transCmp_of_T cmpList_swap cmpList_T

theorem cmp_refl (a : Value) : cmp a a = .eq := Std.ReflCmp.compare_self

theorem beq_of_rank_ne {a b : Value} (h : a.rank ≠ b.rank) : beq a b = false := by
  cases a <;> cases b <;> first | rfl | exact absurd rfl h

mutual
theorem cmp_eq_iff_beq : ∀ (a b : Value), cmp a b = .eq ↔ beq a b = true
  | a, b => by
    by_cases hab : a.rank = b.rank
    · cases a
      case null => cases eq_of_rank_eq hab; exact ⟨fun _ => rfl, fun _ => rfl⟩
      case int => obtain ⟨_, rfl⟩ := eq_of_rank_eq hab; exact Int.compare_eq_eq.trans beq_iff_eq.symm
      case real => obtain ⟨_, rfl⟩ := eq_of_rank_eq hab; exact beq_iff_eq.symm
      case bool => obtain ⟨_, rfl⟩ := eq_of_rank_eq hab; exact (cmpBool_eq_iff ..).trans beq_iff_eq.symm
      case text => obtain ⟨_, rfl⟩ := eq_of_rank_eq hab; exact (cmpBytes_eq_iff ..).trans beq_iff_eq.symm
      case array t xs =>
        obtain ⟨u, ys, rfl⟩ := eq_of_rank_eq hab
        simp only [cmp, beq, Ordering.then_eq_eq, VType.cmp_eq_iff, cmpList_eq_iff_beqList xs ys, Bool.and_eq_true,
          beq_iff_eq]
      case timestamp =>
        obtain ⟨_, _, _, rfl⟩ := eq_of_rank_eq hab
        simp only [cmp, beq, Ordering.then_eq_eq, Int.compare_eq_eq, Bool.and_eq_true, beq_iff_eq]
      case interval => obtain ⟨_, rfl⟩ := eq_of_rank_eq hab; exact Int.compare_eq_eq.trans beq_iff_eq.symm
    · rw [beq_of_rank_ne hab]
      exact ⟨fun h => absurd (rank_eq_of_cmp_eq h) hab, nofun⟩
theorem cmpList_eq_iff_beqList : ∀ (a b : List Value), cmpList a b = .eq ↔ beqList a b = true
  | [], [] => ⟨fun _ => rfl, fun _ => rfl⟩
  | [], _ :: _ => ⟨nofun, nofun⟩
  | _ :: _, [] => ⟨nofun, nofun⟩
  | x :: xs, y :: ys => by
    rw [cmpList, beqList, Ordering.then_eq_eq, Bool.and_eq_true, cmp_eq_iff_beq x y, cmpList_eq_iff_beqList xs ys]
end

mutual
theorem hashRepr_eq_of_beq : ∀ (a b : Value), beq a b = true → hashRepr a = hashRepr b
  | a, b => by
    intro h
    have hab : a.rank = b.rank := by
      false_or_by_contra
      rename_i hn
      rw [beq_of_rank_ne hn] at h; cases h
    cases a
    case null => cases eq_of_rank_eq hab; rfl
    case int => obtain ⟨_, rfl⟩ := eq_of_rank_eq hab; rw [beq, beq_iff_eq] at h; rw [h]
    case real => obtain ⟨_, rfl⟩ := eq_of_rank_eq hab; rw [beq, beq_iff_eq] at h; rw [hashRepr, hashRepr, F64.hashBits_eq_of_cmp_eq h]
    case bool => obtain ⟨_, rfl⟩ := eq_of_rank_eq hab; rw [beq, beq_iff_eq] at h; rw [h]
    case text => obtain ⟨_, rfl⟩ := eq_of_rank_eq hab; rw [beq, beq_iff_eq] at h; rw [h]
    case array t xs =>
      obtain ⟨u, ys, rfl⟩ := eq_of_rank_eq hab
      rw [beq, Bool.and_eq_true, beq_iff_eq] at h
      rw [hashRepr, hashRepr, h.1, hashList_eq_of_beqList xs ys h.2, length_eq_of_beqList xs ys h.2]
    case timestamp =>
      obtain ⟨_, _, _, rfl⟩ := eq_of_rank_eq hab
      simp only [beq, Bool.and_eq_true, beq_iff_eq] at h
      rw [h.1.1, h.1.2, h.2]
    case interval => obtain ⟨_, rfl⟩ := eq_of_rank_eq hab; rw [beq, beq_iff_eq] at h; rw [h]
theorem hashList_eq_of_beqList : ∀ (a b : List Value), beqList a b = true → hashList a = hashList b
  | [], [] => fun _ => rfl
  | [], _ :: _ => nofun
  | _ :: _, [] => nofun
  | x :: xs, y :: ys => by
    intro h
    rw [beqList, Bool.and_eq_true] at h
    rw [hashList, hashList, hashRepr_eq_of_beq x y h.1, hashList_eq_of_beqList xs ys h.2]
theorem length_eq_of_beqList : ∀ (a b : List Value), beqList a b = true → a.length = b.length
  | [], [] => fun _ => rfl
  | [], _ :: _ => nofun
  | _ :: _, [] => nofun
  | _ :: xs, _ :: ys => by
    intro h
    rw [beqList, Bool.and_eq_true] at h
    rw [List.length_cons, List.length_cons, length_eq_of_beqList xs ys h.2]
end

end Value

open Value

/-! ### the order on key vectors, and `==` as an equivalence

`Value.cmp` and `Value.cmpList` are `Std.TransCmp`: proofs take what follows from the laws under core's names
(`Std.TransCmp.eq_trans`, `Std.OrientedCmp.eq_symm`, …); the consequences stated below for `cmpList`, `Value.cmp` and `beq`
are those same facts under names of this development. -/

theorem cmpList_refl (a : List Value) : cmpList a a = .eq := Std.ReflCmp.compare_self

theorem cmpList_eq_symm {a b : List Value} (h : cmpList a b = .eq) : cmpList b a = .eq := Std.OrientedCmp.eq_symm h

theorem cmpList_gt_of_lt {a b : List Value} (h : cmpList a b = .lt) : cmpList b a = .gt := Std.OrientedCmp.gt_of_lt h

theorem cmpList_congr_right {b c : List Value} (h : cmpList b c = .eq) (a : List Value) :
    cmpList a c = cmpList a b := (Std.TransCmp.congr_right h).symm

theorem cmpList_eq_trans {a b c : List Value} (h1 : cmpList a b = .eq) (h2 : cmpList b c = .eq) :
    cmpList a c = .eq := Std.TransCmp.eq_trans h1 h2

theorem cmp_eq_symm {a b : Value} (h : Value.cmp a b = .eq) : Value.cmp b a = .eq := Std.OrientedCmp.eq_symm h

theorem beq_refl (a : Value) : beq a a = true := (cmp_eq_iff_beq a a).1 (cmp_refl a)

theorem beq_refl' (a : Value) : beq a a = true := beq_refl a

theorem beq_symm (a b : Value) : beq a b = beq b a := by
  rw [Bool.eq_iff_iff, ← cmp_eq_iff_beq, ← cmp_eq_iff_beq]; exact Std.OrientedCmp.eq_comm

theorem beq_trans {a b c : Value} (h1 : beq a b = true) (h2 : beq b c = true) : beq a c = true := by
  rw [← cmp_eq_iff_beq] at *; exact Std.TransCmp.eq_trans h1 h2

end Sqlgrep
