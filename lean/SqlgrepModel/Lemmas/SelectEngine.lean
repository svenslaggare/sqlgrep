import SqlgrepModel.Lemmas.SelectList
import SqlgrepModel.Lemmas.JoinIndex
import SqlgrepModel.Lemmas.Loop
/-
The select engine (`selectOne`, `selectEnvs`, `executeLine` on a `Stmt.select`) in closed form: the rows of a
line are `Spec.Select.lineRows` (WHERE then projections, per environment), DISTINCT keeps the first occurrences
relative to the memory, `updateLimit` truncates to what is left of LIMIT.
-/
namespace Sqlgrep
open Sqlgrep.Spec.Select

theorem tupleSame_iff (a b : List Value) : tupleSame a b = true ↔ Value.cmpList a b = .eq := by
  rw [tupleSame_eq_beqList, Value.cmpList_eq_iff_beqList]

theorem tupleSame_isEquiv : IsEquiv tupleSame where
  refl a := (tupleSame_iff a a).2 (cmpList_refl a)
  symm a b h := (tupleSame_iff b a).2 (Std.OrientedCmp.eq_symm ((tupleSame_iff a b).1 h))
  trans a b c h1 h2 := (tupleSame_iff a c).2 (Std.TransCmp.eq_trans ((tupleSame_iff a b).1 h1) ((tupleSame_iff b c).1 h2))

/-- what DISTINCT does with the row of one environment -/
def keepRow (distinct : Bool) (seen : List (List Value)) (r : Option (List Value)) : List (List Value) :=
  if distinct then dedupFrom tupleSame seen r.toList else r.toList

def seenAfter (distinct : Bool) (seen : List (List Value)) (kept : List (List Value)) : List (List Value) :=
  if distinct then kept.reverse ++ seen else seen

/-- append rows to an accumulated result (`extendOut` for a whole list) -/
def appendRows (acc : Option RowOut) (names : List String) (rows : List (List Value)) : Option RowOut :=
  match rows with
  | [] => acc
  | _ :: _ => match acc with
    | none => some { columns := names, rows := rows }
    | some a => some { a with rows := a.rows ++ rows }

theorem selectOne_eq (O : Oracles) (q : SelectStmt) (seen : List (List Value)) (env : Env) (keys : List String) :
    selectOne O q seen env keys =
      (envRow O q env keys).bind (fun r =>
        .ok (seenAfter q.distinct seen (keepRow q.distinct seen r),
             appendRows none (outNames q keys) (keepRow q.distinct seen r))) := by
  have hp : (if q.wildcard then (keys, keys.map Expr.column) else (q.projections.map (·.1), q.projections.map (·.2))
      : List String × List Expr) = (outNames q keys, outExprs q keys) := by
    unfold outNames outExprs
    cases q.wildcard <;> rfl
  unfold selectOne envRow
  simp only [hp]
  refine (Outcome.bind_congr fun valid _ => ?_).trans (Outcome.bind_assoc _ _ _).symm
  cases valid
  · cases q.distinct <;> rfl
  · refine (Outcome.bind_congr fun vals _ => ?_).trans (Outcome.bind_assoc _ _ _).symm
    cases q.distinct
    · rfl
    · cases hs : seen.any (tupleSame vals) <;> simp [keepRow, seenAfter, distinctAdd, dedupFrom, appendRows, hs]

def keepRows (distinct : Bool) (seen : List (List Value)) (rs : List (List Value)) : List (List Value) :=
  if distinct then dedupFrom tupleSame seen rs else rs

theorem keepRows_append (d : Bool) (seen a b : List (List Value)) :
    keepRows d seen (a ++ b) = keepRows d seen a ++ keepRows d (seenAfter d seen (keepRows d seen a)) b := by
  cases d <;> simp [keepRows, seenAfter, dedupFrom_append]

theorem seenAfter_append (d : Bool) (seen a b : List (List Value)) :
    seenAfter d seen (a ++ b) = seenAfter d (seenAfter d seen a) b := by
  cases d <;> simp [seenAfter]

@[simp] theorem keepRows_nil (d : Bool) (seen : List (List Value)) : keepRows d seen [] = [] := by
  cases d <;> rfl
@[simp] theorem seenAfter_nil (d : Bool) (seen : List (List Value)) : seenAfter d seen [] = seen := by
  cases d <;> rfl

theorem appendRows_append (acc : Option RowOut) (n : List String) (a b : List (List Value)) :
    appendRows acc n (a ++ b) = appendRows (appendRows acc n a) n b := by
  cases a with
  | nil => rfl
  | cons x xs =>
    cases b with
    | nil => simp [appendRows]
    | cons y ys => cases acc <;> simp [appendRows]

theorem extendOut_appendRows (acc : Option RowOut) (n : List String) (a : List (List Value)) :
    extendOut acc (appendRows none n a) = appendRows acc n a := by
  cases a with
  | nil => cases acc <;> rfl
  | cons x xs => cases acc <;> rfl

theorem selectEnvs_eq (O : Oracles) (q : SelectStmt) (K : List String) :
    ∀ (envs : List (Env × List String)) (seen : List (List Value)) (acc : Option RowOut), (∀ p ∈ envs, p.2 = K) →
    selectEnvs O q envs seen acc =
      (envsRows O q envs).bind (fun rs =>
        .ok (seenAfter q.distinct seen (keepRows q.distinct seen rs),
             appendRows acc (outNames q K) (keepRows q.distinct seen rs))) := by
  intro envs
  induction envs with
  | nil => intro seen acc _; simp [selectEnvs, envsRows, Outcome.bind, appendRows]
  | cons p rest ih =>
    intro seen acc hK
    obtain ⟨env, keys⟩ := p
    have hk : keys = K := hK (env, keys) (List.mem_cons_self ..)
    subst hk
    have hrest : ∀ p ∈ rest, p.2 = keys := fun p hp => hK p (List.mem_cons_of_mem _ hp)
    simp only [selectEnvs, envsRows, selectOne_eq]
    refine (Outcome.bind_assoc _ _ _).trans ((Outcome.bind_congr fun r _ => ?_).trans (Outcome.bind_assoc _ _ _).symm)
    refine (ih _ _ hrest).trans ((Outcome.bind_congr fun rs _ => ?_).trans (Outcome.bind_assoc _ _ _).symm)
    have e : keepRow q.distinct seen r = keepRows q.distinct seen r.toList := rfl
    simp only [Outcome.pure_eq, Outcome.ok_bind, e, keepRows_append, seenAfter_append, appendRows_append, extendOut_appendRows]

/-- every environment of a line carries the same key list (what `*` expands to) -/
theorem lineEnvs_keys (qy : Query) (idx : JoinIndex) (ao : Bool) (l : Line) (envs : List (Env × List String))
    (h : lineEnvs qy idx ao l = .ok envs) : ∀ p ∈ envs, p.2 = queryKeys qy := by
  unfold lineEnvs at h
  unfold queryKeys
  split at h
  next hj =>
    obtain rfl := Outcome.ok.inj h
    intro p hp
    rw [List.mem_singleton.1 hp, hj]
  next j hj =>
    rw [hj]
    split at h
    · cases h
    · split at h
      · obtain rfl := Outcome.ok.inj h
        intro p hp
        obtain ⟨jrow, _, rfl⟩ := List.mem_map.1 hp
        rfl
      · split at h <;> obtain rfl := Outcome.ok.inj h <;> intro p hp
        · rw [List.mem_singleton.1 hp]; rfl
        · cases hp

/-- the result table of a line: nothing when no row survives -/
def tableOf (names : List String) (rows : List (List Value)) : Option RowOut := appendRows none names rows

theorem executeLine_select (O : Oracles) (qy : Query) (q : SelectStmt) (hq : qy.stmt = .select q) (idx : JoinIndex)
    (w : Bool) (es : EngineState) (l : Line) :
    executeLine O qy idx w es l =
      (lineRows O qy q idx l).bind (fun rs =>
        .ok (updateLimit true q.limit { es with seen := seenAfter q.distinct es.seen (keepRows q.distinct es.seen rs) }
              (tableOf (columnsOf qy q) (keepRows q.distinct es.seen rs)))) := by
  unfold lineRows
  by_cases ha : anyResult l.row = true
  · rw [executeLine_select_row O idx es hq w ha]
    simp only [ha, Bool.not_true, Bool.false_eq_true, if_false]
    refine (Outcome.bind_congr fun envs he => ?_).trans (Outcome.bind_assoc _ _ _).symm
    rw [selectEnvs_eq O q (queryKeys qy) envs es.seen none (lineEnvs_keys qy idx true l envs he)]
    exact Outcome.bind_assoc _ _ _
  · rw [executeLine_noise O qy idx w es l (Bool.eq_false_iff.2 ha)]
    simp only [ha, Bool.not_false, if_true, Outcome.bind, keepRows_nil, seenAfter_nil, tableOf, appendRows,
      updateLimit_none, noiseFlag, hq]

/-- a line without a result does not move the LIMIT counter -/
theorem executeLine_select_noresult (O : Oracles) (qy : Query) (q : SelectStmt) (hq : qy.stmt = .select q)
    (idx : JoinIndex) (w : Bool) (es es1 : EngineState) (l : Line) (lo : LineOut)
    (hx : executeLine O qy idx w es l = .ok (es1, lo)) (hr : lo.result = none) : es1.numOut = es.numOut := by
  rw [executeLine_select O qy q hq] at hx
  cases hl : lineRows O qy q idx l with
  | ok rs =>
    rw [hl] at hx
    simp only [Outcome.bind, Outcome.ok.injEq] at hx
    generalize keepRows q.distinct es.seen rs = kept at hx
    cases kept with
    | nil =>
      have : (es1, lo) = updateLimit true q.limit { es with seen := seenAfter q.distinct es.seen [] } (tableOf (columnsOf qy q) []) := hx.symm
      cases hlim : q.limit <;> rw [hlim] at this <;> simp [updateLimit, tableOf, appendRows] at this <;> rw [this.1]
    | cons x xs =>
      exfalso
      have : lo = (updateLimit true q.limit { es with seen := seenAfter q.distinct es.seen (x :: xs) }
          (tableOf (columnsOf qy q) (x :: xs))).2 := by rw [hx]
      rw [this] at hr
      cases hlim : q.limit <;> rw [hlim] at hr <;> simp [updateLimit, tableOf, appendRows] at hr
  | _ => rw [hl] at hx; cases hx

end Sqlgrep
