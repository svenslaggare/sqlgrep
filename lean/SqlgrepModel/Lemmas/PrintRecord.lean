import SqlgrepModel.Lemmas.PrintJson
/- Record level: JSON records are read back to the row; CSV / text records split into their fields. -/
namespace Sqlgrep.Print

/-- what is assumed of the ryu oracle: a finite REAL is rendered as a (non-empty) number token -/
def OracleOk (o : RealOracle) : Prop := ∀ b, isFinite b = true → (Json.num (o.json b)).ok = true

theorem natDigits_numChars (n : Nat) : (natDigits n).all isNumChar = true := by
  rw [List.all_eq_true]
  intro c hc
  have := natDigits_digits n c hc
  simp [isNumChar]; omega

theorem renderInt_ok (i : Int) : (Json.num (renderInt i)).ok = true := by
  have hall := natDigits_numChars i.natAbs
  by_cases h : i < 0
  · rw [renderInt_neg h, Json.ok, List.all_cons, hall]; rfl
  · obtain ⟨c, t, e, _⟩ := natDigits_head i.natAbs
    rw [renderInt_nonneg h, Json.ok, hall, e]; rfl

mutual
theorem jsonValue_ok (o : RealOracle) (ho : OracleOk o) : ∀ v : Value, (jsonValue o v).ok = true
  | .null => rfl
  | .int i => renderInt_ok i
  | .real b => by
    simp only [jsonValue]
    split
    · rename_i h; exact ho b h
    · rfl
  | .bool _ => rfl
  | .text _ => rfl
  | .array _ xs => by simp only [jsonValue, Json.ok]; exact jsonValues_ok o ho xs
  | .timestamp _ _ _ => rfl
  | .interval _ => rfl
theorem jsonValues_ok (o : RealOracle) (ho : OracleOk o) : ∀ xs : List Value, Json.okAll (jsonValues o xs) = true
  | [] => rfl
  | x :: xs => by simp only [jsonValues, Json.okAll, jsonValue_ok o ho x, jsonValues_ok o ho xs, Bool.and_self]
end

theorem loneInput_json (cols : List Bytes) (row : List Value) : loneInput .json cols row = false :=
  Bool.and_false _

theorem loneInput_csv (d : Bytes) (cols : List Bytes) (row : List Value) : loneInput (.csv d) cols row = false :=
  Bool.and_false _

theorem renderRecord_text (o : RealOracle) {cols : List Bytes} {row : List Value}
    (h : loneInput .text cols row = false) :
    renderRecord o .text cols row
      = joinWith [44, 32] ((cols.zip row).map fun nv => nv.1 ++ ([58, 32] ++ displayValue o nv.2)) := by
  unfold renderRecord; rw [h]; rfl

theorem renderRecord_csv_zip (o : RealOracle) (d : Bytes) (cols : List Bytes) (row : List Value) :
    renderRecord o (.csv d) cols row = joinWith d ((cols.zip row).map fun nv => displayValue o nv.2) := by
  unfold renderRecord; rw [loneInput_csv]; rfl

theorem zip_map_ne_nil {α : Type} (f : Bytes × Value → α) {cols : List Bytes} {row : List Value} (hne : cols ≠ [])
    (hl : cols.length = row.length) : (cols.zip row).map f ≠ [] := by
  cases cols with
  | nil => exact absurd rfl hne
  | cons c cs =>
    cases row with
    | nil => cases hl
    | cons v vs => exact List.cons_ne_nil _ _

def jsonMembers (o : RealOracle) (cols : List Bytes) (row : List Value) : List (Bytes × Json) :=
  (cols.zip row).map fun nv => (nv.1, jsonValue o nv.2)

theorem jsonMembers_keys (o : RealOracle) (cols : List Bytes) (row : List Value)
    (h : cols.length = row.length) : (jsonMembers o cols row).map Prod.fst = cols := by
  rw [jsonMembers, List.map_map]
  exact List.map_fst_zip (Nat.le_of_eq h)

theorem jsonMembers_ok (o : RealOracle) (ho : OracleOk o) (cols : List Bytes) (row : List Value) :
    membersOk (jsonMembers o cols row) := by
  intro kv hkv
  simp only [jsonMembers, List.mem_map] at hkv
  obtain ⟨nv, _, rfl⟩ := hkv
  exact jsonValue_ok o ho nv.2

theorem renderRecord_json (o : RealOracle) (cols : List Bytes) (row : List Value) :
    renderRecord o .json cols row = renderObject (mapFromList (jsonMembers o cols row)) := by
  unfold renderRecord; rw [loneInput_json]; rfl

theorem mapFromList_jsonMembers (o : RealOracle) {cols : List Bytes} {row : List Value} (hd : cols.Nodup)
    (hl : cols.length = row.length) : mapFromList (jsonMembers o cols row) = jsonMembers o cols row :=
  mapFromList_nodup _ (by rw [jsonMembers_keys o cols row hl]; exact hd)

theorem readObject_record (o : RealOracle) (ho : OracleOk o) (cols : List Bytes) (row : List Value)
    (hd : cols.Nodup) (hl : cols.length = row.length) :
    readObject (renderRecord o .json cols row) = some (jsonMembers o cols row) := by
  rw [renderRecord_json, mapFromList_jsonMembers o hd hl]
  exact readObject_renderObject _ (jsonMembers_ok o ho cols row)

mutual
/-- no REAL anywhere in the value (REAL fidelity belongs to the ryu oracle) -/
def noReal : Value → Bool
  | .real _ => false
  | .array _ xs => noRealAll xs
  | _ => true
def noRealAll : List Value → Bool
  | [] => true
  | x :: xs => noReal x && noRealAll xs
end

mutual
/-- the value a reader of the JSON output can know: arrays lose their static element type (set to
`int` here), timestamps and intervals are their text form -/
def jsonMeaning : Value → Value
  | .array _ xs => .array .int (jsonMeanings xs)
  | .timestamp d s f => .text (renderTimestamp d s f)
  | .interval n => .text (renderInterval n)
  | v => v
def jsonMeanings : List Value → List Value
  | [] => []
  | x :: xs => jsonMeaning x :: jsonMeanings xs
end

mutual
/-- interpret a cell document: numbers as INT (decimal integer tokens only) -/
def decodeCell : Json → Option Value
  | .null => some .null
  | .bool b => some (.bool b)
  | .num t =>
    match parseInt t with
    | some i => some (.int i)
    | none => none
  | .str s => some (.text s)
  | .arr xs =>
    match decodeCells xs with
    | some vs => some (.array .int vs)
    | none => none
def decodeCells : List Json → Option (List Value)
  | [] => some []
  | x :: xs =>
    match decodeCell x, decodeCells xs with
    | some v, some vs => some (v :: vs)
    | _, _ => none
end

mutual
theorem decodeCell_jsonValue (o : RealOracle) : ∀ v : Value, noReal v = true →
    decodeCell (jsonValue o v) = some (jsonMeaning v)
  | .null, _ => rfl
  | .int i, _ => by simp only [jsonValue, decodeCell, parseInt_renderInt, jsonMeaning]
  | .real _, h => by simp [noReal] at h
  | .bool _, _ => rfl
  | .text _, _ => rfl
  | .array _ xs, h => by
    simp only [noReal] at h
    simp only [jsonValue, decodeCell, decodeCells_jsonValues o xs h, jsonMeaning]
  | .timestamp _ _ _, _ => rfl
  | .interval _, _ => rfl
theorem decodeCells_jsonValues (o : RealOracle) : ∀ xs : List Value, noRealAll xs = true →
    decodeCells (jsonValues o xs) = some (jsonMeanings xs)
  | [], _ => rfl
  | x :: xs, h => by
    simp only [noRealAll, Bool.and_eq_true] at h
    simp only [jsonValues, decodeCells, decodeCell_jsonValue o x h.1, decodeCells_jsonValues o xs h.2,
      jsonMeanings]
end

def splitOn (d : Nat) : Bytes → List Bytes
  | [] => [[]]
  | c :: rest =>
    if c = d then [] :: splitOn d rest
    else
      match splitOn d rest with
      | f :: fs => (c :: f) :: fs
      | [] => [[c]]

theorem splitOn_free (d : Nat) (a : Bytes) (h : d ∉ a) : splitOn d a = [a] := by
  induction a with
  | nil => rfl
  | cons c a ih =>
    simp only [List.mem_cons, not_or] at h
    have hc : c ≠ d := fun e => h.1 e.symm
    simp [splitOn, hc, ih h.2]

theorem splitOn_append (d : Nat) (a rest : Bytes) (h : d ∉ a) :
    splitOn d (a ++ d :: rest) = a :: splitOn d rest := by
  induction a with
  | nil => simp [splitOn]
  | cons c a ih =>
    simp only [List.mem_cons, not_or] at h
    have hc : c ≠ d := fun e => h.1 e.symm
    simp [splitOn, hc, ih h.2]

theorem splitOn_joinWith (d : Nat) (cells : List Bytes) (hne : cells ≠ []) (h : ∀ c ∈ cells, d ∉ c) :
    splitOn d (joinWith [d] cells) = cells := by
  fun_induction joinWith [d] cells with
  | case1 => exact absurd rfl hne
  | case2 x => exact splitOn_free d x (h x List.mem_cons_self)
  | case3 x y rest ih =>
    rw [List.append_assoc, List.singleton_append, splitOn_append d x _ (h x List.mem_cons_self),
      ih (List.cons_ne_nil _ _) fun c hc => h c (List.mem_cons_of_mem _ hc)]

theorem zip_map_snd {α : Type} (cols : List Bytes) (row : List Value) (f : Value → α)
    (h : cols.length = row.length) : (cols.zip row).map (fun nv => f nv.2) = row.map f :=
  (List.map_map (f := Prod.snd) (g := f)).symm.trans (congrArg (List.map f) (List.map_snd_zip (Nat.le_of_eq h.symm)))

theorem splitOn_csv_record (o : RealOracle) (d : Nat) (cols : List Bytes) (row : List Value)
    (hne : cols ≠ []) (hl : cols.length = row.length)
    (hfree : ∀ v ∈ row, d ∉ displayValue o v) :
    splitOn d (renderRecord o (.csv [d]) cols row) = row.map (displayValue o) := by
  rw [renderRecord_csv_zip, splitOn_joinWith d _ (zip_map_ne_nil _ hne hl), zip_map_snd cols row _ hl]
  intro c hc
  obtain ⟨nv, hnv, rfl⟩ := List.mem_map.1 hc
  exact hfree nv.2 (List.of_mem_zip hnv).2

end Sqlgrep.Print
