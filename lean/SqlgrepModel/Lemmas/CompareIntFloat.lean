import SqlgrepModel.Model.CompareIntFloat
import SqlgrepModel.Lemmas.NumericOrder
/-
The ALGORITHM of `compare_int_float` (`F64.compareIntFloatAlgo`, `Model/CompareIntFloat.lean`: NaN test, the two
threshold comparisons with ±2^63, `trunc`, the saturating cast, the sign of the fraction) computes the SPECIFICATION
`F64.cmpIntReal` (exact comparison of the integer with the REAL's value), for every i64 and every bit pattern.
-/
namespace Sqlgrep
namespace F64

/-- `t` is the integer part and `f` the fraction (scaled by `P`) of one number: same sign, `|f| < P` -/
def Split (t f P : Int) : Prop := (0 ≤ t ∧ 0 ≤ f ∧ f < P) ∨ (t ≤ 0 ∧ f ≤ 0 ∧ -P < f)

theorem compare_split (x t f P : Int) (hs : Split t f P) :
    compare (x * P) (t * P + f) = (compare x t).then (compare 0 f) := by
  have h := compare_radix x t 0 f P (by rcases hs with ⟨_, a, b⟩ | ⟨_, a, b⟩ <;> omega)
    (by rcases hs with ⟨_, a, b⟩ | ⟨_, a, b⟩ <;> omega)
  rwa [Int.add_zero] at h

theorem split_range (t f P B : Int) (hs : Split t f P) (hB : 0 < B) (lo : -(B * P) ≤ t * P + f) (hi : t * P + f < B * P) :
    -B ≤ t ∧ t ≤ B - 1 := by
  have hP : 0 ≤ P := by rcases hs with ⟨_, a, b⟩ | ⟨_, a, b⟩ <;> omega
  constructor
  · false_or_by_contra
    rename_i hn
    have h1 : (t + 1) * P ≤ (-B) * P := Int.mul_le_mul_of_nonneg_right (by omega) hP
    rw [Int.add_mul, Int.neg_mul] at h1
    rcases hs with ⟨a, _, _⟩ | ⟨_, a, b⟩ <;> omega
  · false_or_by_contra
    rename_i hn
    have h1 : B * P ≤ t * P := Int.mul_le_mul_of_nonneg_right (by omega) hP
    rcases hs with ⟨_, a, b⟩ | ⟨a, _, _⟩ <;> omega

/-- the scale of the fraction bits: `2^(e+1074)` units of 2^-1074 per unit of `2^e` -/
def fracScale (y : Nat) : Nat := 2 ^ ((mantExp y).2 + 1074).toNat

theorem fracScale_pos (y : Nat) : 0 < fracScale y := Nat.two_pow_pos _

theorem umag_split (y : Nat) :
    umag y = truncMag y * 2 ^ 1074 + fracMag y * fracScale y ∧ fracMag y * fracScale y < 2 ^ 1074 := by
  unfold umag truncMag fracMag fracScale
  have hge := mantExp_exp_ge y
  generalize (mantExp y).1 = m at *
  generalize (mantExp y).2 = e at *
  by_cases h : e ≥ 0
  · rw [if_pos h, if_pos h]
    have : (e + 1074).toNat = e.toNat + 1074 := by omega
    rw [this, Nat.pow_add, Nat.zero_mul, Nat.add_zero, Nat.mul_assoc]
    refine ⟨?_, Nat.pow_pos (Nat.succ_pos 1)⟩
    generalize (2 : Nat) ^ 1074 = P
    rfl
  · rw [if_neg h, if_neg h]
    have hk : (-e).toNat + (e + 1074).toNat = 1074 := by omega
    generalize (-e).toNat = k at *
    generalize (e + 1074).toNat = j at *
    have hP : (2 : Nat) ^ 1074 = 2 ^ k * 2 ^ j := by rw [← Nat.pow_add, hk]
    rw [hP]
    constructor
    · have := Nat.div_add_mod m (2 ^ k)
      calc m * 2 ^ j = (2 ^ k * (m / 2 ^ k) + m % 2 ^ k) * 2 ^ j := by rw [this]
        _ = m / 2 ^ k * (2 ^ k * 2 ^ j) + m % 2 ^ k * 2 ^ j := by
            rw [Nat.add_mul, Nat.mul_comm (2 ^ k) (m / 2 ^ k), Nat.mul_assoc]
    · exact (Nat.mul_lt_mul_right (Nat.two_pow_pos j)).2 (Nat.mod_lt _ (Nat.two_pow_pos k))

theorem units_split (y : Nat) :
    units y = truncInt y * 2 ^ 1074 + fracInt y * (fracScale y : Int) ∧
    Split (truncInt y) (fracInt y * (fracScale y : Int)) (2 ^ 1074) := by
  obtain ⟨h1, h2⟩ := umag_split y
  unfold units truncInt fracInt
  have c1 : (((2 : Nat) ^ 1074 : Nat) : Int) = (2 : Int) ^ 1074 := Int.natCast_pow 2 1074
  have e1 : ((umag y : Nat) : Int) = (truncMag y : Int) * 2 ^ 1074 + (fracMag y : Int) * (fracScale y : Int) := by
    rw [h1, Int.natCast_add, Int.natCast_mul, Int.natCast_mul, c1]
  have e2 : (fracMag y : Int) * (fracScale y : Int) < 2 ^ 1074 := by
    have : ((fracMag y * fracScale y : Nat) : Int) < (((2 : Nat) ^ 1074 : Nat) : Int) := Int.ofNat_lt.2 h2
    rw [Int.natCast_mul, c1] at this
    exact this
  have e3 : (0 : Int) ≤ (fracMag y : Int) * (fracScale y : Int) := Int.mul_nonneg (Int.natCast_nonneg _) (Int.natCast_nonneg _)
  have e4 : (0 : Int) ≤ (truncMag y : Int) := Int.natCast_nonneg _
  clear c1 h1 h2
  generalize ((2 : Int) ^ 1074) = P at *
  by_cases s : signBit y
  · rw [if_pos s, if_pos s, if_pos s, e1, Int.neg_mul, Int.neg_mul]
    generalize (fracMag y : Int) * (fracScale y : Int) = F at *
    exact ⟨by omega, .inr ⟨by omega, by omega, by omega⟩⟩
  · rw [if_neg s, if_neg s, if_neg s]
    exact ⟨e1, .inl ⟨e4, e3, e2⟩⟩

theorem units_two63 : units two63 = 2 ^ 63 * 2 ^ 1074 := by decide +kernel
theorem units_negTwo63 : units negTwo63 = -(2 ^ 63 * 2 ^ 1074) := by decide +kernel
theorem isNaN_two63 : isNaN two63 = false := by decide
theorem isNaN_negTwo63 : isNaN negTwo63 = false := by decide

/-- away from NaN the IEEE comparisons compare the values (in units of 2^-1074) -/
theorem flt_of_not_nan {a b : Nat} (ha : isNaN a = false) (hb : isNaN b = false) :
    flt a b = decide (units a < units b) := by
  unfold flt
  rw [ha, hb]
  exact decide_eq_decide.2 (units_lt_iff a b).symm

theorem fge_of_not_nan {a b : Nat} (ha : isNaN a = false) (hb : isNaN b = false) :
    fge a b = decide (units b ≤ units a) := by
  unfold fge
  rw [ha, hb]
  exact decide_eq_decide.2 (by rw [← Int.not_lt, ← Int.not_lt, units_lt_iff])

theorem fge_two63 (y : Nat) (hy : isNaN y = false) : fge y two63 = decide (2 ^ 63 * 2 ^ 1074 ≤ units y) := by
  rw [fge_of_not_nan hy isNaN_two63, units_two63]

theorem flt_negTwo63 (y : Nat) (hy : isNaN y = false) : flt y negTwo63 = decide (units y < -(2 ^ 63 * 2 ^ 1074)) := by
  rw [flt_of_not_nan hy isNaN_negTwo63, units_negTwo63]

theorem satI64_id {t : Int} (h1 : -2 ^ 63 ≤ t) (h2 : t ≤ 2 ^ 63 - 1) : satI64 t = t := by
  unfold satI64
  rw [if_neg (by omega), if_neg (by omega)]

theorem mul_lt_of_lt_of_le {x B P u : Int} (hx : x < B) (hP : 0 < P) (h : B * P ≤ u) : x * P < u :=
  Int.lt_of_lt_of_le (Int.mul_lt_mul_of_pos_right hx hP) h

/-- **the algorithm of `compare_int_float` is the exact comparison**: for every i64 `x` and every bit pattern `y` -/
theorem compareIntFloatAlgo_eq_cmpIntReal (x : Int) (y : Nat) (hx : -2 ^ 63 ≤ x ∧ x < 2 ^ 63) :
    compareIntFloatAlgo x y = cmpIntReal x y := by
  rcases classify y with ⟨hf, hi, hn⟩ | ⟨hf, hi, hn⟩ | ⟨hf, hi, hn⟩
  · -- finite: both sides compare `x · 2^1074` with the units of `y`
    rw [cmpIntReal_eq_compare_units x y hf]
    unfold compareIntFloatAlgo
    rw [hn, fge_two63 y hn, flt_negTwo63 y hn]
    obtain ⟨hu, hs⟩ := units_split y
    have hP : (0 : Int) < 2 ^ 1074 := Int.pow_pos (by decide)
    generalize ((2 : Int) ^ 1074) = P at *
    by_cases h1 : 2 ^ 63 * P ≤ units y
    · rw [decide_eq_true h1, Bool.or_true, if_pos rfl]
      exact (intCompare_lt (mul_lt_of_lt_of_le hx.2 hP h1)).symm
    · rw [decide_eq_false h1, Bool.or_false, if_neg Bool.false_ne_true]
      by_cases h2 : units y < -(2 ^ 63 * P)
      · rw [decide_eq_true h2, if_pos rfl]
        refine (intCompare_gt (Int.lt_of_lt_of_le h2 ?_)).symm
        rw [← Int.neg_mul]
        exact Int.mul_le_mul_of_nonneg_right hx.1 (Int.le_of_lt hP)
      · rw [decide_eq_false h2, if_neg Bool.false_ne_true]
        have hr := split_range (truncInt y) _ P (2 ^ 63) hs (by decide) (by rw [← hu]; omega) (by rw [← hu]; omega)
        rw [satI64_id hr.1 hr.2, hu, compare_split x _ _ P hs]
        have hsg := intCompare_mul_pos 0 (fracInt y) (fracScale y : Int) (Int.natCast_pos.2 (fracScale_pos y))
        rw [Int.zero_mul] at hsg
        rw [hsg]
  · -- ±inf
    rw [cmpIntReal_inf x y hi]
    unfold compareIntFloatAlgo fge flt
    rw [hn, isNaN_two63, isNaN_negTwo63]
    by_cases s : signBit y
    · have hk := key_inf_neg hi s
      have k1 : key two63 = 0x43E0000000000000 := by decide
      have k2 : key negTwo63 = -0x43E0000000000000 := by decide
      simp [s, hk, k1, k2]
    · have hk := key_inf_pos hi (by simpa using s)
      have k1 : key two63 = 0x43E0000000000000 := by decide
      simp [s, hk, k1]
  · -- NaN
    rw [cmpIntReal_nan x y hn]
    unfold compareIntFloatAlgo
    simp [hn]

/-- 2^53 + 1 against 2^53 (`9007199254740993 > 9007199254740992.0`: rounding the INT to REAL would say "equal") -/
example : compareIntFloatAlgo 9007199254740993 0x4340000000000000 = .gt := by decide +kernel
/-- `i64::MAX` against 2^63 (first threshold) and `i64::MIN` against -2^63 (equal: not below the second threshold) -/
example : compareIntFloatAlgo 9223372036854775807 two63 = .lt ∧ compareIntFloatAlgo (-9223372036854775808) negTwo63 = .eq := by
  decide +kernel
/-- the fraction decides when the integer parts agree: 5 < 5.5, -5 > -5.5, 5 = 5.0, 0 = -0.0 -/
example : compareIntFloatAlgo 5 0x4016000000000000 = .lt ∧ compareIntFloatAlgo (-5) 0xC016000000000000 = .gt ∧
    compareIntFloatAlgo 5 0x4014000000000000 = .eq ∧ compareIntFloatAlgo 0 0x8000000000000000 = .eq := by decide +kernel
/-- subnormals, infinities, NaN -/
example : compareIntFloatAlgo 0 1 = .lt ∧ compareIntFloatAlgo 0 0x8000000000000001 = .gt ∧
    compareIntFloatAlgo 7 0x7ff0000000000000 = .lt ∧ compareIntFloatAlgo 7 0xfff0000000000000 = .gt ∧
    compareIntFloatAlgo 7 0x7ff8000000000000 = .lt := by decide +kernel

end F64
end Sqlgrep
