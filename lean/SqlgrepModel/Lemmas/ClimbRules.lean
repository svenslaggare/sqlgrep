import SqlgrepModel.Lemmas.ClimbMono
import SqlgrepModel.Lemmas.ParseFuel
import SqlgrepModel.Spec.Grammar
/-
Fuel-free big-step judgements for the successful runs of the expression parser and the derivation rules the
precedence-climbing proof uses. Each rule is one unfolding of the corresponding model function at a fuel that is
large enough for all its premises (`Ev`, from `fuel_mono_*`).
-/
namespace Sqlgrep.Parse

def Ev (A : Nat → Prop) : Prop := ∃ f0, ∀ f, f0 ≤ f → A f

theorem Ev.and {A B : Nat → Prop} (ha : Ev A) (hb : Ev B) : Ev fun f => A f ∧ B f := by
  obtain ⟨f, hf⟩ := ha; obtain ⟨g, hg⟩ := hb
  exact ⟨max f g, fun k hk => ⟨hf k (by omega), hg k (by omega)⟩⟩

/-- a function that spends one unit of fuel on a step whose premises `A` hold at every large fuel -/
theorem Ev.step {A C : Nat → Prop} (ha : Ev A) (h : ∀ n, A n → C (n + 1)) : ∃ f, C f :=
  let ⟨f, hf⟩ := ha; ⟨f + 1, h f (hf f (Nat.le_refl f))⟩

def Eat (t : Tok) (s s' : PSt) : Prop := s.cur.tok = t ∧ next s = .ok () s'

theorem Eat.expect {t k} {s s' : PSt} (h : Eat t s s') : expectConsume t k s = .ok () s' := by
  rw [expectConsume, if_pos h.1, h.2]

variable (T : PrecTables)

def PE (s : PSt) (t : PExpr) (s' : PSt) : Prop := ∃ f, parseExpr T f s = .ok t s'
def PR (m : Int) (l : PExpr) (s : PSt) (t : PExpr) (s' : PSt) : Prop := ∃ f, parseRhs T f m l s = .ok t s'
def PU (s : PSt) (t : PExpr) (s' : PSt) : Prop := ∃ f, parseUnary T f s = .ok t s'
def PP (s : PSt) (t : PExpr) (s' : PSt) : Prop := ∃ f, parsePrimary T f s = .ok t s'
def PL (close : Tok) (acc : List PExpr) (s : PSt) (r : List PExpr) (s' : PSt) : Prop :=
  ∃ f, parseList T f close acc s = .ok r s'
def PC (loc : Loc) (acc : List (PExpr × PExpr)) (s : PSt) (t : PExpr) (s' : PSt) : Prop :=
  ∃ f, parseCase T f loc acc s = .ok t s'
/-- `parse_unary_operator` followed by `parse_binary_operator_rhs(m, _)` -/
def PExprAt (m : Int) (s : PSt) (t : PExpr) (s' : PSt) : Prop := ∃ l s1, PU T s l s1 ∧ PR T m l s1 t s'
/-- `parse_arguments`: nothing in front of the closing token, or `parse_list` -/
def PA (close : Tok) (s : PSt) (r : List PExpr) (s' : PSt) : Prop :=
  (r = [] ∧ Eat close s s') ∨ (s.cur.tok ≠ close ∧ PL T close [] s r s')

theorem ok_ne_fuel {α} {a : α} {s : PSt} : (PRes.ok a s) ≠ PRes.fuel := nofun

theorem tokenPrecedence_state {s s2 : PSt} {tp : Int} (h : tokenPrecedence T s = .ok tp s2) : s2 = s :=
  tokenPrecedence_ok h

section
variable {T}
theorem PE.ev {s t s'} (h : PE T s t s') : Ev fun f => parseExpr T f s = .ok t s' :=
  Exists.imp (fun _ hf _ hle => fuel_mono_expr T hle hf ok_ne_fuel) h
theorem PR.ev {m l s t s'} (h : PR T m l s t s') : Ev fun f => parseRhs T f m l s = .ok t s' :=
  Exists.imp (fun _ hf _ hle => fuel_mono_rhs T hle hf ok_ne_fuel) h
theorem PU.ev {s t s'} (h : PU T s t s') : Ev fun f => parseUnary T f s = .ok t s' :=
  Exists.imp (fun _ hf _ hle => fuel_mono_unary T hle hf ok_ne_fuel) h
theorem PP.ev {s t s'} (h : PP T s t s') : Ev fun f => parsePrimary T f s = .ok t s' :=
  Exists.imp (fun _ hf _ hle => fuel_mono_primary T hle hf ok_ne_fuel) h
theorem PL.ev {c acc s r s'} (h : PL T c acc s r s') : Ev fun f => parseList T f c acc s = .ok r s' :=
  Exists.imp (fun _ hf _ hle => fuel_mono_list T hle hf ok_ne_fuel) h
theorem PC.ev {loc acc s t s'} (h : PC T loc acc s t s') : Ev fun f => parseCase T f loc acc s = .ok t s' :=
  Exists.imp (fun _ hf _ hle => fuel_mono_case T hle hf ok_ne_fuel) h
end

/-! ### `parse_expression_internal`, `parse_list`, the CASE loop -/

theorem PE_of_at {s t s'} (h : PExprAt T 0 s t s') : PE T s t s' := by
  obtain ⟨l, s1, hu, hr⟩ := h
  exact (hu.ev.and hr.ev).step fun n ⟨hf, hg⟩ => by rw [parseExpr, hf]; exact hg

theorem PE_intro {s l s1 t s2} (hu : PU T s l s1) (hr : PR T 0 l s1 t s2) : PE T s t s2 :=
  PE_of_at T ⟨l, s1, hu, hr⟩

theorem PL_last {close acc s e s1 s2} (he : PE T s e s1) (hcl : Eat close s1 s2) : PL T close acc s (acc ++ [e]) s2 :=
  he.ev.step fun n hf => by rw [parseList, hf]; simp only [hcl.1, if_true, hcl.2, PRes.bind]

theorem PL_more {close acc s e s1 s2 r s3} (he : PE T s e s1) (hncl : close ≠ .comma) (hcomma : Eat .comma s1 s2)
    (hl : PL T close (acc ++ [e]) s2 r s3) : PL T close acc s r s3 :=
  (he.ev.and hl.ev).step fun n ⟨hf, hg⟩ => by
    rw [parseList, hf]; simp only [hcomma.1, if_neg hncl.symm, if_true, hcomma.2, hg]

theorem PC_last {loc acc s s1 c s2 s3 r s4 s5 e s6 s7} (hw : Eat (.kw .when) s s1) (hc : PE T s1 c s2)
    (ht : Eat (.kw .then) s2 s3) (hr : PE T s3 r s4) (hel : Eat (.kw .else) s4 s5) (he : PE T s5 e s6)
    (hend : Eat (.kw .end) s6 s7) : PC T loc acc s (.case loc (acc ++ [(c, r)]) e) s7 :=
  (hc.ev.and (hr.ev.and he.ev)).step fun n ⟨hf, hg, hk⟩ => by
    rw [parseCase]; simp only [hw.expect, hf, ht.expect, hg, hel.1, if_true, hel.2, hk, hend.expect]

theorem PC_more {loc acc s s1 c s2 s3 r s4 t s'} (hw : Eat (.kw .when) s s1) (hc : PE T s1 c s2)
    (ht : Eat (.kw .then) s2 s3) (hr : PE T s3 r s4) (hnel : s4.cur.tok ≠ .kw .else)
    (hrest : PC T loc (acc ++ [(c, r)]) s4 t s') : PC T loc acc s t s' :=
  (hc.ev.and (hr.ev.and hrest.ev)).step fun n ⟨hf, hg, hk⟩ => by
    rw [parseCase]; simp only [hw.expect, hf, ht.expect, hg, if_neg hnel, hk]

/-! ### `parse_binary_operator_rhs` -/

theorem PR_det {m l s t t' s' s''} (h : PR T m l s t s') (h' : PR T m l s t' s'') : t = t' ∧ s' = s'' := by
  obtain ⟨f, hf⟩ := h.ev.and h'.ev
  obtain ⟨a, b⟩ := hf f (Nat.le_refl f)
  rw [a] at b; cases b; exact ⟨rfl, rfl⟩

theorem PR_stop {m l s tp} (htp : tokenPrecedence T s = .ok tp s) (hlt : tp < m) : PR T m l s l s :=
  ⟨1, by rw [parseRhs]; simp only [htp, hlt, if_true]⟩

theorem PR_tp {m l s t s'} (h : PR T m l s t s') : ∃ tp, tokenPrecedence T s = .ok tp s := by
  obtain ⟨f, hf⟩ := h
  cases f with
  | zero => rw [parseRhs] at hf; cases hf
  | succ f =>
    rw [parseRhs] at hf
    split at hf
    · cases hf
    · cases hf
    · rename_i tp s2 heq
      cases tokenPrecedence_ok heq
      exact ⟨tp, heq⟩

/-- one turn of the loop of `parse_binary_operator_rhs` for an infix operator with a right operand: the operand is
`parse_unary_operator` followed by the loop one level above the operator (a loop the code only enters when the token
after the operand binds tighter than the operator, i.e. when it would not stop at once) -/
theorem PR_bin {m l s tp s1 rhs s3 l' t s4} (htp : tokenPrecedence T s = .ok tp s) (hge : ¬ tp < m)
    (h1 : s.cur.tok ≠ .lsq) (h2 : s.cur.tok ≠ .kw .in) (h3 : s.cur.tok ≠ .kw .notIn)
    (hnext : next s = .ok () s1) (hx : PExprAt T (tp + 1) s1 rhs s3)
    (hcomb : combine s.cur.loc s.cur.tok l rhs = .ok l') (hc : PR T m l' s3 t s4) : PR T m l s t s4 := by
  obtain ⟨u, s2, hu, hr⟩ := hx
  obtain ⟨tp2, htp2⟩ := PR_tp T hr
  have hr' : Ev fun f => (if tp < tp2 then parseRhs T f (tp + 1) u s2 else .ok u s2) = .ok rhs s3 := by
    by_cases hlt : tp < tp2
    · simpa only [hlt, if_true] using hr.ev
    · obtain ⟨rfl, rfl⟩ := PR_det T hr (PR_stop T htp2 (by omega))
      exact ⟨0, fun _ _ => if_neg hlt⟩
  exact (hu.ev.and (hr'.and hc.ev)).step fun n ⟨hf, hk, hg⟩ => by
    rw [parseRhs]; simp only [htp, hge, if_false, hnext, hf, htp2, hk, hcomb, hg]

theorem PR_index {m l s tp s1 i s2 s3 t s4} (htp : tokenPrecedence T s = .ok tp s) (hge : ¬ tp < m)
    (hcur : Eat .lsq s s1) (he : PE T s1 i s2) (hrsq : Eat .rsq s2 s3)
    (hc : PR T m (.index s.cur.loc l i) s3 t s4) : PR T m l s t s4 :=
  (he.ev.and hc.ev).step fun n ⟨hf, hg⟩ => by
    rw [parseRhs]; simp only [htp, hge, if_false, hcur.2, hcur.1, hf, hrsq.expect, hg]

theorem PR_in {m l s tp s1 s2 vs s3 t s4} (n : Bool) (htp : tokenPrecedence T s = .ok tp s) (hge : ¬ tp < m)
    (hcur : Eat (Spec.RExpr.inTok n) s s1) (hlp : Eat .lp s1 s2) (hl : PL T .rp [] s2 vs s3)
    (hc : PR T m (.inList s.cur.loc n l vs) s3 t s4) : PR T m l s t s4 :=
  (hl.ev.and hc.ev).step fun k ⟨hf, hg⟩ => by
    rw [parseRhs]
    cases n <;>
      simp only [htp, hge, if_false, hcur.2, hcur.1, Spec.RExpr.inTok, hlp.1, ne_eq, not_true_eq_false, hlp.2, hf] <;>
      exact hg

/-! ### `parse_unary_operator` -/

theorem PU_prim {s t s'} (h1 : ∀ o, s.cur.tok ≠ .op o) (h2 : s.cur.tok ≠ .kw .not) (hp : PP T s t s') : PU T s t s' :=
  hp.ev.step fun n hf => by
    rw [parseUnary]
    dsimp only
    split
    · rename_i o h; exact absurd h (h1 o)
    · rename_i h; exact absurd h h2
    · simpa using hf

theorem PU_star {s s1} (h : Eat (.op (.single '*')) s s1) : PU T s (.wildcard s.cur.loc) s1 :=
  ⟨1, by rw [parseUnary, h.1]; simp only [Bool.not_true, Bool.false_eq_true, if_false, h.2, if_true]⟩

theorem PU_not {s s1 x s2} (h : Eat (.kw .not) s s1) (hx : PExprAt T 4 s1 x s2) : PU T s (.invert s.cur.loc x) s2 := by
  obtain ⟨u, s', hu, hr⟩ := hx
  exact (hu.ev.and hr.ev).step fun n ⟨hf, hg⟩ => by
    rw [parseUnary, h.1]; simp only [Bool.not_true, Bool.false_eq_true, if_false, h.2, reduceCtorEq, hf, if_true, hg]

theorem PU_neg {s o s1 x s2} (h : Eat (.op o) s s1) (hstar : o ≠ .single '*') (hun : o ∈ T.unary)
    (hx : PExprAt T 8 s1 x s2) : PU T s (.unop s.cur.loc o x) s2 := by
  obtain ⟨u, s', hu, hr⟩ := hx
  exact (hu.ev.and hr.ev).step fun n ⟨hf, hg⟩ => by
    rw [parseUnary, h.1]
    simp only [Bool.not_true, Bool.false_eq_true, if_false, h.2, Tok.op.injEq, hstar, hf, reduceCtorEq, hg,
      List.contains_eq_mem, hun, decide_true]

/-! ### `parse_primary_expression`

`rw [parsePrimary, h.1]` selects the branch of the first token before anything is simplified. `String.reduceToList` is
kept out of `simp`: checking the literal it produces against `"count".toList` is expensive. -/

theorem PP_lit {s s1} (l : Spec.Lit) (h : Eat l.tok s s1) : PP T s (.value s.cur.loc l.value) s1 :=
  ⟨1, by rw [parsePrimary, h.1]; cases l <;> exact congrArg (PRes.bind · _) h.2⟩

/-- an identifier that is not followed by `(` (nor, when it is `array`, by `[`) is a column; its location is the
location of the token after it, as in the code -/
theorem PP_col {s x s1} (h : Eat (.ident x) s s1) (h1 : s1.cur.tok ≠ .lp) (h2 : lowerChars x ≠ "array".toList) :
    PP T s (.column s1.cur.loc x) s1 :=
  ⟨1, by rw [parsePrimary, h.1]; simp only [h.2, h1, h2, and_false, decide_false, Bool.or_self, Bool.not_false, if_true]⟩

theorem PP_call {s f s1 s2 args s3} (h : Eat (.ident f) s s1) (hlp : Eat .lp s1 s2) (hnd : s2.cur.tok ≠ .kw .distinct)
    (ha : PA T .rp s2 args s3) :
    PP T s (.call s1.cur.loc f args (if lowerChars f = "count".toList then some false else none)) s3 := by
  rcases ha with ⟨rfl, hc⟩ | ⟨hc, hl⟩
  · exact ⟨1, by rw [parsePrimary, h.1]; simp [-String.reduceToList, h.2, hlp.1, hlp.2, hc.1, hc.2, PRes.bind]⟩
  · exact hl.ev.step fun n hg => by rw [parsePrimary, h.1]; simp [-String.reduceToList, h.2, hlp.1, hlp.2, hnd, hc, hg]

theorem PP_call_nil {s f s1 s2 s3} (hcur : s.cur.tok = .ident f) (hnext : next s = .ok () s1)
    (hlp : s1.cur.tok = .lp) (hnext1 : next s1 = .ok () s2) (hrp : s2.cur.tok = .rp) (hnext2 : next s2 = .ok () s3) :
    PP T s (.call s1.cur.loc f [] (if lowerChars f = "count".toList then some false else none)) s3 :=
  PP_call T ⟨hcur, hnext⟩ ⟨hlp, hnext1⟩ (hrp ▸ nofun) (.inl ⟨rfl, hrp, hnext2⟩)

theorem PP_call_cons {s f s1 s2 args s3} (hcur : s.cur.tok = .ident f) (hnext : next s = .ok () s1)
    (hlp : s1.cur.tok = .lp) (hnext1 : next s1 = .ok () s2) (hnrp : s2.cur.tok ≠ .rp)
    (hnd : s2.cur.tok ≠ .kw .distinct) (hl : PL T .rp [] s2 args s3) :
    PP T s (.call s1.cur.loc f args (if lowerChars f = "count".toList then some false else none)) s3 :=
  PP_call T ⟨hcur, hnext⟩ ⟨hlp, hnext1⟩ hnd (.inr ⟨hnrp, hl⟩)

theorem PP_call_distinct {s f s1 s2 s3 args s4} (h : Eat (.ident f) s s1) (hlp : Eat .lp s1 s2)
    (hc : lowerChars f = "count".toList) (hd : Eat (.kw .distinct) s2 s3) (hnrp : s3.cur.tok ≠ .rp)
    (hl : PL T .rp [] s3 args s4) : PP T s (.call s1.cur.loc f args (some true)) s4 :=
  hl.ev.step fun n hg => by
    rw [parsePrimary, h.1]; simp [-String.reduceToList, h.2, hlp.1, hlp.2, eq_true hc, hd.1, hd.2, hnrp, hg]

theorem array_ne_count {sp : List Char} (h : lowerChars sp = "array".toList) : lowerChars sp ≠ "count".toList := by
  rw [h]; decide

theorem PP_array {s sp s1 s2 args s3} (h : Eat (.ident sp) s s1) (hlsq : Eat .lsq s1 s2)
    (ha : lowerChars sp = "array".toList) (hargs : PA T .rsq s2 args s3) :
    PP T s (.call s1.cur.loc "create_array".toList args none) s3 := by
  rcases hargs with ⟨rfl, hc⟩ | ⟨hc, hl⟩
  · exact ⟨1, by
      rw [parsePrimary, h.1]
      simp [-String.reduceToList, h.2, hlsq.1, hlsq.2, eq_true ha, array_ne_count ha, hc.1, hc.2, PRes.bind]⟩
  · exact hl.ev.step fun n hg => by
      rw [parsePrimary, h.1]; simp [-String.reduceToList, h.2, hlsq.1, hlsq.2, eq_true ha, array_ne_count ha, hc, hg]

theorem PP_array_nil {s sp s1 s2 s3} (hcur : s.cur.tok = .ident sp) (hnext : next s = .ok () s1)
    (hlsq : s1.cur.tok = .lsq) (ha : lowerChars sp = "array".toList) (hnext1 : next s1 = .ok () s2)
    (hrsq : s2.cur.tok = .rsq) (hnext2 : next s2 = .ok () s3) :
    PP T s (.call s1.cur.loc "create_array".toList [] none) s3 :=
  PP_array T ⟨hcur, hnext⟩ ⟨hlsq, hnext1⟩ ha (.inl ⟨rfl, hrsq, hnext2⟩)

theorem PP_array_cons {s sp s1 s2 args s3} (hcur : s.cur.tok = .ident sp) (hnext : next s = .ok () s1)
    (hlsq : s1.cur.tok = .lsq) (ha : lowerChars sp = "array".toList) (hnext1 : next s1 = .ok () s2)
    (hnrsq : s2.cur.tok ≠ .rsq) (hl : PL T .rsq [] s2 args s3) :
    PP T s (.call s1.cur.loc "create_array".toList args none) s3 :=
  PP_array T ⟨hcur, hnext⟩ ⟨hlsq, hnext1⟩ ha (.inr ⟨hnrsq, hl⟩)

theorem PP_paren {s s1 e s2 s3} (h : Eat .lp s s1) (he : PE T s1 e s2) (hrp : Eat .rp s2 s3) : PP T s e s3 :=
  he.ev.step fun n hf => by
    rw [parsePrimary, h.1]; simp only [h.2, hf, hrp.1, reduceCtorEq, if_false, hrp.expect]

theorem PP_tuple {s s1 a s2 s3 vs s4} (h : Eat .lp s s1) (he : PE T s1 a s2) (hcomma : Eat .comma s2 s3)
    (hl : PL T .rp [a] s3 vs s4) : PP T s (.tuple s.cur.loc vs) s4 :=
  (he.ev.and hl.ev).step fun n ⟨hf, hg⟩ => by
    rw [parsePrimary, h.1]; simp only [h.2, hf, hcomma.1, if_true, hcomma.2, hg]

theorem PP_extract {s s1 s2 part s3 s4 e s5 s6} (h : Eat (.kw .extract) s s1) (hlp : Eat .lp s1 s2)
    (hid : Eat (.ident part) s2 s3) (hfrom : Eat (.kw .from) s3 s4) (he : PE T s4 e s5) (hrp : Eat .rp s5 s6) :
    PP T s (.call s2.cur.loc ("timestamp_extract_".toList ++ lowerChars part) [e] none) s6 :=
  he.ev.step fun n hg => by
    rw [parsePrimary, h.1]
    simp only [h.2, hlp.expect, consumeIdentifier, hid.1, hid.2, PRes.bind, hfrom.expect, hg, hrp.expect]

theorem PP_case {s s1 t s'} (h : Eat (.kw .case) s s1) (hc : PC T s.cur.loc [] s1 t s') : PP T s t s' :=
  hc.ev.step fun n hf => by rw [parsePrimary, h.1]; simp only [h.2, hf]

theorem PExprAt_first {m s t s'} (h : PExprAt T m s t s') :
    s.cur.tok ≠ .rp ∧ s.cur.tok ≠ .rsq ∧ s.cur.tok ≠ .kw .distinct := by
  obtain ⟨_, _, ⟨f, hf⟩, _⟩ := h
  cases f with
  | zero => rw [parseUnary] at hf; cases hf
  | succ f =>
    rw [parseUnary] at hf
    cases f <;> rw [parsePrimary] at hf <;> refine ⟨?_, ?_, ?_⟩ <;> intro heq <;> rw [heq] at hf <;> cases hf

end Sqlgrep.Parse
