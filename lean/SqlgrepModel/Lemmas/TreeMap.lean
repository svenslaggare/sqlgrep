import SqlgrepModel.Model.ParseStmt
/-
The one map over parse trees: `e.mapAll ℓ ρc ρf` is `e` with every location `l` replaced by `ℓ l`, every column name `n` by
`ρc n` and every call name by `ρf n`. Every other transformation of a tree in the development is an instance, with one
equation saying so next to its definition:

  `e.renameCalls ρ = e.mapAll id id ρ`   (`Lemmas/LowerNames.lean`)      `e.renAll ρ = e.mapAll id ρ ρ`   (`Lemmas/ParseMap.lean`)
  `e.eraseLoc = e.mapAll (fun _ => default) id id`   (`Lemmas/ParseLoc.lean`)      `e.noLoc = …` the same   (`Lemmas/ParseClauses.lean`)

The lowering commutes with `mapAll lf id ρ` (`lowerStatement_relabel`), the parser with `mapAll ℓ ρ ρ` (`morph_all`).
Statements about a tree, a list of trees and a list of WHEN/THEN pairs come as one conjunction in this order (`PExpr.induct3`).
-/
namespace Sqlgrep

mutual
def PExpr.mapAll (ℓ : Loc → Loc) (ρc ρf : List Char → List Char) : PExpr → PExpr
  | .value l v => .value (ℓ l) v
  | .column l n => .column (ℓ l) (ρc n)
  | .wildcard l => .wildcard (ℓ l)
  | .tuple l vs => .tuple (ℓ l) (PExpr.mapAllList ℓ ρc ρf vs)
  | .binop l o a b => .binop (ℓ l) o (a.mapAll ℓ ρc ρf) (b.mapAll ℓ ρc ρf)
  | .boolop l o a b => .boolop (ℓ l) o (a.mapAll ℓ ρc ρf) (b.mapAll ℓ ρc ρf)
  | .unop l o e => .unop (ℓ l) o (e.mapAll ℓ ρc ρf)
  | .invert l e => .invert (ℓ l) (e.mapAll ℓ ρc ρf)
  | .nullcmp l n a b => .nullcmp (ℓ l) n (a.mapAll ℓ ρc ρf) (b.mapAll ℓ ρc ρf)
  | .inList l n e vs => .inList (ℓ l) n (e.mapAll ℓ ρc ρf) (PExpr.mapAllList ℓ ρc ρf vs)
  | .call l n args d => .call (ℓ l) (ρf n) (PExpr.mapAllList ℓ ρc ρf args) d
  | .index l a i => .index (ℓ l) (a.mapAll ℓ ρc ρf) (i.mapAll ℓ ρc ρf)
  | .cast l e t => .cast (ℓ l) (e.mapAll ℓ ρc ρf) t
  | .case l cs els => .case (ℓ l) (PExpr.mapAllClauses ℓ ρc ρf cs) (els.mapAll ℓ ρc ρf)
def PExpr.mapAllList (ℓ : Loc → Loc) (ρc ρf : List Char → List Char) : List PExpr → List PExpr
  | [] => []
  | x :: xs => x.mapAll ℓ ρc ρf :: PExpr.mapAllList ℓ ρc ρf xs
def PExpr.mapAllClauses (ℓ : Loc → Loc) (ρc ρf : List Char → List Char) : List (PExpr × PExpr) → List (PExpr × PExpr)
  | [] => []
  | (c, r) :: xs => (c.mapAll ℓ ρc ρf, r.mapAll ℓ ρc ρf) :: PExpr.mapAllClauses ℓ ρc ρf xs
end

/-- induction over a tree, the lists of trees and the lists of WHEN/THEN pairs in it -/
theorem PExpr.induct3 (m1 : PExpr → Prop) (m2 : List PExpr → Prop) (m3 : List (PExpr × PExpr) → Prop)
    (value : ∀ l v, m1 (.value l v)) (column : ∀ l n, m1 (.column l n)) (wildcard : ∀ l, m1 (.wildcard l))
    (tuple : ∀ l vs, m2 vs → m1 (.tuple l vs))
    (binop : ∀ l o a b, m1 a → m1 b → m1 (.binop l o a b))
    (boolop : ∀ l o a b, m1 a → m1 b → m1 (.boolop l o a b))
    (nullcmp : ∀ l o a b, m1 a → m1 b → m1 (.nullcmp l o a b))
    (index : ∀ l a b, m1 a → m1 b → m1 (.index l a b))
    (unop : ∀ l o e, m1 e → m1 (.unop l o e))
    (invert : ∀ l e, m1 e → m1 (.invert l e))
    (cast : ∀ l e t, m1 e → m1 (.cast l e t))
    (inList : ∀ l n e vs, m1 e → m2 vs → m1 (.inList l n e vs))
    (call : ∀ l n args d, m2 args → m1 (.call l n args d))
    (case : ∀ l cs els, m3 cs → m1 els → m1 (.case l cs els))
    (nil : m2 []) (cons : ∀ x xs, m1 x → m2 xs → m2 (x :: xs))
    (cnil : m3 []) (ccons : ∀ c r xs, m1 c → m1 r → m3 xs → m3 ((c, r) :: xs)) :
    (∀ e, m1 e) ∧ (∀ es, m2 es) ∧ (∀ cs, m3 cs) := by
  have h := PExpr.mapAll.mutual_induct (motive_1 := m1) (motive_3 := m2) (motive_2 := m3)
    value column wildcard tuple binop boolop unop invert nullcmp inList call index cast case nil cons cnil ccons
  exact ⟨h.1, h.2.2, h.2.1⟩

variable {ℓ : Loc → Loc} {ρc ρf : List Char → List Char}

theorem PExpr.mapAll_id : (∀ e : PExpr, e.mapAll id id id = e) ∧ (∀ es, PExpr.mapAllList id id id es = es) ∧
    (∀ cs, PExpr.mapAllClauses id id id cs = cs) := by
  apply PExpr.induct3
  all_goals intros
  all_goals simp only [PExpr.mapAll, PExpr.mapAllList, PExpr.mapAllClauses, id, *]

theorem PExpr.mapAllList_snoc (acc : List PExpr) (e : PExpr) :
    PExpr.mapAllList ℓ ρc ρf (acc ++ [e]) = PExpr.mapAllList ℓ ρc ρf acc ++ [e.mapAll ℓ ρc ρf] := by
  induction acc with
  | nil => rfl
  | cons x xs ih => simp only [List.cons_append, PExpr.mapAllList, ih]

theorem PExpr.mapAllClauses_snoc (acc : List (PExpr × PExpr)) (c r : PExpr) :
    PExpr.mapAllClauses ℓ ρc ρf (acc ++ [(c, r)]) = PExpr.mapAllClauses ℓ ρc ρf acc ++ [(c.mapAll ℓ ρc ρf, r.mapAll ℓ ρc ρf)] := by
  induction acc with
  | nil => rfl
  | cons x xs ih => simp only [List.cons_append, PExpr.mapAllClauses, ih]

/-- a respelling that lower-cases to the same word: a change of letter case -/
def CaseOnly (ρ : List Char → List Char) : Prop := ∀ n, lowerChars (ρ n) = lowerChars n

/-- what the parser needs of a respelling: a change of letter case only; compatible with the `.` of qualified names
(`a.b` is read as the one column name `a.b`); fixing the two call names the parser makes up (`array[…]` is the call
`create_array`, `EXTRACT(part FROM e)` the call `timestamp_extract_<part>`) -/
structure NameMap (ρ : List Char → List Char) : Prop where
  caseOnly : CaseOnly ρ
  dot : ∀ a b, ρ (a ++ ['.'] ++ b) = ρ a ++ ['.'] ++ ρ b
  createArray : ρ "create_array".toList = "create_array".toList
  extract : ∀ p, ρ ("timestamp_extract_".toList ++ lowerChars p) = "timestamp_extract_".toList ++ lowerChars p

theorem nameMap_id : NameMap id := ⟨fun _ => rfl, fun _ _ => rfl, rfl, fun _ => rfl⟩

end Sqlgrep
