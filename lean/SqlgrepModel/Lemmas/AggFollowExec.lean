import SqlgrepModel.Lemmas.AggFollowSim
import SqlgrepModel.Model.ExecI
import SqlgrepModel.Lemmas.FollowBridge
/-
The EXECUTED follow-mode loop (`runFollow` / `runFollowAll` of Model/ExecI.lean, driver kind `followi`) for an aggregate
statement without join and without LIMIT, in terms of the engine-level step `followStep` — the bridge between the
`followRun` of Lemmas/AggFollowRun.lean and what the driver runs — and the same for the failure direction of the executed
batch loop (`runBatch`), so that C11 can be stated with hypotheses and conclusion about executed functions only.
-/
set_option linter.unusedSimpArgs false
namespace Sqlgrep
open Value Spec.Agg

/-- the lines a follow iterator delivers, as the (readable) lines of one file of a batch run -/
def asFile (lines : List Line) : List FileLine := lines.map (fun l => { readable := true, line := l })

/-- the rows the admitted lines present to the statement (run without join) -/
def followEnvs (t : TableInfo) (lines : List Line) : List Env := envsOf t (asFile lines)

theorem followEnvs_cons (t : TableInfo) (l : Line) (rest : List Line) :
    followEnvs t (l :: rest) = if anyResult l.row then lineEnv t l :: followEnvs t rest else followEnvs t rest := by
  simp only [followEnvs, asFile, List.map_cons, envsOf_cons]

theorem followEnvs_append (t : TableInfo) (a b : List Line) : followEnvs t (a ++ b) = followEnvs t a ++ followEnvs t b := by
  simp only [followEnvs, asFile, List.map_append, envsOf_append]

theorem asFile_readable (lines : List Line) : ∀ fl ∈ asFile lines, fl.readable = true := by
  intro fl h
  simp only [asFile, List.mem_map] at h
  obtain ⟨l, _, rfl⟩ := h
  rfl

/-- `followRun` with the tables it shows on the way: one per row that WHERE admits -/
def followTables (O : Oracles) (q : AggStmt) : List Env → AggState → Outcome (AggState × List RowOut)
  | [], st => .ok (st, [])
  | env :: rest, st =>
    (followStep O q st env).bind (fun p => (followTables O q rest p.1).bind (fun r => .ok (r.1, p.2.toList ++ r.2)))

theorem followTables_state (O : Oracles) (q : AggStmt) (envs : List Env) (st : AggState) :
    (followTables O q envs st).bind (fun p => .ok p.1) = followRun O q envs st := by
  induction envs generalizing st with
  | nil => rfl
  | cons env rest ih => simp only [followTables, followRun, Outcome.bind_assoc, Outcome.ok_bind, ih]

theorem followRun_of_tables {O : Oracles} {q : AggStmt} {envs : List Env} {st st' : AggState} {ts : List RowOut}
    (h : followTables O q envs st = .ok (st', ts)) : followRun O q envs st = .ok st' := by
  rw [← followTables_state, h]; rfl

theorem followTables_append (O : Oracles) (q : AggStmt) (a b : List Env) (st : AggState) :
    followTables O q (a ++ b) st =
      (followTables O q a st).bind (fun p => (followTables O q b p.1).bind (fun r => .ok (r.1, p.2 ++ r.2))) := by
  induction a generalizing st with
  | nil =>
    simp only [List.nil_append, followTables, Outcome.ok_bind]
    cases followTables O q b st <;> rfl
  | cons e es ih =>
    simp only [List.cons_append, followTables, ih, Outcome.bind_assoc, Outcome.ok_bind, List.append_assoc]

/-- the loop state after `n` delivered lines whose rows were fed without failure, showing the tables `ts` -/
def afterFollow (ls : LoopState) (st : AggState) (ts : List RowOut) (n : Nat) : LoopState :=
  { ls with es := { ls.es with agg := st, numOut := ls.es.numOut + (ts.map (·.rows.length)).sum },
            consumed := ls.consumed + n,
            out := { ls.out with totalLines := ls.out.totalLines + n,
                                 printed := ls.out.printed ++ ts.flatMap (fun r => printResult r true) } }

theorem hasFailed_failWith {α : Type} (ro : RunOut) (o : Outcome α) (h : ∀ a, o ≠ .ok a) : hasFailed (failWith ro o) = true :=
  failWith_hasFailed ro h

theorem afterFollow_afterFollow (ls : LoopState) (s1 s2 : AggState) (t1 t2 : List RowOut) (n m : Nat) :
    afterFollow (afterFollow ls s1 t1 n) s2 t2 m = afterFollow ls s2 (t1 ++ t2) (n + m) := by
  simp only [afterFollow, List.map_append, List.sum_append, List.flatMap_append, Nat.add_assoc, List.append_assoc]

theorem runFollow_cons_agg (O : Oracles) (qy : Query) (q : AggStmt) (hq : qy.stmt = .aggregate q) (l : Line) (rest : List Line)
    (ls : LoopState) (st1 : AggState) (r : Option RowOut)
    (hx : executeLine O qy [] true ls.es l = .ok (updateLimit false none { ls.es with agg := st1 } r)) :
    runFollow O qy none (l :: rest) ls = runFollow O qy none rest (afterFollow ls st1 r.toList 1) := by
  have hnone : (none == some ls.consumed) = false := rfl
  simp only [runFollow, hnone, Bool.false_eq_true, if_false, hx, updateLimit]
  cases r <;> simp [afterFollow, hq]

/-- **bridge to the executed loop**: `runFollow` (what the driver's `followi` kind runs) over delivered lines, for an
aggregate statement without join and LIMIT whose steps do not fail, feeds exactly the admitted lines' rows to
`followStep` (update, and a result iff WHERE admitted the row), prints each shown table and counts every line -/
theorem runFollow_agg (O : Oracles) (qy : Query) (q : AggStmt) (hq : qy.stmt = .aggregate q) (hj : qy.join = none)
    (hlim : q.limit = none) (lines : List Line) (ls : LoopState) {st : AggState} {ts : List RowOut}
    (h : followTables O q (followEnvs qy.table lines) ls.es.agg = .ok (st, ts)) :
    runFollow O qy none lines ls = afterFollow ls st ts lines.length := by
  induction lines generalizing ls ts with
  | nil =>
    simp only [followEnvs, asFile, List.map_nil, envsOf, List.filter_nil, followTables, Outcome.ok.injEq, Prod.mk.injEq] at h
    obtain ⟨h1, h2⟩ := h
    subst h1; subst h2
    simp [runFollow, afterFollow]
  | cons l rest ih =>
    rw [followEnvs_cons] at h
    by_cases hadm : anyResult l.row = true
    · simp only [hadm, if_true, followTables] at h
      obtain ⟨⟨st1, r⟩, h1, h2⟩ := obind_ok h
      obtain ⟨⟨st2, ts2⟩, h3, h4⟩ := obind_ok h2
      cases h4
      rw [runFollow_cons_agg O qy q hq l rest ls st1 r
        (by rw [executeLine_follow_agg O qy q [] _ l hq hj hadm, h1, hlim]; rfl), ih (afterFollow ls st1 r.toList 1) h3]
      exact (afterFollow_afterFollow ls _ _ _ _ 1 rest.length).trans (by rw [Nat.add_comm]; rfl)
    · simp only [hadm, Bool.false_eq_true, if_false] at h
      rw [runFollow_cons_agg O qy q hq l rest ls ls.es.agg none
        (executeLine_agg_not_admitted O qy q [] true _ l hq (fun _ => hlim) (by simpa using hadm)),
        ih (afterFollow ls ls.es.agg (none : Option RowOut).toList 1) h]
      exact (afterFollow_afterFollow ls _ _ _ _ 1 rest.length).trans (by rw [Nat.add_comm]; rfl)

/-- the same from the start of a follow run -/
theorem runFollowAll_agg (O : Oracles) (qy : Query) (q : AggStmt) (hq : qy.stmt = .aggregate q) (hj : qy.join = none)
    (hlim : q.limit = none) (lines : List Line) {st : AggState} {ts : List RowOut}
    (h : followTables O q (followEnvs qy.table lines) {} = .ok (st, ts)) :
    runFollowAll O qy none lines =
      { printed := ts.flatMap (fun r => printResult r true), totalLines := lines.length } := by
  have hl : reachedLimit qy {} = false := by simp [reachedLimit, hq]
  simp only [runFollowAll, hl, Bool.false_eq_true, if_false]
  rw [runFollow_agg O qy q hq hj hlim lines {} h]
  simp [afterFollow]

theorem runFollow_agg_fails (O : Oracles) (qy : Query) (q : AggStmt) (hq : qy.stmt = .aggregate q) (hj : qy.join = none)
    (hlim : q.limit = none) (lines : List Line) (ls : LoopState)
    (h : ∀ p, followTables O q (followEnvs qy.table lines) ls.es.agg ≠ .ok p) :
    hasFailed (runFollow O qy none lines ls).out = true := by
  induction lines generalizing ls with
  | nil => exact absurd rfl (h (ls.es.agg, []))
  | cons l rest ih =>
    rw [followEnvs_cons] at h
    by_cases hadm : anyResult l.row = true
    · simp only [hadm, if_true, followTables] at h
      cases h1 : followStep O q ls.es.agg (lineEnv qy.table l) with
      | ok p =>
        rw [runFollow_cons_agg O qy q hq l rest ls p.1 p.2
          (by rw [executeLine_follow_agg O qy q [] _ l hq hj hadm, h1, hlim]; rfl)]
        refine ih _ (fun p' hp' => h (p'.1, p.2.toList ++ p'.2) ?_)
        have e : followTables O q (followEnvs qy.table rest) p.1 = .ok p' := hp'
        simp only [h1, e, Outcome.bind]
      | _ =>
        have hx : ∀ p, executeLine O qy [] true ls.es l ≠ .ok p := by
          rw [executeLine_follow_agg O qy q [] _ l hq hj hadm, h1]
          intro p hp; cases hp
        rw [runFollow_cons_fail O qy l rest ls hx]
        exact failWith_hasFailed _ hx
    · simp only [hadm, Bool.false_eq_true, if_false] at h
      rw [runFollow_cons_agg O qy q hq l rest ls ls.es.agg none
        (executeLine_agg_not_admitted O qy q [] true _ l hq (fun _ => hlim) (by simpa using hadm))]
      exact ih _ h

theorem runFollowAll_agg_ok (O : Oracles) (qy : Query) (q : AggStmt) (hq : qy.stmt = .aggregate q) (hj : qy.join = none)
    (hlim : q.limit = none) (lines : List Line) (h : hasFailed (runFollowAll O qy none lines) = false) :
    ∃ st ts, followTables O q (followEnvs qy.table lines) {} = .ok (st, ts) := by
  cases hft : followTables O q (followEnvs qy.table lines) {} with
  | ok p => exact ⟨p.1, p.2, rfl⟩
  | _ =>
    have hl : reachedLimit qy {} = false := by simp [reachedLimit, hq]
    have := runFollow_agg_fails O qy q hq hj hlim lines {} (by intro p hp; rw [hft] at hp; cases hp)
    simp only [runFollowAll, hl, Bool.false_eq_true, if_false, this] at h
    cases h

theorem runBatch_agg_ok (O : Oracles) (qy : Query) (q : AggStmt) (hq : qy.stmt = .aggregate q) (hj : qy.join = none)
    (joined : List FileLine) (lines : List FileLine) (hread : ∀ fl ∈ lines, fl.readable = true)
    (h : hasFailed (runBatch O qy joined [lines] none) = false) :
    ∃ st r, aggRun O q (envsOf qy.table lines) {} = .ok st ∧ finalResult O q { agg := st } = .ok r := by
  have hl : reachedLimit qy {} = false := by simp [reachedLimit, hq]
  cases hrun : aggRun O q (envsOf qy.table lines) {} with
  | ok st =>
    refine ⟨st, ?_⟩
    have hls := runFiles_agg O qy q hq hj [lines] (by simpa using hread) {} rfl (by simpa using hrun)
    simp only [runBatch, hj, hq, Bool.not_true] at h
    rw [hls] at h
    simp only [afterLines, hasFailed] at h
    cases hfin : finalResult O q { agg := st } with
    | ok r => exact ⟨r, rfl, rfl⟩
    | _ =>
      have : finalResult O q { seen := ([] : List (List Value)), agg := st, numOut := 0 } = _ := hfin
      simp [this, failWith] at h
  | _ =>
    obtain ⟨hs, hf⟩ := runFile_agg_fails O qy q hq hj lines hread {} rfl (by intro st hst; rw [hrun] at hst; cases hst)
    simp only [runBatch, hj, hq, Bool.not_true, runFiles, hl, Bool.or_self, Bool.false_eq_true, if_false, hs, if_true, hf] at h
    cases h

theorem followTables_snoc {O : Oracles} {q : AggStmt} {a : List Env} {env : Env} {st st2 : AggState} {ts : List RowOut}
    (h : followTables O q (a ++ [env]) st = .ok (st2, ts)) :
    ∃ sf ts0 r, followTables O q a st = .ok (sf, ts0) ∧ followStep O q sf env = .ok (st2, r) ∧ ts = ts0 ++ r.toList := by
  rw [followTables_append] at h
  obtain ⟨⟨sf, ts0⟩, h1, h2⟩ := obind_ok h
  obtain ⟨⟨s3, t3⟩, h3, h4⟩ := obind_ok h2
  simp only [followTables] at h3
  obtain ⟨⟨s5, r⟩, h5, h6⟩ := obind_ok h3
  simp only [Outcome.bind, Outcome.ok.injEq, Prod.mk.injEq, List.append_nil] at h6 h4
  obtain ⟨h6a, h6b⟩ := h6
  obtain ⟨h4a, h4b⟩ := h4
  subst h6a; subst h6b; subst h4a; subst h4b
  exact ⟨sf, ts0, r, h1, h5, rfl⟩

theorem followStep_cases {O : Oracles} {q : AggStmt} {sf st2 : AggState} {env : Env} {r : Option RowOut}
    (h : followStep O q sf env = .ok (st2, r)) :
    (passes O q env = some false ∧ st2 = sf ∧ r = none) ∨
    (passes O q env = some true ∧ ∃ sf1 out, aggUpdateRow O q sf env = .ok (sf1, true) ∧
      aggResult O q sf1 = .ok (st2, out) ∧ r = some out) := by
  unfold followStep at h
  obtain ⟨⟨sf1, u⟩, h1, h2⟩ := obind_ok h
  obtain ⟨hpass, hfalse, _⟩ := aggUpdateRow_eq h1
  cases u with
  | false =>
    simp only [Bool.false_eq_true, if_false, Outcome.ok.injEq, Prod.mk.injEq] at h2
    exact Or.inl ⟨hpass, by rw [← h2.1]; exact hfalse rfl, h2.2.symm⟩
  | true =>
    simp only [if_true] at h2
    obtain ⟨⟨s3, out⟩, h3, h4⟩ := obind_ok h2
    simp only [Outcome.ok.injEq, Prod.mk.injEq] at h4
    refine Or.inr ⟨hpass, sf1, out, h1, ?_, h4.2.symm⟩
    rw [h3, h4.1]

theorem rejected_row_changes_nothing {O : Oracles} {q : AggStmt} (pre : List Env) (env : Env) (sf : AggState)
    (h : passes O q env = some false) :
    followStep O q sf env = .ok (sf, none) ∧ aggRun O q (pre ++ [env]) {} = aggRun O q pre {} := by
  constructor
  · simp [followStep, aggUpdateRow_of_rejected h, Outcome.bind]
  · rw [aggRun_append]
    cases aggRun O q pre {} with
    | ok sb => simp [Outcome.bind, aggRun, aggUpdateRow_of_rejected h]
    | _ => rfl

/-- **the k-th row, both cases.** Rows `pre` fed one at a time (update + result), then `env`; a batch run (update only)
over `pre ++ [env]` with final table `r`. Either WHERE admits `env` and the tables shown are those shown for `pre`
followed by exactly `r`; or WHERE rejects `env`, nothing more is shown, and the batch run over `pre` alone already
ends in the same state (so its table is `r` too). -/
theorem followTables_snoc_batch {O : Oracles} {q : AggStmt} (hlim : q.limit = none) (pre : List Env) (env : Env)
    {st2 sb : AggState} {ts : List RowOut} {r : RowOut}
    (hf : followTables O q (pre ++ [env]) {} = .ok (st2, ts)) (hb : aggRun O q (pre ++ [env]) {} = .ok sb)
    (hr : finalResult O q { agg := sb } = .ok r) (hex : KeysExact (groupKeysOf O q (pre ++ [env]))) :
    ∃ sf ts0, followTables O q pre {} = .ok (sf, ts0) ∧
      ((passes O q env = some true ∧ ts = ts0 ++ [r]) ∨
       (passes O q env = some false ∧ ts = ts0 ∧ aggRun O q pre {} = .ok sb)) := by
  obtain ⟨sf, ts0, ro, h1, h2, h3⟩ := followTables_snoc hf
  refine ⟨sf, ts0, h1, ?_⟩
  rcases followStep_cases h2 with ⟨hp, _, hro⟩ | ⟨hp, sf1, out, hu, hres, hro⟩
  · right
    subst hro
    exact ⟨hp, by simpa using h3, by rw [← (rejected_row_changes_nothing pre env sf hp).2]; exact hb⟩
  · left
    subst hro
    have := follow_table_eq_batch_direct hlim pre env (followRun_of_tables h1) hu hres hb hex
    rw [hr] at this
    simp only [Outcome.ok.injEq] at this
    subst this
    exact ⟨hp, by simpa using h3⟩

theorem followTables_last {O : Oracles} {q : AggStmt} (hlim : q.limit = none) :
    ∀ (n : Nat) (envs : List Env), envs.length = n → ∀ {sf sb : AggState} {ts : List RowOut} {r : RowOut},
      followTables O q envs {} = .ok (sf, ts) → aggRun O q envs {} = .ok sb → finalResult O q { agg := sb } = .ok r →
      KeysExact (groupKeysOf O q envs) →
      (∃ ts0, ts = ts0 ++ [r]) ∨ (ts = [] ∧ ∀ env ∈ envs, passes O q env = some false) := by
  intro n
  induction n with
  | zero =>
    intro envs hn sf sb ts r hf _ _ _
    have : envs = [] := List.eq_nil_of_length_eq_zero hn
    subst this
    simp only [followTables, Outcome.ok.injEq, Prod.mk.injEq] at hf
    exact Or.inr ⟨hf.2.symm, by simp⟩
  | succ n ih =>
    intro envs hn sf sb ts r hf hb hr hex
    have hne : envs ≠ [] := by intro h; subst h; simp at hn
    have hsplit : envs.dropLast ++ [envs.getLast hne] = envs := List.dropLast_concat_getLast hne
    rw [← hsplit] at hf hb hex
    obtain ⟨sf0, ts0, hpre, hcase⟩ := followTables_snoc_batch hlim _ _ hf hb hr hex
    rcases hcase with ⟨_, hts⟩ | ⟨hp, hts, hbp⟩
    · exact Or.inl ⟨ts0, hts⟩
    · have hex' : KeysExact (groupKeysOf O q envs.dropLast) := hex.mono fun a ha => by
        simp only [groupKeysOf, List.filterMap_append, List.mem_append]; exact Or.inl ha
      rcases ih envs.dropLast (by simp [List.length_dropLast, hn]) hpre hbp hr hex' with ⟨t, ht⟩ | ⟨ht, hall⟩
      · exact Or.inl ⟨t, by rw [hts, ht]⟩
      · refine Or.inr ⟨by rw [hts, ht], ?_⟩
        intro env henv
        rw [← hsplit] at henv
        simp only [List.mem_append, List.mem_singleton] at henv
        rcases henv with h | h
        · exact hall env h
        · rw [h]; exact hp

/-- WHERE admits the row of an admitted line: the line for which follow mode shows a table -/
def lineShown (O : Oracles) (qy : Query) (q : AggStmt) (l : Line) : Prop :=
  anyResult l.row = true ∧ passes O q (lineEnv qy.table l) = some true

theorem mem_followEnvs (t : TableInfo) (l : Line) (lines : List Line) (hadm : anyResult l.row = true) (hl : l ∈ lines) :
    lineEnv t l ∈ followEnvs t lines := by
  induction lines with
  | nil => simp at hl
  | cons x rest ih =>
    rw [followEnvs_cons]
    simp only [List.mem_cons] at hl
    rcases hl with h | h
    · subst h; simp [hadm]
    · by_cases hx : anyResult x.row = true
      · simp only [hx, if_true, List.mem_cons]; exact Or.inr (ih h)
      · simp only [hx, Bool.false_eq_true, if_false]; exact ih h

/-- **the k-th line, at the engines.** `followTables_snoc_batch` read for a delivered line: a line that is not admitted
contributes no row, so both runs are the runs over the first k−1 lines; an admitted line contributes `lineEnv`. Both executed-level
statements of the k-th line (`follow_exec_step` for what is printed, `followT_agg_step` for the print calls) are this one. -/
theorem followTables_line {O : Oracles} {qy : Query} {q : AggStmt} (hlim : q.limit = none) (pre : List Line) (l : Line)
    {st2 sb : AggState} {ts : List RowOut} {r : RowOut}
    (hf : followTables O q (followEnvs qy.table (pre ++ [l])) {} = .ok (st2, ts))
    (hb : aggRun O q (followEnvs qy.table (pre ++ [l])) {} = .ok sb) (hr : finalResult O q { agg := sb } = .ok r)
    (hex : KeysExact (groupKeysOf O q (followEnvs qy.table (pre ++ [l])))) :
    ∃ sf ts0, followTables O q (followEnvs qy.table pre) {} = .ok (sf, ts0) ∧
      (lineShown O qy q l → ts = ts0 ++ [r]) ∧
      (¬ lineShown O qy q l → ts = ts0 ∧ aggRun O q (followEnvs qy.table pre) {} = .ok sb) := by
  by_cases hadm : anyResult l.row = true
  · have he : followEnvs qy.table (pre ++ [l]) = followEnvs qy.table pre ++ [lineEnv qy.table l] := by
      rw [followEnvs_append, followEnvs_cons]
      simp [hadm, followEnvs, asFile, envsOf]
    rw [he] at hf hb hex
    obtain ⟨sf, ts0, hpre, hcase⟩ := followTables_snoc_batch hlim _ _ hf hb hr hex
    refine ⟨sf, ts0, hpre, fun hs => ?_, fun hns => ?_⟩
    · rcases hcase with ⟨_, hts⟩ | ⟨hp, _, _⟩
      · exact hts
      · rw [hs.2] at hp; cases hp
    · rcases hcase with ⟨hp, _⟩ | ⟨_, hts, hbp⟩
      · exact absurd ⟨hadm, hp⟩ hns
      · exact ⟨hts, hbp⟩
  · have he : followEnvs qy.table (pre ++ [l]) = followEnvs qy.table pre := by
      rw [followEnvs_append, followEnvs_cons]
      simp [hadm, followEnvs, asFile, envsOf]
    rw [he] at hf hb
    exact ⟨st2, ts, hf, fun hs => absurd hs.1 hadm, fun _ => ⟨rfl, hb⟩⟩

/-- **the k-th line, executed level** (`runFollowAll` = the follow-mode executor, `runBatch` = the batch executor, both as
the driver runs them). Neither run over the first k lines reports a failure, the group keys seen are exact. Then the
follow run over the first k−1 lines did not fail either, and
* if the k-th line is shown (admitted, and WHERE admits its row), the follow run prints, after everything it printed for
  the first k−1 lines, exactly what the batch run over the first k lines prints;
* otherwise it prints nothing for the k-th line, and the batch run over the first k lines prints what the batch run over
  the first k−1 lines prints (which does not fail either). -/
theorem follow_exec_step (O : Oracles) (qy : Query) (q : AggStmt) (hq : qy.stmt = .aggregate q) (hj : qy.join = none)
    (hlim : q.limit = none) (joined : List FileLine) (pre : List Line) (l : Line)
    (hf : hasFailed (runFollowAll O qy none (pre ++ [l])) = false)
    (hb : hasFailed (runBatch O qy joined [asFile (pre ++ [l])] none) = false)
    (hex : KeysExact (groupKeysOf O q (followEnvs qy.table (pre ++ [l])))) :
    hasFailed (runFollowAll O qy none pre) = false ∧
    (lineShown O qy q l →
      (runFollowAll O qy none (pre ++ [l])).printed =
        (runFollowAll O qy none pre).printed ++ (runBatch O qy joined [asFile (pre ++ [l])] none).printed) ∧
    (¬ lineShown O qy q l →
      (runFollowAll O qy none (pre ++ [l])).printed = (runFollowAll O qy none pre).printed ∧
      (runBatch O qy joined [asFile (pre ++ [l])] none).printed = (runBatch O qy joined [asFile pre] none).printed ∧
      hasFailed (runBatch O qy joined [asFile pre] none) = false) := by
  obtain ⟨st2, ts, hft⟩ := runFollowAll_agg_ok O qy q hq hj hlim _ hf
  obtain ⟨sb, r, hrun, hfin⟩ := runBatch_agg_ok O qy q hq hj joined _ (asFile_readable _) hb
  obtain ⟨sf, ts0, hpre, hshown, hnot⟩ := followTables_line hlim pre l hft hrun hfin hex
  have hB : ∀ ls, aggRun O q (followEnvs qy.table ls) {} = .ok sb →
      runBatch O qy joined [asFile ls] none = { printed := printResult r true, totalLines := [asFile ls].flatten.length } :=
    fun ls h => runBatch_agg O qy q hq hj joined [asFile ls] (by simpa using asFile_readable _) (by simpa [followEnvs] using h) hfin
  rw [runFollowAll_agg O qy q hq hj hlim _ hft, runFollowAll_agg O qy q hq hj hlim pre hpre, hB _ hrun]
  refine ⟨rfl, fun hs => ?_, fun hns => ?_⟩
  · rw [hshown hs]
    simp [List.flatMap_append]
  · rw [(hnot hns).1, hB pre (hnot hns).2]
    exact ⟨rfl, rfl, rfl⟩

/-- **what follow mode has shown last** after any number of lines: its output ends with exactly what a batch run over
the same lines prints — or it has printed nothing at all, because no line so far was shown. -/
theorem follow_exec_last (O : Oracles) (qy : Query) (q : AggStmt) (hq : qy.stmt = .aggregate q) (hj : qy.join = none)
    (hlim : q.limit = none) (joined : List FileLine) (lines : List Line)
    (hf : hasFailed (runFollowAll O qy none lines) = false)
    (hb : hasFailed (runBatch O qy joined [asFile lines] none) = false)
    (hex : KeysExact (groupKeysOf O q (followEnvs qy.table lines))) :
    (∃ earlier, (runFollowAll O qy none lines).printed = earlier ++ (runBatch O qy joined [asFile lines] none).printed) ∨
    ((runFollowAll O qy none lines).printed = [] ∧ ∀ l ∈ lines, ¬ lineShown O qy q l) := by
  obtain ⟨st2, ts, hft⟩ := runFollowAll_agg_ok O qy q hq hj hlim _ hf
  obtain ⟨sb, r, hrun, hfin⟩ := runBatch_agg_ok O qy q hq hj joined _ (asFile_readable _) hb
  have hF := runFollowAll_agg O qy q hq hj hlim _ hft
  have hB := runBatch_agg O qy q hq hj joined [asFile lines] (by simpa using asFile_readable _) (by simpa using hrun) hfin
  have hrun' : aggRun O q (followEnvs qy.table lines) {} = .ok sb := hrun
  rcases followTables_last hlim _ _ rfl hft hrun' hfin hex with ⟨ts0, hts⟩ | ⟨hts, hall⟩
  · left
    refine ⟨ts0.flatMap (fun r => printResult r true), ?_⟩
    rw [hF, hB, hts]
    simp [List.flatMap_append]
  · right
    refine ⟨by rw [hF, hts]; rfl, ?_⟩
    intro l hl hs
    have := hall _ (mem_followEnvs qy.table l lines hs.1 hl)
    rw [hs.2] at this
    cases this

end Sqlgrep
