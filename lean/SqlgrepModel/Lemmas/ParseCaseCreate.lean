import Lean.Elab.Tactic.RCases
import SqlgrepModel.Lemmas.ParseLoc
import SqlgrepModel.Lemmas.ParseRenameCreate
import SqlgrepModel.Lemmas.ParseWithinStmt
import SqlgrepModel.Lemmas.ParseJson
import SqlgrepModel.Lemmas.ParseTokens
/-
CREATE TABLE texts and the letter case of type names, pattern modes and column options — PER OCCURRENCE.

`parse_create_table` reads an identifier token in two ways: as a NAME that goes into the tree verbatim (the table, a
pattern, a column, a JSON field) or through its lower-cased spelling only (`parse_type`: the column's type;
`parse_regex_mode`: `split` / `match`; `parse_define_column`: the options `trim` / `convert` / `microseconds`).
Which of the two is decided by the two tokens in front of the identifier (`caseFreeAfter`): the identifier follows `=`
(mode), follows `=> name` (type), or follows the type (`name TYPE` or `]`: option).

`caseVariantFrom p2 p1 ts₁ ts₂` : the token lists have the same length and locations and are equal token by token,
except that an identifier of `ts₁` in such a position may be replaced by ANY identifier with the same lower-cased
spelling — each occurrence on its own (`p2 p1` = the two tokens in front of the lists).

This file: a successful run of every function of the CREATE TABLE path on the first list is a successful run on the
second with the SAME value (`…_var`, stated with `OkVar`, each body walked in `bind` form). The one call into the
expression parser is `DEFAULT <primary>`, whose result must be a literal value: `value_var` (a run of `parseExpr` /
`parseUnary` / `parsePrimary` that returns a `.value` node returns the same node on the variant: the parser commutes
with lower-casing every identifier, which makes the two lists one, and a literal has no name in it).
-/
namespace Sqlgrep

/-- the identifier behind the tokens `p2 p1` of a CREATE TABLE text is read lower-cased only: behind `=` (the pattern
mode), behind `=> name` (the column's type), behind `name TYPE` or `]` (the column option) -/
def caseFreeAfter (p2 p1 : Tok) : Bool :=
  decide (p1 = .op (.single '=')) || decide (p1 = .rsq) || (p1.isIdent && (decide (p2 = .rarrow) || p2.isIdent))

def Tok.sameLower : Tok → Tok → Bool
  | .ident i, .ident j => decide (lowerChars i = lowerChars j)
  | _, _ => false

def Tok.caseVar (free : Bool) (a b : Tok) : Bool := decide (a = b) || (free && a.sameLower b)

/-- see the head of the file -/
def caseVariantFrom : Tok → Tok → List PTok → List PTok → Bool
  | _, _, [], [] => true
  | p2, p1, a :: as, b :: bs =>
    decide (a.loc = b.loc) && Tok.caseVar (caseFreeAfter p2 p1) a.tok b.tok && caseVariantFrom p1 a.tok as bs
  | _, _, _, _ => false

namespace Parse

/-- the parser states `s` (first vector) and `s₂` (variant) at the same index, behind the tokens `p2 p1` -/
def StV (p2 p1 : Tok) (s s₂ : PSt) : Prop := caseVariantFrom p2 p1 (s.cur :: s.rest) (s₂.cur :: s₂.rest) = true

def RelV (s s₂ : PSt) : Prop := ∃ q2 q1, StV q2 q1 s s₂

theorem Tok.caseVar_cases {f : Bool} {a b : Tok} (h : Tok.caseVar f a b = true) :
    a = b ∨ (f = true ∧ ∃ i j, a = .ident i ∧ b = .ident j ∧ lowerChars i = lowerChars j) := by
  unfold Tok.caseVar at h
  simp only [Bool.or_eq_true, decide_eq_true_eq, Bool.and_eq_true] at h
  rcases h with h | ⟨hf, hl⟩
  · exact .inl h
  · refine .inr ⟨hf, ?_⟩
    cases a <;> try cases hl
    cases b <;> try cases hl
    exact ⟨_, _, rfl, rfl, of_decide_eq_true hl⟩

variable {p2 p1 : Tok} {s s₂ : PSt}

theorem StV.unfold (h : StV p2 p1 s s₂) :
    s.cur.loc = s₂.cur.loc ∧ Tok.caseVar (caseFreeAfter p2 p1) s.cur.tok s₂.cur.tok = true ∧
      caseVariantFrom p1 s.cur.tok s.rest s₂.rest = true := by
  simpa [StV, caseVariantFrom, Bool.and_eq_true, and_assoc] using h

theorem StV.rel (h : StV p2 p1 s s₂) : RelV s s₂ := ⟨_, _, h⟩

theorem StV.loc (h : StV p2 p1 s s₂) : s₂.cur.loc = s.cur.loc := h.unfold.1.symm

theorem StV.tok_cases (h : StV p2 p1 s s₂) :
    s₂.cur.tok = s.cur.tok ∨ (caseFreeAfter p2 p1 = true ∧
      ∃ i j, s.cur.tok = .ident i ∧ s₂.cur.tok = .ident j ∧ lowerChars j = lowerChars i) := by
  rcases Tok.caseVar_cases h.unfold.2.1 with e | ⟨hf, i, j, hi, hj, hl⟩
  · exact .inl e.symm
  · exact .inr ⟨hf, i, j, hi, hj, hl.symm⟩

theorem StV.tok_nonident (h : StV p2 p1 s s₂) (hn : ∀ n, s.cur.tok ≠ .ident n) : s₂.cur.tok = s.cur.tok := by
  rcases h.tok_cases with e | ⟨_, i, _, hi, _⟩
  · exact e
  · exact absurd hi (hn i)

theorem StV.tok_of (h : StV p2 p1 s s₂) {t : Tok} (ht : s.cur.tok = t) (hn : t.isIdent = false) : s₂.cur.tok = t := by
  rw [h.tok_nonident (fun n e => by rw [ht] at e; subst e; cases hn), ht]

theorem StV.tok_same (h : StV p2 p1 s s₂) (hc : caseFreeAfter p2 p1 = false) : s₂.cur.tok = s.cur.tok := by
  rcases h.tok_cases with e | ⟨hf, _⟩
  · exact e
  · rw [hc] at hf; cases hf

theorem StV.tok_ident_or (h : StV p2 p1 s s₂) :
    ((∀ n, s.cur.tok ≠ .ident n) ∧ s₂.cur.tok = s.cur.tok) ∨
      ∃ i j, s.cur.tok = .ident i ∧ s₂.cur.tok = .ident j ∧ lowerChars j = lowerChars i := by
  rcases h.tok_cases with e | ⟨_, i, j, hi, hj, hl⟩
  · cases ht : s.cur.tok with
    | ident i => exact .inr ⟨i, i, rfl, e.trans ht, rfl⟩
    | _ => exact .inl ⟨fun n hn => Tok.noConfusion hn, e.trans ht⟩
  · exact .inr ⟨i, j, hi, hj, hl⟩

theorem StV.tok_ident (h : StV p2 p1 s s₂) {n : List Char} (hi : s.cur.tok = .ident n) :
    ∃ m, s₂.cur.tok = .ident m ∧ lowerChars m = lowerChars n := by
  rcases h.tok_cases with e | ⟨_, i, j, hi', hj, hl⟩
  · exact ⟨n, e.trans hi, rfl⟩
  · rw [hi] at hi'; cases hi'; exact ⟨j, hj, hl⟩

theorem StV.tok_eq (h : StV p2 p1 s s₂) {X : Tok} (hX : X.isIdent = false) : (s₂.cur.tok = X) = (s.cur.tok = X) := by
  rcases h.tok_cases with e | ⟨_, i, j, hi, hj, _⟩
  · rw [e]
  · rw [hi, hj]
    cases X <;> first | (simp; done) | cases hX

theorem StV.step (h : StV p2 p1 s s₂) {u : Unit} {s' : PSt} (hn : next s = .ok u s') :
    ∃ s₂', next s₂ = .ok () s₂' ∧ StV p1 s.cur.tok s' s₂' := by
  have h3 := h.unfold.2.2
  unfold next at hn ⊢
  cases hr : s.rest with
  | nil => rw [hr] at hn; cases hn
  | cons t r =>
    rw [hr] at hn h3
    cases hn
    cases hr2 : s₂.rest with
    | nil => rw [hr2] at h3; simp [caseVariantFrom] at h3
    | cons t₂ r₂ =>
      rw [hr2] at h3
      exact ⟨⟨t₂, r₂⟩, rfl, h3⟩

theorem StV.rest_isEmpty (h : StV p2 p1 s s₂) : s₂.rest.isEmpty = s.rest.isEmpty := by
  have h3 := h.unfold.2.2
  cases hr : s.rest <;> cases hr2 : s₂.rest <;> rw [hr, hr2] at h3 <;> simp [caseVariantFrom] at h3 ⊢

/-! ### runs in lock step

`OkVar P x x₂` : a successful run `x` on the first vector is a successful run `x₂` on the variant, with the same value,
the states they leave related by `P`. A function body in `bind` form is walked once: `OkVar.bind` at a call, `OkVar.ite`
at a test; a failed run has nothing to show. -/

def OkVar {α : Type} (P : α → PSt → PSt → Prop) (x x₂ : PRes α) : Prop :=
  ∀ a s', x = .ok a s' → ∃ s₂', x₂ = .ok a s₂' ∧ P a s' s₂'

section okvar
variable {α β : Type} {P : α → PSt → PSt → Prop} {Q : β → PSt → PSt → Prop}

theorem OkVar.ok {a : α} {s s₂ : PSt} (h : P a s s₂) : OkVar P (.ok a s) (.ok a s₂) := by
  intro b s' e; cases e; exact ⟨s₂, rfl, h⟩

theorem OkVar.mkErr {k : PErrKind} {s : PSt} {x₂ : PRes α} : OkVar P (mkErr s k) x₂ := fun _ _ e => nomatch e

theorem OkVar.fuel {x₂ : PRes α} : OkVar P .fuel x₂ := fun _ _ e => nomatch e

theorem OkVar.bind {x x₂ : PRes α} {K K₂ : α → PSt → PRes β} (hx : OkVar P x x₂)
    (hK : ∀ a s s₂, P a s s₂ → OkVar Q (K a s) (K₂ a s₂)) : OkVar Q (x.bind K) (x₂.bind K₂) := by
  intro b s' h
  cases x with
  | ok a s =>
    obtain ⟨s₂, e, hp⟩ := hx a s rfl
    rw [e]
    exact hK a s s₂ hp b s' h
  | err e s => cases h
  | fuel => cases h

theorem OkVar.ite {c c₂ : Prop} [Decidable c] [Decidable c₂] {a b a₂ b₂ : PRes α} (hc : c₂ = c)
    (ha : c → OkVar P a a₂) (hb : ¬ c → OkVar P b b₂) : OkVar P (if c then a else b) (if c₂ then a₂ else b₂) := by
  subst hc
  by_cases h : c₂
  · rw [if_pos h, if_pos h]; exact ha h
  · rw [if_neg h, if_neg h]; exact hb h

theorem OkVar.mono {P' : α → PSt → PSt → Prop} {x x₂ : PRes α} (h : OkVar P x x₂) (hP : ∀ a s s₂, P a s s₂ → P' a s s₂) :
    OkVar P' x x₂ := fun a s' e => (h a s' e).imp fun _ h => ⟨h.1, hP _ _ _ h.2⟩

end okvar

theorem StV.next (h : StV p2 p1 s s₂) : OkVar (fun _ s' s₂' => StV p1 s.cur.tok s' s₂') (next s) (next s₂) :=
  fun _ _ e => h.step e

theorem expectConsume_var {t : Tok} {k : PErrKind} (ht : t.isIdent = false) (h : StV p2 p1 s s₂) :
    OkVar (fun _ s' s₂' => StV p1 t s' s₂') (expectConsume t k s) (expectConsume t k s₂) := by
  unfold expectConsume
  exact .ite (h.tok_eq ht) (fun hc => hc ▸ h.next) fun _ => .mkErr

theorem consumeIdentifier_var (h : StV p2 p1 s s₂) (hc : caseFreeAfter p2 p1 = false) :
    OkVar (fun n s' s₂' => StV p1 (.ident n) s' s₂') (consumeIdentifier s) (consumeIdentifier s₂) := by
  unfold consumeIdentifier
  rw [h.tok_same hc]
  split
  · rename_i n hn; exact .bind h.next fun _ _ _ st => .ok (hn ▸ st)
  · exact .mkErr

theorem consumeString_var (h : StV p2 p1 s s₂) :
    OkVar (fun n s' s₂' => StV p1 (.str n) s' s₂') (consumeString s) (consumeString s₂) := by
  unfold consumeString
  split
  · rename_i n hn; rw [h.tok_of hn rfl]; exact .bind h.next fun _ _ _ st => .ok (hn ▸ st)
  · exact .mkErr

theorem consumeInt_var (h : StV p2 p1 s s₂) :
    OkVar (fun n s' s₂' => StV p1 (.int n) s' s₂') (consumeInt s) (consumeInt s₂) := by
  unfold consumeInt
  split
  · rename_i n hn; rw [h.tok_of hn rfl]; exact .bind h.next fun _ _ _ st => .ok (hn ▸ st)
  · exact .mkErr

theorem caseVariantFrom_length : ∀ (as bs : List PTok) (p2 p1 : Tok), caseVariantFrom p2 p1 as bs = true → bs.length = as.length
  | [], [], _, _, _ => rfl
  | [], _ :: _, _, _, h => by simp [caseVariantFrom] at h
  | _ :: _, [], _, _, h => by simp [caseVariantFrom] at h
  | a :: as, b :: bs, p2, p1, h => by
    simp only [caseVariantFrom, Bool.and_eq_true] at h
    simp [caseVariantFrom_length as bs _ _ h.2]

theorem Tok.caseVar_lower {f : Bool} {a b : Tok} (h : Tok.caseVar f a b = true) :
    a.ren lowerChars = b.ren lowerChars := by
  rcases Tok.caseVar_cases h with rfl | ⟨_, i, j, rfl, rfl, hl⟩
  · rfl
  · simp only [Tok.ren, hl]

/-- spelling every identifier in lower case makes a vector and its case variant the same vector -/
theorem caseVariantFrom_lower : ∀ (as bs : List PTok) (p2 p1 : Tok),
    caseVariantFrom p2 p1 as bs = true → as.map (PTok.ren lowerChars) = bs.map (PTok.ren lowerChars)
  | [], [], _, _, _ => rfl
  | [], _ :: _, _, _, h => by simp [caseVariantFrom] at h
  | _ :: _, [], _, _, h => by simp [caseVariantFrom] at h
  | a :: as, b :: bs, p2, p1, h => by
    simp only [caseVariantFrom, Bool.and_eq_true, decide_eq_true_eq] at h
    obtain ⟨⟨hl, hv⟩, hr⟩ := h
    simp only [List.map_cons, List.cons.injEq]
    refine ⟨?_, caseVariantFrom_lower as bs _ _ hr⟩
    simp only [PTok.ren, hl, Tok.caseVar_lower hv]

end Parse

def PExpr.isValue : PExpr → Bool
  | .value _ _ => true
  | _ => false

namespace Parse
variable {α β : Type}

def ValVar (x x₂ : PRes PExpr) : Prop :=
  ∀ e s', x = .ok e s' → e.isValue = true → ∃ s₂', x₂ = .ok e s₂' ∧ RelV s' s₂'

theorem ValVar.of_nv {x x₂ : PRes PExpr} (h : x.OkP (fun e => e.isValue = false)) : ValVar x x₂ :=
  fun e s' he hv => absurd hv (ne_true_of_eq_false (h e s' he))

section value
variable {T : PrecTables} {n : Nat}

/-- `parse_unary_operator` returns a literal only from `parse_primary_expression` on a token that is no prefix operator -/
theorem value_unary (ihP : ∀ {p2 p1 s s₂}, StV p2 p1 s s₂ → ValVar (parsePrimary T n s) (parsePrimary T n s₂))
    (hst : StV p2 p1 s s₂) : ValVar (parseUnary T (n + 1) s) (parseUnary T (n + 1) s₂) := by
  rw [parseUnary, parseUnary]
  simp only [parse_bind]
  rcases hst.tok_cases with e | ⟨_, i, j, hi, hj, _⟩
  · rw [e]
    split <;> simp only [Bool.not_true, Bool.not_false, Bool.false_eq_true, if_true, if_false]
    · exact .of_nv (by okp_walk <;> exact okP_ok rfl)
    · exact .of_nv (by okp_walk <;> exact okP_ok rfl)
    · exact ihP hst
  · rw [hi, hj]
    exact ihP hst

end value

theorem caseVariantFrom_suffix : ∀ (as bs : List PTok) (p2 p1 : Tok) {a' b' : PTok} {as' bs' : List PTok},
    caseVariantFrom p2 p1 as bs = true → (a' :: as') <:+ as → (b' :: bs') <:+ bs → as'.length = bs'.length →
    ∃ q2 q1, caseVariantFrom q2 q1 (a' :: as') (b' :: bs') = true
  | [], _, _, _, _, _, _, _, _, ha, _, _ => by simp at ha
  | _ :: _, [], _, _, _, _, _, _, _, _, hb, _ => by simp at hb
  | a :: as, b :: bs, p2, p1, a', b', as', bs', h, ha, hb, hl => by
    have hlen := caseVariantFrom_length _ _ _ _ h
    simp only [List.length_cons, Nat.add_right_cancel_iff] at hlen
    rcases List.suffix_cons_iff.mp ha with ea | ha' <;> rcases List.suffix_cons_iff.mp hb with eb | hb'
    · rw [ea, eb]; exact ⟨_, _, h⟩
    · have := hb'.length_le; cases ea; simp only [List.length_cons] at this; omega
    · have := ha'.length_le; cases eb; simp only [List.length_cons] at this; omega
    · simp only [caseVariantFrom, Bool.and_eq_true] at h
      exact caseVariantFrom_suffix as bs _ _ h.2 ha' hb' hl

theorem StV.lower (h : StV p2 p1 s s₂) : s.relabelAll id lowerChars = s₂.relabelAll id lowerChars := by
  have e := caseVariantFrom_lower _ _ _ _ h
  simp only [List.map_cons, List.cons.injEq] at e
  unfold PSt.relabelAll
  exact congr (congrArg PSt.mk e.1) e.2

/-- a function of the expression parser that commutes with lower-casing the identifiers and answers in a suffix of
its tokens: a literal value it returns has no name in it, so the run on the variant returns the same literal -/
theorem valVar_of_relabel {F : PSt → PRes PExpr}
    (hF : ∀ s, (F s).relabelAll id lowerChars (PExpr.mapAll id lowerChars lowerChars) = F (s.relabelAll id lowerChars))
    (hW : ∀ s, (F s).Within (s.cur :: s.rest)) (hst : StV p2 p1 s s₂) : ValVar (F s) (F s₂) := by
  intro e s' h hv
  have h1 := hF s
  have h2 := hF s₂
  rw [← hst.lower, ← h1, h] at h2
  cases hx : F s₂ with
  | ok e₂ t =>
    rw [hx] at h2
    simp only [PRes.map, PRes.ok.injEq] at h2
    have he : e₂ = e := by
      cases e with
      | value l v => cases e₂ <;> cases h2.1 <;> rfl
      | _ => cases hv
    have hl : s'.rest.length = t.rest.length := by
      have := congrArg (fun s : PSt => s.rest.length) h2.2
      simpa [PSt.relabelAll] using this.symm
    obtain ⟨q2, q1, hr⟩ := caseVariantFrom_suffix _ _ _ _ hst ((hW s).1 e s' h) ((hW s₂).1 e₂ t hx) hl
    exact ⟨t, by rw [he], q2, q1, hr⟩
  | err _ _ => rw [hx] at h2; cases h2
  | fuel => rw [hx] at h2; cases h2

/-- **a run of the expression parser that returns a literal value** is a run on a case variant of the tokens that
returns the same literal (`valVar_of_relabel` with `relabel_all`; `parseUnary` by `value_unary`) -/
theorem value_var {T : PrecTables} (hT : NoIdentOps T) : ∀ n : Nat,
    (∀ (p2 p1 : Tok) (s s₂ : PSt) (e : PExpr) (s' : PSt), StV p2 p1 s s₂ → e.isValue = true →
      parseExpr T n s = .ok e s' → ∃ s₂', parseExpr T n s₂ = .ok e s₂' ∧ RelV s' s₂') ∧
    (∀ (p2 p1 : Tok) (s s₂ : PSt) (e : PExpr) (s' : PSt), StV p2 p1 s s₂ → e.isValue = true →
      parseUnary T n s = .ok e s' → ∃ s₂', parseUnary T n s₂ = .ok e s₂' ∧ RelV s' s₂') ∧
    (∀ (p2 p1 : Tok) (s s₂ : PSt) (e : PExpr) (s' : PSt), StV p2 p1 s s₂ → e.isValue = true →
      parsePrimary T n s = .ok e s' → ∃ s₂', parsePrimary T n s₂ = .ok e s₂' ∧ RelV s' s₂') := by
  have hT' : ∀ i, lookupTok T.other (.ident (lowerChars i)) = lookupTok T.other (.ident i) := fun i => (hT _).trans (hT i).symm
  have hrel := fun n => relabel_all (ℓ := id) (T := T) createNameMap_lowerChars.names hT' n
  intro n
  have hE : ∀ {n p2 p1 s s₂}, StV p2 p1 s s₂ → ValVar (parseExpr T n s) (parseExpr T n s₂) := fun {n} _ _ _ _ hst =>
    valVar_of_relabel (hrel n).e (fun _ => parseExpr_within (List.suffix_refl _)) hst
  have hP : ∀ {n p2 p1 s s₂}, StV p2 p1 s s₂ → ValVar (parsePrimary T n s) (parsePrimary T n s₂) := fun {n} _ _ _ _ hst =>
    valVar_of_relabel (hrel n).p (fun _ => parsePrimary_within (List.suffix_refl _)) hst
  refine ⟨fun _ _ _ _ e s' hst hv h => hE hst e s' h hv, fun _ _ _ _ e s' hst hv h => ?_,
    fun _ _ _ _ e s' hst hv h => hP hst e s' h hv⟩
  cases n with
  | zero => rw [parseUnary] at h; cases h
  | succ n => exact value_unary hP hst e s' h hv

theorem parseRegexMode_var (hst : StV p2 p1 s s₂) : OkVar (fun _ => RelV) (parseRegexMode s) (parseRegexMode s₂) := by
  unfold parseRegexMode
  simp only [parse_bind]
  rcases hst.tok_ident_or with ⟨hn, e⟩ | ⟨i, j, hi, hj, hl⟩
  · rw [e]
    split
    · exact absurd ‹_› (hn _)
    · exact .ok hst.rel
  · rw [hi, hj]
    dsimp only
    rw [hl]
    exact .ite rfl (fun _ => .bind hst.next fun _ _ _ st => .ok st.rel) fun _ =>
      .ite rfl (fun _ => .bind hst.next fun _ _ _ st => .ok st.rel) fun _ => .ok hst.rel

theorem typeBrackets_var : ∀ (fuel k : Nat) {p2 p1 : Tok} {s s₂ : PSt}, StV p2 p1 s s₂ →
    OkVar (fun _ => RelV) (typeBrackets fuel k s) (typeBrackets fuel k s₂)
  | 0, _, _, _, _, _, _ => by rw [typeBrackets]; exact .fuel
  | n + 1, k, _, _, s, s₂, hst => by
    rw [typeBrackets, typeBrackets]
    simp only [parse_bind]
    exact .ite (hst.tok_eq rfl) (fun _ => .bind hst.next fun _ _ _ st1 =>
      .bind (expectConsume_var rfl st1) fun _ _ _ st2 => typeBrackets_var n _ st2) fun _ => .ok hst.rel

/-- the type name is read through its lower-cased spelling only -/
theorem parseType_var (fuel : Nat) (hst : StV p2 p1 s s₂) : OkVar (fun _ => RelV) (parseType fuel s) (parseType fuel s₂) := by
  intro t s' h
  unfold parseType at h ⊢
  simp only [parse_bind] at h ⊢
  obtain ⟨name, s1, hq, h⟩ := bind_eq_ok h
  unfold consumeIdentifier at hq ⊢
  split at hq
  · rename_i i hi
    obtain ⟨u, s0, hn, hq⟩ := bind_eq_ok hq
    cases hq
    obtain ⟨m, hm, hl⟩ := hst.tok_ident hi
    obtain ⟨t1, g1, st1⟩ := hst.step hn
    obtain ⟨k, s2, hq2, h⟩ := bind_eq_ok h
    obtain ⟨t2, g2, r2⟩ := typeBrackets_var fuel 0 st1 _ _ hq2
    simp only [hm, g1, g2, hl, PRes.bind]
    split at h
    · rename_i vt hvt
      cases h
      exact ⟨t2, rfl, r2⟩
    · cases h
  · cases hq

theorem parseDefineColumn_var {T : PrecTables} (hT : NoIdentOps T) (fuel : Nat) (parsing : PColParsing)
    (hst : StV p2 p1 s s₂) (hc : caseFreeAfter p2 p1 = false) :
    OkVar (fun _ => RelV) (parseDefineColumn T fuel parsing s) (parseDefineColumn T fuel parsing s₂) := by
  unfold parseDefineColumn
  simp only [parse_bind]
  refine .bind (consumeIdentifier_var hst hc) fun name s1 t1 st1 => .bind (parseType_var fuel st1) fun ty s2 t2 r2 => ?_
  obtain ⟨q2, q1, st2⟩ := r2
  rcases st2.tok_ident_or with ⟨hn, e⟩ | ⟨i, j, hi, hj, hl⟩
  · rw [e]
    split
    · exact .bind st2.next fun _ _ _ st3 => .bind (expectConsume_var rfl st3) fun _ _ _ st4 => .ok st4.rel
    · -- DEFAULT literal
      refine .bind st2.next fun _ s3 t3 st3 => ?_
      intro c s' h
      obtain ⟨e, s4, hq, h⟩ := bind_eq_ok h
      split at h
      · obtain ⟨t4, g4, _, _, st4⟩ := (value_var hT fuel).2.2 _ _ _ _ _ _ st3 rfl hq
        rw [g4]
        simp only [PRes.bind]
        refine (?_ : OkVar (fun _ => RelV) _ _) c s' h
        split
        · exact .ite rfl (fun _ => .mkErr) fun _ => .ok st4.rel
        · exact .ok st4.rel
      · cases h
    · exact absurd ‹_› (hn _)
    · exact .ok st2.rel
  · rw [hi, hj]
    dsimp only
    rw [hl]
    exact .ite rfl (fun _ => .ite rfl (fun _ => .mkErr) fun _ => .bind st2.next fun _ _ _ st3 => .ok st3.rel) fun _ =>
      .ite rfl (fun _ => .bind st2.next fun _ _ _ st3 => .ok st3.rel) fun _ =>
        .ite rfl (fun _ => .bind st2.next fun _ _ _ st3 => .ok st3.rel) fun _ => .ok st2.rel

theorem refLoop_var : ∀ (fuel : Nat) (acc : List PRegexRef) {p2 p1 : Tok} {s s₂ : PSt}, StV p2 p1 s s₂ → s.cur.tok = .comma →
    OkVar (fun _ => RelV) (refLoop fuel acc s) (refLoop fuel acc s₂)
  | 0, _, _, _, _, _, _, _ => by rw [refLoop]; exact .fuel
  | n + 1, acc, _, _, s, s₂, hst, hcm => by
    rw [refLoop, refLoop]
    simp only [parse_bind]
    exact .bind hst.next fun _ _ _ st1 => .bind (consumeIdentifier_var (hcm ▸ st1) rfl) fun _ _ _ st2 =>
      .bind (expectConsume_var rfl st2) fun _ _ _ st3 => .bind (consumeInt_var st3) fun _ _ _ st4 =>
      .bind (expectConsume_var rfl st4) fun _ _ _ st5 => .ite (st5.tok_eq rfl) (fun _ => .ok st5.rel) fun _ =>
      .ite (st5.tok_eq rfl) (fun c => refLoop_var n _ st5 c) fun _ => .mkErr

theorem optRefs_var (fuel : Nat) (first : PRegexRef) (hst : StV p2 p1 s s₂) :
    OkVar (fun _ => RelV) (optRefs fuel first s) (optRefs fuel first s₂) := by
  unfold optRefs
  exact .ite (hst.tok_eq rfl) (fun c => refLoop_var fuel _ hst c) fun _ => .ok hst.rel

theorem jsonLoop_var : ∀ (fuel : Nat) (acc : List PJsonStep) {p2 p1 : Tok} {s s₂ : PSt}, StV p2 p1 s s₂ →
    OkVar (fun _ => RelV) (jsonLoop fuel acc s) (jsonLoop fuel acc s₂)
  | 0, _, _, _, _, _, _ => by rw [jsonLoop]; exact .fuel
  | n + 1, acc, _, _, s, s₂, hst => by
    rw [jsonLoop, jsonLoop]
    simp only [parse_bind]
    exact .ite (hst.tok_eq rfl) (fun c => .bind hst.next fun _ _ _ st1 =>
        .bind (consumeIdentifier_var (c ▸ st1) rfl) fun _ _ _ st2 => jsonLoop_var n _ st2) fun _ =>
      .ite (hst.tok_eq rfl) (fun _ => .bind hst.next fun _ _ _ st1 => .bind (consumeInt_var st1) fun _ _ _ st2 =>
        .bind (expectConsume_var rfl st2) fun _ _ _ st3 => jsonLoop_var n _ st3) fun _ =>
      .ite (hst.tok_eq rfl) (fun _ => .bind hst.next fun _ _ _ st1 => .ok st1.rel) fun _ => .mkErr

theorem colItem_var {T : PrecTables} (hT : NoIdentOps T) (fuel : Nat) (ps : Patterns) (cs : List PColDef)
    (hst : StV p2 p1 s s₂) (hc : caseFreeAfter p2 p1 = false) :
    OkVar (fun _ => RelV) (colItem T fuel ps cs s) (colItem T fuel ps cs s₂) := by
  unfold colItem
  simp only [parse_bind]
  rw [hst.tok_same hc]
  split
  · -- a pattern definition, or a column read from pattern groups
    refine .bind hst.next fun _ _ _ st1 => .ite (st1.tok_eq rfl) (fun _ => ?_) fun _ => .ite (st1.tok_eq rfl) (fun _ => ?_) fun _ => .mkErr
    · exact .bind st1.next fun _ _ _ st2 => .bind (parseRegexMode_var st2) fun _ _ _ r3 => r3.elim fun _ h => h.elim fun _ st3 =>
        .bind (consumeString_var st3) fun _ _ _ st4 => .ok st4.rel
    · exact .bind st1.next fun _ _ _ st2 => .bind (consumeInt_var st2) fun _ _ _ st3 =>
        .bind (expectConsume_var rfl st3) fun _ _ _ st4 => .bind (optRefs_var fuel _ st4) fun _ _ _ r5 =>
        r5.elim fun _ h => h.elim fun _ st5 => .bind (expectConsume_var rfl st5) fun _ _ _ st6 =>
        .bind (parseDefineColumn_var hT fuel _ st6 rfl) fun _ _ _ r7 => .ok r7
  · -- a column with its own pattern
    exact .bind hst.next fun _ _ _ st1 => .bind (expectConsume_var rfl st1) fun _ _ _ st2 =>
      .bind (parseDefineColumn_var hT fuel _ st2 rfl) fun _ _ _ r3 => .ok r3
  · -- a JSON column
    exact .bind hst.next fun _ _ _ st1 => .bind (jsonLoop_var fuel [] st1) fun _ _ _ r2 => r2.elim fun _ h => h.elim fun _ st2 =>
      .bind (expectConsume_var rfl st2) fun _ _ _ st3 => .ite rfl (fun _ => .mkErr) fun _ =>
      .bind (parseDefineColumn_var hT fuel _ st3 rfl) fun _ _ _ r4 => .ok r4
  · exact .bind hst.next fun _ _ _ st1 => .ok st1.rel
  · exact .mkErr

theorem colLoop_var {T : PrecTables} (hT : NoIdentOps T) : ∀ (fuel : Nat) (ps : Patterns) (cs : List PColDef)
    {p2 p1 : Tok} {s s₂ : PSt}, StV p2 p1 s s₂ → caseFreeAfter p2 p1 = false →
    OkVar (fun _ => RelV) (colLoop T fuel ps cs s) (colLoop T fuel ps cs s₂)
  | 0, _, _, _, _, _, _, _, _ => by rw [colLoop]; exact .fuel
  | n + 1, ps, cs, _, _, s, s₂, hst, hc => by
    rw [colLoop, colLoop]
    simp only [parse_bind]
    refine .bind (colItem_var hT n ps cs hst hc) fun r _ _ r1 => r1.elim fun _ h => h.elim fun _ st1 => ?_
    split
    · exact .ok st1.rel
    · exact .ite (st1.tok_eq rfl) (fun c => .bind st1.next fun _ _ _ st2 => colLoop_var hT n _ _ (c ▸ st2) rfl) fun _ =>
        .ite (st1.tok_eq rfl) (fun _ => .bind st1.next fun _ _ _ st2 => .ok st2.rel) fun _ => .mkErr

theorem parseCreateTable_var {T : PrecTables} (hT : NoIdentOps T) (fuel : Nat) (hst : StV p2 p1 s s₂) :
    OkVar (fun _ => RelV) (parseCreateTable T fuel s) (parseCreateTable T fuel s₂) := by
  unfold parseCreateTable
  simp only [parse_bind]
  rw [hst.loc]
  exact .bind hst.next fun _ _ _ st1 => .bind (expectConsume_var rfl st1) fun _ _ _ st2 =>
    .bind (consumeIdentifier_var st2 rfl) fun _ _ _ st3 => .bind (expectConsume_var rfl st3) fun _ _ _ st4 =>
    .bind (colLoop_var hT fuel [] [] st4 rfl) fun _ _ _ r5 => r5.elim fun _ h => h.elim fun _ st5 =>
    .bind (expectConsume_var rfl st5) fun _ _ _ st6 => st6.loc ▸ .ok st6.rel

theorem multiCreateLoop_var {T : PrecTables} (hT : NoIdentOps T) : ∀ (fuel : Nat) (acc : List PCreate)
    {p2 p1 : Tok} {s s₂ : PSt}, StV p2 p1 s s₂ → OkVar (fun _ => RelV) (multiCreateLoop T fuel acc s) (multiCreateLoop T fuel acc s₂)
  | 0, _, _, _, _, _, _ => by rw [multiCreateLoop]; exact .fuel
  | n + 1, acc, _, _, s, s₂, hst => by
    rw [multiCreateLoop, multiCreateLoop]
    simp only [parse_bind]
    exact .bind (parseCreateTable_var hT n hst) fun _ _ _ r1 => r1.elim fun _ h => h.elim fun _ st1 =>
      .ite (congrArg Not (st1.tok_eq rfl)) (fun _ => .ok st1.rel) fun _ => multiCreateLoop_var hT n _ st1

theorem optSemi_var (hst : StV p2 p1 s s₂) : OkVar (fun _ => RelV) (optSemi s) (optSemi s₂) := by
  unfold optSemi
  exact .ite (hst.tok_eq rfl) (fun _ => hst.next.mono fun _ _ _ h => h.rel) fun _ => .ok hst.rel

/-- `Parser::parse` behind its first `next()`, on a state that starts with CREATE -/
theorem parseOp_create_var {T : PrecTables} (hT : NoIdentOps T) (fuel : Nat) (hst : StV p2 p1 s s₂)
    (hcr : s.cur.tok = .kw .create) : OkVar (fun _ _ _ => True) (parseOp T fuel s) (parseOp T fuel s₂) := by
  have hcr2 : s₂.cur.tok = .kw .create := hst.tok_of hcr rfl
  unfold parseOp parseStatement
  simp +decide only [parse_bind, hcr, hcr2, ne_eq, and_false, if_false]
  intro op s' h
  cases hq : multiCreateLoop T fuel [] s with
  | fuel => rw [hq] at h; cases h
  | err e s1 => rw [hq] at h; exact (okP_bind (P := fun _ => False) (fun _ _ _ => okP_err) _ _ h).elim
  | ok op1 s1 =>
    rw [hq] at h
    obtain ⟨t1, g1, _, _, st1⟩ := multiCreateLoop_var hT fuel [] hst _ _ hq
    rw [g1]
    refine (?_ : OkVar (fun _ _ _ => True) _ _) op s' h
    exact .bind (optSemi_var st1) fun _ _ _ r2 => r2.elim fun _ h => h.elim fun _ st2 =>
      .ite (by rw [st2.rest_isEmpty]) (fun _ => .ok trivial) fun _ => .mkErr

/-- **`Parser::parse` reads a case variant of a CREATE TABLE token vector as the same tree** (fuel as given) -/
theorem parseTokensFuel_create_var {T : PrecTables} (hT : NoIdentOps T) (fuel : Nat) {toks toks₂ : List PTok}
    (hv : caseVariantFrom .eof .eof toks toks₂ = true) (hcr : toks.head?.map (·.tok) = some (.kw .create)) {t : POp}
    (h : parseTokensFuel T fuel toks = .tree t) : parseTokensFuel T fuel toks₂ = .tree t := by
  cases toks with
  | nil => simp at hcr
  | cons a as =>
    cases toks₂ with
    | nil => simp [caseVariantFrom] at hv
    | cons b bs =>
      have hst : StV .eof .eof ⟨a, as⟩ ⟨b, bs⟩ := hv
      obtain ⟨s1, hq⟩ := parseTokensFuel_cons_eq_tree_iff.1 h
      obtain ⟨t1, g1, _⟩ := parseOp_create_var hT fuel hst (by simpa using hcr) _ _ hq
      exact parseTokensFuel_cons_eq_tree_iff.2 ⟨t1, g1⟩

theorem parseTokens_create_var {T : PrecTables} (hT : NoIdentOps T) {toks toks₂ : List PTok}
    (hv : caseVariantFrom .eof .eof toks toks₂ = true) (hcr : toks.head?.map (·.tok) = some (.kw .create)) {t : POp}
    (h : parseTokens T toks = .tree t) : parseTokens T toks₂ = .tree t := by
  unfold parseTokens at h ⊢
  rw [caseVariantFrom_length _ _ _ _ hv]
  exact parseTokensFuel_create_var hT _ hv hcr h

def Tok.shapeEq (a b : Tok) : Prop := a = b ∨ (a.isIdent = true ∧ b.isIdent = true)

theorem isIdent_iff {a : Tok} : a.isIdent = true ↔ ∃ i, a = .ident i := by
  cases a <;> simp [Tok.isIdent]

theorem caseFreeAfter_congr {p2 p1 q2 q1 : Tok} (h2 : Tok.shapeEq p2 q2) (h1 : Tok.shapeEq p1 q1) :
    caseFreeAfter p2 p1 = caseFreeAfter q2 q1 := by
  rcases h1 with rfl | ⟨a1, b1⟩
  · rcases h2 with rfl | ⟨a2, b2⟩
    · rfl
    · obtain ⟨i, rfl⟩ := isIdent_iff.mp a2
      obtain ⟨j, rfl⟩ := isIdent_iff.mp b2
      simp [caseFreeAfter, Tok.isIdent]
  · obtain ⟨i, rfl⟩ := isIdent_iff.mp a1
    obtain ⟨j, rfl⟩ := isIdent_iff.mp b1
    rcases h2 with rfl | ⟨a2, b2⟩
    · simp [caseFreeAfter, Tok.isIdent]
    · obtain ⟨i2, rfl⟩ := isIdent_iff.mp a2
      obtain ⟨j2, rfl⟩ := isIdent_iff.mp b2
      simp [caseFreeAfter, Tok.isIdent]

theorem Tok.caseVar_symm {f : Bool} {a b : Tok} (h : Tok.caseVar f a b = true) :
    Tok.caseVar f b a = true ∧ Tok.shapeEq a b := by
  rcases Tok.caseVar_cases h with rfl | ⟨hf, i, j, rfl, rfl, hl⟩
  · exact ⟨by simp [Tok.caseVar], .inl rfl⟩
  · exact ⟨by simp [Tok.caseVar, Tok.sameLower, hf, hl], .inr ⟨rfl, rfl⟩⟩

theorem caseVariantFrom_symm : ∀ (as bs : List PTok) (p2 p1 q2 q1 : Tok), Tok.shapeEq p2 q2 → Tok.shapeEq p1 q1 →
    caseVariantFrom p2 p1 as bs = true → caseVariantFrom q2 q1 bs as = true
  | [], [], _, _, _, _, _, _, _ => rfl
  | [], _ :: _, _, _, _, _, _, _, h => by simp [caseVariantFrom] at h
  | _ :: _, [], _, _, _, _, _, _, h => by simp [caseVariantFrom] at h
  | a :: as, b :: bs, p2, p1, q2, q1, h2, h1, h => by
    simp only [caseVariantFrom, Bool.and_eq_true, decide_eq_true_eq] at h ⊢
    obtain ⟨⟨hl, hv⟩, hr⟩ := h
    obtain ⟨hv', hs⟩ := Tok.caseVar_symm hv
    refine ⟨⟨hl.symm, ?_⟩, caseVariantFrom_symm as bs _ _ _ _ h1 hs hr⟩
    rw [← caseFreeAfter_congr h2 h1]
    exact hv'

/-- the relation does not look at locations beyond comparing them: it survives resetting them -/
theorem caseVariantFrom_strip : ∀ (as bs : List PTok) (p2 p1 : Tok), caseVariantFrom p2 p1 as bs = true →
    caseVariantFrom p2 p1 (as.map PTok.strip) (bs.map PTok.strip) = true
  | [], [], _, _, _ => rfl
  | [], _ :: _, _, _, h => by simp [caseVariantFrom] at h
  | _ :: _, [], _, _, h => by simp [caseVariantFrom] at h
  | a :: as, b :: bs, p2, p1, h => by
    simp only [caseVariantFrom, Bool.and_eq_true, decide_eq_true_eq] at h
    obtain ⟨⟨_, hv⟩, hr⟩ := h
    simp only [List.map_cons, caseVariantFrom, Bool.and_eq_true, decide_eq_true_eq]
    exact ⟨⟨rfl, hv⟩, caseVariantFrom_strip as bs _ _ hr⟩

set_option hygiene false in
/-- one `try!` step of a run `h : (match F s with | ok a s => … | err … | fuel …) = ok v s'`: the step succeeded; the
transfer lemma gives the step on the variant, which is rewritten in the goal -/
macro "vstep " a:ident s1:ident t1:ident st1:ident " := " lem:term : tactic => `(tactic| (
  split at h
  rotate_left
  · cases h
  · cases h
  rename_i $a:ident $s1:ident hq
  obtain ⟨$t1, g1, $st1⟩ := $lem hq
  simp only [g1]
  clear g1))

set_option hygiene false in
/-- `vstep` for a transfer lemma that concludes `RelV` -/
macro "vstepr " a:ident s1:ident t1:ident st1:ident " := " lem:term : tactic => `(tactic| (
  split at h
  rotate_left
  · cases h
  · cases h
  rename_i $a:ident $s1:ident hq
  obtain ⟨$t1, g1, _, _, $st1⟩ := $lem hq
  simp only [g1]
  clear g1))

end Parse
end Sqlgrep
