import SqlgrepModel.Lemmas.Lower
import SqlgrepModel.Model.Engine
import SqlgrepModel.Lemmas.ExtractRow
/-
`row[index]` sites: the Rust engine indexes the extracted row of a line by the position of a column name among the table's
column names (`TableDefinition::index_for` + `row.columns[index]`, join keys and `create_columns_mapping`). The engine
model reads rows with `getD … .null`; these lemmas show the default is never taken on the rows the engine is given:
a lowered table has one name per column (`Lower.lowerCreate_aligned`, `Lemmas/Lower.lean`), an admitted row has one value
per column, and the position of a name is smaller than the number of names.
-/
namespace Sqlgrep
open Extract

/-- an admitted row has one value per column (a row cut by a NOT NULL column is empty, hence not admitted) -/
theorem admitted_row_full (o : Extract.Oracles) (d : TableDef) (lo : LineOracle) (h : anyResult (extractRow o d lo) = true) :
    (extractRow o d lo).length = d.columns.length := by
  by_cases hc : cutBy o (ParsingInput.new d lo) d.columns
  · have : extractRow o d lo = [] := extractWith_cut o d _ hc
    rw [this] at h
    simp [anyResult] at h
  · show (extractWith o d (ParsingInput.new d lo)).length = _
    rw [extractWith_kept o d _ hc, List.length_map]

/-- the position of a name among the names is a position of the row: the `row[index]` site is in range and the
model's `getD` never takes its default -/
theorem row_index_in_range (names : List String) (row : List Value) (hlen : row.length = names.length)
    (n : String) (ki : Nat) (hk : indexOf? names n = some ki) :
    ∃ v, row[ki]? = some v ∧ row.getD ki .null = v := by
  have hlt : ki < names.length := by
    unfold indexOf? at hk
    have := List.findIdx?_eq_some_iff_getElem.1 hk
    exact this.1
  have : ki < row.length := by omega
  exact ⟨row[ki], List.getElem?_eq_getElem this, by simp [List.getD, List.getElem?_eq_getElem this]⟩

end Sqlgrep
