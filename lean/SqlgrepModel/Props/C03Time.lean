import SqlgrepModel.Lemmas.CivilAgree
import SqlgrepModel.Lemmas.CivilNext
import SqlgrepModel.Props.C03Func
/-
C03 — TIMESTAMP and INTERVAL arithmetic, stated ABSOLUTELY (the instant of the result), at the level of the operator
the evaluator executes (`arith`, reached from `eval (.arith op l r)`). `Props/C03Func.lean` has the relative forms
(`ts - iv` is `ts + (-iv)`); a model in which `+` added twice the interval would satisfy those. This file fixes the
meaning: the instant (`tsTotal`, nanoseconds) of `ts + iv` is the instant of `ts` plus `iv`, of `ts - iv` the instant minus
`iv`; `ts − ts'` is the difference of the instants; `iv ± iv'` is the sum / difference of the nanoseconds; every other
operator between these types is an error (D63, repaired in /repo 91aa1f4, lived exactly here while model and code agreed).
Leap-second timestamps (nanos ≥ 10⁹) are excluded here (`TsPlain`); chrono's behaviour on them is `Props/C03Func.lean` A′.
-/
namespace Sqlgrep.Props.C03Time
open Sqlgrep

/-- `eval` of an arithmetic node is `arith` of the operands' values -/
theorem eval_arith (O : Oracles) (env : Env) (op : ArithOp) (l r : Expr) (lv rv : Value)
    (hl : eval O env l = .ok lv) (hr : eval O env r = .ok rv) :
    eval O env (.arith op l r) = arith op lv rv := by
  simp [eval, hl, hr, bind, Outcome.bind]

/-- **timestamp + interval**: whenever it has a value, the value is the timestamp whose instant is the instant of the
operand plus the interval — not a nanosecond more or less -/
theorem ts_plus_interval_instant (d s f ns : Int) (r : Value) (h : TsPlain s f)
    (h1 : arith .add (.timestamp d s f) (.interval ns) = .ok r) :
    ∃ d' s' f', r = .timestamp d' s' f' ∧ TsPlain s' f' ∧ tsTotal d' s' f' = tsTotal d s f + ns := by
  have e1 : tsAdd d s f ns = .ok r := h1
  unfold tsAdd at e1
  rw [tsShift_plain d s f ns h.2.2.2] at e1
  obtain ⟨d1, s1, f1, et, hp, htot⟩ := tsTotal_tsOfTotal (tsTotal d s f + ns)
  rw [et] at e1
  dsimp only at e1
  split at e1
  · injection e1 with e1
    exact ⟨d1, s1, f1, e1.symm, hp, htot⟩
  · cases e1

/-- the year of the calendar day on which the instant `t` (nanoseconds, `tsTotal`) falls -/
def yearOfInstant (t : Int) : Int := (CivilE.civilOfDays (t / nsPerSec / 86400)).1

/-- **When `timestamp + interval` has a value, and which** (the other direction of `ts_plus_interval_instant`, third review M10):
for an ordinary timestamp the sum is the timestamp of the instant `T = instant + interval` exactly when the calendar day of `T`
lies in a year chrono's dates cover (−262143 … 262142); otherwise it is the error `undefinedOperation` — never another value,
never NULL, never a different error. A model in which `+` always failed would not satisfy this. -/
theorem ts_plus_interval_defined_iff (d s f ns : Int) (h : TsPlain s f) :
    arith .add (.timestamp d s f) (.interval ns) =
      (if -262143 ≤ yearOfInstant (tsTotal d s f + ns) && yearOfInstant (tsTotal d s f + ns) ≤ 262142
       then .ok (tsOfTotal (tsTotal d s f + ns)) else .error .undefinedOperation) := by
  show tsAdd d s f ns = _
  unfold tsAdd
  rw [tsShift_plain d s f ns h.2.2.2]
  rfl

/-- … and `timestamp − interval` likewise, with the instant `T = instant − interval` -/
theorem ts_minus_interval_defined_iff (d s f ns : Int) (h : TsPlain s f) :
    arith .sub (.timestamp d s f) (.interval ns) =
      (if -262143 ≤ yearOfInstant (tsTotal d s f - ns) && yearOfInstant (tsTotal d s f - ns) ≤ 262142
       then .ok (tsOfTotal (tsTotal d s f - ns)) else .error .undefinedOperation) := by
  have := ts_plus_interval_defined_iff d s f (-ns) h
  rw [show tsTotal d s f + -ns = tsTotal d s f - ns by omega] at this
  exact this

/-- non-vacuity of both branches: one hour after 2024-01-01 10:00 exists; 262142-12-31 23:00 plus two hours does not -/
example : arith .add (.timestamp 738886 36000 0) (.interval 3600000000000) = .ok (.timestamp 738886 39600 0) ∧
    arith .add (.timestamp (Civil.daysFromCE 262142 12 31) 82800 0) (.interval 7200000000000) = .error .undefinedOperation ∧
    arith .sub (.timestamp (Civil.daysFromCE (-262143) 1 1) 0 0) (.interval 1) = .error .undefinedOperation := ⟨rfl, rfl, rfl⟩

/-- **interval + timestamp** is the same -/
theorem interval_plus_ts_instant (d s f ns : Int) (r : Value) (h : TsPlain s f)
    (h1 : arith .add (.interval ns) (.timestamp d s f) = .ok r) :
    ∃ d' s' f', r = .timestamp d' s' f' ∧ TsPlain s' f' ∧ tsTotal d' s' f' = tsTotal d s f + ns :=
  ts_plus_interval_instant d s f ns r h h1

/-- **timestamp − interval**: the instant minus the interval (this is the statement D63 violated: the code added) -/
theorem ts_minus_interval_instant (d s f ns : Int) (r : Value) (h : TsPlain s f)
    (h1 : arith .sub (.timestamp d s f) (.interval ns) = .ok r) :
    ∃ d' s' f', r = .timestamp d' s' f' ∧ TsPlain s' f' ∧ tsTotal d' s' f' = tsTotal d s f - ns := by
  have h2 : arith .add (.timestamp d s f) (.interval (-ns)) = .ok r := h1
  obtain ⟨d', s', f', e, hp, ht⟩ := ts_plus_interval_instant d s f (-ns) r h h2
  exact ⟨d', s', f', e, hp, by omega⟩

/-- every other operator between a TIMESTAMP and an INTERVAL (either order) has no value -/
theorem ts_interval_other_operators (d s f ns : Int) :
    arith .mul (.timestamp d s f) (.interval ns) = .error .undefinedOperation ∧
    arith .div (.timestamp d s f) (.interval ns) = .error .undefinedOperation ∧
    arith .sub (.interval ns) (.timestamp d s f) = .error .undefinedOperation ∧
    arith .mul (.interval ns) (.timestamp d s f) = .error .undefinedOperation ∧
    arith .div (.interval ns) (.timestamp d s f) = .error .undefinedOperation := ⟨rfl, rfl, rfl, rfl, rfl⟩

/-- **interval ± interval**: exactly the sum / difference of the nanoseconds, or an error when that leaves the INTERVAL
range; `*` and `/` between intervals are errors -/
theorem interval_arith (x y : Int) :
    arith .add (.interval x) (.interval y) = (if inIv (x + y) then .ok (.interval (x + y)) else .error .undefinedOperation) ∧
    arith .sub (.interval x) (.interval y) = (if inIv (x - y) then .ok (.interval (x - y)) else .error .undefinedOperation) ∧
    arith .mul (.interval x) (.interval y) = .error .undefinedOperation ∧
    arith .div (.interval x) (.interval y) = .error .undefinedOperation := ⟨rfl, rfl, rfl, rfl⟩

/-- non-vacuity: a timestamp at 10:00:00 minus one hour is 09:00:00 of the same day, plus one hour 11:00:00 -/
example : arith .sub (.timestamp 736329 36000 0) (.interval 3600000000000) = .ok (.timestamp 736329 32400 0) ∧
    arith .add (.timestamp 736329 36000 0) (.interval 3600000000000) = .ok (.timestamp 736329 39600 0) := ⟨rfl, rfl⟩

/-! ### the calendar behind TIMESTAMP values counts days

A TIMESTAMP value holds the day number `Civil.daysFromCE y m d` of its date. The closed formulas behind it
(`daysBeforeYear`, the cumulative table `daysBeforeMonth`) are tied here to the calendar a reader knows: 0001-01-01 is day 1, and
the day after any date — next day of the month, first of the next month after the last day (`monthLen`, February by the leap rule
`leap_rule`), January 1st after December 31st — has the next number. These two facts determine `daysFromCE` on every date. -/

/-- **the day number counts calendar days** -/
theorem calendar_counts_days :
    Civil.daysFromCE 1 1 1 = 1 ∧
    ∀ (y : Int) (m d : Nat), 1 ≤ m ∧ m ≤ 12 → 1 ≤ d ∧ d ≤ Civil.monthLen y m →
      Civil.daysFromCE (Civil.nextDay y m d).1 (Civil.nextDay y m d).2.1 (Civil.nextDay y m d).2.2 = Civil.daysFromCE y m d + 1 :=
  ⟨Civil.daysFromCE_origin, Civil.daysFromCE_nextDay⟩

/-- the leap rule of the model's calendar is the Gregorian one -/
theorem leap_rule (y : Int) : Civil.isLeap y = true ↔ (y % 4 = 0 ∧ y % 100 ≠ 0) ∨ y % 400 = 0 := by
  rw [← CivilE.isLeap_eq]; exact CivilE.isLeap_iff y

/-- non-vacuity: 2024-02-28 → 02-29 → 03-01, 1999-12-31 → 2000-01-01 -/
example : Civil.daysFromCE 2024 2 29 = Civil.daysFromCE 2024 2 28 + 1 ∧ Civil.daysFromCE 2024 3 1 = Civil.daysFromCE 2024 2 29 + 1 ∧
    Civil.daysFromCE 2000 1 1 = Civil.daysFromCE 1999 12 31 + 1 := by decide +kernel

end Sqlgrep.Props.C03Time
