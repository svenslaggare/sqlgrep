import SqlgrepModel.Lemmas.AggCell
import SqlgrepModel.Lemmas.AggSpecFacts
/-
Per-aggregate lemmas: the cell an aggregate reaches by folding its step over the argument values `vs` of a
group (arrival order, NULLs included), stated against the specification's `Spec.Agg.aggregate`, for COUNT(*) / COUNT(c),
BOOL_AND / BOOL_OR, MIN / MAX, PERCENTILE, ARRAY_AGG and STRING_AGG (SUM, AVG, STDDEV / VARIANCE: `AggSums`;
COUNT(DISTINCT c): `AggDistinct`). The fold is taken apart once (`foldV_steps`): NULL arguments leave the cells of interest
alone, and what remains is a run over the non-NULL values, which every aggregate then describes in closed form.
-/
set_option linter.unusedSimpArgs false
namespace Sqlgrep
open Value Spec.Agg

/-- fold of the value step over a list of argument values -/
def foldV (k : AggKind) : List Value → Cell → Outcome Cell
  | [], c => .ok c
  | v :: vs, c => (stepV k v c).bind (foldV k vs)

theorem foldV_eq_foldlM (k : AggKind) (vs : List Value) (c : Cell) :
    foldV k vs c = vs.foldlM (fun c v => stepV k v c) c :=
  Outcome.eq_foldlM (fun _ => rfl) (fun _ _ _ => rfl) vs c

theorem foldV_append (k : AggKind) (xs ys : List Value) (c : Cell) :
    foldV k (xs ++ ys) c = (foldV k xs c).bind (foldV k ys) :=
  Outcome.append_of_foldlM (foldV_eq_foldlM k) xs ys c

/-- what `execute_result` publishes for a cell: a percentile aggregator's value overrides the stored one -/
def published (c : Cell) : Option Value :=
  match c.agg with
  | some (.percentile vals p) =>
    match percentileValue vals p with
    | some v => some v
    | none => c.val
  | _ => c.val

/-- the value shown for aggregate `k` in a group whose cell is `c` (before the transform) -/
def shownValue (k : AggKind) (c : Cell) : Value := (published c).getD (emptyGroupValue k)

theorem foldV_steps {σ α : Type} {k : AggKind} {cell : σ → Cell} {inj : α → Value} {next : σ → α → Outcome σ}
    (hnull : ∀ s, stepV k .null (cell s) = .ok (cell s))
    (hstep : ∀ s y, (inj y).isNull = false → stepV k (inj y) (cell s) = (next s y).bind (fun s' => .ok (cell s')))
    {vs : List Value} {ys : List α} (h : nonNull vs = ys.map inj) (s : σ) :
    foldV k vs (cell s) = (ys.foldlM next s).bind (fun s' => .ok (cell s')) := by
  induction vs generalizing ys s with
  | nil => cases ys with
    | nil => rfl
    | cons _ _ => simp [nonNull] at h
  | cons v vs ih =>
    cases hv : v.isNull
    · rw [nonNull_cons_of_not_null hv] at h
      obtain ⟨y, ys', rfl, rfl, h'⟩ := map_cons_inv h
      simp only [foldV, hstep s y hv, List.foldlM_cons, bind]
      cases next s y with
      | ok s' => exact ih h' s'
      | _ => rfl
    · cases isNull_eq_true hv
      simp only [foldV, hnull, Outcome.bind]
      exact ih h s

def countCell (a : Option Aggregator) (n : Nat) : Cell := { agg := a, val := if n = 0 then none else some (.int n) }

theorem bumpCount_countCell (a : Option Aggregator) (n : Nat) : bumpCount (countCell a n) = countCell a (n + 1) := by
  unfold bumpCount countCell
  by_cases hn : n = 0
  · subst hn; simp
  · simp [hn]

theorem foldV_count (col : Option String) (vs : List Value) (a : Option Aggregator) (n : Nat) :
    foldV (.count col false) vs (countCell a n) = .ok (countCell a (n + (vs.filter (countValid col)).length)) := by
  induction vs generalizing n with
  | nil => simp [foldV]
  | cons v vs ih =>
    simp only [foldV, stepV, stepCount, Bool.and_false, Bool.false_eq_true, if_false, Outcome.bind]
    by_cases hv : countValid col v = true
    · simp only [hv, if_true, bumpCount_countCell, ih, List.filter_cons_of_pos hv, List.length_cons]
      congr 2; omega
    · simp only [hv, if_false, Bool.false_eq_true, ih, List.filter_cons_of_neg hv]

theorem countCell_zero : countCell none 0 = {} := rfl

theorem count_star_cell (vs : List Value) :
    foldV (.count none false) vs {} = .ok (countCell none vs.length) := by
  rw [← countCell_zero, foldV_count]
  have : vs.filter (countValid none) = vs := by
    apply List.filter_eq_self.mpr; intro v _; rfl
  rw [this, Nat.zero_add]

theorem count_col_cell (cn : String) (vs : List Value) :
    foldV (.count (some cn) false) vs {} = .ok (countCell none (nonNull vs).length) := by
  rw [← countCell_zero, foldV_count, Nat.zero_add]
  rfl

theorem shown_countCell (col : Option String) (d : Bool) (a : Option Aggregator) (n : Nat)
    (ha : ∀ vals p, a ≠ some (.percentile vals p)) : shownValue (.count col d) (countCell a n) = .int n := by
  unfold shownValue published countCell
  cases a with
  | none => by_cases hn : n = 0 <;> simp [hn, emptyGroupValue]
  | some x =>
    cases x <;> first
      | exact absurd rfl (ha _ _)
      | (by_cases hn : n = 0 <;> simp [hn, emptyGroupValue])

theorem count_refines (col : Option String) (vs : List Value) (r : Value) (h : aggregate (.count col false) vs = some r) :
    ∃ c, foldV (.count col false) vs {} = .ok c ∧ shownValue (.count col false) c = r ∧
      (published c).isSome = createsEntry (.count col false) vs := by
  cases col with
  | none =>
    simp only [aggregate, Bool.false_eq_true, if_false, Option.some.injEq] at h
    refine ⟨_, count_star_cell vs, ?_, ?_⟩
    · rw [shown_countCell _ _ _ _ (by simp)]; exact h
    · cases vs <;> simp [published, countCell, createsEntry]
  | some cn =>
    simp only [aggregate, Option.some.injEq] at h
    refine ⟨_, count_col_cell cn vs, ?_, ?_⟩
    · rw [shown_countCell _ _ _ _ (by simp)]; exact h
    · cases hn : nonNull vs <;> simp [published, countCell, createsEntry, hn]

def keepsAggregator : AggKind → Bool
  | .sum _ | .avg _ | .stddev _ _ | .percentile _ _ | .boolAnd _ | .boolOr _ => true
  | _ => false

/-- the step of the kinds that keep a `GroupAggregator`, on the aggregator at hand (the stored one, or the kind's default)
and the stored value -/
def aggStep (a : Aggregator) (v : Value) (x : Option Value) : Outcome Cell :=
  if v.isNull then .ok { agg := some a, val := if aggIsNull a then some .null else x }
  else (aggUpdate a v).bind (fun p => .ok { agg := some p.1, val := p.2.or x })

theorem stepV_agg {k : AggKind} (hk : keepsAggregator k = true) (v : Value) (c : Cell) :
    stepV k v c = aggStep (c.agg.getD (defaultAggregator k v)) v c.val := by
  cases k <;> first
    | (simp [keepsAggregator] at hk; done)
    | (simp only [stepV, aggStep]
       cases v.isNull
       · simp only [Bool.not_false, if_true, Bool.false_eq_true, if_false, bind, Outcome.bind]
         cases aggUpdate (c.agg.getD _) v with
         | ok p => obtain ⟨a', r⟩ := p; cases r <;> rfl
         | _ => rfl
       · simp only [Bool.not_true, Bool.false_eq_true, if_false, if_true]
         split <;> rfl)

theorem foldV_agg_init {k : AggKind} (hk : keepsAggregator k = true) (v : Value) (vs : List Value) :
    foldV k (v :: vs) {} = foldV k (v :: vs) { agg := some (defaultAggregator k v), val := none } := by
  simp only [foldV, stepV_agg hk]; rfl

/-- BOOL_AND and BOOL_OR alike: the kind `k`, its aggregator `mk`, its connective `op`, and `fin`, what the specification
makes of the non-NULL arguments -/
structure BoolLike (k : AggKind) (mk : Option Bool → Aggregator) (op : Bool → Bool → Bool) (fin : List Bool → Bool) : Prop where
  keeps : keepsAggregator k = true
  dflt : ∀ v, defaultAggregator k v = mk none
  notNull : ∀ cur, aggIsNull (mk cur) = false
  update : ∀ cur b, aggUpdate (mk cur) (.bool b) =
    .ok (mk (some (cur.elim b (op · b))), some (.bool (cur.elim b (op · b))))
  pub : ∀ cur x, published { agg := some (mk cur), val := x } = x
  fin_cons : ∀ b bs, fin (b :: bs) = bs.foldl op b
  spec : ∀ vs, aggregate k vs = (bools (nonNull vs)).map (fun bs => if bs.isEmpty then .null else .bool (fin bs))
  creates : ∀ vs, createsEntry k vs = !(nonNull vs).isEmpty
  empty : emptyGroupValue k = .null

theorem foldl_and (bs : List Bool) (b : Bool) : bs.foldl and b = (b :: bs).all id := by
  induction bs generalizing b with
  | nil => simp
  | cons c bs ih => simp [ih, Bool.and_assoc]

theorem foldl_or (bs : List Bool) (b : Bool) : bs.foldl or b = (b :: bs).any id := by
  induction bs generalizing b with
  | nil => simp
  | cons c bs ih => simp [ih, Bool.or_assoc]

theorem boolLike_and (e : Expr) : BoolLike (.boolAnd e) .boolAnd and (·.all id) where
  keeps := rfl
  dflt := fun _ => rfl
  notNull := fun _ => rfl
  update := fun cur b => by cases cur <;> rfl
  pub := fun _ _ => rfl
  fin_cons := fun b bs => (foldl_and bs b).symm
  spec := fun _ => rfl
  creates := fun _ => rfl
  empty := rfl

theorem boolLike_or (e : Expr) : BoolLike (.boolOr e) .boolOr or (·.any id) where
  keeps := rfl
  dflt := fun _ => rfl
  notNull := fun _ => rfl
  update := fun cur b => by cases cur <;> rfl
  pub := fun _ _ => rfl
  fin_cons := fun b bs => (foldl_or bs b).symm
  spec := fun _ => rfl
  creates := fun _ => rfl
  empty := rfl

section
variable {k : AggKind} {mk : Option Bool → Aggregator} {op : Bool → Bool → Bool} {fin : List Bool → Bool}

def boolCell (mk : Option Bool → Aggregator) (cur : Option Bool) : Cell := { agg := some (mk cur), val := cur.map Value.bool }

theorem foldV_bool (B : BoolLike k mk op fin) {vs : List Value} {bs : List Bool} (h : bools (nonNull vs) = some bs)
    (cur : Option Bool) :
    foldV k vs (boolCell mk cur) = .ok (boolCell mk (bs.foldl (fun cur b => some (cur.elim b (op · b))) cur)) := by
  rw [foldV_steps (cell := boolCell mk) (next := fun cur b => .ok (some (cur.elim b (op · b)))) ?_ ?_ (bools_eq_some_iff.mp h),
    Outcome.foldlM_ok]
  · rfl
  · intro cur; simp only [stepV_agg B.keeps, aggStep, boolCell, Option.getD, isNull, if_true, B.notNull, Bool.false_eq_true, if_false]
  · intro cur b _; simp only [stepV_agg B.keeps, aggStep, boolCell, Option.getD, isNull, Bool.false_eq_true, if_false, B.update]; rfl

theorem foldl_boolNext (B : BoolLike k mk op fin) (bs : List Bool) :
    bs.foldl (fun cur b => some (cur.elim b (op · b))) none = if bs.isEmpty then none else some (fin bs) := by
  cases bs with
  | nil => rfl
  | cons b bs =>
    have : ∀ (bs : List Bool) (c : Bool), bs.foldl (fun cur b => some (cur.elim b (op · b))) (some c) = some (bs.foldl op c) := by
      intro bs
      induction bs with
      | nil => intro _; rfl
      | cons b bs ih => intro c; exact ih (op c b)
    simp only [List.foldl_cons, Option.elim_none, this, B.fin_cons, List.isEmpty_cons, Bool.false_eq_true, if_false]

theorem bool_refines (B : BoolLike k mk op fin) (vs : List Value) (r : Value) (h : aggregate k vs = some r) :
    ∃ c, foldV k vs {} = .ok c ∧ shownValue k c = r ∧ (published c).isSome = createsEntry k vs := by
  rw [B.spec] at h
  cases hb : bools (nonNull vs) with
  | none => simp [hb] at h
  | some bs =>
    simp only [hb, Option.map_some, Option.some.injEq] at h
    have hempty : (nonNull vs).isEmpty = bs.isEmpty := by rw [bools_eq_some_iff.mp hb, List.isEmpty_map]
    cases vs with
    | nil =>
      rw [← hempty] at h
      exact ⟨{}, rfl, by simpa [shownValue, published, B.empty, nonNull] using h, by rw [B.creates]; rfl⟩
    | cons v vs =>
      refine ⟨_, by rw [foldV_agg_init B.keeps, B.dflt]; exact foldV_bool B hb none, ?_, ?_⟩
      · rw [foldl_boolNext B, ← h]
        cases bs.isEmpty <;> simp [shownValue, boolCell, B.pub, B.empty]
      · rw [foldl_boolNext B, B.creates, hempty]
        cases bs.isEmpty <;> simp [boolCell, B.pub]
end

/-- BOOL_AND: conjunction of the non-NULL arguments, NULL (no entry) if there are none -/
theorem boolAnd_refines (e : Expr) (vs : List Value) (r : Value) (h : aggregate (.boolAnd e) vs = some r) :
    ∃ c, foldV (.boolAnd e) vs {} = .ok c ∧ shownValue (.boolAnd e) c = r ∧
      (published c).isSome = createsEntry (.boolAnd e) vs := bool_refines (boolLike_and e) vs r h

/-- BOOL_OR: disjunction of the non-NULL arguments, NULL (no entry) if there are none -/
theorem boolOr_refines (e : Expr) (vs : List Value) (r : Value) (h : aggregate (.boolOr e) vs = some r) :
    ∃ c, foldV (.boolOr e) vs {} = .ok c ∧ shownValue (.boolOr e) c = r ∧
      (published c).isSome = createsEntry (.boolOr e) vs := bool_refines (boolLike_or e) vs r h

structure ExtLike (k : AggKind) (wantLess : Bool) : Prop where
  step : ∀ v c, stepV k v c = .ok { c with val := some (if v.isNull then c.val.getD .null else
    if (c.val.getD v).isNull then v else exStep wantLess (c.val.getD v) v) }
  spec : ∀ vs, aggregate k vs = if sameType (nonNull vs) then some (extreme wantLess (nonNull vs)) else none
  creates : ∀ vs, createsEntry k vs = !vs.isEmpty
  empty : emptyGroupValue k = .null

theorem extLike_min (e : Expr) : ExtLike (.min e) true where
  step := fun v c => by cases hv : v.isNull <;> cases hc : (c.val.getD v).isNull <;> simp [stepV, exStep, hv, hc]
  spec := fun _ => rfl
  creates := fun _ => rfl
  empty := rfl

theorem extLike_max (e : Expr) : ExtLike (.max e) false where
  step := fun v c => by cases hv : v.isNull <;> cases hc : (c.val.getD v).isNull <;> simp [stepV, exStep, hv, hc]
  spec := fun _ => rfl
  creates := fun _ => rfl
  empty := rfl

/-- the engine's running extreme: a NULL current value (the first row's) is replaced by anything -/
def mmStep (wantLess : Bool) (cur v : Value) : Value := if cur.isNull then v else exStep wantLess cur v

section
variable {k : AggKind} {wantLess : Bool}

theorem foldV_ext (E : ExtLike k wantLess) (a : Option Aggregator) (vs : List Value) (cur : Value) :
    foldV k vs { agg := a, val := some cur } = .ok { agg := a, val := some ((nonNull vs).foldl (mmStep wantLess) cur) } := by
  rw [foldV_steps (cell := fun cur => { agg := a, val := some cur }) (inj := id) (next := fun cur v => .ok (mmStep wantLess cur v))
    ?_ ?_ (List.map_id _).symm, Outcome.foldlM_ok]
  · rfl
  · intro cur; rw [E.step]; rfl
  · intro cur v hv; rw [E.step]; simp only [id] at hv ⊢; simp only [hv, Bool.false_eq_true, if_false, Option.getD, mmStep]; rfl

theorem foldV_ext_init (E : ExtLike k wantLess) (v : Value) (vs : List Value) :
    foldV k (v :: vs) {} = foldV k vs { agg := none, val := some v } := by
  simp only [foldV, E.step, Option.getD, Outcome.bind]
  cases hv : v.isNull
  · simp [exStep, cmp_refl]
  · cases isNull_eq_true hv; rfl

theorem foldl_mmStep (wantLess : Bool) (xs : List Value) (hx : ∀ x ∈ xs, x.isNull = false) (cur : Value)
    (hc : cur.isNull = false) : xs.foldl (mmStep wantLess) cur = xs.foldl (exStep wantLess) cur := by
  induction xs generalizing cur with
  | nil => rfl
  | cons x xs ih =>
    have h1 : mmStep wantLess cur x = exStep wantLess cur x := by simp [mmStep, hc]
    simp only [List.foldl_cons, h1]
    refine ih (fun y hy => hx y (by simp [hy])) _ ?_
    cases hb : (Value.cmp x cur == (if wantLess then Ordering.lt else Ordering.gt)) <;>
      simp only [exStep, hb, if_true, Bool.false_eq_true, if_false]
    · exact hc
    · exact hx x (by simp)

theorem mmFold_eq_extreme (wantLess : Bool) (v : Value) (vs : List Value) :
    (nonNull vs).foldl (mmStep wantLess) v = extreme wantLess (nonNull (v :: vs)) := by
  cases hv : v.isNull
  · rw [nonNull_cons_of_not_null hv, extreme_cons]
    exact foldl_mmStep _ _ (nonNull_all vs) v hv
  · cases isNull_eq_true hv
    rw [nonNull_cons_null]
    have hall := nonNull_all vs
    cases hn : nonNull vs with
    | nil => rfl
    | cons x xs =>
      rw [hn] at hall
      exact foldl_mmStep _ xs (fun y hy => hall y (by simp [hy])) x (hall x (by simp))

theorem ext_refines (E : ExtLike k wantLess) (vs : List Value) (r : Value) (h : aggregate k vs = some r) :
    ∃ c, foldV k vs {} = .ok c ∧ shownValue k c = r ∧ (published c).isSome = createsEntry k vs := by
  rw [E.spec] at h
  split at h
  · simp only [Option.some.injEq] at h
    cases vs with
    | nil => exact ⟨{}, rfl, by simpa [shownValue, published, E.empty, nonNull, extreme] using h, by rw [E.creates]; rfl⟩
    | cons v vs =>
      refine ⟨_, by rw [foldV_ext_init E]; exact foldV_ext E none vs v, ?_, by rw [E.creates]; rfl⟩
      simp [shownValue, published, mmFold_eq_extreme, h]
  · simp at h
end

/-- MIN: the least non-NULL argument by the value order (NULL if there is none) -/
theorem min_refines (e : Expr) (vs : List Value) (r : Value) (h : aggregate (.min e) vs = some r) :
    ∃ c, foldV (.min e) vs {} = .ok c ∧ shownValue (.min e) c = r ∧
      (published c).isSome = createsEntry (.min e) vs := ext_refines (extLike_min e) vs r h

/-- MAX: the greatest non-NULL argument by the value order (NULL if there is none) -/
theorem max_refines (e : Expr) (vs : List Value) (r : Value) (h : aggregate (.max e) vs = some r) :
    ∃ c, foldV (.max e) vs {} = .ok c ∧ shownValue (.max e) c = r ∧
      (published c).isSome = createsEntry (.max e) vs := ext_refines (extLike_max e) vs r h

def pctCell (xs : List Value) (p : Nat) : Cell := { agg := some (.percentile xs p), val := none }

theorem foldV_percentile (e : Expr) (p : Nat) (vs xs : List Value) :
    foldV (.percentile e p) vs (pctCell xs p) = .ok (pctCell (xs ++ nonNull vs) p) := by
  rw [foldV_steps (cell := (pctCell · p)) (inj := id) (next := fun xs v => .ok (xs ++ [v])) ?_ ?_ (List.map_id _).symm, Outcome.foldlM_ok]
  · have : ∀ ys xs : List Value, ys.foldl (fun xs v => xs ++ [v]) xs = xs ++ ys := by
      intro ys
      induction ys with
      | nil => simp
      | cons y ys ih => intro xs; simp [ih]
    rw [this]; rfl
  · intro xs; rfl
  · intro xs v hv; simp only [id] at hv; simp only [stepV_agg (k := .percentile e p) rfl, aggStep, id, hv]; rfl

theorem percentileValue_isSome (xs : List Value) (p : Nat) : (percentileValue xs p).isSome = !xs.isEmpty := by
  unfold percentileValue
  simp only
  have hl := sortValues_length xs
  cases xs with
  | nil => simp [sortValues]
  | cons x xs =>
    have : min (f64ToNat (F64.mul p (F64.ofInt ((sortValues (x :: xs)).length : Nat)))) ((sortValues (x :: xs)).length - 1)
        < (sortValues (x :: xs)).length := by
      rw [hl]; simp only [List.length_cons]; omega
    simp [List.getElem?_eq_getElem this]

/-- PERCENTILE(p): the element at index min(⌊p·n⌋, n−1) of the sorted non-NULL arguments (NULL if none) -/
theorem percentile_refines (e : Expr) (p : Nat) (vs : List Value) (r : Value) (h : aggregate (.percentile e p) vs = some r) :
    ∃ c, foldV (.percentile e p) vs {} = .ok c ∧ shownValue (.percentile e p) c = r ∧
      (published c).isSome = createsEntry (.percentile e p) vs := by
  simp only [aggregate, percentileOf] at h
  split at h
  · simp at h
  · simp only [Option.some.injEq] at h
    cases vs with
    | nil =>
      refine ⟨{}, rfl, ?_, rfl⟩
      simpa [shownValue, published, emptyGroupValue, nonNull, sortValues] using h
    | cons v vs =>
      refine ⟨pctCell (nonNull (v :: vs)) p, ?_, ?_, ?_⟩
      · rw [foldV_agg_init rfl]; exact foldV_percentile e p (v :: vs) []
      · rw [← h]
        simp only [shownValue, published, pctCell, percentileValue, emptyGroupValue]
        cases (sortValues (nonNull (v :: vs)))[min (f64ToNat (F64.mul p (F64.ofInt ((sortValues (nonNull (v :: vs))).length : Nat))))
          ((sortValues (nonNull (v :: vs))).length - 1)]? <;> rfl
      · simp only [createsEntry]
        rw [← percentileValue_isSome (nonNull (v :: vs)) p]
        simp only [published, pctCell]
        cases percentileValue (nonNull (v :: vs)) p <;> rfl

theorem foldV_arrayAgg (e : Expr) (t : VType) (vs acc : List Value) (a : Option Aggregator) :
    foldV (.arrayAgg e) vs { agg := a, val := some (.array t acc) } = .ok { agg := a, val := some (.array t (acc ++ vs)) } := by
  induction vs generalizing acc with
  | nil => simp [foldV]
  | cons v vs ih =>
    simp only [foldV, stepV, Outcome.bind]
    rw [ih]; simp

/-- ARRAY_AGG: all arguments in arrival order (when the first one is not NULL; otherwise the engine refuses: D15) -/
theorem arrayAgg_refines (e : Expr) (v : Value) (vs : List Value) (r : Value) (hv : v.isNull = false)
    (h : aggregate (.arrayAgg e) (v :: vs) = some r) :
    ∃ c, foldV (.arrayAgg e) (v :: vs) {} = .ok c ∧ shownValue (.arrayAgg e) c = r ∧
      (published c).isSome = createsEntry (.arrayAgg e) (v :: vs) := by
  simp only [aggregate] at h
  split at h
  · simp at h
  · rw [nonNull_cons_of_not_null hv] at h
    simp only [List.head?_cons, Option.bind_some] at h
    cases ht : v.valueType with
    | none => cases v <;> simp [isNull, valueType] at hv ht
    | some t =>
      simp only [ht, Option.some.injEq] at h
      refine ⟨{ agg := none, val := some (.array t ([v] ++ vs)) }, ?_, ?_, rfl⟩
      · simp only [foldV, stepV, ht, Outcome.bind]
        exact foldV_arrayAgg e t vs [v] none
      · simpa [shownValue, published] using h

def strStepO (delim : Bytes) (x : Option Bytes) (s : Bytes) : Option Bytes :=
  match x with
  | none => some s
  | some cur => some (cur ++ delim ++ s)

theorem foldV_stringAgg (e : Expr) (delim : Bytes) (vs : List Value) (a : Option Aggregator) (x : Option Bytes)
    (ss : List Bytes) (h : texts (nonNull vs) = some ss) :
    foldV (.stringAgg e delim) vs { agg := a, val := x.map Value.text } =
      .ok { agg := a, val := (ss.foldl (strStepO delim) x).map Value.text } := by
  rw [foldV_steps (cell := fun x => { agg := a, val := x.map Value.text }) (next := fun x s => .ok (strStepO delim x s))
    ?_ ?_ (texts_eq_some_iff.mp h), Outcome.foldlM_ok]
  · rfl
  · intro x; rfl
  · intro x s _; cases x <;> rfl

def tailJoin (delim : Bytes) (ss : List Bytes) : Bytes := ss.flatMap (delim ++ ·)

theorem joinTexts_cons (delim s : Bytes) (rest : List Bytes) : joinTexts delim (s :: rest) = s ++ tailJoin delim rest := by
  induction rest generalizing s with
  | nil => simp [joinTexts, tailJoin]
  | cons t rest ih =>
    simp only [joinTexts, ih t, tailJoin, List.flatMap_cons, List.append_assoc]

/-- the running concatenation from an empty cell = ALL the texts joined by the delimiter (an empty text is an element
like any other) -/
theorem foldl_strStepO (delim s : Bytes) (ss : List Bytes) :
    (s :: ss).foldl (strStepO delim) none = some (joinTexts delim (s :: ss)) := by
  have : ∀ (ss : List Bytes) (cur : Bytes), ss.foldl (strStepO delim) (some cur) = some (cur ++ tailJoin delim ss) := by
    intro ss
    induction ss with
    | nil => simp [tailJoin]
    | cons s ss ih => intro cur; simp [strStepO, ih, tailJoin, List.append_assoc]
  simp only [List.foldl_cons, strStepO, this, joinTexts_cons]

/-- STRING_AGG: the non-NULL texts joined by the delimiter (NULL / no entry if there are none) -/
theorem stringAgg_refines (e : Expr) (delim : Bytes) (vs : List Value) (r : Value)
    (h : aggregate (.stringAgg e delim) vs = some r) :
    ∃ c, foldV (.stringAgg e delim) vs {} = .ok c ∧ shownValue (.stringAgg e delim) c = r ∧
      (published c).isSome = createsEntry (.stringAgg e delim) vs := by
  simp only [aggregate] at h
  cases ht : texts (nonNull vs) with
  | none => simp [ht] at h
  | some ss =>
    simp only [ht, Option.map_some, Option.some.injEq] at h
    have hn := texts_eq_some_iff.mp ht
    refine ⟨_, foldV_stringAgg e delim vs none none ss ht, ?_, ?_⟩
    · rw [← h]
      cases ss with
      | nil => simp [shownValue, published, emptyGroupValue]
      | cons s ss => rw [foldl_strStepO]; simp [shownValue, published]
    · simp only [createsEntry, published, hn]
      cases ss with
      | nil => rfl
      | cons s ss => rw [foldl_strStepO]; rfl

end Sqlgrep
