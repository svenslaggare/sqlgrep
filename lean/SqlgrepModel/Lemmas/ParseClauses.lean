import SqlgrepModel.Lemmas.ParseFuelStmt
import SqlgrepModel.Lemmas.TreeMap
/-
The clause loop of `parse_select` stores every clause in its own slot: the result of a run over a sequence of
clauses is the set of slots, whatever the order (parser-level half of C20's "clause order does not matter").
-/
namespace Sqlgrep

/-- the value one clause puts into the statement -/
inductive ClauseVal where
  | filter (e : PExpr)
  | groupBy (keys : List PExpr)
  | having (e : PExpr)
  | join (j : PJoin)
  | limit (n : Nat)
  deriving Repr, Inhabited

/-- which of the five slots -/
def ClauseVal.kind : ClauseVal → Nat
  | .filter _ => 0 | .groupBy _ => 1 | .having _ => 2 | .join _ => 3 | .limit _ => 4

/-- the slot of `v` is still empty in `c` -/
def ClauseVal.free (v : ClauseVal) (c : Clauses) : Prop :=
  match v with
  | .filter _ => c.filter = none
  | .groupBy _ => c.groupBy = none
  | .having _ => c.having = none
  | .join _ => c.join = none
  | .limit _ => c.limit = none

/-- store `v` in its slot -/
def ClauseVal.put (v : ClauseVal) (c : Clauses) : Clauses :=
  match v with
  | .filter e => { c with filter := some e }
  | .groupBy ks => { c with groupBy := some ks }
  | .having e => { c with having := some e }
  | .join j => { c with join := some j }
  | .limit n => { c with limit := some n }

def putAll (vs : List ClauseVal) (c : Clauses) : Clauses := vs.foldl (fun c v => v.put c) c

/-! ### trees modulo locations (permuting clauses moves every token)

`noLoc` sends every location to `⟨0, 0⟩`, the default one: it is `PExpr.eraseLoc` of `Spec/Grammar.lean`
(`noLoc_eq_eraseLoc`, `Lemmas/ParsePrefixClauses.lean`), both being `mapAll (fun _ => default) id id`. -/

mutual
def PExpr.noLoc : PExpr → PExpr
  | .value _ v => .value ⟨0, 0⟩ v
  | .column _ n => .column ⟨0, 0⟩ n
  | .wildcard _ => .wildcard ⟨0, 0⟩
  | .tuple _ vs => .tuple ⟨0, 0⟩ (PExpr.noLocList vs)
  | .binop _ o a b => .binop ⟨0, 0⟩ o a.noLoc b.noLoc
  | .boolop _ o a b => .boolop ⟨0, 0⟩ o a.noLoc b.noLoc
  | .unop _ o e => .unop ⟨0, 0⟩ o e.noLoc
  | .invert _ e => .invert ⟨0, 0⟩ e.noLoc
  | .nullcmp _ n a b => .nullcmp ⟨0, 0⟩ n a.noLoc b.noLoc
  | .inList _ n e vs => .inList ⟨0, 0⟩ n e.noLoc (PExpr.noLocList vs)
  | .call _ n args d => .call ⟨0, 0⟩ n (PExpr.noLocList args) d
  | .index _ a i => .index ⟨0, 0⟩ a.noLoc i.noLoc
  | .cast _ e t => .cast ⟨0, 0⟩ e.noLoc t
  | .case _ cs els => .case ⟨0, 0⟩ (PExpr.noLocClauses cs) els.noLoc
def PExpr.noLocList : List PExpr → List PExpr
  | [] => []
  | x :: xs => x.noLoc :: PExpr.noLocList xs
def PExpr.noLocClauses : List (PExpr × PExpr) → List (PExpr × PExpr)
  | [] => []
  | (c, r) :: xs => (c.noLoc, r.noLoc) :: PExpr.noLocClauses xs
end

theorem PExpr.noLoc_eq_mapAll :
    (∀ e : PExpr, e.noLoc = e.mapAll (fun _ => default) id id) ∧
    (∀ es, PExpr.noLocList es = PExpr.mapAllList (fun _ => default) id id es) ∧
    (∀ cs, PExpr.noLocClauses cs = PExpr.mapAllClauses (fun _ => default) id id cs) := by
  apply PExpr.induct3
  all_goals intros
  all_goals simp only [PExpr.noLoc, PExpr.noLocList, PExpr.noLocClauses, PExpr.mapAll, PExpr.mapAllList,
    PExpr.mapAllClauses, id, *]
  all_goals rfl

def ClauseVal.erase : ClauseVal → ClauseVal
  | .filter e => .filter e.noLoc
  | .groupBy ks => .groupBy (PExpr.noLocList ks)
  | .having e => .having e.noLoc
  | .join j => .join j
  | .limit n => .limit n

def Clauses.erase (c : Clauses) : Clauses :=
  { filter := c.filter.map PExpr.noLoc, groupBy := c.groupBy.map PExpr.noLocList,
    having := c.having.map PExpr.noLoc, join := c.join, limit := c.limit }

/-- the same clauses up to locations -/
def Clauses.Same (c d : Clauses) : Prop := c.erase = d.erase
def ClauseVal.Same (v w : ClauseVal) : Prop := v.erase = w.erase


namespace Parse

theorem put_comm (v w : ClauseVal) (c : Clauses) (h : v.kind ≠ w.kind) : w.put (v.put c) = v.put (w.put c) := by
  cases v <;> cases w <;> simp_all [ClauseVal.put, ClauseVal.kind]

theorem put_free (v w : ClauseVal) (c : Clauses) (h : v.kind ≠ w.kind) (hf : w.free c) : w.free (v.put c) := by
  cases v <;> cases w <;> simp_all [ClauseVal.put, ClauseVal.kind, ClauseVal.free]

theorem putAll_put_comm (vs : List ClauseVal) (v : ClauseVal) (c : Clauses) (h : ∀ w ∈ vs, w.kind ≠ v.kind) :
    putAll vs (v.put c) = v.put (putAll vs c) := by
  induction vs generalizing c with
  | nil => rfl
  | cons w ws ih =>
    simp only [putAll, List.foldl_cons] at *
    rw [put_comm v w c (by have := h w (by simp); exact fun e => this e.symm)]
    exact ih _ (fun x hx => h x (by simp [hx]))

theorem same_kind {v w : ClauseVal} (h : v.Same w) : v.kind = w.kind := by
  unfold ClauseVal.Same at h
  cases v <;> cases w <;> simp_all [ClauseVal.erase, ClauseVal.kind]

theorem same_free {v w : ClauseVal} (h : v.Same w) (c : Clauses) : v.free c ↔ w.free c := by
  unfold ClauseVal.Same at h
  cases v <;> cases w <;> simp_all [ClauseVal.erase, ClauseVal.free]

theorem same_put {v w : ClauseVal} {c d : Clauses} (hv : v.Same w) (hc : c.Same d) : (v.put c).Same (w.put d) := by
  unfold ClauseVal.Same at hv
  unfold Clauses.Same at *
  cases v <;> cases w <;> simp_all [ClauseVal.erase, ClauseVal.put, Clauses.erase]

theorem putAll_perm {vs ws : List ClauseVal} (hp : vs.Perm ws) (hd : vs.Pairwise (fun a b => a.kind ≠ b.kind))
    (c : Clauses) : putAll vs c = putAll ws c := by
  induction hp generalizing c with
  | nil => rfl
  | cons x _ ih =>
    simp only [putAll, List.foldl_cons]
    exact ih (List.Pairwise.of_cons hd) _
  | swap x y l =>
    simp only [putAll, List.foldl_cons]
    have hxy : y.kind ≠ x.kind := (List.pairwise_cons.mp hd).1 x (by simp)
    rw [put_comm y x c hxy]
  | trans h1 _ ih1 ih2 =>
    rw [ih1 hd, ih2 (h1.pairwise hd (fun hab e => hab e.symm))]

end Parse
end Sqlgrep

namespace Sqlgrep

/-- the tokens that start a clause -/
def ClauseKw (t : Tok) : Prop :=
  t = .kw .where ∨ t = .kw .inner ∨ t = .kw .outer ∨ t = .kw .group ∨ t = .kw .having ∨ t = .kw .limit

/-- what may follow a clause: the next clause, `;` or `End` -/
def Boundary (t : Tok) : Prop := ClauseKw t ∨ t = .eof ∨ t = .semi

/-- the state whose tokens are `seg` followed by the tokens of `tail` (`tail` itself for an empty `seg`) -/
def PSt.prepend : List PTok → PSt → PSt
  | [], tail => tail
  | t :: ts, tail => { cur := t, rest := ts ++ tail.cur :: tail.rest }

/-- several segments in a row -/
def PSt.prependAll : List (List PTok) → PSt → PSt
  | [], tail => tail
  | seg :: segs, tail => PSt.prepend seg (PSt.prependAll segs tail)

/-- `seg` is one clause with value `v`: in front of whatever may follow a clause (`tail` at a boundary token), one
turn of the clause loop with at least `fuel0` fuel consumes exactly `seg` and stores `v` up to locations (an identifier
node carries the location of the token *after* it, so the value cannot be the same to the letter) — "each clause parser
consumes exactly its clause" -/
structure IsClause (T : PrecTables) (fuel0 : Nat) (seg : List PTok) (v : ClauseVal) : Prop where
  head : ∃ t ts, seg = t :: ts ∧ ClauseKw t.tok
  turn : ∀ (fuel : Nat) (c : Clauses) (tail : PSt), fuel0 ≤ fuel → Boundary tail.cur.tok → v.free c →
    ∃ v' : ClauseVal, v'.Same v ∧ Parse.clauseTurn T fuel c (PSt.prepend seg tail) = .ok (v'.put c, false) tail

namespace Parse

/-- in front of segments stands the first token of the first one -/
theorem prependAll_cur_clauseKw {seg : List PTok} (h : ∃ t ts, seg = t :: ts ∧ ClauseKw t.tok) (segs : List (List PTok))
    (final : PSt) : ClauseKw (PSt.prependAll (seg :: segs) final).cur.tok := by
  obtain ⟨t, ts, rfl, hk⟩ := h
  exact hk

theorem prependAll_cur_boundary (segs : List (List PTok)) (hs : ∀ seg ∈ segs, ∃ t ts, seg = t :: ts ∧ ClauseKw t.tok)
    (final : PSt) (hf : Boundary final.cur.tok) : Boundary (PSt.prependAll segs final).cur.tok := by
  cases segs with
  | nil => exact hf
  | cons a A => exact .inl (prependAll_cur_clauseKw (hs a (by simp)) A final)

theorem prependAll_boundary (T : PrecTables) (fuel0 : Nat) (segs : List (List PTok × ClauseVal)) (final : PSt)
    (hs : ∀ p ∈ segs, IsClause T fuel0 p.1 p.2) (hf : Boundary final.cur.tok) :
    Boundary (PSt.prependAll (segs.map (·.1)) final).cur.tok := by
  refine prependAll_cur_boundary _ (fun seg h => ?_) final hf
  obtain ⟨p, hp, rfl⟩ := List.mem_map.1 h
  exact (hs p hp).head

theorem clauseKw_not_term {t : Tok} (h : ClauseKw t) : ¬ (t = .eof ∨ t = .semi) := by
  unfold ClauseKw at h
  rcases h with h | h | h | h | h | h <;> simp [h]

theorem clauseKw_ne_eof {t : Tok} (h : ClauseKw t) : t ≠ .eof := fun e => clauseKw_not_term h (.inl e)

/-- **the loop stores every clause in its own slot**: a run over clauses of pairwise different kinds consumes all of
them and then does what it does at the terminator `final` (stop at `End`, or consume `;`, which takes `k` = one more
unit of fuel; the result is `final'`), and returns (up to locations) the slots `putAll` -/
theorem clauseLoop_segments_end (T : PrecTables) (fuel0 k : Nat) (final final' : PSt) (hb : Boundary final.cur.tok)
    (hfin : ∀ n c, k ≤ n → (if final.cur.tok = .eof then PRes.ok c final else clauseLoop T n c final) = .ok c final') :
    ∀ (segs : List (List PTok × ClauseVal)) (fuel : Nat) (c d : Clauses), segs ≠ [] →
      (∀ p ∈ segs, IsClause T fuel0 p.1 p.2) →
      segs.Pairwise (fun a b => a.2.kind ≠ b.2.kind) →
      (∀ p ∈ segs, p.2.free c) → c.Same d →
      fuel0 + segs.length + k ≤ fuel →
      ∃ c', clauseLoop T fuel c (PSt.prependAll (segs.map (·.1)) final) = .ok c' final' ∧
        c'.Same (putAll (segs.map (·.2)) d) := by
  intro segs
  induction segs with
  | nil => intro _ _ _ h; exact absurd rfl h
  | cons p rest ih =>
    intro fuel c d _ hs hd hfree hcd hfuel
    obtain ⟨n, rfl⟩ : ∃ n, fuel = n + 1 := ⟨fuel - 1, by simp at hfuel; omega⟩
    have hp := hs p (by simp)
    have hrest : ∀ q ∈ rest, IsClause T fuel0 q.1 q.2 := fun q hq => hs q (by simp [hq])
    have htailb := prependAll_boundary T fuel0 rest final hrest hb
    obtain ⟨v', hv', hturn⟩ := hp.turn n c (PSt.prependAll (rest.map (·.1)) final) (by simp at hfuel; omega) htailb
      (hfree p (by simp))
    rw [clauseLoop]
    simp only [List.map_cons, PSt.prependAll, hturn]
    simp only [putAll, List.foldl_cons]
    cases rest with
    | nil =>
      refine ⟨v'.put c, ?_, by simpa using same_put hv' hcd⟩
      simpa [PSt.prependAll] using hfin n (v'.put c) (by simp at hfuel; omega)
    | cons q rest' =>
      have hne : (PSt.prependAll ((q :: rest').map (·.1)) final).cur.tok ≠ .eof :=
        clauseKw_ne_eof (prependAll_cur_clauseKw (hrest q (by simp)).head _ final)
      simp only [Bool.false_eq_true, if_false, hne]
      have hk' := same_kind hv'
      have := ih n (v'.put c) (p.2.put d) (by simp) hrest (List.Pairwise.of_cons hd)
        (fun r hr => put_free v' r.2 c (by rw [hk']; exact (List.pairwise_cons.mp hd).1 r hr) (hfree r (by simp [hr])))
        (same_put hv' hcd) (by simp at hfuel ⊢; omega)
      simpa [putAll] using this

theorem clauseLoop_segments (T : PrecTables) (fuel0 : Nat) (final : PSt) (hfinal : final.cur.tok = .eof) :
    ∀ (segs : List (List PTok × ClauseVal)) (fuel : Nat) (c d : Clauses), segs ≠ [] →
      (∀ p ∈ segs, IsClause T fuel0 p.1 p.2) →
      segs.Pairwise (fun a b => a.2.kind ≠ b.2.kind) →
      (∀ p ∈ segs, p.2.free c) → c.Same d →
      fuel0 + segs.length ≤ fuel →
      ∃ c', clauseLoop T fuel c (PSt.prependAll (segs.map (·.1)) final) = .ok c' final ∧
        c'.Same (putAll (segs.map (·.2)) d) :=
  clauseLoop_segments_end T fuel0 0 final final (.inr (.inl hfinal)) (fun _ _ _ => by rw [if_pos hfinal])

/-- **clause order does not matter** (given that every segment is a clause): two runs over the same clauses in
different orders return the same slots up to locations -/
theorem clauseLoop_perm (T : PrecTables) (fuel0 : Nat) (final1 final2 : PSt) (h1 : final1.cur.tok = .eof)
    (h2 : final2.cur.tok = .eof) (segs1 segs2 : List (List PTok × ClauseVal)) (hne : segs1 ≠ [])
    (hperm : (segs1.map (·.2)).Perm (segs2.map (·.2)))
    (hs1 : ∀ p ∈ segs1, IsClause T fuel0 p.1 p.2) (hs2 : ∀ p ∈ segs2, IsClause T fuel0 p.1 p.2)
    (hd : segs1.Pairwise (fun a b => a.2.kind ≠ b.2.kind))
    (fuel : Nat) (hfuel : fuel0 + segs1.length ≤ fuel) :
    ∃ c1 c2, clauseLoop T fuel {} (PSt.prependAll (segs1.map (·.1)) final1) = .ok c1 final1 ∧
      clauseLoop T fuel {} (PSt.prependAll (segs2.map (·.1)) final2) = .ok c2 final2 ∧ c1.Same c2 := by
  have hlen : segs1.length = segs2.length := by simpa using hperm.length_eq
  have hne2 : segs2 ≠ [] := by intro h; rw [h] at hlen; exact hne (List.length_eq_zero_iff.mp hlen)
  have hd1 : (segs1.map (·.2)).Pairwise (fun a b => a.kind ≠ b.kind) := by
    rw [List.pairwise_map]; exact hd
  have hd2' : (segs2.map (·.2)).Pairwise (fun a b => a.kind ≠ b.kind) :=
    hperm.pairwise hd1 (fun hab e => hab e.symm)
  have hd2 : segs2.Pairwise (fun a b => a.2.kind ≠ b.2.kind) := by
    rw [List.pairwise_map] at hd2'; exact hd2'
  have hfree : ∀ (segs : List (List PTok × ClauseVal)), ∀ p ∈ segs, p.2.free ({} : Clauses) := by
    intro segs p _; cases p.2 <;> simp [ClauseVal.free]
  obtain ⟨c1, hc1, hs1'⟩ := clauseLoop_segments T fuel0 final1 h1 segs1 fuel {} {} hne hs1 hd (hfree segs1) rfl hfuel
  obtain ⟨c2, hc2, hs2'⟩ := clauseLoop_segments T fuel0 final2 h2 segs2 fuel {} {} hne2 hs2 hd2 (hfree segs2) rfl
    (by omega)
  refine ⟨c1, c2, hc1, hc2, ?_⟩
  unfold Clauses.Same at *
  rw [hs1', hs2', putAll_perm hperm hd1]

theorem tok_cons {seg : List PTok} {X : Tok} {r : List Tok} (h : seg.map (·.tok) = X :: r) :
    ∃ l seg', seg = ⟨l, X⟩ :: seg' ∧ seg'.map (·.tok) = r := by
  cases seg with
  | nil => cases h
  | cons t ts =>
    obtain ⟨l, x⟩ := t
    simp only [List.map_cons, List.cons.injEq] at h
    obtain ⟨rfl, h⟩ := h
    exact ⟨l, ts, rfl, h⟩

theorem isClause_limit_toks (T : PrecTables) (n : Int) (seg : List PTok) (hseg : seg.map (·.tok) = [.kw .limit, .int n]) :
    IsClause T 0 seg (.limit (asUsize n)) := by
  obtain ⟨l1, s1, rfl, h1⟩ := tok_cons hseg
  obtain ⟨l2, s2, rfl, h2⟩ := tok_cons h1
  obtain rfl := List.map_eq_nil_iff.mp h2
  refine ⟨⟨_, _, rfl, by simp [ClauseKw]⟩, ?_⟩
  intro fuel c tail _ _ hfree
  simp only [ClauseVal.free] at hfree
  refine ⟨_, rfl, ?_⟩
  simp [clauseTurn, PSt.prepend, next, consumeInt, PRes.bind, hfree, ClauseVal.put]

theorem isClause_limit (T : PrecTables) (l1 l2 : Loc) (n : Int) :
    IsClause T 0 [⟨l1, .kw .limit⟩, ⟨l2, .int n⟩] (.limit (asUsize n)) := isClause_limit_toks T n _ rfl

/-- `INNER|OUTER JOIN u::'file' ON a.b = c.d`, at any locations, is a clause, whatever follows -/
theorem isClause_join_toks (T : PrecTables) (outer : Bool) (u f a b c d : List Char) (seg : List PTok)
    (hseg : seg.map (·.tok) = [.kw (if outer then .outer else .inner), .kw .join, .ident u, .dcolon, .str f, .kw .on,
      .ident a, .op (.single '.'), .ident b, .op (.single '='), .ident c, .op (.single '.'), .ident d]) :
    IsClause T 0 seg (.join { joinerTable := u, joinerFilename := f, leftTable := a, leftColumn := b, rightTable := c,
                              rightColumn := d, isOuter := outer }) := by
  obtain ⟨l0, s0, rfl, h0⟩ := tok_cons hseg
  obtain ⟨l1, s1, rfl, h1⟩ := tok_cons h0
  obtain ⟨l2, s2, rfl, h2⟩ := tok_cons h1
  obtain ⟨l3, s3, rfl, h3⟩ := tok_cons h2
  obtain ⟨l4, s4, rfl, h4⟩ := tok_cons h3
  obtain ⟨l5, s5, rfl, h5⟩ := tok_cons h4
  obtain ⟨l6, s6, rfl, h6⟩ := tok_cons h5
  obtain ⟨l7, s7, rfl, h7⟩ := tok_cons h6
  obtain ⟨l8, s8, rfl, h8⟩ := tok_cons h7
  obtain ⟨l9, s9, rfl, h9⟩ := tok_cons h8
  obtain ⟨l10, s10, rfl, h10⟩ := tok_cons h9
  obtain ⟨l11, s11, rfl, h11⟩ := tok_cons h10
  obtain ⟨l12, s12, rfl, h12⟩ := tok_cons h11
  obtain rfl := List.map_eq_nil_iff.mp h12
  refine ⟨⟨_, _, rfl, by cases outer <;> simp [ClauseKw]⟩, ?_⟩
  intro fuel cl tail _ _ hfree
  simp only [ClauseVal.free] at hfree
  refine ⟨_, rfl, ?_⟩
  cases outer <;>
    simp [clauseTurn, parseJoin, PSt.prepend, next, expectConsume, expectConsumeOp, consumeIdentifier, consumeString,
      PRes.bind, hfree, ClauseVal.put]

theorem isClause_join (T : PrecTables) (l : Fin 13 → Loc) (outer : Bool) (u f a b c d : List Char) :
    IsClause T 0
      [⟨l 0, .kw (if outer then .outer else .inner)⟩, ⟨l 1, .kw .join⟩, ⟨l 2, .ident u⟩, ⟨l 3, .dcolon⟩, ⟨l 4, .str f⟩,
       ⟨l 5, .kw .on⟩, ⟨l 6, .ident a⟩, ⟨l 7, .op (.single '.')⟩, ⟨l 8, .ident b⟩, ⟨l 9, .op (.single '=')⟩,
       ⟨l 10, .ident c⟩, ⟨l 11, .op (.single '.')⟩, ⟨l 12, .ident d⟩]
      (.join { joinerTable := u, joinerFilename := f, leftTable := a, leftColumn := b, rightTable := c,
               rightColumn := d, isOuter := outer }) := isClause_join_toks T outer u f a b c d _ rfl

instance : DecidablePred ClauseKw := fun t => by unfold ClauseKw; infer_instance
instance : DecidablePred Boundary := fun t => by unfold Boundary; infer_instance

/-- tables that give no precedence to the tokens that may follow a clause (true of the code's tables) -/
def InertBoundary (T : PrecTables) : Prop := ∀ t, Boundary t → lookupTok T.other t = none

theorem inertBoundary_code : InertBoundary PrecTables.code := by
  intro t ht
  unfold Boundary ClauseKw at ht
  rcases ht with (h | h | h | h | h | h) | h | h <;> subst h <;> decide

/-- `WHERE x` (one identifier) is a clause: the value is the column node, located at whatever token follows -/
theorem isClause_where_ident (T : PrecTables) (hT : InertBoundary T) (l1 l2 : Loc) (x : List Char) :
    IsClause T 4 [⟨l1, .kw .where⟩, ⟨l2, .ident x⟩] (.filter (.column ⟨0, 0⟩ x)) := by
  refine ⟨⟨_, _, rfl, by simp [ClauseKw]⟩, ?_⟩
  intro fuel c tail hfuel hb hfree
  obtain ⟨n, rfl⟩ : ∃ n, fuel = n + 4 := ⟨fuel - 4, by omega⟩
  simp only [ClauseVal.free] at hfree
  have hnone := hT _ hb
  refine ⟨.filter (.column tail.cur.loc x), by simp [ClauseVal.Same, ClauseVal.erase, PExpr.noLoc], ?_⟩
  unfold Boundary ClauseKw at hb
  rcases hb with (h | h | h | h | h | h) | h | h <;>
    simp [clauseTurn, PSt.prepend, next, hfree, parseExpr, parseUnary, parsePrimary, parseRhs, tokenPrecedence, h,
      ClauseVal.put, h ▸ hnone]

end Parse
end Sqlgrep
