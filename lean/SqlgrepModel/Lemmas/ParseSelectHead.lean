import SqlgrepModel.Lemmas.ParseRuns
/-
The part of `parse_select` that runs before the clause loop (`selectHead`: DISTINCT, the projection loop with AS, the
FROM table, `::'file'`): barrier equation, location independence, fuel monotonicity, suffix keeping — hence it
consumes no boundary token and reads exactly its tokens whatever boundary tail follows.
-/
namespace Sqlgrep
namespace Parse

/-- what `parse_select` has read when it reaches the clause loop: DISTINCT flag, location, projections, table, file -/
abbrev HeadV := Bool × Loc × List (Option (List Char) × PExpr) × List Char × Option (List Char)

def selectHead (T : PrecTables) (fuel : Nat) (s : PSt) : PRes HeadV :=
  (next s).bind fun _ s =>
  (optDistinct s).bind fun distinct s =>
  (projLoop T fuel [] s).bind fun projections s1 =>
  (consumeIdentifier s1).bind fun fromTable s2 =>
  (optFile s2).bind fun fromFile s3 =>
  .ok (distinct, s.cur.loc, projections, fromTable, fromFile) s3

def selectOf (h : HeadV) (c : Clauses) : PSelect :=
  { loc := h.2.1, projections := h.2.2.1, fromTable := h.2.2.2.1, fromFile := h.2.2.2.2, filter := c.filter,
    groupBy := c.groupBy, having := c.having, join := c.join, limit := c.limit, distinct := h.1 }

theorem parseSelect_eq (T : PrecTables) (fuel : Nat) (s : PSt) :
    parseSelect T fuel s =
      (selectHead T fuel s).bind fun h s => (clauses T fuel s).bind fun c s => .ok (.select (selectOf h c)) s := by
  unfold parseSelect selectHead
  simp only [parse_bind, bind_assoc]
  rfl

def eraseProjH (ps : List (Option (List Char) × PExpr)) : List (Option (List Char) × PExpr) :=
  ps.map (fun p => (p.1, p.2.eraseLoc))

def HeadV.erase (h : HeadV) : HeadV := (h.1, default, eraseProjH h.2.2.1, h.2.2.2.1, h.2.2.2.2)

def HeadV.relabel (ℓ : Loc → Loc) (ρ : List Char → List Char) (h : HeadV) : HeadV :=
  (h.1, ℓ h.2.1, relabelProj ℓ ρ h.2.2.1, ρ h.2.2.2.1, h.2.2.2.2)

theorem selectHead_morph {T : PrecTables} (τ : Morph T) (n : Nat) (s : PSt) (hs : ¬ τ.Opq s.cur.tok) :
    τ.res (HeadV.relabel τ.ℓ τ.ρ) (selectHead T n s) = selectHead T n (τ.g s) := by
  unfold selectHead
  morph_walk τ [optDistinct_morph τ _, projLoop_morph τ n [] _, optFile_morph τ _] [τ.loc]

theorem eraseProj_appendH (a b : List (Option (List Char) × PExpr)) : eraseProjH (a ++ b) = eraseProjH a ++ eraseProjH b := by
  simp [eraseProjH]

theorem relabelProj_strip : relabelProj (fun _ => default) id = eraseProjH :=
  funext fun ps => List.map_congr_left fun p _ => by rw [PExpr.eraseLoc_eq_mapAll.1, Option.map_id]; rfl

theorem relabelProj_id : ∀ ps, relabelProj id id ps = ps := fun ps =>
  (List.map_congr_left fun p _ => by rw [PExpr.mapAll_id.1, Option.map_id]; rfl).trans (List.map_id' ps)

theorem selectHead_strip (T : PrecTables) (n : Nat) (s : PSt) :
    selectHead T n s.strip = (selectHead T n s).strip HeadV.erase := by
  have h := selectHead_morph (Morph.strip T) n s id
  rw [show HeadV.relabel (fun _ => default) id = HeadV.erase from funext fun h => by
    simp only [HeadV.relabel, HeadV.erase, relabelProj_strip, id]] at h
  exact strip_of_relabel h

theorem projLoop_mono (T : PrecTables) : ∀ (n : Nat) (acc : List (Option (List Char) × PExpr)) (s : PSt),
    PLe (projLoop T n acc s) (projLoop T (n + 1) acc s) := by
  intro n
  induction n with
  | zero => intro acc s; rw [projLoop]; exact PLe.fuel _
  | succ n ih =>
    intro acc s
    rw [projLoop, projLoop]; simp only [parse_bind]; mono_walk [(mono_all T n).e, ih]

theorem selectHead_mono (T : PrecTables) (n : Nat) (s : PSt) : PLe (selectHead T n s) (selectHead T (n + 1) s) := by
  unfold selectHead; mono_walk [projLoop_mono]

theorem selectHead_within {T : PrecTables} (f : Nat) (s : PSt) (toks : List PTok) (h : s.Suffix toks) :
    (selectHead T f s).Within toks :=
  (next_within h).bind fun _ _ h => (optDistinct_within h).bind fun _ _ h => (projLoop_within f [] _ h).bind fun _ _ h =>
    (consumeIdentifier_within h).bind fun _ _ h => (optFile_within h).bind fun _ _ h => within_ok h

/-- `selectHead` guarded by the test `Parser::parse` makes before it calls `parse_select`, so that the barrier equation
holds from every state (as `prefix_generic` asks) -/
def selectHeadG (T : PrecTables) (fuel : Nat) (s : PSt) : PRes HeadV :=
  if s.cur.tok = .kw .select then selectHead T fuel s else mkErr s .unknown

theorem selectHeadG_of {T : PrecTables} {fuel : Nat} {s : PSt} (h : s.cur.tok = .kw .select) :
    selectHeadG T fuel s = selectHead T fuel s := by simp [selectHeadG, h]

section generic
variable {T : PrecTables} (hT : InertBoundary T)
include hT

theorem selectHeadG_swapB (t2 : PSt) (h2 : Boundary t2.cur.tok) (n : Nat) (s : PSt) :
    selectHeadG T n (swapB t2 s) = (selectHeadG T n s).mapSt (swapB t2) :=
  swapB_of_morph hT h2 (fun h => by simp only [HeadV.relabel, relabelProj_id, id])
    ((Morph.swap hT h2).ite (show ¬ Boundary (.kw .select) by decide) (fun t => by rw [Tok.ren_id])
      (fun _ hnb => selectHead_morph _ n s hnb) (fun _ => (Morph.swap hT h2).mkErr s rfl _))

omit hT in
theorem selectHeadG_strip (n : Nat) (s : PSt) : selectHeadG T n s.strip = (selectHeadG T n s).strip HeadV.erase := by
  unfold selectHeadG
  simp only [strip_cur_tok]
  by_cases hc : s.cur.tok = .kw .select
  · simp only [hc, if_true]; exact selectHead_strip T n s
  · simp only [hc, if_false]; rfl

omit hT in
theorem selectHeadG_within (f : Nat) (s : PSt) (toks : List PTok) (h : s.Suffix toks) : (selectHeadG T f s).Within toks := by
  unfold selectHeadG
  split
  · exact selectHead_within f s toks h
  · exact within_mkErr h

omit hT in
theorem selectHeadG_mono (f f' : Nat) (s : PSt) (r : PRes HeadV) (h : f ≤ f') (hr : selectHeadG T f s = r) (hne : r ≠ .fuel) :
    selectHeadG T f' s = r := by
  unfold selectHeadG at hr ⊢
  split
  · rename_i hc; simp only [hc, if_true] at hr; exact PLe.mono_eq (fun n => selectHead_mono T n s) h hr hne
  · rename_i hc; simp only [hc, if_false] at hr; exact hr

theorem selectHead_noadv {f : Nat} {s s' : PSt} {h : HeadV} (hs : s.cur.tok = .kw .select)
    (hrun : selectHead T f s = .ok h s') : ∃ body, s = PSt.prepend body s' ∧ ∀ t ∈ body, ¬ Boundary t.tok :=
  noadv_generic (F := selectHeadG T f) (fun t2 h2 => selectHeadG_swapB hT t2 h2 f s) (selectHeadG_within f)
    (by rw [selectHeadG_of hs]; exact hrun)

theorem selectHead_prefix (body body' : List PTok) (hnb : ∀ t ∈ body, ¬ Boundary t.tok)
    (hbody : body'.map (·.tok) = body.map (·.tok)) (hsel : ∃ t ts, body = t :: ts ∧ t.tok = .kw .select)
    (tail0 tail : PSt) (hb0 : Boundary tail0.cur.tok) (hb : Boundary tail.cur.tok) (fuel0 fuel : Nat) (hf : fuel0 ≤ fuel)
    (h : HeadV) (hrun : selectHead T fuel0 (PSt.prepend body tail0) = .ok h tail0) :
    ∃ h', selectHead T fuel (PSt.prepend body' tail) = .ok h' tail ∧ h'.erase = h.erase := by
  obtain ⟨t, ts, rfl, ht⟩ := hsel
  match body', hbody with
  | t' :: ts', hbody =>
    simp only [List.map_cons, List.cons.injEq] at hbody
    have h1 : (PSt.prepend (t :: ts) tail0).cur.tok = .kw .select := ht
    have h2 : (PSt.prepend (t' :: ts') tail).cur.tok = .kw .select := by
      show t'.tok = _; rw [hbody.1]; exact ht
    have := prefix_generic (selectHeadG T) HeadV.erase (fun t2 f s h2 => selectHeadG_swapB hT t2 h2 f s)
      selectHeadG_strip selectHeadG_within selectHeadG_mono (t :: ts) (t' :: ts') hnb
      (by simp [hbody.1, hbody.2]) tail0 tail hb0 hb fuel0 fuel hf h (by rw [selectHeadG_of h1]; exact hrun)
    rw [selectHeadG_of h2] at this
    exact this

end generic

end Parse
end Sqlgrep
