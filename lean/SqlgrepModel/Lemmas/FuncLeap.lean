import SqlgrepModel.Lemmas.FuncTime
/-
Timestamps in chrono's leap-second representation (nanosecond field in [10⁹, 2·10⁹): second `:60`) under the
evaluator's arithmetic: `tsShift` (timestamp ± interval, chrono `NaiveTime::overflowing_add_signed`), `tsDiff`
(`signed_duration_since`), `stampNs` / `dateTrunc` (`duration_trunc`).
-/
namespace Sqlgrep

/-- second of day in range, nanoseconds in the leap-second representation -/
def TsLeap (s f : Int) : Prop := 0 ≤ s ∧ s < 86400 ∧ 1000000000 ≤ f ∧ f < 2000000000

/-- quotient and remainder truncated toward zero (`TimeDelta::num_seconds` and `subsec_nanos` for `k = 10⁹`): both have
the sign of `n` -/
theorem tdiv_tmod_spec (n k : Int) (hk : 0 < k) :
    n = Int.tmod n k + Int.tdiv n k * k ∧
      (0 ≤ n → 0 ≤ Int.tdiv n k ∧ 0 ≤ Int.tmod n k ∧ Int.tmod n k < k) ∧
      (n ≤ 0 → Int.tdiv n k ≤ 0 ∧ Int.tmod n k ≤ 0 ∧ -k < Int.tmod n k) := by
  refine ⟨by rw [Int.mul_comm]; exact (Int.tmod_add_mul_tdiv n k).symm, fun h => ?_, fun h => ?_⟩
  · rw [Int.tdiv_eq_ediv_of_nonneg h, Int.tmod_eq_emod_of_nonneg h]
    exact ⟨Int.ediv_nonneg h (Int.le_of_lt hk), Int.emod_nonneg _ (Int.ne_of_gt hk), Int.emod_lt_of_pos _ hk⟩
  · have h1 := Int.neg_tdiv (a := -n) (b := k)
    have h2 := Int.neg_tmod (a := -n) (b := k)
    rw [Int.neg_neg] at h1 h2
    have hn : 0 ≤ -n := by omega
    rw [h1, h2, Int.tdiv_eq_ediv_of_nonneg hn, Int.tmod_eq_emod_of_nonneg hn]
    have a := Int.ediv_nonneg hn (Int.le_of_lt hk)
    have b := Int.emod_nonneg (-n) (Int.ne_of_gt hk)
    have c := Int.emod_lt_of_pos (-n) hk
    omega

/-- **adding an interval to a leap second**, the three cases of chrono's rule, for every interval `ns`:
it stays inside the leap second exactly when `−1 s < ns` and the end of the leap second is not reached (only the
fraction moves — below 10⁹ it is an ordinary time of second `:59` again); reaching or passing the end continues from
`:59 + (f − 10⁹)`; a second or more backwards continues from the start of the following second `+ (f − 10⁹)` -/
theorem leap_add_cases (d s f ns : Int) (hf : 1000000000 ≤ f ∧ f < 2000000000) :
    (-1000000000 < ns ∧ f + ns < 2000000000 → tsShift d s f ns = .timestamp d s (f + ns)) ∧
    (2000000000 ≤ f + ns → tsShift d s f ns = tsOfTotal (tsTotal d s (f - 1000000000) + ns)) ∧
    (ns ≤ -1000000000 → tsShift d s f ns = tsOfTotal (tsTotal d (s + 1) (f - 1000000000) + ns)) := by
  have hnf : ¬ f < nsPerSec := by unfold nsPerSec; omega
  obtain ⟨e, hp, hn⟩ := tdiv_tmod_spec ns 1000000000 (by decide)
  unfold tsShift
  rw [if_neg hnf]
  unfold nsPerSec
  simp only [Bool.or_eq_true, Bool.and_eq_true, decide_eq_true_eq]
  -- seconds `q` and fraction `r` of the interval: from here on only their signs and `ns = r + q * 10⁹` matter
  generalize Int.tdiv ns 1000000000 = q at *
  generalize Int.tmod ns 1000000000 = r at *
  refine ⟨fun h => ?_, fun h => ?_, fun h => ?_⟩
  · have hr : r = ns := by omega
    rw [if_neg (by omega), if_neg (by omega), hr]
  · rw [if_pos (by omega)]
  · rw [if_neg (by omega), if_pos (by omega)]

/-- in the linear count `tsTotal` (which places the leap second `:60 + φ` at the position of the following second
`+ φ`): staying inside or stepping backwards moves the count by `ns`; escaping forwards moves it by `ns − 1 s` — the
leap second itself is one of the elapsed seconds -/
theorem leap_add_instant (d s f ns : Int) (hf : 1000000000 ≤ f ∧ f < 2000000000) :
    ∃ d' s' f', tsShift d s f ns = .timestamp d' s' f' ∧
      ((-1000000000 < ns ∧ f + ns < 2000000000 → tsTotal d' s' f' = tsTotal d s f + ns ∧ s' = s ∧ d' = d) ∧
       (2000000000 ≤ f + ns → tsTotal d' s' f' = tsTotal d s f + ns - 1000000000 ∧ TsPlain s' f') ∧
       (ns ≤ -1000000000 → tsTotal d' s' f' = tsTotal d s f + ns ∧ TsPlain s' f')) := by
  obtain ⟨c1, c2, c3⟩ := leap_add_cases d s f ns hf
  by_cases h1 : -1000000000 < ns ∧ f + ns < 2000000000
  · refine ⟨d, s, f + ns, c1 h1, fun _ => ⟨(Int.add_assoc _ _ _).symm, rfl, rfl⟩, fun h => ?_, fun h => ?_⟩
    · omega
    · omega
  · by_cases h2 : 2000000000 ≤ f + ns
    · obtain ⟨d', s', f', e, hp, ht⟩ := tsTotal_tsOfTotal (tsTotal d s (f - 1000000000) + ns)
      refine ⟨d', s', f', (c2 h2).trans e, fun h => absurd h h1, fun _ => ⟨?_, hp⟩, fun h => ?_⟩
      · rw [ht]; unfold tsTotal; omega
      · omega
    · have h3 : ns ≤ -1000000000 := by omega
      obtain ⟨d', s', f', e, hp, ht⟩ := tsTotal_tsOfTotal (tsTotal d (s + 1) (f - 1000000000) + ns)
      refine ⟨d', s', f', (c3 h3).trans e, fun h => absurd h h1, fun h => absurd h h2, fun _ => ⟨?_, hp⟩⟩
      rw [ht]; unfold tsTotal nsPerSec; omega

/-- **`(t + iv) − t = iv` for a leap second `t`** whenever the result lies on the expected side within the day: it
stayed inside the leap second, or escaped forwards to a LATER second of day, or backwards to a second of day that is
not later. (Across midnight chrono loses or invents the leap second: `leap_diff_midnight_flag`.) -/
theorem leap_add_then_diff (d s f ns d' s' f' : Int) (hf : 1000000000 ≤ f ∧ f < 2000000000)
    (hr : tsShift d s f ns = .timestamp d' s' f')
    (hside : (-1000000000 < ns ∧ f + ns < 2000000000) ∨ (2000000000 ≤ f + ns ∧ s < s') ∨ (ns ≤ -1000000000 ∧ s' ≤ s)) :
    tsDiff d' s' f' d s f = ns := by
  obtain ⟨d2, s2, f2, e, k1, k2, k3⟩ := leap_add_instant d s f ns hf
  rw [hr] at e
  injection e with e1 e2 e3
  subst e1 e2 e3
  rw [tsDiff_eq]
  rcases hside with h | h | h
  · obtain ⟨ht, hs, _⟩ := k1 h
    rw [if_neg (by omega), if_neg (by omega)]; omega
  · obtain ⟨ht, _⟩ := k2 h.1
    rw [if_pos (by omega)]; omega
  · obtain ⟨ht, hp⟩ := k3 h.1
    unfold TsPlain at hp
    rw [if_neg (by omega), if_neg (by omega)]; omega

/-- FLAG (kernel-checked witnesses of chrono's rule, mirrored by the model and by the code): the leap second
2016-12-31 23:59:60.5 plus one second is 2017-01-01 00:00:00.5, but the difference of the two is 0 s, not 1 s;
and 2017-01-01 00:00:00 minus 23:59:60.5 is −0.5 s although it is later in the value order — the second of day went DOWN across
midnight, so `NaiveTime::signed_duration_since` does not count the leap second -/
theorem leap_diff_midnight_flag :
    tsShift 736329 86399 1500000000 1000000000 = .timestamp 736330 0 500000000 ∧
    tsDiff 736330 0 500000000 736329 86399 1500000000 = 0 ∧
    tsDiff 736330 0 0 736329 86399 1500000000 = -500000000 ∧
    Value.cmp (.timestamp 736330 0 0) (.timestamp 736329 86399 1500000000) = .gt := by
  refine ⟨?_, by decide, by decide, by decide⟩
  rw [(leap_add_cases _ _ _ _ ⟨by decide, by decide⟩).2.1 (by decide)]
  rfl

theorem tsOfTotal_day (d s f ns : Int) (hs : 0 ≤ s ∧ s ≤ 86400) (hf : 0 ≤ f ∧ f < 1000000000)
    (hns : -3600000000000 < ns ∧ ns ≤ 0) :
    ∃ d' s' f', tsOfTotal (tsTotal d s f + ns) = .timestamp d' s' f' ∧ d - 2 ≤ d' ∧ d' ≤ d + 1 := by
  obtain ⟨d', s', f', e, hp, ht⟩ := tsTotal_tsOfTotal (tsTotal d s f + ns)
  unfold tsTotal TsPlain nsPerSec at *
  exact ⟨d', s', f', e, by omega, by omega⟩

/-- inside the window in which `timestamp_nanos_opt` answers, the subtraction `original − (stamp mod span)` of
`duration_trunc` cannot leave chrono's date range: the checked form succeeds with the value the model uses, so the
`expect` inside `DateTime − TimeDelta` is unreachable -/
theorem dateTrunc_shift_in_range (d s f st span : Int) (hs : 0 ≤ s ∧ s < 86400) (hf : 0 ≤ f ∧ f < 2000000000)
    (hst : stampNs d s f = some st) (hspan : IsSubDaySpan span) :
    tsAdd d s f (-(st % span)) = .ok (tsShift d s f (-(st % span))) := by
  -- the day is within the i64-nanosecond window
  have hd : 612000 ≤ d ∧ d ≤ 826000 := by
    have hA := ((stampNs_some_iff d s f st).1 hst).2.2
    rw [inI64_iff] at hA
    split at hA <;> omega
  have hnsb : -3600000000000 < -(st % span) ∧ -(st % span) ≤ 0 := by
    have hpos := span_pos hspan
    have hle : span ≤ 3600000000000 := by unfold IsSubDaySpan nsPerSec at hspan; omega
    have hm0 := Int.emod_nonneg st (Int.ne_of_gt hpos)
    have hm1 := Int.emod_lt_of_pos st hpos
    omega
  generalize -(st % span) = ns at *
  -- the day of the shifted value is d − 1, d or d + 1
  have hday : ∃ d' s' f', tsShift d s f ns = .timestamp d' s' f' ∧ d - 2 ≤ d' ∧ d' ≤ d + 1 := by
    by_cases hleap : f < 1000000000
    · rw [tsShift_plain d s f ns hleap]
      exact tsOfTotal_day d s f ns ⟨hs.1, Int.le_of_lt hs.2⟩ ⟨hf.1, hleap⟩ hnsb
    · obtain ⟨c1, c2, c3⟩ := leap_add_cases d s f ns ⟨by omega, hf.2⟩
      by_cases h1 : -1000000000 < ns
      · exact ⟨d, s, f + ns, c1 ⟨h1, by omega⟩, by omega, by omega⟩
      · rw [c3 (by omega)]
        exact tsOfTotal_day d (s + 1) (f - 1000000000) ns (by omega) (by omega) hnsb
  obtain ⟨d', s', f', e, hlo, hhi⟩ := hday
  unfold tsAdd
  rw [e]
  dsimp only
  have hy := (CivilE.year_in_range_iff d').2 ⟨by unfold CivilE.dayMin; omega, by unfold CivilE.dayMax; omega⟩
  have hb : (decide (-262143 ≤ (CivilE.civilOfDays d').1) && decide ((CivilE.civilOfDays d').1 ≤ 262142)) = true := by
    simp only [Bool.and_eq_true, decide_eq_true_eq]; exact hy
  generalize CivilE.civilOfDays d' = c at *
  obtain ⟨y, m, dd⟩ := c
  simp only at hb ⊢
  rw [if_pos hb]

/-- `date_trunc` to hour … microseconds on ANY timestamp inside the window (leap seconds included): the timestamp
minus `stamp mod span`, where the stamp of a leap second `:60 + φ` is that of the following second `+ φ`. For a leap
second and a span of a second or more the result is therefore the START OF THE LEAP SECOND (`:60.000`), not the start
of the minute or hour: `dateTrunc_leap_is_leap_start` -/
theorem dateTrunc_span_closed (part : Bytes) (span : Int)
    (hy : (part == strBytes "year") = false) (hm : (part == strBytes "month") = false)
    (hd : (part == strBytes "day") = false) (hs : truncSpan part = some span) (d s f st : Int)
    (hst : stampNs d s f = some st) :
    dateTrunc part d s f = .ok (tsShift d s f (-(st % span))) := by
  unfold dateTrunc
  simp only [hy, hm, hd, hs, hst, Bool.false_eq_true, if_false]

theorem stampNs_some (d s f st : Int) (h : stampNs d s f = some st) : st = tsTotal (d - 719163) s f :=
  ((stampNs_some_iff d s f st).1 h).1

/-- a leap second truncated to a second, a minute or an hour is the start of that leap second -/
theorem dateTrunc_leap_is_leap_start (d s f span : Int) (hf : 1000000000 ≤ f ∧ f < 2000000000)
    (hspan : span = 1000000000 ∨ (span = 60000000000 ∧ s % 60 = 59) ∨ (span = 3600000000000 ∧ s % 3600 = 3599)) :
    tsShift d s f (-(tsTotal (d - 719163) s f % span)) = .timestamp d s 1000000000 := by
  have hmod : tsTotal (d - 719163) s f % span = f - 1000000000 := by
    unfold tsTotal nsPerSec
    rcases hspan with h | ⟨h, h'⟩ | ⟨h, h'⟩ <;> subst h <;> omega
  rw [hmod]
  have := (leap_add_cases d s f (-(f - 1000000000)) hf).1 ⟨by omega, by omega⟩
  rw [this]; congr 1; omega

end Sqlgrep
