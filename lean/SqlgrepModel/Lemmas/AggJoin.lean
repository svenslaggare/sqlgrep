import SqlgrepModel.Lemmas.AggBatch
import SqlgrepModel.Lemmas.JoinBatch
/-
Aggregates over a JOIN: the specification of C04 composed with the nested loop of C05. The engine feeds every join
partner's row to `execute_update`; over the whole input that is `aggRun` over the nested loop's rows, so the
aggregation refinement applies, and `Spec.Join.batch` (already proved equal to `runBatch`) carries it to the driver.
-/
set_option linter.unusedSimpArgs false
namespace Sqlgrep
open Value Spec.Agg

/-- what `Spec.Agg.batch` says of a run with a join when it answers: every line of both inputs could be read, both join
columns exist, and the answer is the table over the nested loop's rows (`batch_nojoin_inv` is the same without join) -/
theorem batch_join_inv {O : Oracles} {qy : Query} {q : AggStmt} {j : JoinInfo} (hj : qy.join = some j) {joined : List FileLine}
    {files : List (List FileLine)} {a : RunOut × String} (h : Spec.Agg.batch O qy q joined files = some a) :
    files.flatten.any (fun fl => !fl.readable) = false ∧ joined.any (fun fl => !fl.readable) = false ∧
    (indexOf? qy.table.columns j.joinerColumn).isNone = false ∧ (indexOf? j.joined.columns j.joinedColumn).isNone = false ∧
    ∃ t, table O q (joinEnvs qy j joined files.flatten) = some t ∧
      a = (tableOut q t files.flatten.length, deviationClass O q (joinEnvs qy j joined files.flatten)) := by
  unfold Spec.Agg.batch at h
  simp only [hj] at h
  split at h
  · cases h
  · rename_i hany
    split at h
    · cases h
    · rename_i hcond
      simp only [Bool.or_eq_true, not_or, Bool.not_eq_true] at hany hcond
      unfold Spec.Agg.batchOver at h
      cases ht : table O q (joinEnvs qy j joined files.flatten) with
      | none => simp [ht] at h
      | some t =>
        simp only [ht, Option.some.injEq] at h
        exact ⟨hany, hcond.1.1, hcond.1.2, hcond.2, t, rfl, h.symm⟩

/-- **refinement at driver level, aggregates over a JOIN** -/
theorem batch_refines_spec_join {O : Oracles} {qy : Query} {q : AggStmt} (hq : qy.stmt = .aggregate q) (hwf : StmtWF q)
    {j : JoinInfo} (hj : qy.join = some j) (joined : List FileLine) (files : List (List FileLine)) {ro : RunOut}
    (h : Spec.Agg.batch O qy q joined files = some (ro, "")) : runBatch O qy joined files none = ro := by
  obtain ⟨hfiles, hjoined, hcol, hcol', t, ht, ha⟩ := batch_join_inv hj h
  obtain ⟨hro, hclass⟩ := Prod.mk.inj ha
  obtain ⟨st, hst, hfin⟩ := obind_ok (engine_refines_spec_total hwf _ ht hclass.symm)
  -- the join specification answers the same: its loop is `aggRun` over the nested loop's rows
  refine batch_spec_eq_runBatch O qy joined files ro ("join-aggregate-" ++ (if j.isOuter then "outer" else "inner")) ?_
  have henv : (((files.flatten.map (·.line)).filter Spec.Join.admitted).flatMap
      (Spec.Join.rowsOf qy j (Spec.Join.admittedRows (joined.map (·.line))) false)).map (·.1) =
      joinEnvs qy j joined files.flatten := rfl
  rw [List.any_flatten] at hfiles
  unfold Spec.Join.batch
  simp only [hj, hjoined, hfiles, Bool.or_self, Bool.false_eq_true, if_false, hcol, hcol', hq]
  rw [aggLoop_eq_aggRun, henv, hst]
  simp only [hfin, hro, tableOut, List.length_map]

/-- **refinement, driver level**: for the function the driver executes (`runBatch`: the `FileExecutor` loop over all
files, the join index, the engine, the final table printed once) and the specification's answer for the same case
(`Spec.Agg.batch`, what `./check` compares with the implementation) — with or without a JOIN: whenever the specification
answers outside the known deviation classes, the model's answer IS the specification's answer. -/
theorem batch_refines_spec {O : Oracles} {qy : Query} {q : AggStmt} (hq : qy.stmt = .aggregate q) (hwf : StmtWF q)
    (joined : List FileLine) (files : List (List FileLine)) {ro : RunOut}
    (h : Spec.Agg.batch O qy q joined files = some (ro, "")) : runBatch O qy joined files none = ro := by
  cases hj : qy.join with
  | none => exact batch_refines_spec_nojoin hq hwf hj joined files h
  | some j => exact batch_refines_spec_join hq hwf hj joined files h

end Sqlgrep
