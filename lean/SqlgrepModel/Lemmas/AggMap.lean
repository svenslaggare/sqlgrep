import SqlgrepModel.Model.Engine
import SqlgrepModel.Lemmas.AggKeys
/-
The group maps of the aggregation engine (`BTreeMap<GroupKey, HashMap<usize, _>>` as a key-sorted association
list of association lists): lookup after modification, sortedness, key lists.
-/
set_option linter.unusedSimpArgs false
namespace Sqlgrep
open Value

theorem alGet_cons {α : Type} (p : Nat × α) (ps : List (Nat × α)) (j : Nat) :
    alGet (p :: ps) j = if p.1 = j then some p.2 else alGet ps j := by
  unfold alGet
  by_cases h : p.1 = j
  · simp [List.find?, h]
  · have : (p.1 == j) = false := by simp [h]
    simp [List.find?, h, this]

/-- an entry of a list without repeated keys is what `alGet` finds under its key, and what `alGet` finds is an entry -/
theorem alGet_of_mem {α : Type} {l : List (Nat × α)} (hn : (l.map (·.1)).Nodup) {i : Nat} {a : α}
    (h : (i, a) ∈ l) : alGet l i = some a := by
  induction l with
  | nil => cases h
  | cons p ps ih =>
    rw [List.map_cons, List.nodup_cons] at hn
    rw [alGet_cons]
    rcases List.mem_cons.1 h with rfl | h
    · exact if_pos rfl
    · rw [if_neg fun (e : p.1 = i) => hn.1 (e ▸ List.mem_map.2 ⟨(i, a), h, rfl⟩), ih hn.2 h]

theorem mem_of_alGet {α : Type} {l : List (Nat × α)} {i : Nat} {a : α} (h : alGet l i = some a) : (i, a) ∈ l := by
  obtain ⟨p, hf, rfl⟩ := Option.map_eq_some_iff.1 h
  have hp : p.1 = i := beq_iff_eq.1 (List.find?_some (p := fun q : Nat × α => q.1 == i) hf)
  exact hp ▸ (List.mem_of_find?_eq_some hf : (p.1, p.2) ∈ l)

theorem alGet_map_other {α : Type} (l : List (Nat × α)) {i j : Nat} (v : α) (hij : i ≠ j) :
    alGet (l.map (fun p => if p.1 == i then (i, v) else p)) j = alGet l j := by
  induction l with
  | nil => rfl
  | cons p ps ih =>
    rw [List.map_cons, alGet_cons, alGet_cons, ih]
    by_cases hp : p.1 = i
    · have h2 : ¬ p.1 = j := by rw [hp]; exact hij
      simp [hp, hij, h2]
    · have h1 : (p.1 == i) = false := by simp [hp]
      simp [h1]

theorem alSet_cons {α : Type} (p : Nat × α) (ps : List (Nat × α)) (i : Nat) (v : α) :
    alSet (p :: ps) i v =
      if p.1 = i then (i, v) :: ps.map (fun q => if q.1 == i then (i, v) else q) else p :: alSet ps i v := by
  unfold alSet
  by_cases hp : p.1 = i
  · simp [hp]
  · have : (p.1 == i) = false := by simp [hp]
    simp only [List.any_cons, this, Bool.false_or, List.map_cons, Bool.false_eq_true, if_false, hp, List.cons_append]
    split <;> rfl

theorem alGet_alSet {α : Type} (l : List (Nat × α)) (i j : Nat) (v : α) :
    alGet (alSet l i v) j = if i = j then some v else alGet l j := by
  induction l with
  | nil => simp [alSet, alGet]
  | cons p ps ih =>
    rw [alSet_cons, alGet_cons]
    by_cases hp : p.1 = i
    · simp only [hp, if_true, alGet_cons]
      by_cases hij : i = j
      · simp [hij]
      · simp only [hij, if_false]; exact alGet_map_other ps v hij
    · simp only [hp, if_false, alGet_cons, ih]
      by_cases hij : i = j
      · subst hij; simp [hp]
      · simp [hij]

/-- the keys of a group map are strictly ascending -/
def GmSorted {α : Type} (m : GroupMap α) : Prop := (m.map (·.1)).Pairwise (fun a b => cmpList a b = .lt)

theorem gmSorted_nil {α : Type} : GmSorted ([] : GroupMap α) := List.Pairwise.nil

theorem gmKeys_gmModify {α : Type} (m : GroupMap α) (k : List Value) (f : List (Nat × α) → List (Nat × α)) :
    (gmModify m k f).map (·.1) = Spec.Agg.insertKey k (m.map (·.1)) := by
  induction m with
  | nil => rfl
  | cons g rest ih =>
    simp only [gmModify, List.map, Spec.Agg.insertKey]
    cases cmpList k g.1 <;> simp [ih]

theorem gmSorted_gmModify {α : Type} {m : GroupMap α} (hs : GmSorted m) (k : List Value) (f : List (Nat × α) → List (Nat × α)) :
    GmSorted (gmModify m k f) := by
  unfold GmSorted
  rw [gmKeys_gmModify]
  exact insertKey_sorted hs

theorem gm_all_gmModify {α : Type} {P : List (Nat × α) → Prop} {m : GroupMap α} (hm : ∀ g ∈ m, P g.2)
    (k : List Value) {f : List (Nat × α) → List (Nat × α)} (h0 : P (f [])) (hf : ∀ l, P l → P (f l)) :
    ∀ g ∈ gmModify m k f, P g.2 := by
  induction m with
  | nil => intro g hg; simp [gmModify] at hg; subst hg; exact h0
  | cons x rest ih =>
    intro g hg
    simp only [gmModify] at hg
    cases hc : cmpList k x.1 <;> rw [hc] at hg <;> simp only [List.mem_cons] at hg
    · rcases hg with hg | hg | hg
      · subst hg; exact h0
      · subst hg; exact hm _ (by simp)
      · exact hm g (by simp [hg])
    · rcases hg with hg | hg
      · subst hg; exact hf _ (hm x (by simp))
      · exact hm g (by simp [hg])
    · rcases hg with hg | hg
      · subst hg; exact hm _ (by simp)
      · exact ih (fun g hg => hm g (by simp [hg])) g hg

theorem gm_key_gmModify {α : Type} (m : GroupMap α) (k : List Value) (f : List (Nat × α) → List (Nat × α)) :
    ∀ g ∈ gmModify m k f, g.1 = k ∨ g.1 ∈ m.map (·.1) := by
  intro g hg
  have : g.1 ∈ (gmModify m k f).map (·.1) := List.mem_map.mpr ⟨g, hg, rfl⟩
  rw [gmKeys_gmModify] at this
  exact insertKey_mem this

theorem alSet_nodup {α : Type} (l : List (Nat × α)) (i : Nat) (v : α) (h : (l.map (·.1)).Nodup) :
    ((alSet l i v).map (·.1)).Nodup := by
  unfold alSet
  by_cases hany : l.any (·.1 == i) = true
  · simp only [hany, if_true]
    have : (l.map (fun p => if p.1 == i then (i, v) else p)).map (·.1) = l.map (·.1) := by
      rw [List.map_map]
      apply List.map_congr_left
      intro p _
      by_cases hp : p.1 = i
      · simp [hp]
      · simp [hp]
    rw [this]; exact h
  · simp only [hany, Bool.false_eq_true, if_false, List.map_append, List.map_cons, List.map_nil]
    rw [List.nodup_append]
    refine ⟨h, by simp, ?_⟩
    intro a ha b hb
    simp only [List.mem_singleton] at hb
    subst hb
    intro hab
    subst hab
    obtain ⟨p, hp, hpe⟩ := List.mem_map.mp ha
    exact hany (List.any_eq_true.mpr ⟨p, hp, by simp [hpe]⟩)

theorem alSet_ne_nil {α : Type} (l : List (Nat × α)) (i : Nat) (v : α) : alSet l i v ≠ [] := by
  cases l with
  | nil => simp [alSet]
  | cons p ps => rw [alSet_cons]; split <;> simp

theorem gmGet_none_of_lt {α : Type} {m : GroupMap α} {k : List Value}
    (h : ∀ g ∈ m, cmpList k g.1 = .lt) : gmGet m k = none := by
  unfold gmGet
  have : m.find? (fun g => cmpList g.1 k == .eq) = none := by
    apply List.find?_eq_none.mpr
    intro g hg
    have := Std.OrientedCmp.gt_of_lt (h g hg)
    simp [this]
  rw [this]; rfl

theorem gmGet_gmModify_same {α : Type} {m : GroupMap α} (hs : GmSorted m) {k k' : List Value}
    (hk : cmpList k k' = .eq) (f : List (Nat × α) → List (Nat × α)) :
    gmGet (gmModify m k f) k' = some (f ((gmGet m k).getD [])) := by
  induction m with
  | nil =>
    simp [gmModify, gmGet, List.find?, hk]
  | cons g rest ih =>
    unfold GmSorted at hs
    simp only [List.map, List.pairwise_cons] at hs
    simp only [gmModify]
    cases hc : cmpList k g.1
    · -- inserted in front; k was absent
      have habs : gmGet (g :: rest) k = none := by
        apply gmGet_none_of_lt
        intro h hh
        rcases List.mem_cons.mp hh with hh | hh
        · rw [hh]; exact hc
        · exact Std.TransCmp.lt_trans hc (hs.1 h.1 (List.mem_map.mpr ⟨h, hh, rfl⟩))
      rw [habs]
      simp [gmGet, List.find?, hk]
    · -- the entry of g is modified
      have hgk' : cmpList g.1 k' = .eq := Std.TransCmp.eq_trans (Std.OrientedCmp.eq_symm hc) hk
      have hgk : cmpList g.1 k = .eq := Std.OrientedCmp.eq_symm hc
      simp [gmGet, List.find?, hgk', hgk]
    · have hgk : cmpList g.1 k = .lt := Std.OrientedCmp.lt_of_gt hc
      have hgk' : cmpList g.1 k' = .lt := by rw [← Std.TransCmp.congr_right (a := g.1) hk]; exact hgk
      have := ih hs.2
      simp only [gmGet, List.find?, hgk, hgk'] at this ⊢
      simpa using this

theorem gmGet_gmModify_other {α : Type} (m : GroupMap α) {k k' : List Value}
    (hk : cmpList k k' ≠ .eq) (f : List (Nat × α) → List (Nat × α)) :
    gmGet (gmModify m k f) k' = gmGet m k' := by
  induction m with
  | nil =>
    have : (cmpList k k' == .eq) = false := by simp [hk]
    simp [gmModify, gmGet, List.find?, this]
  | cons g rest ih =>
    simp only [gmModify]
    cases hc : cmpList k g.1
    · have : (cmpList k k' == .eq) = false := by simp [hk]
      simp [gmGet, List.find?, this]
    · have hne : (cmpList g.1 k' == .eq) = false := by
        have : cmpList g.1 k' = cmpList k k' := (Std.TransCmp.congr_left hc).symm
        simp [this, hk]
      simp [gmGet, List.find?, hne]
    · cases hg : (cmpList g.1 k' == .eq)
      · simp only [gmGet, List.find?, hg] at ih ⊢
        exact ih
      · simp [gmGet, List.find?, hg]

theorem gmGet_congr {α : Type} (m : GroupMap α) {k k' : List Value} (hk : cmpList k k' = .eq) :
    gmGet m k = gmGet m k' := by
  unfold gmGet
  have : (fun g : List Value × List (Nat × α) => cmpList g.1 k == .eq) = (fun g => cmpList g.1 k' == .eq) := by
    funext g
    rw [← Std.TransCmp.congr_right (a := g.1) hk]
  rw [this]

theorem gmLookup_gmSet {α : Type} {m : GroupMap α} (hs : GmSorted m) (k k' : List Value) (i i' : Nat) (v : α) :
    gmLookup (gmSet m k i v) k' i' =
      if cmpList k k' = .eq ∧ i = i' then some v else gmLookup m k' i' := by
  unfold gmLookup gmSet
  by_cases hk : cmpList k k' = .eq
  · rw [gmGet_gmModify_same hs hk]
    simp only [Option.bind, hk, true_and, alGet_alSet]
    by_cases hi : i = i'
    · simp [hi]
    · simp only [hi, if_false]
      rw [gmGet_congr m hk]
      cases gmGet m k' with
      | none => simp [alGet, List.find?]
      | some l => simp
  · rw [gmGet_gmModify_other m hk]
    simp [hk]

theorem gmLookup_setOpt {α : Type} {m : GroupMap α} (hs : GmSorted m) (k : List Value) (i : Nat) (o : Option α)
    (hext : (gmLookup m k i).isSome → o.isSome) (k' : List Value) (i' : Nat) :
    gmLookup (o.elim m (gmSet m k i)) k' i' = if cmpList k k' = .eq ∧ i = i' then o else gmLookup m k' i' := by
  cases o with
  | some a => exact gmLookup_gmSet hs k k' i i' a
  | none =>
    by_cases h : cmpList k k' = .eq ∧ i = i'
    · rw [if_pos h, ← h.2]
      show gmLookup m k' i = none
      rw [← show gmLookup m k i = gmLookup m k' i from by simp only [gmLookup, gmGet_congr _ h.1]]
      cases hl : gmLookup m k i with
      | none => rfl
      | some _ => simp [hl] at hext
    · rw [if_neg h]; rfl

end Sqlgrep
