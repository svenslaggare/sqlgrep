import SqlgrepModel.Lemmas.ReaderSpec
/-
The follow reader (`Sqlgrep.Reader.Follow`, `step`): the invariant that ties what has been delivered, what is held in
`line`, what sits in `BufReader`'s buffer and what is still unread in the file to the content of the file from the start
offset. What one poll can do is said once (`poll_cases`, over the bytes `fill_buf` presents: `avail`); the invariant, the
frame, "delivery only appends" and progress are each one case split over it.
-/
namespace Sqlgrep
namespace Reader

/-- delivered lines (each with its newline) ++ pending line ++ buffered ++ unread = content from `start` -/
def Inv (s : Follow) : Prop :=
  wire s.delivered ++ s.acc ++ s.buf ++ s.file.drop s.pos = s.file.drop s.start
  ∧ nl ∉ s.acc ∧ (∀ l ∈ s.delivered, nl ∉ l) ∧ s.pos ≤ s.file.length ∧ s.start ≤ s.pos

theorem cut_spec (bs : List Nat) :
    nl ∉ (cut bs).1 ∧ (match (cut bs).2 with
      | some rest => bs = (cut bs).1 ++ nl :: rest
      | none => bs = (cut bs).1) := by
  induction bs with
  | nil => simp [cut]
  | cons b bs ih =>
    unfold cut
    split
    · rename_i h; subst h; simp
    · rename_i h
      obtain ⟨h1, h2⟩ := ih
      refine ⟨?_, ?_⟩
      · simp only [List.mem_cons, not_or]; exact ⟨fun e => h e.symm, h1⟩
      · cases hc : (cut bs).2 with
        | some rest => simp only [hc] at h2 ⊢; simp; exact h2
        | none => simp only [hc] at h2 ⊢; simp; exact h2

theorem endsWithNl_of_not_mem {l : List Nat} (h : nl ∉ l) : endsWithNl l = false := by
  unfold endsWithNl
  cases hg : l.getLast? with
  | none => rfl
  | some x =>
    have hx : x ∈ l := List.mem_of_getLast? hg
    have : x ≠ nl := fun e => h (e ▸ hx)
    simp [this]

theorem init_inv (file : List Nat) (head : Bool) (cap : Nat) : Inv (Follow.init file head cap) := by
  cases head <;> simp [Follow.init, Inv, wire]

/-- the bytes `fill_buf` presents: what is buffered, else the next bytes of the file -/
def avail (s : Follow) (k : Nat) : List Nat :=
  if s.buf = [] then (s.file.drop s.pos).take (min (k + 1) s.cap) else s.buf

/-- the descriptor's offset after that `fill_buf` -/
def posAfter (s : Follow) (k : Nat) : Nat := if s.buf = [] then s.pos + (avail s k).length else s.pos

theorem fill_eq (s : Follow) (k : Nat) : fill s k = { s with buf := avail s k, pos := posAfter s k } := by
  by_cases h : s.buf = [] <;> simp only [fill, posAfter, avail, h, ↓reduceIte]

theorem avail_spec (s : Follow) (k : Nat) :
    avail s k ++ s.file.drop (posAfter s k) = s.buf ++ s.file.drop s.pos ∧ s.pos ≤ posAfter s k ∧
    (avail s k).length + (s.file.length - posAfter s k) = s.buf.length + (s.file.length - s.pos) ∧
    (s.pos ≤ s.file.length → posAfter s k ≤ s.file.length) := by
  by_cases hb : s.buf = []
  · simp only [posAfter, avail, hb, if_true, List.nil_append, List.length_nil, ← List.drop_drop]
    generalize min (k + 1) s.cap = m
    have hd : (s.file.drop s.pos).length = s.file.length - s.pos := List.length_drop
    generalize s.file.drop s.pos = d at hd
    have hl : (d.take m).length = min m d.length := List.length_take
    refine ⟨?_, by omega, by omega, fun _ => by omega⟩
    by_cases hm : m ≤ d.length
    · rw [hl, Nat.min_eq_left hm, List.take_append_drop]
    · rw [List.take_of_length_le (by omega), List.drop_length, List.append_nil]
  · simp [posAfter, avail, hb]

theorem buf_of_avail_nil {s : Follow} {k : Nat} (h : avail s k = []) : s.buf = [] := by
  unfold avail at h
  split at h
  · assumption
  · exact h

/-- **one poll**: at the end of what there is, a retry (or, were the pending line already terminated, its delivery); a line
completed by the bytes up to the first newline; or the pending line extended by all the bytes. The second case cannot
occur under `Inv` (the pending line holds no newline); it is listed because the frame facts hold of every state. -/
theorem poll_cases (s : Follow) (k : Nat) :
    (avail s k = [] ∧ endsWithNl s.acc = false ∧ step s (.poll k) = { s with buf := [], retries := s.retries + 1 }) ∨
    (avail s k = [] ∧ endsWithNl s.acc = true ∧
      step s (.poll k) = { s with buf := [], delivered := s.delivered ++ [s.acc.dropLast], acc := [] }) ∨
    (∃ pre rest, avail s k = pre ++ nl :: rest ∧ nl ∉ pre ∧ step s (.poll k) =
      { s with buf := rest, pos := posAfter s k, acc := [], delivered := s.delivered ++ [s.acc ++ pre] }) ∨
    (avail s k ≠ [] ∧ nl ∉ avail s k ∧
      step s (.poll k) = { s with buf := [], pos := posAfter s k, acc := s.acc ++ avail s k }) := by
  rw [step, fill_eq, consume]
  by_cases ha : avail s k = []
  · have hp : posAfter s k = s.pos := by rw [posAfter, ha]; split <;> rfl
    cases he : endsWithNl s.acc with
    | true => exact .inr (.inl ⟨ha, rfl, by simp only [ha, hp, afterRead, he, if_true]⟩)
    | false => exact .inl ⟨ha, rfl, by simp only [ha, hp, afterRead, he, Bool.false_eq_true, if_false]⟩
  · obtain ⟨b, bs, hb⟩ := List.exists_cons_of_ne_nil ha
    have hc := cut_spec (avail s k)
    simp only [hb] at hc ⊢
    split
    · next pre rest heq =>
      rw [heq] at hc
      refine .inr (.inr (.inl ⟨pre, rest, hc.2, hc.1, ?_⟩))
      simp only [afterRead, endsWithNl, List.getLast?_concat, beq_self_eq_true, if_true, List.dropLast_concat]
    · next pre heq =>
      rw [heq] at hc
      exact .inr (.inr (.inr ⟨nofun, hc.2 ▸ hc.1, by rw [hc.2]⟩))

theorem step_inv (s : Follow) (op : Op) (h : Inv s) : Inv (step s op) := by
  obtain ⟨h1, h2, h3, h4, h5⟩ := h
  cases op with
  | append bs =>
    refine ⟨?_, h2, h3, by simp [step]; omega, h5⟩
    simp only [step]
    rw [List.drop_append_of_le_length h4, List.drop_append_of_le_length (by omega), ← h1]
    simp [List.append_assoc]
  | poll k =>
    obtain ⟨a1, a2, -, a3⟩ := avail_spec s k
    have a3 := a3 h4
    have hd : ∀ x : List Nat, x ++ s.buf ++ s.file.drop s.pos = x ++ avail s k ++ s.file.drop (posAfter s k) := by
      intro x; rw [List.append_assoc, List.append_assoc, a1]
    rcases poll_cases s k with ⟨ha, _, e⟩ | ⟨_, he, _⟩ | ⟨pre, rest, ha, hp, e⟩ | ⟨_, hn, e⟩
    · rw [e]; exact ⟨by rw [← h1, buf_of_avail_nil ha], h2, h3, h4, h5⟩
    · rw [endsWithNl_of_not_mem h2] at he; cases he
    · rw [e]
      refine ⟨?_, List.not_mem_nil, ?_, a3, Nat.le_trans h5 a2⟩
      · rw [← h1, hd, ha]; simp [wire, List.flatMap_append, List.append_assoc]
      · intro l hl
        rcases List.mem_append.1 hl with hl | hl
        · exact h3 l hl
        · rw [List.mem_singleton.1 hl]; exact fun hm => (List.mem_append.1 hm).elim h2 hp
    · rw [e]
      refine ⟨?_, fun hm => (List.mem_append.1 hm).elim h2 hn, h3, a3, Nat.le_trans h5 a2⟩
      rw [← h1, hd]; simp [List.append_assoc]

theorem run_inv (s : Follow) (ops : List Op) (h : Inv s) : Inv (run s ops) := by
  unfold run
  induction ops generalizing s with
  | nil => exact h
  | cons op ops ih => exact ih _ (step_inv s op h)

theorem drive_is_run (fuel : Nat) (s : Follow) (chunks : List (List Nat)) :
    ∃ ops, drive fuel s chunks = run s ops := by
  induction fuel generalizing s chunks with
  | zero => exact ⟨[], rfl⟩
  | succ n ih =>
    unfold drive
    simp only
    split
    · cases chunks with
      | nil => exact ⟨[.poll (s.cap - 1)], rfl⟩
      | cons c cs =>
        obtain ⟨ops, h⟩ := ih (step (step s (.poll (s.cap - 1))) (.append c)) cs
        exact ⟨.poll (s.cap - 1) :: .append c :: ops, by simp only [h, run, List.foldl_cons]⟩
    · obtain ⟨ops, h⟩ := ih (step s (.poll (s.cap - 1))) chunks
      exact ⟨.poll (s.cap - 1) :: ops, by simp only [h, run, List.foldl_cons]⟩

theorem poll_frame (s : Follow) (k : Nat) :
    (step s (.poll k)).file = s.file ∧ (step s (.poll k)).start = s.start ∧ (step s (.poll k)).cap = s.cap := by
  rcases poll_cases s k with ⟨_, _, e⟩ | ⟨_, _, e⟩ | ⟨_, _, _, _, e⟩ | ⟨_, _, e⟩ <;> rw [e] <;> exact ⟨rfl, rfl, rfl⟩

theorem step_delivered (s : Follow) (op : Op) :
    (step s op).delivered = s.delivered ∨ ∃ l, (step s op).delivered = s.delivered ++ [l] := by
  cases op with
  | append bs => exact .inl rfl
  | poll k =>
    rcases poll_cases s k with ⟨_, _, e⟩ | ⟨_, _, e⟩ | ⟨_, _, _, _, e⟩ | ⟨_, _, e⟩ <;> rw [e]
    · exact .inl rfl
    · exact .inr ⟨_, rfl⟩
    · exact .inr ⟨_, rfl⟩
    · exact .inl rfl

theorem run_delivered_prefix (s : Follow) (ops : List Op) : s.delivered <+: (run s ops).delivered := by
  unfold run
  induction ops generalizing s with
  | nil => exact List.prefix_refl _
  | cons op ops ih =>
    simp only [List.foldl_cons]
    refine List.IsPrefix.trans ?_ (ih (step s op))
    rcases step_delivered s op with h | ⟨l, h⟩ <;> rw [h]
    · exact List.prefix_refl _
    · exact List.prefix_append _ _

/-- bytes fetched or fetchable but not yet looked at -/
def pending (s : Follow) : Nat := s.buf.length + (s.file.length - s.pos)

theorem poll_pending (s : Follow) (k : Nat) (hc : 1 ≤ s.cap) : pending (step s (.poll k)) ≤ pending s - 1 := by
  have key := (avail_spec s k).2.2.1
  -- at the end of what there is nothing is pending (the capacity is positive)
  have hnil : avail s k = [] → s.buf = [] ∧ s.file.length - s.pos = 0 := by
    intro ha
    refine ⟨buf_of_avail_nil ha, ?_⟩
    have := congrArg List.length ha
    simp only [avail, buf_of_avail_nil ha, if_true, List.length_take, List.length_drop, List.length_nil] at this
    omega
  rcases poll_cases s k with ⟨ha, _, e⟩ | ⟨ha, _, e⟩ | ⟨pre, rest, ha, _, e⟩ | ⟨ha, _, e⟩ <;> rw [e]
  · simp [pending, hnil ha]
  · simp [pending, hnil ha]
  · rw [ha] at key; simp [pending] at key ⊢; omega
  · have : (avail s k).length ≠ 0 := fun h => ha (List.eq_nil_of_length_eq_zero h)
    simp only [pending, List.length_nil, Nat.zero_add]; omega

theorem run_polls_pending (s : Follow) (ks : List Nat) (hc : 1 ≤ s.cap) :
    pending (run s (ks.map .poll)) ≤ pending s - ks.length := by
  unfold run
  induction ks generalizing s with
  | nil => simp
  | cons k ks ih =>
    simp only [List.map_cons, List.foldl_cons, List.length_cons]
    have h1 := poll_pending s k hc
    have hc' : 1 ≤ (step s (.poll k)).cap := by rw [(poll_frame s k).2.2]; exact hc
    have h2 := ih (step s (.poll k)) hc'
    omega

theorem run_polls_frame (s : Follow) (ks : List Nat) :
    (run s (ks.map .poll)).file = s.file ∧ (run s (ks.map .poll)).start = s.start := by
  unfold run
  induction ks generalizing s with
  | nil => simp
  | cons k ks ih =>
    simp only [List.map_cons, List.foldl_cons]
    have h := ih (step s (.poll k))
    have f := poll_frame s k
    exact ⟨h.1.trans f.1, h.2.trans f.2.1⟩

/-- nothing pending: everything from the start offset has been looked at, so all complete lines are out -/
theorem delivered_of_pending_zero (s : Follow) (h : Inv s) (hp : pending s = 0) :
    s.delivered = completeLines (s.file.drop s.start) ∧ s.acc = tailOf (s.file.drop s.start) := by
  obtain ⟨h1, h2, h3, h4, _⟩ := h
  unfold pending at hp
  have hb : s.buf = [] := List.eq_nil_of_length_eq_zero (by omega)
  have hd : s.file.drop s.pos = [] := List.drop_eq_nil_of_le (by omega)
  rw [hb, hd] at h1
  simp only [List.append_nil] at h1
  have := completeLines_unique s.delivered s.acc h3 h2
  rw [h1] at this
  exact ⟨this.1.symm, this.2.symm⟩

theorem inv_delivered_prefix (s : Follow) (h : Inv s) : s.delivered <+: completeLines (s.file.drop s.start) := by
  obtain ⟨h1, _, h3, _, _⟩ := h
  have : completeLines (s.file.drop s.start) =
      s.delivered ++ completeLines (s.acc ++ s.buf ++ s.file.drop s.pos) := by
    rw [← completeLines_wire_append s.delivered _ h3, ← h1]
    simp [List.append_assoc]
  rw [this]
  exact List.prefix_append _ _

end Reader
end Sqlgrep
