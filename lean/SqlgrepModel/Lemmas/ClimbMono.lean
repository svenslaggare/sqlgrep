import SqlgrepModel.Lemmas.ParseBind
/-
Fuel monotonicity of the expression parser (`Parse.parseExpr` … `Parse.parseList`): more fuel never changes an
answer that is not "out of fuel". Stated with the flat order `PLe` (out of fuel below everything) and proved for the
six mutually recursive functions at once by induction on the fuel.
-/
namespace Sqlgrep.Parse
variable {α β : Type}

/-- flat order on results: out of fuel is below everything -/
def PLe {α : Type} (a b : PRes α) : Prop := a = .fuel ∨ a = b

theorem PLe.refl {α} (a : PRes α) : PLe a a := Or.inr rfl
theorem PLe.fuel {α} (b : PRes α) : PLe .fuel b := Or.inl rfl
theorem PLe.trans {α} {a b c : PRes α} (h1 : PLe a b) (h2 : PLe b c) : PLe a c := by
  rcases h1 with h | h
  · exact Or.inl h
  · rw [h]; exact h2
theorem PLe.eq_of_ne {α} {a b : PRes α} (h : PLe a b) (hne : a ≠ .fuel) : b = a := by
  rcases h with h | h
  · exact absurd h hne
  · exact h.symm

theorem PLe.of_step {F : Nat → PRes α} (h : ∀ n, PLe (F n) (F (n + 1))) {f f' : Nat} (hle : f ≤ f') : PLe (F f) (F f') := by
  induction hle with
  | refl => exact .refl _
  | step _ ih => exact ih.trans (h _)

theorem PLe.mono_eq {F : Nat → PRes α} (h : ∀ n, PLe (F n) (F (n + 1))) {f f' : Nat} (hle : f ≤ f') {r : PRes α}
    (hr : F f = r) (hne : r ≠ .fuel) : F f' = r := by
  subst hr; exact (PLe.of_step h hle).eq_of_ne hne

theorem PLe.bind {x x' : PRes α} {K K' : α → PSt → PRes β} (hx : PLe x x') (hK : ∀ a s, PLe (K a s) (K' a s)) :
    PLe (x.bind K) (x'.bind K') := by
  rcases hx with rfl | rfl
  · exact .fuel _
  · cases x with
    | ok a s => exact hK a s
    | err e s => exact .refl _
    | fuel => exact .refl _

theorem PLe.ite {c : Prop} {i i' : Decidable c} {a a' b b' : PRes β} (ha : c → PLe a a') (hb : ¬ c → PLe b b') :
    PLe (@ite _ c i a b) (@ite _ c i' a' b') := by
  by_cases h : c
  · rw [if_pos h, if_pos h]; exact ha h
  · rw [if_neg h, if_neg h]; exact hb h

/-- the `( expr` site, where the state left by a failed sub-parse is inspected -/
theorem PLe.inspect {x x' : PRes PExpr} {fok fok' : PExpr → PSt → PRes β} {ferr ferr' : PErr → PSt → PRes β}
    (hx : PLe x x') (hok : ∀ a s, PLe (fok a s) (fok' a s)) (herr : ∀ e s, PLe (ferr e s) (ferr' e s)) :
    PLe (parsePrimary.match_1 (fun _ => PRes β) x (fun _ => .fuel) ferr fok)
      (parsePrimary.match_1 (fun _ => PRes β) x' (fun _ => .fuel) ferr' fok') := by
  rcases hx with rfl | rfl
  · exact .fuel _
  · cases x with
    | ok a s => exact hok a s
    | err e s => exact herr e s
    | fuel => exact .refl _

/-- `mono_walk [facts]` walks a function body in `bind` form, the run with less fuel beside the run with more: what is
the same in both runs is closed by reflexivity, `bind`, `if` and the inspected call go by their rules, a call that takes
fuel by the fact about it in the list; a `match` has the same scrutinee in both runs and is split for both at once. -/
macro "mono_walk" "[" ls:Lean.Parser.Tactic.simpLemma,* "]" : tactic => `(tactic| repeat' first
  | with_reducible first
    | exact PLe.refl _
    | refine PLe.bind ?_ (fun _ _ => ?_)
    | refine PLe.ite (fun _ => ?_) (fun _ => ?_)
    | refine PLe.inspect ?_ (fun _ _ => ?_) (fun _ _ => ?_)
  | simp only [$ls,*]
  | split)

variable (T : PrecTables)

structure MonoIH (n : Nat) : Prop where
  e : ∀ s, PLe (parseExpr T n s) (parseExpr T (n+1) s)
  r : ∀ p l s, PLe (parseRhs T n p l s) (parseRhs T (n+1) p l s)
  u : ∀ s, PLe (parseUnary T n s) (parseUnary T (n+1) s)
  p : ∀ s, PLe (parsePrimary T n s) (parsePrimary T (n+1) s)
  c : ∀ loc cl s, PLe (parseCase T n loc cl s) (parseCase T (n+1) loc cl s)
  l : ∀ c acc s, PLe (parseList T n c acc s) (parseList T (n+1) c acc s)

theorem mono_all (n : Nat) : MonoIH T n := by
  induction n with
  | zero =>
    refine ⟨?_, ?_, ?_, ?_, ?_, ?_⟩ <;> intros <;> apply Or.inl
    · rw [parseExpr]
    · rw [parseRhs]
    · rw [parseUnary]
    · rw [parsePrimary]
    · rw [parseCase]
    · rw [parseList]
  | succ n ih =>
    refine ⟨?_, ?_, ?_, ?_, ?_, ?_⟩ <;> intros
    · rw [parseExpr, parseExpr]; simp only [parse_bind]; mono_walk [ih.u, ih.r]
    · rw [parseRhs, parseRhs]; simp only [parse_bind]; mono_walk [ih.e, ih.r, ih.u, ih.l]
    · rw [parseUnary, parseUnary]; simp only [parse_bind]; mono_walk [ih.r, ih.u, ih.p]
    · rw [parsePrimary, parsePrimary]; simp only [parse_bind]; mono_walk [ih.e, ih.c, ih.l]
    · rw [parseCase, parseCase]; simp only [parse_bind]; mono_walk [ih.e, ih.c]
    · rw [parseList, parseList]; simp only [parse_bind]; mono_walk [ih.e, ih.l]

theorem fuel_mono_expr {f f' : Nat} (h : f ≤ f') {s : PSt} {r : PRes PExpr}
    (hr : parseExpr T f s = r) (hne : r ≠ .fuel) : parseExpr T f' s = r :=
  PLe.mono_eq (fun n => (mono_all T n).e s) h hr hne

theorem fuel_mono_rhs {f f' : Nat} (h : f ≤ f') {p : Int} {l : PExpr} {s : PSt} {r : PRes PExpr}
    (hr : parseRhs T f p l s = r) (hne : r ≠ .fuel) : parseRhs T f' p l s = r :=
  PLe.mono_eq (fun n => (mono_all T n).r p l s) h hr hne

theorem fuel_mono_unary {f f' : Nat} (h : f ≤ f') {s : PSt} {r : PRes PExpr}
    (hr : parseUnary T f s = r) (hne : r ≠ .fuel) : parseUnary T f' s = r :=
  PLe.mono_eq (fun n => (mono_all T n).u s) h hr hne

theorem fuel_mono_primary {f f' : Nat} (h : f ≤ f') {s : PSt} {r : PRes PExpr}
    (hr : parsePrimary T f s = r) (hne : r ≠ .fuel) : parsePrimary T f' s = r :=
  PLe.mono_eq (fun n => (mono_all T n).p s) h hr hne

theorem fuel_mono_case {f f' : Nat} (h : f ≤ f') {loc : Loc} {cl : List (PExpr × PExpr)} {s : PSt} {r : PRes PExpr}
    (hr : parseCase T f loc cl s = r) (hne : r ≠ .fuel) : parseCase T f' loc cl s = r :=
  PLe.mono_eq (fun n => (mono_all T n).c loc cl s) h hr hne

theorem fuel_mono_list {f f' : Nat} (h : f ≤ f') {c : Tok} {acc : List PExpr} {s : PSt} {r : PRes (List PExpr)}
    (hr : parseList T f c acc s = r) (hne : r ≠ .fuel) : parseList T f' c acc s = r :=
  PLe.mono_eq (fun n => (mono_all T n).l c acc s) h hr hne

end Sqlgrep.Parse
