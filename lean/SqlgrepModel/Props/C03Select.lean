import SqlgrepModel.Lemmas.SelectRun
import SqlgrepModel.Model.Lower
/-
C03 (statement level) — a query without aggregates outputs, in input order, exactly one row for every admitted
input row on which WHERE is true, containing the projected expressions evaluated on that row alone; `*` expands
to all columns in definition order; `input` denotes the raw line; column names are the alias, else the column
name, else p<i>.

`Spec.Select` is the sentence as an executable definition (rows of a line = WHERE then projections on that
line's own environment; the run = the lines' rows in order). The refinement `runBatch = spec` is proved in
`Lemmas/SelectRun.lean` (for any number of files, with joins, DISTINCT and LIMIT); here it is stated for the
plain statements C03 speaks about, together with the facts about `*`, `input` and the names.
-/
namespace Sqlgrep.Props.C03Select
open Sqlgrep Sqlgrep.Spec.Select

/-- **the run is the specification**: whenever every line of the input evaluates (no error on any processed row —
the error case is `error_is_reported` below), the batch run of a non-aggregate statement prints exactly the
specified rows: the lines' rows, in input order, after DISTINCT and LIMIT -/
theorem select_run_is_spec (O : Oracles) (qy : Query) (q : SelectStmt) (hq : qy.stmt = .select q)
    (joined : List FileLine) (files : List (List FileLine)) (blocks : List (List (List Value)))
    (hb : batchBlocks O qy q joined files = some blocks) :
    runBatch O qy joined files none = runOf qy q blocks :=
  runBatch_select_eq_spec O qy q hq joined files blocks hb

/-- without DISTINCT and LIMIT the output is the rows of the lines, in input order, nothing else; every line is read -/
theorem plain_select_output (O : Oracles) (qy : Query) (q : SelectStmt) (hq : qy.stmt = .select q)
    (hd : q.distinct = false) (hl : q.limit = none)
    (joined : List FileLine) (files : List (List FileLine)) (blocks : List (List (List Value)))
    (hb : batchBlocks O qy q joined files = some blocks) :
    (runBatch O qy joined files none).printed = render (columnsOf qy q) blocks ∧
    (runBatch O qy joined files none).totalLines = blocks.length ∧
    (runBatch O qy joined files none).error = none := by
  rw [runBatch_select_eq_spec O qy q hq joined files blocks hb]
  simp [runOf, outBlocks, applyLimit, applyDistinct, linesConsumed, hd, hl]

/-- a line that is not admitted contributes no row -/
theorem not_admitted_no_row (O : Oracles) (qy : Query) (q : SelectStmt) (idx : JoinIndex) (l : Line)
    (h : anyResult l.row = false) : lineRows O qy q idx l = .ok [] := by
  simp [lineRows, h]

/-- **one row per qualifying row, evaluated on that row alone**: without a join, the rows of an admitted line are
decided by that line's own environment (its columns, their table-qualified names and `input`): the projected
values if WHERE is true on it, nothing otherwise — no other line, no state enters -/
theorem one_row_per_qualifying_row (O : Oracles) (qy : Query) (q : SelectStmt) (idx : JoinIndex) (l : Line)
    (hj : qy.join = none) (ha : anyResult l.row = true) :
    lineRows O qy q idx l =
      (envRow O q (envOfInsertions (columnsMapping qy.table l.row l.text)) qy.table.columns).bind
        (fun r => .ok r.toList) := by
  simp only [lineRows, ha, Bool.not_true, Bool.false_eq_true, if_false, lineEnvs, hj]
  show Outcome.bind _ _ = _
  simp only [Outcome.bind, envsRows]
  cases envRow O q (envOfInsertions (columnsMapping qy.table l.row l.text)) qy.table.columns <;>
    simp [Bind.bind, Outcome.bind, Pure.pure]

/-- at most one row per line (no join) -/
theorem at_most_one_row (O : Oracles) (qy : Query) (q : SelectStmt) (idx : JoinIndex) (l : Line) (rows : List (List Value))
    (hj : qy.join = none) (h : lineRows O qy q idx l = .ok rows) : rows.length ≤ 1 := by
  by_cases ha : anyResult l.row = true
  · rw [one_row_per_qualifying_row O qy q idx l hj ha] at h
    obtain ⟨r, _, h⟩ := Outcome.bind_eq_ok h
    rw [← Outcome.ok.inj h]; cases r <;> simp
  · have : anyResult l.row = false := by simpa using ha
    rw [not_admitted_no_row O qy q idx l this] at h
    simp only [Outcome.ok.injEq] at h
    rw [← h]; simp

/-- `*` names the columns in definition order -/
theorem wildcard_is_definition_order (qy : Query) (q : SelectStmt) (hw : q.wildcard = true) (hj : qy.join = none) :
    columnsOf qy q = qy.table.columns := by
  simp [columnsOf, outNames, queryKeys, hw, hj]

/-- … and evaluates them in that order -/
theorem wildcard_values_definition_order (q : SelectStmt) (keys : List String) (hw : q.wildcard = true) :
    outExprs q keys = keys.map Expr.column := by
  simp [outExprs, hw]

/-- `input` denotes the raw line (whatever the columns are called: the binding for `input` is made last) -/
theorem input_is_raw_line (O : Oracles) (t : TableInfo) (row : List Value) (line : Bytes) :
    eval O (envOfInsertions (columnsMapping t row line)) (.column "input") = .ok (.text line) := by
  have : (envOfInsertions (columnsMapping t row line)).get .table "input" = some (.text line) := by
    simp only [envOfInsertions, columnsMapping, Env.get, List.reverse_append]
    rfl
  show Outcome.ofOption .columnNotFound ((envOfInsertions (columnsMapping t row line)).get .table "input") = _
  rw [this]
  rfl

/-- an admitted line of a statement without a join is one call of `selectOne`, on the line's own environment -/
theorem executeLine_select_nojoin (O : Oracles) (qy : Query) (q : SelectStmt) (hq : qy.stmt = .select q)
    (hj : qy.join = none) (idx : JoinIndex) (w : Bool) (es : EngineState) (l : Line) (hadm : anyResult l.row = true) :
    executeLine O qy idx w es l =
      (selectOne O q es.seen (envOfInsertions (columnsMapping qy.table l.row l.text)) qy.table.columns).bind fun p =>
        .ok (updateLimit true q.limit { es with seen := p.1 } (extendOut none p.2)) := by
  rw [executeLine_select_row O idx es hq w hadm]
  simp only [lineEnvs, hj, Outcome.ok_bind, selectEnvs, Outcome.bind_def, Outcome.bind_assoc]

/-- an expression without a value on a processed row makes the run report an error, not emit a row: the
specification has no answer then, and the model's run carries the error -/
theorem error_is_reported (O : Oracles) (qy : Query) (idx : JoinIndex) (w : Bool) (ls : LoopState) (fl : FileLine)
    (rest : List FileLine) (k : ErrKind) (hr : fl.readable = true)
    (hx : executeLine O qy idx w ls.es fl.line = .error k) :
    (runFile O qy idx w none (fl :: rest) ls).out.error = some k ∧
    (runFile O qy idx w none (fl :: rest) ls).out.printed = ls.out.printed := by
  simp [runFile, hr, hx, failWith]

/-- **column names: the alias, else the column name, else p<i>** — for every select list that lowers, the j-th
output column is named by its alias if it has one, else by the column it plainly accesses, else `p<i+j>` -/
theorem projection_names (ps : List (Option (List Char) × PExpr)) (i : Nat) (out : List (String × Expr))
    (h : Lower.lowerProjections ps i = .ok out) :
    out.length = ps.length ∧
    ∀ j (hj : j < ps.length) (hj' : j < out.length),
      out[j].1 = match ps[j].1 with
        | some a => Lower.str a
        | none => match out[j].2 with
          | .column c => c
          | _ => "p" ++ toString (i + j) := by
  induction ps generalizing i out with
  | nil =>
    simp only [Lower.lowerProjections, LRes.ok.injEq] at h
    subst h
    exact ⟨rfl, fun j hj => absurd hj (by simp)⟩
  | cons p rest ih =>
    obtain ⟨name, tree⟩ := p
    unfold Lower.lowerProjections at h
    cases he : Lower.lowerPlain tree with
    | ok e =>
      rw [he] at h
      simp only at h
      cases hr : Lower.lowerProjections rest (i + 1) with
      | ok psr =>
        rw [hr] at h
        simp only [LRes.ok.injEq] at h
        subst h
        obtain ⟨hlen, hnames⟩ := ih (i + 1) psr hr
        refine ⟨by simp [hlen], ?_⟩
        intro j hj hj'
        cases j with
        | zero =>
          cases name with
          | some a => simp [Option.map, Option.getD]
          | none =>
            simp only [Option.map, Option.getD, List.getElem_cons_zero, Nat.add_zero]
            cases e <;> rfl
        | succ j =>
          have := hnames j (by simpa using hj) (by simpa using hj')
          simp only [List.getElem_cons_succ]
          rw [this]
          have e : i + 1 + j = i + (j + 1) := by omega
          rw [e]
      | _ => rw [hr] at h; simp at h
    | _ => rw [he] at h; simp at h

example : (match Lower.lowerProjections [(none, .column ⟨0, 0⟩ "x".toList), (some "y".toList, .value ⟨0, 0⟩ (.int 1)),
      (none, .value ⟨0, 0⟩ (.int 2))] 0 with
    | .ok ps => some (ps.map (·.1))
    | _ => none) = some ["x", "y", "p2"] := by decide +kernel

end Sqlgrep.Props.C03Select
