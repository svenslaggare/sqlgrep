import SqlgrepModel.Spec.JsonGrammar
import SqlgrepModel.Lemmas.PrintGrammar
import SqlgrepModel.Lemmas.PrintReal
import SqlgrepModel.Lemmas.JsonParser
import SqlgrepModel.Lemmas.Utf8Valid
import SqlgrepModel.Props.C17
/-
C17, the JSON clause — "In JSON format each record is a valid JSON object whose keys are the (distinct)
output column names in order and whose values recover the row exactly ..." — against the grammar of
RFC 8259 itself.

`Spec/JsonGrammar.lean` transcribes the RFC's ABNF as inductive predicates over character lists
(`JsonGrammar.Val`, `.Obj`, `.Arr`, `.Str`, `.Num`, `.Ws`, ...; written from the RFC, importing nothing of
the model) together with the denotation of a text (`ValD`, `ObjD`, `StrD`, `NumD`: the same rules, each
carrying the JSON value it stands for — strings by the escape table of §7, numbers as `mant × 10^exp`).
The grammar is unambiguous: a text has at most one denotation (`json_denotation_unique`, proved through an
executable parser that decides the denotation — sound and complete —, `Lemmas/JsonParser.lean`), so "the denotation of the
printed line" is a function of the line and any reader that implements the RFC reads exactly it.
"Valid JSON object" in this file means `JsonGrammar.Obj`, and "values recover the row" means the
denotation `JsonGrammar.ObjD`; neither `readObject` nor `jsonUnescape` (the readers of
`Lemmas/PrintJson.lean` / `PrintString.lean` used by `Props/C17.lean`) occurs in any statement below.

Bytes and characters: the model prints UTF-8 bytes, the grammar speaks about Unicode characters, and
RFC 8259 §8.1 says how the two meet: a JSON text is exchanged as the UTF-8 encoding of its characters.
So "the printed line `b` is a JSON object" is stated as `∃ line, Utf8.encode line = b ∧ Obj line`.
TEXT payloads and column names are byte strings in the model; they are Rust `String`s in the code, hence
valid UTF-8, which is the hypothesis `IsUtf8` (implied by `Reader.validUtf8 s = true`: `utf8_check_decides`; the converse
is not proved).

What the theorems are about: `Print.renderRecord o .json` — the record line inside `Print.printAll`, the
function the `print` driver executes — for ANY row: INT, finite REAL (the shipped ryu text, assumed to be
a JSON number: `RealTextsOk`, a decidable check per text that the `print` driver evaluates on every case) and non-finite REAL (→ `null`), TEXT with any
characters, BOOLEAN, NULL, arrays of any depth, timestamps, intervals; and any column names.
-/
namespace Sqlgrep.Props.C17Json
open Sqlgrep Sqlgrep.Print Sqlgrep.Utf8 Sqlgrep.JsonGrammar

/-- A text that has a denotation is a text of the plain RFC grammar, for every nonterminal: the
denotation relations of `Spec/JsonGrammar.lean` Part 2 never accept more than Part 1. -/
theorem denotation_refines_grammar :
    (∀ cs x, ValD cs x → Val cs) ∧ (∀ cs ms, ObjD cs ms → Obj cs) ∧ (∀ cs xs, ArrD cs xs → Arr cs)
    ∧ (∀ cs s, StrD cs s → Str cs) ∧ (∀ cs d, NumD cs d → Num cs) :=
  ⟨fun _ _ h => h.val, fun _ _ h => h.obj, fun _ _ h => h.arr, fun _ _ h => h.str, fun _ _ h => h.num⟩

/-- an `object` is a `value`, and a `value` without surrounding whitespace is a `JSON-text` (§2) -/
theorem object_is_json_text (cs : List Char) (h : Obj cs) : JsonText cs :=
  ⟨[], cs, [], ws_nil, .object h, ws_nil, by simp⟩

/-- **The grammar is unambiguous, and decidable.** A text denotes at most one JSON value, an object text
has exactly one member list, a string text one character sequence. `parseJson` (an executable parser,
`Lemmas/JsonParser.lean`) DECIDES the grammar's denotation: it returns `x` exactly when the text is a
`JSON-text = ws value ws` whose value denotes `x`. So the inductive grammar can be evaluated on concrete
texts (`decide`), acceptance and rejection alike, and any conforming reader reads the same value. -/
theorem json_denotation_unique :
    (∀ cs x x', ValD cs x → ValD cs x' → x = x')
    ∧ (∀ cs ms ms', ObjD cs ms → ObjD cs ms' → ms = ms')
    ∧ (∀ cs s s', StrD cs s → StrD cs s' → s = s')
    ∧ (∀ cs x, parseJson cs = some x ↔ JsonTextD cs x) :=
  ⟨fun _ _ _ h h' => h.unique h', fun _ _ _ h h' => h.unique h', fun _ _ _ h h' => h.unique h', parseJson_iff⟩

/-- `numValue` / `isJsonNumber` (the executable check assumed of the REAL texts) is exact for §6:
it computes `d` iff the grammar says the text is a `number` denoting `d`. In particular a `number` has
one denotation, and `isJsonNumber cs = true` implies `Num cs`. -/
theorem isJsonNumber_exact (cs : List Char) :
    (∀ d, numValue cs = some d ↔ NumD cs d) ∧ (isJsonNumber cs = true → Num cs) :=
  ⟨fun _ => ⟨numValue_sound, numValue_complete⟩, isJsonNumber_sound⟩

/-- `intText_is_json_number`: the decimal rendering of ANY integer (all of i64 and beyond) is a `number`
of RFC 8259 §6 — outright, no oracle —, the number it denotes is that integer (`i × 10^0`), its bytes are
ASCII, and it passes the check `isJsonNumberBytes` that is assumed of the REAL texts. -/
theorem intText_is_json_number (i : Int) :
    Num (chars (renderInt i)) ∧ NumD (chars (renderInt i)) ⟨i, 0⟩
    ∧ encode (chars (renderInt i)) = renderInt i ∧ isJsonNumberBytes (renderInt i) = true :=
  ⟨(renderInt_denotes i).num, renderInt_denotes i, encode_chars (renderInt_ascii i), isJsonNumberBytes_renderInt i⟩

/-- String-level faithfulness, for EVERY sequence of Unicode characters `cs` (quotes, backslashes, all
control characters, characters outside the BMP, ...): the token serde_json's writer emits for the text
(`renderString` on its UTF-8 bytes) is the UTF-8 encoding of a `string` of RFC 8259 §7, and that string
denotes exactly `cs` — by the grammar's escape table (`JsonGrammar.escapeTable`, `\uXXXX`), not by
`jsonUnescape`. -/
theorem printed_string_is_json_string (cs : List Char) :
    ∃ t, encode t = renderString (encode cs) ∧ Str t ∧ StrD t cs := by
  obtain ⟨t, h1, h2⟩ := renderString_denotes cs
  exact ⟨t, h1, h2.str, h2⟩

/-- the same for a TEXT cell / a column name given as bytes: valid UTF-8 is all that is needed -/
theorem printed_text_is_json_string (s : Bytes) (h : IsUtf8 s) :
    ∃ t cs, encode t = renderString s ∧ Str t ∧ StrD t cs ∧ encode cs = s := by
  obtain ⟨cs, rfl⟩ := h
  obtain ⟨t, h1, h2, h3⟩ := printed_string_is_json_string cs
  exact ⟨t, cs, h1, h2, h3, rfl⟩

/-- what `std::str::from_utf8` checks (`Reader.validUtf8`, the model of that check) implies `IsUtf8`: every
byte string it accepts is the encoding of a character sequence. Every Rust `String` passes it. (Only this direction
is proved; the name says more.) -/
theorem utf8_check_decides (s : Bytes) (h : Reader.validUtf8 s = true) : IsUtf8 s := isUtf8_of_valid h

/-- **Every result row, any column names.** The line the JSON printer emits for a row is the UTF-8
encoding of a text derived from `object` (RFC 8259 §4) — for rows of any values (INT, finite and
non-finite REAL, TEXT with any characters, BOOLEAN, NULL, arrays at any depth, timestamps, intervals),
for any column names (repeated names and a column list shorter or longer than the row included: neither
`Nodup` nor equal lengths is assumed). Hypotheses: column names and TEXT payloads are valid
UTF-8 (Rust `String`s), and the text shipped for each finite REAL of the row is a JSON number (`RealTextsOk`, decidable;
`RealTextOk o` — the same for all REALs — implies it). -/
theorem printed_record_is_json (o : RealOracle) (cols : List Bytes) (row : List Value)
    (hreal : ∀ v ∈ row, RealTextsOk o v) (hcols : ∀ c ∈ cols, IsUtf8 c) (htexts : ∀ v ∈ row, ∀ s ∈ allTexts v, IsUtf8 s) :
    ∃ line : List Char, encode line = renderRecord o .json cols row ∧ Obj line ∧ JsonText line := by
  obtain ⟨line, ms, h1, h2⟩ := record_is_object o cols row hreal hcols htexts
  exact ⟨line, h1, h2.obj, object_is_json_text line h2.obj⟩

/-- **The whole output of a JSON printer** (`printAll`: any sequence of `print` calls, any state): every
line handed to `println` is either the blank separator line or the UTF-8 encoding of a JSON object. -/
theorem printed_json_lines_are_json (o : RealOracle) (first : Bool) (seq : List (ResultRow × Bool))
    (hreal : ∀ cr ∈ allRows seq, ∀ v ∈ cr.2, RealTextsOk o v)
    (hcols : ∀ cr ∈ allRows seq, ∀ c ∈ cr.1, IsUtf8 c)
    (htexts : ∀ cr ∈ allRows seq, ∀ v ∈ cr.2, ∀ s ∈ allTexts v, IsUtf8 s) :
    ∀ l ∈ printAll o .json first seq,
      l = .separator ∨ ∃ line : List Char, encode line = l.bytes ∧ Obj line := by
  intro l hl
  cases mem_printAll_json o l first seq hl with
  | inl h => exact Or.inl h
  | inr h =>
    obtain ⟨cr, hcr, rfl⟩ := h
    obtain ⟨line, h1, h2, _⟩ := printed_record_is_json o cr.1 cr.2 (hreal cr hcr) (hcols cr hcr) (htexts cr hcr)
    exact Or.inr ⟨line, h1, h2⟩

/-- **Keys in order, values recover the row — by the grammar's denotation.** Under distinct column names
(one cell per column), the printed line is a JSON object by the RFC grammar AND the grammar's denotation
of that text has as members, in document order, exactly the column names (`names`, whose UTF-8 bytes are
`cols`) paired with JSON values `xs` that are the cells' values (`CellDoc`): NULL → `null`, BOOLEAN →
`true`/`false`, INT `i` → the number `i × 10^0`, finite REAL → the number denoted by the shipped ryu text,
non-finite REAL → `null`, TEXT → the string of exactly its characters, arrays → arrays element by element,
TIMESTAMP / INTERVAL → the string of their text form. This is `json_record_recovers_row` of `Props/C17.lean`
with the RFC grammar in the place of `readObject` and the RFC string / number denotation in the place of
`jsonUnescape` / `parseInt`, and with REAL cells included. The member list is THE denotation of the line
(any other derivation denotes the same members), and it is what the parser `parseJson` returns. -/
theorem json_record_denotes_row (o : RealOracle) (cols : List Bytes) (row : List Value)
    (hreal : ∀ v ∈ row, RealTextsOk o v) (hd : cols.Nodup) (hl : cols.length = row.length)
    (hcols : ∀ c ∈ cols, IsUtf8 c) (htexts : ∀ v ∈ row, ∀ s ∈ allTexts v, IsUtf8 s) :
    ∃ (line : List Char) (names : List (List Char)) (xs : List JVal),
      encode line = renderRecord o .json cols row
      ∧ Obj line ∧ ObjD line (names.zip xs)
      ∧ names.map encode = cols ∧ names.length = xs.length
      ∧ AllRel (CellDoc o) row xs
      ∧ (∀ ms', ObjD line ms' → ms' = names.zip xs) ∧ parseJson line = some (.obj (names.zip xs)) := by
  obtain ⟨line, names, xs, h1, h2, h3, h4⟩ := record_denotes_row o cols row hreal hd hl hcols htexts
  refine ⟨line, names, xs, h1, h2.obj, h2, h3, ?_, h4, fun ms' h' => h'.unique h2, parseJson_complete (.object h2)⟩
  rw [← h4.length_eq, ← hl, ← h3, List.length_map]

/-- ... and for a REAL-free row the denoted members determine the row: reading every member value back
(`cellOfJVal`: number with exponent 0 → INT, string → TEXT of its UTF-8 bytes, array → array) gives the
cells, in order, up to `jsonMeaning` (timestamps / intervals as their text form, arrays without their
static element type) — the conclusion of `json_record_recovers_row`, through the grammar. -/
theorem json_record_recovers_row_rfc (o : RealOracle) (cols : List Bytes)
    (row : List Value) (hd : cols.Nodup) (hl : cols.length = row.length)
    (hcols : ∀ c ∈ cols, IsUtf8 c) (htexts : ∀ v ∈ row, ∀ s ∈ allTexts v, IsUtf8 s)
    (hnr : ∀ v ∈ row, noReal v = true) :
    ∃ (line : List Char) (ms : List (List Char × JVal)),
      encode line = renderRecord o .json cols row ∧ Obj line ∧ ObjD line ms
      ∧ ms.map (fun m => encode m.1) = cols
      ∧ ms.map (fun m => cellOfJVal m.2) = row.map (fun v => some (jsonMeaning v)) := by
  obtain ⟨line, names, xs, h1, h2, h3, h4, h5, h6, _, _⟩ := json_record_denotes_row o cols row
    (fun v hv b hb => by rw [noReal_allReals (hnr v hv)] at hb; cases hb) hd hl hcols htexts
  refine ⟨line, names.zip xs, h1, h2, h3, ?_, ?_⟩
  · have : (names.zip xs).map (fun m => encode m.1) = (names.zip xs).unzip.1.map encode := by
      simp [List.unzip_eq_map, List.map_map]
    rw [this, List.unzip_zip h5, h4]
  · have : (names.zip xs).map (fun m => cellOfJVal m.2) = (names.zip xs).unzip.2.map cellOfJVal := by
      simp [List.unzip_eq_map, List.map_map]
    rw [this, List.unzip_zip h5]
    exact map_cellOfJVal o h6 hnr

/-- REAL cells: the JSON value of a finite REAL is the number that the shipped text denotes by §6 (what
ties that number to the f64 is ryu's shortest-round-trip guarantee — outside Lean, checked on the
implementation by the harness); a non-finite REAL is `null`. -/
theorem json_real_cell (o : RealOracle) (b : Nat) (ho : RealTextsOk o (.real b)) :
    ∃ x, CellDoc o (.real b) x ∧ Renders (jsonValue o (.real b)) x
      ∧ (isFinite b = true → ∃ d, x = .num d ∧ NumD (chars (o.json b)) d)
      ∧ (isFinite b = false → x = .null) := by
  obtain ⟨x, h1, h2⟩ := cell_renders o (.real b) ho (by intro s hs; simp [allTexts] at hs)
  refine ⟨x, h1, h2, ?_, ?_⟩
  · intro hf
    cases h1 with
    | real _ hd => exact ⟨_, rfl, numValue_sound hd⟩
    | realNonFinite hn => rw [hf] at hn; cases hn
  · intro hf
    cases h1 with
    | real hn _ => rw [hf] at hn; cases hn
    | realNonFinite _ => rfl

/-- **json_real_reads_back.** A finite REAL cell, printed in JSON format and parsed again by the RFC 8259 grammar with
nearest rounding, gives the same REAL. Hypotheses, both decidable and both evaluated on every case by the `print` driver
(a case violating one answers `hypothesis-violated`; `Drivers/FactCheck.lean` answers `fact-mismatch real-json-roundtrip` /
`real-roundtrip`): the shipped text is an ASCII JSON number (`RealTextsOk`) and reads back (`RealReadsBack`:
`JsonDoc.readReal (chars (o.json b)) = some b`). Conclusion: the printed cell is the UTF-8 of a `number` text `cs` denoting
the decimal `d` (the `d` of `CellDoc` / `json_record_denotes_row`), and
* `decToF64` of `d` with the sign of the text is `b` — so `-0.0`, printed `-0.0`, comes back as `-0.0` although its
  denotation `⟨0, -1⟩` carries no sign (L1 on the output side);
* for `b` other than `±0` that is `nearestReal d = b`: the REAL is recovered from the DENOTATION alone;
* `f64::from_str` of the text (`DecFloat.parseF64`) is `b` — when the text's exponent digits' value is below 65 536
  (`FloatGrammar.ExpSmall`, decidable on the text; beyond it Rust stops reading the exponent: observation N3 of DESIGN.md —
  ryu never prints more than three exponent digits);
* sqlgrep's own JSON reader (`JsonDoc.serdeNumber`, the one `docOfLine` executes) reads a number whose REAL is `b`: feeding
  the printed record back into a REAL JSON-path column returns the cell. -/
theorem json_real_reads_back (o : RealOracle) (b : Nat) (hf : isFinite b = true)
    (ho : RealTextsOk o (.real b)) (hr : RealReadsBack o (.real b)) :
    ∃ (cs : List Char) (d : Dec),
      encode cs = (jsonValue o (.real b)).render ∧ NumD cs d ∧ CellDoc o (.real b) (.num d)
      ∧ JsonDoc.realOfDec (JsonDoc.lexNeg cs) d = b
      ∧ (b % 2 ^ 63 ≠ 0 → JsonDoc.nearestReal d = b)
      ∧ (FloatGrammar.ExpSmall cs → DecFloat.parseF64 cs = some b)
      ∧ ∃ n, JsonDoc.serdeNumber cs = some n ∧ (Sqlgrep.Json.num n).asF64 = some b := by
  have hmem : b ∈ allReals (.real b) := by simp [allReals]
  obtain ⟨ha, _⟩ := isJsonNumberBytes_sound (ho b hmem hf)
  obtain ⟨d, hd, hD, h1, h2, h3, h4⟩ := readsBack_spec o b hf (hr b hmem hf)
  refine ⟨chars (o.json b), d, ?_, hD, .real hf hd, h1, h2, h3, h4⟩
  simp only [jsonValue, hf, if_true]
  exact encode_chars ha

/-- … for every REAL of a row (array elements at any depth included): with the two checked hypotheses on each cell, every
finite REAL `b` of the row is printed as a `number` whose denotation, rounded to the nearest REAL with the sign of the
text, is `b`. Together with `json_record_denotes_row` (whose `CellDoc` pins the member's value to that denotation):
"finite REAL as numbers without loss". -/
theorem json_record_reals_read_back (o : RealOracle) (row : List Value)
    (hr : ∀ v ∈ row, RealReadsBack o v) :
    ∀ v ∈ row, ∀ b ∈ allReals v, isFinite b = true →
      ∃ d, numValue (chars (o.json b)) = some d ∧ NumD (chars (o.json b)) d
        ∧ JsonDoc.realOfDec (JsonDoc.lexNeg (chars (o.json b))) d = b
        ∧ (b % 2 ^ 63 ≠ 0 → JsonDoc.nearestReal d = b)
        ∧ (FloatGrammar.ExpSmall (chars (o.json b)) → DecFloat.parseF64 (chars (o.json b)) = some b) := by
  intro v hv b hb hf
  obtain ⟨d, hd, hD, h1, h2, h3, _⟩ := readsBack_spec o b hf (hr v hv b hb hf)
  exact ⟨d, hd, hD, h1, h2, h3⟩

/-! ## non-vacuity -/

/-- `a"b\c⏎␁😀` — a quote, a backslash, a line feed, the control character U+0001, a non-BMP character -/
def awkward : List Char := ['a', '"', 'b', '\\', 'c', '\n', Char.ofNat 1, '😀']

-- its UTF-8 bytes (the TEXT payload the model sees), and what the printer writes for it
example : encode awkward = [97, 34, 98, 92, 99, 10, 1, 240, 159, 152, 128] := by decide +kernel

example : renderString (encode awkward)
    = encode ['"', 'a', '\\', '"', 'b', '\\', '\\', 'c', '\\', 'n', '\\', 'u', '0', '0', '0', '1', '😀', '"'] := by
  decide +kernel

-- that token is a `string` of the grammar denoting `awkward` (instance of `printed_string_is_json_string`)
example : StrD ['"', 'a', '\\', '"', 'b', '\\', '\\', 'c', '\\', 'n', '\\', 'u', '0', '0', '0', '1', '😀', '"'] awkward :=
  .mk (escape_denotes awkward)

-- the grammar also reads what the printer never writes: `\/`, upper-case hex, a surrogate pair (U+1F600)
example : StrCharD ['\\', '/'] '/' := .escape (by decide)
example : StrCharD ['\\', 'u', '0', '0', 'E', '9'] 'é' := .unicode (n := 0xE9) (by decide) (Or.inl (by decide))
example : StrCharD ['\\', 'u', 'D', '8', '3', 'D', '\\', 'u', 'D', 'E', '0', '0'] '😀' :=
  .surrogates (hi := 0xD83D) (lo := 0xDE00) (by decide) (by decide) (by decide) (by decide) (by decide) (by decide)

-- numbers: accepted with their denotation, and rejected
example : numValue ['-', '1', '2', '.', '5', '0', 'e', '+', '3'] = some ⟨-1250, 1⟩ := by decide
example : numValue ['0'] = some ⟨0, 0⟩ ∧ numValue ['-', '0'] = some ⟨0, 0⟩
    ∧ numValue ['1', 'E', '-', '7'] = some ⟨1, -7⟩ := by decide
example : isJsonNumber ['0', '1'] = false ∧ isJsonNumber ['1', '.'] = false ∧ isJsonNumber ['+', '1'] = false
    ∧ isJsonNumber ['.', '5'] = false ∧ isJsonNumber ['-'] = false ∧ isJsonNumber ['1', 'e'] = false
    ∧ isJsonNumber [] = false ∧ isJsonNumber ['N', 'a', 'N'] = false ∧ isJsonNumber ['1', ' '] = false := by decide +kernel

-- the i64 extremes and a negative INT (instances of `intText_is_json_number`)
example : chars (renderInt (-9223372036854775808))
    = ['-', '9', '2', '2', '3', '3', '7', '2', '0', '3', '6', '8', '5', '4', '7', '7', '5', '8', '0', '8'] := by
  decide +kernel
example : NumD (chars (renderInt (-9223372036854775808))) ⟨-9223372036854775808, 0⟩ := renderInt_denotes _
example : NumD (chars (renderInt 9223372036854775807)) ⟨9223372036854775807, 0⟩ := renderInt_denotes _
example : NumD (chars (renderInt (-42))) ⟨-42, 0⟩ := renderInt_denotes _

/-- an oracle shipping `1.5` for every REAL (as in `Props/C17.lean`), and one shipping an exponent form -/
def o1 : RealOracle := { fixed2 := fun _ => [49, 46, 53, 48], json := fun _ => [49, 46, 53] }
def o2 : RealOracle := { fixed2 := fun _ => [], json := fun _ => [49, 46, 55, 101, 51, 48, 56] }   -- 1.7e308

theorem o1_ok : RealTextOk o1 := by intro b _; show isJsonNumberBytes [49, 46, 53] = true; decide
example : RealTextOk o2 := by intro b _; show isJsonNumberBytes [49, 46, 55, 101, 51, 48, 56] = true; decide
-- an oracle shipping `NaN` or `inf` does not satisfy the assumption
example : isJsonNumberBytes [78, 97, 78] = false ∧ isJsonNumberBytes [105, 110, 102] = false := by decide

/-- a row with awkward TEXT, NULL, BOOLEAN, a nested array, a timestamp-free mix, under names with a quote -/
def cols1 : List Bytes := [encode ['k', '"'], [110], [120, 115]]
def row1 : List Value :=
  [.text (encode awkward), .null, .array (.array .bool) [.array .bool [], .array .bool [.bool true, .null], .text []]]

-- the printed line, concretely (the kernel takes the characters of a string literal in quadratic time; `String.toList_ofList`
-- hands it the list of a long one)
example : renderRecord o1 .json cols1 row1
    = encode ("{\"k\\\"\":\"a\\\"b\\\\c\\n\\u0001😀\",\"n\":null,\"xs\":[[],[true,null],\"\"]}".toList) := by
  rw [String.toList_ofList]; decide +kernel

-- the denotation of that very line, computed by the (complete) parser: the names and the cells' values
example : parseJson "{\"k\\\"\":\"a\\\"b\\\\c\\n\\u0001😀\",\"n\":null,\"xs\":[[],[true,null],\"\"]}".toList
    = some (.obj [(['k', '"'], .str awkward), (['n'], .null),
        (['x', 's'], .arr [.arr [], .arr [.bool true, .null], .str []])]) := by
  rw [String.toList_ofList]; decide +kernel

-- the grammar on texts the printer never writes: whitespace everywhere, exponents, `\/`, a surrogate pair ...
example : JsonTextD " { \"a\" : [ 1 , -2.50e+1 , true ] ,\t\"\\/\\uD83D\\uDE00\" : { } }\n".toList
    (.obj [(['a'], .arr [.num ⟨1, 0⟩, .num ⟨-250, -1⟩, .bool true]), (['/', '😀'], .obj [])]) :=
  (parseJson_iff _ _).mp (by rw [String.toList_ofList]; decide +kernel)
-- ... and on texts that are not JSON: none of these is a JSON text with a denotation (`parseJson_iff`)
example : parseJson "{\"a\":1,}".toList = none ∧ parseJson "{\"a\" 1}".toList = none
    ∧ parseJson "{a:1}".toList = none ∧ parseJson "[1 2]".toList = none ∧ parseJson "[1,]".toList = none
    ∧ parseJson "01".toList = none ∧ parseJson "\"a\nb\"".toList = none ∧ parseJson "\"\\x\"".toList = none
    ∧ parseJson "\"\\uD83D\"".toList = none ∧ parseJson "{\"a\":1}}".toList = none
    ∧ parseJson "'a'".toList = none ∧ parseJson "NaN".toList = none ∧ parseJson "".toList = none := by
  decide +kernel
example : ¬ ∃ x, JsonTextD "{\"a\":1,}".toList x := fun ⟨x, h⟩ => by
  have h1 := (parseJson_iff _ _).mpr h
  have h2 : parseJson "{\"a\":1,}".toList = none := by decide +kernel
  rw [h2] at h1; cases h1

-- the hypotheses of `json_record_denotes_row` / `json_record_recovers_row_rfc` hold of it
example : cols1.Nodup ∧ cols1.length = row1.length ∧ (∀ v ∈ row1, noReal v = true) := by decide
example : (∀ c ∈ cols1, IsUtf8 c) ∧ (∀ v ∈ row1, ∀ s ∈ allTexts v, IsUtf8 s) := by
  constructor
  · intro c hc
    apply utf8_check_decides
    revert c; decide
  · intro v hv s hs
    apply utf8_check_decides
    revert s; revert v; decide

-- the empty row prints `{}`, an object; a row with a REAL, the i64 minimum and duplicate names is an object too
example : renderRecord o1 .json [] [] = encode ['{', '}'] := by decide
example : Obj ['{', '}'] := .empty (sep_bare '{') (sep_bare '}')
example : ∃ line, encode line = renderRecord o1 .json [[97], [97], [98]] [.real 0, .int (-9223372036854775808), .real 0x7ff0000000000000]
    ∧ Obj line ∧ JsonText line :=
  printed_record_is_json o1 _ _ (fun v _ => o1_ok.value v) (by intro c hc; apply utf8_check_decides; revert c; decide)
    (by intro v hv s hs; apply utf8_check_decides; revert s; revert v; decide)

-- a TEXT payload that is not UTF-8 (impossible for a Rust `String`) is outside the hypotheses
example : Reader.validUtf8 [255] = false := by decide

-- whitespace is part of the grammar although the compact printer writes none: `{ "a" : [ 1 , 2 ] }`
example : Ws [' ', '\t', '\n', '\r'] := by decide

-- L3: texts as serde_json ships them read back as the REAL they were printed for (instances of `RealReadsBack`) ...
/-- an oracle shipping serde_json's text for five REALs: 1.5, 0.1, -0.0, 1e300 (`1e300`), 5e-324 -/
def o3 : RealOracle :=
  { fixed2 := fun _ => []
    json := fun b =>
      if b = 0x3ff8000000000000 then [49, 46, 53]                               -- 1.5
      else if b = 0x3fb999999999999a then [48, 46, 49]                          -- 0.1
      else if b = 0x8000000000000000 then [45, 48, 46, 48]                      -- -0.0
      else if b = 0x7e37e43c8800759c then [49, 101, 51, 48, 48]                 -- 1e300
      else [53, 101, 45, 51, 50, 52] }                                          -- 5e-324
def row3 : List Value :=
  [.real 0x3ff8000000000000, .array .real [.real 0x3fb999999999999a, .real 0x8000000000000000], .real 0x7e37e43c8800759c, .real 1]

example : ∀ v ∈ row3, RealTextsOk o3 v := by decide +kernel
example : ∀ v ∈ row3, RealReadsBack o3 v := by decide +kernel
-- `-0.0` is printed `-0.0`, denotes ⟨0, -1⟩ (no sign), and reads back with its sign
example : numValue (chars (o3.json 0x8000000000000000)) = some ⟨0, -1⟩
    ∧ JsonDoc.readReal (chars (o3.json 0x8000000000000000)) = some 0x8000000000000000 := by decide +kernel
-- ... and a text one unit in the last place off (`0.10000000000000002` for 0.1) does not: the check can fail
example : JsonDoc.readReal "0.10000000000000002".toList = some 0x3fb999999999999b := by decide +kernel
example : ¬ RealReadsBack { fixed2 := fun _ => [], json := fun _ => [49, 46, 53] } (.real 0x3fb999999999999a) := by decide +kernel

end Sqlgrep.Props.C17Json
