import SqlgrepModel.Lemmas.ReaderSpec
/-
`BufRead::lines` (`Sqlgrep.Reader.lines`) against the split at `\n`; the file loops of `FileExecutor`.
-/
namespace Sqlgrep
namespace Reader

/-- what `lines` must yield for the pieces of a content: every piece but the last is a newline-terminated
line; the last piece is a line only if it is non-empty -/
def assemble : List (List Nat) → List (Except Unit (List Nat))
  | [] => []
  | [last] => if last = [] then [] else [finishLine last false]
  | l :: l' :: rest => finishLine l true :: assemble (l' :: rest)

/-- specification of `lines` -/
def specLines (bs : List Nat) : List (Except Unit (List Nat)) := assemble (splitNl bs)

/-- a file that is empty or ends with `\n` -/
def NlTerminated (f : List Nat) : Prop := f = [] ∨ f.getLast? = some nl

instance (f : List Nat) : Decidable (NlTerminated f) := by unfold NlTerminated; exact inferInstance

theorem linesAux_spec (cur bs : List Nat) :
    linesAux cur bs = assemble (prependHead cur.reverse (splitNl bs)) := by
  induction bs generalizing cur with
  | nil =>
    simp only [linesAux, splitNl, prependHead, assemble, List.append_nil, List.reverse_eq_nil_iff]
  | cons b bs ih =>
    unfold linesAux
    cases hs : splitNl bs with
    | nil => exact absurd hs (splitNl_ne_nil bs)
    | cons x xs =>
      split
      · rename_i hb
        subst hb
        rw [ih, splitNl_cons_nl, hs]
        simp [prependHead, assemble]
      · rename_i hb
        rw [ih, splitNl_cons_ne b bs hb, hs]
        simp [prependHead, consHead]

theorem lines_eq_spec (bs : List Nat) : lines bs = specLines bs := by
  unfold lines specLines
  rw [linesAux_spec]
  cases hs : splitNl bs with
  | nil => exact absurd hs (splitNl_ne_nil bs)
  | cons x xs => simp [prependHead]

theorem assemble_eq : ∀ ps : List (List Nat), ps ≠ [] →
    assemble ps = ps.dropLast.map (finishLine · true) ++
      (if ps.getLast?.getD [] = [] then [] else [finishLine (ps.getLast?.getD []) false])
  | [], h => absurd rfl h
  | [p], _ => by
    simp only [assemble, List.dropLast_singleton, List.map_nil, List.nil_append, List.getLast?_singleton, Option.getD_some]
    split <;> simp [*]
  | p :: q :: qs, _ => by
    rw [assemble, assemble_eq (q :: qs) (List.cons_ne_nil _ _), List.dropLast_cons_cons, List.getLast?_cons_cons]; rfl

theorem lines_eq (bs : List Nat) :
    lines bs = (completeLines bs).map (finishLine · true) ++ (if tailOf bs = [] then [] else [finishLine (tailOf bs) false]) := by
  rw [lines_eq_spec, specLines, assemble_eq _ (splitNl_ne_nil bs)]; rfl

theorem linesAux_cons (cur : List Nat) (b : Nat) (bs : List Nat) :
    linesAux cur (b :: bs) =
      if b = nl then finishLine cur.reverse true :: linesAux [] bs else linesAux (b :: cur) bs := by
  simp only [linesAux]

theorem linesAux_append_nl (cur g f2 : List Nat) :
    linesAux cur (g ++ nl :: f2) = linesAux cur (g ++ [nl]) ++ linesAux [] f2 := by
  induction g generalizing cur with
  | nil => simp [linesAux]
  | cons b g ih =>
    simp only [List.cons_append]
    rw [linesAux_cons cur b (g ++ nl :: f2), linesAux_cons cur b (g ++ [nl])]
    split
    · simp [ih]
    · exact ih _

theorem lines_append (f1 f2 : List Nat) (h : NlTerminated f1) : lines (f1 ++ f2) = lines f1 ++ lines f2 := by
  rcases h with h | h
  · subst h; simp [lines, linesAux]
  · obtain ⟨g, hg⟩ := List.getLast?_eq_some_iff.1 h
    subst hg
    unfold lines
    rw [List.append_assoc, List.singleton_append, linesAux_append_nl]

theorem flatMap_lines_eq (files : List (List Nat)) (last : List Nat) (h : ∀ f ∈ files, NlTerminated f) :
    (files ++ [last]).flatMap lines = lines (files ++ [last]).flatten := by
  induction files with
  | nil => simp
  | cons f fs ih =>
    have h1 := h f (by simp)
    have h2 : ∀ f' ∈ fs, NlTerminated f' := fun f' hf' => h f' (by simp [hf'])
    simp only [List.cons_append, List.flatMap_cons, List.flatten_cons]
    rw [ih h2, lines_append _ _ h1]

theorem feed_append {σ ε : Type} (step : σ → List Nat → Except ε σ) (s : σ) (a b : List (Except Unit (List Nat))) :
    feed step s (a ++ b) = (match feed step s a with
      | (s', .ok) => feed step s' b
      | r => r) := by
  induction a generalizing s with
  | nil => simp [feed]
  | cons x a ih =>
    cases x with
    | error e => simp [feed]
    | ok l =>
      simp only [List.cons_append, feed]
      cases hst : step s l with
      | error e => simp
      | ok s' => simp only []; exact ih s'

theorem execFiles_eq_feed {σ ε : Type} (step : σ → List Nat → Except ε σ) (s : σ) (files : List (List Nat)) :
    execFiles step s files = feed step s (files.flatMap lines) := by
  induction files generalizing s with
  | nil => simp [execFiles, feed]
  | cons f fs ih =>
    simp only [execFiles, List.flatMap_cons]
    rw [feed_append]
    cases hf : feed step s (lines f) with
    | mk s' st =>
      cases st with
      | ok => simp only []; exact ih s'
      | readError => simp
      | engineError e => simp

/-- the lines before the first unreadable one -/
def okPrefix : List (Except Unit (List Nat)) → List (List Nat)
  | [] => []
  | .error _ :: _ => []
  | .ok l :: rest => l :: okPrefix rest

def allOk : List (Except Unit (List Nat)) → Bool
  | [] => true
  | .error _ :: _ => false
  | .ok _ :: rest => allOk rest

theorem feed_record (seen : List (List Nat)) (items : List (Except Unit (List Nat))) :
    feed record seen items = (seen ++ okPrefix items, if allOk items then (Status.ok : Status Empty) else Status.readError) := by
  induction items generalizing seen with
  | nil => simp [feed, okPrefix, allOk]
  | cons x items ih =>
    cases x with
    | error e => simp [feed, okPrefix, allOk]
    | ok l =>
      simp only [feed, record, okPrefix, allOk]
      rw [ih]
      simp only [List.append_assoc, List.singleton_append]
      rfl

theorem allOk_iff (items : List (Except Unit (List Nat))) :
    allOk items = true ↔ items = (okPrefix items).map .ok := by
  induction items with
  | nil => simp [allOk, okPrefix]
  | cons x items ih =>
    cases x with
    | error e => simp [allOk, okPrefix]
    | ok l => simp [allOk, okPrefix, ih]

theorem allOk_false_iff (items : List (Except Unit (List Nat))) :
    allOk items = false ↔ .error () ∈ items := by
  induction items with
  | nil => simp [allOk]
  | cons x items ih =>
    cases x with
    | error e => simp [allOk]
    | ok l => simp [allOk, ih]

theorem feed_ok_all {σ ε : Type} (step : σ → List Nat → Except ε σ) (s : σ) (items : List (Except Unit (List Nat)))
    (h : (feed step s items).2 = .ok) : allOk items = true := by
  induction items generalizing s with
  | nil => rfl
  | cons x items ih =>
    cases x with
    | error e => simp [feed] at h
    | ok l =>
      simp only [feed] at h
      cases hst : step s l with
      | error e => rw [hst] at h; simp at h
      | ok s' => rw [hst] at h; simp only [allOk]; exact ih s' h

end Reader
end Sqlgrep
