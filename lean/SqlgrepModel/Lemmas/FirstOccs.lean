import SqlgrepModel.Spec.Agg
import SqlgrepModel.Lemmas.SelectList
import SqlgrepModel.Lemmas.ValueOrder
/-
First occurrences under an equivalence `same`, once. The specification's `firstOccs` (COUNT(DISTINCT), by `Value.beq`) and
`firstRows` (DISTINCT on a table, by `Value.beqList`) are `firstBy same`; the engine's memories (`dedupFrom`: rows already
shown, values already counted) compute it; it distributes over `++`; its length is a function of the multiset.
-/
namespace Sqlgrep
open Value Spec.Agg Spec.Select
variable {α : Type}

def firstBy (same : α → α → Bool) : List α → List α
  | [] => []
  | x :: xs => x :: (firstBy same xs).filter (fun y => !same x y)

theorem firstOccs_eq_firstBy (xs : List Value) : firstOccs xs = firstBy Value.beq xs := by
  induction xs with
  | nil => rfl
  | cons x xs ih => simp only [firstOccs, firstBy, ih]

theorem firstRows_eq_firstBy (xs : List (List Value)) : firstRows xs = firstBy Value.beqList xs := by
  induction xs with
  | nil => rfl
  | cons x xs ih => simp only [firstRows, firstBy, ih]

theorem beq_isEquiv : IsEquiv Value.beq where
  refl := beq_refl
  symm a b h := beq_symm a b ▸ h
  trans _ _ _ := beq_trans

section
variable {same : α → α → Bool} (h : IsEquiv same)
include h

theorem Spec.Select.IsEquiv.comm (x y : α) : same x y = same y x := by
  cases hy : same y x
  · cases hx : same x y
    · rfl
    · rw [h.symm _ _ hx] at hy; cases hy
  · exact h.symm _ _ hy

theorem Spec.Select.IsEquiv.congr_right {x y : α} (hxy : same x y = true) (a : α) : same a x = same a y := by
  cases hax : same a x
  · cases hay : same a y
    · rfl
    · rw [h.trans _ _ _ hay (h.symm _ _ hxy)] at hax; cases hax
  · exact (h.trans _ _ _ hax hxy).symm

theorem dedupFrom_eq_firstBy (seen xs : List α) :
    dedupFrom same seen xs = (firstBy same xs).filter (fun x => !seen.any (same x)) := by
  induction xs generalizing seen with
  | nil => rfl
  | cons x xs ih =>
    simp only [dedupFrom, firstBy, List.filter_cons, List.filter_filter]
    by_cases hs : seen.any (same x) = true
    · simp only [hs, if_true, Bool.not_true, Bool.false_eq_true, if_false, ih]
      apply List.filter_congr
      intro y _
      cases hxy : same x y
      · simp
      · -- what equals `x` equals the member of the memory that `x` equals
        obtain ⟨s, hs1, hs2⟩ := List.any_eq_true.mp hs
        simp [List.any_eq_true.mpr ⟨s, hs1, h.trans _ _ _ (h.symm _ _ hxy) hs2⟩]
    · simp only [hs, Bool.false_eq_true, if_false, Bool.not_false, if_true, ih, List.any_cons, Bool.not_or]
      congr 1
      apply List.filter_congr
      intro y _
      rw [h.comm y x, Bool.and_comm]

theorem dedupFirst_eq_firstBy (xs : List α) : dedupFirst same xs = firstBy same xs := by
  rw [dedupFirst, dedupFrom_eq_firstBy h, List.filter_eq_self.mpr (by intro _ _; rfl)]

theorem firstBy_any (a : List α) (x : α) : (firstBy same a).any (same x) = a.any (same x) := by
  rw [← dedupFirst_eq_firstBy h]; exact dedupFirst_any_eq same h a x

theorem firstBy_append (a b : List α) :
    firstBy same (a ++ b) = firstBy same a ++ (firstBy same b).filter (fun x => !a.any (same x)) := by
  induction a with
  | nil => exact (List.filter_eq_self.mpr (by intro _ _; rfl)).symm
  | cons v a ih =>
    simp only [List.cons_append, firstBy, ih, List.filter_append, List.filter_filter, List.any_cons, Bool.not_or]
    congr 2
    apply List.filter_congr
    intro x _
    rw [h.comm x v, Bool.and_comm]

def cntFirst (same : α → α → Bool) (p : α → Bool) (l : List α) : Nat := ((firstBy same l).filter p).length

omit h in
theorem cntFirst_cons (p : α → Bool) (a : α) (l : List α) :
    cntFirst same p (a :: l) = (if p a then 1 else 0) + cntFirst same (fun x => !same a x && p x) l := by
  simp only [cntFirst, firstBy, List.filter_cons, List.filter_filter]
  have : (fun x => p x && !same a x) = fun x => !same a x && p x := funext fun x => Bool.and_comm _ _
  rw [this]
  split <;> simp [Nat.add_comm]

theorem cntFirst_perm {l1 l2 : List α} (hp : l1.Perm l2) :
    ∀ p : α → Bool, (∀ x y, same x y = true → p x = p y) → cntFirst same p l1 = cntFirst same p l2 := by
  induction hp with
  | nil => intro p _; rfl
  | @cons a m1 m2 _ ih =>
    intro p hp
    rw [cntFirst_cons, cntFirst_cons]
    congr 1
    apply ih
    intro x y hxy
    rw [h.congr_right hxy, hp x y hxy]
  | swap a b l =>
    intro p hp
    rw [cntFirst_cons, cntFirst_cons, cntFirst_cons, cntFirst_cons]
    have hcong : (fun x => !same a x && (!same b x && p x)) = fun x => !same b x && (!same a x && p x) := by
      funext x; cases same a x <;> cases same b x <;> rfl
    rw [hcong]
    have hba := h.comm b a
    cases hab : same a b
    · simp only [hba, hab, Bool.not_false, Bool.true_and]
      omega
    · simp only [hba, hab, Bool.not_true, Bool.false_and, Bool.false_eq_true, if_false, hp a b hab]
  | trans _ _ ih1 ih2 => intro p hp; rw [ih1 p hp, ih2 p hp]

theorem firstBy_length_perm {l1 l2 : List α} (hp : l1.Perm l2) : (firstBy same l1).length = (firstBy same l2).length := by
  have := cntFirst_perm h hp (fun _ => true) (fun _ _ _ => rfl)
  simpa [cntFirst, List.filter_eq_self.mpr] using this
end

theorem firstOccs_append (a b : List Value) :
    firstOccs (a ++ b) = firstOccs a ++ (firstOccs b).filter (fun x => !(firstOccs a).any (fun y => Value.beq y x)) := by
  simp only [firstOccs_eq_firstBy, firstBy_append beq_isEquiv]
  congr 1
  apply List.filter_congr
  intro x _
  rw [← firstBy_any beq_isEquiv a x]
  congr 2; funext y; exact beq_isEquiv.comm x y

theorem firstOccs_length_perm {l1 l2 : List Value} (h : l1.Perm l2) : (firstOccs l1).length = (firstOccs l2).length := by
  simpa only [firstOccs_eq_firstBy] using firstBy_length_perm beq_isEquiv h

end Sqlgrep
