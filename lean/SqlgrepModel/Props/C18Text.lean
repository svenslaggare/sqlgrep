import SqlgrepModel.Props.C18
import SqlgrepModel.Props.Fixture
import SqlgrepModel.Lemmas.PipelineLines
/-
C18, "irrespective of which other tables are defined", at TEXT level: over the whole program `Pipeline.runText`
(definition text, query text, file bytes ↦ printed lines / error), not only over `runStatement` on table lists
(`Props/C18.lean` `other_tables_irrelevant`, `extra_tables_irrelevant`).

What a definition text contributes to a run is (a) whether it is accepted at all (`parsing::parse` + `Tables::add_tables`:
one unparsable or invalid CREATE TABLE rejects the whole text), (b) whether the case shipped `Regex::new` for every
pattern in it (a fact about the outside world; else the model answers `skip`), and (c) the list of tables it defines,
of which a statement looks up its FROM table and its joined table BY NAME, the LAST definition of a name winning
(`Tables::add_table` is a `HashMap::insert`). So: further CREATE TABLE statements under OTHER names — before, between
or after the ones the statement uses — leave the answer unchanged, provided the extended text is itself accepted; a
later definition of the SAME name replaces the earlier one; an extra definition that does not parse or lower makes the
answer `rejected`. `\d` and tab completion of the interactive shell iterate the table map; they are not part of
`runText` and not of this property.
-/
namespace Sqlgrep.Props.C18Text
open Sqlgrep Sqlgrep.Pipeline
open Sqlgrep.Props.Pipeline (exFacts exDefs recordsOf exRun exFacts_eq)

/-- `Tables::add_tables` of a list of CREATE TABLE statements with one more appended: the tables so far, then the new one -/
theorem addTables_snoc (ss : List LStmt) (c : LStmt) (ts : List Table) (u : Table)
    (h : addTables (.multiple ss) = some ts) (hc : Pipeline.tableOf c = some u) :
    addTables (.multiple (ss ++ [c])) = some (ts ++ [u]) := by
  simp only [addTables] at h ⊢
  rw [List.mapM_append, h]
  simp [hc]

/-- a single CREATE TABLE followed by another one -/
theorem addTables_pair (c₁ c₂ : LStmt) (t u : Table) (h₁ : Pipeline.tableOf c₁ = some t) (h₂ : Pipeline.tableOf c₂ = some u) :
    addTables (.multiple [c₁, c₂]) = some [t, u] := by
  simp [addTables, h₁, h₂]

/-- **the last definition of a name is the one found** (`HashMap::insert`): a later definition of the same name shadows
every earlier one … -/
theorem later_definition_of_same_name_wins (ts : List Table) (u : Table) : getTable (ts ++ [u]) u.name = some u := by
  simp [getTable]

/-- … and a later definition of ANOTHER name changes no lookup -/
theorem later_definition_of_other_name_is_not_found (ts : List Table) (u : Table) (name : String) (h : u.name ≠ name) :
    getTable (ts ++ [u]) name = getTable ts name := by
  have : (u.name == name) = false := by simpa using h
  simp [getTable, this]

/-- **Other tables are irrelevant, for the whole program** (C18 at text level). Two definition texts that are both accepted
(`parsing::parse` answers a statement, `add_tables` succeeds, `Regex::new` of their patterns is shipped), the second
defining the tables of the first plus further tables `pre` / `post` under names that are neither the FROM table nor the
joined table of the query: for every query text, format and input the program answers the same — printed lines, error,
line count. -/
theorem other_definitions_irrelevant (F : Facts) (defsText defsText' queryText : List Char) (fmt : Print.Format) (single : Bool)
    (files : List (List Nat)) (defs defs' query : LStmt) (tables pre post : List Table) (stmt : Stmt) (fromTable : String)
    (join : Option LJoin)
    (hc : classesCover F defsText = true ∧ classesCover F queryText = true) (hc' : classesCover F defsText' = true)
    (hd : parseText (lexOracles F) (regexValidFn F) defsText = .stmt defs)
    (hd' : parseText (lexOracles F) (regexValidFn F) defsText' = .stmt defs')
    (hp : (createPatterns defs).all (fun re => ((Utf8.decode re).bind (regexValidOf F)).isSome) = true)
    (hp' : (createPatterns defs').all (fun re => ((Utf8.decode re).bind (regexValidOf F)).isSome) = true)
    (hq : parseText (lexOracles F) (regexValidFn F) queryText = .stmt query)
    (hs : stmtOf query = some (stmt, fromTable, join))
    (ht : addTables defs = some tables) (ht' : addTables defs' = some (pre ++ tables ++ post))
    (hnames : ∀ t ∈ pre ++ post, t.name ≠ fromTable ∧ ∀ j, join = some j → t.name ≠ j.joinedTable) :
    runText F defsText' queryText fmt single files = runText F defsText queryText fmt single files := by
  rw [runText_of_front (front_eq_run_iff.2 ⟨defs', query, ⟨hc', hc.2⟩, hd', hp', hq, ht', hs⟩),
    runText_of_front (front_eq_run_iff.2 ⟨defs, query, hc, hd, hp, hq, ht, hs⟩),
    Props.C18.extra_tables_irrelevant F tables pre post stmt fromTable join files hnames]

/-! ### non-vacuity and the boundary cases, on whole invocations (kernel-evaluated) -/

/-- the hypotheses of `other_definitions_irrelevant` as one decidable check on two definition texts and a query text:
both accepted with all patterns shipped, the second one's tables are the first one's plus one more at the end, whose
name the query does not use -/
def exOtherHyps (F : Facts) (defsText defsText' queryText : List Char) : Bool :=
  classesCover F defsText && classesCover F defsText' && classesCover F queryText &&
  match parseText (lexOracles F) (regexValidFn F) defsText, parseText (lexOracles F) (regexValidFn F) defsText',
        parseText (lexOracles F) (regexValidFn F) queryText with
  | .stmt defs, .stmt defs', .stmt query =>
    (createPatterns defs).all (fun re => ((Utf8.decode re).bind (regexValidOf F)).isSome) &&
    (createPatterns defs').all (fun re => ((Utf8.decode re).bind (regexValidOf F)).isSome) &&
    match stmtOf query, addTables defs, addTables defs' with
    | some (_, fromTable, join), some tables, some tables' =>
      tables'.length == tables.length + 1 && (tables'.take tables.length).map (·.name) == tables.map (·.name) &&
      (tables'.drop tables.length).all (fun u => u.name != fromTable && (match join with
        | some j => u.name != j.joinedTable
        | none => true))
    | _, _, _ => false
  | _, _, _ => false

def exOther : List Char := exDefs ++ " CREATE TABLE other(line = '^([a-z]+);([0-9]+)$', line[1] => x TEXT);".toList

example : exOtherHyps exFacts exDefs exOther "select k, v from t".toList = true := by
  unfold exOther exDefs
  rw [String.toList_ofList, String.toList_ofList, String.toList_ofList, exFacts_eq, exOtherHyps, parseText_eq_K, parseText_eq_K,
    parseText_eq_K]
  decide +kernel

/-- … and the two answers are the same -/
example :
    recordsOf (runText exFacts exOther "select k, v from t".toList .text false [strBytes "a;1\nb;2\n"]) =
    recordsOf (runText exFacts exDefs "select k, v from t".toList .text false [strBytes "a;1\nb;2\n"]) ∧
    recordsOf (runText exFacts exDefs "select k, v from t".toList .text false [strBytes "a;1\nb;2\n"]) =
      some (none, 2, [strBytes "k: 'a', v: 1", strBytes "k: 'b', v: 2"]) := by
  rw [exRun]; unfold exOther exDefs
  rw [String.toList_ofList, String.toList_ofList, String.toList_ofList, exFacts_eq, runText_eq_K]; decide +kernel

/-- a later definition of the SAME name wins: `SELECT *` sees the columns of the second `t` only -/
example : recordsOf (runText exFacts (exDefs ++ " CREATE TABLE t(line = '^([a-z]+);([0-9]+)$', line[2] => only INT);".toList)
      "select * from t".toList .text false [strBytes "a;1\nb;2\n"]) =
    some (none, 2, [strBytes "only: 1", strBytes "only: 2"]) := by
  unfold exDefs; rw [String.toList_ofList, String.toList_ofList, String.toList_ofList, exFacts_eq, runText_eq_K]; decide +kernel

/-- an extra definition that does not parse rejects the whole definition text (located parser error) … -/
example : (match runText exFacts (exDefs ++ " CREATE TABLE u(".toList) "select k, v from t".toList .text false [strBytes "a;1\n"] with
    | .rejected .definitions (.parseError _) => true
    | _ => false) = true := by
  generalize h : runText _ _ _ _ _ _ = r
  unfold exDefs at h
  rw [String.toList_ofList, String.toList_ofList, String.toList_ofList, exFacts_eq, runText_eq_K] at h; subst h; decide +kernel

/-- … one whose pattern is not a valid regex is a conversion error (`Regex::new` answered `false`), and one whose
`Regex::new` fact the case did not ship makes the model abstain (`skip`), never guess -/
example : (match runText { exFacts with regexValid := ("(".toList, false) :: exFacts.regexValid }
      (exDefs ++ " CREATE TABLE u(line = '(', line[1] => x TEXT);".toList) "select k, v from t".toList .text false [strBytes "a;1\n"] with
    | .rejected .definitions (.convertError _) => true
    | _ => false) = true ∧
    (match runText exFacts (exDefs ++ " CREATE TABLE u(line = '(', line[1] => x TEXT);".toList) "select k, v from t".toList .text false
      [strBytes "a;1\n"] with
    | .skip _ => true
    | _ => false) = true := by
  generalize h₁ : runText _ _ _ _ _ _ = r₁
  generalize h₂ : runText _ _ _ _ _ _ = r₂
  unfold exDefs at h₁ h₂
  rw [String.toList_ofList, String.toList_ofList, String.toList_ofList, String.toList_ofList, exFacts_eq, runText_eq_K] at h₁
  rw [String.toList_ofList, String.toList_ofList, String.toList_ofList, exFacts_eq, runText_eq_K] at h₂
  subst h₁ h₂; decide +kernel

end Sqlgrep.Props.C18Text
