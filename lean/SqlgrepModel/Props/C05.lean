import SqlgrepModel.Lemmas.JoinRefine
import SqlgrepModel.Lemmas.JoinNames
import SqlgrepModel.Lemmas.JoinBatch
import SqlgrepModel.Model.JoinClause
/-
C05 — JOIN pairs exactly the rows with equal join keys.

Model (`Model/Engine.lean`, `Model/Exec.lean`): `loadJoin` (the joined file goes through `SELECT *`; every admitted
row is put into the bucket of its key by `joinIndexAdd`; bucket equality `keySame` = equal hash stream ∧ `==`),
`lineEnvs` (`execute_join`: lookup of the queried row's key, one environment per partner in bucket order, the
NULL-padded one for OUTER JOIN when allowed), `joinedMapping` (`create_joined_column_mapping`), `setupJoin` /
`loadJoinFile` / `runBatch` (`execute_joined_table` + `FileExecutor::execute`).
Specification (`Spec/Join.lean`): the nested loop `specJoin` — no index, no hashing.
Bucket equality is related to value equality through C16 (`hashRepr_eq_of_beq`: equal values feed equal hash
streams, for every value incl. ±0.0 and NaN), so the theorems carry no hash-consistency hypothesis.
A missing joined *file* is a runtime fact (`File::open`); the executed model has the branch (`loadJoinFileI … none`,
Model/ExecI.lean) and `missing_file_is_error` states it; that the real `File::open` behaves so is covered by the
correspondence and the oracle of `harness/src/c05.rs`.
Helper lemmas live in `Lemmas/Join*.lean`, except `rowsOf_of_no_partner` and `rowsOf_of_partners` (the two cases of
`rowsOf`), which stand here in front of their users.
-/
namespace Sqlgrep.Props.C05
open Sqlgrep Sqlgrep.Spec.Join

/-- **Refinement, per input row.** For a query with a join whose join columns exist, the environments the
engine presents to the statement for the input row `r` — through the hash index loaded from the joined lines —
are exactly the nested loop's: one per admitted joined row whose key equals `r`'s non-NULL key, in the joined
file's order (plus the NULL-padded row for OUTER JOIN without partner when `allowOuter`). -/
theorem join_refines_nested_loop (qy : Query) (j : JoinInfo) (joinedLines : List Line) (idx : JoinIndex)
    (allowOuter : Bool) (r : Line)
    (hj : qy.join = some j) (hcol : (indexOf? qy.table.columns j.joinerColumn).isSome = true)
    (hl : loadJoin j joinedLines = .ok idx) :
    lineEnvs qy idx allowOuter r = .ok (rowsOf qy j (admittedRows joinedLines) allowOuter r) := by
  obtain ⟨ki, hki⟩ := Option.isSome_iff_exists.1 hcol
  exact lineEnvs_eq_rowsOf qy j joinedLines idx allowOuter r ki hj hki hl

/-- **Refinement, whole input.** Over all admitted input rows in input order the engine's environments are
`specJoin`: the pairs ordered by `r`'s position, then `s`'s position. (Non-admitted lines never reach
`lineEnvs`: `executeLine` returns before — C06.) -/
theorem join_rows_are_specJoin (qy : Query) (j : JoinInfo) (joinedLines : List Line) (idx : JoinIndex)
    (allowOuter : Bool) (lines : List Line)
    (hj : qy.join = some j) (hcol : (indexOf? qy.table.columns j.joinerColumn).isSome = true)
    (hl : loadJoin j joinedLines = .ok idx) :
    (lines.filter admitted).map (lineEnvs qy idx allowOuter) =
        (lines.filter admitted).map (fun r => .ok (rowsOf qy j (admittedRows joinedLines) allowOuter r)) ∧
    specJoin qy j joinedLines allowOuter lines =
        (lines.filter admitted).flatMap (rowsOf qy j (admittedRows joinedLines) allowOuter) := by
  refine ⟨?_, rfl⟩
  apply List.map_congr_left
  intro r _
  exact join_refines_nested_loop qy j joinedLines idx allowOuter r hj hcol hl

/-- the partners of `r` are exactly the admitted joined rows with an equal non-NULL key, in file order: each
such row once (no partner lost, duplicated or reordered: `filter` keeps multiplicity and order) -/
theorem partners_exact (qy : Query) (j : JoinInfo) (joinedLines : List Line) (r : Line) (s : List Value) :
    s ∈ partners qy j (admittedRows joinedLines) r ↔
      s ∈ admittedRows joinedLines ∧
      keysMatch (keyOf qy.table.columns j.joinerColumn r.row) (keyOf j.joined.columns j.joinedColumn s) = true := by
  unfold partners
  exact List.mem_filter

/-- **NULL keys never pair** (specification side): a matching pair has two non-NULL, equal keys -/
theorem null_keys_never_pair (a b : Value) (h : keysMatch a b = true) :
    a.isNull = false ∧ b.isNull = false ∧ Value.beq a b = true := by
  unfold keysMatch at h
  simpa [and_assoc] using h

/-- an input row without partner: the NULL-padded row where OUTER JOIN may add it, else nothing -/
theorem rowsOf_of_no_partner {qy : Query} {j : JoinInfo} {joined : List (List Value)} {r : Line} (allowOuter : Bool)
    (h : partners qy j joined r = []) :
    rowsOf qy j joined allowOuter r =
      if j.isOuter && allowOuter then [pairRow qy.table j r (List.replicate j.joined.columns.length .null)] else [] := by
  simp only [rowsOf, h, List.isEmpty_nil, Bool.true_and, List.map_nil]

/-- an input row with partners: the pairs and nothing else -/
theorem rowsOf_of_partners {qy : Query} {j : JoinInfo} {joined : List (List Value)} {r : Line} (allowOuter : Bool)
    (h : partners qy j joined r ≠ []) :
    rowsOf qy j joined allowOuter r = (partners qy j joined r).map (pairRow qy.table j r) := by
  have he : (partners qy j joined r).isEmpty = false := by rwa [← Bool.not_eq_true, List.isEmpty_iff]
  simp only [rowsOf, he, Bool.false_and, Bool.false_eq_true, if_false]

/-- **NULL keys never pair** (model side, input row): an input row whose join column is NULL finds no partner
in the loaded index — INNER JOIN shows nothing for it, OUTER JOIN exactly the NULL-padded row -/
theorem null_joiner_key_has_no_partner (qy : Query) (j : JoinInfo) (joinedLines : List Line) (idx : JoinIndex)
    (allowOuter : Bool) (r : Line)
    (hj : qy.join = some j) (hcol : (indexOf? qy.table.columns j.joinerColumn).isSome = true)
    (hl : loadJoin j joinedLines = .ok idx)
    (hnull : (keyOf qy.table.columns j.joinerColumn r.row).isNull = true) :
    lineEnvs qy idx allowOuter r =
      .ok (if j.isOuter && allowOuter then [pairRow qy.table j r (List.replicate j.joined.columns.length .null)] else []) := by
  have hp : partners qy j (admittedRows joinedLines) r = [] := by
    unfold partners keysMatch
    simp [hnull]
  rw [join_refines_nested_loop qy j joinedLines idx allowOuter r hj hcol hl, rowsOf_of_no_partner allowOuter hp]

/-- **NULL keys never pair** (model side, joined row): a joined row whose join column is NULL is never a
partner, whatever the input row's key -/
theorem null_joined_key_is_no_partner (qy : Query) (j : JoinInfo) (joined : List (List Value)) (r : Line)
    (s : List Value) (hnull : (keyOf j.joined.columns j.joinedColumn s).isNull = true) :
    s ∉ partners qy j joined r := by
  unfold partners keysMatch
  simp [hnull]

/-- **OUTER adds exactly one NULL row**: in a non-aggregate query (`allowOuter`) an input row without partner
yields exactly one row, in which every joined-side column is NULL -/
theorem outer_adds_exactly_one_null_row (qy : Query) (j : JoinInfo) (joinedLines : List Line) (idx : JoinIndex) (r : Line)
    (hj : qy.join = some j) (hcol : (indexOf? qy.table.columns j.joinerColumn).isSome = true)
    (hl : loadJoin j joinedLines = .ok idx) (ho : j.isOuter = true)
    (hnone : partners qy j (admittedRows joinedLines) r = []) :
    lineEnvs qy idx true r = .ok [pairRow qy.table j r (List.replicate j.joined.columns.length .null)] := by
  rw [join_refines_nested_loop qy j joinedLines idx true r hj hcol hl, rowsOf_of_no_partner true hnone, ho]
  rfl

/-- … and none when the row has partners: then the rows are the pairs and nothing else -/
theorem outer_adds_nothing_when_partners_exist (qy : Query) (j : JoinInfo) (joinedLines : List Line) (idx : JoinIndex)
    (allowOuter : Bool) (r : Line)
    (hj : qy.join = some j) (hcol : (indexOf? qy.table.columns j.joinerColumn).isSome = true)
    (hl : loadJoin j joinedLines = .ok idx)
    (hsome : partners qy j (admittedRows joinedLines) r ≠ []) :
    lineEnvs qy idx allowOuter r =
      .ok ((partners qy j (admittedRows joinedLines) r).map (pairRow qy.table j r)) := by
  rw [join_refines_nested_loop qy j joinedLines idx allowOuter r hj hcol hl, rowsOf_of_partners allowOuter hsome]

/-- INNER JOIN, and OUTER JOIN where it is not allowed, add no row for an input row without partner -/
theorem no_null_row_unless_outer_allowed (qy : Query) (j : JoinInfo) (joinedLines : List Line) (idx : JoinIndex)
    (allowOuter : Bool) (r : Line)
    (hj : qy.join = some j) (hcol : (indexOf? qy.table.columns j.joinerColumn).isSome = true)
    (hl : loadJoin j joinedLines = .ok idx) (hno : (j.isOuter && allowOuter) = false)
    (hnone : partners qy j (admittedRows joinedLines) r = []) :
    lineEnvs qy idx allowOuter r = .ok [] := by
  rw [join_refines_nested_loop qy j joinedLines idx allowOuter r hj hcol hl, rowsOf_of_no_partner allowOuter hnone, hno]
  rfl

/-- an aggregate statement never sees the NULL-padded row: for it OUTER JOIN behaves as INNER JOIN
(the engine calls the join with `allow_outer = false`) -/
theorem aggregate_outer_is_inner (O : Oracles) (qy : Query) (j : JoinInfo) (q : AggStmt) (idx : JoinIndex)
    (w : Bool) (es : EngineState) (l : Line) (hq : qy.stmt = .aggregate q) (hj : qy.join = some j) :
    executeLine O qy idx w es l = executeLine O { qy with join := some { j with isOuter := false } } idx w es l := by
  obtain ⟨stmt, table, join⟩ := qy
  simp only at hq hj
  subst hq hj
  have : lineEnvs ⟨.aggregate q, table, some j⟩ idx false l =
      lineEnvs ⟨.aggregate q, table, some { j with isOuter := false }⟩ idx false l := by
    unfold lineEnvs
    simp [joinedMapping]
  unfold executeLine
  simp only
  rw [this]

/-- **Refinement, whole batch run.** Whenever the executable specification (`Spec.Join.batch`: the statement's
engine — WHERE, projections, DISTINCT, aggregation — fed with the nested loop's rows, line by line) answers a
batch run of a statement with a join, the model's `runBatch` over the hash index gives exactly that answer:
same records in the same order, same line count. (The specification declines — `none` — only where C05 does
not fix the outcome: LIMIT, unreadable lines, evaluation errors.) This is the theorem behind the driver's
`MODEL ## SPEC` pair. -/
theorem batch_run_is_nested_loop_run (O : Oracles) (qy : Query) (joined : List FileLine) (files : List (List FileLine))
    (ro : RunOut) (cls : String) (h : Spec.Join.batch O qy joined files = some (ro, cls)) :
    runBatch O qy joined files none = ro :=
  batch_spec_eq_runBatch O qy joined files ro cls h

/-- **both sides addressable**: in a joined row every column of the queried table is addressable by its plain
and by its table-qualified name, and `input` is the line -/
theorem join_names_queried (qy : Query) (j : JoinInfo) (r : Line) (s : List Value) (h : NamesOk qy.table j)
    (n : String) (v : Value) (hm : (n, v) ∈ qy.table.columns.zip r.row) :
    (pairRow qy.table j r s).1.get .table n = some v ∧
    (pairRow qy.table j r s).1.get .table (qy.table.name ++ "." ++ n) = some v ∧
    (pairRow qy.table j r s).1.get .table "input" = some (.text r.text) := by
  have := lastGet_queried qy.table r.row r.text j s h n v hm
  exact ⟨this.1, this.2, lastGet_input qy.table r.row r.text j s h⟩

/-- every column of the joined table is addressable by its table-qualified name, and by its plain name when
that is not also a column of the queried table -/
theorem join_names_joined (qy : Query) (j : JoinInfo) (r : Line) (s : List Value) (h : NamesOk qy.table j)
    (n : String) (v : Value) (hm : (n, v) ∈ j.joined.columns.zip s) :
    (pairRow qy.table j r s).1.get .table (j.joined.name ++ "." ++ n) = some v ∧
    (n ∉ qy.table.columns → (pairRow qy.table j r s).1.get .table n = some v) :=
  ⟨lastGet_joined_qualified qy.table r.row r.text j s h n v hm,
   lastGet_joined_plain qy.table r.row r.text j s h n v hm⟩

/-- **clash ⇒ only the qualified name**: a joined column whose name is also a column of the queried table is
reached by its qualified name only; the plain name addresses the queried table's column -/
theorem join_names_clash (qy : Query) (j : JoinInfo) (r : Line) (s : List Value) (h : NamesOk qy.table j)
    (n : String) (v w : Value) (hs : (n, v) ∈ j.joined.columns.zip s) (hr : (n, w) ∈ qy.table.columns.zip r.row) :
    (pairRow qy.table j r s).1.get .table n = some w ∧
    (pairRow qy.table j r s).1.get .table (j.joined.name ++ "." ++ n) = some v :=
  ⟨(lastGet_queried qy.table r.row r.text j s h n w hr).1, lastGet_joined_qualified qy.table r.row r.text j s h n v hs⟩

/-- **`*`** lists the queried table's columns followed by the joined table's (a clashing joined column under
its qualified name), and their values are the queried row's followed by the joined row's -/
theorem join_names_star (qy : Query) (j : JoinInfo) (r : Line) (s : List Value) (h : NamesOk qy.table j)
    (hr : qy.table.columns.length = r.row.length) (hs : j.joined.columns.length = s.length) :
    (pairRow qy.table j r s).2 = qy.table.columns ++ j.joined.columns.map (starKey qy.table j) ∧
    (pairRow qy.table j r s).2.map ((pairRow qy.table j r s).1.get .table) = (r.row ++ s).map some :=
  ⟨rfl, star_values qy.table r.row r.text j s h hr hs⟩

/-- **self-join** (the joined table is the queried table itself, read from a second file: same name, same columns;
`NamesOk` cannot hold there): every table-qualified name addresses the JOINED row, every plain name — and `input` —
the QUERIED row, so both sides stay addressable -/
theorem join_names_self (qy : Query) (j : JoinInfo) (r : Line) (s : List Value) (h : SelfOk qy.table)
    (hname : j.joined.name = qy.table.name) (hcols : j.joined.columns = qy.table.columns)
    (hr : qy.table.columns.length = r.row.length) :
    (∀ n v, (n, v) ∈ qy.table.columns.zip s →
      (pairRow qy.table j r s).1.get .table (qy.table.name ++ "." ++ n) = some v) ∧
    (∀ n w, (n, w) ∈ qy.table.columns.zip r.row → (pairRow qy.table j r s).1.get .table n = some w) ∧
    (pairRow qy.table j r s).1.get .table "input" = some (.text r.text) :=
  ⟨fun n v hm => lastGet_self_qualified qy.table r.row r.text j s h hname hcols n v hm,
   (lastGet_self_plain qy.table r.row r.text j s h hname hcols).1,
   (lastGet_self_plain qy.table r.row r.text j s h hname hcols).2⟩

/-- self-join: `*` lists the queried table's columns under their plain names followed by the joined side's under
the qualified names, with the queried row's values followed by the joined row's -/
theorem join_names_star_self (qy : Query) (j : JoinInfo) (r : Line) (s : List Value) (h : SelfOk qy.table)
    (hname : j.joined.name = qy.table.name) (hcols : j.joined.columns = qy.table.columns)
    (hr : qy.table.columns.length = r.row.length) (hs : qy.table.columns.length = s.length) :
    (pairRow qy.table j r s).2 = qy.table.columns ++ qy.table.columns.map (fun n => qy.table.name ++ "." ++ n) ∧
    (pairRow qy.table j r s).2.map ((pairRow qy.table j r s).1.get .table) = (r.row ++ s).map some :=
  star_values_self qy.table r.row r.text j s h hname hcols hr hs

/-- **the side of `ON` is irrelevant**: `ON a.x = b.y` and `ON b.y = a.x` lower to the same join (`resolveJoin` =
`transform_join`), whenever the joined table is not the queried table itself -/
theorem join_side_irrelevant (fromTable : String) (on : OnClause) (hne : on.joinerTable ≠ fromTable) :
    resolveJoin fromTable on.swap = resolveJoin fromTable on := by
  unfold resolveJoin OnClause.swap
  by_cases h1 : on.leftTable = fromTable
  · by_cases h2 : on.rightTable = fromTable
    · -- both sides name the queried table, which is not the joined one: `invalidJoinerTable` either way
      simp [h1, h2, Ne.symm hne]
    · simp [h1, h2]
  · simp [h1]

/-- the joiner column is the one written with the queried table, the joined column the one written with the joined
table — on whichever side they stand -/
theorem join_sides_resolved (fromTable joined x y : String) (hne : joined ≠ fromTable) :
    resolveJoin fromTable ⟨joined, fromTable, x, joined, y⟩ = .ok (x, y) ∧
    resolveJoin fromTable ⟨joined, joined, y, fromTable, x⟩ = .ok (x, y) := by
  unfold resolveJoin
  simp [hne]

/-- **a missing join column is an error**, never an empty result: whatever the files and wherever an interrupt
falls, the run ends with `ColumnNotFound`, nothing printed, no line consumed -/
theorem missing_column_is_error (O : Oracles) (qy : Query) (j : JoinInfo) (joined : List FileLine)
    (files : List (List FileLine)) (stopAt : Option Nat) (hj : qy.join = some j)
    (hmiss : indexOf? qy.table.columns j.joinerColumn = none ∨ indexOf? j.joined.columns j.joinedColumn = none) :
    runBatch O qy joined files stopAt = { error := some .columnNotFound } := by
  have hl : setupJoin qy.table j (loadJoinFile j joined) = .error .columnNotFound := by
    unfold setupJoin loadJoinFile
    rcases hmiss with h | h
    · rw [h]
    · rw [h]; cases indexOf? qy.table.columns j.joinerColumn <;> rfl
  unfold runBatch
  simp only [hj, hl]
  rfl

/-- **a missing joined file is an error**, never an empty result: when the joined file cannot be opened (and both
join columns exist — otherwise `ColumnNotFound` comes first, `missing_column_is_error`) the run of
`FileExecutor::execute` (`runBatchI`, the joined file being `none`) ends with `FailOpenFile`, nothing printed, no
line consumed — for every statement, every input, every interrupt point -/
theorem missing_file_is_error (O : Oracles) (qy : Query) (j : JoinInfo) (files : List (List FileLine))
    (clearAt stopAt : Option Nat) (hj : qy.join = some j)
    (h1 : (indexOf? qy.table.columns j.joinerColumn).isSome = true)
    (h2 : (indexOf? j.joined.columns j.joinedColumn).isSome = true) :
    (runBatchI O qy none files clearAt stopAt).1 = { error := some .failOpenFile } := by
  obtain ⟨ki, hki⟩ := Option.isSome_iff_exists.1 h1
  obtain ⟨kj, hkj⟩ := Option.isSome_iff_exists.1 h2
  have hl : setupJoin qy.table j ((loadJoinFileI j none clearAt).bind fun p => .ok p.1) = .error .failOpenFile := by
    simp only [setupJoin, loadJoinFileI, hki, hkj]; rfl
  unfold runBatchI
  simp only [hj, hl]
  rfl

/-! ### non-vacuity -/

def exT : TableInfo := { name := "t", columns := ["k", "v", "w"] }
def exJ : JoinInfo := { joined := { name := "u", columns := ["k", "v", "y"] }, joinerColumn := "k", joinedColumn := "k", isOuter := true }
def exQ : Query := { stmt := .select { projections := [], wildcard := true, filter := none, limit := none, distinct := false }, table := exT, join := some exJ }
def exJoined : List Line :=
  [⟨[], [.text [97], .int 1, .text [120]]⟩, ⟨[], [.null, .int 2, .text [121]]⟩, ⟨[], [.null, .null, .null]⟩,
   ⟨[], [.text [97], .int 3, .null]⟩, ⟨[], [.text [98], .null, .null]⟩]

example : NamesOk exT exJ := by decide +kernel
example : SelfOk exT := by decide +kernel
-- hypotheses of `missing_file_is_error` on the example query, and its conclusion evaluated
example : (indexOf? exQ.table.columns exJ.joinerColumn).isSome = true ∧ (indexOf? exJ.joined.columns exJ.joinedColumn).isSome = true := by decide +kernel
example : (runBatchI default exQ none [[⟨true, ⟨[], [.text [97], .int 7, .null]⟩⟩]] none none).1.error = some .failOpenFile := by decide +kernel
example : (indexOf? exQ.table.columns exJ.joinerColumn).isSome = true := by decide +kernel
example : ∃ idx, loadJoin exJ exJoined = .ok idx := ⟨_, rfl⟩
-- duplicates on the joined side, a NULL key and a non-admitted line: two partners, in file order
example : (partners exQ exJ (admittedRows exJoined) ⟨[], [.text [97], .int 7, .null]⟩).map
    (fun s => match s.getD 1 .null with
      | .int i => i
      | _ => 0) = [1, 3] := by decide +kernel
-- a NULL key on the queried side has no partner although the joined file has a NULL key
example : (partners exQ exJ (admittedRows exJoined) ⟨[], [.null, .int 7, .null]⟩).length = 0 := by decide +kernel
example : keysMatch (.text [97]) (.text [97]) = true ∧ keysMatch .null .null = false := by decide +kernel
-- the specification does answer a non-trivial run (OUTER JOIN, fan-out 2, one padded row)
example : (Spec.Join.batch default exQ (exJoined.map (fun l => ⟨true, l⟩))
    [[⟨true, ⟨[], [.text [97], .int 7, .null]⟩⟩, ⟨true, ⟨[], [.text [122], .int 8, .null]⟩⟩]]).isSome = true := by decide +kernel

/-- **finding D45, seen through the join**: "equal join keys" is the derived equality of values — an INT key and a REAL
key holding the same number are NOT paired, although `WHERE t.v = u.r` holds for them (`compareValues` is numeric:
`Props/C16.lean` `numbers_compare_by_value`). The specification, the model and the code agree on this; the sentence of C16
("any two values … joined are equal … an INT and a REAL of equal value are not ordered by their type") does not. Kept as
the open finding D45 (class `D45:join-int-real` in the C05 check). -/
theorem d45_join_int_real_not_paired :
    keysMatch (.int 3) (.real 0x4008000000000000) = false ∧ compareValues (.int 3) (.real 0x4008000000000000) = .eq := by
  decide +kernel

end Sqlgrep.Props.C05
