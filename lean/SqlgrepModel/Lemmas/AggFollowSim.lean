import SqlgrepModel.Lemmas.AggBatch
/-
C11, aggregate half: the follow-mode state (update + result per row) against the batch-mode state (update only) after the
same rows. Both stand for the same history — `CoupledP` and `Coupled` to the admitted rows so far — hence their cells are
similar (`sim2_of_coupled`) and they show the same table; the specification's answer (`Spec.Agg.table`) is not referred to,
only its grouping of the rows (`keyedRows`, `rowsOfKey`). `sim2_step`, the stepwise form, serves the join case (`AggFollowJoin`).
-/
set_option linter.unusedSimpArgs false
namespace Sqlgrep
open Value Spec.Agg

/-- the follow-mode state `sf` against the batch-mode state `sb` after the same rows: every cell of `sf` is similar
to the corresponding cell of `sb` (identical but for published PERCENTILE values) -/
structure Sim2 (q : AggStmt) (sf sb : AggState) (S : List (List Value)) : Prop where
  sortedF : AggSorted sf
  sortedB : AggSorted sb
  shapeF : Shape sf S
  shapeB : Shape sb S
  cells : ∀ key i kind, (i, kind) ∈ rowSlots q → CellSim kind (readCell sf key i) (readCell sb key i)
  others : ∀ key i, i ∉ (rowSlots q).map (·.1) → readCell sf key i = {} ∧ readCell sb key i = {}

theorem sim2_init (q : AggStmt) : Sim2 q {} {} [] :=
  ⟨aggSorted_init, aggSorted_init, shape_init _, shape_init _, fun _ _ kind _ => CellSim.refl_init kind, fun _ _ _ => ⟨rfl, rfl⟩⟩

theorem sim2_step {O : Oracles} {q : AggStmt} {sf sb sf' sb' : AggState} {S : List (List Value)} {env : Env} {u u' : Bool}
    (h : Sim2 q sf sb S) (hf : aggUpdateRow O q sf env = .ok (sf', u)) (hb : aggUpdateRow O q sb env = .ok (sb', u')) :
    u = u' ∧ ∃ S', Sim2 q sf' sb' S' ∧ (∀ k ∈ S, k ∈ S') ∧
      (∀ k ∈ S', k ∈ S ∨ keyOf O q env = some k) := by
  obtain ⟨hsF, hpF, hfF, htF⟩ := aggUpdateRow_cells h.sortedF hf
  obtain ⟨hsB, hpB, hfB, htB⟩ := aggUpdateRow_cells h.sortedB hb
  have hu : u = u' := by rw [hpF] at hpB; simpa using hpB
  subst hu
  refine ⟨rfl, ?_⟩
  cases u with
  | false =>
    rw [hfF rfl, hfB rfl]
    exact ⟨S, h, fun k hk => hk, fun k hk => Or.inl hk⟩
  | true =>
    obtain ⟨key, hkey, hinF, houtF, hshF⟩ := htF rfl
    obtain ⟨key', hkey', hinB, houtB, hshB⟩ := htB rfl
    rw [hkey] at hkey'
    simp only [Option.some.injEq] at hkey'
    subst hkey'
    refine ⟨key :: S, ⟨hsF, hsB, ?_, ?_, ?_, ?_⟩, fun k hk => by simp [hk], ?_⟩
    · exact hshF _ (shape_mono h.shapeF (fun k hk => by simp [hk])) (by simp)
    · exact hshB _ (shape_mono h.shapeB (fun k hk => by simp [hk])) (by simp)
    · intro k' i kind hm
      by_cases hk : cmpList key k' = .eq
      · rw [← readCell_congr sf' hk i, ← readCell_congr sb' hk i]
        have hsim := h.cells key i kind hm
        obtain ⟨d, hd, hsd⟩ := cellStep_sim hsim (hinF i kind hm)
        rw [hinB i kind hm] at hd
        simp only [Outcome.ok.injEq] at hd
        rw [hd]; exact hsd
      · rw [houtF k' i (Or.inl hk), houtB k' i (Or.inl hk)]
        exact h.cells k' i kind hm
    · intro k' i hi
      rw [houtF k' i (Or.inr hi), houtB k' i (Or.inr hi)]
      exact h.others k' i hi
    · intro k hk
      rcases List.mem_cons.mp hk with hk | hk
      · exact Or.inr (by rw [hk]; exact hkey)
      · exact Or.inl hk

theorem sim2_publish {q : AggStmt} {sf sb : AggState} {S : List (List Value)} (h : Sim2 q sf sb S) :
    Sim2 q (publishPercentiles sf) sb S := by
  refine ⟨aggSorted_publish h.sortedF, h.sortedB, shape_publish h.shapeF, h.shapeB, ?_, ?_⟩
  · intro key i kind hm
    rw [readCell_publish h.sortedF h.shapeF.aggsInner]
    exact cellSim_publish (h.cells key i kind hm)
  · intro key i hi
    rw [readCell_publish h.sortedF h.shapeF.aggsInner, (h.others key i hi).1]
    exact ⟨rfl, (h.others key i hi).2⟩

/-- **the table is the same**: `execute_result` on the follow-mode state and on the batch-mode state yield the same
table (or fail alike) -/
theorem aggResult_sim2 {O : Oracles} {q : AggStmt} {sf sb : AggState} {S : List (List Value)} (h : Sim2 q sf sb S)
    (hex : KeysExact S) :
    (aggResult O q sf).bind (fun r => .ok r.2) = (aggResult O q sb).bind (fun r => (.ok r.2 : Outcome RowOut)) := by
  have hsF := aggSorted_publish h.sortedF
  have hsB := aggSorted_publish h.sortedB
  have hshF := shape_publish h.shapeF
  have hshB := shape_publish h.shapeB
  -- the values both result loops read
  have hval : ∀ key i, (readCell (publishPercentiles sf) key i).val = (readCell (publishPercentiles sb) key i).val := by
    intro key i
    rw [readCell_publish h.sortedF h.shapeF.aggsInner, readCell_publish h.sortedB h.shapeB.aggsInner]
    by_cases hm : i ∈ (rowSlots q).map (·.1)
    · obtain ⟨p, hp, hpi⟩ := List.mem_map.mp hm
      obtain ⟨i', kind⟩ := p
      simp only at hpi
      subst hpi
      exact (h.cells key i' kind hp).published
    · rw [(h.others key i hm).1, (h.others key i hm).2]
  -- a key is in `group_values` iff one of its cells has a value, so both have the same keys
  have hsub : ∀ {s s' : AggState}, AggSorted s → AggSorted s' → Shape s S → Shape s' S →
      (∀ key i, (readCell s key i).val = (readCell s' key i).val) → ∀ x, x ∈ s.vals.map (·.1) → x ∈ s'.vals.map (·.1) := by
    intro s s' hs hs' hsh hsh' hv x hx
    have hxS : x ∈ S := by
      obtain ⟨p, hp, hpx⟩ := List.mem_map.mp hx
      rw [← hpx]; exact hsh.valsKeys p hp
    rw [vals_key_iff hs' hsh' hex x hxS]
    obtain ⟨i, hi⟩ := (vals_key_iff hs hsh hex x hxS).mp hx
    exact ⟨i, by rw [← hv]; exact hi⟩
  have hkeys : (publishPercentiles sf).vals.map (·.1) = (publishPercentiles sb).vals.map (·.1) :=
    sorted_ext hsF.vals hsB.vals fun x =>
      ⟨hsub hsF hsB hshF hshB hval x, hsub hsB hsF hshB hshF (fun key i => (hval key i).symm) x⟩
  have hsame : lookupsOf (publishPercentiles sf).vals = lookupsOf (publishPercentiles sb).vals :=
    sameLookups_of hkeys (fun key i => (readCell (publishPercentiles sf) key i).val)
      (fun p hp i => (gmLookup_of_mem hsF.vals hp i).symm)
      fun p hp i => (gmLookup_of_mem hsB.vals hp i).symm.trans (hval p.1 i).symm
  rw [aggResult_eq, aggResult_eq, aggColumns_sameLookups O q hsame, resultRows_sameLookups O q hsame]
  cases aggColumns O q (publishPercentiles sb).vals (enumFrom 0 q.items) with
  | ok _ =>
    simp only [Outcome.bind]
    cases resultRows O q (publishPercentiles sb).vals [] <;> rfl
  | _ => rfl

theorem finalResult_of_sim2 {O : Oracles} {q : AggStmt} (hlim : q.limit = none) {sf sf2 sb : AggState} {S : List (List Value)}
    (h : Sim2 q sf sb S) (hex : KeysExact S) {out : RowOut} (hres : aggResult O q sf = .ok (sf2, out))
    {es : EngineState} (hes : es.agg = sb) : finalResult O q es = .ok out := by
  have := aggResult_sim2 (O := O) h hex
  rw [hres] at this
  simp only [Outcome.bind] at this
  cases hrb : aggResult O q sb with
  | ok rb =>
    rw [hrb] at this
    simp only [Outcome.bind, Outcome.ok.injEq] at this
    simp only [finalResult, hes, hrb, hlim, bind, Outcome.bind, pure, this]
  | _ => rw [hrb] at this; simp [Outcome.bind] at this

/-- the GROUP BY keys of the rows of an input (those whose key evaluates) -/
def groupKeysOf (O : Oracles) (q : AggStmt) (envs : List Env) : List (List Value) := envs.filterMap (keyOf O q)

theorem sim2_of_coupled {O : Oracles} {q : AggStmt} {sf sb : AggState} {rows : List (List Value × Env)}
    (hf : CoupledP O q sf rows) (hb : Coupled O q sb rows) : Sim2 q sf sb (rows.map (·.1)) :=
  ⟨hf.sorted, hb.sorted, hf.shape, hb.shape,
    fun key i kind hm => by
      obtain ⟨c, hc, hs⟩ := hf.cells key i kind hm
      cases hc.symm.trans (hb.cells key i kind hm); exact hs,
    fun key i hi => ⟨hf.others key i hi, hb.others key i hi⟩⟩

theorem keyedRows_keys {O : Oracles} {q : AggStmt} {envs : List Env} {rows : List (List Value × Env)}
    (h : keyedRows O q envs = some rows) : ∀ k ∈ rows.map (·.1), k ∈ groupKeysOf O q envs := by
  rw [keyedRows_eq, Option.map_eq_some_iff] at h
  obtain ⟨l, hl, rfl⟩ := h
  rw [collect_eq_some_iff] at hl
  intro k hk
  obtain ⟨r, hr, rfl⟩ := List.mem_map.mp hk
  have hr : some r ∈ l := by simpa using hr
  obtain ⟨env, he, hke⟩ := List.mem_map.mp (hl ▸ List.mem_map_of_mem hr : some (some r) ∈ envs.map (keyedRow O q))
  refine List.mem_filterMap.mpr ⟨env, he, ?_⟩
  unfold keyedRow at hke
  split at hke
  · cases hke
  · cases hke
  · cases hk : keyOf O q env with
    | none => simp [hk] at hke
    | some k => simp only [hk, Option.map_some, Option.some.injEq] at hke; rw [← hke]

theorem sim2_runs {O : Oracles} {q : AggStmt} (envs : List Env) {sf sb : AggState}
    (hf : followRun O q envs {} = .ok sf) (hb : aggRun O q envs {} = .ok sb) :
    ∃ rows, keyedRows O q envs = some rows ∧ Sim2 q sf sb (rows.map (·.1)) := by
  obtain ⟨rows, hr, hcf⟩ := followRun_coupledP envs (coupledP_init O q) hf
  obtain ⟨rows', hr', hcb⟩ := aggRun_coupled envs (coupled_init O q) hb
  cases hr.symm.trans hr'
  exact ⟨rows, hr, sim2_of_coupled (by simpa using hcf) (by simpa using hcb)⟩

theorem sim2_snoc {O : Oracles} {q : AggStmt} (pre : List Env) (env : Env) {sf sf1 sb : AggState}
    (hfollow : followRun O q pre {} = .ok sf) (hupd : aggUpdateRow O q sf env = .ok (sf1, true))
    (hbatch : aggRun O q (pre ++ [env]) {} = .ok sb) :
    ∃ rows, keyedRows O q (pre ++ [env]) = some rows ∧ Sim2 q sf1 sb (rows.map (·.1)) := by
  obtain ⟨rows0, hr, hcf⟩ := followRun_coupledP pre (coupledP_init O q) hfollow
  obtain ⟨hpass, _, htrue⟩ := coupledP_step hcf hupd
  obtain ⟨key, hkey, hc1⟩ := htrue rfl
  obtain ⟨rows, hr', hcb⟩ := aggRun_coupled _ (coupled_init O q) hbatch
  cases (keyedRows_append O q pre [env] (r2 := [(key, env)]) hr (by simp [keyedRows, hpass, hkey])).symm.trans hr'
  exact ⟨_, hr', sim2_of_coupled (by simpa using hc1) (by simpa using hcb)⟩

/-- **C11, aggregate half, without the specification**: feed the rows `pre` one at a time with update + result, then a
row `env` that WHERE admits; the table shown for it equals the table of a batch run (update only per row, one result)
over `pre ++ [env]` — for every statement without LIMIT (any aggregates, HAVING, DISTINCT, also inside the finding
classes D10/D15 and whatever the specification says), provided both runs got that far and the group keys of the rows
WHERE admits are exact (equal in the value order ⇒ identical). -/
theorem follow_table_eq_batch_gen {O : Oracles} {q : AggStmt} (hlim : q.limit = none) (pre : List Env) (env : Env)
    {sf sf1 sf2 sb : AggState} {out : RowOut} {rows : List (List Value × Env)}
    (hfollow : followRun O q pre {} = .ok sf) (hupd : aggUpdateRow O q sf env = .ok (sf1, true))
    (hres : aggResult O q sf1 = .ok (sf2, out)) (hbatch : aggRun O q (pre ++ [env]) {} = .ok sb)
    (hrows : keyedRows O q (pre ++ [env]) = some rows) (hex : KeysExact (rows.map (·.1))) :
    finalResult O q { agg := sb } = .ok out := by
  obtain ⟨rows', hr', hsim⟩ := sim2_snoc pre env hfollow hupd hbatch
  cases hrows.symm.trans hr'
  exact finalResult_of_sim2 hlim hsim hex hres rfl

/-- the same with exactness asked of the keys of all rows -/
theorem follow_table_eq_batch_direct {O : Oracles} {q : AggStmt} (hlim : q.limit = none) (pre : List Env) (env : Env)
    {sf sf1 sf2 sb : AggState} {out : RowOut}
    (hfollow : followRun O q pre {} = .ok sf) (hupd : aggUpdateRow O q sf env = .ok (sf1, true))
    (hres : aggResult O q sf1 = .ok (sf2, out))
    (hbatch : aggRun O q (pre ++ [env]) {} = .ok sb)
    (hex : KeysExact (groupKeysOf O q (pre ++ [env]))) :
    finalResult O q { agg := sb } = .ok out := by
  obtain ⟨rows, hr, _⟩ := sim2_snoc pre env hfollow hupd hbatch
  exact follow_table_eq_batch_gen hlim pre env hfollow hupd hres hbatch hr (hex.mono (keyedRows_keys hr))

/-- where the specification answers for the prefix, the keys of its admitted rows are exact -/
theorem follow_table_eq_batch {O : Oracles} {q : AggStmt} (hlim : q.limit = none) (pre : List Env) (env : Env)
    {sf sf1 sf2 sb : AggState} {out : RowOut}
    (hfollow : followRun O q pre {} = .ok sf) (hupd : aggUpdateRow O q sf env = .ok (sf1, true))
    (hres : aggResult O q sf1 = .ok (sf2, out))
    (hbatch : aggRun O q (pre ++ [env]) {} = .ok sb)
    {t : List (List Value)} (hspec : table O q (pre ++ [env]) = some t) :
    finalResult O q { agg := sb } = .ok out := by
  obtain ⟨rows, hrows, _, hex, _⟩ := table_eq_some hspec
  exact follow_table_eq_batch_gen hlim pre env hfollow hupd hres hbatch hrows hex

end Sqlgrep
