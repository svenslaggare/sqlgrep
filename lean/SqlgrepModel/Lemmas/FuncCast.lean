import SqlgrepModel.Model.Eval
import SqlgrepModel.Lemmas.StrBytes
import SqlgrepModel.Lemmas.FuncNum
/-
One literal parser: the evaluator's `parseLit` (what a cast from TEXT runs) agrees with the extraction model's
`Lit.parseI64` / `Lit.parseBool` / `Lit.parseInterval`, the functions C01's `…_exact` theorems characterise.
-/
namespace Sqlgrep

/-- chrono's `TimeDelta` range in nanoseconds is `Lit.deltaOk` on whole seconds -/
theorem inIv_secs (x : Int) : inIv (x * nsPerSec) = Lit.deltaOk x := by
  rw [Bool.eq_iff_iff]
  unfold inIv ivMax nsPerSec Lit.deltaOk Lit.maxDeltaSecs
  simp only [Bool.and_eq_true, decide_eq_true_eq]
  omega

theorem okSecs_eq (x : Int) :
    (decide (-(9223372036854775807 / 1000) ≤ x) && decide (x ≤ 9223372036854775807 / 1000)) = Lit.deltaOk x := rfl

theorem inI64_deltaOk (x : Int) : (inI64 x && Lit.deltaOk x) = Lit.deltaOk x := by
  rw [Bool.eq_iff_iff, Bool.and_eq_true, inI64_iff]
  unfold Lit.deltaOk Lit.maxDeltaSecs
  simp only [Bool.and_eq_true, decide_eq_true_eq]
  omega

theorem mkInterval_eq (h m s : Int) :
    mkInterval h m s =
      if Lit.deltaOk (h * 3600) && Lit.deltaOk (m * 60) && Lit.deltaOk (h * 3600 + m * 60) && Lit.deltaOk s
          && Lit.deltaOk (h * 3600 + m * 60 + s) then
        some (.interval ((h * 3600 + m * 60 + s) * 1000000000))
      else none := by
  unfold mkInterval
  -- each of the five tests is `Lit.deltaOk` of the same number of seconds; what is left is their order
  simp only [okSecs_eq, inI64_deltaOk, ← Int.add_mul, inIv_secs]
  unfold nsPerSec
  cases Lit.deltaOk (h * 3600)
  · rfl
  cases Lit.deltaOk (m * 60)
  · rfl
  cases Lit.deltaOk s <;> cases Lit.deltaOk (h * 3600 + m * 60) <;> cases Lit.deltaOk (h * 3600 + m * 60 + s) <;> rfl

theorem splitOn_eq (s : List Nat) : splitOn 58 s = Lit.splitColon s := by
  induction s with
  | nil => rfl
  | cons b rest ih =>
    unfold splitOn Lit.splitColon
    rw [ih]
    split
    · rfl
    · cases Lit.splitColon rest <;> rfl

/-- INTERVAL literals: the evaluator parses `h:m:s` exactly like extraction does -/
theorem parseLit_interval (O : Oracles) (s : Bytes) : parseLit O .interval s = .ok (Lit.parseInterval s) := by
  unfold parseLit Lit.parseInterval
  simp only [splitOn_eq]
  rcases Lit.splitColon s with _ | ⟨a, _ | ⟨b, _ | ⟨c, _ | ⟨d, l⟩⟩⟩⟩ <;> try rfl
  simp only [parseI64_eq]
  cases Lit.parseI64 a <;> cases Lit.parseI64 b <;> cases Lit.parseI64 c <;> try rfl
  simp only [mkInterval_eq]

/-- INT literals: `i64::from_str`, the function C01's `parseI64_exact` characterises -/
theorem parseLit_int (O : Oracles) (s : Bytes) : parseLit O .int s = .ok ((Lit.parseI64 s).map .int) := by
  simp only [parseLit, parseI64_eq]

/-- BOOLEAN literals: exactly `true` / `false` -/
theorem parseLit_bool (O : Oracles) (s : Bytes) : parseLit O .bool s = .ok ((Lit.parseBool s).map .bool) := by
  have e1 : ("true".toUTF8.toList.map (·.toNat)) = [116, 114, 117, 101] := by decide +kernel
  have e2 : ("false".toUTF8.toList.map (·.toNat)) = [102, 97, 108, 115, 101] := by decide +kernel
  simp only [parseLit, e1, e2, Lit.parseBool, beq_iff_eq]
  by_cases h1 : s = [116, 114, 117, 101]
  · rw [if_pos h1, if_pos h1]; rfl
  · rw [if_neg h1, if_neg h1]
    by_cases h2 : s = [102, 97, 108, 115, 101]
    · rw [if_pos h2, if_pos h2]; rfl
    · rw [if_neg h2, if_neg h2]; rfl

end Sqlgrep
