import SqlgrepModel.Model.Engine
/-
`enumFrom n l` pairs the elements of `l` with their positions counted from `n`: it is `List.zipIdx` with the
components swapped, and membership, concatenation, length and the distinctness of the positions come from there.
-/
namespace Sqlgrep

theorem enumFrom_eq_zipIdx {α : Type} (l : List α) (n : Nat) : enumFrom n l = (l.zipIdx n).map Prod.swap := by
  induction l generalizing n with
  | nil => rfl
  | cons x xs ih => simp [enumFrom, ih]

theorem mem_enumFrom_iff {α : Type} {l : List α} {n i : Nat} {x : α} :
    (i, x) ∈ enumFrom n l ↔ n ≤ i ∧ l[i - n]? = some x := by
  rw [enumFrom_eq_zipIdx, ← List.mem_zipIdx_iff_le_and_getElem?_sub (x := (x, i))]
  constructor
  · intro h
    obtain ⟨p, hp, he⟩ := List.mem_map.mp h
    cases he; exact hp
  · intro h; exact List.mem_map.mpr ⟨_, h, rfl⟩

theorem enumFrom_map_snd {α β : Type} (f : α → β) (l : List α) (n : Nat) : (enumFrom n l).map (fun p => f p.2) = l.map f := by
  induction l generalizing n with
  | nil => rfl
  | cons x xs ih => rw [enumFrom, List.map_cons, List.map_cons, ih]

theorem enumFrom_exists {α : Type} (l : List α) (n : Nat) (x : α) (h : x ∈ l) : ∃ i, (i, x) ∈ enumFrom n l := by
  obtain ⟨j, hj⟩ := List.getElem?_of_mem h
  exact ⟨n + j, mem_enumFrom_iff.mpr ⟨by omega, by simpa using hj⟩⟩

theorem enumFrom_mem_snd {α : Type} (l : List α) (n i : Nat) (x : α) (h : (i, x) ∈ enumFrom n l) : x ∈ l :=
  List.mem_of_getElem? (mem_enumFrom_iff.mp h).2

theorem enumFrom_lt {α : Type} {l : List α} {n i : Nat} {x : α} (h : (i, x) ∈ enumFrom n l) : i < n + l.length := by
  obtain ⟨hn, hx⟩ := mem_enumFrom_iff.mp h
  have := (List.getElem?_eq_some_iff.mp hx).1
  omega

theorem enumFrom_append {α : Type} (a b : List α) (n : Nat) :
    enumFrom n (a ++ b) = enumFrom n a ++ enumFrom (n + a.length) b := by
  simp [enumFrom_eq_zipIdx, List.zipIdx_append]

theorem enumFrom_length {α : Type} (l : List α) (n : Nat) : (enumFrom n l).length = l.length := by
  rw [enumFrom_eq_zipIdx, List.length_map, List.length_zipIdx]

theorem enumFrom_nodup {α : Type} (l : List α) (n : Nat) : ((enumFrom n l).map (·.1)).Nodup := by
  rw [enumFrom_eq_zipIdx, List.map_map]
  change ((l.zipIdx n).map Prod.snd).Nodup
  rw [List.zipIdx_map_snd]
  exact List.nodup_range'

end Sqlgrep
