import SqlgrepModel.Lemmas.Faults
import SqlgrepModel.Model.Engine
/-
Where does the evaluator model stop for a missing external fact (`Outcome.oracleMissing`, which a run reports as
`skipped`)? The reading `P := fun _ => True` of the walk of `Lemmas/Faults.lean`: only inside `callFunction`, at four sites
(`MissingSite`), and only when the oracle has no total functions behind its finite tables (`O.total = none`, as in every
oracle the driver builds): `upper` / `lower` of a non-ASCII text that is not in the shipped table, `regexp_matches` on a
(value, pattern) pair that is not in the shipped table, and `now()`.  With total functions (`Oracles.Total`) no call is ever
unanswered (`NM_callFunction_total`) — the form in which C09's "results or a reported error" is stated for EVERY statement.

* `callFunction_missing_iff`: at each of the four sites a call IS unanswered (the converse of `callFunction_faults`);
* `NM_eval`: if every function symbol occurring in an expression satisfies `ok` and calls of `ok` functions are always
  answered, an evaluation of it is never unanswered (`eval_faults` read);
* the decidable syntactic instance `factFreeFunc` (every function except `upper`, `lower`, `regexp_matches`, `now`):
  the hypothesis holds for ALL oracle tables (`NM_callFunction_factFree`).
-/
namespace Sqlgrep

/-- the outcome is a request for an external fact the case did not ship -/
def Outcome.isMissing {α : Type} : Outcome α → Bool
  | .oracleMissing _ => true
  | _ => false

def NM {α : Type} (o : Outcome α) : Prop := o.isMissing = false

@[simp] theorem NM_ok {α : Type} (a : α) : NM (Outcome.ok a) := rfl
@[simp] theorem NM_pure {α : Type} (a : α) : NM (pure a : Outcome α) := rfl
@[simp] theorem NM_error {α : Type} (k : ErrKind) : NM (Outcome.error k : Outcome α) := rfl
@[simp] theorem NM_panic {α : Type} (s : String) : NM (Outcome.panic s : Outcome α) := rfl

theorem NM_iff_faultsIn {α : Type} {o : Outcome α} : NM o ↔ o.FaultsIn (fun _ => True) (fun _ => False) := by
  cases o <;> simp [NM, Outcome.isMissing]

theorem NM_bind_ok {α β : Type} {x : Outcome α} {f : α → Outcome β} (hx : NM x) (hf : ∀ a, x = .ok a → NM (f a)) :
    NM (x >>= f) :=
  NM_iff_faultsIn.2 (.bind (NM_iff_faultsIn.1 hx) fun a ha => NM_iff_faultsIn.1 (hf a ha))

theorem NM_bind {α β : Type} {x : Outcome α} {f : α → Outcome β} (hx : NM x) (hf : ∀ a, NM (f a)) : NM (x >>= f) :=
  NM_bind_ok hx fun a _ => hf a

theorem NM_condHolds (v : Value) : NM (condHolds v) := NM_iff_faultsIn.2 (condHolds_faults v)

theorem NM_iff {α : Type} (o : Outcome α) : NM o ↔ ∀ w, o ≠ .oracleMissing w := by
  cases o <;> simp [NM, Outcome.isMissing]

theorem Outcome.isMissing_iff {α : Type} (o : Outcome α) : o.isMissing = true ↔ ∃ w, o = .oracleMissing w := by
  cases o <;> simp [Outcome.isMissing]

/-- the functions whose model never asks for an external fact: all but `upper`, `lower`, `regexp_matches`, `now` -/
def factFreeFunc (f : Func) : Bool :=
  match f with
  | .upper | .lower | .regexMatches | .now => false
  | _ => true

theorem MissingSite.not_factFree {O : Oracles} {f : Func} {args : List Value} {w : String} (h : MissingSite O f args w) :
    factFreeFunc f = false := by
  cases h <;> rfl

theorem NM_callFunction_factFree (O : Oracles) (f : Func) (hf : factFreeFunc f = true) (args : List Value) :
    NM (callFunction O f args) :=
  NM_iff_faultsIn.2 ((callFunction_faults O f args).mono (fun _ _ => trivial)
    fun _ hw => by rw [hw.not_factFree] at hf; cases hf)

theorem callFunction_missing_iff (O : Oracles) (f : Func) (args : List Value) (w : String) :
    callFunction O f args = .oracleMissing w ↔ MissingSite O f args w := by
  constructor
  · intro h
    have := callFunction_faults O f args
    rwa [h] at this
  · intro h
    cases h with
    | upper s ha hl ht => dsimp only [callFunction]; rw [if_neg (ne_true_of_eq_false ha), hl, ht]
    | lower s ha hl ht => dsimp only [callFunction]; rw [if_neg (ne_true_of_eq_false ha), hl, ht]
    | regex v p hl ht => dsimp only [callFunction]; rw [hl, ht]; rfl
    | now ht => dsimp only [callFunction]; rw [ht]

theorem NM_callFunction_total (O : Oracles) (hT : O.Total) (f : Func) (args : List Value) : NM (callFunction O f args) := by
  obtain ⟨T, hT⟩ := hT
  refine NM_iff_faultsIn.2 ((callFunction_faults O f args).mono (fun _ _ => trivial) fun _ hw => ?_)
  rw [hw.total_none] at hT
  cases hT

theorem callFunction_isMissing_iff (O : Oracles) (f : Func) (args : List Value) :
    (callFunction O f args).isMissing = true ↔ ∃ w, MissingSite O f args w := by
  simp only [Outcome.isMissing_iff, callFunction_missing_iff]

theorem upper_missing_iff (O : Oracles) (s : Bytes) :
    (callFunction O .upper [.text s]).isMissing = true ↔ isAscii s = false ∧ lookupB O.upper s = none ∧ O.total = none := by
  rw [callFunction_isMissing_iff]
  constructor
  · rintro ⟨_, _ | _⟩
    exact ⟨‹_›, ‹_›, ‹_›⟩
  · rintro ⟨ha, hl, ht⟩
    exact ⟨_, .upper s ha hl ht⟩

theorem lower_missing_iff (O : Oracles) (s : Bytes) :
    (callFunction O .lower [.text s]).isMissing = true ↔ isAscii s = false ∧ lookupB O.lower s = none ∧ O.total = none := by
  rw [callFunction_isMissing_iff]
  constructor
  · rintro ⟨_, _ | _⟩
    exact ⟨‹_›, ‹_›, ‹_›⟩
  · rintro ⟨ha, hl, ht⟩
    exact ⟨_, .lower s ha hl ht⟩

theorem regex_missing_iff (O : Oracles) (v p : Bytes) :
    (callFunction O .regexMatches [.text v, .text p]).isMissing = true ↔
      O.regex.find? (fun e => e.1.1 == v && e.1.2 == p) = none ∧ O.total = none := by
  rw [callFunction_isMissing_iff]
  constructor
  · rintro ⟨_, _ | _⟩
    exact ⟨‹_›, ‹_›⟩
  · rintro ⟨hl, ht⟩
    exact ⟨_, .regex v p hl ht⟩

/-- `now()` is skipped exactly when the oracle has no clock reading — always, for the oracles the driver builds -/
theorem now_missing_iff (O : Oracles) : callFunction O .now [] = .oracleMissing "now" ↔ O.total = none := by
  rw [callFunction_missing_iff]
  exact ⟨fun h => h.total_none, .now⟩

/-- the expression calls none of `upper`, `lower`, `regexp_matches`, `now` (at any depth) -/
abbrev Expr.factFree (e : Expr) : Bool := e.allFuncs factFreeFunc

/-- **the statement needs no external fact**: none of its expressions — select items, WHERE, GROUP BY parts, aggregate
arguments, expressions around aggregates, HAVING, CASE branches, IN lists, function arguments, at any depth — calls
`upper`, `lower`, `regexp_matches` or `now`. Decidable (a `Bool`). -/
abbrev Stmt.factFree (s : Stmt) : Bool := s.allFuncs factFreeFunc

abbrev Query.factFree (qy : Query) : Bool := qy.stmt.factFree


section
variable (O : Oracles) (ok : Func → Bool) (hok : ∀ f, ok f = true → ∀ args, NM (callFunction O f args))
include hok

theorem faults_of_answered : ∀ f, ok f = true → ∀ args, (callFunction O f args).FaultsIn (fun _ => True) (fun _ => False) :=
  fun f hf args => NM_iff_faultsIn.1 (hok f hf args)

theorem NM_eval (env : Env) : ∀ (e : Expr), e.allFuncs ok = true → NM (eval O env e) :=
  fun e h => NM_iff_faultsIn.2 (eval_faults O ok (faults_of_answered O ok hok) env e h)

theorem NM_evalList (env : Env) : ∀ (es : List Expr), Expr.allFuncsList ok es = true → NM (evalList O env es) :=
  fun es h => NM_iff_faultsIn.2 (evalList_faults O ok (faults_of_answered O ok hok) env es h)

theorem NM_evalIn (env : Env) : ∀ (es : List Expr), Expr.allFuncsList ok es = true →
    ∀ (isNot : Bool) (v : Value) (anyNull : Bool), NM (evalIn O env isNot v anyNull es) :=
  fun es h _ _ _ => NM_iff_faultsIn.2 (evalIn_faults O ok (faults_of_answered O ok hok) env es h ..)

theorem NM_evalCase (env : Env) : ∀ (cs : List (Expr × Expr)), Expr.allFuncsCases ok cs = true → NM (evalCase O env cs) :=
  fun cs h => NM_iff_faultsIn.2 (evalCase_faults O ok (faults_of_answered O ok hok) env cs h)

end

theorem NM_eval_factFree (O : Oracles) (env : Env) (e : Expr) (h : e.factFree = true) : NM (eval O env e) :=
  NM_eval O factFreeFunc (NM_callFunction_factFree O) env e h

theorem NM_eval_total (O : Oracles) (hT : O.Total) (env : Env) (e : Expr) : NM (eval O env e) :=
  NM_eval O anyFunc (fun f _ => NM_callFunction_total O hT f) env e (Expr.allFuncs_any e)

end Sqlgrep
