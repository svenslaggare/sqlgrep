import SqlgrepModel.Lemmas.AggSumOf
import SqlgrepModel.Lemmas.FirstOccs
/-
C15, aggregate level: every order-insensitive aggregate of the specification is a function of the MULTISET of its
group's argument values (`aggregate_perm`), under the hypotheses the property grants — kind by kind from the permutation
lemmas of `collect`, `extreme`, `sortValues`, `sumOf`, `firstOccs`.
-/
set_option linter.unusedSimpArgs false
namespace Sqlgrep
open Value Spec.Agg

/-- the aggregates C15 speaks about (everything but ARRAY_AGG and STRING_AGG, whose value is the arrival order) -/
def orderInsensitive : AggKind → Bool
  | .arrayAgg _ => false
  | .stringAgg _ _ => false
  | _ => true

/-- aggregates that pick a value by the value order -/
def usesOrder : AggKind → Bool
  | .min _ | .max _ | .percentile _ _ => true
  | _ => false

/-- aggregates that add values up -/
def usesSums : AggKind → Bool
  | .sum _ | .avg _ | .stddev _ _ => true
  | _ => false

/-- **every order-insensitive aggregate is a function of the multiset of its group's argument values**, under the
hypotheses the property grants: values picked by order are exact; INT partial sums in range in every order; REAL
sums exact -/
theorem aggregate_perm (k : AggKind) {vs1 vs2 : List Value} (h : vs1.Perm vs2) (hk : orderInsensitive k = true)
    (hex : usesOrder k = true → ValuesExact (nonNull vs1)) (hsum : usesSums k = true → SumsOrderFree (nonNull vs1)) :
    aggregate k vs1 = aggregate k vs2 := by
  have hn := nonNull_perm h
  cases k with
  | groupKey e c => rfl
  | count col d =>
    cases col with
    | none => simp only [aggregate, h.length_eq]
    | some cn =>
      cases d with
      | false => simp only [aggregate, hn.length_eq]
      | true => simp only [aggregate, firstOccs_length_perm hn]
  | sum e => simp only [aggregate]; exact sumOf_perm hn (hsum rfl)
  | avg e => simp only [aggregate]; exact avgOf_perm hn (hsum rfl)
  | stddev e b => simp only [aggregate]; exact stddevOf_perm b hn (hsum rfl)
  | min e => simp only [aggregate, sameType_perm hn, extreme_perm true hn (hex rfl)]
  | max e => simp only [aggregate, sameType_perm hn, extreme_perm false hn (hex rfl)]
  | percentile e p =>
    simp only [aggregate, percentileOf, sameType_perm hn, sortValues_eq_of_perm hn (hex rfl)]
  | boolAnd e =>
    simp only [aggregate, Option.map_eq_bind]
    exact (bools_perm hn).bind_eq fun _ _ _ hp => by simp only [Function.comp, hp.all_eq, hp.isEmpty_eq]
  | boolOr e =>
    simp only [aggregate, Option.map_eq_bind]
    exact (bools_perm hn).bind_eq fun _ _ _ hp => by simp only [Function.comp, hp.any_eq, hp.isEmpty_eq]
  | arrayAgg e => simp [orderInsensitive] at hk
  | stringAgg e d => simp [orderInsensitive] at hk

end Sqlgrep
