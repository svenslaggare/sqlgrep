import SqlgrepModel.Lemmas.SelectEngine
/-
`extract_result_rows_by_column` (`Model/Engine.lean` `aggColumn` / `aggColumns`): the result table of an aggregate
statement is computed COLUMN BY COLUMN (outer loop: the select list in order; inner loop: the groups in key order),
and only then assembled row by row (`resultRows` / `rowOf`).

* success does not depend on the order of the loops: the column pass answers iff every row has its cells
  (`aggColumns_ok_iff_rows`), so everything that is said about rows (`rowOf`) carries over;
* the rows assembled from the columns (`result_rows_by_column[column_index][row_index]`) are the rows `rowOf`
  computes (`aggColumns_ok_rowOf`) — which is why `resultRows` may evaluate the cells again;
* WHICH failure is reported does depend on the order: it is the failure of the first cell without a value in
  column-major order (`aggColumns_firstFail`).

The row loop in closed form (`resultRows_eq_seq`): the groups one after the other, each its row and then HAVING
(`shownRow`), and DISTINCT on the rows that are shown — `keepRows`, the operator of the select engine. Its first failure is
the first failure among the groups (`resultRows_void`, `resultRows_eq_error`), its success is every group's
(`resultRows_eq_ok`), and it reads `group_values` by key and lookup only (`lookupsOf`, `resultRows_sameLookups`).
-/
namespace Sqlgrep

/-- HAVING on one group of `group_values` (always true without HAVING) -/
def havingOk (O : Oracles) (q : AggStmt) (key : List Value) (subs : List (Nat × Value)) : Outcome Bool :=
  match q.having with
  | some h => acceptGroup O q h key subs
  | none => pure true

theorem resultRows_cons (O : Oracles) (q : AggStmt) (key : List Value) (subs : List (Nat × Value))
    (rest : List (List Value × List (Nat × Value))) (seen : List (List Value)) :
    resultRows O q ((key, subs) :: rest) seen =
      (rowOf O q key subs (enumFrom 0 q.items)).bind (fun row =>
        (havingOk O q key subs).bind (fun keep =>
          if !keep then resultRows O q rest seen
          else if q.distinct then
            if (distinctAdd seen row).2 then (resultRows O q rest (distinctAdd seen row).1).bind (fun more => .ok (row :: more))
            else resultRows O q rest (distinctAdd seen row).1
          else (resultRows O q rest seen).bind (fun more => .ok (row :: more)))) := rfl

theorem rowOf_eq_seq (O : Oracles) (q : AggStmt) (key : List Value) (subs : List (Nat × Value)) (items : List (Nat × AggItem)) :
    rowOf O q key subs items = Outcome.seq (items.map (fun p => cellOf O q p.1 p.2 key subs)) := by
  induction items with
  | nil => rfl
  | cons p rest ih => simp only [rowOf, List.map_cons, Outcome.seq, ih, bind, pure]

theorem aggColumn_eq_seq (O : Oracles) (q : AggStmt) (i : Nat) (item : AggItem) (V : List (List Value × List (Nat × Value))) :
    aggColumn O q i item V = Outcome.seq (V.map (fun g => cellOf O q i item g.1 g.2)) := by
  induction V with
  | nil => rfl
  | cons g rest ih => simp only [aggColumn, List.map_cons, Outcome.seq, ih, bind, pure]

theorem aggColumns_eq_seq (O : Oracles) (q : AggStmt) (V : List (List Value × List (Nat × Value))) (items : List (Nat × AggItem)) :
    aggColumns O q V items = Outcome.seq (items.map (fun p => aggColumn O q p.1 p.2 V)) := by
  induction items with
  | nil => rfl
  | cons p rest ih => simp only [aggColumns, List.map_cons, Outcome.seq, ih, bind, pure]

/-- the row of one group of `group_values`, if HAVING keeps the group -/
def shownRow (O : Oracles) (q : AggStmt) (g : List Value × List (Nat × Value)) : Outcome (Option (List Value)) :=
  (rowOf O q g.1 g.2 (enumFrom 0 q.items)).bind fun row =>
    (havingOk O q g.1 g.2).bind fun keep => .ok (if keep then some row else none)

/-- `resultRows` group by group (row, then HAVING, then the next group), and DISTINCT on the rows that are shown: the
operator `keepRows` of the select engine (`distinctAdd` is one step of `dedupFrom`) -/
theorem resultRows_eq_seq (O : Oracles) (q : AggStmt) (gs : List (List Value × List (Nat × Value))) (seen : List (List Value)) :
    resultRows O q gs seen =
      (Outcome.seq (gs.map (shownRow O q))).bind fun rs => .ok (keepRows q.distinct seen (rs.filterMap id)) := by
  induction gs generalizing seen with
  | nil => cases q.distinct <;> rfl
  | cons g rest ih =>
    obtain ⟨key, subs⟩ := g
    rw [resultRows_cons, List.map_cons, Outcome.seq, shownRow, Outcome.bind_assoc, Outcome.bind_assoc]
    refine Outcome.bind_congr fun row _ => ?_
    rw [Outcome.bind_assoc]
    refine Outcome.bind_congr fun keep _ => ?_
    simp only [Outcome.ok_bind, Outcome.bind_assoc, ih]
    cases keep
    · rfl
    cases q.distinct
    · rfl
    cases hs : seen.any (tupleSame row) <;>
      simp only [distinctAdd, keepRows, Spec.Select.dedupFrom, List.filterMap_cons_some (rfl : id (some row) = some row), hs,
        if_true, if_false, Bool.false_eq_true, Bool.not_true]

/-- cells, rows and HAVING read a group of `group_values` by lookup only -/
theorem cellOf_congr (O : Oracles) (q : AggStmt) (i : Nat) (item : AggItem) (key : List Value) {s s' : List (Nat × Value)}
    (h : alGet s = alGet s') : cellOf O q i item key s = cellOf O q i item key s' := by
  unfold cellOf
  rw [h]

theorem rowOf_congr (O : Oracles) (q : AggStmt) (key : List Value) {s s' : List (Nat × Value)} (h : alGet s = alGet s')
    (items : List (Nat × AggItem)) : rowOf O q key s items = rowOf O q key s' items := by
  simp only [rowOf_eq_seq, fun p : Nat × AggItem => cellOf_congr O q p.1 p.2 key h]

theorem acceptGroup_congr (O : Oracles) (q : AggStmt) (having : Expr) (key : List Value) {s s' : List (Nat × Value)}
    (h : alGet s = alGet s') : acceptGroup O q having key s = acceptGroup O q having key s' := by
  unfold acceptGroup
  rw [h]

theorem shownRow_congr (O : Oracles) (q : AggStmt) (key : List Value) {s s' : List (Nat × Value)}
    (h : alGet s = alGet s') : shownRow O q (key, s) = shownRow O q (key, s') := by
  simp only [shownRow, havingOk, rowOf_congr O q key h, fun e => acceptGroup_congr O q e key h]

/-- what the result loop reads of `group_values`: the keys in order, each inner map by lookup -/
def lookupsOf (V : List (List Value × List (Nat × Value))) : List (List Value × (Nat → Option Value)) :=
  V.map fun g => (g.1, alGet g.2)

/-- two lists that agree position by position under `F`, `F'` agree under `G`, `G'` when that follows element by element -/
theorem map_eq_map_of_imp {α β γ δ : Type} {F : α → γ} {F' : β → γ} {G : α → δ} {G' : β → δ} :
    ∀ {L : List α} {L' : List β}, L.map F = L'.map F' → (∀ x ∈ L, ∀ x' ∈ L', F x = F' x' → G x = G' x') →
      L.map G = L'.map G'
  | [], [], _, _ => rfl
  | x :: L, x' :: L', h, hp => by
    rw [List.map_cons, List.map_cons, List.cons.injEq] at h
    rw [List.map_cons, List.map_cons, hp x List.mem_cons_self x' List.mem_cons_self h.1,
      map_eq_map_of_imp h.2 fun y hy y' hy' => hp y (List.mem_cons_of_mem _ hy) y' (List.mem_cons_of_mem _ hy')]
  | [], _ :: _, h, _ => nomatch h
  | _ :: _, [], h, _ => nomatch h

/-- whatever is computed group by group from the key and by lookup is the same on two `group_values` with the same keys
and the same lookups -/
theorem map_sameLookups {γ : Type} {F : List Value → List (Nat × Value) → γ}
    (hF : ∀ key s s', alGet s = alGet s' → F key s = F key s') {V V' : List (List Value × List (Nat × Value))}
    (h : lookupsOf V = lookupsOf V') : V.map (fun g => F g.1 g.2) = V'.map (fun g => F g.1 g.2) := by
  refine map_eq_map_of_imp h fun g _ g' _ e => ?_
  obtain ⟨key, s⟩ := g
  obtain ⟨key', s'⟩ := g'
  rw [Prod.mk.injEq] at e
  obtain ⟨rfl, hs⟩ := e
  exact hF key s s' hs

theorem resultRows_sameLookups (O : Oracles) (q : AggStmt) {V V' : List (List Value × List (Nat × Value))}
    (h : lookupsOf V = lookupsOf V') (seen : List (List Value)) : resultRows O q V seen = resultRows O q V' seen := by
  rw [resultRows_eq_seq, resultRows_eq_seq,
    map_sameLookups (F := fun key s => shownRow O q (key, s)) (fun key _ _ => shownRow_congr O q key) h]

theorem aggColumns_sameLookups (O : Oracles) (q : AggStmt) {V V' : List (List Value × List (Nat × Value))}
    (h : lookupsOf V = lookupsOf V') (items : List (Nat × AggItem)) : aggColumns O q V items = aggColumns O q V' items := by
  simp only [aggColumns_eq_seq, aggColumn_eq_seq, fun p : Nat × AggItem => map_sameLookups (cellOf_congr O q p.1 p.2) h]

theorem sameLookups_of {V V' : List (List Value × List (Nat × Value))} (hkeys : V.map (·.1) = V'.map (·.1))
    (F : List Value → Nat → Option Value) (hV : ∀ p ∈ V, ∀ i, alGet p.2 i = F p.1 i)
    (hV' : ∀ p ∈ V', ∀ i, alGet p.2 i = F p.1 i) : lookupsOf V = lookupsOf V' := by
  have e : ∀ {W : List (List Value × List (Nat × Value))}, (∀ p ∈ W, ∀ i, alGet p.2 i = F p.1 i) →
      lookupsOf W = (W.map (·.1)).map fun key => (key, F key) := fun hW => by
    rw [List.map_map]
    exact List.map_congr_left fun p hp => congrArg (Prod.mk p.1) (funext (hW p hp))
  rw [e hV, e hV', hkeys]

/-- with its row, what a group shows is what HAVING answers -/
theorem shownRow_of_row (O : Oracles) {q : AggStmt} {g : List Value × List (Nat × Value)} {row : List Value}
    (h : rowOf O q g.1 g.2 (enumFrom 0 q.items) = .ok row) :
    shownRow O q g = (havingOk O q g.1 g.2).bind fun keep => .ok (if keep then some row else none) := by
  rw [shownRow, h]; rfl

/-- the first failure of `resultRows` is the first failure among the groups -/
theorem resultRows_void (O : Oracles) (q : AggStmt) (gs : List (List Value × List (Nat × Value))) (seen : List (List Value)) :
    (resultRows O q gs seen).void = firstFail (gs.map (shownRow O q)) := by
  rw [resultRows_eq_seq, ← Outcome.seq_void]
  cases Outcome.seq _ <;> rfl

theorem resultRows_eq_error {O : Oracles} {q : AggStmt} {gs : List (List Value × List (Nat × Value))} {seen : List (List Value)}
    {k : ErrKind} : resultRows O q gs seen = .error k ↔ firstFail (gs.map (shownRow O q)) = .error k := by
  rw [← resultRows_void O q gs seen]
  cases resultRows O q gs seen <;> simp [Outcome.void]

theorem resultRows_eq_ok {O : Oracles} {q : AggStmt} {gs : List (List Value × List (Nat × Value))} {seen rows : List (List Value)} :
    resultRows O q gs seen = .ok rows ↔
      ∃ rs : List (Option (List Value)), gs.map (shownRow O q) = rs.map .ok ∧ keepRows q.distinct seen (rs.filterMap id) = rows := by
  simp only [resultRows_eq_seq, Outcome.bind_eq_ok_iff, Outcome.seq_eq_ok_iff, Outcome.ok.injEq]

theorem aggColumn_void (O : Oracles) (q : AggStmt) (i : Nat) (item : AggItem) (V : List (List Value × List (Nat × Value))) :
    (aggColumn O q i item V).void = firstFail (V.map (fun g => cellOf O q i item g.1 g.2)) := by
  rw [aggColumn_eq_seq, Outcome.seq_void]

theorem aggColumn_ok_iff (O : Oracles) (q : AggStmt) (i : Nat) (item : AggItem) (V : List (List Value × List (Nat × Value))) :
    (∃ c, aggColumn O q i item V = .ok c) ↔ ∀ g ∈ V, ∃ v, cellOf O q i item g.1 g.2 = .ok v := by
  rw [← void_ok_iff, aggColumn_void, firstFail_ok_iff]
  simp only [List.mem_map, forall_exists_index, and_imp, forall_apply_eq_imp_iff₂]

theorem rowOf_void (O : Oracles) (q : AggStmt) (key : List Value) (subs : List (Nat × Value)) (items : List (Nat × AggItem)) :
    (rowOf O q key subs items).void = firstFail (items.map (fun p => cellOf O q p.1 p.2 key subs)) := by
  rw [rowOf_eq_seq, Outcome.seq_void]

theorem rowOf_ok_iff (O : Oracles) (q : AggStmt) (key : List Value) (subs : List (Nat × Value)) (items : List (Nat × AggItem)) :
    (∃ r, rowOf O q key subs items = .ok r) ↔ ∀ p ∈ items, ∃ v, cellOf O q p.1 p.2 key subs = .ok v := by
  rw [← void_ok_iff, rowOf_void, firstFail_ok_iff]
  simp only [List.mem_map, forall_exists_index, and_imp, forall_apply_eq_imp_iff₂]

/-- the cells of the table in the order the code evaluates them: column by column, each column over the groups in key
order -/
def cellsColumnMajor (O : Oracles) (q : AggStmt) (V : List (List Value × List (Nat × Value))) (items : List (Nat × AggItem)) :
    List (Outcome Value) :=
  items.flatMap (fun p => V.map (fun g => cellOf O q p.1 p.2 g.1 g.2))

/-- **which failure `extract_result_rows_by_column` reports**: that of the first cell without a value in column-major
order -/
theorem aggColumns_firstFail (O : Oracles) (q : AggStmt) (V : List (List Value × List (Nat × Value))) (items : List (Nat × AggItem)) :
    (aggColumns O q V items).void = firstFail (cellsColumnMajor O q V items) := by
  induction items with
  | nil => rfl
  | cons p rest ih =>
    obtain ⟨i, item⟩ := p
    simp only [aggColumns, cellsColumnMajor, List.flatMap_cons, bind]
    rw [firstFail_append, ← aggColumn_void]
    cases hc : aggColumn O q i item V with
    | ok c =>
      simp only [Outcome.bind, Outcome.void]
      unfold cellsColumnMajor at ih
      rw [← ih]
      cases aggColumns O q V rest <;> rfl
    | _ => rfl

theorem aggColumns_ok_iff (O : Oracles) (q : AggStmt) (V : List (List Value × List (Nat × Value))) (items : List (Nat × AggItem)) :
    (∃ cs, aggColumns O q V items = .ok cs) ↔ ∀ p ∈ items, ∀ g ∈ V, ∃ v, cellOf O q p.1 p.2 g.1 g.2 = .ok v := by
  rw [← void_ok_iff, aggColumns_firstFail, firstFail_ok_iff]
  simp only [cellsColumnMajor, List.mem_flatMap, List.mem_map, forall_exists_index, and_imp]
  constructor
  · intro h p hp g hg; exact h _ p hp g hg rfl
  · intro h x p hp g hg hx; rw [← hx]; exact h p hp g hg

/-- **success does not depend on the order of the loops**: the column pass answers iff every group has its row -/
theorem aggColumns_ok_iff_rows (O : Oracles) (q : AggStmt) (V : List (List Value × List (Nat × Value))) (items : List (Nat × AggItem)) :
    (∃ cs, aggColumns O q V items = .ok cs) ↔ ∀ g ∈ V, ∃ r, rowOf O q g.1 g.2 items = .ok r := by
  rw [aggColumns_ok_iff]
  constructor
  · intro h g hg; exact (rowOf_ok_iff O q g.1 g.2 items).mpr (fun p hp => h p hp g hg)
  · intro h p hp g hg; exact (rowOf_ok_iff O q g.1 g.2 items).mp (h g hg) p hp

theorem aggColumns_ok_of_rows {O : Oracles} {q : AggStmt} {V : List (List Value × List (Nat × Value))} {items : List (Nat × AggItem)}
    (h : ∀ g ∈ V, ∃ r, rowOf O q g.1 g.2 items = .ok r) : ∃ cs, aggColumns O q V items = .ok cs :=
  (aggColumns_ok_iff_rows O q V items).mpr h

theorem rows_ok_of_aggColumns {O : Oracles} {q : AggStmt} {V : List (List Value × List (Nat × Value))} {items : List (Nat × AggItem)}
    {cs : List (List Value)} (h : aggColumns O q V items = .ok cs) : ∀ g ∈ V, ∃ r, rowOf O q g.1 g.2 items = .ok r :=
  (aggColumns_ok_iff_rows O q V items).mp ⟨cs, h⟩

theorem aggColumn_ok_get {O : Oracles} {q : AggStmt} {i : Nat} {item : AggItem} :
    ∀ {V : List (List Value × List (Nat × Value))} {c : List Value}, aggColumn O q i item V = .ok c →
      ∀ (n : Nat) (g : List Value × List (Nat × Value)), V[n]? = some g → cellOf O q i item g.1 g.2 = .ok (c.getD n .null) := by
  intro V c h n g hg
  rw [aggColumn_eq_seq, Outcome.seq_eq_ok_iff] at h
  have := congrArg (·[n]?) h
  simp only [List.getElem?_map, hg, Option.map_some] at this
  cases hc : c[n]? with
  | none => simp [hc] at this
  | some v => simpa [hc, List.getD_eq_getElem?_getD] using this

/-- `result_columns.push(result_rows_by_column[column_index][row_index].clone())`: the row the code assembles for the
`n`-th group from the columns is the row `rowOf` computes for that group -/
theorem aggColumns_ok_rowOf {O : Oracles} {q : AggStmt} {V : List (List Value × List (Nat × Value))} :
    ∀ {items : List (Nat × AggItem)} {cs : List (List Value)}, aggColumns O q V items = .ok cs →
      ∀ (n : Nat) (g : List Value × List (Nat × Value)), V[n]? = some g →
        rowOf O q g.1 g.2 items = .ok (cs.map (fun c => c.getD n .null)) := by
  intro items cs h n g hg
  rw [aggColumns_eq_seq, Outcome.seq_eq_ok_iff] at h
  rw [rowOf_eq_seq, Outcome.seq_eq_ok_iff, List.map_map]
  induction items generalizing cs with
  | nil =>
    cases cs with
    | nil => rfl
    | cons _ _ => simp at h
  | cons p rest ih =>
    cases cs with
    | nil => simp at h
    | cons c cs' =>
      simp only [List.map_cons, List.cons.injEq] at h ⊢
      exact ⟨aggColumn_ok_get h.1 n g hg, ih h.2⟩

theorem aggColumns_congr {O : Oracles} {q q' : AggStmt} {V V' : List (List Value × List (Nat × Value))} (hl : V.length = V'.length) :
    ∀ (items : List (Nat × AggItem)),
      (∀ p ∈ items, ∀ (n : Nat) (g g' : List Value × List (Nat × Value)), V[n]? = some g → V'[n]? = some g' →
        cellOf O q p.1 p.2 g.1 g.2 = cellOf O q' p.1 p.2 g'.1 g'.2) →
      aggColumns O q V items = aggColumns O q' V' items := by
  intro items h
  simp only [aggColumns_eq_seq, aggColumn_eq_seq]
  refine congrArg _ (List.map_congr_left fun p hp => congrArg _ (List.ext_getElem (by simpa using hl) fun n h1 h2 => ?_))
  simp only [List.getElem_map]
  exact h p hp n _ _ (List.getElem?_eq_getElem _) (List.getElem?_eq_getElem _)

end Sqlgrep
