import SqlgrepModel.Lemmas.LimitSelect
import SqlgrepModel.Lemmas.LimitAgg
import SqlgrepModel.Lemmas.FollowBridge
/-
C07 — LIMIT n outputs exactly the first n rows of the unlimited result.

Model: `runBatch` (Model/Exec.lean: `FileExecutor::execute` with the `reached_limit()` check before every
file and the `break 'readers` after the line that reaches the limit), `executeLine` / `updateLimit`
(Model/Engine.lean: the rows of a line are cut to what is left of LIMIT, every row counts — NULL-only rows
too —, the flag is raised with the row that reaches the limit), `finalResult` (the final aggregate table is cut
to n rows). These are the definitions the driver executes (`batch` cases).

Vocabulary (Spec/Select.lean): the output of a non-aggregate run is a stream of typed rows grouped by the
input line that produced them ("blocks"; `batchBlocks` = the candidate rows of every line of every file,
`applyDistinct` = first occurrences, `render` = the text records, with the empty separator line the text
printer puts after a line's table of several rows). `takeBlocks n` is `take n` on the stream with the grouping
kept; `consumed n` is the number of lines up to the one that supplies the n-th row.

The sentence does not speak of errors: with LIMIT a run may stop before a later line on which an expression
has no value (or that is unreadable), so the theorems are about runs whose version WITHOUT LIMIT does not fail
(`hasFailed … = false`); the LIMIT run then does not fail either. The last example shows the hypothesis cannot
be dropped.
All theorems hold for every n, every list of files (any number, any split — also empty files), every join index
(fan-out: several environments per line), DISTINCT or not, and rows consisting only of NULLs.
Only this file states property theorems; helper lemmas live in `Lemmas/` (the run of a statement that differs at most in
LIMIT and DISTINCT, which C08 rests on as well: `runBatch_of_sameRows` in `Lemmas/LimitSelect.lean`), except the two in front
of `limit_is_take`.
-/
namespace Sqlgrep.Props.C07
open Sqlgrep Sqlgrep.Spec.Select

theorem applyDistinct_length (d : Bool) (blocks : List (List (List Value))) :
    (applyDistinct d blocks).length = blocks.length := by
  cases d
  · rfl
  · exact dedupBlocks_length tupleSame [] blocks

theorem batchBlocks_length {O : Oracles} {qy : Query} {q : SelectStmt} {joined : List FileLine}
    {files : List (List FileLine)} {blocks : List (List (List Value))}
    (hb : batchBlocks O qy q joined files = some blocks) : blocks.length = files.flatten.length := by
  unfold batchBlocks at hb
  split at hb
  · split at hb
    · split at hb
      · next hl =>
        cases hb
        rw [linesRows_length O qy q _ _ _ hl, List.length_map]
      · cases hb
    · cases hb
  · cases hb

/-- **LIMIT n = the first n rows of the unlimited output** (non-aggregate statements). If the run without
LIMIT does not fail, then with `B` the row blocks it outputs (DISTINCT applied): the run without LIMIT prints
`render B` after reading every line; the run with LIMIT n prints `render (takeBlocks n B)` — and the rows of
`takeBlocks n B` are exactly the first n rows of `B` (all of them if there are fewer) — reads `consumed n B`
lines and reports no error. -/
theorem limit_is_take (O : Oracles) (qy : Query) (q : SelectStmt) (joined : List FileLine)
    (files : List (List FileLine)) (n : Nat)
    (hu : hasFailed (runBatch O (qy.withSelect (q.withLimit none)) joined files none) = false) :
    ∃ blocks : List (List (List Value)),
      batchBlocks O qy q joined files = some blocks ∧
      runBatch O (qy.withSelect (q.withLimit none)) joined files none =
        { printed := render (columnsOf qy q) (applyDistinct q.distinct blocks), totalLines := blocks.length } ∧
      runBatch O (qy.withSelect (q.withLimit (some n))) joined files none =
        { printed := render (columnsOf qy q) (takeBlocks n (applyDistinct q.distinct blocks)),
          totalLines := consumed n (applyDistinct q.distinct blocks) } ∧
      (takeBlocks n (applyDistinct q.distinct blocks)).flatten = (applyDistinct q.distinct blocks).flatten.take n := by
  obtain ⟨blocks, hb⟩ := batchBlocks_of_unlimited_ok O (qy.withSelect (q.withLimit none)) (q.withLimit none) rfl rfl
    joined files hu
  rw [batchBlocks_same O qy q _ (sameRows_limit q none)] at hb
  refine ⟨blocks, hb, ?_, runBatch_of_sameRows O qy (sameRows_limit q (some n)) joined files hb,
    takeBlocks_flatten _ _⟩
  rw [runBatch_of_sameRows O qy (sameRows_limit q none) joined files hb, ← applyDistinct_length q.distinct blocks]
  rfl

/-- **consumption bound** (non-aggregate statements): the run with LIMIT n reads no line beyond the one that
produced its n-th row: whenever the first `i` lines already yield n output rows, at most `i` lines are read;
none at all for n = 0; and all of them when the whole output has fewer than n rows. (Lines are counted over
all files in order; lines that yield no row count as lines.) -/
theorem limit_consumption (O : Oracles) (qy : Query) (q : SelectStmt) (joined : List FileLine)
    (files : List (List FileLine)) (n : Nat)
    (hu : hasFailed (runBatch O (qy.withSelect (q.withLimit none)) joined files none) = false) :
    ∃ blocks : List (List (List Value)),
      batchBlocks O qy q joined files = some blocks ∧ blocks.length = files.flatten.length ∧
      (∀ i, n ≤ ((applyDistinct q.distinct blocks).take i).flatten.length →
        (runBatch O (qy.withSelect (q.withLimit (some n))) joined files none).totalLines ≤ i) ∧
      (n = 0 → (runBatch O (qy.withSelect (q.withLimit (some n))) joined files none).totalLines = 0) ∧
      ((applyDistinct q.distinct blocks).flatten.length < n →
        (runBatch O (qy.withSelect (q.withLimit (some n))) joined files none).totalLines = files.flatten.length) := by
  obtain ⟨blocks, hb, _, hl, _⟩ := limit_is_take O qy q joined files n hu
  have hlen := batchBlocks_length hb
  rw [hl]
  refine ⟨blocks, hb, hlen, fun i hi => consumed_le_of_enough n i _ hi, ?_, fun hlt => ?_⟩
  · rintro rfl; simp only [consumed]
  · show consumed n (applyDistinct q.distinct blocks) = _
    rw [consumed_all n _ hlt, applyDistinct_length, hlen]

/-- **aggregate statements in batch mode**: with LIMIT n everything is read (same number of lines, same
outcome) and the printed table consists of the first n records — the first n groups — of the table printed
without LIMIT. (The printer emits one record per row for the final table, so records and groups coincide.) -/
theorem agg_limit_is_take (O : Oracles) (qy : Query) (q : AggStmt) (joined : List FileLine)
    (files : List (List FileLine)) (n : Nat)
    (hu : hasFailed (runBatch O (qy.withAgg (q.withLimit none)) joined files none) = false) :
    (runBatch O (qy.withAgg (q.withLimit (some n))) joined files none).printed =
        (runBatch O (qy.withAgg (q.withLimit none)) joined files none).printed.take n ∧
    (runBatch O (qy.withAgg (q.withLimit (some n))) joined files none).totalLines =
        (runBatch O (qy.withAgg (q.withLimit none)) joined files none).totalLines ∧
    hasFailed (runBatch O (qy.withAgg (q.withLimit (some n))) joined files none) = false := by
  rw [runBatch_agg_limit O qy q n joined files hu]
  refine ⟨rfl, rfl, ?_⟩
  simpa [hasFailed] using hu

/-- the engine-level statement behind `agg_limit_is_take`: the final table with LIMIT n is the final table
without LIMIT cut to its first n rows (same columns; an error of the one is an error of the other) -/
theorem agg_final_table_take (O : Oracles) (q : AggStmt) (n : Nat) (es : EngineState) :
    finalResult O (q.withLimit (some n)) es =
      Outcome.mapOk (fun r => { r with rows := r.rows.take n }) (finalResult O (q.withLimit none) es) := by
  rw [finalResult_eq, finalResult_eq,
    aggResult_same O (q := q.withLimit none) (q' := q.withLimit (some n)) ⟨rfl, rfl, rfl, rfl, rfl, rfl⟩ rfl]
  cases aggResult O (q.withLimit none) es.agg <;> rfl

/-- **follow mode** (non-aggregate statement; follow mode has no joins): the executed follow loop
(`Model/ExecI.lean` `runFollowAll` = `FollowFileExecutor::execute`, driver kind `followi`: nothing read when the
limit is 0, else every delivered line fed to the engine with update + result, every result table printed, the loop
left after a table that came with `reached_limit`) has exactly the outcome of the batch run over the same lines:
same records, same number of lines read, same error. So `limit_is_take` and `limit_consumption` (and C08's
`distinct_is_first_occurrences`) hold verbatim for follow mode. -/
theorem follow_prints_batch_output (O : Oracles) (qy : Query) (q : SelectStmt) (hq : qy.stmt = .select q)
    (hj : qy.join = none) (lines : List Line) :
    runFollowAll O qy none lines = runBatch O qy [] [readableFile lines] none :=
  runFollowAll_select_eq_runBatch O qy q hq hj lines

/-! ### non-vacuity and concrete behaviour -/

def exTable : TableInfo := { name := "t", columns := ["v", "w"] }
def exQuery (lim : Option Nat) (d : Bool) : Query :=
  { stmt := .select { projections := [("v", .column "v")], wildcard := false, filter := none, limit := lim, distinct := d },
    table := exTable, join := none }
def exLine (v : Value) : FileLine := { readable := true, line := { text := [], row := [v, .int 7] } }
/-- two files; a NULL-only row, a repeated row, a line that is not admitted -/
def exFiles : List (List FileLine) :=
  [[exLine (.int 1), exLine .null], [{ readable := true, line := { text := [], row := [.null, .null] } }, exLine (.int 1), exLine (.int 2)]]

-- the hypothesis of `limit_is_take` / `limit_consumption` holds on this input
example : hasFailed (runBatch {} (exQuery none false) [] exFiles none) = false := by decide +kernel
-- LIMIT 2 prints the first two records (the second row is a NULL-only row) and reads two lines, all in file 1
example : (runBatch {} (exQuery (some 2) false) [] exFiles none).printed = ["v: 1", "v: NULL"] ∧
    (runBatch {} (exQuery (some 2) false) [] exFiles none).totalLines = 2 := by decide +kernel
-- LIMIT 0 prints nothing and reads nothing
example : (runBatch {} (exQuery (some 0) false) [] exFiles none).printed = [] ∧
    (runBatch {} (exQuery (some 0) false) [] exFiles none).totalLines = 0 := by decide +kernel
-- with DISTINCT the third output row comes from the fifth line (second file)
example : (runBatch {} (exQuery (some 3) true) [] exFiles none).printed = ["v: 1", "v: NULL", "v: 2"] ∧
    (runBatch {} (exQuery (some 3) true) [] exFiles none).totalLines = 5 := by decide +kernel

/-- the hypothesis cannot be dropped: with LIMIT 1 the run ends before the line on which `v + 1` overflows;
without LIMIT the run reports that error -/
def exOverflow (lim : Option Nat) : Query :=
  { stmt := .select { projections := [("p0", .arith .add (.column "v") (.value (.int 1)))], wildcard := false, filter := none,
                      limit := lim, distinct := false },
    table := exTable, join := none }
example : hasFailed (runBatch {} (exOverflow (some 1)) [] [[exLine (.int 1), exLine (.int 9223372036854775807)]] none) = false ∧
    hasFailed (runBatch {} (exOverflow none) [] [[exLine (.int 1), exLine (.int 9223372036854775807)]] none) = true := by
  decide +kernel

end Sqlgrep.Props.C07
