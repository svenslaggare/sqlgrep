import SqlgrepModel.Lemmas.RowIndex
import SqlgrepModel.Lemmas.JoinIndex
import SqlgrepModel.Lemmas.JoinNames
import SqlgrepModel.Lemmas.Pipeline
/-
`row[index]` sites, composed over the end-to-end model (`Model/Pipeline.lean`): the rows the engine model is handed by
`runStatement` are `Extract.extractRow` outputs of the table the statement names, the column names it indexes them by
are the names the SAME lowered CREATE TABLE produced, so every admitted row has exactly one cell per column name and
every index computed from a name (`indexOf? columns name`: the join key indices of `lineEnvs` / `loadJoin`, the cells
`columnsMapping` pairs with the names) is in range.

Builds on `Lemmas/Lower.lean` (`lowerCreate_aligned`), `Lemmas/RowIndex.lean` (`admitted_row_full`, `row_index_in_range`: the stage facts) and
on `Lemmas/JoinIndex.lean` (`joinIndexGet_loadJoin`: the partners found in the index are admitted rows of the joined
file).
-/
namespace Sqlgrep.Pipeline
open Sqlgrep Sqlgrep.Extract Sqlgrep.Spec.Pipeline

/-- the engine view and the extraction view of a table agree: one column name per column -/
def Table.Aligned (t : Table) : Prop := t.columns.length = t.defn.columns.length

def RowsFull (n : Nat) (fls : List FileLine) : Prop :=
  ∀ fl ∈ fls, anyResult fl.line.row = true → fl.line.row.length = n

def LStmt.CreateAligned : LStmt → Prop
  | .createTable _ d names => names.length = d.columns.length
  | _ => False

theorem lowerCreate_createAligned (rv : List Char → Bool) (c : PCreate) (s : LStmt) (h : Lower.lowerCreate rv c = .ok s) :
    LStmt.CreateAligned s := by
  obtain ⟨n, d, names, rfl⟩ := Lower.lowerCreate_shape h
  exact Lower.lowerCreate_aligned rv c n d names h

theorem lowerCreates_createAligned (rv : List Char → Bool) (cs : List PCreate) (ss : List LStmt)
    (h : Lower.lowerCreates rv cs = .ok ss) : ∀ s ∈ ss, LStmt.CreateAligned s := by
  intro s hs
  obtain ⟨c, -, hc⟩ := (Lower.lowerCreates_mem h).2 s hs
  exact lowerCreate_createAligned rv c s hc

theorem tableOf_aligned_of (s : LStmt) (t : Table) (hs : LStmt.CreateAligned s) (h : tableOf s = some t) : t.Aligned := by
  cases s with
  | createTable n d names =>
    simp only [tableOf, Option.some.injEq] at h
    subst h
    exact hs
  | select _ _ _ _ => cases h
  | aggregate _ _ _ _ => cases h
  | multiple _ => cases h

/-- every table `Tables::add_tables` gets from a lowered statement has one column name per column -/
theorem lowerStatement_tables_aligned (rv : List Char → Bool) (t : POp) (defs : LStmt) (tables : List Table)
    (h : Lower.lowerStatement rv t = .ok defs) (ht : addTables defs = some tables) : ∀ tb ∈ tables, tb.Aligned := by
  rcases Lower.lowerStatement_ok_cases h with ⟨_, _, _, _, rfl⟩ | ⟨_, _, _, _, rfl, _⟩ | ⟨c, n, d, names, -, rfl, hc⟩ |
    ⟨cs, ss, -, rfl, hl⟩
  · cases ht
  · cases ht
  · cases ht
    intro tb htb
    cases List.mem_singleton.1 htb
    exact lowerCreate_createAligned rv c _ hc
  · intro tb htb
    obtain ⟨s, hs, e⟩ := mapM_mem ht htb
    exact tableOf_aligned_of s tb (lowerCreates_createAligned rv cs ss hl s hs) e

/-- … in particular every table that comes out of a definitions TEXT -/
theorem parseText_tables_aligned (lo : Lex.Oracles) (rv : List Char → Bool) (text : List Char) (defs : LStmt)
    (tables : List Table) (h : parseText lo rv text = .stmt defs) (ht : addTables defs = some tables) :
    ∀ tb ∈ tables, tb.Aligned := by
  obtain ⟨ts, op, -, -, hs⟩ := parseText_stmt_inv h
  exact lowerStatement_tables_aligned rv op defs tables hs ht

theorem getTable_mem (ts : List Table) (name : String) (t : Table) (h : getTable ts name = some t) : t ∈ ts := by
  unfold getTable at h
  exact List.mem_reverse.1 (List.mem_of_find?_eq_some h)

theorem prepare_rows_full (F : Facts) (tables : List Table) (stmt : Stmt) (fromTable : String) (join : Option LJoin)
    (files : List (List Nat)) (p : Prepared) (hal : ∀ tb ∈ tables, tb.Aligned)
    (h : prepare F tables stmt fromTable join files = some p) :
    (∀ f ∈ p.files, RowsFull p.qy.table.columns.length f) ∧
    (∀ j, p.qy.join = some j → RowsFull j.joined.columns.length p.joined) := by
  -- a file read with a defined table: an admitted row is readable, so it is `extractRow` of that table's definition
  have full : ∀ (u : Table) (_ : u ∈ tables) (items : List (Except Unit (List Nat))),
      RowsFull u.info.columns.length (items.map (toFileLine (extractedLine F u.defn))) := by
    intro u hu items fl hfl ha
    have hr : fl.readable = true := by
      obtain ⟨x, _, rfl⟩ := List.mem_map.1 hfl
      cases x with
      | ok l => rfl
      | error e => simp [toFileLine, anyResult] at ha
    rw [fileOf_row (fun _ => rfl) hfl hr] at ha ⊢
    exact (admitted_row_full _ _ _ ha).trans (hal u hu).symm
  obtain ⟨t, ji, jl, hg, -, hj, rfl⟩ := prepare_iff.1 h
  refine ⟨fun f hf => ?_, fun j' hj' => ?_⟩
  · obtain ⟨bytes, _, rfl⟩ := List.mem_map.1 hf
    exact full t (getTable_mem _ _ _ hg) _
  · cases join with
    | none => cases hj.1.symm.trans hj'
    | some j =>
      obtain ⟨u, bytes, hu, -, -, rfl, rfl⟩ := hj
      cases hj'
      exact full u (getTable_mem _ _ _ hu) _

/-- the partners `lineEnvs` finds in the join index are admitted rows of the joined file: they have one cell per column
name of the joined table (so `joinedMapping`'s `zip` pairs every joined column with its cell) -/
theorem join_partners_full (j : JoinInfo) (lines : List Line) (idx : JoinIndex)
    (hfull : ∀ l ∈ lines, anyResult l.row = true → l.row.length = j.joined.columns.length)
    (hl : loadJoin j lines = .ok idx) (q : Value) (partners : List (List Value))
    (hp : joinIndexGet idx q = some partners) : ∀ r ∈ partners, r.length = j.joined.columns.length := by
  cases hk : indexOf? j.joined.columns j.joinedColumn with
  | none => unfold loadJoin at hl; rw [hk] at hl; cases hl
  | some ki =>
    have := joinIndexGet_loadJoin j lines idx ki hk hl q
    rw [hp] at this
    simp only at this
    split at this
    · cases this
    · simp only [Option.some.injEq] at this
      subst this
      intro r hr
      unfold matchingRows at hr
      have hr' := (List.mem_filter.1 hr).1
      obtain ⟨l, hlm, e⟩ := List.mem_map.1 hr'
      have hlm' := List.mem_filter.1 hlm
      rw [← e]
      exact hfull l hlm'.1 hlm'.2

/-- with one cell per column name, the evaluator environment of a line binds EVERY column name (no column is lost to
a short row): a name with a position among the columns is found -/
theorem lineEnv_binds_every_column (t : TableInfo) (row : List Value) (line : Bytes) (hr : row.length = t.columns.length)
    (n : String) (i : Nat) (hn : indexOf? t.columns n = some i) :
    ∃ v, (envOfInsertions (columnsMapping t row line)).get .table n = some v := by
  have hmem : n ∈ t.columns := by
    unfold indexOf? at hn
    obtain ⟨hlt, hbeq, _⟩ := List.findIdx?_eq_some_iff_getElem.1 hn
    have : t.columns[i] = n := by simpa using hbeq
    rw [← this]; exact List.getElem_mem hlt
  have hk := keysOf_columnsMapping_full t row line hr.symm n hmem
  rw [env_get_table]
  unfold lastGet
  obtain ⟨p, hp, e⟩ := List.mem_map.1 hk
  cases hf : (columnsMapping t row line).reverse.find? (fun p => p.1 == n) with
  | some x => exact ⟨x.2, rfl⟩
  | none =>
    exfalso
    have := List.find?_eq_none.1 hf p (List.mem_reverse.2 hp)
    simp [e] at this

/-- … and the zip of names and cells drops nothing -/
theorem columns_zip_full (t : TableInfo) (row : List Value) (hr : row.length = t.columns.length) :
    (t.columns.zip row).map (·.1) = t.columns ∧ (t.columns.zip row).map (·.2) = row := by
  constructor
  · exact List.map_fst_zip (by omega)
  · exact List.map_snd_zip (by omega)

end Sqlgrep.Pipeline
