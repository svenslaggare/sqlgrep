import SqlgrepModel.Lemmas.LexRender
import SqlgrepModel.Lemmas.LexFuse
import SqlgrepModel.Lemmas.LexFast
/-
C20 — a statement's meaning does not depend on layout, letter case or clause order; text inside string literals is
taken verbatim apart from backslash escapes.                                            (lexical half)

Model (`Model/Lex.lean`): `tokenize` of `src/parsing/tokenizer.rs` as a fold of `step` over the characters, with the
Unicode classes of non-ASCII characters and `f64::from_str` as oracles `o : Oracles` (every theorem below holds for
*every* oracle: nothing is assumed about them); tied to `/repo` on every run by the `tok` correspondence cases and by
the table obligations of `Lemmas/LexTables.lean` (keyword table, two-character operators, `=>`, `--`).

Vocabulary (`Lemmas/LexLayout.lean`): a text is described as a `Layout`: a sequence of *lexemes* (spellings of
tokens: a keyword or `null/true/false` with a per-letter case choice; an identifier; a run of digits; `digits.digits`;
a quoted string with its escapes; an operator character, `<= >= != =>`; a punctuation character) each preceded by a
*gap* (any sequence of whitespace characters — whatever `is_whitespace` says, line breaks included — and
`-- … \n` comments), a final gap, and optionally an unterminated `-- …` at the very end.  `Layout.Ok` demands that
every lexeme is well-formed and that neighbours are kept apart where they would merge: an empty gap is allowed only
where the next character cannot extend the previous lexeme (`AdjOk`: no word character after a word, no digit or `.`
after a number, no `=`/`>`/`-` completing a two-character operator), and directly after the operator `-` a gap
must not begin with a comment (`---` is the comment `--` followed by `-`).  These are exactly the places where the
property's quantifier says "where tokens stay separated".
`fuse` = the tokens a lexeme sequence denotes: the lexemes' own tokens with the three fusions the language defines
through the *last token* (`IS`+`NOT` → `IsNot`, `NOT`+`IN` → `NotIn`, `:`+`:` → `::`), independent of any layout.

The parser-level clauses of C20 (optional trailing semicolon, clause-order invariance, case-insensitive function /
aggregate / type names) are theorems of `Props/C20Parse.lean` (audited with this file by `./check C20`); the relation
in `harness/src/c20.rs` (text vs layout variant → same `Statement`, same output) additionally runs them on the code.
-/
namespace Sqlgrep.Props.C20
open Sqlgrep Sqlgrep.Lex

/-- **The tokenizer inverts rendering under any layout.**  For every lexeme sequence and every layout of it — any
letter case of keyword and `null/true/false` words, any whitespace / line-break runs and `--` comments between
lexemes (present where neighbours would merge, optional elsewhere), any digit spelling, any escaping inside strings,
an unterminated comment at the end — tokenizing the rendered text succeeds and yields exactly the tokens the
lexemes denote, followed by `End`.  (Induction over the lexeme sequence with the fold state as invariant:
`Lemmas/LexRender.lean`, `run_items`.) -/
theorem tokenize_render (o : Oracles) (L : Layout) (h : L.Ok o) :
    tokens o L.text = some (fuse (L.lexemes.map (·.tok o)) ++ [.eof]) :=
  tokens_layout o L h

/-- **The same, read from the tokens**: for every token list `ts` that contains no neighbouring pair which *every*
layout fuses (`NoBadPair`: `IS`·`NOT`, `IS`·`NOT IN`, `NOT`·`IN`, `:`·`:`, `:`·`::`) and every layout whose lexemes
spell `ts` (`unfuse`: `IsNot`, `NotIn`, `::` are spelled as two lexemes each — with any gap between them), tokenizing
the rendered text yields `ts` followed by `End`. -/
theorem tokenize_render_tokens (o : Oracles) (ts : List Tok) (L : Layout) (h : L.Ok o)
    (spells : L.lexemes.map (·.tok o) = unfuse ts) (hts : NoBadPair ts) :
    tokens o L.text = some (ts ++ [.eof]) := by
  rw [tokenize_render o L h, spells, fuse_unfuse ts hts]

/-- the side condition of `tokenize_render_tokens` is necessary: `IS` followed by `NOT` is read as `IsNot` under any layout -/
example : tokens Tables.asciiOnly "is -- c\n \t not".toList = some [.kw .isNot, .eof] ∧ ¬ NoBadPair [.kw .is, .kw .not] := by
  rw [String.toList_ofList, tokens, tokenize_eq_K]; decide +kernel

/-- **Layout invariance.**  Two texts that are layouts of lexeme sequences denoting the same tokens — i.e. that
differ only in letter case of keywords and literal words, in whitespace, line breaks and comments between tokens, in
leading zeros, or in how string characters are escaped — tokenize to the same tokens (locations aside). -/
theorem layout_invariance (o : Oracles) (L₁ L₂ : Layout) (h₁ : L₁.Ok o) (h₂ : L₂.Ok o)
    (same : L₁.lexemes.map (·.tok o) = L₂.lexemes.map (·.tok o)) :
    tokens o L₁.text = tokens o L₂.text := by
  rw [tokenize_render o L₁ h₁, tokenize_render o L₂ h₂, same]

/-- the result of `tokenize_render` does not mention the gaps, the case choices or the end-of-text comment: the same
lexemes under any two layouts give the same tokens -/
theorem gaps_irrelevant (o : Oracles) (L₁ L₂ : Layout) (h₁ : L₁.Ok o) (h₂ : L₂.Ok o)
    (same : L₁.lexemes = L₂.lexemes) : tokens o L₁.text = tokens o L₂.text :=
  layout_invariance o L₁ L₂ h₁ h₂ (by rw [same])

theorem tokens_single (o : Oracles) (x : Lexeme) (h : x.Valid o) :
    tokens o x.text = some ((pushTok [] (x.tok o)).reverse ++ [.eof]) := by
  simpa [Layout.text, renderItems, Gap.text, Layout.lexemes, fuse] using
    tokenize_render o { items := [([], x)] } (single_ok o x h)

/-- **Keywords are case-insensitive**: every per-letter case variant of every word of `KEYWORDS` is that keyword. -/
theorem keyword_case_insensitive (o : Oracles) (k : Keyword) (w : List Char) (hk : kwWord k = some w) (flips : List Bool) :
    tokens o (applyCase flips w) = some [.kw k, .eof] := by
  simpa [Lexeme.text, hk, Lexeme.tok, pushTok] using tokens_single o (.kw k flips) (by simp [Lexeme.Valid, hk])

/-- `null`, `true`, `false` in any letter case are the literal tokens -/
theorem literal_word_case_insensitive (o : Oracles) (l : LitWord) (flips : List Bool) :
    tokens o (applyCase flips l.word) = some [l.tok, .eof] := by
  have e : pushTok [] l.tok = [l.tok] := by cases l <;> rfl
  simpa [Lexeme.text, Lexeme.tok, e] using tokens_single o (.lit l flips) trivial

/-- **String literals are taken verbatim apart from backslash escapes**: the content of the token is the text
between the quotes with each escaping backslash removed and the escaped character kept — nothing else is touched
(no case change, no trimming, `--` inside is not a comment, line breaks are kept).  `wellEscaped`: the text between
the quotes contains no unescaped `'` and does not end in an escaping backslash, i.e. the quotes really delimit it. -/
theorem string_literal_verbatim (o : Oracles) (body : List Char) (h : wellEscaped body = true) :
    tokens o ('\'' :: (body ++ ['\''])) = some [.str (unescape body), .eof] := by
  simpa [Lexeme.text, Lexeme.tok, pushTok] using tokens_single o (.str body) h

/-- the same inside any statement: wherever a string lexeme stands in a layout, its token is `unescape body` (this is
`tokenize_render` read at a string lexeme) -/
theorem string_token (o : Oracles) (body : List Char) : (Lexeme.str body).tok o = .str (unescape body) := rfl

/-- an unescaped text survives unchanged: without backslashes the content is the text between the quotes -/
theorem unescape_plain (body : List Char) (h : '\\' ∉ body) : unescape body = body := by
  induction body with
  | nil => rfl
  | cons c rest ih =>
    have hc : c ≠ '\\' := fun e => h (by simp [e])
    have hr : '\\' ∉ rest := fun e => h (by simp [e])
    cases rest with
    | nil => simp [unescape, hc]
    | cons d rest' =>
      have := ih hr
      simp only [unescape, hc, if_false, List.cons.injEq, true_and]
      exact this

/-- **A comment is whitespace**: replacing every `-- … \n` comment of a text by a line break (and dropping an
unterminated comment at the end of the text) does not change the tokens. -/
theorem comment_is_whitespace (o : Oracles) (L : Layout) (h : L.Ok o) :
    tokens o (stripComments L).text = tokens o L.text := by
  obtain ⟨hitems, hfinal, _, _⟩ := h
  have hs : (stripComments L).Ok o :=
    ⟨stripItems_ok o _ _ hitems, stripGap_ok o _ hfinal, fun _ => stripGap_start _, trivial⟩
  refine gaps_irrelevant o _ _ hs ⟨hitems, hfinal, by assumption, by assumption⟩ ?_
  simp [stripComments, Layout.lexemes, Function.comp_def]

/-! ### non-vacuity: a concrete layout satisfying `Layout.Ok`, and what the theorem says about it -/

/-- `sElECT x<=007 -- c⏎ 'it\'s'⇥;--` -/
def exampleLayout : Layout :=
  { items := [ ([], .kw .select [false, true, false, true, true, true]),
               ([.ws ' '], .ident ['x']),
               ([], .op2 '<' '='),
               ([], .int ['0', '0', '7']),
               ([.ws ' ', .comment [' ', 'c'], .ws ' '], .str ['i', 't', '\\', '\'', 's']),
               ([.ws '\t'], .punct .semi) ],
    final := [],
    tail := some [] }

example : exampleLayout.text = "sElECT x<=007 -- c\n 'it\\'s'\t;--".toList := by rw [String.toList_ofList]; decide +kernel

example : exampleLayout.Ok Tables.asciiOnly := by decide +kernel

example : tokens Tables.asciiOnly exampleLayout.text =
    some [.kw .select, .ident ['x'], .op (.dual '<' '='), .int 7, .str ['i', 't', '\'', 's'], .semi, .eof] := by
  rw [tokens, tokenize_eq_K]; decide +kernel

/-- the hypotheses of `tokenize_render_tokens` on the same layout -/
example : exampleLayout.lexemes.map (·.tok Tables.asciiOnly) =
      unfuse [.kw .select, .ident ['x'], .op (.dual '<' '='), .int 7, .str ['i', 't', '\'', 's'], .semi] ∧
    NoBadPair [.kw .select, .ident ['x'], .op (.dual '<' '='), .int 7, .str ['i', 't', '\'', 's'], .semi] := by
  decide +kernel

/-- a layout spelling the fused tokens: `x IS⏎NOT NULL :: :` reads as `x IsNot Null DoubleColon Colon` -/
example : tokens Tables.asciiOnly "x IS\nNOT NULL : -- c\n: :".toList =
    some [.ident ['x'], .kw .isNot, .null, .dcolon, .colon, .eof] := by
  rw [String.toList_ofList, tokens, tokenize_eq_K]; decide +kernel

end Sqlgrep.Props.C20
