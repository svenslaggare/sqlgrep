import SqlgrepModel.Lemmas.ParseClauseOrder
import SqlgrepModel.Lemmas.ParseBlind
/-
Lifting the clause-level C20 theorems to whole token vectors and to statements (audit-2 M11): a SELECT token vector
`head ++ clauses ++ [End]` that `Parser::parse` reads, with its clause segments rearranged, every token at any other
location and either terminator (`End` or `;` `End`), is read as the same tree up to locations (`select_clause_order`,
`select_clause_order_term`); and SELECT trees that are the same up to locations (`PSelect.SameUpToLoc`, the relation
these theorems conclude) have EQUAL `eraseLoc` (`sameUpToLoc_eraseLoc`), hence (`lowerStatement_erase`) lower to the same
statement or to conversion errors of the same kind.
-/
namespace Sqlgrep
namespace Parse
open Sqlgrep.Lower

theorem clauses_same_eraseLoc {c d : Clauses} (h : c.Same d) : c.eraseLoc = d.eraseLoc := by
  have hf : PExpr.noLoc = PExpr.eraseLoc := funext noLoc_eq_eraseLoc
  have hl : PExpr.noLocList = PExpr.eraseLoc.eraseLocs := funext noLocList_eq
  unfold Clauses.Same Clauses.erase at h
  unfold Clauses.eraseLoc
  rw [hf, hl] at h
  exact h

theorem _root_.Sqlgrep.PSelect.SameUpToLoc.trans {a b c : PSelect} (h1 : a.SameUpToLoc b) (h2 : b.SameUpToLoc c) : a.SameUpToLoc c := by
  obtain ⟨a1, a2, a3, a4, a5⟩ := h1
  obtain ⟨b1, b2, b3, b4, b5⟩ := h2
  exact ⟨a1.trans b1, a2.trans b2, a3.trans b3, a4.trans b4, by unfold Clauses.Same at *; exact a5.trans b5⟩

theorem sameUpToLoc_eraseLoc {q q' : PSelect} (h : q.SameUpToLoc q') : (POp.select q).eraseLoc = (POp.select q').eraseLoc := by
  obtain ⟨hp, ht, hf, hd, hc⟩ := h
  have hc' := clauses_same_eraseLoc hc
  simp only [Clauses.eraseLoc, Clauses.mk.injEq] at hc'
  obtain ⟨c1, c2, c3, c4, c5⟩ := hc'
  have hp' : eraseProj q.projections = eraseProj q'.projections := hp
  simp only [POp.eraseLoc, POp.select.injEq, PSelect.mk.injEq]
  exact ⟨trivial, hp', ht, hf, c1, c2, c3, c4, c5, hd⟩

theorem lowerStatement_of_eraseLoc_eq (rv : List Char → Bool) {t₁ t₂ : POp} (h : t₁.eraseLoc = t₂.eraseLoc) :
    (lowerStatement rv t₁).mapErr CErr.strip = (lowerStatement rv t₂).mapErr CErr.strip := by
  rw [← lowerStatement_erase, ← lowerStatement_erase, h]

theorem lowerStatement_ok_of_eraseLoc_eq (rv : List Char → Bool) {t₁ t₂ : POp} (h : t₁.eraseLoc = t₂.eraseLoc)
    (s : LStmt) (h₁ : lowerStatement rv t₁ = .ok s) : lowerStatement rv t₂ = .ok s := by
  have := lowerStatement_of_eraseLoc_eq rv h
  rw [h₁] at this
  cases h₂ : lowerStatement rv t₂ <;> rw [h₂] at this <;> simp [LRes.mapErr] at this
  rw [this]

theorem lowerStatement_of_sameUpToLoc (rv : List Char → Bool) {q q' : PSelect} (h : q.SameUpToLoc q') (s : LStmt)
    (h₁ : lowerStatement rv (.select q) = .ok s) : lowerStatement rv (.select q') = .ok s :=
  lowerStatement_ok_of_eraseLoc_eq rv (sameUpToLoc_eraseLoc h) s h₁

theorem parseTokens_select_tree {T : PrecTables} {t : PTok} {ts : List PTok} {op : POp} (ht : t.tok = .kw .select)
    (h : parseTokens T (t :: ts) = .tree op) : ∃ q, op = .select q := by
  rcases parseTokens_tree_cases h with ⟨_, h⟩ | ⟨hc, _⟩
  · exact h
  · rw [ht] at hc; cases hc

/-- what holds of the tokens of a vector holds of those of a relocated one -/
theorem forall_tok_of_toks_eq {P : Tok → Prop} {a b : List PTok} (h : b.map (·.tok) = a.map (·.tok))
    (ha : ∀ t ∈ a, P t.tok) : ∀ t ∈ b, P t.tok := by
  intro t ht
  obtain ⟨u, hu, hut⟩ := List.mem_map.mp (h ▸ List.mem_map_of_mem ht : t.tok ∈ a.map (·.tok))
  exact hut ▸ ha u hu

theorem segShape_of_toks {a b : List PTok} (h : a.map (·.tok) = b.map (·.tok)) (ha : SegShape a) : SegShape b := by
  obtain ⟨t, body, rfl, hk, hnb⟩ := ha
  match b, h with
  | u :: body', h =>
    simp only [List.map_cons, List.cons.injEq] at h
    exact ⟨u, body', rfl, h.1 ▸ hk, forall_tok_of_toks_eq (P := fun t => ¬ Boundary t) h.2.symm hnb⟩

theorem segShape_perm {segs1 segs2 : List (List PTok)}
    (hperm : (segs1.map (fun seg => seg.map (·.tok))).Perm (segs2.map (fun seg => seg.map (·.tok))))
    (h : ∀ seg ∈ segs1, SegShape seg) : ∀ seg ∈ segs2, SegShape seg := by
  intro seg hseg
  have : seg.map (·.tok) ∈ segs1.map (fun seg => seg.map (·.tok)) := hperm.mem_iff.mpr (List.mem_map_of_mem hseg)
  obtain ⟨a, ha, hab⟩ := List.mem_map.mp this
  exact segShape_of_toks hab (h a ha)

section order
variable {T : PrecTables} (hT : InertBoundary T)
include hT

/-- **Clause order does not matter to the statement** (`End`-terminated vectors): let `head` contain no clause keyword,
`;` or `End`, let every segment of `segs1` be a clause keyword followed by such tokens (`SegShape`: the vector cut in
front of every clause keyword), and let `Parser::parse` read `head ++ segs1 ++ [End]` as a SELECT tree `q1`. Then
for every rearrangement `segs2` of the segments and every relocation of all tokens, `Parser::parse` reads
`head' ++ segs2 ++ [End]` as a SELECT tree that is the same up to locations. Nothing is assumed about the clauses:
that each is read exactly, and that no kind occurs twice, is read off the successful first parse. -/
theorem select_clause_order (head head' : List PTok) (segs1 segs2 : List (List PTok)) (l1 l2 : Loc)
    (hnb : ∀ t ∈ head, ¬ Boundary t.tok) (hhead : head'.map (·.tok) = head.map (·.tok))
    (hshape : ∀ seg ∈ segs1, SegShape seg)
    (hperm : (segs1.map (fun seg => seg.map (·.tok))).Perm (segs2.map (fun seg => seg.map (·.tok))))
    (q1 : PSelect) (h : parseTokens T (head ++ segs1.flatten ++ [⟨l1, .eof⟩]) = .tree (.select q1)) :
    ∃ q2, parseTokens T (head' ++ segs2.flatten ++ [⟨l2, .eof⟩]) = .tree (.select q2) ∧ q1.SameUpToLoc q2 := by
  have hfin1 : Boundary (⟨⟨l1, .eof⟩, []⟩ : PSt).cur.tok := .inr (.inl rfl)
  have hfin2 : Boundary (⟨⟨l2, .eof⟩, []⟩ : PSt).cur.tok := .inr (.inl rfl)
  have hshape2 := segShape_perm hperm hshape
  have hvec : ∀ (hd : List PTok) (sg : List (List PTok)) (X : PSt),
      PSt.prepend (hd ++ sg.flatten) X = PSt.prepend hd (PSt.prependAll sg X) := by
    intro hd sg X; apply pst_ext
    rw [prepend_toks, prepend_toks, prependAll_toks, List.append_assoc]
  unfold parseTokens at h ⊢
  have e1 : head ++ segs1.flatten ++ [⟨l1, .eof⟩] = (head ++ segs1.flatten) ++ PSt.toks ⟨⟨l1, .eof⟩, []⟩ := rfl
  have e2 : head' ++ segs2.flatten ++ [⟨l2, .eof⟩] = (head' ++ segs2.flatten) ++ PSt.toks ⟨⟨l2, .eof⟩, []⟩ := rfl
  rw [e1] at h
  rw [e2]
  obtain ⟨sE, hrun⟩ := tree_of_parseTokensFuel h
  obtain ⟨hs, sF, hps⟩ := parseOp_select_inv hrun
  rw [hvec] at hs hps
  generalize fuelBound (head ++ segs1.flatten ++ PSt.toks ⟨⟨l1, .eof⟩, []⟩).length = F at *
  rw [parseSelect_eq] at hps
  obtain ⟨hv, tailX, hhead1, hps⟩ := bind_eq_ok hps
  obtain ⟨c, sF', hcl, hps⟩ := bind_eq_ok hps
  simp only [PRes.ok.injEq, POp.select.injEq] at hps
  obtain ⟨hq1, _⟩ := hps
  obtain ⟨body, hsd, hnbb⟩ := selectHead_noadv hT hs hhead1
  -- the state the head leaves is at a boundary token
  have hbX : Boundary tailX.cur.tok := clauses_ok_boundary hcl
  have hb1 : Boundary (PSt.prependAll segs1 ⟨⟨l1, .eof⟩, []⟩).cur.tok := prependAll_cur_boundary segs1 (fun s h => (hshape s h).head) _ hfin1
  have hb2 : Boundary (PSt.prependAll segs2 ⟨⟨l2, .eof⟩, []⟩).cur.tok := prependAll_cur_boundary segs2 (fun s h => (hshape2 s h).head) _ hfin2
  have htoks : head ++ (PSt.prependAll segs1 ⟨⟨l1, .eof⟩, []⟩).cur :: (PSt.prependAll segs1 ⟨⟨l1, .eof⟩, []⟩).rest =
      body ++ tailX.cur :: tailX.rest := by
    have := congrArg PSt.toks hsd
    rw [prepend_toks, prepend_toks] at this
    exact this
  obtain ⟨hhb, htl⟩ := split_unique (P := fun t => Boundary t.tok) head body _ _ _ _ hnb hnbb hb1 hbX htoks
  subst hhb
  have htail : tailX = PSt.prependAll segs1 ⟨⟨l1, .eof⟩, []⟩ := pst_ext htl.symm
  subst htail
  -- the clauses, in the other order
  have hcl2 : ∃ c2, clauses T (F + segs1.length) (PSt.prependAll segs2 ⟨⟨l2, .eof⟩, []⟩) = .ok c2 ⟨⟨l2, .eof⟩, []⟩ ∧
      c.Same c2 := by
    cases segs1 with
    | nil =>
      have : segs2 = [] := by simpa using hperm.length_eq.symm
      subst this
      rw [clauses_eof rfl] at hcl ⊢
      cases hcl
      exact ⟨{}, rfl, rfl⟩
    | cons a as =>
      have hne1 : (PSt.prependAll (a :: as) ⟨⟨l1, .eof⟩, []⟩).cur.tok ≠ .eof :=
        clauseKw_ne_eof (prependAll_cur_clauseKw (hshape a (by simp)).head as _)
      have hne2 : (PSt.prependAll segs2 ⟨⟨l2, .eof⟩, []⟩).cur.tok ≠ .eof := by
        cases segs2 with
        | nil => simp at hperm
        | cons b bs => exact clauseKw_ne_eof (prependAll_cur_clauseKw (hshape2 b (by simp)).head bs _)
      rw [clauses_of_ne_eof hne1] at hcl
      rw [clauses_of_ne_eof hne2]
      obtain ⟨_, c2, hr2, hsame⟩ := clauseLoop_perm_of_run hT F (a :: as) segs2 ⟨⟨l1, .eof⟩, []⟩ ⟨⟨l2, .eof⟩, []⟩ rfl rfl hshape hperm c sF' hcl
      exact ⟨c2, hr2, hsame⟩
  obtain ⟨c2, hc2, hsame⟩ := hcl2
  -- the head, in front of the other tail
  have hsel : ∃ t ts, head = t :: ts ∧ t.tok = .kw .select := by
    cases head with
    | nil =>
      exfalso
      have : (PSt.prependAll segs1 ⟨⟨l1, .eof⟩, []⟩).cur.tok = .kw .select := hs
      rw [this] at hb1
      exact absurd hb1 (by decide)
    | cons t ts => exact ⟨t, ts, rfl, hs⟩
  obtain ⟨h', hr', he'⟩ := selectHead_prefix hT head head' hnb hhead hsel _ _ hb1 hb2 F (F + segs1.length)
    (Nat.le_add_right _ _) hv hhead1
  have hs2 : (PSt.prepend head' (PSt.prependAll segs2 ⟨⟨l2, .eof⟩, []⟩)).cur.tok = .kw .select := by
    obtain ⟨t, ts, rfl, ht⟩ := hsel
    match head', hhead with
    | t' :: ts', hhead =>
      simp only [List.map_cons, List.cons.injEq] at hhead
      show t'.tok = _
      rw [hhead.1]; exact ht
  have hsel2 : parseSelect T (F + segs1.length) (PSt.prepend head' (PSt.prependAll segs2 ⟨⟨l2, .eof⟩, []⟩)) =
      .ok (.select (selectOf h' c2)) ⟨⟨l2, .eof⟩, []⟩ := by
    rw [parseSelect_eq, hr']; simp only [PRes.bind]; rw [hc2]
  have hop2 := parseOp_of_select hs2 hsel2
  refine ⟨selectOf h' c2, ?_, by rw [← hq1]; exact selectOf_same he'.symm hsame⟩
  rw [← hvec] at hop2
  exact parseTokens_of_run hop2

inductive StmtEnd : List PTok → Prop
  | eof (l : Loc) : StmtEnd [⟨l, .eof⟩]
  | semi (l l' : Loc) : StmtEnd [⟨l, .semi⟩, ⟨l', .eof⟩]

/-- **Clause order does not matter to the statement**, with an optional trailing `;` on either side -/
theorem select_clause_order_term (head head' : List PTok) (segs1 segs2 : List (List PTok)) (term1 term2 : List PTok)
    (ht1 : StmtEnd term1) (ht2 : StmtEnd term2)
    (hnb : ∀ t ∈ head, ¬ Boundary t.tok) (hhead : head'.map (·.tok) = head.map (·.tok))
    (hshape : ∀ seg ∈ segs1, SegShape seg)
    (hperm : (segs1.map (fun seg => seg.map (·.tok))).Perm (segs2.map (fun seg => seg.map (·.tok))))
    (q1 : PSelect) (h : parseTokens T (head ++ segs1.flatten ++ term1) = .tree (.select q1)) :
    ∃ q2, parseTokens T (head' ++ segs2.flatten ++ term2) = .tree (.select q2) ∧ q1.SameUpToLoc q2 := by
  have hshape2 := segShape_perm hperm hshape
  have hnb' : ∀ t ∈ head', ¬ Boundary t.tok := forall_tok_of_toks_eq (P := fun t => ¬ Boundary t) hhead hnb
  have hpre1 := head_segs_no_term hnb hshape
  have hpre2 := head_segs_no_term hnb' hshape2
  -- first vector: to its `End`-terminated form
  have h1 : ∃ (l0 : Loc) (q1' : PSelect),
      parseTokens T (head ++ segs1.flatten ++ [⟨l0, .eof⟩]) = .tree (.select q1') ∧ q1.SameUpToLoc q1' := by
    cases ht1 with
    | eof l => exact ⟨l, q1, h, ⟨rfl, rfl, rfl, rfl, rfl⟩⟩
    | semi l l' =>
      obtain ⟨q', hq', hs'⟩ := semicolon_transfer hT (head ++ segs1.flatten) hpre1 l l l' ⟨⟨l, .semi⟩, [⟨l', .eof⟩]⟩
        ⟨⟨l, .eof⟩, []⟩ (.inr ⟨rfl, rfl⟩) q1 h
      exact ⟨l, q', hq', hs'⟩
  obtain ⟨l0, q1', hq1', hs1⟩ := h1
  cases ht2 with
  | eof l =>
    obtain ⟨q2, hq2, hs2⟩ := select_clause_order hT head head' segs1 segs2 l0 l hnb hhead hshape hperm q1' hq1'
    exact ⟨q2, hq2, PSelect.SameUpToLoc.trans hs1 hs2⟩
  | semi l l' =>
    obtain ⟨q2', hq2', hs2'⟩ := select_clause_order hT head head' segs1 segs2 l0 l hnb hhead hshape hperm q1' hq1'
    obtain ⟨q2, hq2, hs2⟩ := semicolon_transfer hT (head' ++ segs2.flatten) hpre2 l l l' ⟨⟨l, .eof⟩, []⟩
      ⟨⟨l, .semi⟩, [⟨l', .eof⟩]⟩ (.inl ⟨rfl, rfl⟩) q2' hq2'
    exact ⟨q2, hq2, PSelect.SameUpToLoc.trans (PSelect.SameUpToLoc.trans hs1 hs2') hs2⟩

end order

/-- the segments of a SELECT token vector behind its head: each a clause keyword (WHERE, GROUP, HAVING, INNER, OUTER,
LIMIT) followed by tokens none of which is a clause keyword, `;` or `End` — what one gets by cutting the vector in
front of every clause keyword (stated so that it is decidable on concrete vectors) -/
def ClauseSegments (segs : List (List PTok)) : Prop :=
  ∀ seg ∈ segs, seg.head?.map (fun k => decide (ClauseKw k.tok)) = some true ∧ ∀ u ∈ seg.tail, ¬ Boundary u.tok

/-- the head of a SELECT token vector: starts with SELECT, contains no clause keyword, `;` or `End` -/
def SelectHead (head : List PTok) : Prop :=
  head.head?.map (·.tok) = some (.kw .select) ∧ ∀ t ∈ head, ¬ Boundary t.tok

/-- the end of a statement's token vector: `End`, or `;` `End` -/
def IsEnd (e : List PTok) : Prop := e.map (·.tok) = [.eof] ∨ e.map (·.tok) = [.semi, .eof]

instance (segs : List (List PTok)) : Decidable (ClauseSegments segs) := by unfold ClauseSegments; infer_instance
instance (head : List PTok) : Decidable (SelectHead head) := by unfold SelectHead; infer_instance
instance (e : List PTok) : Decidable (IsEnd e) := by unfold IsEnd; infer_instance

theorem ClauseSegments.shape {segs : List (List PTok)} (h : ClauseSegments segs) : ∀ seg ∈ segs, SegShape seg := by
  intro seg hseg
  obtain ⟨h1, h2⟩ := h seg hseg
  cases seg with
  | nil => simp at h1
  | cons k body =>
    simp only [List.head?_cons, Option.map_some, Option.some.injEq, decide_eq_true_eq] at h1
    exact ⟨k, body, rfl, h1, h2⟩

theorem SelectHead.cons {head : List PTok} (h : SelectHead head) : ∃ t ts, head = t :: ts ∧ t.tok = .kw .select := by
  obtain ⟨h1, _⟩ := h
  cases head with
  | nil => simp at h1
  | cons t ts => exact ⟨t, ts, rfl, by simpa using h1⟩

theorem IsEnd.stmtEnd {e : List PTok} (h : IsEnd e) : StmtEnd e := by
  rcases h with h | h
  · obtain ⟨l, e1, rfl, h1⟩ := tok_cons h
    obtain rfl := List.map_eq_nil_iff.mp h1
    exact .eof l
  · obtain ⟨l, e1, rfl, h1⟩ := tok_cons h
    obtain ⟨l', e2, rfl, h2⟩ := tok_cons h1
    obtain rfl := List.map_eq_nil_iff.mp h2
    exact .semi l l'

/-- the tokens of a query text in front of `End`: start with SELECT, no `;` among them -/
def SelectNoSemi (ts : List PTok) : Prop :=
  ts.head?.map (·.tok) = some (.kw .select) ∧ ∀ t ∈ ts, t.tok ≠ .semi

instance (ts : List PTok) : Decidable (SelectNoSemi ts) := by unfold SelectNoSemi; infer_instance

theorem SelectNoSemi.cons {ts : List PTok} (h : SelectNoSemi ts) : ∃ t rest, ts = t :: rest ∧ t.tok = .kw .select := by
  obtain ⟨h1, _⟩ := h
  cases ts with
  | nil => simp at h1
  | cons t rest => exact ⟨t, rest, rfl, by simpa using h1⟩

/-- a token vector that starts with SELECT -/
def SelectVector (toks : List PTok) : Prop := toks.head?.map (·.tok) = some (.kw .select)

instance (toks : List PTok) : Decidable (SelectVector toks) := by unfold SelectVector; infer_instance

end Parse

namespace Pipeline
open Sqlgrep.Parse Sqlgrep.Lower

theorem parseToks_of_sameTree (rv : List Char → Bool) {ts₁ ts₂ : List PTok} {t₁ t₂ : POp}
    (h₁ : parseTokens PrecTables.code ts₁ = .tree t₁) (h₂ : parseTokens PrecTables.code ts₂ = .tree t₂)
    (h : t₁.eraseLoc = t₂.eraseLoc) : (parseToks rv ts₁).stripLoc = (parseToks rv ts₂).stripLoc := by
  unfold parseToks
  rw [h₁, h₂]
  simp only []
  rw [← lowerTree_erase rv t₁, ← lowerTree_erase rv t₂, h]

theorem parseToks_stmt_of_sameTree (rv : List Char → Bool) {ts₁ ts₂ : List PTok} {t₁ t₂ : POp}
    (h₁ : parseTokens PrecTables.code ts₁ = .tree t₁) (h₂ : parseTokens PrecTables.code ts₂ = .tree t₂)
    (h : t₁.eraseLoc = t₂.eraseLoc) (s : LStmt) (hs : parseToks rv ts₁ = .stmt s) : parseToks rv ts₂ = .stmt s := by
  have := parseToks_of_sameTree rv h₁ h₂ h
  rw [hs] at this
  cases h₂' : parseToks rv ts₂ <;> rw [h₂'] at this <;> simp [Parsed.stripLoc] at this
  rw [this]

theorem tree_of_parseToks_stmt {rv : List Char → Bool} {ts : List PTok} {s : LStmt} (h : parseToks rv ts = .stmt s) :
    ∃ t, parseTokens PrecTables.code ts = .tree t ∧ lowerStatement rv t = .ok s := by
  unfold parseToks at h
  cases hp : parseTokens PrecTables.code ts with
  | tree t =>
    rw [hp] at h
    simp only [lowerTree] at h
    cases hl : lowerStatement rv t with
    | ok s' => rw [hl] at h; simp only [Parsed.stmt.injEq] at h; exact ⟨t, rfl, by rw [hl, h]⟩
    | err e => rw [hl] at h; cases h
    | panic e => rw [hl] at h; cases h
  | error e => rw [hp] at h; cases h
  | fuel => rw [hp] at h; cases h
  | panic => rw [hp] at h; cases h

end Pipeline
end Sqlgrep
