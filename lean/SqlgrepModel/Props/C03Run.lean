import SqlgrepModel.Props.C03Expr
import SqlgrepModel.Props.Fixture
import SqlgrepModel.Lemmas.Folds
/-
C03, last clause, at RUN level (audit item L5; audited with the other `Props/C03*.lean` by `./check C03`):

  "An expression that has no value on some processed row (type mismatch, unknown column, division by zero,
   arithmetic overflow) makes the query report an error rather than emit a wrong value."

`Props/C03Expr.lean` has this for the WHERE of a SELECT without a join, at the level of the file loop
(`no_value_is_reported`), and for projections at line level only. Here:

* **the run** (`line_error_is_run_error`): whatever the statement (plain, aggregate, join), wherever the line stands
  (any file, any position): if the run reaches a line — it had not stopped before — and the execution of that line is
  an error, the whole batch run `runBatch` ends with THAT error, has printed exactly what was printed before the line,
  prints no result table, and has counted the line. (`runFile_append`, `runFiles_append`: the loops over a prefix.)
  `line_failure_is_run_failure`: the same for any failure of the line (error, or one of the model's two other
  non-answers), as "the run has failed and printed nothing more".
* (a) **projections** (`projection_error_is_reported`), with or without a join (`selectOne_projection_error`);
* (c) **join statements**: a line presents one row per join partner (`join_line_envs`); WHERE / projections are evaluated
  on each joined row in partner order (`selectEnvs`); the first joined row on which WHERE or a projection has no value —
  or WHERE has a value without a truth value — is the error of the line (`joined_row_error_is_line_error`, with
  `selectOne_where_error` / `selectOne_where_type_mismatch` / `selectOne_projection_error`), and ANY joined row without
  a value makes the line fail, whatever the earlier partners gave (`any_joined_row_without_value_fails_line`): never a
  line that silently prints the other partners' rows;
* (b) **aggregate statements**: per processed row, in this order: WHERE (`aggUpdateRow_where_error`,
  `aggUpdateRow_where_type_mismatch`), the GROUP BY keys (`aggUpdateRow_group_key_error`), the arguments of the
  select-list aggregates in select-list order (`aggUpdateRow_aggregate_error` with `updateAggregates_error_at`,
  `cellStep_argument_error`, `cellStep_count_unknown_column`), the arguments of HAVING's aggregates
  (`aggUpdateRow_having_error`, `havingUpdates_error_at`): each makes the row's update, hence the line
  (`agg_row_error_is_line_error`, joins included), hence the run an error. The HAVING expression itself is evaluated
  per group when the result is built: a group on which it has no value, or a value without a truth value, makes the
  result — and the run — that error, and no table is printed (`having_error_is_result_error`,
  `final_result_error_is_run_error`, `acceptGroup_eval_error`, `acceptGroup_type_mismatch`).
* **D69 for aggregate statements, composed to the run** (audit-3 item L12): a WHERE value of an aggregate statement that is
  neither BOOLEAN nor NULL on a processed row (`agg_where_type_mismatch_is_run_error`, joins included;
  `agg_where_type_mismatch_is_reported` without a join), and a HAVING value that is neither BOOLEAN nor NULL on a group
  (`having_type_mismatch_is_run_error`), make the batch run end with the type error and print no table. WHICH cell's
  error a result table with several cells without a value reports: `Props/C04Errors.lean`.

What is NOT claimed: which of several erroneous rows / expressions is reported is the FIRST in the order above (stated
by the prefix hypotheses); an error in a row behind a reached LIMIT, or behind an earlier failure, is not reported
because the row is never processed (the hypotheses "the run had not stopped").
-/
namespace Sqlgrep.Props.C03Run
open Sqlgrep

variable (O : Oracles)

/-- the file loop over the lines before a given line, when it did not stop there, is followed by the loop over the rest -/
theorem runFile_append (qy : Query) (idx : JoinIndex) (w : Bool) : ∀ (pre post : List FileLine) (ls : LoopState),
    (runFile O qy idx w none pre ls).stop = false →
    runFile O qy idx w none (pre ++ post) ls = runFile O qy idx w none post (runFile O qy idx w none pre ls) := by
  intro pre post ls h
  have hs : ls.stop = false := by
    cases hs : ls.stop with
    | false => rfl
    | true => rw [runFile_stop_of_stop O qy idx w none pre ls hs] at h; cases h
  rw [_root_.Sqlgrep.runFile_append O qy idx w none pre post ls hs, h]
  rfl

theorem runFiles_cons (qy : Query) (idx : JoinIndex) (w : Bool) (f : List FileLine) (more : List (List FileLine)) (ls : LoopState) :
    runFiles O qy idx w none (f :: more) ls =
      if ls.stop || reachedLimit qy ls.es then ls
      else if (runFile O qy idx w none f ls).stop then runFile O qy idx w none f ls
      else runFiles O qy idx w none more (runFile O qy idx w none f ls) := by
  rw [runFiles]

/-- the loop over the files before a given file, when it did not stop there, is followed by the loop over the rest -/
theorem runFiles_append (qy : Query) (idx : JoinIndex) (w : Bool) : ∀ (before more : List (List FileLine)) (ls : LoopState),
    (runFiles O qy idx w none before ls).stop = false →
    runFiles O qy idx w none (before ++ more) ls = runFiles O qy idx w none more (runFiles O qy idx w none before ls) := by
  intro before
  induction before with
  | nil => intro more ls _; rfl
  | cons f before ih =>
    intro more ls h
    rw [List.cons_append, runFiles_cons O qy idx w f (before ++ more), runFiles_cons O qy idx w f before]
    rw [runFiles_cons] at h
    by_cases hc : (ls.stop || reachedLimit qy ls.es) = true
    · simp only [hc, if_true] at h ⊢
      cases more with
      | nil => rfl
      | cons g more => rw [runFiles_cons]; simp [hc]
    · simp only [hc] at h ⊢
      by_cases hs : (runFile O qy idx w none f ls).stop = true
      · simp [hs] at h
      · simp only [hs] at h ⊢
        exact ih more _ h

/-- the state a batch run is in when it has read the files `before` and, of the next file, the lines `pre` -/
def stateAt (qy : Query) (idx : JoinIndex) (w : Bool) (before : List (List FileLine)) (pre : List FileLine) : LoopState :=
  runFile O qy idx w none pre (runFiles O qy idx w none before {})

/-- the run reaches the line after `before` and `pre`: no failure, no reached LIMIT before it -/
def Reaches (qy : Query) (idx : JoinIndex) (w : Bool) (before : List (List FileLine)) (pre : List FileLine) : Prop :=
  (runFiles O qy idx w none before {}).stop = false ∧
  reachedLimit qy (runFiles O qy idx w none before {}).es = false ∧
  (stateAt O qy idx w before pre).stop = false

/-- the join index of a batch run (`execute_joined_table` before the first line) -/
def joinSetup (qy : Query) (joined : List FileLine) : Outcome JoinIndex :=
  match qy.join with
  | some j => setupJoin qy.table j (loadJoinFile j joined)
  | none => .ok []

/-- update + result per line (plain statements) or update only (aggregates): what the batch loop asks of `execute` -/
def batchMode (qy : Query) : Bool :=
  !(match qy.stmt with
    | .aggregate _ => true
    | _ => false)

theorem runBatch_eq (qy : Query) (joined : List FileLine) (files : List (List FileLine)) (idx : JoinIndex)
    (hidx : joinSetup qy joined = .ok idx) :
    runBatch O qy joined files none =
      (let ls := runFiles O qy idx (batchMode qy) none files {}
       if hasFailed ls.out then ls.out
       else match qy.stmt with
         | .aggregate q =>
           match finalResult O q ls.es with
           | .ok r => { ls.out with printed := ls.out.printed ++ printResult r true }
           | o => failWith ls.out o
         | _ => ls.out) := by
  unfold joinSetup at hidx
  unfold runBatch batchMode
  cases hj : qy.join with
  | none => rw [hj] at hidx; simp only [Outcome.ok.injEq] at hidx; subst hidx; rfl
  | some j => rw [hj] at hidx; simp only [] at hidx ⊢; rw [hidx]; rfl

theorem runFiles_of_reaches (qy : Query) (idx : JoinIndex) (w : Bool) (before : List (List FileLine)) (pre : List FileLine)
    (fl : FileLine) (rest : List FileLine) (after : List (List FileLine)) (hreach : Reaches O qy idx w before pre)
    (hstop : (runFile O qy idx w none (fl :: rest) (stateAt O qy idx w before pre)).stop = true) :
    runFiles O qy idx w none (before ++ (pre ++ fl :: rest) :: after) {} =
      runFile O qy idx w none (fl :: rest) (stateAt O qy idx w before pre) := by
  obtain ⟨h1, h2, h3⟩ := hreach
  rw [runFiles_append O qy idx w before _ {} h1, runFiles_cons, runFile_append O qy idx w pre (fl :: rest) _ h3]
  unfold stateAt at hstop
  simp only [h1, h2, hstop, Bool.or_self, Bool.false_eq_true, if_false, if_true]
  rfl

/-- **a line whose execution is an error makes the RUN report that error.** Any statement (plain, aggregate, with a
join), any list of input files, the line anywhere: after the files `before` and the lines `pre` of its file. If the run
reaches the line (it did not fail and did not reach its LIMIT before) and `ExecutionEngine::execute` on it is the error
`k`, then the batch run ends with the error `k`; what it has printed is exactly what had been printed before the line
(no row for the line, none after it, no result table); the line is the last one counted. -/
theorem line_error_is_run_error (qy : Query) (joined : List FileLine) (idx : JoinIndex)
    (hidx : joinSetup qy joined = .ok idx)
    (before : List (List FileLine)) (pre : List FileLine) (fl : FileLine) (rest : List FileLine) (after : List (List FileLine))
    (hreach : Reaches O qy idx (batchMode qy) before pre) (hr : fl.readable = true) (k : ErrKind)
    (hx : executeLine O qy idx (batchMode qy) (stateAt O qy idx (batchMode qy) before pre).es fl.line = .error k) :
    let out := runBatch O qy joined (before ++ (pre ++ fl :: rest) :: after) none
    out.error = some k ∧
    out.printed = (stateAt O qy idx (batchMode qy) before pre).out.printed ∧
    out.totalLines = (stateAt O qy idx (batchMode qy) before pre).out.totalLines + 1 := by
  have hline : runFile O qy idx (batchMode qy) none (fl :: rest) (stateAt O qy idx (batchMode qy) before pre) =
      { stateAt O qy idx (batchMode qy) before pre with
        consumed := (stateAt O qy idx (batchMode qy) before pre).consumed + 1
        out := { (stateAt O qy idx (batchMode qy) before pre).out with
          totalLines := (stateAt O qy idx (batchMode qy) before pre).out.totalLines + 1, error := some k }
        stop := true } := by
    simp [runFile, hr, hx, failWith]
  have hfiles := runFiles_of_reaches O qy idx (batchMode qy) before pre fl rest after hreach (by rw [hline])
  intro out
  have hout : out = (runFile O qy idx (batchMode qy) none (fl :: rest) (stateAt O qy idx (batchMode qy) before pre)).out := by
    show runBatch O qy joined _ none = _
    rw [runBatch_eq O qy joined _ idx hidx]
    simp only [hfiles, hline, hasFailed, Option.isSome_some, Bool.true_or, if_true]
  rw [hout, hline]
  exact ⟨rfl, rfl, rfl⟩

/-- the same for ANY failure of the line (an error, or one of the model's other non-answers): the run has failed and
has printed nothing beyond what was printed before the line — never a row for that line -/
theorem line_failure_is_run_failure (qy : Query) (joined : List FileLine) (idx : JoinIndex)
    (hidx : joinSetup qy joined = .ok idx)
    (before : List (List FileLine)) (pre : List FileLine) (fl : FileLine) (rest : List FileLine) (after : List (List FileLine))
    (hreach : Reaches O qy idx (batchMode qy) before pre) (hr : fl.readable = true)
    (hx : ∀ r, executeLine O qy idx (batchMode qy) (stateAt O qy idx (batchMode qy) before pre).es fl.line ≠ .ok r) :
    let out := runBatch O qy joined (before ++ (pre ++ fl :: rest) :: after) none
    hasFailed out = true ∧ out.printed = (stateAt O qy idx (batchMode qy) before pre).out.printed := by
  have hline : (runFile O qy idx (batchMode qy) none (fl :: rest) (stateAt O qy idx (batchMode qy) before pre)).stop = true ∧
      hasFailed (runFile O qy idx (batchMode qy) none (fl :: rest) (stateAt O qy idx (batchMode qy) before pre)).out = true ∧
      (runFile O qy idx (batchMode qy) none (fl :: rest) (stateAt O qy idx (batchMode qy) before pre)).out.printed =
        (stateAt O qy idx (batchMode qy) before pre).out.printed := by
    cases hxx : executeLine O qy idx (batchMode qy) (stateAt O qy idx (batchMode qy) before pre).es fl.line with
    | ok r => exact absurd hxx (hx r)
    | error k => simp [runFile, hr, hxx, failWith, hasFailed]
    | panic s => simp [runFile, hr, hxx, failWith, hasFailed]
    | oracleMissing s => simp [runFile, hr, hxx, failWith, hasFailed]
  have hfiles := runFiles_of_reaches O qy idx (batchMode qy) before pre fl rest after hreach hline.1
  intro out
  have hout : out = (runFile O qy idx (batchMode qy) none (fl :: rest) (stateAt O qy idx (batchMode qy) before pre)).out := by
    show runBatch O qy joined _ none = _
    rw [runBatch_eq O qy joined _ idx hidx]
    simp only [hfiles, hline.2.1, if_true]
  rw [hout]
  exact ⟨hline.2.1, hline.2.2⟩

/-- WHERE without a value on a row: `SelectExecutionEngine::execute` on that row is that error -/
theorem selectOne_where_error (q : SelectStmt) (seen : List (List Value)) (env : Env) (keys : List String)
    (f : Expr) (hf : q.filter = some f) (k : ErrKind) (hk : eval O env f = .error k) :
    selectOne O q seen env keys = .error k := by
  simp [selectOne, hf, hk, bind, Outcome.bind]

/-- WHERE with a value that has no truth value (not BOOLEAN, not NULL): the type error (D69) -/
theorem selectOne_where_type_mismatch (q : SelectStmt) (seen : List (List Value)) (env : Env) (keys : List String)
    (f : Expr) (hf : q.filter = some f) (v : Value) (hv : eval O env f = .ok v) (hn : Props.C03.NoTruthValue v) :
    selectOne O q seen env keys = .error .typeError := by
  simp [selectOne, hf, hv, bind, Outcome.bind, condHolds_typeError v hn.1 hn.2]

/-- the row passes WHERE (or there is none) -/
def PassesWhere (q : SelectStmt) (env : Env) : Prop :=
  match q.filter with
  | some f => eval O env f = .ok (.bool true)
  | none => True

/-- a projected expression without a value on a row that passes WHERE: that error (the first such expression in
select-list order: `evalList`) -/
theorem selectOne_projection_error (q : SelectStmt) (seen : List (List Value)) (env : Env) (keys : List String)
    (hw : q.wildcard = false) (hpass : PassesWhere O q env) (k : ErrKind)
    (hk : evalList O env (q.projections.map (·.2)) = .error k) :
    selectOne O q seen env keys = .error k := by
  unfold PassesWhere at hpass
  cases hf : q.filter with
  | none => simp [selectOne, hf, hw, hk, bind, Outcome.bind, pure]
  | some f => rw [hf] at hpass; simp [selectOne, hf, hw, hk, hpass, bind, Outcome.bind]

/-- the rows of a line are evaluated in order; the first one that is an error is the error of all of them -/
theorem selectEnvs_error (q : SelectStmt) : ∀ (pre : List (Env × List String)) (env : Env) (keys : List String)
    (post : List (Env × List String)) (seen : List (List Value)) (acc : Option RowOut) (seen' : List (List Value))
    (acc' : Option RowOut) (k : ErrKind),
    selectEnvs O q pre seen acc = .ok (seen', acc') → selectOne O q seen' env keys = .error k →
    selectEnvs O q (pre ++ (env, keys) :: post) seen acc = .error k := by
  intro pre env keys post seen acc seen' acc' k h hk
  rw [selectEnvs_eq_foldlM] at h ⊢
  rw [Outcome.foldlM_append_cons _ _ h, hk]
  rfl

/-- ANY row of the line on which `SelectExecutionEngine::execute` fails (whatever the DISTINCT memory) makes the whole
line fail — the rows of the partners before it are not emitted -/
theorem selectEnvs_fails_if_member_fails (q : SelectStmt) : ∀ (envs : List (Env × List String)) (env : Env) (keys : List String),
    (env, keys) ∈ envs → (∀ seen r, selectOne O q seen env keys ≠ .ok r) →
    ∀ seen acc r, selectEnvs O q envs seen acc ≠ .ok r := by
  intro envs env keys hm hfail seen acc r h
  obtain ⟨pre, post, rfl⟩ := List.append_of_mem hm
  rw [selectEnvs_eq_foldlM, List.foldlM_append] at h
  obtain ⟨p, _, h⟩ := Outcome.bind_eq_ok h
  rw [List.foldlM_cons] at h
  obtain ⟨_, h, _⟩ := Outcome.bind_eq_ok h
  obtain ⟨r', h, _⟩ := Outcome.bind_eq_ok h
  exact hfail _ _ h

/-- the rows a line presents to a statement with a join: the line's row joined with each partner (the rows of the joined
file whose key equals the line's key), in joined-file order; for an OUTER join without a partner the NULL-padded row -/
theorem join_line_envs (qy : Query) (j : JoinInfo) (hj : qy.join = some j) (idx : JoinIndex) (allowOuter : Bool) (l : Line)
    (ki : Nat) (hki : indexOf? qy.table.columns j.joinerColumn = some ki) :
    lineEnvs qy idx allowOuter l =
      .ok (((joinIndexGet idx (l.row.getD ki .null)).getD
              (if j.isOuter && allowOuter then [List.replicate j.joined.columns.length .null] else [])).map
            (fun jrow => (envOfInsertions (joinedMapping qy.table l.row l.text j jrow).1,
                          (joinedMapping qy.table l.row l.text j jrow).2))) := by
  unfold lineEnvs
  simp only [hj, hki]
  cases joinIndexGet idx (l.row.getD ki .null) with
  | some ps => rfl
  | none => by_cases h : (j.isOuter && allowOuter) = true <;> simp [h]

/-- **(a), (c) at line level**: a plain statement (with or without a join) on an admitted line. The line presents its
rows `pre ++ (env, keys) :: post` (one row without a join; one per partner with a join, `join_line_envs`); the rows
`pre` are evaluated without error; on the next row the engine is the error `k` (WHERE without a value or without a truth
value, a projection without a value: the three lemmas above). Then the execution of the line is the error `k`. -/
theorem joined_row_error_is_line_error (qy : Query) (q : SelectStmt) (hq : qy.stmt = .select q) (idx : JoinIndex) (w : Bool)
    (es : EngineState) (l : Line) (hadm : anyResult l.row = true)
    (pre : List (Env × List String)) (env : Env) (keys : List String) (post : List (Env × List String))
    (henvs : lineEnvs qy idx true l = .ok (pre ++ (env, keys) :: post))
    (seen' : List (List Value)) (acc' : Option RowOut) (hpre : selectEnvs O q pre es.seen none = .ok (seen', acc'))
    (k : ErrKind) (hk : selectOne O q seen' env keys = .error k) :
    executeLine O qy idx w es l = .error k := by
  simp [executeLine, hq, hadm, henvs, bind, Outcome.bind,
    selectEnvs_error O q pre env keys post es.seen none seen' acc' k hpre hk]

/-- **never a silently wrong line**: if ANY of the rows the line presents (any join partner) is one on which the engine
fails, the execution of the line is not a result — whatever the other partners' rows are -/
theorem any_joined_row_without_value_fails_line (qy : Query) (q : SelectStmt) (hq : qy.stmt = .select q) (idx : JoinIndex)
    (w : Bool) (es : EngineState) (l : Line) (hadm : anyResult l.row = true) (envs : List (Env × List String))
    (henvs : lineEnvs qy idx true l = .ok envs) (env : Env) (keys : List String) (hm : (env, keys) ∈ envs)
    (hfail : ∀ seen r, selectOne O q seen env keys ≠ .ok r) :
    ∀ r, executeLine O qy idx w es l ≠ .ok r := by
  intro r
  simp only [executeLine, hq, hadm, Bool.not_true, Bool.false_eq_true, if_false, henvs, bind, Outcome.bind]
  cases hs : selectEnvs O q envs es.seen none with
  | ok p => exact absurd hs (selectEnvs_fails_if_member_fails O q envs env keys hm hfail es.seen none p)
  | error k => simp
  | panic s => simp
  | oracleMissing s => simp

/-- (a) at the level of the file loop, as `C03Expr.no_value_is_reported` is for WHERE: a projected expression without a
value on an admitted line that passes WHERE ends the run of the file with that error; nothing is printed for the line -/
theorem projection_error_is_reported (qy : Query) (q : SelectStmt) (hq : qy.stmt = .select q) (hj : qy.join = none)
    (hw : q.wildcard = false) (idx : JoinIndex) (w : Bool) (ls : LoopState) (fl : FileLine) (rest : List FileLine)
    (hr : fl.readable = true) (hadm : anyResult fl.line.row = true)
    (hpass : PassesWhere O q (envOfInsertions (columnsMapping qy.table fl.line.row fl.line.text))) (k : ErrKind)
    (hk : evalList O (envOfInsertions (columnsMapping qy.table fl.line.row fl.line.text)) (q.projections.map (·.2)) = .error k) :
    (runFile O qy idx w none (fl :: rest) ls).out.error = some k ∧
    (runFile O qy idx w none (fl :: rest) ls).out.printed = ls.out.printed :=
  Props.C03Select.error_is_reported O qy idx w ls fl rest k hr
    (joined_row_error_is_line_error O qy q hq idx w ls.es fl.line hadm [] _ qy.table.columns []
      (by simp [lineEnvs, hj]) ls.es.seen none rfl k
      (selectOne_projection_error O q ls.es.seen _ qy.table.columns hw hpass k hk))

/-- the row passes WHERE (or there is none) -/
def AggPassesWhere (q : AggStmt) (env : Env) : Prop :=
  match q.filter with
  | some f => eval O env f = .ok (.bool true)
  | none => True

theorem aggUpdateRow_where_error (q : AggStmt) (st : AggState) (env : Env) (f : Expr) (hf : q.filter = some f)
    (k : ErrKind) (hk : eval O env f = .error k) : aggUpdateRow O q st env = .error k := by
  simp [aggUpdateRow, hf, hk, bind, Outcome.bind]

theorem aggUpdateRow_where_type_mismatch (q : AggStmt) (st : AggState) (env : Env) (f : Expr) (hf : q.filter = some f)
    (v : Value) (hv : eval O env f = .ok v) (hn : Props.C03.NoTruthValue v) :
    aggUpdateRow O q st env = .error .typeError := by
  simp [aggUpdateRow, hf, hv, bind, Outcome.bind, condHolds_typeError v hn.1 hn.2]

/-- one step of `execute_update` after WHERE -/
theorem aggUpdateRow_passed (q : AggStmt) (st : AggState) (env : Env) (hpass : AggPassesWhere O q env) :
    aggUpdateRow O q st env =
      ((match q.groupBy with
        | some parts => evalList O env (parts.map (·.1))
        | none => .ok [Value.null] : Outcome (List Value))).bind (fun key =>
        (updateAggregates O q env key (enumFrom 0 (q.items.map (·.kind))) st).bind (fun st1 =>
          ((match q.having with
            | some _ => havingUpdates O q env key q.havingVisit 0 st1
            | none => .ok st1 : Outcome AggState)).bind (fun st2 => .ok (st2, true)))) := by
  unfold AggPassesWhere at hpass
  cases hf : q.filter with
  | none => simp only [aggUpdateRow, hf, bind, pure, Outcome.bind]; rfl
  | some f => rw [hf] at hpass; simp only [aggUpdateRow, hf, hpass, bind, pure, Outcome.bind, condHolds_bool]; rfl

/-- a GROUP BY key expression without a value on a row that passes WHERE -/
theorem aggUpdateRow_group_key_error (q : AggStmt) (st : AggState) (env : Env) (hpass : AggPassesWhere O q env)
    (parts : List (Expr × String)) (hg : q.groupBy = some parts) (k : ErrKind)
    (hk : evalList O env (parts.map (·.1)) = .error k) : aggUpdateRow O q st env = .error k := by
  rw [aggUpdateRow_passed O q st env hpass, hg]
  simp [hk, Outcome.bind]

/-- the group key of a row: the values of the GROUP BY expressions (one group, keyed NULL, without GROUP BY) -/
def KeyOf (q : AggStmt) (env : Env) (key : List Value) : Prop :=
  (match q.groupBy with
    | some parts => evalList O env (parts.map (·.1))
    | none => .ok [Value.null] : Outcome (List Value)) = .ok key

/-- the update of the select-list aggregates is an error: so is the row's update -/
theorem aggUpdateRow_aggregate_error (q : AggStmt) (st : AggState) (env : Env) (hpass : AggPassesWhere O q env)
    (key : List Value) (hkey : KeyOf O q env key) (k : ErrKind)
    (hk : updateAggregates O q env key (enumFrom 0 (q.items.map (·.kind))) st = .error k) :
    aggUpdateRow O q st env = .error k := by
  unfold KeyOf at hkey
  rw [aggUpdateRow_passed O q st env hpass, hkey]
  simp [hk, Outcome.bind]

/-- the update of HAVING's aggregates is an error: so is the row's update -/
theorem aggUpdateRow_having_error (q : AggStmt) (st : AggState) (env : Env) (hpass : AggPassesWhere O q env)
    (key : List Value) (hkey : KeyOf O q env key) (st1 : AggState)
    (h1 : updateAggregates O q env key (enumFrom 0 (q.items.map (·.kind))) st = .ok st1)
    (h : Expr) (hh : q.having = some h) (k : ErrKind) (hk : havingUpdates O q env key q.havingVisit 0 st1 = .error k) :
    aggUpdateRow O q st env = .error k := by
  unfold KeyOf at hkey
  rw [aggUpdateRow_passed O q st env hpass, hkey]
  simp [h1, hh, hk, Outcome.bind]

/-- the aggregates are updated in select-list order; the first whose update is an error is the error of all -/
theorem updateAggregates_error_at (q : AggStmt) (env : Env) (key : List Value) : ∀ (pre : List (Nat × AggKind)) (i : Nat)
    (kd : AggKind) (post : List (Nat × AggKind)) (st st' : AggState) (k : ErrKind),
    updateAggregates O q env key pre st = .ok st' →
    cellStep O q env kd (readCell st' key i) = .error k →
    updateAggregates O q env key (pre ++ (i, kd) :: post) st = .error k := by
  intro pre i kd post st st' k h hk
  rw [updateAggregates_eq_foldlM] at h ⊢
  rw [Outcome.foldlM_append_cons _ _ h, updateAggregate, hk]
  rfl

/-- the same for HAVING's aggregates (visited in the order of the HAVING expression) -/
theorem havingUpdates_error_at (q : AggStmt) (env : Env) (key : List Value) : ∀ (pre : List HavingRef) (id : Nat)
    (kd : AggKind) (post : List HavingRef) (j : Nat) (st : AggState) (k : ErrKind),
    (∀ r ∈ pre, ∃ canon, r = .key canon ∧ validateGroupKey q canon = .ok ()) →
    cellStep O q env kd (readCell st key (q.items.length + j)) = .error k →
    havingUpdates O q env key (pre ++ .agg id kd :: post) j st = .error k := by
  intro pre
  induction pre with
  | nil =>
    intro id kd post j st k _ hk
    simp [havingUpdates, updateAggregate, hk, bind, Outcome.bind]
  | cons r pre ih =>
    intro id kd post j st k hpre hk
    obtain ⟨canon, rfl, hv⟩ := hpre r List.mem_cons_self
    simp only [List.cons_append, havingUpdates, hv, bind, Outcome.bind]
    exact ih id kd post j st k (fun r hr => hpre r (List.mem_cons_of_mem _ hr)) hk

/-- the expression an aggregate evaluates on every row of its group (COUNT reads a column, see below) -/
def argumentOf : AggKind → Option Expr
  | .min e | .max e | .sum e | .avg e | .stddev e _ | .percentile e _ | .boolAnd e | .boolOr e | .arrayAgg e
  | .stringAgg e _ => some e
  | _ => none

/-- **an aggregate argument without a value on a row is the error of that aggregate's update**, whatever the group
has accumulated so far -/
theorem cellStep_argument_error (q : AggStmt) (env : Env) (kd : AggKind) (e : Expr) (ha : argumentOf kd = some e)
    (k : ErrKind) (hk : eval O env e = .error k) (c : Cell) : cellStep O q env kd c = .error k := by
  cases kd <;> simp only [argumentOf, Option.some.injEq, reduceCtorEq] at ha <;> subst ha <;>
    simp [cellStep, hk, bind, Outcome.bind]

/-- `COUNT(c)` of a column the row does not have -/
theorem cellStep_count_unknown_column (q : AggStmt) (env : Env) (cn : String) (d : Bool) (h : env.get .table cn = none)
    (c : Cell) : cellStep O q env (.count (some cn) d) c = .error .columnNotFound := by
  simp [cellStep, h, bind, Outcome.bind]

/-- the rows of a line update the aggregates in order; the first row whose update is an error is the error of all -/
theorem aggEnvs_error (q : AggStmt) : ∀ (pre : List (Env × List String)) (env : Env) (keys : List String)
    (post : List (Env × List String)) (st : AggState) (any : Bool) (st' : AggState) (any' : Bool) (k : ErrKind),
    aggEnvs O q pre st any = .ok (st', any') → aggUpdateRow O q st' env = .error k →
    aggEnvs O q (pre ++ (env, keys) :: post) st any = .error k := by
  intro pre env keys post st any st' any' k h hk
  rw [aggEnvs_eq_foldlM] at h ⊢
  rw [Outcome.foldlM_append_cons _ _ h, hk]
  rfl

/-- **(b) at line level**: an aggregate statement (with or without a join) on an admitted line whose rows are
`pre ++ (env, keys) :: post`; the rows `pre` update the aggregates without error; the update for the next row is the
error `k` (one of the lemmas above). Then the execution of the line is the error `k` — in batch mode (update only) and
in follow mode (update and result) alike. -/
theorem agg_row_error_is_line_error (qy : Query) (q : AggStmt) (hq : qy.stmt = .aggregate q) (idx : JoinIndex) (w : Bool)
    (es : EngineState) (l : Line) (hadm : anyResult l.row = true)
    (pre : List (Env × List String)) (env : Env) (keys : List String) (post : List (Env × List String))
    (henvs : lineEnvs qy idx false l = .ok (pre ++ (env, keys) :: post))
    (st' : AggState) (any' : Bool) (hpre : aggEnvs O q pre es.agg false = .ok (st', any'))
    (k : ErrKind) (hk : aggUpdateRow O q st' env = .error k) :
    executeLine O qy idx w es l = .error k := by
  have h := aggEnvs_error O q pre env keys post es.agg false st' any' k hpre hk
  cases w <;> simp [executeLine, hq, hadm, henvs, bind, Outcome.bind, h]

/-- what HAVING sees of a group: its key values under the canonical texts of the GROUP BY expressions, and the values
of HAVING's own aggregates -/
def havingEnv (q : AggStmt) (key : List Value) (subs : List (Nat × Value)) : Env :=
  { groupKeys := ((keyMapping q).filterMap (fun (c, i) => (key[i]?).map (fun v => (c, v)))).reverse
    groupValues := (enumFrom 0 q.havingAggs).map (fun (j, (id, k)) => (id, (alGet subs (q.items.length + j)).getD (emptyGroupValue k))) }

/-- `accept_group`: the HAVING expression on the group, as a condition -/
theorem acceptGroup_eq (q : AggStmt) (h : Expr) (key : List Value) (subs : List (Nat × Value)) :
    acceptGroup O q h key subs = (eval O (havingEnv q key subs) h).bind condHolds := rfl

/-- HAVING without a value on a group -/
theorem acceptGroup_eval_error (q : AggStmt) (h : Expr) (key : List Value) (subs : List (Nat × Value)) (k : ErrKind)
    (hk : eval O (havingEnv q key subs) h = .error k) : acceptGroup O q h key subs = .error k := by
  rw [acceptGroup_eq, hk]; rfl

/-- HAVING with a value that has no truth value on a group (`HAVING SUM(v)`): the type error (D69) -/
theorem acceptGroup_type_mismatch (q : AggStmt) (h : Expr) (key : List Value) (subs : List (Nat × Value)) (v : Value)
    (hv : eval O (havingEnv q key subs) h = .ok v) (hn : Props.C03.NoTruthValue v) :
    acceptGroup O q h key subs = .error .typeError := by
  rw [acceptGroup_eq, hv]; exact condHolds_typeError v hn.1 hn.2

/-- the groups are visited in key order; the first group on which HAVING is an error is the error of the result rows -/
theorem resultRows_having_error (q : AggStmt) (h : Expr) (hh : q.having = some h) :
    ∀ (pre : List (List Value × List (Nat × Value))) (key : List Value) (subs : List (Nat × Value))
      (post : List (List Value × List (Nat × Value))) (seen : List (List Value)) (k : ErrKind),
    (∀ g ∈ pre, (∃ row, rowOf O q g.1 g.2 (enumFrom 0 q.items) = .ok row) ∧ ∃ b, acceptGroup O q h g.1 g.2 = .ok b) →
    (∃ row, rowOf O q key subs (enumFrom 0 q.items) = .ok row) →
    acceptGroup O q h key subs = .error k →
    resultRows O q (pre ++ (key, subs) :: post) seen = .error k := by
  intro pre key subs post seen k hpre ⟨row, hrow⟩ hk
  simp only [resultRows_eq_error, List.map_append, List.map_cons, shownRow_of_row O (g := (key, subs)) hrow, havingOk, hh, hk]
  refine firstFail_error_at _ k _ fun x hx => ?_
  obtain ⟨g, hg, rfl⟩ := List.mem_map.1 hx
  obtain ⟨⟨row, hr⟩, b, hb⟩ := hpre g hg
  exact ⟨if b then some row else none, by simp only [shownRow_of_row O hr, havingOk, hh, hb, Outcome.ok_bind]⟩

/-- **a group on which HAVING has no value (or no truth value) makes the RESULT that error**: the groups of the state
in key order `pre ++ (key, subs) :: post`, every group has its row (the select-list cells evaluate), HAVING answers on
the groups `pre` and is the error `k` on the next: then `execute_result` is the error `k` — no table, not a table
without that group -/
theorem having_error_is_result_error (q : AggStmt) (h : Expr) (hh : q.having = some h) (es : EngineState)
    (pre : List (List Value × List (Nat × Value))) (key : List Value) (subs : List (Nat × Value))
    (post : List (List Value × List (Nat × Value)))
    (hgroups : (publishPercentiles es.agg).vals = pre ++ (key, subs) :: post)
    (hrows : ∀ g ∈ pre ++ (key, subs) :: post, ∃ row, rowOf O q g.1 g.2 (enumFrom 0 q.items) = .ok row)
    (hpre : ∀ g ∈ pre, ∃ b, acceptGroup O q h g.1 g.2 = .ok b)
    (k : ErrKind) (hk : acceptGroup O q h key subs = .error k) :
    finalResult O q es = .error k := by
  have hres := resultRows_having_error O q h hh pre key subs post [] k
    (fun g hg => ⟨hrows g (List.mem_append_left _ hg), hpre g hg⟩)
    (hrows (key, subs) (List.mem_append_right _ List.mem_cons_self)) hk
  unfold finalResult aggResult
  simp only [hgroups, bind, pure, Outcome.bind]
  obtain ⟨cs, hcs⟩ := aggColumns_ok_of_rows hrows
  simp only [hcs, hres]

/-- **an error of the final result is the error of the run**: an aggregate statement whose input was read without
failure and whose `execute_result` is the error `k` ends with the error `k` and prints no table -/
theorem final_result_error_is_run_error (qy : Query) (q : AggStmt) (hq : qy.stmt = .aggregate q) (joined : List FileLine)
    (idx : JoinIndex) (hidx : joinSetup qy joined = .ok idx) (files : List (List FileLine))
    (hok : hasFailed (runFiles O qy idx (batchMode qy) none files {}).out = false) (k : ErrKind)
    (hk : finalResult O q (runFiles O qy idx (batchMode qy) none files {}).es = .error k) :
    (runBatch O qy joined files none).error = some k ∧
    (runBatch O qy joined files none).printed = (runFiles O qy idx (batchMode qy) none files {}).out.printed := by
  rw [runBatch_eq O qy joined files idx hidx]
  simp [hok, hq, hk, failWith]

/-- **an aggregate WHERE whose value has no truth value is the type error of the RUN** (finding D69, the aggregate
half; `C03Expr.where_type_mismatch_is_reported` is the SELECT half). Any aggregate statement, with or without a join:
the run reaches an admitted line; the line presents the rows `epre ++ (env, keys) :: epost` (one per join partner; one
row without a join); the rows `epre` update the aggregates without error; on the next row WHERE evaluates to a value `v`
of another type than BOOLEAN that is not NULL (`WHERE v + 1`). Then the batch run ends with the type error, prints no
table (nothing beyond what was printed before the line), and the line is the last one counted — the row is not
silently left out of its group. -/
theorem agg_where_type_mismatch_is_run_error (qy : Query) (q : AggStmt) (hq : qy.stmt = .aggregate q) (joined : List FileLine)
    (idx : JoinIndex) (hidx : joinSetup qy joined = .ok idx)
    (before : List (List FileLine)) (pre : List FileLine) (fl : FileLine) (rest : List FileLine) (after : List (List FileLine))
    (hreach : Reaches O qy idx (batchMode qy) before pre) (hr : fl.readable = true) (hadm : anyResult fl.line.row = true)
    (epre : List (Env × List String)) (env : Env) (keys : List String) (epost : List (Env × List String))
    (henvs : lineEnvs qy idx false fl.line = .ok (epre ++ (env, keys) :: epost))
    (st' : AggState) (any' : Bool)
    (hpre : aggEnvs O q epre (stateAt O qy idx (batchMode qy) before pre).es.agg false = .ok (st', any'))
    (f : Expr) (hf : q.filter = some f) (v : Value) (hv : eval O env f = .ok v) (hn : Props.C03.NoTruthValue v) :
    let out := runBatch O qy joined (before ++ (pre ++ fl :: rest) :: after) none
    out.error = some .typeError ∧
    out.printed = (stateAt O qy idx (batchMode qy) before pre).out.printed ∧
    out.totalLines = (stateAt O qy idx (batchMode qy) before pre).out.totalLines + 1 :=
  line_error_is_run_error O qy joined idx hidx before pre fl rest after hreach hr .typeError
    (agg_row_error_is_line_error O qy q hq idx (batchMode qy) _ fl.line hadm epre env keys epost henvs st' any' hpre .typeError
      (aggUpdateRow_where_type_mismatch O q st' env f hf v hv hn))

/-- … without a join the line presents exactly one row, the line's own: the statement of
`C03Expr.where_type_mismatch_is_reported` for an aggregate statement, at run level -/
theorem agg_where_type_mismatch_is_reported (qy : Query) (q : AggStmt) (hq : qy.stmt = .aggregate q) (hj : qy.join = none)
    (joined : List FileLine) (idx : JoinIndex) (hidx : joinSetup qy joined = .ok idx)
    (before : List (List FileLine)) (pre : List FileLine) (fl : FileLine) (rest : List FileLine) (after : List (List FileLine))
    (hreach : Reaches O qy idx (batchMode qy) before pre) (hr : fl.readable = true) (hadm : anyResult fl.line.row = true)
    (f : Expr) (hf : q.filter = some f) (v : Value)
    (hv : eval O (envOfInsertions (columnsMapping qy.table fl.line.row fl.line.text)) f = .ok v) (hn : Props.C03.NoTruthValue v) :
    let out := runBatch O qy joined (before ++ (pre ++ fl :: rest) :: after) none
    out.error = some .typeError ∧
    out.printed = (stateAt O qy idx (batchMode qy) before pre).out.printed ∧
    out.totalLines = (stateAt O qy idx (batchMode qy) before pre).out.totalLines + 1 :=
  agg_where_type_mismatch_is_run_error O qy q hq joined idx hidx before pre fl rest after hreach hr hadm
    [] _ qy.table.columns [] (by simp [lineEnvs, hj]) _ false rfl f hf v hv hn

/-- **a HAVING whose value on some group has no truth value is the type error of the RUN** (finding D69, the HAVING
half). The input was read without failure; the groups of the final state in key order are `pre ++ (key, subs) :: post`;
every cell of the table has a value; HAVING answers on the groups `pre`; on the next group it evaluates to a value `v`
of another type than BOOLEAN that is not NULL (`HAVING SUM(v)`). Then the run ends with the type error and prints no
table — not the table without that group. -/
theorem having_type_mismatch_is_run_error (qy : Query) (q : AggStmt) (hq : qy.stmt = .aggregate q) (joined : List FileLine)
    (idx : JoinIndex) (hidx : joinSetup qy joined = .ok idx) (files : List (List FileLine))
    (hok : hasFailed (runFiles O qy idx (batchMode qy) none files {}).out = false)
    (h : Expr) (hh : q.having = some h)
    (pre : List (List Value × List (Nat × Value))) (key : List Value) (subs : List (Nat × Value))
    (post : List (List Value × List (Nat × Value)))
    (hgroups : (publishPercentiles (runFiles O qy idx (batchMode qy) none files {}).es.agg).vals = pre ++ (key, subs) :: post)
    (hrows : ∀ g ∈ pre ++ (key, subs) :: post, ∃ row, rowOf O q g.1 g.2 (enumFrom 0 q.items) = .ok row)
    (hpre : ∀ g ∈ pre, ∃ b, acceptGroup O q h g.1 g.2 = .ok b)
    (v : Value) (hv : eval O (havingEnv q key subs) h = .ok v) (hn : Props.C03.NoTruthValue v) :
    (runBatch O qy joined files none).error = some .typeError ∧
    (runBatch O qy joined files none).printed = (runFiles O qy idx (batchMode qy) none files {}).out.printed :=
  final_result_error_is_run_error O qy q hq joined idx hidx files hok .typeError
    (having_error_is_result_error O q h hh _ pre key subs post hgroups hrows hpre .typeError
      (acceptGroup_type_mismatch O q h key subs v hv hn))

section Examples
open Sqlgrep.Pipeline
open Sqlgrep.Props.Pipeline (exFacts exDefs recordsOf exRun)

/-- (a) a projection without a value on the SECOND line (`1 / (2 - 2)`): the row of the first line is printed, then the
run ends with the error after two lines — no row for the second line -/
example : recordsOf (runText exFacts exDefs "select k, 10 / (v - 2) from t".toList .text false [strBytes "a;1\nb;2\n"]) =
    some (some .undefinedOperation, 2, [strBytes "k: 'a', p1: -10"]) := by
  rw [exRun, String.toList_ofList]; decide +kernel

/-- … an unknown column in the select list: the error of the first admitted line -/
example : recordsOf (runText exFacts exDefs "select k, nosuch from t".toList .text false [strBytes "zzz\na;1\nb;2\n"]) =
    some (some .columnNotFound, 2, []) := by
  rw [exRun, String.toList_ofList]; decide +kernel

/-- (b) an aggregate ARGUMENT without a value on the second line: error, no table -/
example : recordsOf (runText exFacts exDefs "SELECT COUNT(*), SUM(10 / (v - 2)) FROM t".toList .text false [strBytes "a;1\nb;2\n"]) =
    some (some .undefinedOperation, 2, []) := by
  rw [exRun, String.toList_ofList]; decide +kernel

/-- (b) a GROUP BY key without a value -/
example : recordsOf (runText exFacts exDefs "SELECT 10 / (v - 2), COUNT(*) FROM t GROUP BY 10 / (v - 2)".toList .text false [strBytes "a;1\nb;2\n"]) =
    some (some .undefinedOperation, 2, []) := by
  rw [exRun, String.toList_ofList]; decide +kernel

/-- (b) WHERE of an aggregate statement without a truth value (D69) -/
example : recordsOf (runText exFacts exDefs "SELECT COUNT(*) FROM t WHERE v + 1".toList .text false [strBytes "a;1\nb;2\n"]) =
    some (some .typeError, 1, []) := by
  rw [exRun, String.toList_ofList]; decide +kernel

/-- (b) HAVING without a value on the group `b` (`10 / (SUM(v) - 2)`), with a value on the group `a`: all lines are
read, then the RESULT is the error — no table, not the table without group `b` -/
example : recordsOf (runText exFacts exDefs "SELECT k, SUM(v) FROM t GROUP BY k HAVING 10 / (SUM(v) - 2) < 0".toList .text false [strBytes "a;1\nb;2\n"]) =
    some (some .undefinedOperation, 2, []) := by
  rw [exRun, String.toList_ofList]; decide +kernel

/-- … and the same statement over the group `a` alone prints it -/
example : recordsOf (runText exFacts exDefs "SELECT k, SUM(v) FROM t GROUP BY k HAVING 10 / (SUM(v) - 2) < 0".toList .text false [strBytes "a;1\n"]) =
    some (none, 1, [strBytes "k: 'a', sum1: 1"]) := by
  rw [exRun, String.toList_ofList]; decide +kernel

/-- (b) HAVING with a value that has no truth value (`HAVING SUM(v)`): the type error, no table -/
example : recordsOf (runText exFacts exDefs "SELECT k, SUM(v) FROM t GROUP BY k HAVING SUM(v)".toList .text false [strBytes "a;1\nb;2\n"]) =
    some (some .typeError, 2, []) := by
  rw [exRun, String.toList_ofList]; decide +kernel

/-- tables `t` and `u` over the same line shape, and the joined file `u.txt` holding `a;5`, `b;0`, `b;4` -/
def exJoinFacts : Facts :=
  { exFacts with
    lines := exFacts.lines ++
      [(strBytes "a;5", { captures := [(strBytes "^([a-z]+);([0-9]+)$", some [some (strBytes "a;5"), some (strBytes "a"), some (strBytes "5")])] }),
       (strBytes "b;0", { captures := [(strBytes "^([a-z]+);([0-9]+)$", some [some (strBytes "b;0"), some (strBytes "b"), some (strBytes "0")])] }),
       (strBytes "b;4", { captures := [(strBytes "^([a-z]+);([0-9]+)$", some [some (strBytes "b;4"), some (strBytes "b"), some (strBytes "4")])] })]
    fs := [("u.txt", strBytes "a;5\nb;4\nb;0\n")] }

def exJoinDefs : List Char :=
  exDefs ++ " CREATE TABLE u(line = '^([a-z]+);([0-9]+)$', line[1] => k TEXT, line[2] => w INT);".toList

/-- (c) a join: line `a;1` has one partner (`a;5`: `10 / 5`), line `b;2` has two (`b;4`, then `b;0`): the projection has no
value on the SECOND partner's row — the run ends with the error and prints NOTHING for line `b;2`, not even the row of
its first partner -/
example : recordsOf (runText exJoinFacts exJoinDefs "select t.k, 10 / w from t inner join u::'u.txt' on t.k = u.k".toList .text false
      [strBytes "a;1\nb;2\n"]) =
    some (some .undefinedOperation, 2, [strBytes "t.k: 'a', p1: 2"]) := by
  unfold exJoinDefs exDefs; rw [String.toList_ofList, String.toList_ofList, String.toList_ofList, runText_eq_K]; decide +kernel

/-- (c) WHERE over the joined row without a value -/
example : recordsOf (runText exJoinFacts exJoinDefs "select t.k from t inner join u::'u.txt' on t.k = u.k where 10 / w > 1".toList .text false
      [strBytes "a;1\nb;2\n"]) =
    some (some .undefinedOperation, 2, [strBytes "t.k: 'a'"]) := by
  unfold exJoinDefs exDefs; rw [String.toList_ofList, String.toList_ofList, String.toList_ofList, runText_eq_K]; decide +kernel

/-- (c) an aggregate over a join: the argument has no value on a joined row -/
example : recordsOf (runText exJoinFacts exJoinDefs "select sum(10 / w) from t inner join u::'u.txt' on t.k = u.k".toList .text false
      [strBytes "a;1\nb;2\n"]) =
    some (some .undefinedOperation, 2, []) := by
  unfold exJoinDefs exDefs; rw [String.toList_ofList, String.toList_ofList, String.toList_ofList, runText_eq_K]; decide +kernel

/-- `SELECT 10 / (v - 2) FROM t` -/
def exQy : Query :=
  { stmt := .select { projections := [("p0", .arith .div (.value (.int 10)) (.arith .sub (.column "v") (.value (.int 2))))],
                      wildcard := false, filter := none, limit := none, distinct := false }
    table := { name := "t", columns := ["v"] }, join := none }

/-- `SELECT SUM(10 / (v - 2)) FROM t` -/
def exAggQy : Query :=
  { stmt := .aggregate { items := [{ name := "sum0", kind := .sum (.arith .div (.value (.int 10)) (.arith .sub (.column "v") (.value (.int 2)))), transform := none }],
                         filter := none, groupBy := none, having := none, havingAggs := [], havingKeys := [], limit := none, distinct := false }
    table := { name := "t", columns := ["v"] }, join := none }

def exLine (n : Int) : FileLine := { readable := true, line := { text := [], row := [.int n] } }

/-- the run over two files reaches the second line of the second file (v = 2), where the projection has no value -/
example : Reaches {} exQy [] (batchMode exQy) [[exLine 1]] [exLine 3] ∧
    executeLine {} exQy [] (batchMode exQy) (stateAt {} exQy [] (batchMode exQy) [[exLine 1]] [exLine 3]).es (exLine 2).line =
      .error .undefinedOperation := ⟨⟨rfl, rfl, rfl⟩, rfl⟩

/-- … so the run reports it, having printed the rows of the two lines before -/
example : (runBatch {} exQy [] ([[exLine 1]] ++ ([exLine 3] ++ exLine 2 :: [exLine 5]) :: [[exLine 7]]) none).error = some .undefinedOperation ∧
    (runBatch {} exQy [] ([[exLine 1]] ++ ([exLine 3] ++ exLine 2 :: [exLine 5]) :: [[exLine 7]]) none).printed = ["p0: -10", "p0: 10"] := by
  have h := line_error_is_run_error {} exQy [] [] rfl [[exLine 1]] [exLine 3] (exLine 2) [exLine 5] [[exLine 7]]
    ⟨rfl, rfl, rfl⟩ rfl .undefinedOperation rfl
  exact ⟨h.1, h.2.1⟩

/-- the aggregate statement: the argument of SUM has no value on the row v = 2 (`cellStep_argument_error`), so the row's
update, the line and the run are that error -/
example : aggUpdateRow {} (match exAggQy.stmt with | .aggregate q => q | _ => default) {}
      (envOfInsertions (columnsMapping exAggQy.table [.int 2] [])) = .error .undefinedOperation ∧
    (runBatch {} exAggQy [] [[exLine 1, exLine 2, exLine 3]] none).error = some .undefinedOperation ∧
    (runBatch {} exAggQy [] [[exLine 1, exLine 2, exLine 3]] none).printed = [] := ⟨rfl, rfl, rfl⟩

/-- `SELECT COUNT(*) FROM t WHERE v + 1` -/
def exAggWhereQy : Query :=
  { stmt := .aggregate { items := [{ name := "count0", kind := .count none false, transform := none }],
                         filter := some (.arith .add (.column "v") (.value (.int 1))), groupBy := none, having := none,
                         havingAggs := [], havingKeys := [], limit := none, distinct := false }
    table := { name := "t", columns := ["v"] }, join := none }

/-- the hypotheses of `agg_where_type_mismatch_is_reported` on the second line of a file: WHERE is `4` there, an INT — and
the run over the three lines is the type error after two lines, no table (D69) -/
example : (runBatch {} exAggWhereQy [] ([] ++ ([exLine 1] ++ exLine 3 :: [exLine 5]) :: []) none).error = some .typeError ∧
    (runBatch {} exAggWhereQy [] ([] ++ ([exLine 1] ++ exLine 3 :: [exLine 5]) :: []) none).printed = [] ∧
    (runBatch {} exAggWhereQy [] ([] ++ ([exLine 1] ++ exLine 3 :: [exLine 5]) :: []) none).totalLines = 1 := by
  have h := agg_where_type_mismatch_is_reported {} exAggWhereQy _ rfl rfl [] [] rfl [] [] (exLine 3) [exLine 5] []
    ⟨rfl, rfl, rfl⟩ rfl rfl _ rfl (.int 4) rfl ⟨by simp, by intro b; simp⟩
  exact h

/-- `SELECT k, SUM(v) FROM t GROUP BY k HAVING SUM(v)` over rows `(1, 5)`, `(2, 7)` -/
def exHavingQy : Query :=
  { stmt := .aggregate { items := [{ name := "k", kind := .groupKey (.column "k") "k", transform := none },
                                   { name := "sum1", kind := .sum (.column "v"), transform := none }],
                         filter := none, groupBy := some [(.column "k", "k")], having := some (.groupValueRef 0),
                         havingAggs := [(0, .sum (.column "v"))], havingKeys := [], havingVisit := [.agg 0 (.sum (.column "v"))],
                         limit := none, distinct := false }
    table := { name := "t", columns := ["k", "v"] }, join := none }

def exLine2 (k n : Int) : FileLine := { readable := true, line := { text := [], row := [.int k, .int n] } }

/-- the hypotheses of `having_type_mismatch_is_run_error`: both lines are read, the groups are `1` and `2`, every cell has
a value, HAVING is `5` on the first group — an INT: the run is the type error and prints no table (D69) -/
example : (runBatch {} exHavingQy [] [[exLine2 1 5, exLine2 2 7]] none).error = some .typeError ∧
    (runBatch {} exHavingQy [] [[exLine2 1 5, exLine2 2 7]] none).printed = [] := by
  have h := having_type_mismatch_is_run_error {} exHavingQy _ rfl [] [] rfl [[exLine2 1 5, exLine2 2 7]] rfl _ rfl
    [] [.int 1] [(1, .int 5), (2, .int 5)] [([.int 2], [(1, .int 7), (2, .int 7)])] rfl
    (by intro g hg
        simp only [List.nil_append, List.mem_cons, List.not_mem_nil, or_false] at hg
        rcases hg with rfl | rfl <;> exact ⟨_, rfl⟩)
    (by intro g hg; simp at hg) (.int 5) rfl ⟨by simp, by intro b; simp⟩
  exact h

end Examples

end Sqlgrep.Props.C03Run
