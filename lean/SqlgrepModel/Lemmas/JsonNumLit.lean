import SqlgrepModel.Lemmas.JsonDoc
import SqlgrepModel.Lemmas.FloatGrammar
/-
Which NUMBER a JSON number literal becomes (`JsonDoc.serdeNumber`, the function `docOfLine` executes for every number
of a line), in terms of the denotation `JsonGrammar.NumD lex d` the RFC 8259 grammar gives the literal.

* the sign (`lexNeg_of_numD`) and the REAL (`litReal_eq`): the literal's REAL is the nearest REAL of the decimal `d`
  (`nearestReal d`), except that a literal `-0…` of value zero is `-0.0` (the sign of a zero is the sign of the text);
* integer literals (`intLiteral_shape`, `intLiteral_iff_chars`): `isIntLiteral` holds exactly of `[-] int` — no
  fraction, no exponent —, and then the denotation is `⟨±digits, 0⟩`;
* `serdeNumber_classify`: serde_json's three-way classification, in terms of `d`; `serdeNumber_none_iff`: out of range;
* `toJson_none_iff`: a parsed text has no document exactly when one of its number literals is out of range;
* `numD_floatD` / `json_number_is_from_str`: a JSON number literal is a text of the `f64::from_str` grammar with the same
  denotation, so its REAL is what `f64::from_str` (`DecFloat.parseF64`) answers for the same text.
-/
namespace Sqlgrep.JsonDoc
open Sqlgrep.JsonGrammar

theorem lexNeg_cons (c : Char) (t : List Char) : lexNeg (c :: t) = decide (c = '-') := by
  unfold lexNeg
  split
  · rename_i h; cases h; rfl
  · rename_i h
    have : c ≠ '-' := fun e => h t (by rw [e])
    simp [this]

theorem isIntLiteral_cons (c : Char) (t : List Char) :
    isIntLiteral (c :: t) =
      if c = '-' then t.all (fun c => decide (Digit c)) else (c :: t).all (fun c => decide (Digit c)) := by
  unfold isIntLiteral
  split
  · rename_i h; cases h; rfl
  · rename_i h
    have : c ≠ '-' := fun e => h t (by rw [e])
    simp [this]

theorem lexNeg_pos {i : List Char} (hi : IntPart i) (r : List Char) : lexNeg (i ++ r) = false := by
  obtain ⟨c, t, rfl, hc⟩ := hi.head
  rw [List.cons_append, lexNeg_cons]; simp [(digit_ne_sign hc).1]

/-- the sign of the literal and the sign of its denotation: they agree, and a zero can carry either sign -/
theorem lexNeg_of_numD {lex : List Char} {d : Dec} (h : NumD lex d) :
    (lexNeg lex = true → d.mant ≤ 0) ∧ (lexNeg lex = false → 0 ≤ d.mant) := by
  cases h with
  | @pos i f e fd ev hi hf he =>
    rw [List.append_assoc, lexNeg_pos hi]
    exact ⟨fun h => (by cases h), fun _ => Int.natCast_nonneg _⟩
  | @neg i f e fd ev hi hf he =>
    rw [lexNeg_cons]
    refine ⟨fun _ => ?_, fun h => (by simp at h)⟩
    have := Int.natCast_nonneg (digitsVal (i ++ fd))
    show -(digitsVal (i ++ fd) : Int) ≤ 0
    omega

/-- the REAL nearest to the decimal number `d` (`+0.0` for zero): a function of the denotation alone -/
def nearestReal (d : Dec) : Nat := DecFloat.decToF64 (decide (d.mant < 0)) d.mant.natAbs d.exp

/-- **the REAL of a literal, sign of zero included**: it is the nearest REAL of the literal's decimal value; when
that value is zero and the literal starts with `-` (`-0`, `-0.0`, `-0e7`) it is `-0.0` -/
theorem litReal_eq {lex : List Char} {d : Dec} (h : NumD lex d) :
    realOfDec (lexNeg lex) d = if lexNeg lex = true ∧ d.mant = 0 then DecFloat.signMask else nearestReal d := by
  have hs := lexNeg_of_numD h
  unfold realOfDec nearestReal
  cases hn : lexNeg lex with
  | false =>
    have := hs.2 hn
    have hd : decide (d.mant < 0) = false := by simp; omega
    simp [hd]
  | true =>
    have := hs.1 hn
    by_cases h0 : d.mant = 0
    · simp [h0, DecFloat.decToF64]
    · have hd : decide (d.mant < 0) = true := by simp; omega
      simp [h0, hd]

theorem all_digit_iff (cs : List Char) : cs.all (fun c => decide (Digit c)) = true ↔ Digits cs := by
  simp [Digits, List.all_eq_true]

theorem no_frac_exp {f e fd : List Char} {ev : Int} (hf : FracD f fd) (he : ExpD e ev)
    (h : ∀ c ∈ f ++ e, c ≠ '.' ∧ c ≠ 'e' ∧ c ≠ 'E') : (f = [] ∧ fd = []) ∧ e = [] ∧ ev = 0 := by
  obtain ⟨h1, h2⟩ := List.forall_mem_append.1 h
  constructor
  · cases hf with
    | none => exact ⟨rfl, rfl⟩
    | some _ => exact absurd rfl (h1 '.' (List.mem_cons_self ..)).1
  · cases e with
    | nil => cases he; exact ⟨rfl, rfl⟩
    | cons c t =>
      have := h2 c (List.mem_cons_self ..)
      exact (he.head c t rfl).elim (absurd · this.2.1) (absurd · this.2.2)

theorem intLiteral_of_int {i : List Char} (hi : IntPart i) :
    isIntLiteral i = true ∧ isIntLiteral ('-' :: i) = true ∧
    NumD i ⟨digitsVal i, 0⟩ ∧ NumD ('-' :: i) ⟨-(digitsVal i : Int), 0⟩ := by
  have hd := hi.digits
  obtain ⟨c, t, rfl, hc⟩ := hi.head
  have key := @NumD.pos _ [] [] [] 0 hi FracD.none ExpD.none
  have keyn := @NumD.neg _ [] [] [] 0 hi FracD.none ExpD.none
  simp only [List.append_nil, List.length_nil] at key keyn
  refine ⟨?_, ?_, by simpa using key, by simpa using keyn⟩
  · rw [isIntLiteral_cons, if_neg (digit_ne_sign hc).1, all_digit_iff]; exact hd
  · rw [isIntLiteral_cons, if_pos rfl, all_digit_iff]; exact hd

theorem intLiteral_shape {lex : List Char} {d : Dec} (h : NumD lex d) (hint : isIntLiteral lex = true) :
    ∃ i, IntPart i ∧ ((lex = i ∧ d = ⟨digitsVal i, 0⟩) ∨ (lex = '-' :: i ∧ d = ⟨-(digitsVal i : Int), 0⟩)) := by
  have plain : ∀ {cs : List Char}, Digits cs → ∀ c ∈ cs, c ≠ '.' ∧ c ≠ 'e' ∧ c ≠ 'E' := fun hd c hc =>
    (digit_ne_sign (hd c hc)).2.2
  cases h with
  | @pos i f e fd ev hi hf he =>
    obtain ⟨c, t, rfl, hc⟩ := hi.head
    rw [List.append_assoc, List.cons_append, isIntLiteral_cons, if_neg (digit_ne_sign hc).1, all_digit_iff,
      ← List.cons_append] at hint
    obtain ⟨⟨rfl, rfl⟩, rfl, rfl⟩ := no_frac_exp hf he (plain (List.forall_mem_append.1 hint).2)
    exact ⟨_, hi, Or.inl ⟨by simp, by simp⟩⟩
  | @neg i f e fd ev hi hf he =>
    rw [isIntLiteral_cons, if_pos rfl, all_digit_iff, List.append_assoc] at hint
    obtain ⟨⟨rfl, rfl⟩, rfl, rfl⟩ := no_frac_exp hf he (plain (List.forall_mem_append.1 hint).2)
    exact ⟨i, hi, Or.inr ⟨by simp, by simp⟩⟩

theorem intLiteral_iff_chars {lex : List Char} {d : Dec} (h : NumD lex d) :
    isIntLiteral lex = true ↔ ∀ c ∈ lex, c ≠ '.' ∧ c ≠ 'e' ∧ c ≠ 'E' := by
  constructor
  · intro hint
    obtain ⟨i, hi, ⟨rfl, _⟩ | ⟨rfl, _⟩⟩ := intLiteral_shape h hint
    · exact fun c hc => (digit_ne_sign (hi.digits c hc)).2.2
    · exact List.forall_mem_cons.2 ⟨by decide, fun c hc => (digit_ne_sign (hi.digits c hc)).2.2⟩
  · intro hno
    cases h with
    | @pos i f e fd ev hi hf he =>
      rw [List.append_assoc] at hno
      obtain ⟨⟨rfl, _⟩, rfl, _⟩ := no_frac_exp hf he (List.forall_mem_append.1 hno).2
      simpa using (intLiteral_of_int hi).1
    | @neg i f e fd ev hi hf he =>
      rw [List.append_assoc] at hno
      obtain ⟨⟨rfl, _⟩, rfl, _⟩ := no_frac_exp hf he (List.forall_mem_append.1 (List.forall_mem_cons.1 hno).2).2
      simpa using (intLiteral_of_int hi).2.1

theorem u64Max_bits : DecFloat.decToF64 false u64Max 0 = 0x43f0000000000000 := by decide +kernel

theorem u64_finite (m : Nat) (h : m ≤ u64Max) : DecFloat.decToF64 false m 0 ≠ DecFloat.infBits := by
  have := DecFloat.decToF64_mono m u64Max 0 h
  rw [u64Max_bits] at this
  unfold DecFloat.infBits; omega

/-- **`serdeNumber` in terms of the denotation.** For a `number` literal `lex` denoting `d`:
* out of the REAL range (the magnitude rounds to infinity) ⇒ no number (`NumberOutOfRange`);
* an integer literal without minus and `≤ u64::MAX` ⇒ `PosInt(d.mant)`;
* an integer literal of negative value `≥ i64::MIN` ⇒ `NegInt(d.mant)`;
* everything else — a fraction or an exponent (even when the value is integral: `1.0`, `1e2`), an integer literal
  beyond those bounds, and `-0` — ⇒ `Float`;
in each case the REAL carried along is `realOfDec (lexNeg lex) d` (`litReal_eq`). -/
theorem serdeNumber_classify {lex : List Char} {d : Dec} (h : NumD lex d) :
    serdeNumber lex =
      if DecFloat.decToF64 false d.mant.natAbs d.exp = DecFloat.infBits then none
      else if isIntLiteral lex = true ∧ lexNeg lex = false ∧ d.mant ≤ (u64Max : Int) then
        some (.posInt d.mant.toNat (realOfDec (lexNeg lex) d))
      else if isIntLiteral lex = true ∧ d.mant < 0 ∧ -9223372036854775808 ≤ d.mant then
        some (.negInt d.mant (realOfDec (lexNeg lex) d))
      else some (.float (realOfDec (lexNeg lex) d)) := by
  have hs := lexNeg_of_numD h
  simp only [serdeNumber, numValue_complete h, realOfDec_mag]
  generalize realOfDec (lexNeg lex) d = R
  by_cases hinf : DecFloat.decToF64 false d.mant.natAbs d.exp = DecFloat.infBits
  · rw [if_pos hinf, if_pos hinf]
  rw [if_neg hinf, if_neg hinf]
  generalize isIntLiteral lex = I
  cases hn : lexNeg lex with
  | false =>
    obtain ⟨m, hm⟩ := Int.eq_ofNat_of_zero_le (hs.2 hn)
    have : ¬ ((m : Int) < 0) := by omega
    simp only [hm, Int.natAbs_natCast, Int.toNat_natCast, Int.ofNat_le, Bool.not_false, if_true, true_and, this,
      false_and, and_false, if_false]
  | true =>
    obtain ⟨m, hm⟩ : ∃ m : Nat, d.mant = -(m : Int) := ⟨d.mant.natAbs, by have := hs.1 hn; omega⟩
    simp only [hm, Int.natAbs_neg, Int.natAbs_natCast, Bool.not_true, Bool.false_eq_true, if_false,
      Bool.true_eq_false, false_and, and_false]
    by_cases hI : I = true
    · by_cases hz : m = 0
      · simp [hI, hz, u64Max]
      · by_cases hb : m ≤ 9223372036854775808
        · have : m ≤ u64Max ∧ -(m : Int) < 0 ∧ -9223372036854775808 ≤ -(m : Int) := by unfold u64Max; omega
          simp only [hI, this, hz, hb, and_self, if_true, if_false]
        · have : ¬ (-9223372036854775808 ≤ -(m : Int)) := by omega
          simp only [hz, hb, this, and_false, if_false, ite_self]
    · simp only [hI, Bool.false_eq_true, false_and, if_false]

/-- out of range: exactly the literals whose magnitude rounds to infinity, i.e. (by `DecFloat.decToF64_overflow_iff`)
whose value `|mant| · 10^exp` is at least `(2^54 − 1) · 2^970 = 2^1024 − 2^970` -/
theorem serdeNumber_none_iff {lex : List Char} {d : Dec} (h : NumD lex d) :
    serdeNumber lex = none ↔ DecFloat.decToF64 false d.mant.natAbs d.exp = DecFloat.infBits := by
  rw [serdeNumber_classify h]
  constructor
  · intro hx
    by_cases hinf : DecFloat.decToF64 false d.mant.natAbs d.exp = DecFloat.infBits
    · exact hinf
    · rw [if_neg hinf] at hx
      split at hx
      · cases hx
      · split at hx <;> cases hx
  · intro hinf; rw [if_pos hinf]

theorem serdeNumber_asF64 {lex : List Char} {d : Dec} (h : NumD lex d) (n : JNum) (hn : serdeNumber lex = some n) :
    (Json.num n).asF64 = some (realOfDec (lexNeg lex) d) := by
  obtain ⟨d', hd', hf, _⟩ := serdeNumber_spec lex n hn
  rw [numValue_complete h] at hd'
  cases hd'
  exact hf

/-- **an INT column fed from the literal**: it holds `d.mant` exactly when the literal is an integer literal
(`[-] int`) whose value fits `i64` — except the literal `-0`, which serde_json keeps as the float `-0.0` —, and NULL for
every other number literal: `1.0`, `1e2`, `9223372036854775808` … `18446744073709551615` (serde's `PosInt` beyond
`i64::MAX`), anything beyond `u64`, `-9223372036854775809`, `0.5` -/
theorem int_of_literal {lex : List Char} {d : Dec} (h : NumD lex d) (n : JNum) (hn : serdeNumber lex = some n) :
    convertFromJson .int (.num n) =
      if isIntLiteral lex = true ∧ -9223372036854775808 ≤ d.mant ∧ d.mant ≤ 9223372036854775807 ∧
          ¬ (lexNeg lex = true ∧ d.mant = 0) then .int d.mant
      else .null := by
  have hs := lexNeg_of_numD h
  rw [serdeNumber_classify h] at hn
  by_cases hinf : DecFloat.decToF64 false d.mant.natAbs d.exp = DecFloat.infBits
  · rw [if_pos hinf] at hn; cases hn
  rw [if_neg hinf] at hn
  by_cases hc1 : isIntLiteral lex = true ∧ lexNeg lex = false ∧ d.mant ≤ (u64Max : Int)
  · rw [if_pos hc1] at hn
    cases hn
    obtain ⟨hint, hneg, hu⟩ := hc1
    have h0 := hs.2 hneg
    have e : ((d.mant.toNat : Nat) : Int) = d.mant := Int.toNat_of_nonneg h0
    simp only [convertFromJson, Json.asI64]
    by_cases hi : d.mant.toNat ≤ 9223372036854775807
    · have : -9223372036854775808 ≤ d.mant ∧ d.mant ≤ 9223372036854775807 := by omega
      simp only [hi, if_true, e, hint, hneg, this, Bool.false_eq_true, false_and, not_false_eq_true, and_self]
    · have : ¬ d.mant ≤ 9223372036854775807 := by omega
      simp only [hi, if_false, this, false_and, and_false]
  rw [if_neg hc1] at hn
  by_cases hc2 : isIntLiteral lex = true ∧ d.mant < 0 ∧ -9223372036854775808 ≤ d.mant
  · rw [if_pos hc2] at hn
    cases hn
    obtain ⟨hint, hlt, hb⟩ := hc2
    have : d.mant ≤ 9223372036854775807 ∧ d.mant ≠ 0 := by omega
    simp only [convertFromJson, Json.asI64, hint, hb, this, and_false, not_false_eq_true, and_self, if_true]
  · rw [if_neg hc2] at hn
    cases hn
    simp only [convertFromJson, Json.asI64]
    rw [if_neg]
    rintro ⟨hint, hlo, hhi, hnz⟩
    by_cases hneg : lexNeg lex = true
    · have := hs.1 hneg
      have hz : d.mant ≠ 0 := fun e => hnz ⟨hneg, e⟩
      exact hc2 ⟨hint, by omega, hlo⟩
    · exact hc1 ⟨hint, by simpa using hneg, by unfold u64Max; omega⟩

/-- **a REAL column fed from the literal** holds the literal's REAL -/
theorem real_of_literal {lex : List Char} {d : Dec} (h : NumD lex d) (n : JNum) (hn : serdeNumber lex = some n) :
    convertFromJson .real (.num n) = .real (realOfDec (lexNeg lex) d) := by
  have := serdeNumber_asF64 h n hn
  simp only [convertFromJson, this]

mutual
/-- a parsed text has no document exactly when one of its number literals has no number (out of range) -/
theorem toJson_none_iff : ∀ (l : LVal), toJson l = none ↔ ∃ lex ∈ l.lexemes, serdeNumber lex = none
  | .null => by simp [toJson, LVal.lexemes]
  | .bool b => by simp [toJson, LVal.lexemes]
  | .str s => by simp [toJson, LVal.lexemes]
  | .num lex => by simp [toJson, LVal.lexemes]
  | .arr xs => by
    rw [toJson, LVal.lexemes, ← toJsonList_none_iff xs]
    cases toJsonList xs <;> simp
  | .obj ms => by
    rw [toJson, LVal.lexemes, ← toJsonMembers_none_iff ms]
    cases toJsonMembers ms <;> simp
theorem toJsonList_none_iff : ∀ (xs : List LVal), toJsonList xs = none ↔ ∃ lex ∈ LVal.lexemesList xs, serdeNumber lex = none
  | [] => by simp [toJsonList, LVal.lexemesList]
  | x :: xs => by
    rw [toJsonList_cons_eq_none, toJson_none_iff x, toJsonList_none_iff xs, LVal.lexemesList]
    simp only [List.mem_append, or_and_right, exists_or]
theorem toJsonMembers_none_iff : ∀ (ms : List (List Char × LVal)),
    toJsonMembers ms = none ↔ ∃ lex ∈ LVal.lexemesMembers ms, serdeNumber lex = none
  | [] => by simp [toJsonMembers, LVal.lexemesMembers]
  | (k, x) :: ms => by
    rw [toJsonMembers_cons_eq_none, toJson_none_iff x, toJsonMembers_none_iff ms, LVal.lexemesMembers]
    simp only [List.mem_append, or_and_right, exists_or]
end

theorem expD_floatExpD {e : List Char} {ev : Int} (h : ExpD e ev) : FloatGrammar.ExpD e ev := by
  cases h with
  | none => exact .none
  | @plain c ds hc hd => exact FloatGrammar.ExpDV.some (sg := []) (neg := false) hc .none hd
  | @plus c ds hc hd => exact FloatGrammar.ExpDV.some (sg := ['+']) (neg := false) hc .plus hd
  | @minus c ds hc hd => exact FloatGrammar.ExpDV.some (sg := ['-']) (neg := true) hc .minus hd

theorem unsigned_numberD {i f e fd : List Char} {ev : Int} (hi : IntPart i) (hf : FracD f fd) (he : ExpD e ev) :
    FloatGrammar.NumberD (i ++ f ++ e) (digitsVal (i ++ fd)) (ev - fd.length) := by
  have hd := hi.digits
  have hne : i ≠ [] := by obtain ⟨c, t, rfl, _⟩ := hi.head; nofun
  cases hf with
  | none =>
    have := FloatGrammar.NumberDV.int ⟨hne, hd⟩ (expD_floatExpD he)
    simpa using this
  | @some ds hds =>
    have := FloatGrammar.NumberDV.point hd hds.2 (Or.inl hne) (expD_floatExpD he)
    simpa using this

/-- RFC 8259 `number` ⊆ Rust `Float`, same decimal, same sign -/
theorem numD_floatD {lex : List Char} {d : Dec} (h : NumD lex d) :
    FloatGrammar.FloatD lex (.dec (lexNeg lex) d.mant.natAbs d.exp) := by
  cases h with
  | @pos i f e fd ev hi hf he =>
    have hn : lexNeg (i ++ f ++ e) = false := by rw [List.append_assoc]; exact lexNeg_pos hi _
    rw [hn]
    have := FloatGrammar.FloatDV.number .none (unsigned_numberD hi hf he)
    simpa using this
  | @neg i f e fd ev hi hf he =>
    rw [lexNeg_cons]
    have := FloatGrammar.FloatDV.number .minus (unsigned_numberD hi hf he)
    simpa using this

/-- **the REAL of a JSON number literal is `f64::from_str` of the same text** (what the C02 oracle of the harness
demands since D66) — for every literal whose exponent digits' value is below 65 536 (`FloatGrammar.ExpSmall`, decidable
on the text): beyond that Rust's `f64::from_str` stops reading the exponent (observation N3; serde_json does not), and
the two agree only while the literal is shorter than ≈ 65 000 characters (both `±0` / out of range). -/
theorem json_number_is_from_str {lex : List Char} {d : Dec} (h : NumD lex d) (hs : FloatGrammar.ExpSmall lex) :
    DecFloat.parseF64 lex = some (realOfDec (lexNeg lex) d) :=
  (DecFloat.parseF64_iff hs _).2 ⟨_, numD_floatD h, rfl⟩

end Sqlgrep.JsonDoc
