import SqlgrepModel.Lemmas.AggResult
import SqlgrepModel.Lemmas.AggColumns
import SqlgrepModel.Props.C03Run
/-
C04 / C03 — WHICH error the result table of an aggregate statement reports.

`execute_result` (`aggregate_execution.rs`) computes the table COLUMN BY COLUMN (`extract_result_rows_by_column`: outer
loop over the select list in order, inner loop over the groups in key order, `?` on every cell), and only when every
cell has a value assembles the rows, asks HAVING per group in key order (`accept_group(..)?`) and applies DISTINCT.
The model (`Model/Engine.lean` `aggColumn`, `aggColumns`, `aggResult`, `resultRows` — the definitions the driver
executes) does the same, so:

  1. when a cell of the table has no value, the result is an error (no table, C03's last sentence), and the error
     reported is that of the FIRST such cell in COLUMN-MAJOR order: columns in select-list order, within a column the
     groups in key order (`result_error_is_first_cell_column_major`, `result_error_at_cell`);
  2. the order of the loops matters for nothing else: whether the result is an error does not depend on it
     (`cells_pass_iff_rows`), and the rows assembled from the columns are the rows `rowOf` computes
     (`rows_from_columns`);
  3. an error of the result is either 1. or — every cell having a value — the error of HAVING on the first group in key
     order on which it has none (`result_error_classification`).

The kernel-evaluated examples at the end are statements on which column-major and row-major order report DIFFERENT
errors (the reviewer's `SELECT k, SUM(w) * 10, upper(MIN(v)) FROM t GROUP BY k`).
-/
namespace Sqlgrep.Props.C04Errors
open Sqlgrep

variable (O : Oracles)

/-- the cells of the result table in the order the code evaluates them (`cellsColumnMajor`): for every select-list item
in order, the item's cell in every group of `group_values` in key order -/
def cells (q : AggStmt) (es : EngineState) : List (Outcome Value) :=
  cellsColumnMajor O q (publishPercentiles es.agg).vals (enumFrom 0 q.items)

theorem aggColumns_of_void {q : AggStmt} {V : List (List Value × List (Nat × Value))} {items : List (Nat × AggItem)} {k : ErrKind}
    (h : (aggColumns O q V items).void = .error k) : aggColumns O q V items = .error k := by
  cases hx : aggColumns O q V items <;> rw [hx] at h <;> simp [Outcome.void] at h
  rw [h]

/-- **1. which error**: the cells in column-major order; all before some position have values, the cell at that position
is the error `k`: the result is the error `k` — whatever the later cells (other columns of the same groups included)
would be, and HAVING is not asked. -/
theorem result_error_is_first_cell_column_major (q : AggStmt) (es : EngineState) (pre post : List (Outcome Value)) (k : ErrKind)
    (hcells : cells O q es = pre ++ .error k :: post) (hpre : ∀ x ∈ pre, ∃ v, x = .ok v) :
    finalResult O q es = .error k ∧ aggResult O q es.agg = .error k := by
  have h : aggColumns O q (publishPercentiles es.agg).vals (enumFrom 0 q.items) = .error k := by
    apply aggColumns_of_void
    rw [aggColumns_firstFail]
    unfold cells at hcells
    rw [hcells]
    exact firstFail_error_at pre k post hpre
  have h2 : aggResult O q es.agg = .error k := by rw [aggResult_eq, h]; rfl
  exact ⟨by unfold finalResult; rw [h2]; rfl, h2⟩

/-- … the same with the position named: select-list item `item` at index `ipre.length`, group `g` after the groups
`gpre` in key order. Every column before it is complete (all groups), its own column has values in the groups before
`g`, and its cell in `g` is the error `k`: the result is the error `k`. -/
theorem result_error_at_cell (q : AggStmt) (es : EngineState)
    (ipre : List AggItem) (item : AggItem) (ipost : List AggItem) (hitems : q.items = ipre ++ item :: ipost)
    (gpre : List (List Value × List (Nat × Value))) (g : List Value × List (Nat × Value)) (gpost : List (List Value × List (Nat × Value)))
    (hgroups : (publishPercentiles es.agg).vals = gpre ++ g :: gpost)
    (hcols : ∀ p ∈ enumFrom 0 ipre, ∀ x ∈ gpre ++ g :: gpost, ∃ v, cellOf O q p.1 p.2 x.1 x.2 = .ok v)
    (hcol : ∀ x ∈ gpre, ∃ v, cellOf O q ipre.length item x.1 x.2 = .ok v)
    (k : ErrKind) (hk : cellOf O q ipre.length item g.1 g.2 = .error k) :
    finalResult O q es = .error k := by
  refine (result_error_is_first_cell_column_major O q es
    (cellsColumnMajor O q (gpre ++ g :: gpost) (enumFrom 0 ipre) ++ gpre.map (fun x => cellOf O q ipre.length item x.1 x.2))
    (gpost.map (fun x => cellOf O q ipre.length item x.1 x.2) ++
      cellsColumnMajor O q (gpre ++ g :: gpost) (enumFrom (ipre.length + 1) ipost)) k ?_ ?_).1
  · unfold cells
    rw [hgroups, hitems, enumFrom_append]
    simp only [cellsColumnMajor, enumFrom, List.flatMap_append, List.flatMap_cons, List.map_append, List.map_cons, hk,
      Nat.zero_add, List.append_assoc, List.cons_append]
  · intro x hx
    rcases List.mem_append.mp hx with hx | hx
    · simp only [cellsColumnMajor, List.mem_flatMap, List.mem_map] at hx
      obtain ⟨p, hp, y, hy, rfl⟩ := hx
      exact hcols p hp y hy
    · obtain ⟨y, hy, rfl⟩ := List.mem_map.mp hx
      exact hcol y hy

/-- **2. the order of the loops does not decide WHETHER the result is an error**: the column pass answers iff every
group has its row -/
theorem cells_pass_iff_rows (q : AggStmt) (V : List (List Value × List (Nat × Value))) :
    (∃ cs, aggColumns O q V (enumFrom 0 q.items) = .ok cs) ↔ ∀ g ∈ V, ∃ r, rowOf O q g.1 g.2 (enumFrom 0 q.items) = .ok r :=
  aggColumns_ok_iff_rows O q V _

/-- … and the row the code assembles for the `n`-th group from the columns
(`result_rows_by_column[column_index][row_index]`) is the row `resultRows` computes for that group -/
theorem rows_from_columns (q : AggStmt) (V : List (List Value × List (Nat × Value))) (cs : List (List Value))
    (h : aggColumns O q V (enumFrom 0 q.items) = .ok cs) (n : Nat) (g : List Value × List (Nat × Value)) (hg : V[n]? = some g) :
    rowOf O q g.1 g.2 (enumFrom 0 q.items) = .ok (cs.map (fun c => c.getD n .null)) :=
  aggColumns_ok_rowOf h n g hg

theorem firstFail_error {α : Type} : ∀ (l : List (Outcome α)) (k : ErrKind), firstFail l = .error k →
    ∃ pre post, l = pre ++ .error k :: post ∧ ∀ x ∈ pre, ∃ v, x = .ok v := by
  intro l
  induction l with
  | nil => intro k h; simp [firstFail] at h
  | cons x xs ih =>
    intro k h
    cases x with
    | ok v =>
      obtain ⟨pre, post, hl, hp⟩ := ih k (by simpa [firstFail] using h)
      refine ⟨.ok v :: pre, post, by rw [hl]; rfl, ?_⟩
      intro y hy
      rcases List.mem_cons.mp hy with hy | hy
      · exact ⟨v, hy⟩
      · exact hp y hy
    | error k' =>
      simp only [firstFail, Outcome.error.injEq] at h
      subst h
      exact ⟨[], xs, rfl, fun y hy => by simp at hy⟩
    | panic s => simp [firstFail] at h
    | oracleMissing w => simp [firstFail] at h

theorem resultRows_error_is_having (q : AggStmt) : ∀ (V : List (List Value × List (Nat × Value))) (seen : List (List Value)) (k : ErrKind),
    (∀ g ∈ V, ∃ r, rowOf O q g.1 g.2 (enumFrom 0 q.items) = .ok r) → resultRows O q V seen = .error k →
    ∃ h gpre g gpost, q.having = some h ∧ V = gpre ++ g :: gpost ∧ (∀ x ∈ gpre, ∃ b, acceptGroup O q h x.1 x.2 = .ok b) ∧
      acceptGroup O q h g.1 g.2 = .error k := by
  intro V seen k hrows h
  obtain ⟨pre, post, hsplit, hpre⟩ := firstFail_error _ k (resultRows_eq_error.1 h)
  obtain ⟨gpre, grest, rfl, rfl, hm2⟩ := List.map_eq_append_iff.1 hsplit
  obtain ⟨g, gpost, rfl, hg, -⟩ := List.map_eq_cons_iff.1 hm2
  cases hh : q.having with
  | none =>
    obtain ⟨row, hrow⟩ := hrows g (by simp)
    simp only [shownRow_of_row O hrow, havingOk, hh] at hg
    cases hg
  | some hv =>
    refine ⟨hv, gpre, g, gpost, rfl, rfl, fun x hx => ?_, ?_⟩
    · obtain ⟨row, hrow⟩ := hrows x (by simp [hx])
      obtain ⟨v, hv'⟩ := hpre _ (List.mem_map_of_mem hx)
      simp only [shownRow_of_row O hrow, havingOk, hh] at hv'
      obtain ⟨b, hb, -⟩ := Outcome.bind_eq_ok hv'
      exact ⟨b, hb⟩
    · obtain ⟨row, hrow⟩ := hrows g (by simp)
      simp only [shownRow_of_row O hrow, havingOk, hh] at hg
      cases ha : acceptGroup O q hv g.1 g.2 <;> rw [ha] at hg <;> cases hg
      rfl

/-- **3. every error of the result is one of the two**: if `execute_result` is the error `k`, then either `k` is the
error of the first cell without a value in column-major order, or every cell has a value, the statement has a HAVING
clause, and `k` is the error of HAVING on the first group in key order on which it is no BOOLEAN / NULL value. -/
theorem result_error_classification (q : AggStmt) (es : EngineState) (k : ErrKind) (h : aggResult O q es.agg = .error k) :
    (∃ pre post, cells O q es = pre ++ .error k :: post ∧ ∀ x ∈ pre, ∃ v, x = .ok v) ∨
    ((∀ x ∈ cells O q es, ∃ v, x = .ok v) ∧
      ∃ hv gpre g gpost, q.having = some hv ∧ (publishPercentiles es.agg).vals = gpre ++ g :: gpost ∧
        (∀ x ∈ gpre, ∃ b, acceptGroup O q hv x.1 x.2 = .ok b) ∧ acceptGroup O q hv g.1 g.2 = .error k) := by
  rw [aggResult_eq] at h
  cases hc : aggColumns O q (publishPercentiles es.agg).vals (enumFrom 0 q.items) with
  | error k' =>
    rw [hc] at h
    simp only [Outcome.bind, Outcome.error.injEq] at h
    subst h
    left
    apply firstFail_error
    unfold cells
    rw [← aggColumns_firstFail, hc]; rfl
  | panic s => rw [hc] at h; simp [Outcome.bind] at h
  | oracleMissing w => rw [hc] at h; simp [Outcome.bind] at h
  | ok cs =>
    rw [hc] at h
    simp only [Outcome.bind] at h
    right
    refine ⟨?_, ?_⟩
    · apply (firstFail_ok_iff _).mp
      unfold cells
      rw [← aggColumns_firstFail, hc]; rfl
    · apply resultRows_error_is_having O q _ [] k (rows_ok_of_aggColumns hc)
      cases hr : resultRows O q (publishPercentiles es.agg).vals [] with
      | error k' => rw [hr] at h; simp only [Outcome.error.injEq] at h; rw [h]
      | ok _ => rw [hr] at h; simp at h
      | panic _ => rw [hr] at h; simp at h
      | oracleMissing _ => rw [hr] at h; simp at h

/-! ### non-vacuity: the hypotheses hold on a table where the two orders differ -/

/-- `SELECT k, 10 / (SUM(v) - 2), upper(MIN(v)) FROM t GROUP BY k` -/
def exStmt : AggStmt :=
  { items := [{ name := "k", kind := .groupKey (.column "k") "k", transform := none },
              { name := "p1", kind := .sum (.column "v"),
                transform := some (.arith .div (.value (.int 10)) (.arith .sub (.scoped .aggValue "$value") (.value (.int 2)))) },
              { name := "p2", kind := .min (.column "v"), transform := some (.call .upper [.scoped .aggValue "$value"]) }],
    filter := none, groupBy := some [(.column "k", "k")], having := none, havingAggs := [], havingKeys := [], havingVisit := [],
    limit := none, distinct := false }

/-- the state after the rows `(a, 1)`, `(b, 2)`: groups `a` (SUM 1, MIN 1) and `b` (SUM 2, MIN 2) -/
def exState : EngineState :=
  { agg := { vals := [([.text [97]], [(1, .int 1), (2, .int 1)]), ([.text [98]], [(1, .int 2), (2, .int 2)])] } }

/-- the cells in column-major order: the keys, `-10`, then (column 2, group `b`) without a value — before any cell of
column 3, which has no value in group `a` either -/
example : cells {} exStmt exState =
    [.ok (.text [97]), .ok (.text [98]), .ok (.int (-10))] ++ .error .undefinedOperation ::
      [.error .undefinedFunction, .error .undefinedFunction] := rfl

example : finalResult {} exStmt exState = .error .undefinedOperation :=
  (result_error_is_first_cell_column_major {} exStmt exState [.ok (.text [97]), .ok (.text [98]), .ok (.int (-10))]
    [.error .undefinedFunction, .error .undefinedFunction] _ rfl
    (by intro x hx; simp only [List.mem_cons, List.not_mem_nil, or_false] at hx; rcases hx with rfl | rfl | rfl <;> exact ⟨_, rfl⟩)).1

/-- … and row by row the first cell without a value would be (group `a`, column 3) -/
example : rowOf {} exStmt [.text [97]] [(1, .int 1), (2, .int 1)] (enumFrom 0 exStmt.items) = .error .undefinedFunction := rfl

/-! ### examples: statements on which the two orders differ (kernel-evaluated, whole invocations on real texts) -/

section Examples
open Sqlgrep.Pipeline
open Sqlgrep.Props.Pipeline (exFacts exDefs recordsOf exRun)

/-- table `t(k TEXT, v INT)`, lines `a;1`, `b;2`. Column 2 (`10 / (SUM(v) - 2)`) has a value in group `a` (-10) and
none in group `b` (division by zero: `UndefinedOperation`); column 3 (`upper(MIN(v))`, `upper` of an INT) has no value
in either group (`UndefinedFunction`). Column-major order reaches (column 2, group `b`) before any cell of column 3: the
error is `UndefinedOperation` — row-major order would have met (group `a`, column 3) first and said
`UndefinedFunction`. -/
example : recordsOf (runText exFacts exDefs "SELECT k, 10 / (SUM(v) - 2), upper(MIN(v)) FROM t GROUP BY k".toList .text false
      [strBytes "a;1\nb;2\n"]) = some (some .undefinedOperation, 2, []) := by
  rw [exRun, String.toList_ofList]; decide +kernel

/-- … the two columns exchanged: now `upper(MIN(v))` is the earlier column, its cell in group `a` is the first one -/
example : recordsOf (runText exFacts exDefs "SELECT k, upper(MIN(v)), 10 / (SUM(v) - 2) FROM t GROUP BY k".toList .text false
      [strBytes "a;1\nb;2\n"]) = some (some .undefinedFunction, 2, []) := by
  rw [exRun, String.toList_ofList]; decide +kernel

/-- … and over the group `a` alone column 2 is complete, so column 3 decides -/
example : recordsOf (runText exFacts exDefs "SELECT k, 10 / (SUM(v) - 2), upper(MIN(v)) FROM t GROUP BY k".toList .text false
      [strBytes "a;1\n"]) = some (some .undefinedFunction, 1, []) := by
  rw [exRun, String.toList_ofList]; decide +kernel

/-- a cell without a value comes before HAVING: `HAVING SUM(v) AND true` is a type error on every group (an INT has no
truth value), but HAVING is only asked when the table is complete — here column 2 has no value in group `a`, and that is the
error reported (without that column the answer is HAVING's `TypeError`, next example) -/
example : recordsOf (runText exFacts exDefs "SELECT k, upper(MIN(v)) FROM t GROUP BY k HAVING SUM(v) AND true".toList .text false
      [strBytes "a;1\nb;2\n"]) = some (some .undefinedFunction, 2, []) := by
  rw [exRun, String.toList_ofList]; decide +kernel

example : recordsOf (runText exFacts exDefs "SELECT k, MIN(v) FROM t GROUP BY k HAVING SUM(v) AND true".toList .text false
      [strBytes "a;1\nb;2\n"]) = some (some .typeError, 2, []) := by
  rw [exRun, String.toList_ofList]; decide +kernel

/-- facts about `a;1;1` and `b;1;9223372036854775807` under a three-field pattern (what the `regex` crate answers) -/
def ex3Facts : Facts :=
  { regexValid := [("^([a-z]+);([0-9]+);([0-9]+)$".toList, true)]
    lines := [(strBytes "a;1;1", { captures := [(strBytes "^([a-z]+);([0-9]+);([0-9]+)$",
                some [some (strBytes "a;1;1"), some (strBytes "a"), some (strBytes "1"), some (strBytes "1")])] }),
              (strBytes "b;1;9223372036854775807", { captures := [(strBytes "^([a-z]+);([0-9]+);([0-9]+)$",
                some [some (strBytes "b;1;9223372036854775807"), some (strBytes "b"), some (strBytes "1"), some (strBytes "9223372036854775807")])] })] }

def ex3Defs : List Char :=
  "CREATE TABLE t(line = '^([a-z]+);([0-9]+);([0-9]+)$', line[1] => k TEXT, line[2] => v INT, line[3] => w INT);".toList

/-- **the reviewer's statement** (audit 3, L3): rows `(a,1,1)`, `(b,1,i64::MAX)`. `SUM(w) * 10` overflows in group `b`
(`UndefinedOperation`), `upper(MIN(v))` has no value in any group (`UndefinedFunction`). The program says
`Undefined operation` (column 2, group `b`, comes before column 3), and so does the model. -/
example : recordsOf (runText ex3Facts ex3Defs "SELECT k, SUM(w) * 10, upper(MIN(v)) FROM t GROUP BY k".toList .text false
      [strBytes "a;1;1\nb;1;9223372036854775807\n"]) = some (some .undefinedOperation, 2, []) := by
  unfold ex3Defs ex3Facts
  rw [String.toList_ofList, String.toList_ofList, String.toList_ofList, strBytes_ofList, strBytes_ofList, strBytes_ofList,
    strBytes_ofList, strBytes_ofList, strBytes_ofList, strBytes_ofList, strBytes_ofList, runText_eq_K]
  decide +kernel

end Examples

end Sqlgrep.Props.C04Errors
