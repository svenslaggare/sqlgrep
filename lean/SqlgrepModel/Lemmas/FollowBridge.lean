import SqlgrepModel.Lemmas.Answers
import SqlgrepModel.Lemmas.SelectRun
import SqlgrepModel.Lemmas.Runs
import SqlgrepModel.Lemmas.NoiseRun
/-
The executed follow-mode loop (`Model/ExecI.lean` `runFollow` / `runFollowAll`, driver kind `followi`) expressed
through the engine's line-at-a-time answers (`feedLines`) and the loop over answers (`followPrinted`): the
bridging lemmas that make the `feedLines` / `followPrinted` statements (C06, C07, C11) statements about the
executed definitions. General in the statement kind (select or aggregate). For a non-aggregate statement the follow
loop is the batch loop (`runFollowT_select_eq_runFileT`: two modes of `drive` whose steps agree below the limit), and
lines that yield no row are invisible to the follow loop (`runFollowT_noise`).
-/
namespace Sqlgrep
open Sqlgrep.Spec.Select

/-- the `single_result` argument the follow loop passes to the printer (`output.updated`) -/
def followSingleResult (qy : Query) : Bool :=
  match qy.stmt with
  | .aggregate _ => true
  | _ => false

/-- some answer carries a result together with the `reached_limit` flag: the follow loop ends there -/
def hasCut (los : List LineOut) : Bool := los.any (fun lo => lo.result.isSome && lo.reachedLimit)

theorem followSingle_eq (qy : Query) : followSingle qy = followSingleResult qy := rfl

/-- the part of a run outcome that does not depend on the line counter and the printed records: how the run ended.
`SameOut a b` (Lemmas/NoiseRun.lean) is `a.printed = b.printed` together with `endStatus a = endStatus b`; `endStatus` alone
compares runs that print differently (a follow run against its answers, against the batch run over the same lines). -/
def endStatus (ro : RunOut) : Option ErrKind × Bool × Option String := (ro.error, ro.panicked, ro.skipped)

theorem endStatus_congr {α : Type} (a b : RunOut) (h : endStatus a = endStatus b) (c : Bool) (o : Outcome α) :
    endStatus (if c then a else failWith a o) = endStatus (if c then b else failWith b o) := by
  simp only [endStatus, Prod.mk.injEq] at h
  obtain ⟨h1, h2, h3⟩ := h
  cases c <;> cases o <;> simp [endStatus, failWith, h1, h2, h3]

theorem runFollowT_printed (O : Oracles) (qy : Query) (sa : Option Nat) (lines : List Line) (s : TraceState)
    (hs : s.ls.stop = false) (h : s.ls.out.printed = renderCalls s.calls) :
    (runFollowT O qy sa lines s).ls.out.printed = renderCalls (runFollowT O qy sa lines s).calls := by
  rw [runFollowT_eq_drive _ _ _ _ _ hs]
  exact drive_printed _ _ _ _ _ h

/-- **bridging lemma** (any statement kind, no interruption): the executed follow loop over `lines` from `s` makes the
print calls `followCalls` makes from the engine's answers `feedLines … lines s.ls.es` (so it prints what `followPrinted`
prints: `renderCalls_followCalls`); it ends without error when an answer cut the loop (result + `reached_limit`), and
otherwise ends the way the feeding ended (ok, or the failure of the first failing line). Only the line counter is not a
function of the answers with a result. Proved line by line: `drive_feed` covers only the runs that no LIMIT ends. -/
theorem runFollowT_answers (O : Oracles) (qy : Query) (lines : List Line) (s : TraceState) :
    (runFollowT O qy none lines s).calls = s.calls ++ followCalls (isUpdated qy) (feedLines O qy [] true lines s.ls.es).1 ∧
    endStatus (runFollowT O qy none lines s).ls.out =
      endStatus (if hasCut (feedLines O qy [] true lines s.ls.es).1 then s.ls.out
                 else failWith s.ls.out (feedLines O qy [] true lines s.ls.es).2) := by
  induction lines generalizing s with
  | nil => simp [runFollowT, feedLines, followCalls, hasCut, failWith]
  | cons l rest ih =>
    have hn : ((none : Option Nat) == some s.ls.consumed) = false := rfl
    cases hx : executeLine O qy [] true s.ls.es l with
    | ok p =>
      obtain ⟨es, res, lim⟩ := p
      cases res with
      | none =>
        simp only [runFollowT, hn, hx, feedLines, Bool.false_eq_true, if_false, followCalls, hasCut, List.any_cons,
          Option.isSome_none, Bool.false_and, Bool.false_or]
        exact ⟨(ih _).1, (ih _).2.trans (endStatus_congr _ s.ls.out (by rfl) _ _)⟩
      | some r =>
        cases lim with
        | true => simp [runFollowT, hn, hx, feedLines, followCalls, hasCut, endStatus]
        | false =>
          simp only [runFollowT, hn, hx, feedLines, Bool.false_eq_true, if_false, followCalls, hasCut, List.any_cons,
            Option.isSome_some, Bool.and_false, Bool.false_or]
          exact ⟨by rw [(ih _).1]; simp, (ih _).2.trans (endStatus_congr _ s.ls.out (by rfl) _ _)⟩
    | _ => simp [runFollowT, hn, hx, feedLines, followCalls, hasCut, failWith, endStatus]

theorem runFollowAll_printed (O : Oracles) (qy : Query) (lines : List Line) :
    (runFollowAll O qy none lines).printed =
      if reachedLimit qy {} then [] else followPrinted (followSingleResult qy) (feedLines O qy [] true lines {}).1 := by
  unfold runFollowAll
  split
  · rfl
  · rw [← runFollowT_ls O qy none lines {}, runFollowT_printed O qy none lines {} rfl rfl, (runFollowT_answers O qy lines {}).1]
    exact renderCalls_followCalls _ _

theorem runFollowAll_status (O : Oracles) (qy : Query) (lines : List Line) :
    endStatus (runFollowAll O qy none lines) =
      if reachedLimit qy {} || hasCut (feedLines O qy [] true lines {}).1 then endStatus {}
      else endStatus (failWith {} (feedLines O qy [] true lines {}).2) := by
  unfold runFollowAll
  by_cases h : reachedLimit qy {} = true
  · simp [h]
  · simp only [h, Bool.false_eq_true, if_false, Bool.false_or]
    rw [← runFollowT_ls O qy none lines {}, (runFollowT_answers O qy lines {}).2]
    split <;> rfl

theorem runFollowAll_stopAt (O : Oracles) (qy : Query) (k : Nat) (lines : List Line) :
    runFollowAll O qy (some k) lines = runFollowAll O qy none (lines.take k) := by
  rw [runFollowAll_eq_loop, runFollowAll_eq_loop, followInput_take, runFollow_stop_eq_take O qy k _ {} (Nat.zero_le _)]
  rfl

/-- for a non-aggregate statement below its limit, the executed follow loop and the executed batch loop over the
same (readable) lines are the same function — engine state, records, counters, outcome, print calls: the limit flag
never comes without a result -/
theorem runFollowT_select_eq_runFileT (O : Oracles) (qy : Query) (q : SelectStmt) (hq : qy.stmt = .select q)
    (lines : List Line) (s : TraceState) (hs : s.ls.stop = false) (h0 : reachedLimit qy s.ls.es = false) :
    runFollowT O qy none lines s = runFileT O qy [] true (readableFile lines) s := by
  have hu : isUpdated qy = false := by simp [isUpdated, hq]
  rw [runFollowT_eq_drive _ _ _ _ _ hs, runFileT_eq_drive _ _ _ _ _ _ hs]
  refine drive_congr _ _ (fun s : TraceState => reachedLimit qy s.ls.es = false) none (fun s fl _ h0 => ?_) _ (fun _ => h0)
  rcases (Mode.follow qy).step_cases (executeLine O qy [] true) s fl with ⟨hr, e⟩ | ⟨es, lo, hr, hx, e⟩ | ⟨hr, hx, e⟩
  · exact ⟨by rw [e, Mode.step, hr]; rfl, fun h => by rw [e] at h; simp [fileHalt, readFailed] at h⟩
  · have hflag := executeLine_select_reached O qy q hq [] true s.ls.es es fl.line lo hx
    have hnone : lo.result = none → reachedLimit qy es = false := fun hres => by
      have hnum := executeLine_select_noresult O qy q hq [] true s.ls.es es fl.line lo hx hres
      simp only [reachedLimit, hq] at h0 ⊢
      rw [hnum]; exact h0
    rw [e]
    refine ⟨?_, fun h => ?_⟩
    · rw [Mode.step, hr, if_pos rfl, hx]
      refine Mode.after_congr _ _ _ _ _ hu ?_
      cases hres : lo.result with
      | some r => simp [Mode.cut, Mode.follow, Mode.batch, hres]
      | none => simp [Mode.cut, hflag, hnone hres]
    · cases hres : lo.result with
      | some r => simpa [fileHalt, Mode.after, Mode.cut, Mode.follow, hres, hflag] using h
      | none => exact hnone hres
  · refine ⟨?_, fun h => by rw [e] at h; simp [fileHalt, lineFailed] at h⟩
    rw [e, Mode.step, hr, if_pos rfl, Mode.after_fail _ _ hx]

theorem runFollow_select_eq_runFile (O : Oracles) (qy : Query) (q : SelectStmt) (hq : qy.stmt = .select q)
    (lines : List Line) (ls : LoopState) (hs : ls.stop = false) (h0 : reachedLimit qy ls.es = false) :
    runFollow O qy none lines ls = runFile O qy [] true none (readableFile lines) ls := by
  have := congrArg TraceState.ls (runFollowT_select_eq_runFileT O qy q hq lines ⟨ls, []⟩ hs h0)
  rwa [runFollowT_ls, runFileT_ls _ _ _ _ _ _ hs] at this

/-- **executed follow run = executed batch run** (non-aggregate statement, no join — follow mode has none): over
the same lines `runFollowAll` and `runBatch` have the same outcome: records, lines read, error -/
theorem runFollowAll_select_eq_runBatch (O : Oracles) (qy : Query) (q : SelectStmt) (hq : qy.stmt = .select q)
    (hj : qy.join = none) (lines : List Line) :
    runFollowAll O qy none lines = runBatch O qy [] [readableFile lines] none := by
  have hidx : joinIndexOf qy [] = .ok [] := by simp [joinIndexOf, hj]
  rw [runBatch_select_out O qy q hq [] _ [] hidx]
  unfold runFollowAll
  by_cases h0 : reachedLimit qy ({} : EngineState) = true
  · simp [runFiles, h0]
  · have h0' : reachedLimit qy ({} : LoopState).es = false := by simpa using h0
    simp only [h0, Bool.false_eq_true, if_false]
    rw [runFollow_select_eq_runFile O qy q hq lines {} rfl h0']
    simp only [runFiles, h0', Bool.or_self, Bool.false_eq_true, if_false]
    split <;> rfl

theorem denoise_readableFile (lines : List Line) :
    denoise (readableFile lines) = readableFile (lines.filter (fun l => anyResult l.row)) := by
  simp [denoise, readableFile, List.filter_map, isNoise, Function.comp_def]

/-- **lines that yield no row are invisible to the follow loop**: the loop looks at the limit flag only next to a result -/
theorem runFollowT_noise (O : Oracles) (qy : Query) (lines : List Line) (s : TraceState) (hs : s.ls.stop = false) :
    TSim (runFollowT O qy none lines s) (runFollowT O qy none (lines.filter (fun l => anyResult l.row)) s) := by
  rw [runFollowT_eq_drive _ _ _ _ _ hs, runFollowT_eq_drive _ _ _ _ _ hs, ← denoise_readableFile]
  exact drive_noise (.follow qy) _ (fun _ => false) (executeLine_noise_answer O qy [] true) (fun h => nomatch h) _ s s
    ⟨⟨⟨rfl, rfl, rfl, rfl, rfl, rfl⟩, rfl⟩, fun h => nomatch h⟩

/-- noise invariance of the executed follow run: everything but the line counter -/
theorem runFollowAll_noise (O : Oracles) (qy : Query) (lines : List Line) :
    SameOut (runFollowAll O qy none (lines.filter (fun l => anyResult l.row))) (runFollowAll O qy none lines) := by
  rw [runFollowAll_eq_loop, runFollowAll_eq_loop, followInput_filter]
  have h := (runFollowT_noise O qy (followInput qy lines) {} rfl).ls
  rw [runFollowT_ls, runFollowT_ls] at h
  exact h.sameOut.symm

theorem runFile_take_eq_answers (O : Oracles) (qy : Query) (q : SelectStmt) (hq : qy.stmt = .select q)
    (hl : q.limit = none) (idx : JoinIndex) (lines : List Line) (k : Nat) :
    (runFile O qy idx true none (readableFile (lines.take k)) {}).out.printed =
      ((feedLines O qy idx true lines {}).1.take k).flatMap piece := by
  have hcut : ∀ lo ∈ (feedLines O qy idx true (lines.take k) ({} : TraceState).ls.es).1, Mode.batch.cut lo = false :=
    fun lo hlo => (Mode.batch_cut lo).trans (feedLines_select_noflag O qy q hq hl idx true _ _ lo hlo)
  obtain ⟨h1, h2⟩ := drive_feed .batch O qy idx true (lines.take k) {} rfl hcut
  rw [runFile_eq_drive _ _ _ _ _ _ _ rfl, ← feedLines_take]
  rcases Outcome.ok_or_not (feedLines O qy idx true (lines.take k) {}).2 with ⟨es', he⟩ | he
  · rw [h1 es' he]; exact List.nil_append _
  · rw [(h2 he).2.2.1]; exact List.nil_append _

end Sqlgrep
