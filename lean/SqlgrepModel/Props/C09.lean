import SqlgrepModel.Lemmas.NoPanic
import SqlgrepModel.Lemmas.NoPanicEngine
import SqlgrepModel.Props.C03
import SqlgrepModel.Lemmas.RowIndex
import SqlgrepModel.Lemmas.NoSkip
import SqlgrepModel.Lemmas.NoSkipEngine
import SqlgrepModel.Lemmas.AggItems
/-
C09 — execution is total: results or an error message, never a crash, never a silently wrapped number.

Where the model has explicit panic outcomes (`Outcome.panic`) "never panics" is a statement with content: the two
indexing sites of `execute_result` in `Model/Engine.lean` (`cellOf`) are shown unreachable (`run_never_panics`, second
part of this file); likewise the lowering (Props/C14 `lower_never_panics`) and `extractNear` (Props/C14Lex). The
evaluator, literal parsing, extraction, reader and printer models contain NO panic constructor — the repaired code has
no data-reachable panic site left there (checked arithmetic and casts, guarded argument access) and the model mirrors
that — so `eval_never_panics`, `eval_list_never_panics` and `parse_literal_never_panics` below are true by
construction: they are regression obligations, not evidence about the code. The evidence that the CODE does not
panic there is the harness (every case under catch_unwind with overflow checks on). The content of the first part is
`int_arith_in_range` / `negate_exact` (no silent wrap-around: an INT result is the exact result, within 64 bits),
`div_by_zero_is_error`, `subscript_total`. All model functions are total (structural recursion: termination is checked
by Lean). `oracleMissing` is answered only for external facts a case did not ship (a regex verdict / case mapping
of a computed text) and for `now()` — exactly the four sites of `function_call_skipped_iff` (third part of this file);
leap-second arithmetic and STDDEV of INTERVAL are modelled (the one `expect` chrono's
`duration_trunc` contains is proved unreachable: `Lemmas/FuncLeap.lean` `dateTrunc_shift_in_range`).
What no executable model exhibits (panics inside regex / serde_json / chrono, stack exhaustion, allocation
failure, hangs, non-UTC zones) is covered by the harness runs only (see DESIGN.md section 13).

Third part ("never skipped"): a run of the model can also end `skipped` — the model's way of saying "I was not given an
external fact I need", which the check counts and does not compare. `skipped` is an artefact of the DRIVER's finite fact
tables, not a way the program ends: `upper`, `lower`, `regexp_matches`, `now` are total functions of the libraries. The
property sentence — records or a reported error — is therefore stated over TOTAL oracle functions
(`TotalOracles`: `upperF lowerF : Bytes → Bytes`, `regexF : Bytes → Bytes → Option Bool` with `none` = invalid pattern,
`nowF : Value`; `Oracles.Total`: such functions stand behind the tables) and holds for EVERY statement:
`run_total_of_total_oracles` — with a total oracle no evaluation is `oracleMissing` (`eval_total_of_total_oracles`), so a
batch run of any statement ends in exactly one of two ways, its records with `error = none` or the records printed so
far with `error = some kind` — never `panicked`, never `skipped`. For the oracles the driver works with (finite tables,
`total = none`) `function_call_skipped_iff` says exactly where the model stops (four sites of `callFunction`, nowhere
else in evaluator, engines and executor), and the corollaries `run_not_skipped` / `run_trichotomy` say that a statement
calling none of the four functions (`Stmt.factFree`, decidable) is never skipped for ANY tables. `run_ends_one_way`: a run
sets at most one of `error` and `skipped`, and never `panicked`. The end-to-end versions (`Pipeline.runLowered`,
`Pipeline.runText`) and the composition of the `row[index]` lemmas over the end-to-end model are in
`Props/C09Pipeline.lean`.
-/
namespace Sqlgrep.Props.C09
open Sqlgrep

theorem NP_iff {α : Type} (o : Outcome α) : NP o ↔ ∀ site, o ≠ .panic site := by
  cases o <;> simp [NP, Outcome.isPanic]

/-- the evaluator never panics: every outcome is a value, a reported error, or an oracle request -/
theorem eval_never_panics (O : Oracles) (env : Env) (e : Expr) : ∀ site, eval O env e ≠ .panic site :=
  (NP_iff _).1 (NP_eval O env e)

theorem eval_list_never_panics (O : Oracles) (env : Env) (es : List Expr) : ∀ site, evalList O env es ≠ .panic site :=
  (NP_iff _).1 (NP_evalList O env es)

/-- literal parsing (`ValueType::parse`, used by casts and by extraction) never panics — including interval
texts whose parts leave chrono's range -/
theorem parse_literal_never_panics (O : Oracles) (t : VType) (s : Bytes) : ∀ site, parseLit O t s ≠ .panic site :=
  (NP_iff _).1 (NP_parseLit O t s)

/-- **`ValueType::parse` needs no oracle**: whatever facts a case ships (none, some, all), converting a text to a
literal never stops for a missing fact — `f64::from_str` is `DecFloat.parseF64N` (Model/DecFloat.lean) and chrono's
`%Y-%m-%d %H:%M:%S` parse is `Lit.parseTimestampLit` where no fact is shipped. -/
theorem parse_literal_needs_no_oracle (O : Oracles) (t : VType) (s : Bytes) : ∀ w, parseLit O t s ≠ .oracleMissing w :=
  (parseLit_faults (P := fun _ => True) O t s).ne_missing

/-- with no shipped fact a REAL literal is `f64::from_str` as computed in Lean -/
theorem parse_real_is_parseF64 (s : Bytes) : parseLit {} .real s = .ok ((DecFloat.parseF64N s).map .real) := rfl

/-- no silent wrap-around: an INT result is always the exact mathematical result, within 64 bits -/
theorem int_arith_in_range (op : ArithOp) (x y r : Int) (h : arith op (.int x) (.int y) = .ok (.int r)) :
    inI64 r = true ∧ r = (match op with
      | .add => x + y | .sub => x - y | .mul => x * y | .div => Int.tdiv x y) := by
  cases op <;> simp only [arith, checked] at h
  all_goals
    split at h
    · rename_i v hv
      split at hv <;> simp_all
      all_goals (try (obtain ⟨h1, h2⟩ := hv; subst h2; exact h1))
    · simp at h

theorem negate_exact (x r : Int) (h : negate (.int x) = .ok (.int r)) : inI64 r = true ∧ r = -x := by
  simp only [negate, checked] at h
  split at h
  · rename_i v hv
    split at hv <;> simp_all
  · simp at h

/-- division by zero is an error -/
theorem div_by_zero_is_error (x : Int) : arith .div (.int x) (.int 0) = .error .undefinedOperation := by
  simp [arith]

/-- huge or negative subscripts give NULL, never an out-of-bounds access -/
theorem subscript_total (O : Oracles) (env : Env) (a i : Expr) (t : VType) (xs : List Value) (n : Int)
    (ha : eval O env a = .ok (.array t xs)) (hi : eval O env i = .ok (.int n))
    (hout : n < 1 ∨ n > xs.length) : eval O env (.index a i) = .ok .null := by
  rw [Props.C03.subscript_one_based O env a i t xs n ha hi]
  rcases hout with h | h
  · have : ¬ n ≥ 1 := by omega
    simp [this]
  · have h1 : n ≥ 1 := by omega
    have h2 : xs.length ≤ n.toNat - 1 := by omega
    simp [h1, List.getElem?_eq_none h2]

example : eval {} {} (.arith .mul (.value (.int 3037000500)) (.value (.int 3037000500))) = .error .undefinedOperation := by rfl
example : eval {} {} (.neg (.value (.int (-9223372036854775808)))) = .error .undefinedOperation := by rfl
example : eval {} {} (.call .pow [.value (.int 3), .value (.int 70)]) = .error .undefinedFunction := by rfl
example : mkInterval 9999999999999999 0 0 = none := by rfl

open Sqlgrep.NoPanicEngine in
/-- **C09 at the level of a whole run: `panicked = false`.** For every statement (SELECT or aggregate, with WHERE /
GROUP BY / HAVING / DISTINCT / LIMIT / JOIN), every table, every joined file, every list of input files with any rows,
every interrupt point and all oracle tables, a batch run never takes the panic outcome. This is ALL the theorem says: the
run may still end `skipped := some w` (the model was not given an external fact it needed — the check counts such a case
and does not compare it). When that happens, and that for statements without `upper` / `lower` / `regexp_matches` / `now`
it never happens, so that the run ends with records or a reported error, is `function_call_skipped_iff`,
`run_not_skipped` and `run_trichotomy` below.
The two indexing sites of `execute_result` (`group_key_mapping[&hash]`, `group_key.0[index]`) are shown
unreachable through the invariant `Inv` (a group exists only after an update that validated every `GroupKey`
item, and every stored key has one value per GROUP BY part). A third indexing site of `execute_result`,
`result_rows_by_column[0]` (aggregate_execution.rs:276: the first result column, one column per select-list item), has
NO panic outcome in the model: it is out of range only for an aggregate statement without any item, and
`aggregate_statement_has_items` below shows that no text lowers to such a statement (the theorem here quantifies over
all `Query` values, also hand-built ones with `items = []`, on which the Rust engine would panic at that site — such a
value is not an accepted statement). UTC only; text format (JSON / CSV: `Pipeline.runText_never_panics`). -/
theorem run_never_panics (O : Oracles) (qy : Query) (joined : List FileLine) (files : List (List FileLine))
    (stopAt : Option Nat) : (runBatch O qy joined files stopAt).panicked = false := by
  have h := runBatch_faults O anyFunc (fun f _ => callFunction_faults_np O f) qy joined files stopAt (Stmt.allFuncs_any _)
  exact eq_false_of_ne_true fun hp => (h.1 hp).elim fun _ hf => hf

/-- **an aggregate statement that comes from a text has at least one select-list item**, so the site
`result_rows_by_column[0]` of `execute_result` (aggregate_execution.rs:276) is in range for every accepted statement:
the parser's projection loop pushes a projection before it can end, and `create_aggregate_statement` makes one item per
projection (`Lemmas/AggItems.lean`). For every token vector, fuel and `Regex::new` oracle. -/
theorem aggregate_statement_has_items (T : PrecTables) (fuel : Nat) (toks : List PTok) (op : POp)
    (rv : List Char → Bool) (a : AggStmt) (t : String) (f : Option String) (j : Option LJoin)
    (hp : Parse.parseTokensFuel T fuel toks = .tree op) (hl : Lower.lowerStatement rv op = .ok (.aggregate a t f j)) :
    a.items ≠ [] :=
  lowered_aggregate_has_items T fuel toks op rv a t f j hp hl

/-- line-at-a-time execution (follow mode): from a state reached by successful steps, the next step never panics -/
theorem step_never_panics (O : Oracles) (qy : Query) (idx : JoinIndex) (w : Bool) (es : EngineState) (l : Line)
    (h : Sqlgrep.NoPanicEngine.EInv qy es) : ∀ site, executeLine O qy idx w es l ≠ .panic site :=
  (NP_iff _).1 (Sqlgrep.NoPanicEngine.NP_executeLine O qy idx w es l h)

/-- … and the invariant needed for the next step holds again (so it holds along every run from the initial state) -/
theorem step_keeps_invariant (O : Oracles) (qy : Query) (idx : JoinIndex) (w : Bool) (es es' : EngineState) (l : Line)
    (lo : LineOut) (h : Sqlgrep.NoPanicEngine.EInv qy es) (hx : executeLine O qy idx w es l = .ok (es', lo)) :
    Sqlgrep.NoPanicEngine.EInv qy es' := Sqlgrep.NoPanicEngine.executeLine_inv hx h

/-- **exactly where the evaluator model stops for a missing fact.** A function call answers `oracleMissing w` iff it is
one of four sites (`MissingSite`, `Lemmas/NoSkip.lean`): `upper(s)` / `lower(s)` of a text that is not ASCII and whose
case mapping is not in the shipped table (`w = "upper"` / `"lower"`), `regexp_matches(v, p)` on a pair that is not in
the shipped table (`w = "regex"`), and `now()` (`w = "now"`) — each of them only for an oracle WITHOUT total functions
behind its tables (`O.total = none`: every oracle the driver builds; the model has no clock, so a statement that
evaluates `now()` is always skipped by the driver's model; such statements are compared with the implementation by the
harness only up to the point of the call). No other function, no operator, no cast and no literal ever asks
(`eval_not_skipped`, `parse_literal_needs_no_oracle`). -/
theorem function_call_skipped_iff (O : Oracles) (f : Func) (args : List Value) (w : String) :
    callFunction O f args = .oracleMissing w ↔ MissingSite O f args w :=
  callFunction_missing_iff O f args w

/-- the same, read for one function: `upper(s)` is skipped iff `s` is not ASCII and its upper-casing was not shipped -/
theorem upper_skipped_iff (O : Oracles) (s : Bytes) :
    (∃ w, callFunction O .upper [.text s] = .oracleMissing w) ↔
      isAscii s = false ∧ lookupB O.upper s = none ∧ O.total = none :=
  (Outcome.isMissing_iff _).symm.trans (upper_missing_iff O s)

theorem lower_skipped_iff (O : Oracles) (s : Bytes) :
    (∃ w, callFunction O .lower [.text s] = .oracleMissing w) ↔
      isAscii s = false ∧ lookupB O.lower s = none ∧ O.total = none :=
  (Outcome.isMissing_iff _).symm.trans (lower_missing_iff O s)

theorem regex_skipped_iff (O : Oracles) (v p : Bytes) :
    (∃ w, callFunction O .regexMatches [.text v, .text p] = .oracleMissing w) ↔
      O.regex.find? (fun e => e.1.1 == v && e.1.2 == p) = none ∧ O.total = none :=
  (Outcome.isMissing_iff _).symm.trans (regex_missing_iff O v p)

/-- `now()` is skipped exactly when the oracle holds no clock reading (`total = none`) — whatever tables were shipped:
no case ships the clock, so the model the driver runs always stops at `now()` … -/
theorem now_skipped_iff (O : Oracles) : callFunction O .now [] = .oracleMissing "now" ↔ O.total = none :=
  now_missing_iff O

/-- … and with a total oracle it is the clock reading -/
theorem now_of_total_oracle (O : Oracles) (T : TotalOracles) (h : O.total = some T) : callFunction O .now [] = .ok T.nowF := by
  simp [callFunction, h]

/-- **the evaluator asks only through function calls** (generic layer). Let `ok` be any set of function symbols whose
calls are answered under the oracle tables `O` (no call of such a function is `oracleMissing`, whatever the arguments).
An expression in which only such functions occur — at any depth: operands, IN lists, CASE branches, subscripts, casts,
arguments — is evaluated to a value, a reported error (or, vacuously, a panic: `eval_never_panics`), never to a request
for a fact, in every environment. -/
theorem eval_not_skipped (O : Oracles) (ok : Func → Bool)
    (hok : ∀ f, ok f = true → ∀ args w, callFunction O f args ≠ .oracleMissing w)
    (env : Env) (e : Expr) (h : e.allFuncs ok = true) : ∀ w, eval O env e ≠ .oracleMissing w :=
  (NM_iff _).1 (NM_eval O ok (fun f hf args => (NM_iff _).2 (hok f hf args)) env e h)

/-- **the syntactic instance**: an expression that calls none of `upper`, `lower`, `regexp_matches`, `now` needs no
external fact — for ALL oracle tables (empty, partial, wrong) -/
theorem eval_factFree_not_skipped (O : Oracles) (env : Env) (e : Expr) (h : e.factFree = true) :
    ∀ w, eval O env e ≠ .oracleMissing w :=
  (NM_iff _).1 (NM_eval_factFree O env e h)

/-- **a whole batch run is not skipped** (generic layer): if every function symbol of the statement is answered under
`O`, the run of `Model/Exec.lean` — every input file, every joined file, every interrupt point — does not end `skipped`.
Covers every statement form of the engine model (SELECT and aggregate statements, WHERE, GROUP BY, HAVING, the
expressions around aggregates, DISTINCT, LIMIT, JOIN / OUTER JOIN): nothing is left out, hence no `_partial`. -/
theorem run_not_skipped_of_answered (O : Oracles) (ok : Func → Bool)
    (hok : ∀ f, ok f = true → ∀ args w, callFunction O f args ≠ .oracleMissing w)
    (qy : Query) (hq : qy.stmt.allFuncs ok = true) (joined : List FileLine) (files : List (List FileLine))
    (stopAt : Option Nat) : (runBatch O qy joined files stopAt).skipped = none :=
  NoSkipEngine.runBatch_not_skipped O ok (fun f hf args => (NM_iff _).2 (hok f hf args)) qy joined files stopAt hq

/-- **a fact-free statement is never skipped**: when no expression of the statement — select items, WHERE, GROUP BY
parts, aggregate arguments, the expressions around aggregates, HAVING and its aggregates — calls `upper`, `lower`,
`regexp_matches` or `now` (`Query.factFree`, a decidable syntactic check), a batch run does not end `skipped`, for ALL
oracle tables, inputs and interrupt points -/
theorem run_not_skipped (O : Oracles) (qy : Query) (hq : qy.factFree = true) (joined : List FileLine)
    (files : List (List FileLine)) (stopAt : Option Nat) : (runBatch O qy joined files stopAt).skipped = none :=
  NoSkipEngine.runBatch_not_skipped O factFreeFunc (NM_callFunction_factFree O) qy joined files stopAt hq

/-- line-at-a-time execution (follow mode) of a fact-free statement: no step asks for a fact -/
theorem step_not_skipped (O : Oracles) (qy : Query) (hq : qy.factFree = true) (idx : JoinIndex) (w : Bool)
    (es : EngineState) (l : Line) : ∀ what, executeLine O qy idx w es l ≠ .oracleMissing what :=
  (NM_iff _).1 (NoSkipEngine.NM_executeLine O factFreeFunc (NM_callFunction_factFree O) qy idx w es l hq)

/-- how a run ended, read off the three failure fields of `RunOut` in the order `Pipeline.runLowered` reads them -/
inductive Ending where
  /-- `Ok(())`: all records printed -/
  | output
  /-- `Err(kind)`: a reported error, after the records printed so far -/
  | reported (k : ErrKind)
  | panicked
  /-- the model was not given an external fact it needed -/
  | skipped (what : String)
  deriving DecidableEq, Repr

def ending (r : RunOut) : Ending :=
  match r.skipped with
  | some w => .skipped w
  | none => if r.panicked then .panicked else
    match r.error with
    | some k => .reported k
    | none => .output

theorem ending_of_not_skipped {r : RunOut} (hp : r.panicked = false) (hs : r.skipped = none) :
    (r.error = none ∧ ending r = .output) ∨ (∃ k, r.error = some k ∧ ending r = .reported k) := by
  unfold ending
  rw [hs, hp]
  cases he : r.error with
  | none => exact Or.inl ⟨rfl, rfl⟩
  | some k => exact Or.inr ⟨k, rfl, rfl⟩

/-- **every run ends in exactly one way, and none of them is a panic**: a batch run — every statement, all oracle
tables — has `panicked = false` and sets at most one of `error` and `skipped`: output, a reported error, or (only for an
oracle with finite tables) skipped for a missing fact. (`NoSkipEngine.runBatch_oneWay` is the structural fact "at most
one of the three fields"; its fourth case, `panicked = true`, is excluded by `run_never_panics`.) -/
theorem run_ends_one_way (O : Oracles) (qy : Query) (joined : List FileLine) (files : List (List FileLine))
    (stopAt : Option Nat) :
    let r := runBatch O qy joined files stopAt
    r.panicked = false ∧
    ((r.error = none ∧ r.skipped = none ∧ ending r = .output) ∨
     (∃ k, r.error = some k ∧ r.skipped = none ∧ ending r = .reported k) ∨
     (∃ w, r.error = none ∧ r.skipped = some w ∧ ending r = .skipped w)) := by
  intro r
  have hp : r.panicked = false := run_never_panics O qy joined files stopAt
  refine ⟨hp, ?_⟩
  have key : r.skipped = none → (r.error = none ∧ r.skipped = none ∧ ending r = .output) ∨
      (∃ k, r.error = some k ∧ r.skipped = none ∧ ending r = .reported k) ∨
      (∃ w, r.error = none ∧ r.skipped = some w ∧ ending r = .skipped w) := fun hs => by
    rcases ending_of_not_skipped hp hs with ⟨he, e⟩ | ⟨k, he, e⟩
    · exact .inl ⟨he, hs, e⟩
    · exact .inr (.inl ⟨k, he, hs, e⟩)
  rcases NoSkipEngine.runBatch_oneWay O qy joined files stopAt with ⟨_, _, hs⟩ | ⟨_, _, hs⟩ | ⟨_, hpt, _⟩ | ⟨he, _, w, hs⟩
  · exact key hs
  · exact key hs
  · exact absurd (hpt.symm.trans hp) (by decide)
  · exact .inr (.inr ⟨w, he, hs, by unfold ending; rw [hs]⟩)

/-- **with total oracle functions no evaluation asks for a missing fact** — every expression, every environment -/
theorem eval_total_of_total_oracles (O : Oracles) (hT : O.Total) (env : Env) (e : Expr) :
    (∀ w, eval O env e ≠ .oracleMissing w) ∧ (∀ site, eval O env e ≠ .panic site) :=
  ⟨(NM_iff _).1 (NM_eval_total O hT env e), eval_never_panics O env e⟩

/-- … hence every evaluation is a value or a reported error -/
theorem eval_value_or_error_of_total_oracles (O : Oracles) (hT : O.Total) (env : Env) (e : Expr) :
    (∃ v, eval O env e = .ok v) ∨ (∃ k, eval O env e = .error k) := by
  have h := eval_total_of_total_oracles O hT env e
  cases he : eval O env e with
  | ok v => exact Or.inl ⟨v, rfl⟩
  | error k => exact Or.inr ⟨k, rfl⟩
  | panic s => exact absurd he (h.2 s)
  | oracleMissing w => exact absurd he (h.1 w)

/-- a batch run under a total oracle is never skipped — EVERY statement -/
theorem run_not_skipped_of_total_oracles (O : Oracles) (hT : O.Total) (qy : Query) (joined : List FileLine)
    (files : List (List FileLine)) (stopAt : Option Nat) : (runBatch O qy joined files stopAt).skipped = none :=
  NoSkipEngine.runBatch_not_skipped O anyFunc (fun f _ => NM_callFunction_total O hT f) qy joined files stopAt
    (Stmt.allFuncs_any qy.stmt)

/-- **run_total_of_total_oracles — the property sentence for EVERY statement: results or an error message, never a
crash.** Let the external functions be total (`O.Total`: `upperF lowerF : Bytes → Bytes`, `regexF : Bytes → Bytes →
Option Bool`, `nowF : Value` stand behind the oracle's tables — what `str::to_uppercase`, `Regex::new` / `is_match` and
the clock are). Then a batch run of ANY statement (SELECT or aggregate; WHERE, GROUP BY, HAVING, DISTINCT, LIMIT, JOIN;
`upper`, `lower`, `regexp_matches`, `now` anywhere), over any files, joined file and interrupt point, has
`panicked = false` and `skipped = none`, and ends in exactly one of two ways: `Ok` (`error = none`: the printed records
are the whole output) or a reported error (`error = some k`, after the records printed so far). `skipped` is thereby an
artefact of the driver's finite fact tables only. -/
theorem run_total_of_total_oracles (O : Oracles) (hT : O.Total) (qy : Query) (joined : List FileLine)
    (files : List (List FileLine)) (stopAt : Option Nat) :
    let r := runBatch O qy joined files stopAt
    r.panicked = false ∧ r.skipped = none ∧
      ((r.error = none ∧ ending r = .output) ∨ (∃ k, r.error = some k ∧ ending r = .reported k)) := by
  intro r
  have hp : r.panicked = false := run_never_panics O qy joined files stopAt
  have hs : r.skipped = none := run_not_skipped_of_total_oracles O hT qy joined files stopAt
  exact ⟨hp, hs, ending_of_not_skipped hp hs⟩

/-- line-at-a-time execution (follow mode) under a total oracle: no step of any statement asks for a fact, and (from a
state reached by successful steps) none panics: every step yields the next state and its output, or a reported error -/
theorem step_total_of_total_oracles (O : Oracles) (hT : O.Total) (qy : Query) (idx : JoinIndex) (w : Bool)
    (es : EngineState) (l : Line) (h : Sqlgrep.NoPanicEngine.EInv qy es) :
    (∃ out, executeLine O qy idx w es l = .ok out) ∨ (∃ k, executeLine O qy idx w es l = .error k) := by
  have hm := (NM_iff _).1 (NoSkipEngine.NM_executeLine O anyFunc (fun f _ => NM_callFunction_total O hT f) qy idx w es l
    (Stmt.allFuncs_any qy.stmt))
  have hp := step_never_panics O qy idx w es l h
  cases he : executeLine O qy idx w es l with
  | ok out => exact Or.inl ⟨out, rfl⟩
  | error k => exact Or.inr ⟨k, rfl⟩
  | panic s => exact absurd he (hp s)
  | oracleMissing x => exact absurd he (hm x)

/-- **the same for the driver's oracles (finite tables), on the syntactic sub-class** — corollary of the generic layer
with `factFreeFunc` in place of "every function": a batch run of a fact-free statement has `panicked = false` and
`skipped = none` for ALL oracle tables, and ends in exactly one of two ways: `Ok` or a reported error. For statements
that are not fact-free and an oracle that is not total, `run_ends_one_way` says the run may be skipped INSTEAD OF ending
in one of the two ways, never in addition; `run_total_of_total_oracles` says that with total functions it is not. -/
theorem run_trichotomy (O : Oracles) (qy : Query) (hq : qy.factFree = true) (joined : List FileLine)
    (files : List (List FileLine)) (stopAt : Option Nat) :
    let r := runBatch O qy joined files stopAt
    r.panicked = false ∧ r.skipped = none ∧
      ((r.error = none ∧ ending r = .output) ∨ (∃ k, r.error = some k ∧ ending r = .reported k)) := by
  intro r
  have hp : r.panicked = false := run_never_panics O qy joined files stopAt
  have hs : r.skipped = none := run_not_skipped O qy hq joined files stopAt
  exact ⟨hp, hs, ending_of_not_skipped hp hs⟩

/-- `SELECT b FROM t WHERE a > 1` (lowered by hand; the same statement from its text: `Props/C09Pipeline.lean`) -/
def exSelect : Query :=
  { stmt := .select { projections := [("b", .column "b")], wildcard := false,
                      filter := some (.compare .gt (.column "a") (.value (.int 1))), limit := none, distinct := false }
    table := { name := "t", columns := ["a", "b"] }, join := none }

/-- `SELECT k, MAX(abs(v)) + 1 FROM t WHERE v IN (1, 2) GROUP BY k HAVING COUNT(*) > 0` -/
def exAggregate : Query :=
  { stmt := .aggregate
      { items := [{ name := "k", kind := .groupKey (.column "k") "k", transform := none },
                  { name := "max1", kind := .max (.call .abs [.column "v"]),
                    transform := some (.arith .add (.scoped .aggValue "$value") (.value (.int 1))) }]
        filter := some (.inList false (.column "v") [.value (.int 1), .value (.int 2)])
        groupBy := some [(.column "k", "k")]
        having := some (.compare .gt (.groupValueRef 0) (.value (.int 0)))
        havingAggs := [(0, .count none false)], havingKeys := [], havingVisit := [.agg 0 (.count none false)]
        limit := none, distinct := false }
    table := { name := "t", columns := ["k", "v"] }, join := none }

/-- `SELECT CASE WHEN a > 1 THEN upper(b) ELSE b END FROM t`: not fact-free (the call sits inside a CASE branch) -/
def exUpper : Query :=
  { exSelect with stmt := .select { projections := [("p0", .case [(.compare .gt (.column "a") (.value (.int 1)), .call .upper [.column "b"])] (.column "b"))],
                                     wildcard := false, filter := none, limit := none, distinct := false } }

/-- `SELECT now() FROM t` -/
def exNow : Query :=
  { exSelect with stmt := .select { projections := [("p0", .call .now [])], wildcard := false, filter := none,
                                     limit := none, distinct := false } }

example : exSelect.factFree = true := by decide
example : exAggregate.factFree = true := by decide
example : exUpper.factFree = false := by decide
example : exNow.factFree = false := by decide

/-- the hypothesis of `run_trichotomy` holds and both endings occur: records … -/
example : ending (runBatch {} exSelect [] [[{ readable := true, line := { text := [], row := [.int 2, .text [120]] } }]] none) = .output := by
  decide +kernel
/-- … or a reported error (`'x' > 1` is a type error) -/
example : ending (runBatch {} exSelect [] [[{ readable := true, line := { text := [], row := [.text [120], .text [120]] } }]] none) = .reported .typeError := by
  decide +kernel
/-- a statement that evaluates `now()` is skipped by the model under every oracle without a clock reading (every oracle
the driver builds: `now_skipped_iff`) … -/
example : ending (runBatch {} exNow [] [[{ readable := true, line := { text := [], row := [.int 2, .text [120]] } }]] none) = .skipped "now" := by
  decide +kernel
/-- … `upper` of an ASCII text needs no fact, of a non-ASCII text (`é`) it needs the shipped mapping -/
example : ending (runBatch {} exUpper [] [[{ readable := true, line := { text := [], row := [.int 2, .text [120]] } }]] none) = .output := by
  decide +kernel
example : ending (runBatch {} exUpper [] [[{ readable := true, line := { text := [], row := [.int 2, .text [195, 169]] } }]] none) = .skipped "upper" := by
  decide +kernel
example : ending (runBatch { upper := [([195, 169], [195, 137])] } exUpper [] [[{ readable := true, line := { text := [], row := [.int 2, .text [195, 169]] } }]] none) = .output := by
  decide +kernel

/-- a total oracle (non-vacuity of `Oracles.Total`): some total functions — the theorems hold for whichever functions
the libraries really are — and a clock reading -/
def exTotal : TotalOracles :=
  { upperF := fun s => s.map (fun b => if 97 ≤ b ∧ b ≤ 122 then b - 32 else b)
    lowerF := fun s => s
    regexF := fun v p => if p = [40] then none else some (v == p)      -- the pattern `(` is invalid
    nowF := .timestamp 739000 0 0 }

example : exTotal.oracles.Total := ⟨exTotal, rfl⟩
example : ({ upper := [([195, 169], [195, 137])], total := some exTotal } : Oracles).Total := ⟨exTotal, rfl⟩

/-- `SELECT regexp_matches(b, '(') FROM t`: an invalid pattern -/
def exRegex : Query :=
  { exSelect with stmt := .select { projections := [("p0", .call .regexMatches [.column "b", .value (.text [40])])],
                                     wildcard := false, filter := none, limit := none, distinct := false } }

-- under a total oracle the statements the driver's model skips end with records or a reported error
-- (`run_total_of_total_oracles`): `now()`, `upper` of a non-ASCII text, `regexp_matches` with an invalid pattern
example : ending (runBatch exTotal.oracles exNow [] [[{ readable := true, line := { text := [], row := [.int 2, .text [120]] } }]] none) = .output := by
  decide +kernel
example : ending (runBatch exTotal.oracles exUpper [] [[{ readable := true, line := { text := [], row := [.int 2, .text [195, 169]] } }]] none) = .output := by
  decide +kernel
example : ending (runBatch exTotal.oracles exRegex [] [[{ readable := true, line := { text := [], row := [.int 2, .text [120]] } }]] none) = .reported .invalidRegex := by
  decide +kernel
example : ending (runBatch {} exRegex [] [[{ readable := true, line := { text := [], row := [.int 2, .text [120]] } }]] none) = .skipped "regex" := by
  decide +kernel
example : exRegex.factFree = false := by decide

/-! ### `row[index]` sites

The engine indexes the extracted row of a line by the position of a column name among the table's names (join keys,
`create_columns_mapping`). The engine model reads rows with `getD … NULL` (`Model/Engine.lean` `lineEnvs`, `loadJoin`,
`columnsMapping`), which would hide an out-of-range index. It cannot occur: a lowered CREATE TABLE has one name per
column, the engine looks only at admitted rows (`executeLine` / `loadJoin` test `any_result` first), an admitted row has
one value per column, and the position of a name is a position of the row. -/

/-- the lemma behind the `row[index]` sites, about `extractRow` and the names `lowerCreate` produces ALONE: in an admitted
row of a lowered table the position of a column name is a position of the row, and the model's `getD … NULL` default is
not taken at it. It does not mention the engine: that the rows the engine is handed ARE such rows and the indices it
computes ARE such positions — i.e. that every `row[index]` site of the engine is in range — is the composed statement
`Props/C09Pipeline.engine_rows_and_indices_in_range` (over `Pipeline.runStatement`, with kernel examples). -/
theorem row_index_sites_in_range (rv : List Char → Bool) (c : PCreate) (n : String) (d : Extract.TableDef)
    (names : List String) (hlow : Lower.lowerCreate rv c = .ok (.createTable n d names))
    (o : Extract.Oracles) (lo : Extract.LineOracle) (hadm : Extract.anyResult (Extract.extractRow o d lo) = true)
    (col : String) (ki : Nat) (hk : indexOf? names col = some ki) :
    ∃ v, (Extract.extractRow o d lo)[ki]? = some v ∧ (Extract.extractRow o d lo).getD ki .null = v :=
  row_index_in_range names _
    ((admitted_row_full o d lo hadm).trans (Lower.lowerCreate_aligned rv c n d names hlow).symm) col ki hk

/-- a row that is not admitted is never indexed: the engines return before looking at it -/
theorem not_admitted_row_is_not_indexed (O : Oracles) (qy : Query) (idx : JoinIndex) (w : Bool) (es : EngineState)
    (l : Line) (h : anyResult l.row = false) :
    ∃ out, executeLine O qy idx w es l = .ok out :=
  ⟨_, executeLine_noise O qy idx w es l h⟩

example (qy : Query) : Sqlgrep.NoPanicEngine.EInv qy {} := Sqlgrep.NoPanicEngine.EInv.init qy

end Sqlgrep.Props.C09
