import SqlgrepModel.Lemmas.ParseRename
import SqlgrepModel.Lemmas.ParseLoc
/-
Prefix determinism of the expression parser: the six mutually recursive functions of `Model/ParseExpr.lean` never look
past the first *boundary* token of their input (a clause keyword WHERE / INNER / OUTER / GROUP / HAVING / LIMIT, `;`
or `End`: tokens without precedence that cannot continue an expression) and treat all boundary tokens alike.
Stated as an equation: with `swapB t2 s` = the state `s` whose tail from the first boundary token on is replaced by
the tokens of `t2` (the token at the barrier keeps its location), `parseX (swapB t2 s) = (parseX s).mapSt (swapB t2)`,
for every answer (tree, error, out of fuel). `parseRhs` needs a non-negative level, `parseList` a closing token that
is not a boundary token; the tables must give the boundary tokens no precedence (`InertBoundary`).
`swapB t2` is a morphism of the parser's input with all boundary tokens opaque (`Morph.swap`), so this is `morph_all`
of `Lemmas/ParseMorph.lean`.
-/
namespace Sqlgrep
namespace Parse

/-- replace the tail of a token list that starts at its first boundary token by the tokens of `t2`; the token put at
the barrier keeps the location of the boundary token it replaces -/
def swapToks (t2 : PSt) : List PTok → List PTok
  | [] => []
  | t :: ts => if Boundary t.tok then ⟨t.loc, t2.cur.tok⟩ :: t2.rest else t :: swapToks t2 ts

def swapB (t2 : PSt) (s : PSt) : PSt :=
  if Boundary s.cur.tok then ⟨⟨s.cur.loc, t2.cur.tok⟩, t2.rest⟩ else ⟨s.cur, swapToks t2 s.rest⟩

def _root_.Sqlgrep.PRes.mapSt {α : Type} (g : PSt → PSt) : PRes α → PRes α
  | .ok a s => .ok a (g s)
  | .err e s => .err e (g s)
  | .fuel => .fuel

theorem mapSt_ok {α} (g : PSt → PSt) (a : α) (s : PSt) : (PRes.ok a s).mapSt g = .ok a (g s) := rfl
theorem mapSt_err {α} (g : PSt → PSt) (e : PErr) (s : PSt) : (PRes.err e s : PRes α).mapSt g = .err e (g s) := rfl
theorem mapSt_fuel {α} (g : PSt → PSt) : (PRes.fuel : PRes α).mapSt g = .fuel := rfl

variable {α β : Type}

variable (t2 : PSt)

theorem swapB_loc (s : PSt) : (swapB t2 s).cur.loc = s.cur.loc := by
  unfold swapB; split <;> rfl

theorem swapB_nb {s : PSt} (h : ¬ Boundary s.cur.tok) : (swapB t2 s).cur = s.cur := by
  unfold swapB; simp [h]

theorem swapB_b (h2 : Boundary t2.cur.tok) {s : PSt} (h : Boundary s.cur.tok) : Boundary (swapB t2 s).cur.tok := by
  unfold swapB; simp [h, h2]

theorem nb_of_eq {s : PSt} {X : Tok} (h : s.cur.tok = X) (hX : ¬ Boundary X) : ¬ Boundary s.cur.tok := by
  rw [h]; exact hX

theorem swapB_tok_eq (h2 : Boundary t2.cur.tok) {X : Tok} (hX : ¬ Boundary X) (s : PSt) :
    ((swapB t2 s).cur.tok = X) = (s.cur.tok = X) := by
  by_cases h : Boundary s.cur.tok
  · have h' := swapB_b t2 h2 h
    apply propext
    constructor
    · intro e; rw [e] at h'; exact absurd h' hX
    · intro e; rw [e] at h; exact absurd h hX
  · rw [swapB_nb t2 h]

theorem next_swapB {s : PSt} (h : ¬ Boundary s.cur.tok) : next (swapB t2 s) = (next s).mapSt (swapB t2) := by
  unfold next swapB
  simp only [h, if_false]
  cases hr : s.rest with
  | nil => simp [swapToks, mkErr, PRes.mapSt, h, hr]
  | cons t r =>
    simp only [swapToks, PRes.mapSt]
    by_cases hb : Boundary t.tok <;> simp [hb]

theorem mkErr_swapB {α} (s : PSt) (k : PErrKind) : (mkErr (swapB t2 s) k : PRes α) = (mkErr s k).mapSt (swapB t2) := by
  simp [mkErr, PRes.mapSt, swapB_loc]

/-- the barrier equation for the six functions at one fuel value -/
structure SwapIH (T : PrecTables) (n : Nat) : Prop where
  e : ∀ s, parseExpr T n (swapB t2 s) = (parseExpr T n s).mapSt (swapB t2)
  r : ∀ p l s, 0 ≤ p → parseRhs T n p l (swapB t2 s) = (parseRhs T n p l s).mapSt (swapB t2)
  u : ∀ s, parseUnary T n (swapB t2 s) = (parseUnary T n s).mapSt (swapB t2)
  p : ∀ s, parsePrimary T n (swapB t2 s) = (parsePrimary T n s).mapSt (swapB t2)
  c : ∀ loc cl s, parseCase T n loc cl (swapB t2 s) = (parseCase T n loc cl s).mapSt (swapB t2)
  l : ∀ c acc s, ¬ Boundary c → parseList T n c acc (swapB t2 s) = (parseList T n c acc s).mapSt (swapB t2)

variable {t2} {T : PrecTables}

@[reducible] def Morph.swap (hT : InertBoundary T) (h2 : Boundary t2.cur.tok) : Morph T where
  g := swapB t2
  ℓ := id
  ρ := id
  Opq := Boundary
  Lvl := fun p => 0 ≤ p
  names := nameMap_id
  identPrec := fun _ => rfl
  opq_boundary := fun _ h => h
  opq_prec := hT
  lvl_zero := Int.le_refl 0
  lvl_up := fun _ _ h h' => Int.le_trans h h'
  lvl_stop := fun _ _ h _ => by omega
  loc := swapB_loc t2
  tok := fun s h => by rw [swapB_nb t2 h, Tok.ren_id]
  opq := fun _ h => swapB_b t2 h2 h
  next := fun s h => by
    rw [next_swapB t2 h, PErr.relabelAll_id]
    cases Parse.next s <;> rfl

theorem swapB_of_morph (hT : InertBoundary T) (h2 : Boundary t2.cur.tok) {f : α → α} (hf : ∀ a, f a = a) {x x' : PRes α}
    (h : (Morph.swap hT h2).res f x = x') : x' = x.mapSt (swapB t2) := by
  subst h
  cases x <;> simp [PRes.map, PRes.mapSt, hf, PErr.relabelAll_id]

theorem consumeIdentifier_swapB (t2 : PSt) (h2 : Boundary t2.cur.tok) (s : PSt) :
    consumeIdentifier (swapB t2 s) = (consumeIdentifier s).mapSt (swapB t2) := by
  by_cases h : Boundary s.cur.tok
  · rw [consumeIdentifier_atB h, consumeIdentifier_atB (swapB_b t2 h2 h)]; exact mkErr_swapB t2 s _
  · unfold consumeIdentifier
    rw [swapB_nb t2 h]
    cases s.cur.tok <;> first | exact mkErr_swapB t2 s _ | (rw [next_swapB t2 h]; cases next s <;> rfl)

theorem expectConsume_swapB (t2 : PSt) (h2 : Boundary t2.cur.tok) {X : Tok} (hX : ¬ Boundary X) (k : PErrKind) (s : PSt) :
    expectConsume X k (swapB t2 s) = (expectConsume X k s).mapSt (swapB t2) := by
  unfold expectConsume
  simp only [swapB_tok_eq t2 h2 hX]
  split
  · exact next_swapB t2 (nb_of_eq ‹_› hX)
  · exact mkErr_swapB t2 s k

theorem swapIH_all (hT : InertBoundary T) (h2 : Boundary t2.cur.tok) (n : Nat) : SwapIH t2 T n := by
  have h := morph_all (Morph.swap hT h2) n
  have e := PExpr.mapAll_id
  have hr := h.r
  have hc := h.c
  have hl := h.l
  simp only [e.1, e.2.1, e.2.2, Tok.ren_id, implies_true, forall_const, id_eq] at hr hc hl
  exact ⟨fun s => swapB_of_morph hT h2 e.1 (h.e s), fun p l s hp => swapB_of_morph hT h2 e.1 (hr p l s hp),
    fun s => swapB_of_morph hT h2 e.1 (h.u s), fun s => swapB_of_morph hT h2 e.1 (h.p s),
    fun loc cl s => swapB_of_morph hT h2 e.1 (hc loc cl s), fun c acc s hc' => swapB_of_morph hT h2 e.2.1 (hl c acc s hc')⟩

/-- **Prefix determinism of the expression parser** (barrier form): the expression parser never looks past the first
boundary token (clause keyword, `;`, `End`) of its input, and treats every boundary token alike — replacing that token
by another boundary token (at the same location) and everything behind it by other tokens changes neither the tree
nor the error, and the state left behind changes in the same way. -/
theorem parseExpr_swapB (hT : InertBoundary T) (h2 : Boundary t2.cur.tok) (n : Nat) (s : PSt) :
    parseExpr T n (swapB t2 s) = (parseExpr T n s).mapSt (swapB t2) := (swapIH_all hT h2 n).e s

end Parse
end Sqlgrep
