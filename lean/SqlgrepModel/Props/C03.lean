import SqlgrepModel.Model.Eval
import SqlgrepModel.Lemmas.Cond
import SqlgrepModel.Lemmas.Outcome
import SqlgrepModel.Lemmas.NumericOrder
import SqlgrepModel.Lemmas.Utf8Order
import SqlgrepModel.Lemmas.ParseLitTs
/-
C03 (expression level) — the documented meaning of expressions, for ALL operands, environments and
oracle tables. The model is `Sqlgrep.eval` (Model/Eval.lean), mirroring
`ExpressionExecutionEngine::evaluate` of /repo HEAD. The SELECT-level theorems (one output row per
qualifying row, evaluated on that row alone; `*`, `input`, column names) live in Props/C03Select.lean (audited together with this file by ./check C03).
-/
namespace Sqlgrep.Props.C03
open Sqlgrep

variable (O : Oracles) (env : Env)

theorem prepCompare_null_right (v : Value) : prepCompare O v .null = .ok (v, .null) := by
  cases v <;> simp [prepCompare, coerceTs, Value.isNull, Outcome.bind]

theorem prepCompare_null_left (x : Value) (hx : x.isNull = false) : prepCompare O .null x = .ok (.null, x) := by
  cases x <;> simp_all [prepCompare, coerceTs, Value.isNull, Outcome.bind]

theorem isNull_iff (v : Value) : v.isNull = true ↔ v = .null := by
  cases v <;> simp [Value.isNull]

theorem eval_compare (op : CmpOp) (l r : Expr) (lv rv : Value) (hl : eval O env l = .ok lv) (hr : eval O env r = .ok rv) :
    eval O env (.compare op l r) = (prepCompare O lv rv).bind fun p =>
      if !p.1.isNull && !p.2.isNull then .ok (.bool (applyCmp op (compareValues p.1 p.2))) else .ok (.bool false) := by
  simp only [eval, hl, hr, Outcome.bind_def, Outcome.ok_bind, Outcome.pure_eq]

/-- comparisons are false when an operand is NULL -/
theorem cmp_null_false (op : CmpOp) (l r : Expr) (lv rv : Value)
    (hl : eval O env l = .ok lv) (hr : eval O env r = .ok rv) (hn : lv.isNull = true ∨ rv.isNull = true) :
    eval O env (.compare op l r) = .ok (.bool false) := by
  rw [eval_compare O env op l r lv rv hl hr]
  by_cases h : rv.isNull = true
  · obtain rfl := (isNull_iff rv).1 h
    rw [prepCompare_null_right]
    simp [Value.isNull]
  · obtain rfl := (isNull_iff lv).1 (hn.resolve_right h)
    rw [prepCompare_null_left O rv (Bool.eq_false_iff.2 h)]
    rfl

/-- `x IS NULL` / `x IS NOT NULL` test NULL -/
theorem is_null_test (isNot : Bool) (l : Expr) (lv : Value) (hl : eval O env l = .ok lv) :
    eval O env (.nullCmp isNot l (.value .null)) = .ok (.bool (if isNot then !lv.isNull else lv.isNull)) := by
  simp only [eval, hl, bind, Outcome.bind, pure]
  cases lv <;> cases isNot <;> simp [Value.beq, Value.isNull]

/-! ### AND / OR: conditions

An operand of AND / OR is a *condition*: a BOOLEAN or NULL. TRUE holds; FALSE and NULL do not hold (AND / OR are
two-valued: NULL counts as not true, and the result is never NULL). A value of any other type has no truth value: if
such an operand is evaluated, the operation is a type error (finding D69, repaired: it used to count as FALSE).
The right operand is evaluated exactly when the left one does not decide (`LeftDecides`). -/

/-- the value is a condition: BOOLEAN or NULL -/
def BoolOrNull (v : Value) : Prop := v = .null ∨ ∃ b, v = .bool b

/-- the value is of another type than BOOLEAN (and not NULL): it has no truth value -/
def NoTruthValue (v : Value) : Prop := v ≠ .null ∧ ∀ b, v ≠ .bool b

/-- the left operand alone fixes the result: a left operand of AND that is not TRUE (FALSE or NULL), a left operand of
OR that is TRUE -/
def LeftDecides (isAnd : Bool) (lv : Value) : Prop :=
  if isAnd then (lv = .bool false ∨ lv = .null) else lv = .bool true

theorem boolOrNull_or_noTruthValue (v : Value) : BoolOrNull v ∨ NoTruthValue v := by
  cases v <;> simp [BoolOrNull, NoTruthValue]

/-- AND / OR are two-valued: whenever they have a value it is TRUE or FALSE, never NULL -/
theorem bool_ops_two_valued (isAnd : Bool) (l r : Expr) (v : Value)
    (h : eval O env (.boolOp isAnd l r) = .ok v) : ∃ b, v = .bool b := by
  rw [eval_boolOp] at h
  obtain ⟨lv, _, h⟩ := Outcome.bind_eq_ok h
  obtain ⟨lb, _, h⟩ := Outcome.bind_eq_ok h
  split at h
  · obtain ⟨rv, _, h⟩ := Outcome.bind_eq_ok h
    obtain ⟨rb, _, h⟩ := Outcome.bind_eq_ok h
    exact ⟨_, (Outcome.ok.inj h).symm⟩
  · exact ⟨_, (Outcome.ok.inj h).symm⟩

/-- **AND** of two conditions (each BOOLEAN or NULL) is TRUE exactly when both operands are TRUE, and FALSE otherwise —
in particular `NULL AND x` is FALSE, not NULL -/
theorem and_meaning (l r : Expr) (lv rv : Value) (hl : eval O env l = .ok lv) (hr : eval O env r = .ok rv)
    (cl : BoolOrNull lv) (cr : BoolOrNull rv) :
    ∃ b, eval O env (.boolOp true l r) = .ok (.bool b) ∧ (b = true ↔ lv = .bool true ∧ rv = .bool true) := by
  rw [eval_boolOp, hl, hr]
  rcases cl with rfl | ⟨x, rfl⟩ <;> rcases cr with rfl | ⟨y, rfl⟩ <;> try cases x <;> try cases y
  all_goals simp [Outcome.bind]

/-- **OR** of two conditions is TRUE exactly when at least one operand is TRUE, and FALSE otherwise
(`NULL OR FALSE` is FALSE) -/
theorem or_meaning (l r : Expr) (lv rv : Value) (hl : eval O env l = .ok lv) (hr : eval O env r = .ok rv)
    (cl : BoolOrNull lv) (cr : BoolOrNull rv) :
    ∃ b, eval O env (.boolOp false l r) = .ok (.bool b) ∧ (b = true ↔ lv = .bool true ∨ rv = .bool true) := by
  rw [eval_boolOp, hl, hr]
  rcases cl with rfl | ⟨x, rfl⟩ <;> rcases cr with rfl | ⟨y, rfl⟩ <;> try cases x <;> try cases y
  all_goals simp [Outcome.bind]

/-- **a type mismatch in AND / OR is an error** (C03: "an expression that has no value … (type mismatch …) makes the
query report an error rather than emit a wrong value"), and the right operand is evaluated exactly when the left does
not decide. For a left operand with value `lv`:
1. `lv` of another type than BOOLEAN (not NULL): the operation is the type error, whatever the right operand is;
2. `lv` decides (`FALSE`/`NULL AND …`, `TRUE OR …`): the result is that of the left operand and does not depend on the
   right operand at all — not on its value, its type, or on whether it has a value;
3. `lv` is a condition that does not decide: the right operand IS evaluated — its error is the operation's error, and
   a right value of another type than BOOLEAN (not NULL) is the type error. -/
theorem bool_op_type_mismatch_is_error (isAnd : Bool) (l r : Expr) (lv : Value) (hl : eval O env l = .ok lv) :
    (NoTruthValue lv → eval O env (.boolOp isAnd l r) = .error .typeError) ∧
    (LeftDecides isAnd lv → eval O env (.boolOp isAnd l r) = .ok (.bool (!isAnd))) ∧
    (BoolOrNull lv → ¬ LeftDecides isAnd lv →
      (∀ rv, eval O env r = .ok rv → NoTruthValue rv → eval O env (.boolOp isAnd l r) = .error .typeError) ∧
      (∀ k, eval O env r = .error k → eval O env (.boolOp isAnd l r) = .error k)) := by
  rw [eval_boolOp, hl]
  refine ⟨fun hn => ?_, fun hd => ?_, fun hc hd => ⟨fun rv hr hn => ?_, fun k hr => ?_⟩⟩
  · simp [Outcome.bind, condHolds_typeError lv hn.1 hn.2]
  · cases isAnd
    · simp only [LeftDecides, Bool.false_eq_true, if_false] at hd; subst hd; simp [Outcome.bind]
    · simp only [LeftDecides, if_true] at hd; rcases hd with rfl | rfl <;> simp [Outcome.bind]
  · rw [hr]
    rcases hc with rfl | ⟨x, rfl⟩ <;> cases isAnd <;> try cases x
    all_goals simp_all [Outcome.bind, LeftDecides, condHolds_typeError rv hn.1 hn.2]
  · rw [hr]
    rcases hc with rfl | ⟨x, rfl⟩ <;> cases isAnd <;> try cases x
    all_goals simp_all [Outcome.bind, LeftDecides]

-- non-vacuity: `5 AND TRUE`, `'a' OR FALSE`, `TRUE AND 5` are errors; `FALSE AND 5`, `NULL AND 5`, `TRUE OR 'a'` are
-- decided by the left operand; `NULL OR 5` is an error (NULL does not decide OR)
example : eval {} {} (.boolOp true (.value (.int 5)) (.value (.bool true))) = .error .typeError := rfl
example : eval {} {} (.boolOp false (.value (.text [97])) (.value (.bool false))) = .error .typeError := rfl
example : eval {} {} (.boolOp true (.value (.bool true)) (.value (.int 5))) = .error .typeError := rfl
example : eval {} {} (.boolOp true (.value (.bool false)) (.value (.int 5))) = .ok (.bool false) := rfl
example : eval {} {} (.boolOp true (.value .null) (.value (.int 5))) = .ok (.bool false) := rfl
example : eval {} {} (.boolOp false (.value (.bool true)) (.value (.text [97]))) = .ok (.bool true) := rfl
example : eval {} {} (.boolOp false (.value .null) (.value (.int 5))) = .error .typeError := rfl
example : NoTruthValue (.int 5) ∧ BoolOrNull .null ∧ LeftDecides true .null ∧ ¬ LeftDecides false .null := by
  simp [NoTruthValue, BoolOrNull, LeftDecides]

/-- arithmetic with NULL gives NULL -/
theorem arith_null_left (op : ArithOp) (r : Value) : arith op .null r = .ok .null := by
  cases r <;> rfl
theorem arith_null_right (op : ArithOp) (l : Value) : arith op l .null = .ok .null := by
  cases l <;> rfl

theorem arith_int (op : ArithOp) (x y : Int) :
    arith op (.int x) (.int y) =
      match (match op with
        | .add => checked (x + y)
        | .sub => checked (x - y)
        | .mul => checked (x * y)
        | .div => if y == 0 then none else checked (Int.tdiv x y)) with
      | some v => .ok (.int v)
      | none => .error .undefinedOperation := rfl

/-- INT arithmetic is exact or an error: never a wrapped value, never a panic -/
theorem int_add_exact (x y : Int) :
    arith .add (.int x) (.int y) = if inI64 (x + y) then .ok (.int (x + y)) else .error .undefinedOperation := by
  by_cases h : inI64 (x + y) = true <;> simp [arith_int, checked, h]
theorem int_sub_exact (x y : Int) :
    arith .sub (.int x) (.int y) = if inI64 (x - y) then .ok (.int (x - y)) else .error .undefinedOperation := by
  by_cases h : inI64 (x - y) = true <;> simp [arith_int, checked, h]
theorem int_mul_exact (x y : Int) :
    arith .mul (.int x) (.int y) = if inI64 (x * y) then .ok (.int (x * y)) else .error .undefinedOperation := by
  by_cases h : inI64 (x * y) = true <;> simp [arith_int, checked, h]
theorem int_div_exact (x y : Int) :
    arith .div (.int x) (.int y) =
      if y = 0 then .error .undefinedOperation
      else if inI64 (Int.tdiv x y) then .ok (.int (Int.tdiv x y)) else .error .undefinedOperation := by
  simp only [arith_int, checked]
  by_cases hy : y = 0
  · simp [hy]
  · by_cases h : inI64 (Int.tdiv x y) = true <;> simp [hy, h]

/-! ### IN / NOT IN mean the OR of `=` / the AND of `!=`, *as the evaluator evaluates `=`*

`orOfEq e [m1, …, mn]` is the expression `e = m1 OR (… OR (e = mn OR FALSE))`, built from the evaluator's own
`Compare` node (timestamp text is parsed, a member of another type is a type error, a NULL operand makes `=` false) and
its short-circuiting `OR`. `x IN (…)` IS that expression — values and errors alike, for arbitrary member expressions. -/

def orOfEq (e : Expr) : List Expr → Expr
  | [] => .value (.bool false)
  | m :: ms => .boolOp false (.compare .eq e m) (orOfEq e ms)

def andOfNe (e : Expr) : List Expr → Expr
  | [] => .value (.bool true)
  | m :: ms => .boolOp true (.compare .ne e m) (andOfNe e ms)

theorem tsOfText_nonnull (s : Bytes) (w : Value) (h : tsOfText O s = .ok w) : w.isNull = false := by
  unfold tsOfText parseLit at h
  simp only [bind, Outcome.bind] at h
  cases hl : lookupB O.tsparse s with
  | none =>
    rw [hl] at h
    cases hp : Lit.parseTimestampLit s with
    | none => rw [hp] at h; simp at h
    | some t =>
      rw [hp] at h
      simp only [pure, Outcome.ok.injEq] at h
      obtain ⟨d, sec, f, ht⟩ := Lit.parseTimestampLit_timestamp s t hp
      rw [← h, ht]; rfl
  | some r =>
    rw [hl] at h
    cases r with
    | none => simp [Option.map] at h
    | some t =>
      simp only [Option.map, pure, Outcome.ok.injEq] at h
      rw [← h]; rfl

theorem coerceTs_nonnull (v x a b : Value) (hv : v.isNull = false) (hx : x.isNull = false)
    (h : coerceTs O v x = .ok (a, b)) : a.isNull = false ∧ b.isNull = false := by
  unfold coerceTs at h
  split at h
  · obtain ⟨w, ht, h⟩ := Outcome.bind_eq_ok h
    cases h
    exact ⟨rfl, tsOfText_nonnull O _ _ ht⟩
  · obtain ⟨w, ht, h⟩ := Outcome.bind_eq_ok h
    cases h
    exact ⟨tsOfText_nonnull O _ _ ht, rfl⟩
  · cases h
    exact ⟨hv, hx⟩

theorem prepCompare_nonnull (v x a b : Value) (hv : v.isNull = false) (hx : x.isNull = false)
    (h : prepCompare O v x = .ok (a, b)) : a.isNull = false ∧ b.isNull = false := by
  obtain ⟨p, hc, h⟩ := Outcome.bind_eq_ok h
  split at h
  · cases h
  · cases h
    exact coerceTs_nonnull O v x _ _ hv hx hc

theorem eval_inList (n : Bool) (e : Expr) (ms : List Expr) :
    eval O env (.inList n e ms) = (eval O env e).bind fun v => evalIn O env n v v.isNull ms := by
  simp only [eval, Outcome.bind_def]

/-! #### one member of the list

Both walks (`IN`, `NOT IN`) and both chains (`=` under OR, `!=` under AND) ask each member the same question. -/

/-- what a member says about the operand: it is equal to it (compared like `=`), it is not, or it is NULL -/
inductive Verdict
  | hit | miss | null

def memberVerdict (v : Value) (m : Expr) : Outcome Verdict :=
  (eval O env m).bind fun x =>
    if x.isNull then .ok .null
    else if v.isNull then .ok .miss
    else (prepCompare O v x).bind fun p => .ok (if compareValues p.1 p.2 == .eq then .hit else .miss)

theorem evalIn_cons (n : Bool) (v : Value) (a : Bool) (m : Expr) (ms : List Expr) :
    evalIn O env n v a (m :: ms) = (memberVerdict O env v m).bind fun
      | .hit => .ok (.bool !n)
      | .null => evalIn O env n v true ms
      | .miss => evalIn O env n v a ms := by
  simp only [evalIn, memberVerdict, Outcome.bind_def, Outcome.pure_eq, Outcome.bind_assoc]
  refine Outcome.bind_congr fun x _ => ?_
  split
  · rfl
  · split
    · rfl
    · rw [Outcome.bind_assoc]
      refine Outcome.bind_congr fun p _ => ?_
      cases compareValues p.1 p.2 <;> rfl

/-- `e = m` (`n = false`) and `e != m` (`n = true`) read off the member's verdict -/
theorem eval_member_cmp (n : Bool) (e m : Expr) (v : Value) (he : eval O env e = .ok v) :
    eval O env (.compare (if n then .ne else .eq) e m) = (memberVerdict O env v m).bind fun w =>
      .ok (.bool (match w with | .hit => !n | .miss => n && !v.isNull | .null => false)) := by
  rw [memberVerdict, Outcome.bind_assoc]
  simp only [eval, he, Outcome.bind_def, Outcome.pure_eq, Outcome.ok_bind]
  refine Outcome.bind_congr fun x _ => ?_
  by_cases hx : x.isNull = true
  · have hp := prepCompare_null_right O v
    rw [← (isNull_iff x).1 hx] at hp
    simp [hp, hx]
  · have hx' : x.isNull = false := by simpa using hx
    by_cases hv : v.isNull = true
    · have hp := prepCompare_null_left O x hx'
      rw [← (isNull_iff v).1 hv] at hp
      simp [hp, hx', hv]
    · have hv' : v.isNull = false := by simpa using hv
      simp only [hx', hv', Bool.false_eq_true, if_false, Outcome.bind_assoc]
      refine Outcome.bind_congr fun p hp => ?_
      obtain ⟨ha, hb⟩ := prepCompare_nonnull O v x p.1 p.2 hv' hx' hp
      cases n <;> cases compareValues p.1 p.2 <;> simp [ha, hb, applyCmp]

theorem eval_eq_member (e m : Expr) (v : Value) (he : eval O env e = .ok v) :
    eval O env (.compare .eq e m) = (memberVerdict O env v m).bind fun
      | .hit => .ok (.bool true)
      | _ => .ok (.bool false) := by
  rw [show CmpOp.eq = (if false then .ne else .eq) from rfl, eval_member_cmp O env false e m v he]
  exact Outcome.bind_congr fun w _ => by cases w <;> rfl

theorem eval_ne_member (e m : Expr) (v : Value) (he : eval O env e = .ok v) :
    eval O env (.compare .ne e m) = (memberVerdict O env v m).bind fun
      | .miss => .ok (.bool !v.isNull)
      | _ => .ok (.bool false) := by
  rw [show CmpOp.ne = (if true then .ne else .eq) from rfl, eval_member_cmp O env true e m v he]
  exact Outcome.bind_congr fun w _ => by cases w <;> simp

theorem bind_condHolds_bool (o : Outcome Value) (h : ∀ r, o = .ok r → ∃ b, r = .bool b) :
    o.bind (fun rv => (condHolds rv).bind fun rb => .ok (.bool rb)) = o := by
  cases o with
  | ok r => obtain ⟨b, rfl⟩ := h r rfl; rfl
  | _ => rfl

theorem eval_orOfEq_bool (e : Expr) (ms : List Expr) (r : Value) (h : eval O env (orOfEq e ms) = .ok r) :
    ∃ b, r = .bool b := by
  cases ms with
  | nil => simp only [orOfEq, eval, Outcome.ok.injEq] at h; exact ⟨false, h.symm⟩
  | cons m ms => exact bool_ops_two_valued O env false _ _ r h

theorem evalIn_is_or (e : Expr) (v : Value) (he : eval O env e = .ok v) :
    ∀ (ms : List Expr) (a : Bool), evalIn O env false v a ms = eval O env (orOfEq e ms) := by
  intro ms
  induction ms with
  | nil => intro a; rfl
  | cons m ms ih =>
    intro a
    show _ = eval O env (.boolOp false (.compare .eq e m) (orOfEq e ms))
    rw [evalIn_cons, eval_boolOp, eval_eq_member O env e m v he, Outcome.bind_assoc]
    refine Outcome.bind_congr fun w _ => ?_
    have hrest := bind_condHolds_bool (eval O env (orOfEq e ms)) (eval_orOfEq_bool O env e ms)
    cases w
    · rfl
    · simp only [Outcome.ok_bind, condHolds_bool, if_true, hrest]; exact ih a
    · simp only [Outcome.ok_bind, condHolds_bool, if_true, hrest]; exact ih true

/-- **`x IN (v1, …, vn)` means `x = v1 OR … OR x = vn`**: the evaluator gives `IN` exactly the outcome it gives the
OR-chain of its own `=` — the same value, and the same error when some member cannot be compared with `x` before a
match was found. For arbitrary operand and member expressions. -/
theorem in_is_or_of_eq (e : Expr) (ms : List Expr) :
    eval O env (.inList false e ms) = (eval O env e).bind (fun _ => eval O env (orOfEq e ms)) := by
  rw [eval_inList]
  exact Outcome.bind_congr fun v he => evalIn_is_or O env e v he ms v.isNull

/-- the membership tests over already evaluated, comparable operands -/
def notInSpec (v : Value) (xs : List Value) : Bool :=
  xs.all (fun x => !v.isNull && !x.isNull && compareValues v x != .eq)

/-- `x` can be compared with `m` without coercion or type error: what `=` / `!=` then compute is `compareValues` -/
def PlainComparable (v x : Value) : Prop := prepCompare O v x = .ok (v, x)

theorem memberVerdict_value (v x : Value) (h : PlainComparable O v x) :
    memberVerdict O env v (.value x) = .ok (if x.isNull then .null else if v.isNull then .miss
      else if compareValues v x == .eq then .hit else .miss) := by
  unfold PlainComparable at h
  simp only [memberVerdict, eval, Outcome.ok_bind, h]
  split <;> try split
  all_goals rfl

theorem evalIn_notIn (v : Value) : ∀ (xs : List Value) (anyNull : Bool), (v.isNull = true → anyNull = true) →
    (∀ x ∈ xs, PlainComparable O v x) →
    evalIn O env true v anyNull (xs.map .value) = .ok (.bool (!anyNull && notInSpec v xs)) := by
  intro xs
  induction xs with
  | nil => intro a _ _; simp [evalIn, notInSpec]
  | cons x xs ih =>
    intro a ha hc
    have hcs : ∀ y ∈ xs, PlainComparable O v y := fun y hy => hc y (List.mem_cons_of_mem _ hy)
    rw [List.map_cons, evalIn_cons, memberVerdict_value O env v x (hc x List.mem_cons_self)]
    simp only [notInSpec, List.all_cons]
    by_cases hx : x.isNull = true
    · simp [hx, ih true (fun _ => rfl) hcs]
    · by_cases hv : v.isNull = true
      · have hat := ha hv
        subst hat
        simp [hx, hv, ih true ha hcs]
      · cases h : (compareValues v x == Ordering.eq) <;> simp [hx, hv, h, bne, ih a ha hcs, notInSpec]

/-- **`x NOT IN (v1, …, vn)` (n ≥ 1) means `x != v1 AND … AND x != vn`** (each `!=` false on NULL), whenever every
member can be compared with `x` (`PlainComparable`: when some member cannot, `NOT IN` reports the error even if an
earlier NULL member has already made the conjunction false — the sentence does not say whether that error surfaces).
The NULL-free, comparable case is the AND-chain of the evaluator's own `!=`: `notin_is_and_chain` below. -/
theorem notin_is_and_of_ne (e : Expr) (v : Value) (x : Value) (xs : List Value) (he : eval O env e = .ok v)
    (hc : ∀ y ∈ x :: xs, PlainComparable O v y) :
    eval O env (.inList true e ((x :: xs).map .value)) = .ok (.bool (notInSpec v (x :: xs))) := by
  rw [eval_inList, he, Outcome.ok_bind, evalIn_notIn O env v (x :: xs) v.isNull (fun h => h) hc]
  by_cases hv : v.isNull = true
  · simp [hv, notInSpec]
  · simp [hv]

theorem eval_andOfNe_bool (e : Expr) (ms : List Expr) (r : Value) (h : eval O env (andOfNe e ms) = .ok r) :
    ∃ b, r = .bool b := by
  cases ms with
  | nil => simp only [andOfNe, eval, Outcome.ok.injEq] at h; exact ⟨true, h.symm⟩
  | cons m ms => exact bool_ops_two_valued O env true _ _ r h

theorem eval_andOfNe_cons (e m : Expr) (ms : List Expr) :
    eval O env (andOfNe e (m :: ms)) =
      (eval O env (.compare .ne e m)).bind (fun lv => (condHolds lv).bind (fun lb =>
        if lb = true then eval O env (andOfNe e ms) else .ok (.bool false))) := by
  show eval O env (.boolOp true (.compare .ne e m) (andOfNe e ms)) = _
  rw [eval_boolOp, bind_condHolds_bool _ (eval_andOfNe_bool O env e ms)]
  refine Outcome.bind_congr fun lv _ => Outcome.bind_congr fun lb _ => ?_
  cases lb <;> rfl

theorem andOfNe_value (e : Expr) (v : Value) (he : eval O env e = .ok v) :
    ∀ (xs : List Value), (∀ y ∈ xs, PlainComparable O v y) →
      eval O env (andOfNe e (xs.map .value)) = .ok (.bool (notInSpec v xs)) := by
  intro xs
  induction xs with
  | nil => intro _; simp [andOfNe, eval, notInSpec]
  | cons x xs ih =>
    intro hc
    rw [List.map_cons, eval_andOfNe_cons, eval_ne_member O env e _ v he,
      memberVerdict_value O env v x (hc x List.mem_cons_self), ih fun y hy => hc y (List.mem_cons_of_mem _ hy)]
    simp only [notInSpec, List.all_cons]
    by_cases hx : x.isNull = true
    · simp [hx]
    · by_cases hv : v.isNull = true
      · simp [hx, hv]
      · cases h : (compareValues v x == Ordering.eq) <;> simp [hx, hv, h, bne]

/-- `x NOT IN (literals)` IS the AND-chain of `x != literal`, when every literal is comparable with `x` -/
theorem notin_is_and_chain (e : Expr) (v : Value) (x : Value) (xs : List Value) (he : eval O env e = .ok v)
    (hc : ∀ y ∈ x :: xs, PlainComparable O v y) :
    eval O env (.inList true e ((x :: xs).map .value)) = eval O env (andOfNe e ((x :: xs).map .value)) := by
  rw [notin_is_and_of_ne O env e v x xs he hc, andOfNe_value O env e v he (x :: xs) hc]

/-- CASE takes the first branch whose WHEN condition is TRUE -/
theorem case_first_true (c r els : Expr) (rest : List (Expr × Expr))
    (hc : eval O env c = .ok (.bool true)) :
    eval O env (.case ((c, r) :: rest) els) = eval O env r := by
  simp only [eval, evalCase, hc, bind, Outcome.bind, pure, condHolds_bool, if_true]
  cases eval O env r <;> rfl

/-- a WHEN condition that is FALSE or NULL does not hold: the clause is skipped -/
theorem case_skip_false (c r els : Expr) (rest : List (Expr × Expr)) (cv : Value)
    (hc : eval O env c = .ok cv) (ht : cv = .bool false ∨ cv = .null) :
    eval O env (.case ((c, r) :: rest) els) = eval O env (.case rest els) := by
  rcases ht with rfl | rfl <;> simp [eval, evalCase, hc, bind, Outcome.bind, pure]

/-- **a type mismatch in a WHEN condition is an error**: a WHEN expression that is reached (the clauses before it were
skipped, `case_skip_false`) and whose value is of another type than BOOLEAN (not NULL) makes the CASE expression a type
error — it is not skipped as if it were FALSE (finding D69, repaired) -/
theorem case_condition_type_mismatch_is_error (c r els : Expr) (rest : List (Expr × Expr)) (cv : Value)
    (hc : eval O env c = .ok cv) (hn : NoTruthValue cv) :
    eval O env (.case ((c, r) :: rest) els) = .error .typeError := by
  simp [eval, evalCase, hc, bind, Outcome.bind, condHolds_typeError cv hn.1 hn.2]

-- non-vacuity: `CASE WHEN 5 THEN 1 ELSE 2 END` is an error; `CASE WHEN NULL THEN 1 WHEN 'a' THEN 2 ELSE 3 END` too
-- (the NULL clause is skipped, the TEXT condition is reached); `CASE WHEN TRUE THEN 1 WHEN 5 THEN 2 …` is 1
example : eval {} {} (.case [(.value (.int 5), .value (.int 1))] (.value (.int 2))) = .error .typeError := rfl
example : eval {} {} (.case [(.value .null, .value (.int 1)), (.value (.text [97]), .value (.int 2))] (.value (.int 3))) =
    .error .typeError := rfl
example : eval {} {} (.case [(.value (.bool true), .value (.int 1)), (.value (.int 5), .value (.int 2))] (.value (.int 3))) =
    .ok (.int 1) := rfl

/-- array subscripts are 1-based; out-of-range subscripts give NULL -/
theorem subscript_one_based (a i : Expr) (t : VType) (xs : List Value) (n : Int)
    (ha : eval O env a = .ok (.array t xs)) (hi : eval O env i = .ok (.int n)) :
    eval O env (.index a i) = .ok (if n ≥ 1 then (xs[(n - 1).toNat]?).getD .null else .null) := by
  simp only [eval, ha, hi, bind, Outcome.bind, pure]

/-- a type mismatch in a comparison is an error, not a value -/
theorem cmp_type_mismatch_is_error (op : CmpOp) (l r : Expr) (x : Int) (s : Bytes)
    (hl : eval O env l = .ok (.int x)) (hr : eval O env r = .ok (.text s)) :
    eval O env (.compare op l r) = .error .typeError := by
  rw [eval_compare O env op l r _ _ hl hr]
  rfl

/-- a member of another type makes IN a type error, exactly as `=` is (D53, repaired) -/
theorem in_type_mismatch_is_error (e m : Expr) (x : Int) (s : Bytes)
    (he : eval O env e = .ok (.int x)) (hm : eval O env m = .ok (.text s)) :
    eval O env (.inList false e [m]) = .error .typeError := by
  rw [in_is_or_of_eq]
  rw [he, Outcome.ok_bind, orOfEq, eval_boolOp, eval_compare O env .eq e m _ _ he hm]
  rfl

/-- non-vacuity: the hypotheses above are met by concrete expressions -/
example : eval {} {} (.inList false (.value (.int 5)) ([.int 5, .null].map .value)) = .ok (.bool true) := by rfl
example : eval {} {} (.inList true (.value .null) ([.int 5, .int 7].map .value)) = .ok (.bool false) := by rfl
example : PlainComparable {} (.int 5) (.real 0x3ff8000000000000) := by rfl
example : eval {} {} (.inList false (.value (.text [97])) [.value (.int 1)]) = .error .typeError := by rfl
example : eval {} {} (.compare .gt (.value (.int 2)) (.value (.real 0x3ff8000000000000))) = .ok (.bool true) := by rfl
example : eval {} {} (.arith .add (.value (.int 9223372036854775807)) (.value (.int 1))) = .error .undefinedOperation := by rfl
example : eval {} {} (.arith .div (.value (.int 1)) (.value (.int 0))) = .error .undefinedOperation := by rfl

/-! ## the comparison clause (review gap): "comparisons compare by value (numbers numerically, text by code
point, timestamps by instant)"

`Compare` evaluates to `applyCmp op (compareValues lv rv)` (`compare_is_order`); the theorems below say what
that order IS on numbers, TEXT and TIMESTAMP. The order-theoretic laws of `compareValues` are in Props/C16.lean
(`numbers_compare_by_value`, `where_order_is_total_on_numbers`, `where_order_agrees_with_group_order_same_type`). -/

/-- the six comparison operators read over an order given by its three-way comparison -/
theorem applyCmp_meaning (o : Ordering) :
    applyCmp .eq o = decide (o = .eq) ∧ applyCmp .ne o = decide (o ≠ .eq) ∧
    applyCmp .lt o = decide (o = .lt) ∧ applyCmp .le o = decide (o ≠ .gt) ∧
    applyCmp .gt o = decide (o = .gt) ∧ applyCmp .ge o = decide (o ≠ .lt) := by
  cases o <;> decide

/-- a comparison of two non-NULL operands that need no coercion (same type, or INT with REAL) is the operator
applied to the three-way result of the WHERE order `compareValues` -/
theorem compare_is_order (op : CmpOp) (l r : Expr) (lv rv : Value)
    (hl : eval O env l = .ok lv) (hr : eval O env r = .ok rv)
    (hp : PlainComparable O lv rv) (nl : lv.isNull = false) (nr : rv.isNull = false) :
    eval O env (.compare op l r) = .ok (.bool (applyCmp op (compareValues lv rv))) := by
  rw [eval_compare O env op l r lv rv hl hr, hp]
  simp [nl, nr]

/-- operands that are not a TIMESTAMP/TEXT pair and are of one type (or INT with REAL) are compared as they are -/
theorem plainComparable_of_typesComparable (a b : Value) (hco : coerceTs O a b = .ok (a, b))
    (ht : typesComparable a b = true) : PlainComparable O a b := by
  simp [PlainComparable, prepCompare, hco, ht]

theorem plainComparable_numbers (lv rv : Value) (hl : isNumber lv = true) (hr : isNumber rv = true) :
    PlainComparable O lv rv := by
  cases lv <;> simp [isNumber] at hl <;> cases rv <;> simp [isNumber] at hr <;>
    exact plainComparable_of_typesComparable O _ _ rfl rfl

/-- what an operator says about two exact values -/
def holdsOn (op : CmpOp) (a b : Dy) : Bool :=
  match op with
  | .eq => decide (Dy.Eqv a b) | .ne => !decide (Dy.Eqv a b)
  | .lt => decide (a < b) | .le => decide (a ≤ b)
  | .gt => decide (b < a) | .ge => decide (b ≤ a)

theorem holdsOn_eq_applyCmp (op : CmpOp) (a b : Dy) : holdsOn op a b = applyCmp op (Dy.cmp a b) := by
  simp only [holdsOn, Dy.lt_def, Dy.le_def, Dy.Eqv, Dy.cmp_swap a b]
  -- whatever instance decides the equation (`Dy.Eqv` brings its own)
  have hd : ∀ (o c : Ordering) [Decidable (o = c)], decide (o = c) = (o == c) := fun o c _ => by
    cases o <;> cases c <;> simp
  cases op <;> simp [applyCmp, bne, hd] <;> exact hd _ _

/-- **numbers compare numerically**: for operands that are INT or finite REAL in any mix, each of
`= != < <= > >=` holds exactly when it holds between the exact numeric values (`numValue`: the integer, resp. the
dyadic value `±mantissa·2^exponent` of the bit pattern; order `Dy.cmp` = order of the numbers, see
Props/C16.lean `numbers_compare_by_value`, `value_order_laws`). Non-finite REAL operands: see
`cmp_numeric_nonfinite`. -/
theorem cmp_numeric_by_value (op : CmpOp) (l r : Expr) (lv rv : Value)
    (hl : eval O env l = .ok lv) (hr : eval O env r = .ok rv)
    (fl : isFiniteNumber lv = true) (fr : isFiniteNumber rv = true) :
    eval O env (.compare op l r) = .ok (.bool (holdsOn op (numValue lv) (numValue rv))) := by
  have nl := isNumber_of_finite fl
  have nr := isNumber_of_finite fr
  rw [compare_is_order O env op l r lv rv hl hr (plainComparable_numbers O lv rv nl nr) (isNull_of_isNumber nl)
    (isNull_of_isNumber nr), compareValues_eq_value_cmp lv rv fl fr, holdsOn_eq_applyCmp]

/-- numbers in general (±inf and NaN included): the comparison is the operator applied to the comparison of the
integer keys `(numClass, numUnits)` — class −1 for −inf, 0 for INT and finite REAL, 1 for +inf, 2 for NaN; then the
exact value in units of 2^-1074. So ±inf are below/above every finite number and every NaN is equal to every NaN
and greater than every other number (as in the derived order of REAL). -/
theorem cmp_numeric_nonfinite (op : CmpOp) (l r : Expr) (lv rv : Value)
    (hl : eval O env l = .ok lv) (hr : eval O env r = .ok rv)
    (nl : isNumber lv = true) (nr : isNumber rv = true) :
    eval O env (.compare op l r) = .ok (.bool (applyCmp op
      ((compare (numClass lv) (numClass rv)).then (compare (numUnits lv) (numUnits rv))))) := by
  rw [compare_is_order O env op l r lv rv hl hr (plainComparable_numbers O lv rv nl nr) (isNull_of_isNumber nl)
    (isNull_of_isNumber nr), compareValues_eq_key lv rv nl nr]

-- non-vacuity: 2 > 1.5; 2^53+1 (INT) > 2^53 (REAL) and not equal; 0 = -0.0
example : eval {} {} (.compare .gt (.value (.int 2)) (.value (.real 0x3ff8000000000000))) = .ok (.bool true) ∧
    isFiniteNumber (.real 0x3ff8000000000000) = true ∧ holdsOn .gt (numValue (.int 2)) (numValue (.real 0x3ff8000000000000)) = true := ⟨rfl, by decide +kernel, by decide +kernel⟩
example : eval {} {} (.compare .eq (.value (.int (2 ^ 53 + 1))) (.value (.real 0x4340000000000000))) = .ok (.bool false) ∧
    eval {} {} (.compare .gt (.value (.int (2 ^ 53 + 1))) (.value (.real 0x4340000000000000))) = .ok (.bool true) := ⟨rfl, rfl⟩
-- NaN = NaN, NaN > +inf, NaN > every INT in WHERE comparisons
example : eval {} {} (.compare .eq (.value (.real 0x7ff8000000000000)) (.value (.real 0xfff8000000000001))) = .ok (.bool true) ∧
    eval {} {} (.compare .gt (.value (.real 0x7ff8000000000000)) (.value (.real 0x7ff0000000000000))) = .ok (.bool true) ∧
    eval {} {} (.compare .lt (.value (.int 9223372036854775807)) (.value (.real 0x7ff8000000000000))) = .ok (.bool true) := ⟨rfl, rfl, rfl⟩
example : holdsOn .eq (numValue (.real 0)) (numValue (.real 0x8000000000000000)) = true ∧
    holdsOn .le (numValue (.real 1)) (numValue (.real 0x0010000000000000)) = true := by decide +kernel

/-! ### text by code point -/

/-- **text compares by code point**: two TEXT operands — the UTF-8 encodings (`Utf8.encode`, = `char::encode_utf8`
per character) of the character strings `a` and `b`; the model stores TEXT as its bytes and compares bytes, like
Rust's `str` — compare as the sequences of their code point numbers do, lexicographically (first differing code
point decides; a proper prefix is smaller): core's `compare` on `List Nat`. Holds for every `Char` (surrogates
are not `Char`s; the byte-order fact itself needs no range restriction, `Utf8.encodeNat_lt`). -/
theorem cmp_text_codepoint (op : CmpOp) (l r : Expr) (a b : List Char)
    (hl : eval O env l = .ok (.text (Utf8.encode a))) (hr : eval O env r = .ok (.text (Utf8.encode b))) :
    eval O env (.compare op l r) = .ok (.bool (applyCmp op (compare (a.map Char.toNat) (b.map Char.toNat)))) := by
  rw [compare_is_order O env op l r _ _ hl hr (plainComparable_of_typesComparable O _ _ rfl rfl) rfl rfl]
  simp only [compareValues, Value.cmp]
  rw [Utf8.cmpBytes_encode, Utf8.cmpBytes_eq_compare]

/-- the same order stated on the derived order of values (GROUP BY, MIN/MAX, ORDER of array_unique …), and
through the strings' own `<` (lexicographic on characters by code point) and `=` -/
theorem text_order_is_codepoint_order (a b : List Char) :
    Value.cmp (.text (Utf8.encode a)) (.text (Utf8.encode b)) = compare (a.map Char.toNat) (b.map Char.toNat) ∧
    (Value.cmp (.text (Utf8.encode a)) (.text (Utf8.encode b)) = .lt ↔ a < b) ∧
    (Value.cmp (.text (Utf8.encode a)) (.text (Utf8.encode b)) = .eq ↔ a = b) := by
  simp only [Value.cmp]
  refine ⟨by rw [Utf8.cmpBytes_encode, Utf8.cmpBytes_eq_compare], ?_, ?_⟩
  · rw [Utf8.cmpBytes_encode]; exact Utf8.cmpBytes_map_toNat_lt_iff a b
  · rw [Value.cmpBytes_eq_iff]
    exact ⟨Utf8.encode_injective a b, fun h => by rw [h]⟩

-- non-vacuity: "é" (U+E9, bytes C3 A9) < "€" (U+20AC, E2 82 AC) < "😀" (U+1F600, F0 9F 98 80); "z" < "é"; "a" < "ab"
example : Utf8.encode "é".toList = [0xC3, 0xA9] ∧ Utf8.encode "€".toList = [0xE2, 0x82, 0xAC] ∧
    Utf8.encode "😀".toList = [0xF0, 0x9F, 0x98, 0x80] := by decide +kernel
example : eval {} {} (.compare .lt (.value (.text (Utf8.encode "zé".toList))) (.value (.text (Utf8.encode "z€".toList)))) = .ok (.bool true) := rfl
example : compare ("zé".toList.map Char.toNat) ("z€".toList.map Char.toNat) = .lt ∧
    compare ("a".toList.map Char.toNat) ("ab".toList.map Char.toNat) = .lt ∧
    compare ("€".toList.map Char.toNat) ("😀".toList.map Char.toNat) = .lt := by decide +kernel

/-! ### timestamps by instant -/

/-- **timestamps compare by instant**: for TIMESTAMP operands `(day, second of day, nanosecond)` in the ranges of
every value the model creates and outside chrono's leap-second representation (`TsPlain`: 0 ≤ sec < 86400,
0 ≤ ns < 10^9), the comparison is the comparison of the instants `tsTotal = (day·86400 + sec)·10^9 + ns` in
nanoseconds — the same `tsTotal` timestamp subtraction uses. -/
theorem cmp_timestamp_instant (op : CmpOp) (l r : Expr) (d s f d' s' f' : Int)
    (hl : eval O env l = .ok (.timestamp d s f)) (hr : eval O env r = .ok (.timestamp d' s' f'))
    (v : TsPlain s f) (v' : TsPlain s' f') :
    eval O env (.compare op l r) = .ok (.bool (applyCmp op (compare (tsTotal d s f) (tsTotal d' s' f')))) := by
  rw [compare_is_order O env op l r _ _ hl hr (plainComparable_of_typesComparable O _ _ rfl rfl) rfl rfl]
  simp only [compareValues, Value.cmp]
  rw [ts_lex_eq_instant d s f d' s' f' v v']

/-- with chrono's leap-second representation allowed (`TsValid`: 0 ≤ ns < 2·10^9; `create_timestamp` accepts
microseconds up to 1 999 999 at second 59 of ANY minute): the order is chrono's derived order on
`(date, secs, frac)` = the order of positions on a time line where every second is followed by room for its leap
second (`tsLeapKey = (day·86400 + sec)·2·10^9 + ns`). A leap-second value `hh:mm:59 + 1.5 s` is therefore AFTER
`hh:mm:59.999` and BEFORE `hh:(mm+1):00.2`, whereas the linear count `tsTotal` (which identifies the leap second with
the first second of the next minute, as POSIX time does) would put it after `hh:(mm+1):00.2`:
`leap_second_order_flag`. The sentence's "by instant" is met in chrono's sense (a leap second is its own second);
the model mirrors chrono. -/
theorem cmp_timestamp_leap (op : CmpOp) (l r : Expr) (d s f d' s' f' : Int)
    (hl : eval O env l = .ok (.timestamp d s f)) (hr : eval O env r = .ok (.timestamp d' s' f'))
    (v : TsValid s f) (v' : TsValid s' f') :
    eval O env (.compare op l r) = .ok (.bool (applyCmp op (compare (tsLeapKey d s f) (tsLeapKey d' s' f')))) := by
  rw [compare_is_order O env op l r _ _ hl hr (plainComparable_of_typesComparable O _ _ rfl rfl) rfl rfl]
  simp only [compareValues, Value.cmp]
  rw [ts_lex_eq_leapKey d s f d' s' f' v v']

/-- FLAG (kernel-checked witness): 2016-12-31 23:59:60.5 (leap representation: second 86399, 1.5·10^9 ns) is
smaller than 2017-01-01 00:00:00.2 in the order, although its linear nanosecond count `tsTotal` is larger.
(Arithmetic on such values mirrors chrono exactly: `tsShift`, `tsDiff`; theorems in `Props/C03Func.lean` section A′.) -/
theorem leap_second_order_flag :
    Value.cmp (.timestamp 736329 86399 1500000000) (.timestamp 736330 0 200000000) = .lt ∧
    compare (tsTotal 736329 86399 1500000000) (tsTotal 736330 0 200000000) = .gt ∧
    TsValid 86399 1500000000 ∧ ¬ TsPlain 86399 1500000000 := by
  refine ⟨by decide +kernel, by decide +kernel, by unfold TsValid; omega, by unfold TsPlain; omega⟩

/-- where the ranges come from: timestamps made by timestamp ± interval (`tsOfTotal`) are `TsPlain`; timestamps
made by `create_timestamp` from non-negative fields are `TsValid` -/
theorem timestamp_ranges (t : Int) (y mo d h mi s us : Int) (v : Value)
    (h0 : 0 ≤ h) (m0 : 0 ≤ mi) (s0 : 0 ≤ s) (u0 : 0 ≤ us) (hv : createTimestamp y mo d h mi s us = some v) :
    (∃ dd ss ff, tsOfTotal t = .timestamp dd ss ff ∧ TsPlain ss ff) ∧
    (∃ dd ss ff, v = .timestamp dd ss ff ∧ TsValid ss ff) :=
  ⟨tsOfTotal_plain t, createTimestamp_valid y mo d h mi s us v h0 m0 s0 u0 hv⟩

-- non-vacuity: 2024-01-01 00:00:01.5 > 2023-12-31 23:59:59.25 (day numbers from CE)
example : TsPlain 1 500000000 ∧ TsPlain 86399 250000000 ∧
    compare (tsTotal 738886 1 500000000) (tsTotal 738885 86399 250000000) = .gt := by
  refine ⟨by unfold TsPlain; omega, by unfold TsPlain; omega, by decide +kernel⟩
example : eval {} {} (.compare .gt (.value (.timestamp 738886 1 500000000)) (.value (.timestamp 738885 86399 250000000))) = .ok (.bool true) := rfl
example : createTimestamp 2016 12 31 23 59 59 1500000 = some (.timestamp 736329 86399 1500000000) := rfl

end Sqlgrep.Props.C03
