import SqlgrepModel.Model.CivilE
import SqlgrepModel.Lemmas.Civil
/-
One calendar for extraction and evaluation. Two of the project's models of chrono's proleptic Gregorian day numbering
are related here:

* `Sqlgrep.Civil`  (table-driven: `daysBeforeYear` + `daysBeforeMonth`; used by extraction, `Lit.mkTimestamp`, C01) with
  the proved round trip `Civil.civilOfDays_daysFromCE`;
* `Sqlgrep.CivilE` (Hinnant's closed forms over the March-based year; used by the evaluator: `createTimestamp`,
  `tsField`, `dateTrunc`, `display`).

This file proves that they are the same function wherever chrono defines one:
`validDate_eq`, `daysFromCE_eq` (all valid dates), `civilOfDays_eq` (every day number of chrono's range), and derives
what the evaluator theorems need: both directions of the round trip for `CivilE`, monotonicity of the day number,
and that the day numbers of valid dates are exactly `dayMin ..= dayMax`.

Not related to either: the printer's own inverse `Print.civil` (Model/Print.lean, the same Hinnant formula shifted by 305
days), which no lemma mentions — nothing is proved about WHICH date a printed TIMESTAMP shows.
-/
namespace Sqlgrep.CivilE
open Civil (EraSplit dby_mono)

theorem dby_succ (y : Int) : Civil.daysBeforeYear (y + 1) = Civil.daysBeforeYear y + (Civil.yearLen y : Int) :=
  Civil.dby_succ y

theorem isLeap_eq (y : Int) : isLeap y = Civil.isLeap y := by
  unfold isLeap Civil.isLeap
  rw [Bool.eq_iff_iff]
  simp only [Bool.and_eq_true, Bool.or_eq_true, beq_iff_eq, bne_iff_ne, ne_eq]
  omega

theorem isLeap_iff (y : Int) : isLeap y = true ↔ (y % 4 = 0 ∧ y % 100 ≠ 0) ∨ y % 400 = 0 := by
  unfold isLeap
  simp only [Bool.and_eq_true, Bool.or_eq_true, beq_iff_eq, bne_iff_ne, ne_eq]

theorem daysInMonth_eq (y : Int) (m : Nat) (hm : 1 ≤ m ∧ m ≤ 12) :
    daysInMonth y (m : Int) = (Civil.monthLen y m : Int) := by
  unfold daysInMonth Civil.monthLen
  rw [isLeap_eq]
  rcases twelve m hm with h | h | h | h | h | h | h | h | h | h | h | h <;> subst h <;>
    cases Civil.isLeap y <;> rfl

theorem validDate_iff (y m d : Int) :
    validDate y m d = true ↔ (-262143 ≤ y ∧ y ≤ 262142) ∧ (1 ≤ m ∧ m ≤ 12) ∧ (1 ≤ d ∧ d ≤ daysInMonth y m) := by
  unfold validDate
  simp only [Bool.and_eq_true, decide_eq_true_eq, and_assoc]

theorem daysInMonth_range (y m : Int) : 28 ≤ daysInMonth y m ∧ daysInMonth y m ≤ 31 := by
  unfold daysInMonth; split <;> (try split) <;> omega

/-- the two validity predicates (chrono's `NaiveDate::from_ymd_opt(..).is_some()`) agree on every argument -/
theorem validDate_eq (y : Int) (m d : Nat) : validDate y (m : Int) (d : Int) = Civil.validDate y m d := by
  rw [Bool.eq_iff_iff, validDate_iff, Civil.validDate_iff]
  unfold Civil.minYear Civil.maxYear
  by_cases hm : 1 ≤ m ∧ m ≤ 12
  · rw [daysInMonth_eq y m hm]
    omega
  · omega

theorem validDate_nat (y m d : Int) (h : validDate y m d = true) :
    ∃ m' d' : Nat, m = m' ∧ d = d' ∧ (1 ≤ m' ∧ m' ≤ 12) ∧ Civil.validDate y m' d' = true := by
  obtain ⟨_, hm, hd⟩ := (validDate_iff y m d).1 h
  obtain ⟨m', rfl⟩ := Int.eq_ofNat_of_zero_le (Int.le_trans (by decide) hm.1)
  obtain ⟨d', rfl⟩ := Int.eq_ofNat_of_zero_le (Int.le_trans (by decide) hd.1)
  exact ⟨m', d', rfl, rfl, by omega, validDate_eq y m' d' ▸ h⟩

/-- `daysFromCE` in one line: the days before the March-based year `Y + 1`, the days of that year before the month
(counted from March 1st), the day, and the 306 days from March 1st to January 1st. -/
theorem daysFromCE_march (y m d : Int) :
    daysFromCE y m d =
      Civil.daysBeforeYear ((if m ≤ 2 then y - 1 else y) + 1) + (153 * ((m + 9) % 12) + 2) / 5 + d - 306 := by
  unfold daysFromCE
  simp only []
  generalize (if m ≤ 2 then y - 1 else y) = Y
  generalize (153 * ((m + 9) % 12) + 2) / 5 = t
  unfold Civil.daysBeforeYear
  omega

/-- the days before month `m` counted from March 1st: of the same year from March on, of the year before for
January and February -/
theorem marchDoy (y : Int) (m : Nat) (hm : 1 ≤ m ∧ m ≤ 12) :
    (153 * (((m : Int) + 9) % 12) + 2) / 5 + (if (m : Int) ≤ 2 then (0 : Int) else Civil.yearLen y) =
      Civil.daysBeforeMonth y m + 306 := by
  unfold Civil.daysBeforeMonth Civil.yearLen
  rcases twelve m hm with h | h | h | h | h | h | h | h | h | h | h | h <;> subst h <;>
    cases Civil.isLeap y <;> rfl

/-- the two `num_days_from_ce` agree for every month 1..12 (any day, any year) -/
theorem daysFromCE_eq (y : Int) (m d : Nat) (hm : 1 ≤ m ∧ m ≤ 12) :
    daysFromCE y (m : Int) (d : Int) = Civil.daysFromCE y m d := by
  have hmo := marchDoy y m hm
  rw [daysFromCE_march]
  unfold Civil.daysFromCE
  by_cases h2 : (m : Int) ≤ 2
  · rw [if_pos h2, Int.sub_add_cancel]
    rw [if_pos h2] at hmo
    omega
  · rw [if_neg h2, dby_succ]
    rw [if_neg h2] at hmo
    omega

theorem doe_decomp (N : Int) (h : 0 ≤ N ∧ N ≤ 146096) :
    ∃ b c d k : Int, EraSplit b c d k ∧ N = k + d * 365 + c * 1461 + b * 36524 := by
  obtain ⟨b, r, hb, hr, hrb, rfl⟩ := capSplit 36524 N (by decide) h
  obtain ⟨d, k, hd, hk, hkd, hr'⟩ := capSplit 365 (r % 1461) (by decide) (by omega)
  exact ⟨b, r / 1461, d, k, ⟨hb, by omega, hd, hk, by omega⟩, by omega⟩

/-- the quotients of Hinnant's formula: `36524 = 25 * 1460 + 24` and `1461 = 1460 + 1` give `N / 1460` up to a
carry `t` that the day of year absorbs; the century count is one too many on the last day of the era only, where
`N / 146096` takes it back -/
theorem yoe_era (b c d k : Int) (h : EraSplit b c d k) (N : Int) (hN : N = 36524 * b + 1461 * c + 365 * d + k) :
    ∃ t, (0 ≤ k - t ∧ k - t < 365) ∧ N / 1460 = 25 * b + c + t ∧ N / 36524 - N / 146096 = b := by
  obtain ⟨hb, hc, hd, hk, hl⟩ := h
  refine ⟨(24 * b + c + 365 * d + k) / 1460, by omega, ?_, ?_⟩
  · have e : N = 24 * b + c + 365 * d + k + (25 * b + c) * 1460 := by omega
    rw [e, Int.add_mul_ediv_right _ _ (by decide), Int.add_comm]
  · by_cases hlast : N = 146096
    · have : b = 3 := by omega
      rw [hlast, this]; decide
    · have hx : (0 ≤ N ∧ N < 146096) ∧ N = 1461 * c + 365 * d + k + b * 36524 ∧
          (0 ≤ 1461 * c + 365 * d + k ∧ 1461 * c + 365 * d + k < 36524) := by omega
      rw [Int.ediv_eq_zero_of_lt hx.1.1 hx.1.2, hx.2.1, (divmod 36524 b _ hx.2.2.1 hx.2.2.2).1, Int.sub_zero]

/-- Hinnant's year-of-era formula is the year of the decomposition -/
theorem hinnant_yoe (b c d k : Int) (hb : 0 ≤ b ∧ b ≤ 3) (hc : 0 ≤ c ∧ c ≤ 24) (hd : 0 ≤ d ∧ d ≤ 3)
    (hk : 0 ≤ k ∧ k ≤ 365) (hl : k = 365 → d = 3 ∧ (c ≠ 24 ∨ b = 3)) (N : Int)
    (hN : N = 36524 * b + 1461 * c + 365 * d + k) :
    (N - N / 1460 + N / 36524 - N / 146096) / 365 = 100 * b + 4 * c + d := by
  obtain ⟨t, ht, h1, h2⟩ := yoe_era b c d k ⟨hb, hc, hd, hk, hl⟩ N hN
  -- the quotients are atoms from here on: the rest is linear
  generalize N / 1460 = A at *
  generalize N / 36524 = B at *
  generalize N / 146096 = C at *
  have h3 : N - A + B - C = (k - t) + (100 * b + 4 * c + d) * 365 := by omega
  rw [h3]
  exact (divmod 365 _ _ ht.1 ht.2).1

theorem yoe_quot (b c d : Int) (hc : 0 ≤ c ∧ c ≤ 24) (hd : 0 ≤ d ∧ d ≤ 3) :
    (100 * b + 4 * c + d) / 4 = 25 * b + c ∧ (100 * b + 4 * c + d) / 100 = b := by omega

/-- the calendar month `m` of the March-based month `mp` of the March-based year `Y`, its calendar year `y`, and back -/
theorem march_month (Y mp m y : Int) (h : 0 ≤ mp ∧ mp ≤ 11) (hm : m = if mp < 10 then mp + 3 else mp - 9)
    (hy : y = if m ≤ 2 then Y + 1 else Y) :
    (1 ≤ m ∧ m ≤ 12) ∧ (if m ≤ 2 then y - 1 else y) = Y ∧ (m + 9) % 12 = mp := by
  omega

/-- day `k` (from March 1st) lies in the March-based month `(5 k + 2) / 153` -/
theorem march_day (k mp : Int) (hmp : mp = (5 * k + 2) / 153) :
    (153 * mp + 2) / 5 ≤ k ∧ k < (153 * (mp + 1) + 2) / 5 := by
  omega

/-- the March-based months March .. January have the lengths of the calendar -/
theorem marchLen (y mp : Int) (h : 0 ≤ mp ∧ mp ≤ 10) :
    (153 * (mp + 1) + 2) / 5 - (153 * mp + 2) / 5 = daysInMonth y (if mp < 10 then mp + 3 else mp - 9) := by
  have : mp = 0 ∨ mp = 1 ∨ mp = 2 ∨ mp = 3 ∨ mp = 4 ∨ mp = 5 ∨ mp = 6 ∨ mp = 7 ∨ mp = 8 ∨ mp = 9 ∨ mp = 10 := by omega
  rcases this with h | h | h | h | h | h | h | h | h | h | h <;> subst h <;> rfl

/-- the month/day part of Hinnant's inverse and its way back, for one day-of-year `k` of a March-based year `Y` -/
theorem month_day (Y k : Int) (hk : 0 ≤ k ∧ k ≤ 365) (hleap : k = 365 → isLeap (Y + 1) = true) (mp : Int)
    (hmp : mp = (5 * k + 2) / 153) (m dd : Int) (hm : m = if mp < 10 then mp + 3 else mp - 9)
    (hdd : dd = k - (153 * mp + 2) / 5 + 1) (y : Int) (hy : y = if m ≤ 2 then Y + 1 else Y) :
    1 ≤ m ∧ m ≤ 12 ∧ 1 ≤ dd ∧ dd ≤ daysInMonth y m ∧ (if m ≤ 2 then y - 1 else y) = Y ∧ (m + 9) % 12 = mp ∧
      (153 * mp + 2) / 5 + dd - 1 = k := by
  have hr : 0 ≤ mp ∧ mp ≤ 11 := by omega
  obtain ⟨lo, hi⟩ := march_day k mp hmp
  obtain ⟨hm12, hY, hmp'⟩ := march_month Y mp m y hr hm hy
  have h11 : mp = 11 → (153 * mp + 2) / 5 = 337 := fun h => by rw [h]; rfl
  have hlen := fun h : mp ≤ 10 => marchLen y mp ⟨hr.1, h⟩
  clear hmp
  -- the first days of this month and the next, counted from March 1st, are atoms from here on
  generalize (153 * mp + 2) / 5 = s at *
  generalize (153 * (mp + 1) + 2) / 5 = s' at *
  have hdd' : 1 ≤ dd ∧ s + dd - 1 = k := by omega
  refine ⟨hm12.1, hm12.2, hdd'.1, ?_, hY, hmp', hdd'.2⟩
  by_cases c : mp = 11
  · -- February ends the March-based year: its length is what the year has left
    have e : daysInMonth y m = if isLeap (Y + 1) then 29 else 28 := by subst hy hm c; rfl
    rw [e]
    have hs := h11 c
    by_cases hL : isLeap (Y + 1) = true
    · rw [if_pos hL]; omega
    · rw [if_neg hL]; have := mt hleap hL; omega
  · rw [hm, ← hlen (by omega)]
    omega

/-- the date Hinnant's inverse returns has a month 1..12, a day that exists in that month, and the day number it was
computed from — for EVERY integer `n` -/
theorem civilOfDays_spec (n : Int) :
    1 ≤ (civilOfDays n).2.1 ∧ (civilOfDays n).2.1 ≤ 12 ∧ 1 ≤ (civilOfDays n).2.2 ∧
      (civilOfDays n).2.2 ≤ daysInMonth (civilOfDays n).1 (civilOfDays n).2.1 ∧
      daysFromCE (civilOfDays n).1 (civilOfDays n).2.1 (civilOfDays n).2.2 = n := by
  obtain ⟨E, hE⟩ : ∃ E, E = (n - 719163 + 719468) / 146097 := ⟨_, rfl⟩
  obtain ⟨D, hD⟩ : ∃ D, D = (n - 719163 + 719468) - E * 146097 := ⟨_, rfl⟩
  obtain ⟨b, c, d, k, ⟨hb, hc, hd, hk, hl⟩, hN⟩ := doe_decomp D (by omega)
  obtain ⟨q4, q100⟩ := yoe_quot b c d hc hd
  have hlin : k = D - (365 * (100 * b + 4 * c + d) + (25 * b + c) - b) ∧
      100 * b + 4 * c + d + E * 400 + 1 = 400 * E + 100 * b + 4 * c + d + 1 ∧
      D = 36524 * b + 1461 * c + 365 * d + k := by clear hE hD q4 q100; omega
  have hdoy : k = D - (365 * (100 * b + 4 * c + d) + (100 * b + 4 * c + d) / 4 - (100 * b + 4 * c + d) / 100) := by
    rw [q4, q100]; exact hlin.1
  have e := hlin.2.1
  have hleap : k = 365 → isLeap (100 * b + 4 * c + d + E * 400 + 1) = true := fun h365 => by
    rw [isLeap_eq, e, Civil.isLeap_digits E b c d hb hc hd]
    exact hl h365
  have hy := hinnant_yoe b c d k hb hc hd hk hl D hlin.2.2
  unfold civilOfDays
  simp only []
  rw [← hE, ← hD, hy, ← hdoy]
  obtain ⟨h1, h2, h3, h4, h5, h6, _⟩ := month_day (100 * b + 4 * c + d + E * 400) k hk hleap _ rfl _ _ rfl rfl _ rfl
  refine ⟨h1, h2, h3, h4, ?_⟩
  rw [daysFromCE_march]
  simp only [h5, h6]
  rw [e, Civil.dby_digits E b c d hb hc hd]
  generalize (153 * ((5 * k + 2) / 153) + 2) / 5 = t
  clear hE q4 q100 hdoy hy h1 h2 h3 h4 h5 h6 hlin e
  omega

/-- day number of `NaiveDate::MIN` = −262143-01-01 -/
def dayMin : Int := -95746129
/-- day number of `NaiveDate::MAX` = +262142-12-31 -/
def dayMax : Int := 95745399

theorem civil_day_bounds (y : Int) (m d : Nat) (hm : 1 ≤ m ∧ m ≤ 12) (hd : 1 ≤ d ∧ d ≤ Civil.monthLen y m) :
    Civil.daysBeforeYear y + 1 ≤ Civil.daysFromCE y m d ∧ Civil.daysFromCE y m d ≤ Civil.daysBeforeYear (y + 1) := by
  have h := Civil.dbm_add_le y m d hm hd
  rw [dby_succ]
  unfold Civil.daysFromCE
  omega

theorem year_range_iff (y : Int) (n : Int) (h : Civil.daysBeforeYear y + 1 ≤ n ∧ n ≤ Civil.daysBeforeYear (y + 1)) :
    (-262143 ≤ y ∧ y ≤ 262142) ↔ (dayMin ≤ n ∧ n ≤ dayMax) := by
  have e1 : Civil.daysBeforeYear (-262143) = -95746130 := by decide
  have e2 : Civil.daysBeforeYear 262143 = 95745399 := by decide
  unfold dayMin dayMax
  constructor
  · intro ⟨h1, h2⟩
    have m1 := dby_mono _ _ h1
    have m2 := dby_mono (y + 1) 262143 (by omega)
    omega
  · intro ⟨h1, h2⟩
    refine ⟨Int.not_lt.1 fun hc => ?_, Int.not_lt.1 fun hc => ?_⟩
    · have := dby_mono (y + 1) (-262143) (by omega)
      omega
    · have := dby_mono 262143 y (by omega)
      omega

theorem civilOfDays_nat (n : Int) : ∃ m d : Nat, (civilOfDays n).2 = ((m : Int), (d : Int)) ∧ (1 ≤ m ∧ m ≤ 12) ∧
    (1 ≤ d ∧ d ≤ Civil.monthLen (civilOfDays n).1 m) ∧ Civil.daysFromCE (civilOfDays n).1 m d = n := by
  obtain ⟨h1, h2, h3, h4, h5⟩ := civilOfDays_spec n
  generalize civilOfDays n = c at *
  obtain ⟨y, m, d⟩ := c
  simp only at h1 h2 h3 h4 h5 ⊢
  obtain ⟨m, rfl⟩ := Int.eq_ofNat_of_zero_le (Int.le_trans (by decide) h1)
  obtain ⟨d, rfl⟩ := Int.eq_ofNat_of_zero_le (Int.le_trans (by decide) h3)
  have hm : 1 ≤ m ∧ m ≤ 12 := by omega
  rw [daysInMonth_eq y m hm] at h4
  exact ⟨m, d, rfl, hm, by omega, daysFromCE_eq y m d hm ▸ h5⟩

/-- the year of a day number lies in chrono's range exactly for the day numbers `dayMin ..= dayMax` -/
theorem year_in_range_iff (n : Int) :
    (-262143 ≤ (civilOfDays n).1 ∧ (civilOfDays n).1 ≤ 262142) ↔ (dayMin ≤ n ∧ n ≤ dayMax) := by
  obtain ⟨m, d, _, hm, hd, hn⟩ := civilOfDays_nat n
  have hb := civil_day_bounds _ m d hm hd
  rw [hn] at hb
  exact year_range_iff _ n hb

theorem validDate_civilOfDays (n : Int) (h : dayMin ≤ n ∧ n ≤ dayMax) :
    validDate (civilOfDays n).1 (civilOfDays n).2.1 (civilOfDays n).2.2 = true := by
  obtain ⟨h1, h2, h3, h4, _⟩ := civilOfDays_spec n
  exact (validDate_iff _ _ _).2 ⟨(year_in_range_iff n).2 h, ⟨h1, h2⟩, h3, h4⟩

/-- **the two inverses agree** on every day number of chrono's range -/
theorem civilOfDays_eq (n : Int) (h : dayMin ≤ n ∧ n ≤ dayMax) :
    civilOfDays n = ((Civil.civilOfDays n).1, ((Civil.civilOfDays n).2.1 : Int), ((Civil.civilOfDays n).2.2 : Int)) := by
  obtain ⟨m, d, hmd, hm, _, hn⟩ := civilOfDays_nat n
  have hv := validDate_civilOfDays n h
  rw [hmd, validDate_eq] at hv
  have hr := Civil.civilOfDays_daysFromCE _ _ _ hv
  rw [hn] at hr
  rw [hr, ← hmd]

/-- `daysFromCE` after `civilOfDays` is the identity (every integer) -/
theorem daysFromCE_civilOfDays (n : Int) :
    daysFromCE (civilOfDays n).1 (civilOfDays n).2.1 (civilOfDays n).2.2 = n := (civilOfDays_spec n).2.2.2.2

/-- the day number of a valid date is in chrono's range -/
theorem daysFromCE_range (y m d : Int) (h : validDate y m d = true) :
    dayMin ≤ daysFromCE y m d ∧ daysFromCE y m d ≤ dayMax := by
  obtain ⟨m, d, rfl, rfl, hm, hv⟩ := validDate_nat y m d h
  obtain ⟨hy, _, hd⟩ := (Civil.validDate_iff y m d).1 hv
  rw [daysFromCE_eq y m d hm]
  exact (year_range_iff y _ (civil_day_bounds y m d hm hd)).1 hy

/-- `civilOfDays` after `daysFromCE` is the identity on valid dates: no date field is altered by the evaluator's
calendar either -/
theorem civilOfDays_daysFromCE (y m d : Int) (h : validDate y m d = true) :
    civilOfDays (daysFromCE y m d) = (y, m, d) := by
  rw [civilOfDays_eq _ (daysFromCE_range y m d h)]
  obtain ⟨m, d, rfl, rfl, hm, hv⟩ := validDate_nat y m d h
  rw [daysFromCE_eq y m d hm, Civil.civilOfDays_daysFromCE _ _ _ hv]

/-- day numbers and valid dates correspond one to one: `daysFromCE` is injective on valid dates -/
theorem daysFromCE_injective (y m d y' m' d' : Int) (h : validDate y m d = true) (h' : validDate y' m' d' = true)
    (e : daysFromCE y m d = daysFromCE y' m' d') : (y, m, d) = (y', m', d') := by
  rw [← civilOfDays_daysFromCE y m d h, ← civilOfDays_daysFromCE y' m' d' h', e]

theorem daysFromCE_month_start (y m d : Int) (hd : 1 ≤ d) : daysFromCE y m 1 ≤ daysFromCE y m d := by
  rw [daysFromCE_march, daysFromCE_march]
  omega

theorem daysFromCE_year_start (y m d : Int) (h : validDate y m d = true) : daysFromCE y 1 1 ≤ daysFromCE y m d := by
  obtain ⟨m, d, rfl, rfl, hm, hv⟩ := validDate_nat y m d h
  obtain ⟨_, _, hd⟩ := (Civil.validDate_iff y m d).1 hv
  have hb := civil_day_bounds y m d hm hd
  have e1 : daysFromCE y 1 1 = Civil.daysBeforeYear y + 1 := by
    rw [show daysFromCE y 1 1 = Civil.daysFromCE y 1 1 from daysFromCE_eq y 1 1 (by decide)]; unfold Civil.daysFromCE; rw [Civil.daysBeforeMonth_one]; omega
  rw [daysFromCE_eq y m d hm, e1]
  exact hb.1

example : daysFromCE (-262143) 1 1 = dayMin ∧ daysFromCE 262142 12 31 = dayMax := by decide
example : civilOfDays dayMin = (-262143, 1, 1) ∧ civilOfDays dayMax = (262142, 12, 31) ∧ civilOfDays 719163 = (1970, 1, 1) := by decide
example : validDate 2024 2 29 = true ∧ validDate 2023 2 29 = false ∧ validDate 1900 2 29 = false ∧ validDate 2000 2 29 = true := by decide

end Sqlgrep.CivilE
