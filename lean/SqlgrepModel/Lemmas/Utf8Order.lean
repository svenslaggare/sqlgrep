import SqlgrepModel.Lemmas.Utf8Encode
import SqlgrepModel.Lemmas.ValueOrder
/-
UTF-8 byte order is code point order: the lexicographic comparison of the UTF-8 encodings of two strings
(`Value.cmpBytes`, the model of `impl Ord for str`, which is what `Value.cmp` does on TEXT) is the lexicographic
comparison of their code point sequences.
-/
namespace Sqlgrep
namespace Utf8
open Value

theorem cmpBytes_eq_compare : ∀ (a b : List Nat), cmpBytes a b = compare a b := Value.cmpBytes_eq_compare

theorem cmpBytes_cons_lt {x y : Nat} (s t : List Nat) (h : x < y) : cmpBytes (x :: s) (y :: t) = .lt := by
  rw [cmpBytes, Nat.compare_eq_lt.2 h]; rfl

theorem cmpBytes_cons_self (x : Nat) (s t : List Nat) : cmpBytes (x :: s) (x :: t) = cmpBytes s t := by
  rw [cmpBytes, Nat.compare_eq_eq.2 rfl]; rfl

theorem cmpBytes_append_left : ∀ (p s t : List Nat), cmpBytes (p ++ s) (p ++ t) = cmpBytes s t
  | [], _, _ => rfl
  | x :: p, s, t => by
    rw [List.cons_append, List.cons_append, cmpBytes_cons_self, cmpBytes_append_left p s t]

/-- the base-64 digit step: two byte strings that spell `n < m` with the last digit in a continuation byte are in
order as soon as the strings without that byte are, for the numbers without that digit -/
theorem cmpBytes_digit {n m : Nat} (h : n < m) (P : Nat → List Nat) (X Y : List Nat)
    (hP : n / 64 < m / 64 →
      cmpBytes (P (n / 64) ++ (0x80 + n % 64) :: X) (P (m / 64) ++ (0x80 + m % 64) :: Y) = .lt) :
    cmpBytes (P (n / 64) ++ (0x80 + n % 64) :: X) (P (m / 64) ++ (0x80 + m % 64) :: Y) = .lt := by
  rcases (by omega : n / 64 < m / 64 ∨ (n / 64 = m / 64 ∧ n % 64 < m % 64)) with h1 | ⟨h1, h2⟩
  · exact hP h1
  · rw [h1, cmpBytes_append_left]; exact cmpBytes_cons_lt _ _ (Nat.add_lt_add_left h2 _)

theorem cmpBytes_digits2 (t : Nat) {n m : Nat} (h : n < m) (X Y : List Nat) :
    cmpBytes ((t + n / 64) :: (0x80 + n % 64) :: X) ((t + m / 64) :: (0x80 + m % 64) :: Y) = .lt :=
  cmpBytes_digit h (fun q => [t + q]) X Y fun h' => cmpBytes_cons_lt _ _ (Nat.add_lt_add_left h' t)

theorem cmpBytes_digits3 (t : Nat) {n m : Nat} (h : n < m) (X Y : List Nat) :
    cmpBytes ((t + n / 4096) :: (0x80 + n / 64 % 64) :: (0x80 + n % 64) :: X)
      ((t + m / 4096) :: (0x80 + m / 64 % 64) :: (0x80 + m % 64) :: Y) = .lt := by
  rw [div_4096 n, div_4096 m]
  exact cmpBytes_digit h (fun q => [t + q / 64, 0x80 + q % 64]) X Y fun h' => cmpBytes_digits2 t h' _ _

theorem cmpBytes_digits4 (t : Nat) {n m : Nat} (h : n < m) (X Y : List Nat) :
    cmpBytes ((t + n / 262144) :: (0x80 + n / 4096 % 64) :: (0x80 + n / 64 % 64) :: (0x80 + n % 64) :: X)
      ((t + m / 262144) :: (0x80 + m / 4096 % 64) :: (0x80 + m / 64 % 64) :: (0x80 + m % 64) :: Y) = .lt := by
  rw [div_262144 n, div_262144 m, div_4096 n, div_4096 m, ← div_4096 (n / 64), ← div_4096 (m / 64)]
  exact cmpBytes_digit h (fun q => [t + q / 4096, 0x80 + q / 64 % 64, 0x80 + q % 64]) X Y
    fun h' => cmpBytes_digits3 t h' _ _

theorem encodeNat_cons (n : Nat) : ∃ x r, encodeNat n = x :: r := by
  rcases encodeNat_cases n with ⟨_, e⟩ | ⟨_, _, e⟩ | ⟨_, _, e⟩ | ⟨_, e⟩ <;> exact ⟨_, _, e⟩

/-- a smaller code point has a smaller encoding, whatever follows: encodings of different lengths differ in the
lead byte (`0xxxxxxx` < `110xxxxx` < `1110xxxx` < `11110xxx`), encodings of one length are the base-64 digits of the
code point, most significant first. No range restriction is needed (holds for surrogates and beyond U+10FFFF too). -/
theorem encodeNat_lt (n m : Nat) (h : n < m) (X Y : List Nat) :
    cmpBytes (encodeNat n ++ X) (encodeNat m ++ Y) = .lt := by
  have lead2 : ∀ {n}, n < 0x800 → 0xC0 + n / 64 < 0xC0 + 32 := fun h => Nat.add_lt_add_left (Nat.div_lt_of_lt_mul h) _
  have lead3 : ∀ {n}, n < 0x10000 → 0xE0 + n / 4096 < 0xE0 + 16 := fun h => Nat.add_lt_add_left (Nat.div_lt_of_lt_mul h) _
  have no : ∀ {t}, m < t → t ≤ n → cmpBytes (encodeNat n ++ X) (encodeNat m ++ Y) = .lt :=
    fun h1 h2 => absurd (Nat.lt_trans (Nat.lt_of_lt_of_le h1 h2) h) (Nat.lt_irrefl m)
  rcases encodeNat_cases m with ⟨m1, em⟩ | ⟨m1, m2, em⟩ | ⟨m2, m3, em⟩ | ⟨m3, em⟩
  · rcases encodeNat_cases n with ⟨_, en⟩ | ⟨n1, _, _⟩ | ⟨n2, _, _⟩ | ⟨n3, _⟩
    · rw [en, em]; exact cmpBytes_cons_lt _ _ h
    · exact no m1 n1
    · exact no (Nat.lt_trans m1 (by decide)) n2
    · exact no (Nat.lt_trans m1 (by decide)) n3
  · rcases encodeNat_cases n with ⟨n1, en⟩ | ⟨_, _, en⟩ | ⟨n2, _, _⟩ | ⟨n3, _⟩
    · rw [en, em]; exact cmpBytes_cons_lt _ _ (Nat.lt_add_right _ (Nat.lt_trans n1 (by decide)))
    · rw [en, em]; exact cmpBytes_digits2 0xC0 h X Y
    · exact no m2 n2
    · exact no (Nat.lt_trans m2 (by decide)) n3
  · rcases encodeNat_cases n with ⟨n1, en⟩ | ⟨_, n2, en⟩ | ⟨_, _, en⟩ | ⟨n3, _⟩
    · rw [en, em]; exact cmpBytes_cons_lt _ _ (Nat.lt_add_right _ (Nat.lt_trans n1 (by decide)))
    · rw [en, em]; exact cmpBytes_cons_lt _ _ (Nat.lt_add_right _ (lead2 n2))
    · rw [en, em]; exact cmpBytes_digits3 0xE0 h X Y
    · exact no m3 n3
  · rcases encodeNat_cases n with ⟨n1, en⟩ | ⟨_, n2, en⟩ | ⟨_, n3, en⟩ | ⟨_, en⟩ <;> rw [en, em]
    · exact cmpBytes_cons_lt _ _ (Nat.lt_add_right _ (Nat.lt_trans n1 (by decide)))
    · exact cmpBytes_cons_lt _ _ (Nat.lt_add_right _ (Nat.lt_trans (lead2 n2) (by decide)))
    · exact cmpBytes_cons_lt _ _ (Nat.lt_add_right _ (lead3 n3))
    · exact cmpBytes_digits4 0xF0 h X Y

theorem cmpBytes_encode : ∀ (a b : List Char),
    cmpBytes (encode a) (encode b) = cmpBytes (a.map Char.toNat) (b.map Char.toNat)
  | [], [] => rfl
  | [], d :: ds => by
    obtain ⟨x, r, hx⟩ := encodeNat_cons d.toNat
    rw [encode_cons, encodeChar_eq, hx]; rfl
  | c :: cs, [] => by
    obtain ⟨x, r, hx⟩ := encodeNat_cons c.toNat
    rw [encode_cons, encodeChar_eq, hx]; rfl
  | c :: cs, d :: ds => by
    rw [encode_cons, encode_cons, encodeChar_eq, encodeChar_eq, List.map_cons, List.map_cons, cmpBytes]
    rcases Nat.lt_trichotomy c.toNat d.toNat with h | h | h
    · rw [encodeNat_lt _ _ h, Nat.compare_eq_lt.2 h]; rfl
    · rw [h, cmpBytes_append_left, Nat.compare_eq_eq.2 rfl, cmpBytes_encode cs ds]; rfl
    · rw [cmpBytes_swap (encodeNat d.toNat ++ encode ds), encodeNat_lt _ _ h, Nat.compare_eq_gt.2 h]; rfl

theorem cmpBytes_map_toNat_lt_iff : ∀ (a b : List Char),
    cmpBytes (a.map Char.toNat) (b.map Char.toNat) = .lt ↔ a < b
  | [], [] => by simp [cmpBytes]
  | [], _ :: _ => by simp [cmpBytes]
  | _ :: _, [] => by simp [cmpBytes]
  | c :: cs, d :: ds => by
    rw [List.map_cons, List.map_cons, cmpBytes, List.cons_lt_cons_iff, ← cmpBytes_map_toNat_lt_iff cs ds,
      Char.lt_def, UInt32.lt_iff_toNat_lt, ← Char.toNat_inj]
    show _ ↔ c.toNat < d.toNat ∨ _
    rcases Nat.lt_trichotomy c.toNat d.toNat with h | h | h
    · rw [Nat.compare_eq_lt.2 h]; simp [h]
    · rw [Nat.compare_eq_eq.2 h]; simp [h]
    · rw [Nat.compare_eq_gt.2 h]; simp; omega

theorem map_toNat_injective : ∀ (a b : List Char), a.map Char.toNat = b.map Char.toNat → a = b
  | [], [] => fun _ => rfl
  | [], _ :: _ => by simp
  | _ :: _, [] => by simp
  | c :: cs, d :: ds => by
    intro h
    simp only [List.map_cons, List.cons.injEq] at h
    rw [Char.toNat_inj.1 h.1, map_toNat_injective cs ds h.2]

theorem encode_injective (a b : List Char) (h : encode a = encode b) : a = b := by
  have := cmpBytes_encode a b
  rw [h, (cmpBytes_eq_iff _ _).2 rfl] at this
  exact map_toNat_injective a b ((cmpBytes_eq_iff _ _).1 this.symm)

end Utf8
end Sqlgrep
