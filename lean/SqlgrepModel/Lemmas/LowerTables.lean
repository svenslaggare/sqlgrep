import SqlgrepModel.Model.Lower
import SqlgrepModel.Generated.LowerTables
/-
Table obligations of the lowering and of the column-definition syntax: the tables regenerated from the running code
on every run (`Generated/LowerTables.lean`, written by `harness tables`: `completion_words()`, one `parsing::parse` per
name / spelling / argument list, `ValueType::from_str`, one table definition per candidate word) equal what the Lean
model computes (`Lower.functionTable`, `Lower.aggregateNames`, `lowerCallAggregate`'s arities, `VType.ofIdent`,
`parseRegexMode`, `parseDefineColumn`). By kernel evaluation (`tables_eq`): a new, renamed or removed function or
aggregate, a changed arity, type word, mode word or modifier word in /repo breaks it at build time, and the differing
row names the word.
-/
namespace Sqlgrep.Lower.Tables
open Sqlgrep Sqlgrep.Parse Sqlgrep.Lower

def tk (t : Tok) : PTok := ⟨⟨0, 0⟩, t⟩
def ident (s : String) : Tok := .ident s.toList

/-- the argument lists of the probes: `()`, `(x)`, `(x, 0.5)`, `(x, 'a')`, `(x, y)`, `(x, y, z)`, `(*)` -/
def argTokens : Nat → List Tok
  | 0 => []
  | 1 => [ident "x"]
  | 2 => [ident "x", .comma, .float 4602678819172646912]
  | 3 => [ident "x", .comma, .str ['a']]
  | 4 => [ident "x", .comma, ident "y"]
  | 5 => [ident "x", .comma, ident "y", .comma, ident "z"]
  | _ => [.op (.single '*')]

/-- `SELECT <name>(<args>) FROM t` -/
def probeTokens (name : List Char) (k : Nat) : List PTok :=
  (([.kw .select, .ident name, .lp] : List Tok) ++ argTokens k ++ ([.rp, .kw .from, ident "t", .eof] : List Tok)).map tk

def aggName : AggKind → String
  | .groupKey _ _ => "gkey" | .count _ _ => "count" | .min _ => "min" | .max _ => "max" | .sum _ => "sum" | .avg _ => "avg"
  | .stddev _ false => "stddev" | .stddev _ true => "variance" | .percentile _ _ => "percentile"
  | .boolAnd _ => "booland" | .boolOr _ => "boolor" | .arrayAgg _ => "arrayagg" | .stringAgg _ _ => "stringagg"

def cerrName : CErrKind → String
  | .undefinedOperator _ => "UndefinedOperator" | .expectedArgument => "ExpectedArgument"
  | .tooManyArguments => "TooManyArguments" | .expectedColumnAccess => "ExpectedColumnAccess"
  | .unexpectedTuple => "UnexpectedTuple" | .undefinedAggregate => "UndefinedAggregate"
  | .tooManyAggregates => "TooManyAggregates" | .undefinedStatement => "UndefinedStatement"
  | .undefinedExpression => "UndefinedExpression" | .undefinedFunction _ => "UndefinedFunction"
  | .invalidPattern => "InvalidPattern" | .havingClauseNotPossible => "HavingClauseNotPossible"
  | .invalidOnJoin => "InvalidOnJoin" | .invalidJoinerTable _ => "InvalidJoinerTable"
  | .expectedFloat => "ExpectedFloat" | .expectedString => "ExpectedString"

/-- what the model's parser + lowering answer for a token vector, in the words of `tables_lower.rs` -/
def outcome (toks : List PTok) : String :=
  match parseTokens PrecTables.code toks with
  | .tree t =>
    match lowerStatement (fun _ => true) t with
    | .ok (.select s _ _ _) =>
      match s.projections with
      | (_, .call f _) :: _ => "fn:" ++ funcName f
      | _ => "expr"
    | .ok (.aggregate a _ _ _) =>
      match a.items with
      | it :: _ => "agg:" ++ aggName it.kind
      | [] => "agg:"
    | .ok _ => "other"
    | .err e => cerrName e.kind
    | .panic _ => "panic"
  | .error _ => "perr"
  | _ => "panic"

def modelProbe (name : List Char) (k : Nat) : String := outcome (probeTokens name k)

/-- the function table of the model as (name, function) -/
def modelFunctions : List (List Char × String) := functionTable.map (fun p => (p.1.toList, funcName p.2))
def modelAggregates : List (List Char) := aggregateNames.map String.toList

def sameSet {α : Type} [DecidableEq α] (a b : List α) : Bool := a.all (· ∈ b) && b.all (· ∈ a)

/-- `CREATE TABLE t(line = <word> 'a', line[1] => x TEXT);` -/
def modeTokens (w : List Char) : List PTok :=
  ([.kw .create, .kw .table, ident "t", .lp, ident "line", .op (.single '='), .ident w, .str ['a'], .comma,
   ident "line", .lsq, .int 1, .rsq, .rarrow, ident "x", ident "TEXT", .rp, .semi, .eof] : List Tok).map tk

/-- `CREATE TABLE t(line = 'a', line[1] => x TEXT <word>);` -/
def modifierTokens (w : List Char) : List PTok :=
  ([.kw .create, .kw .table, ident "t", .lp, ident "line", .op (.single '='), .str ['a'], .comma,
   ident "line", .lsq, .int 1, .rsq, .rarrow, ident "x", ident "TEXT", .ident w, .rp, .semi, .eof] : List Tok).map tk

def modelMode (w : List Char) : String :=
  match parseTokens PrecTables.code (modeTokens w) with
  | .tree t =>
    match lowerStatement (fun _ => true) t with
    | .ok (.createTable _ d _) =>
      match d.patterns with
      | p :: _ => (match p.mode with | .split => "split" | .captures => "captures")
      | [] => "nopattern"
    | .ok _ => "other"
    | .err _ => "reject"
    | .panic _ => "panic"
  | .error _ => "reject"
  | _ => "panic"

def modelModifier (w : List Char) : String :=
  match parseTokens PrecTables.code (modifierTokens w) with
  | .tree t =>
    match lowerStatement (fun _ => true) t with
    | .ok (.createTable _ d _) =>
      match d.columns with
      | c :: _ => if c.options.trim then "trim" else if c.options.convert then "convert"
                  else if c.options.microseconds then "microseconds" else "none"
      | [] => "nocolumn"
    | .ok _ => "other"
    | .err _ => "reject"
    | .panic _ => "panic"
  | .error _ => "reject"
  | _ => "panic"

/-- The tables of the running code are what the model computes, checked in one evaluation so that the words of the
model's tables are read once:
the functions, each under its name(s) — `regex_matches` and `regexp_matches` both — with the function it denotes; the
aggregates; every completion word is a function or an aggregate, and nothing else is;
for every name, in lower and in upper case, and every probed argument list the model's parser + lowering give the
answer of the running code (function vs aggregate vs error, i.e. the accepted arities and argument kinds); the near
misses stay undefined;
`ValueType::from_str(base ++ "[]"^n)` = `arrayOf n <$> VType.ofIdent base` on every candidate spelling;
the pattern-mode words (any letter case of `split` / `match`, nothing else) and the modifier words that are identifiers
(any letter case of `trim` / `convert` / `microseconds`, nothing else). -/
theorem tables_eq :
    sameSet Generated.lowerFunctions modelFunctions = true ∧
    sameSet Generated.lowerAggregates modelAggregates = true ∧
    sameSet Generated.lowerNames (modelFunctions.map (·.1) ++ modelAggregates) = true ∧
    Generated.lowerProbes = Generated.lowerProbes.map (fun p => (p.1, (List.range 7).map (modelProbe p.1))) ∧
    Generated.lowerUnknown = Generated.lowerUnknown.map (fun p => (p.1, modelProbe p.1 1)) ∧
    Generated.typeWords = Generated.typeWords.map (fun p => (p.1, p.2.1, (VType.ofIdent p.1).map (arrayOf p.2.1))) ∧
    Generated.regexModeWords = Generated.regexModeWords.map (fun p => (p.1, modelMode p.1)) ∧
    Generated.modifierWords = Generated.modifierWords.map (fun p => (p.1, modelModifier p.1)) := by
  decide +kernel

theorem functions_eq : sameSet Generated.lowerFunctions modelFunctions = true := tables_eq.1

theorem aggregates_eq : sameSet Generated.lowerAggregates modelAggregates = true := tables_eq.2.1

theorem names_eq : sameSet Generated.lowerNames (modelFunctions.map (·.1) ++ modelAggregates) = true := tables_eq.2.2.1

theorem probes_eq :
    Generated.lowerProbes = Generated.lowerProbes.map (fun p => (p.1, (List.range 7).map (modelProbe p.1))) :=
  tables_eq.2.2.2.1

theorem unknown_eq : Generated.lowerUnknown = Generated.lowerUnknown.map (fun p => (p.1, modelProbe p.1 1)) :=
  tables_eq.2.2.2.2.1

theorem type_words_eq :
    Generated.typeWords = Generated.typeWords.map (fun p => (p.1, p.2.1, (VType.ofIdent p.1).map (arrayOf p.2.1))) :=
  tables_eq.2.2.2.2.2.1

theorem regex_mode_words_eq : Generated.regexModeWords = Generated.regexModeWords.map (fun p => (p.1, modelMode p.1)) :=
  tables_eq.2.2.2.2.2.2.1

theorem modifier_words_eq : Generated.modifierWords = Generated.modifierWords.map (fun p => (p.1, modelModifier p.1)) :=
  tables_eq.2.2.2.2.2.2.2

end Sqlgrep.Lower.Tables
