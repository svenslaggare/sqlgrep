import SqlgrepModel.Lemmas.LexRun
/-
The tokenizer on a text with a `;` appended (`q ++ ";"`, `q ++ " ;"`), for EVERY text `q`: the `;` either becomes
the token `;` in front of `End` — the tokens in front of `End` being exactly the tokens of `q` — or it falls into a
`--` comment / an unterminated string of `q` and the answer is the answer for `q`.

The one invariant needed: a `--` token is only ever the LAST token (the next character removes it and opens the
comment), and there is none while a word / number is being collected.
-/
namespace Sqlgrep.Lex
open Sqlgrep

def AllToks (P : Tok → Prop) (ts : List PTok) : Prop := ∀ t ∈ ts, P t.tok

theorem AllToks.nil {P : Tok → Prop} : AllToks P [] := fun _ h => nomatch h

theorem AllToks.tail {P : Tok → Prop} {ts : List PTok} (h : AllToks P ts) : AllToks P ts.tail := fun t ht => h t (List.mem_of_mem_tail ht)

theorem AllToks.add {P : Tok → Prop} {st : St} (h : AllToks P st.toks) {t : Tok} (ht : P t) : AllToks P (st.add t).toks := by
  intro x hx
  rcases List.mem_cons.mp hx with rfl | hx
  · exact ht
  · exact h x hx

theorem AllToks.setLast {P : Tok → Prop} {st : St} (h : AllToks P st.toks) {t : Tok} (ht : P t) : AllToks P (st.setLast t).toks := by
  unfold St.setLast
  split
  · exact h
  · next p rest hs =>
    rw [hs] at h
    intro x hx
    rcases List.mem_cons.mp hx with rfl | hx
    · exact ht
    · exact h x (List.mem_cons_of_mem _ hx)

theorem AllToks.lastTok {P : Tok → Prop} {st : St} (h : AllToks P st.toks) {t : Tok} (ht : ¬ P t) : st.lastTok ≠ some t := by
  unfold St.lastTok
  cases hs : st.toks with
  | nil => nofun
  | cons p rest => intro e; cases e; exact ht (h p (by rw [hs]; exact List.mem_cons_self))

theorem TokOp.allToks {P : Tok → Prop} {a b a' b' : St} (h : TokOp a b a' b') (hP : ∀ t, t ≠ .eof → P t) (ha : AllToks P a.toks) :
    AllToks P a'.toks := by
  cases h with
  | add t ht => exact ha.add (hP t ht)
  | addOp c => exact ha.add (hP _ nofun)
  | setLast t ht _ => exact ha.setLast (hP t ht)

theorem add_tail (st : St) (t : Tok) : (st.add t).toks.tail = st.toks := rfl

theorem TokOp.tail_toks {a b a' b' : St} (h : TokOp a b a' b') : a'.toks.tail = a.toks ∨ a'.toks.tail = a.toks.tail := by
  cases h with
  | add t _ => exact .inl rfl
  | addOp c => exact .inl rfl
  | setLast t _ _ => exact .inr (setLast_tail a t)

abbrev NoDash : List PTok → Prop := AllToks (· ≠ dashDash)

structure DashInv (st : St) : Prop where
  tail : NoDash st.toks.tail
  pend : st.pend ≠ .none → NoDash st.toks

theorem DashInv.of_noDash {st : St} (h : NoDash st.toks) : DashInv st := ⟨h.tail, fun _ => h⟩

theorem TokOp.dashInv {a b a' b' : St} (h : TokOp a b a' b') (ha : NoDash a.toks) (hp : a.pend = .none) : DashInv a' := by
  refine ⟨?_, fun hp' => absurd (h.pend.trans hp) hp'⟩
  rcases h.tail_toks with e | e <;> rw [e]
  · exact ha
  · exact ha.tail

theorem dashCheck_noDash {st : St} (h : NoDash st.toks.tail) : NoDash st.dashCheck.toks := by
  unfold St.dashCheck
  by_cases hl : st.lastTok = some dashDash
  · rw [if_pos hl]; exact h
  · rw [if_neg hl]
    intro t ht e
    cases hs : st.toks with
    | nil => rw [hs] at ht; cases ht
    | cons p rest =>
      rw [hs] at h ht
      rcases List.mem_cons.mp ht with rfl | hr
      · exact hl (by rw [lastTok_eq, hs]; exact congrArg some e)
      · exact h t hr e

theorem body_inv (o : Oracles) {st : St} (h : DashInv st) (hp : st.pend = .none) (c : Char) : DashInv (body o st c) := by
  have h1 : NoDash (st.advance c).dashCheck.toks := dashCheck_noDash (by rw [advance_toks]; exact h.tail)
  have hp1 : (st.advance c).dashCheck.pend = .none := by rw [dashCheck_pend, advance_pend, hp]
  rw [body_eq]
  rcases bodyCore_cases o st.prevOp _ c with ⟨cur, esc, com, p, e⟩ | ⟨cur, esc, ht⟩
  · rw [e]; exact .of_noDash h1
  · exact ht.dashInv h1 hp1

theorem flush_inv (o : Oracles) {st st' : St} (h : DashInv st) (hf : flush o st = .run st') : DashInv st' := by
  rcases flush_cases o st with ⟨_, e⟩ | ⟨hp, ⟨s', ht, e⟩ | ⟨_, e⟩⟩ <;> rw [e] at hf <;> cases hf
  · exact h
  · exact ht.dashInv (h.pend hp) rfl

theorem step_inv (o : Oracles) {st st' : St} (h : DashInv st) (c : Char) (hs : step o st c = .run st') : DashInv st' :=
  step_preserves o (I := DashInv) (fun _ c hp h => body_inv o h hp c) (fun _ _ h => flush_inv o h)
    (fun _ _ hp _ h => ⟨h.tail, fun _ => h.pend hp⟩) h hs

theorem run_inv (o : Oracles) (text : List Char) {st st' : St} (h : DashInv st) (hr : run o st text = .run st') : DashInv st' :=
  run_preserves o (I := DashInv) (fun _ c _ h => step_inv o h c) text h hr

/-- what appending `;` to a text does to the tokenizer's answer: nothing (the `;` fell into a `--` comment or an
unterminated string literal of the text — or the text has a lexical error), or one token `;` in front of `End` -/
inductive SemiAppended : Result → Result → Prop
  | same (r : Result) : SemiAppended r r
  | semi (pre : List PTok) (l0 l l' : Loc) :
      SemiAppended (.ok (pre ++ [⟨l0, .eof⟩])) (.ok (pre ++ [⟨l, .semi⟩, ⟨l', .eof⟩]))

theorem close_toks_congr {s t : St} (h1 : s.toks = t.toks) (h2 : s.line = t.line) (h3 : s.start = t.start) :
    s.close.toks = t.close.toks := by
  rw [St.close_toks, St.close_toks, St.lastTok, St.lastTok, h1, h2, h3]

theorem close_toks_of_noDash {st : St} (h : st.lastTok ≠ some dashDash) :
    st.close.toks = ⟨⟨st.line, st.start⟩, .eof⟩ :: st.toks := by
  rw [St.close_toks, if_neg h]

/-- the loop body on a character without a role in strings, comments and positions: it disappears (comment, string
literal), or it reaches the classification chain in a state that ends like the old one -/
theorem body_plain (o : Oracles) {st : St} (h : DashInv st) {c : Char} (h1 : c ≠ '\n') (h2 : c ≠ '\\') (h3 : c ≠ '\'') :
    ∃ s, s.close.toks = st.close.toks ∧ s.pend = st.pend ∧ s.lastTok ≠ some dashDash ∧
      (body o st c = s ∨ body o st c = classify o s st.prevOp c) := by
  have h0 : NoDash (st.advance c).dashCheck.toks := dashCheck_noDash (by rw [advance_toks]; exact h.tail)
  have hl : (st.advance c).dashCheck.lastTok ≠ some dashDash := h0.lastTok (fun e => e rfl)
  have hc : (st.advance c).dashCheck.close.toks = st.close.toks := by
    rw [close_toks_of_noDash hl, St.close_toks, St.dashCheck, advance_lastTok, St.advance, if_neg h1]
    by_cases hd : st.lastTok = some dashDash
    · rw [if_pos hd, if_pos hd]
    · rw [if_neg hd, if_neg hd]
  have hp : (st.advance c).dashCheck.pend = st.pend := by rw [dashCheck_pend, advance_pend]
  rw [body_eq]
  generalize (st.advance c).dashCheck = s at hl hc hp
  replace hc (s' : St) (h1 : s'.toks = s.toks) (h2 : s'.line = s.line) (h3 : s'.start = s.start) :
      s'.close.toks = st.close.toks := (close_toks_congr h1 h2 h3).trans hc
  unfold bodyCore
  rw [if_neg h1, if_neg (c := c = '\\' ∧ s.esc = false) (fun e => h2 e.1), if_neg (c := c = '\'' ∧ s.esc = false) (fun e => h3 e.1)]
  by_cases hm : s.com = true
  · rw [if_pos hm]; exact ⟨s, hc _ rfl rfl rfl, hp, hl, .inl rfl⟩
  · rw [if_neg hm]
    cases s.cur with
    | some w => exact ⟨{ s with esc := false, cur := some (c :: w) }, hc _ rfl rfl rfl, hp, hl, .inl rfl⟩
    | none => exact ⟨{ s with cur := none, esc := false }, hc _ rfl rfl rfl, hp, hl, .inr rfl⟩

theorem tokenize_snoc (o : Oracles) (q : List Char) {c : Char} (hw : isWordCont o c = false)
    (hn : (o.info c).numeric = false) (hd : c ≠ '.') {Q : Result → Result → Prop} (hsame : ∀ r, Q r r)
    (hbody : ∀ st, DashInv st → st.pend = .none → Q (.ok st.close.toks.reverse) (answer (finish o (body o st c)))) :
    Q (tokenize o q) (tokenize o (q ++ [c])) := by
  rw [tokenize_eq, tokenize_eq, run_append]
  cases hr : run o {} q with
  | fail l e => exact hsame _
  | missing w => exact hsame _
  | run st =>
    rw [R.bind_run, R.bind_run, run_cons, step_of_noCont o st (fun _ _ => hw) (fun _ _ _ => ⟨hn, hd⟩), finish]
    cases hf : flush o st with
    | fail l e => exact hsame _
    | missing w => exact hsame _
    | run st' => exact hbody st' (flush_inv o (run_inv o q (.of_noDash .nil) hr) hf) (flush_pend o hf)

/-- **appending `;` to a text**: the tokenizer's answer is unchanged (the `;` fell into a comment / an open string, or
the text has a lexical error), or it is the same tokens with one `;` in front of `End` -/
theorem tokenize_append_semi (o : Oracles) (q : List Char) : SemiAppended (tokenize o q) (tokenize o (q ++ [';'])) := by
  have hi := info_special o ';' (by decide)
  refine tokenize_snoc o q (by rw [isWordCont, hi.2.2.1]; rfl) hi.2.1 (by decide) .same fun st h hp => ?_
  obtain ⟨s, hc, hps, hl, e | e⟩ := body_plain o h (c := ';') (by decide) (by decide) (by decide)
  · rw [e, finish_of_pend_none o (hps.trans hp), answer, hc]; exact .same _
  · rw [e, show classify o s st.prevOp ';' = _ from (classify_punct o s _ .semi).trans (if_neg nofun),
      finish_of_pend_none o (st := s.add Punct.semi.tok) (hps.trans hp), answer, ← hc,
      close_toks_of_noDash hl, close_toks_of_noDash (by rw [lastTok_eq]; nofun)]
    simp only [St.add, Punct.tok, List.reverse_cons, List.append_assoc, List.singleton_append]
    exact .semi _ _ _ _

/-- **a blank appended to a text changes nothing**: the same tokens at the same locations, or the same error -/
theorem tokenize_append_space (o : Oracles) (q : List Char) : tokenize o (q ++ [' ']) = tokenize o q := by
  have hs : isSpace o ' ' = true := by rw [isSpace, info_of_ascii o _ (by decide)]; decide
  have hi : (o.info ' ').alnum = false ∧ (o.info ' ').numeric = false := by rw [info_of_ascii o _ (by decide)]; decide
  refine tokenize_snoc o q (Q := fun r r' => r' = r) (by rw [isWordCont, hi.1]; rfl) hi.2 (by decide) (fun _ => rfl)
    fun st h hp => ?_
  obtain ⟨s, hc, hps, _, e | e⟩ := body_plain o h (c := ' ') (by decide) (by decide) (by decide)
  · rw [e, finish_of_pend_none o (hps.trans hp), answer, hc]
  · rw [e, classify_space o s _ hs, finish_of_pend_none o (hps.trans hp), answer, hc]

theorem tokenize_append_space_semi (o : Oracles) (q : List Char) :
    SemiAppended (tokenize o q) (tokenize o (q ++ [' ', ';'])) := by
  have := tokenize_append_semi o (q ++ [' '])
  rw [tokenize_append_space, List.append_assoc] at this
  exact this

abbrev NoEof : List PTok → Prop := AllToks (· ≠ .eof)

theorem body_noEof (o : Oracles) {st : St} (h : NoEof st.toks) (c : Char) : NoEof (body o st c).toks := by
  have h1 : NoEof (st.advance c).dashCheck.toks := by
    unfold St.dashCheck
    split
    · rw [advance_toks]; exact h.tail
    · rw [advance_toks]; exact h
  rw [body_eq]
  rcases bodyCore_cases o st.prevOp _ c with ⟨cur, esc, com, p, e⟩ | ⟨cur, esc, ht⟩
  · rw [e]; exact h1
  · exact ht.allToks (fun _ ht => ht) h1

theorem flush_noEof (o : Oracles) {st st' : St} (h : NoEof st.toks) (hf : flush o st = .run st') : NoEof st'.toks := by
  rcases flush_cases o st with ⟨_, e⟩ | ⟨_, ⟨s', ht, e⟩ | ⟨_, e⟩⟩ <;> rw [e] at hf <;> cases hf
  · exact h
  · exact ht.allToks (fun _ ht => ht) h

theorem step_noEof (o : Oracles) {st st' : St} {c : Char} (h : NoEof st.toks) (hs : step o st c = .run st') :
    NoEof st'.toks :=
  step_preserves o (I := fun st => NoEof st.toks) (fun _ c _ h => body_noEof o h c) (fun _ _ h => flush_noEof o h)
    (fun _ _ _ _ h => h) h hs

theorem run_noEof (o : Oracles) (text : List Char) {st st' : St} (h : NoEof st.toks) (hr : run o st text = .run st') :
    NoEof st'.toks :=
  run_preserves o (I := fun st => NoEof st.toks) (fun _ _ _ h => step_noEof o h) text h hr

/-- **`End` is the last token and only the last**: the answer of the tokenizer is `init ++ [End]` with no `End` in
`init` -/
theorem tokenize_init_noEof (o : Oracles) (text : List Char) (init : List PTok) (last : PTok)
    (h : tokenize o text = .ok (init ++ [last])) : last.tok = .eof ∧ ∀ t ∈ init, t.tok ≠ .eof := by
  obtain ⟨st, st', hr, hf, e⟩ := (tokenize_ok o text _).mp h
  have hn : NoEof st'.toks := flush_noEof o (run_noEof o text .nil hr) hf
  rw [St.close_toks, List.reverse_cons] at e
  obtain ⟨h1, h2⟩ := List.append_inj' e rfl
  cases h2
  subst h1
  refine ⟨rfl, fun t ht => ?_⟩
  rw [List.mem_reverse] at ht
  split at ht
  · exact hn.tail t ht
  · exact hn t ht

end Sqlgrep.Lex
