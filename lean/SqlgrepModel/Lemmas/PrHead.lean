import SqlgrepModel.Spec.Grammar
/-!
The first token of a printed expression (`RExpr.pr`, any context level, any table) is never the keyword `DISTINCT`: an
expression starts with a literal, a name, `(`, `-`, `NOT`, `CASE`, `EXTRACT` or `*`. Used by `Props/C13Stmt.lean`, where
`SELECT DISTINCT …` is the one thing that may not be confused with a projection.
-/
namespace Sqlgrep.Spec.RExpr
open Sqlgrep Sqlgrep.Spec

def GoodHead (l : List Tok) : Prop := ∃ t rest, l = t :: rest ∧ t ≠ .kw .distinct

theorem goodHead_append {l m : List Tok} (h : GoodHead l) : GoodHead (l ++ m) := by
  obtain ⟨t, r, rfl, ht⟩ := h; exact ⟨t, r ++ m, rfl, ht⟩

theorem goodHead_wrap {b : Bool} {l : List Tok} (h : GoodHead l) : GoodHead (wrap b l) := by
  unfold wrap; split
  · exact ⟨.lp, _, rfl, nofun⟩
  · exact h

theorem pr_goodHead (T : PrecTables) : ∀ (e : RExpr) (ctx : Int), GoodHead (pr T ctx e)
  | .lit l, _ => by cases l <;> exact ⟨_, [], rfl, nofun⟩
  | .col _ _, _ => ⟨_, _, rfl, nofun⟩
  | .paren _, _ => ⟨.lp, _, rfl, nofun⟩
  | .bin _ l _, _ => goodHead_wrap (goodHead_append (goodHead_append (pr_goodHead T l _)))
  | .not _, _ => goodHead_wrap ⟨_, _, rfl, nofun⟩
  | .neg _, _ => goodHead_wrap ⟨_, _, rfl, nofun⟩
  | .index a _, _ => goodHead_wrap (goodHead_append (goodHead_append (goodHead_append (pr_goodHead T a _))))
  | .cast e _, _ => goodHead_wrap (goodHead_append (pr_goodHead T e _))
  | .inList _ e _ _, _ =>
    goodHead_wrap (goodHead_append (goodHead_append (goodHead_append (goodHead_append (pr_goodHead T e _)))))
  | .call _ _, _ => ⟨_, _, rfl, nofun⟩
  | .star, _ => ⟨_, _, rfl, nofun⟩
  | .countDistinct _ _ _, _ => ⟨_, _, rfl, nofun⟩
  | .array _ _, _ => ⟨_, _, rfl, nofun⟩
  | .extract _ _, _ => ⟨_, _, rfl, nofun⟩
  | .tuple _ _ _, _ => ⟨.lp, _, rfl, nofun⟩
  | .case _ _ _ _, _ => ⟨_, _, rfl, nofun⟩

theorem minimal_goodHead (e : RExpr) : GoodHead (minimal e) := pr_goodHead specTables e 0
theorem full_goodHead (e : RExpr) : GoodHead (full e) := pr_goodHead specTables (parenAll e) 0

end Sqlgrep.Spec.RExpr
