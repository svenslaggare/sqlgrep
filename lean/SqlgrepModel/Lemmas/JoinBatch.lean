import SqlgrepModel.Lemmas.JoinRefine
import SqlgrepModel.Lemmas.Runs
import SqlgrepModel.Lemmas.LimitAgg
/-
Whole batch runs over a join. The batch loop of the model over the loaded hash index prints what the
specification's loop over the nested-loop rows prints (`Spec.Join.batch`): the loop is a function of the engine's answers
(`runFile_agg_feed`, `runFile_select_feed`), and the answers are the specification's loop over the rows of the lines that
yield one (`feedLines_aggLoop`, `feedLines_selectLoop` with the rows of `lineEnvs_eq_rowsOf`).
-/
namespace Sqlgrep
open Spec.Join

theorem loadJoinFile_readable (j : JoinInfo) (joined : List FileLine) (kj : Nat)
    (hkj : indexOf? j.joined.columns j.joinedColumn = some kj)
    (hr : joined.any (fun fl => !fl.readable) = false) :
    ∃ idx, loadJoinFile j joined = .ok idx ∧ loadJoin j (joined.map (·.line)) = .ok idx := by
  unfold loadJoinFile
  simp only [hkj, Option.isNone_some, Bool.false_eq_true, if_false, hr]
  unfold loadJoin
  simp only [hkj]
  exact ⟨_, rfl, rfl⟩

section batch
variable (O : Oracles) {qy : Query} {j : JoinInfo} (joined : List FileLine) (files : List (List FileLine))
  (hj : qy.join = some j)
  (hr : (joined.any (fun fl => !fl.readable) || files.any (fun f => f.any (fun fl => !fl.readable))) = false)
include hj hr

theorem batch_missing
    (hc : ((indexOf? qy.table.columns j.joinerColumn).isNone || (indexOf? j.joined.columns j.joinedColumn).isNone) = true) :
    batch O qy joined files = some ({ error := some .columnNotFound }, "missing-column") := by
  simp only [batch, hj, hr, hc, Bool.false_eq_true, if_false, if_true]

variable
  (hc : ((indexOf? qy.table.columns j.joinerColumn).isNone || (indexOf? j.joined.columns j.joinedColumn).isNone) = false)
include hc

theorem batch_select {q : SelectStmt} (hq : qy.stmt = .select q) :
    batch O qy joined files =
      if q.limit.isSome then none
      else match selectLoop O q (rowsOf qy j (admittedRows (joined.map (·.line))) true)
          ((files.flatten.map (·.line)).filter admitted) [] with
        | .ok printed => some ({ printed := printed, totalLines := (files.flatten.map (·.line)).length },
            "join-select-" ++ (if j.isOuter then "outer" else "inner"))
        | _ => none := by
  simp only [batch, hj, hr, hc, hq, Bool.false_eq_true, if_false]
  rfl

theorem batch_agg {q : AggStmt} (hq : qy.stmt = .aggregate q) :
    batch O qy joined files =
      match aggLoop O q (rowsOf qy j (admittedRows (joined.map (·.line))) false)
          ((files.flatten.map (·.line)).filter admitted) {} with
      | .ok st =>
        match finalResult O q { agg := st } with
        | .ok r => some ({ printed := printResult r true, totalLines := (files.flatten.map (·.line)).length },
            "join-aggregate-" ++ (if j.isOuter then "outer" else "inner"))
        | _ => none
      | _ => none := by
  simp only [batch, hj, hr, hc, hq, Bool.false_eq_true, if_false]
  rfl

end batch

theorem batch_spec_eq_runBatch (O : Oracles) (qy : Query) (joined : List FileLine) (files : List (List FileLine))
    (ro : RunOut) (cls : String) (h : Spec.Join.batch O qy joined files = some (ro, cls)) :
    runBatch O qy joined files none = ro := by
  cases hj : qy.join with
  | none => simp [batch, hj] at h
  | some j =>
    cases hr : (joined.any (fun fl => !fl.readable) || files.any (fun f => f.any (fun fl => !fl.readable))) with
    | true => simp [batch, hj, hr] at h
    | false =>
      obtain ⟨hb1, hb2⟩ := Bool.or_eq_false_iff.1 hr
      have hb2 : ∀ fl ∈ files.flatten, fl.readable = true := by
        intro fl hfl
        obtain ⟨f, hf, hfl⟩ := List.mem_flatten.1 hfl
        simpa using List.any_eq_false.1 (Bool.eq_false_iff.2 (List.any_eq_false.1 hb2 f hf)) fl hfl
      rw [runBatch_eq_runWithIndex]
      cases hc : ((indexOf? qy.table.columns j.joinerColumn).isNone || (indexOf? j.joined.columns j.joinedColumn).isNone) with
      | true =>
        rw [batch_missing O joined files hj hr hc] at h
        obtain rfl := (Prod.mk.inj (Option.some.inj h)).1
        unfold joinOutcome setupJoin loadJoinFile
        simp only [hj]
        cases h1 : indexOf? qy.table.columns j.joinerColumn with
        | none => rfl
        | some ki =>
          cases h2 : indexOf? j.joined.columns j.joinedColumn with
          | none => rfl
          | some kj => simp [h1, h2] at hc
      | false =>
        obtain ⟨ki, hki⟩ : ∃ ki, indexOf? qy.table.columns j.joinerColumn = some ki :=
          Option.isSome_iff_exists.1 (by simpa using (Bool.or_eq_false_iff.1 hc).1)
        obtain ⟨kj, hkj⟩ : ∃ kj, indexOf? j.joined.columns j.joinedColumn = some kj :=
          Option.isSome_iff_exists.1 (by simpa using (Bool.or_eq_false_iff.1 hc).2)
        obtain ⟨idx, hload, hl⟩ := loadJoinFile_readable j joined kj hkj hb1
        have hidx : joinOutcome qy joined = .ok idx := by
          simp only [joinOutcome, setupJoin, hj, hki, hload]
        rw [hidx]
        cases hq : qy.stmt with
        | select q =>
          rw [batch_select O joined files hj hr hc hq] at h
          cases hlim : q.limit with
          | some n => simp [hlim] at h
          | none =>
            simp only [hlim, Option.isSome_none, Bool.false_eq_true, if_false] at h
            cases hs : selectLoop O q (rowsOf qy j (admittedRows (joined.map (·.line))) true)
                ((files.flatten.map (·.line)).filter admitted) [] with
            | ok printed =>
              simp only [hs, Option.some.injEq, Prod.mk.injEq] at h
              obtain ⟨⟨es', he⟩, hp⟩ := feedLines_selectLoop O
                (fun l _ => lineEnvs_eq_rowsOf qy j _ idx true l ki hj hki hl) hq hlim rfl _ {} printed hs
              rw [runWithIndex_select O qy q hq, runFiles_eq,
                if_neg (by simp [reachedLimit_select_nolimit qy q hq hlim]), ← readableFile_of_readable hb2,
                runFile_select_feed O qy q hq hlim idx _ {} es' rfl he, hp, ← h.1]
              simp
            | _ => simp only [hs, reduceCtorEq] at h
        | aggregate q =>
          rw [batch_agg O joined files hj hr hc hq] at h
          cases hs : aggLoop O q (rowsOf qy j (admittedRows (joined.map (·.line))) false)
              ((files.flatten.map (·.line)).filter admitted) {} with
          | ok st =>
            simp only [hs] at h
            cases hf : finalResult O q { agg := st } with
            | ok r =>
              simp only [hf, Option.some.injEq, Prod.mk.injEq] at h
              have hfeed := (runFile_agg_feed O qy q hq idx (files.flatten.map (·.line)) {}).1 { agg := st }
                (by rw [feedLines_aggLoop O (fun l _ => lineEnvs_eq_rowsOf qy j _ idx false l ki hj hki hl) hq rfl]
                    exact congrArg (Outcome.bind · _) hs)
              rw [readableFile_of_readable hb2] at hfeed
              simp only [runWithIndex, hq, Bool.not_true, runFiles_eq, reachedLimit_aggregate qy q hq, Bool.or_self,
                Bool.false_eq_true, if_false, hfeed, ← h.1]
              simp [afterFeed, hasFailed, hf]
            | _ => simp only [hf, reduceCtorEq] at h
          | _ => simp only [hs, reduceCtorEq] at h

end Sqlgrep
