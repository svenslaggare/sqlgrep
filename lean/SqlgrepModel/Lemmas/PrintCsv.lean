import SqlgrepModel.Spec.CsvGrammar
import SqlgrepModel.Lemmas.PrintChars
import SqlgrepModel.Lemmas.PrintLines
/- The CSV printer of `Model/Print.lean` against the record grammar of `Spec/CsvGrammar.lean`. -/
namespace Sqlgrep.Print
open Sqlgrep.CsvGrammar

theorem field_not_mem {d : Nat} {f : Bytes} (h : Field d f) : d ∉ f := fun hm => (h d hm).1 rfl

theorem record_splitOn {d : Nat} {l : Bytes} {fs : List Bytes} (h : Record d l fs) : splitOn d l = fs := by
  induction h with
  | last hf => exact splitOn_free d _ (field_not_mem hf)
  | cons hf _ ih => rw [splitOn_append d _ _ (field_not_mem hf), ih]

theorem record_unique {d : Nat} {l : Bytes} {fs fs' : List Bytes} (h : Record d l fs) (h' : Record d l fs') :
    fs = fs' := by rw [← record_splitOn h, ← record_splitOn h']

theorem joinWith_record (d : Nat) (cells : List Bytes) (hne : cells ≠ []) (h : ∀ c ∈ cells, Field d c) :
    Record d (joinWith [d] cells) cells := by
  fun_induction joinWith [d] cells with
  | case1 => exact absurd rfl hne
  | case2 x => exact .last (h x List.mem_cons_self)
  | case3 x y rest ih =>
    rw [List.append_assoc, List.singleton_append]
    exact .cons (h x List.mem_cons_self) (ih (List.cons_ne_nil _ _) fun c hc => h c (List.mem_cons_of_mem _ hc))

/-- the bytes the CSV guard excludes: the delimiter, `"`, CR, LF -/
def CsvSafe (d : Nat) (s : Bytes) : Prop := ∀ c ∈ s, TextData d c

instance (d : Nat) : DecidablePred (CsvSafe d) := fun s => by unfold CsvSafe; infer_instance

/-- a rendered cell is a `field`: `Display` writes none of the delimiter (`;`, tab, `|`, ...), `"`, CR, LF
by itself, so it suffices that the TEXT payloads (and the `{:.2}` oracle text) are free of them -/
theorem displayValue_field (o : RealOracle) (d : Nat) (v : Value) (hd : ¬ Structural d)
    (ht : ∀ s ∈ allTexts v, CsvSafe d s) (ho : ∀ b, CsvSafe d (o.fixed2 b)) : Field d (displayValue o v) := by
  intro c hc
  rcases mem_displayValue o v c hc with (h | ⟨s, hs, hcs⟩ | ⟨b, hb⟩)
  · refine ⟨?_, ?_, ?_, ?_⟩
    · intro e; subst e; exact hd h
    · intro e; subst e; revert h; decide
    · intro e; subst e; revert h; decide
    · intro e; subst e; revert h; decide
  · exact ht s hs c hcs
  · exact ho b c hb

theorem renderRecord_csv (o : RealOracle) (d : Bytes) (cols : List Bytes) (row : List Value)
    (hl : cols.length = row.length) :
    renderRecord o (.csv d) cols row = joinWith d (row.map (displayValue o)) := by
  rw [renderRecord_csv_zip, zip_map_snd cols row (displayValue o) hl]

theorem mem_printAll_csv (o : RealOracle) (d : Bytes) (l : Line) :
    ∀ (first : Bool) (seq : List (ResultRow × Bool)), l ∈ printAll o (.csv d) first seq →
      l = .separator ∨ ∃ cr ∈ allRows seq, l = .header (joinWith d cr.1) ∨ l = .record (renderRecord o (.csv d) cr.1 cr.2) :=
  fun first seq h => (mem_printAll o (.csv d) l first seq h).imp id
    fun ⟨cr, hcr, hl⟩ => ⟨cr, hcr, hl.imp List.mem_singleton.1 id⟩

end Sqlgrep.Print
