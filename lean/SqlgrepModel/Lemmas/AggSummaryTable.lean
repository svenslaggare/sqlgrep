import SqlgrepModel.Lemmas.AggSummary
/-
C15, input split at table level for ALL order-insensitive aggregates: a group's row and HAVING verdict depend on its
rows only through its slot values; the slot values are the finished summaries; the summary row of a concatenated group
is the combination of the parts' summary rows; keyed tables of any per-group function merge key-wise (`keyedG_concat`). Hence
`table (r₁ ++ r₂) = tableOfSummaries (mergeG combine S₁ S₂)`.
-/
set_option linter.unusedSimpArgs false
namespace Sqlgrep
open Value Spec.Agg

def isKeyKind : AggKind → Bool
  | .groupKey _ _ => true
  | _ => false

/-- the values of all aggregate slots of one group (select list, then HAVING's aggregates); NULL stands in at key columns -/
def slotValues (O : Oracles) (q : AggStmt) (g : List Env) : Option (List Value) :=
  collect (q.items.map (fun it => if isKeyKind it.kind then some .null else groupValue O q it.kind g) ++
    q.havingAggs.map (fun p => groupValue O q p.2 g))

/-- one cell from the slot value -/
def cellV (O : Oracles) (q : AggStmt) (key : List Value) (item : AggItem) (v : Value) : Option Value :=
  match item.kind with
  | .groupKey _ canon => (mappingGet (keyMapping q) canon).bind (key[·]?)
  | _ => okOf (applyTransform O item.transform v)

def zipCollect {α β γ : Type} (f : α → β → Option γ) : List α → List β → Option (List γ)
  | [], _ => some []
  | _ :: _, [] => none
  | a :: as, b :: bs =>
    match f a b, zipCollect f as bs with
    | some c, some cs => some (c :: cs)
    | _, _ => none

/-- row and HAVING verdict of a group from its key and slot values -/
def perGroupV (O : Oracles) (q : AggStmt) (key : List Value) (vals : List Value) : Option (List Value × Bool) :=
  match zipCollect (cellV O q key) q.items vals with
  | none => none
  | some r =>
    match q.having with
    | none => some (r, true)
    | some h =>
      match zipCollect (fun (p : Nat × AggKind) v => some (p.1, v)) q.havingAggs (vals.drop q.items.length) with
      | none => none
      | some gvals => ((okOf (eval O { groupKeys := keyBindings q key, groupValues := gvals } h)).bind (fun v => okOf (condHolds v))).map (fun b => (r, b))

theorem collect_bind_zip {α β γ : Type} (l : List α) (f : α → Option β) (g : α → β → Option γ) :
    collect (l.map (fun x => (f x).bind (g x))) = (collect (l.map f)).bind (fun ys => zipCollect g l ys) := by
  induction l with
  | nil => rfl
  | cons x xs ih =>
    simp only [List.map_cons]
    cases hf : f x with
    | none => simp [collect]
    | some y =>
      simp only [Option.bind_some]
      cases hg : g x y with
      | none =>
        simp only [collect]
        cases collect (xs.map f) with
        | none => rfl
        | some ys => simp [zipCollect, hg]
      | some z =>
        simp only [collect_cons_some, ih]
        cases collect (xs.map f) with
        | none => rfl
        | some ys =>
          simp only [Option.map_some, Option.bind_some, zipCollect, hg]
          cases zipCollect g xs ys <;> rfl

theorem zipCollect_append_left {α β γ : Type} (f : α → β → Option γ) (as : List α) (bs cs : List β) (h : bs.length = as.length) :
    zipCollect f as (bs ++ cs) = zipCollect f as bs := by
  induction as generalizing bs with
  | nil => rfl
  | cons a as ih =>
    cases bs with
    | nil => simp at h
    | cons b bs =>
      simp only [List.cons_append, zipCollect]
      rw [ih bs (by simpa using h)]

theorem cell_eq_cellV (O : Oracles) (q : AggStmt) (key : List Value) (g : List Env) (item : AggItem) :
    cell O q key g item =
      (if isKeyKind item.kind then some Value.null else groupValue O q item.kind g).bind (cellV O q key item) := by
  by_cases hk : ∃ e c, item.kind = .groupKey e c
  · obtain ⟨e, c, hk⟩ := hk
    simp [cell, cellV, hk, isKeyKind]
  · have hk' : ∀ e c, item.kind ≠ .groupKey e c := fun e c he => hk ⟨e, c, he⟩
    rw [cell_nonkey O q key g item hk']
    have : isKeyKind item.kind = false := by
      cases h : item.kind <;> first | rfl | exact absurd h (hk' _ _)
    simp only [this, Bool.false_eq_true, if_false]
    cases groupValue O q item.kind g with
    | none => rfl
    | some v =>
      simp only [Option.bind_some, cellV]
      try (cases h : item.kind <;> first | rfl | exact absurd h (hk' _ _))

theorem perGroup_eq_slotValues {O : Oracles} {q : AggStmt} (hwf : StmtWF q) (k : List Value) (g : List Env) :
    perGroup O q (k, g) = (slotValues O q g).bind (perGroupV O q k) := by
  have hrow : row O q k g =
      (collect (q.items.map (fun it => if isKeyKind it.kind then some Value.null else groupValue O q it.kind g))).bind
        (zipCollect (cellV O q k) q.items) := by
    unfold row
    rw [← collect_bind_zip]
    congr 1
    apply List.map_congr_left
    intro item _
    exact cell_eq_cellV O q k g item
  simp only [perGroup, slotValues, collect_append_eq, hrow]
  cases hA : collect (q.items.map (fun it => if isKeyKind it.kind then some Value.null else groupValue O q it.kind g)) with
  | none => rfl
  | some x =>
    have hlen : x.length = q.items.length := by have := collect_length hA; simpa using this
    simp only [Option.bind_some]
    cases hh : q.having with
    | none =>
      have hB : q.havingAggs = [] := hwf.noHaving hh
      simp only [hB, List.map_nil, collect, Option.map_some, List.append_nil, Option.bind_some, perGroupV, accept, hh]
      cases zipCollect (cellV O q k) q.items x <;> rfl
    | some h =>
      have hacc : accept O q k g =
          (collect (q.havingAggs.map (fun p => groupValue O q p.2 g))).bind (fun y =>
            (zipCollect (fun (p : Nat × AggKind) v => some (p.1, v)) q.havingAggs y).bind (fun gvals =>
              (okOf (eval O { groupKeys := keyBindings q k, groupValues := gvals } h)).bind (fun v => okOf (condHolds v)))) := by
        unfold accept
        simp only [hh]
        have : q.havingAggs.map (fun (x : Nat × AggKind) => (groupValue O q x.2 g).map (fun v => (x.1, v))) =
            q.havingAggs.map (fun x => (groupValue O q x.2 g).bind (fun v => some (x.1, v))) := by
          apply List.map_congr_left; intro p _; cases groupValue O q p.2 g <;> rfl
        rw [this, collect_bind_zip]
        cases collect (q.havingAggs.map (fun p => groupValue O q p.2 g)) with
        | none => rfl
        | some y =>
          simp only [Option.bind_some]
          cases zipCollect (fun (p : Nat × AggKind) v => some (p.1, v)) q.havingAggs y <;> rfl
      rw [hacc]
      cases hB : collect (q.havingAggs.map (fun p => groupValue O q p.2 g)) with
      | none =>
        simp only [Option.bind_none, Option.map_none]
        cases zipCollect (cellV O q k) q.items x <;> rfl
      | some y =>
        simp only [Option.bind_some, Option.map_some, perGroupV, hh, zipCollect_append_left _ _ _ _ hlen]
        have hdrop : (x ++ y).drop q.items.length = y := by rw [← hlen]; simp
        rw [hdrop]
        cases zipCollect (cellV O q k) q.items x with
        | none => rfl
        | some r =>
          simp only [Option.bind_some]
          cases zipCollect (fun (p : Nat × AggKind) v => some (p.1, v)) q.havingAggs y with
          | none => rfl
          | some gvals =>
            cases okOf (eval O { groupKeys := keyBindings q k, groupValues := gvals } h) with
            | none => rfl
            | some v => cases okOf (condHolds v) <;> rfl

/-- the aggregate slots of a statement: (is a select-list slot, kind) -/
def slotList (q : AggStmt) : List (Bool × AggKind) :=
  q.items.map (fun it => (true, it.kind)) ++ q.havingAggs.map (fun p => (false, p.2))

theorem slotValues_eq (O : Oracles) (q : AggStmt) (g : List Env) :
    slotValues O q g = collect ((slotList q).map (fun s => if s.1 && isKeyKind s.2 then some Value.null else groupValue O q s.2 g)) := by
  simp only [slotValues, slotList, List.map_append, List.map_map]
  congr 2

def slotSummary (O : Oracles) (q : AggStmt) (g : List Env) (s : Bool × AggKind) : Option Summary :=
  if s.1 && isKeyKind s.2 then some .key else (arguments O q s.2 g).bind (summarize s.2)

def finishSlot (s : Bool × AggKind) (x : Summary) : Option Value :=
  if s.1 && isKeyKind s.2 then some .null else finishSummary s.2 x

/-- what a part remembers of one group: one summary per aggregate slot -/
def summaryRow (O : Oracles) (q : AggStmt) (_key : List Value) (g : List Env) : Option (List Summary) :=
  collect ((slotList q).map (slotSummary O q g))

/-- the slot values from the summaries -/
def finishRow (q : AggStmt) (ss : List Summary) : Option (List Value) := zipCollect finishSlot (slotList q) ss

theorem slotList_kinds {q : AggStmt} {s : Bool × AggKind} (h : s ∈ slotList q) : s.2 ∈ slotKinds q := by
  simp only [slotList, List.mem_append, List.mem_map] at h
  simp only [slotKinds, List.mem_append, List.mem_map]
  rcases h with ⟨it, hit, he⟩ | ⟨p, hp, he⟩
  · exact Or.inl ⟨it, hit, by rw [← he]⟩
  · exact Or.inr ⟨p, hp, by rw [← he]⟩

theorem slotValues_eq_finish {O : Oracles} {q : AggStmt} (hOI : ∀ kind ∈ slotKinds q, orderInsensitive kind = true)
    (key : List Value) (g : List Env) : slotValues O q g = (summaryRow O q key g).bind (finishRow q) := by
  rw [slotValues_eq]
  unfold summaryRow finishRow
  rw [← collect_bind_zip]
  congr 1
  apply List.map_congr_left
  intro s hs
  unfold slotSummary finishSlot
  by_cases hk : (s.1 && isKeyKind s.2) = true
  · simp [hk]
  · simp only [hk, Bool.false_eq_true, if_false]
    unfold groupValue
    cases arguments O q s.2 g with
    | none => rfl
    | some vs => simp only [Option.bind_some]; exact aggregate_eq_finish s.2 (hOI _ (slotList_kinds hs)) vs

/-- combination of two summary rows, slot by slot -/
def combineS : List (Bool × AggKind) → List Summary → List Summary → List Summary
  | s :: sl, x :: xs, y :: ys => combine s.2 x y :: combineS sl xs ys
  | _, _, _ => []

/-- the property's provisos for one group split into two parts -/
def SplitSafe (O : Oracles) (q : AggStmt) (g1 g2 : List Env) : Prop :=
  ∀ kind ∈ slotKinds q, ∀ v1 v2, arguments O q kind g1 = some v1 → arguments O q kind g2 = some v2 →
    (usesSums kind = true → SplitExact (nonNull v1) (nonNull v2)) ∧
    ((∃ e p, kind = .percentile e p) → ValuesExact (nonNull (v1 ++ v2)))

theorem summaryRow_append {O : Oracles} {q : AggStmt} (key : List Value) (g1 g2 : List Env) (hsafe : SplitSafe O q g1 g2)
    {a b r : List Summary} (h1 : summaryRow O q key g1 = some a) (h2 : summaryRow O q key g2 = some b)
    (h : summaryRow O q key (g1 ++ g2) = some r) : r = combineS (slotList q) a b := by
  refine collect_zip3 (c := fun s => combine s.2) (by intro a b; cases a <;> cases b <;> rfl) (fun _ _ _ _ _ _ => rfl)
    (fun s hsl x y z hs1 hs2 hs => ?_) h1 h2 h
  unfold slotSummary at hs hs1 hs2
  by_cases hkey : (s.1 && isKeyKind s.2) = true
  · simp only [hkey, if_true, Option.some.injEq] at hs hs1 hs2
    rw [← hs, ← hs1]; rfl
  · simp only [hkey, Bool.false_eq_true, if_false] at hs hs1 hs2
    cases ha1 : arguments O q s.2 g1 with
    | none => simp [ha1] at hs1
    | some v1 =>
      cases ha2 : arguments O q s.2 g2 with
      | none => simp [ha2] at hs2
      | some v2 =>
        rw [arguments_append ha1 ha2] at hs
        simp only [ha1, ha2, Option.bind_some] at hs hs1 hs2
        obtain ⟨hp1, hp2⟩ := hsafe s.2 (slotList_kinds hsl) v1 v2 ha1 ha2
        exact summarize_append s.2 v1 v2 hs hs1 hs2 hp1 hp2

/-- the table a list of keyed summary rows stands for: finishSummary every slot, then rows, HAVING, DISTINCT, LIMIT -/
def tableOfSummaries (O : Oracles) (q : AggStmt) (S : List (List Value × List Summary)) : Option (List (List Value)) :=
  match collect (S.map (fun ks => ((finishRow q ks.2).bind (perGroupV O q ks.1)))) with
  | none => none
  | some all =>
    some (match q.limit with
      | some n => (if q.distinct then firstRows (keptRows all) else keptRows all).take n
      | none => if q.distinct then firstRows (keptRows all) else keptRows all)

/-- the keyed summaries of the admitted rows: per group (ascending keys), one summary per aggregate slot -/
def keyedSummaries (O : Oracles) (q : AggStmt) (rows : List (List Value × Env)) : Option (List (List Value × List Summary)) :=
  keyedG (summaryRow O q) rows

theorem tableOfGroups_eq_summaries {O : Oracles} {q : AggStmt} (hwf : StmtWF q)
    (hOI : ∀ kind ∈ slotKinds q, orderInsensitive kind = true) (rows : List (List Value × Env)) :
    tableOfGroups O q (groups rows) = (keyedSummaries O q rows).bind (tableOfSummaries O q) := by
  rw [tableOfGroups_eq]
  unfold keyedSummaries keyedG
  have hper : ∀ kg : List Value × List Env, perGroup O q kg =
      ((summaryRow O q kg.1 kg.2).map (fun r => (kg.1, r))).bind (fun ks => (finishRow q ks.2).bind (perGroupV O q ks.1)) := by
    intro kg
    obtain ⟨k, g⟩ := kg
    rw [perGroup_eq_slotValues hwf, slotValues_eq_finish hOI k g]
    cases summaryRow O q k g <;> rfl
  have hmap : (groups rows).map (perGroup O q) = (groups rows).map (fun kg =>
      ((summaryRow O q kg.1 kg.2).map (fun r => (kg.1, r))).bind (fun ks => (finishRow q ks.2).bind (perGroupV O q ks.1))) :=
    List.map_congr_left (fun kg _ => hper kg)
  rw [hmap, collect_map_bind]
  cases collect ((groups rows).map (fun kg => (summaryRow O q kg.1 kg.2).map (fun r => (kg.1, r)))) <;> rfl

theorem summaries_of_table {O : Oracles} {q : AggStmt} (hwf : StmtWF q)
    (hOI : ∀ kind ∈ slotKinds q, orderInsensitive kind = true) {envs : List Env} {t : List (List Value)}
    (h : table O q envs = some t) :
    ∃ rows S, keyedRows O q envs = some rows ∧ KeysExact (rows.map (·.1)) ∧ keyedSummaries O q rows = some S ∧
      tableOfSummaries O q S = some t := by
  obtain ⟨rows, hr, _, hex, htab⟩ := table_eq_some h
  rw [tableOfGroups_eq_summaries hwf hOI] at htab
  cases hS : keyedSummaries O q rows with
  | none => rw [hS] at htab; simp at htab
  | some S => rw [hS] at htab; exact ⟨rows, S, hr, hex, hS, htab⟩

/-- the key-wise combination of the keyed summaries of two parts: the groups are the union (ascending); a group present in
both parts combines slot by slot (`combine`), a group present in one part keeps its summaries -/
abbrev mergeSummaries (q : AggStmt) (S₁ S₂ : List (List Value × List Summary)) : List (List Value × List Summary) :=
  mergeG (combineS (slotList q)) S₁ S₂

/-- **`agg_concat_merge_all` with the summaries named.** The admitted rows of the parts are `k₁`, `k₂`, those of the whole
`k₁ ++ k₂`; their keyed summaries are `S₁`, `S₂` and `mergeSummaries q S₁ S₂`; the three tables are `tableOfSummaries` of
these. -/
theorem table_concat_merge_summaries {O : Oracles} {q : AggStmt} (hwf : StmtWF q)
    (hOI : ∀ kind ∈ slotKinds q, orderInsensitive kind = true) (r₁ r₂ : List Env) {t t₁ t₂ : List (List Value)}
    (h : table O q (r₁ ++ r₂) = some t) (h₁ : table O q r₁ = some t₁) (h₂ : table O q r₂ = some t₂)
    (hsafe : ∀ k₁ k₂, keyedRows O q r₁ = some k₁ → keyedRows O q r₂ = some k₂ →
      ∀ k, SplitSafe O q (rowsOfKey k k₁) (rowsOfKey k k₂)) :
    ∃ k₁ k₂ S₁ S₂, keyedRows O q r₁ = some k₁ ∧ keyedRows O q r₂ = some k₂ ∧ keyedRows O q (r₁ ++ r₂) = some (k₁ ++ k₂) ∧
      keyedSummaries O q k₁ = some S₁ ∧ keyedSummaries O q k₂ = some S₂ ∧
      keyedSummaries O q (k₁ ++ k₂) = some (mergeSummaries q S₁ S₂) ∧
      tableOfSummaries O q S₁ = some t₁ ∧ tableOfSummaries O q S₂ = some t₂ ∧
      tableOfSummaries O q (mergeSummaries q S₁ S₂) = some t := by
  obtain ⟨k, S, hk, hex, hS, ht⟩ := summaries_of_table hwf hOI h
  obtain ⟨k₁, S₁, hk₁, _, hS₁, ht₁⟩ := summaries_of_table hwf hOI h₁
  obtain ⟨k₂, S₂, hk₂, _, hS₂, ht₂⟩ := summaries_of_table hwf hOI h₂
  have happ := keyedRows_append O q r₁ r₂ hk₁ hk₂
  have := happ
  rw [hk] at this
  simp only [Option.some.injEq] at this
  subst this
  have hm : S = mergeSummaries q S₁ S₂ :=
    keyedG_concat k₁ k₂ hex hS hS₁ hS₂ (fun key a b r ha hb hr =>
      summaryRow_append key _ _ (hsafe k₁ k₂ hk₁ hk₂ key) ha hb hr)
  subst hm
  exact ⟨k₁, k₂, S₁, S₂, hk₁, hk₂, happ, hS₁, hS₂, hS, ht₁, ht₂, ht⟩

/-- **`agg_concat_merge` for all order-insensitive aggregates.** For every statement whose aggregates are COUNT(*),
COUNT(c), COUNT(DISTINCT c), SUM, AVG, STDDEV, VARIANCE, MIN, MAX, PERCENTILE, BOOL_AND, BOOL_OR (any GROUP BY, WHERE,
HAVING incl. hidden aggregates, arithmetic wrappers, DISTINCT, LIMIT) and every two inputs: the tables over `r₁`, over
`r₂` and over `r₁ ++ r₂` are `tableOfSummaries` of keyed summaries `S₁`, `S₂` and of their key-wise combination
`mergeG (combineS …) S₁ S₂` — the groups are the union; in a group present in both parts counts add, distinct-value
sets unite, sums and sums of squares add (AVG, STDDEV, VARIANCE through their (sum, sum of squares, count) components),
minima and maxima combine, conjunctions and disjunctions combine, PERCENTILE's sorted multisets merge. -/
theorem table_concat_merge_all {O : Oracles} {q : AggStmt} (hwf : StmtWF q)
    (hOI : ∀ kind ∈ slotKinds q, orderInsensitive kind = true) (r₁ r₂ : List Env) {t t₁ t₂ : List (List Value)}
    (h : table O q (r₁ ++ r₂) = some t) (h₁ : table O q r₁ = some t₁) (h₂ : table O q r₂ = some t₂)
    (hsafe : ∀ k₁ k₂, keyedRows O q r₁ = some k₁ → keyedRows O q r₂ = some k₂ →
      ∀ k, SplitSafe O q (rowsOfKey k k₁) (rowsOfKey k k₂)) :
    ∃ S₁ S₂, tableOfSummaries O q S₁ = some t₁ ∧ tableOfSummaries O q S₂ = some t₂ ∧
      tableOfSummaries O q (mergeG (combineS (slotList q)) S₁ S₂) = some t := by
  obtain ⟨_, _, S₁, S₂, _, _, _, _, _, _, ht₁, ht₂, ht⟩ := table_concat_merge_summaries hwf hOI r₁ r₂ h h₁ h₂ hsafe
  exact ⟨S₁, S₂, ht₁, ht₂, ht⟩

end Sqlgrep
