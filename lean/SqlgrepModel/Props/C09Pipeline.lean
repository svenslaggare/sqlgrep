import SqlgrepModel.Props.C09
import SqlgrepModel.Props.Fixture
import SqlgrepModel.Lemmas.NoSkipPipeline
import SqlgrepModel.Lemmas.RowIndexPipeline
/-
C09 carried to the end-to-end model (`Model/Pipeline.lean`: the function the compiled driver executes for every `e2e`
case), in two respects.

1. **Results or an error message — never a crash, never skipped** (`runLowered_total_factFree`, `runLowered_records`,
   `runText_records`): `Props/Pipeline.lean` `runText_never_panics` already says the answer is never `panic`, but it may
   be `skip`. Here: for a query that calls none of `upper` / `lower` / `regexp_matches` / `now` (`queryFactFree`,
   decidable on the lowered statement) the only skips left are the two that concern facts about the INPUT
   (`"line facts"`: what `regex` says about an input line was not shipped; `"REAL rendering"`: the text of a REAL that
   gets printed was not shipped); with those facts present the answer is `.records error totalLines lines`:
   the records, with `Ok` or a reported error kind.

2. **`row[index]` sites, composed** (`engine_rows_and_indices_in_range`): `Props/C09.lean` `row_index_sites_in_range`
   is a statement about `extractRow` and the names `lowerCreate` produces. Here it is tied to the engine: the rows the
   engine model is handed by `Pipeline.runStatement` ARE `extractRow` outputs of the table whose names the engine
   indexes them by, so every admitted row has exactly `columns.length` cells, every index the engine computes from a
   column name (the join key indices `ki` of `lineEnvs` and `loadJoin`, the cells `columnsMapping` / `joinedMapping`
   pair with the names) is smaller than that, and the model's `getD … NULL` defaults are never taken. The engine model
   addresses projections and WHERE operands by NAME through the environment built from those pairs (as the Rust engine
   does through `create_columns_mapping`), so there is no further index.
-/
namespace Sqlgrep.Props.C09Pipeline
open Sqlgrep Sqlgrep.Pipeline Sqlgrep.Spec.Pipeline

/-- the lowered query text needs no evaluator fact: its statement calls none of `upper`, `lower`, `regexp_matches`,
`now` (`Stmt.factFree`); a text that is not a query has nothing to evaluate -/
def queryFactFree (query : LStmt) : Bool :=
  match stmtOf query with
  | some (stmt, _, _) => stmt.factFree
  | none => true

/-- **the engine part of the end-to-end run is never skipped** for a fact-free statement: whatever tables and files
exist, whatever the facts hold -/
theorem runStatement_not_skipped (F : Facts) (tables : List Table) (stmt : Stmt) (fromTable : String)
    (join : Option LJoin) (files : List (List Nat)) (t : TraceOut) (hq : stmt.factFree = true)
    (h : runStatement F tables stmt fromTable join files = some t) : t.out.skipped = none :=
  Pipeline.runStatement_not_skipped F factFreeFunc (NM_callFunction_factFree F.eval) tables stmt fromTable join files t hq h

theorem runLowered_total_of_not_skipped (F : Facts) (defs query : LStmt) (fmt : Print.Format) (single : Bool)
    (files : List (List Nat))
    (hns : ∀ tables stmt fromTable join t, stmtOf query = some (stmt, fromTable, join) →
      runStatement F tables stmt fromTable join files = some t → t.out.skipped = none) :
    (∃ e n ls, runLowered F defs query fmt single files = .records e n ls) ∨
    runLowered F defs query fmt single files = .notCreateTable ∨
    runLowered F defs query fmt single files = .notAQuery ∨
    runLowered F defs query fmt single files = .skip "line facts" ∨
    runLowered F defs query fmt single files = .skip "REAL rendering" := by
  cases ht : addTables defs with
  | none => right; left; unfold runLowered; rw [ht]
  | some tables =>
    cases hs : stmtOf query with
    | none => right; right; left; unfold runLowered; rw [ht]; simp only; rw [hs]
    | some p =>
      obtain ⟨stmt, fromTable, join⟩ := p
      rw [runLowered_eq_opt F defs query fmt single files tables stmt fromTable join ht hs]
      cases hr : runStatement F tables stmt fromTable join files with
      | none => exact .inr (.inr (.inr (.inl rfl)))
      | some t =>
        rw [answerOfOpt, answerOf_of_not_skipped F fmt single t (runStatement_no_panic F tables stmt fromTable join files t hr)
            (runStatement_aligned F tables stmt fromTable join files t hr) (hns tables stmt fromTable join t hs hr)]
        cases realsCover F t.calls with
        | true => left; exact ⟨_, _, _, rfl⟩
        | false => right; right; right; right; rfl

/-- **totality of the lowered run, for a fact-free query**: the answer is printed records (with `Ok` or a reported
error kind), "not a CREATE TABLE", "not a query", or one of the two skips that concern facts about the input — never
`panic`, never a skip for an evaluator fact -/
theorem runLowered_total_factFree (F : Facts) (defs query : LStmt) (fmt : Print.Format) (single : Bool)
    (files : List (List Nat)) (hq : queryFactFree query = true) :
    (∃ e n ls, runLowered F defs query fmt single files = .records e n ls) ∨
    runLowered F defs query fmt single files = .notCreateTable ∨
    runLowered F defs query fmt single files = .notAQuery ∨
    runLowered F defs query fmt single files = .skip "line facts" ∨
    runLowered F defs query fmt single files = .skip "REAL rendering" := by
  apply runLowered_total_of_not_skipped
  intro tables stmt fromTable join t hs hr
  unfold queryFactFree at hq
  rw [hs] at hq
  exact runStatement_not_skipped F tables stmt fromTable join files t hq hr

/-- **results or an error message**: a fact-free query over defined tables, with the facts about the input lines
present (`runStatement … = some t`) and the rendering of every printed REAL present (`realsCover`), ends in
`.records`: the printed lines of the run `t`, its line count, and `t.out.error` — `none` for `Ok`, `some kind` for a
reported error -/
theorem runLowered_records (F : Facts) (defs query : LStmt) (fmt : Print.Format) (single : Bool) (files : List (List Nat))
    (tables : List Table) (stmt : Stmt) (fromTable : String) (join : Option LJoin) (t : TraceOut)
    (ht : addTables defs = some tables) (hs : stmtOf query = some (stmt, fromTable, join))
    (hff : stmt.factFree = true)
    (hr : runStatement F tables stmt fromTable join files = some t) (hc : realsCover F t.calls = true) :
    runLowered F defs query fmt single files =
      .records t.out.error t.out.totalLines
        ((Print.printAll (realOracle F) fmt true (printCalls single t.calls)).map Print.Line.bytes) := by
  rw [runLowered_eq F defs query fmt single files tables stmt fromTable join t ht hs hr]
  exact answerOf_records F fmt single t (runStatement_no_panic F tables stmt fromTable join files t hr)
    (runStatement_aligned F tables stmt fromTable join files t hr)
    (runStatement_not_skipped F tables stmt fromTable join files t hff hr) hc

/-- the same from the two TEXTS (`hc`, `hp`: the facts about the texts were shipped — character classes, `Regex::new`
of the patterns) -/
theorem runText_records (F : Facts) (defsText queryText : List Char) (fmt : Print.Format) (single : Bool)
    (files : List (List Nat)) (defs query : LStmt) (tables : List Table) (stmt : Stmt) (fromTable : String)
    (join : Option LJoin) (t : TraceOut)
    (hc : classesCover F defsText = true ∧ classesCover F queryText = true)
    (hd : parseText (lexOracles F) (regexValidFn F) defsText = .stmt defs)
    (hp : (createPatterns defs).all (fun re => ((Utf8.decode re).bind (regexValidOf F)).isSome) = true)
    (hq : parseText (lexOracles F) (regexValidFn F) queryText = .stmt query)
    (ht : addTables defs = some tables) (hs : stmtOf query = some (stmt, fromTable, join))
    (hff : stmt.factFree = true)
    (hr : runStatement F tables stmt fromTable join files = some t) (hreal : realsCover F t.calls = true) :
    runText F defsText queryText fmt single files =
      .records t.out.error t.out.totalLines
        ((Print.printAll (realOracle F) fmt true (printCalls single t.calls)).map Print.Line.bytes) := by
  rw [runText_eq_runLowered F defsText queryText fmt single files defs query hc hd hp hq]
  exact runLowered_records F defs query fmt single files tables stmt fromTable join t ht hs hff hr hreal

/-! ### 1′. the same for EVERY query, over total oracle functions (third review, M6)

`queryFactFree` is a syntactic sub-class; the skip it excludes is an artefact of the finite evaluator tables the driver
works with. With total functions behind those tables (`F.eval.Total`: `upperF`, `lowerF`, `regexF`, `nowF` —
`Model/Eval.lean` `TotalOracles`) the engine part of the end-to-end run is never skipped, whatever the statement calls. -/

/-- the engine part of the end-to-end run is never skipped under a total evaluator oracle — every statement -/
theorem runStatement_not_skipped_total (F : Facts) (hT : F.eval.Total) (tables : List Table) (stmt : Stmt)
    (fromTable : String) (join : Option LJoin) (files : List (List Nat)) (t : TraceOut)
    (h : runStatement F tables stmt fromTable join files = some t) : t.out.skipped = none :=
  Pipeline.runStatement_not_skipped F anyFunc (fun f _ => NM_callFunction_total F.eval hT f) tables stmt fromTable join
    files t (Stmt.allFuncs_any stmt) h

/-- **totality of the lowered run, for every query, over total oracle functions**: the answer is printed records (with
`Ok` or a reported error kind), "not a CREATE TABLE", "not a query", or one of the two skips that concern facts about
the INPUT (what `regex` says about an input line / the text of a printed REAL was not shipped) — never `panic`, never a
skip for an evaluator fact, whether or not the query calls `upper`, `lower`, `regexp_matches`, `now` -/
theorem runLowered_total_of_total_oracles (F : Facts) (hT : F.eval.Total) (defs query : LStmt) (fmt : Print.Format)
    (single : Bool) (files : List (List Nat)) :
    (∃ e n ls, runLowered F defs query fmt single files = .records e n ls) ∨
    runLowered F defs query fmt single files = .notCreateTable ∨
    runLowered F defs query fmt single files = .notAQuery ∨
    runLowered F defs query fmt single files = .skip "line facts" ∨
    runLowered F defs query fmt single files = .skip "REAL rendering" :=
  runLowered_total_of_not_skipped F defs query fmt single files
    (fun tables stmt fromTable join t _ hr => runStatement_not_skipped_total F hT tables stmt fromTable join files t hr)

/-- **results or an error message, every query**: over defined tables, with the facts about the input lines present and
the rendering of every printed REAL present, the run under a total evaluator oracle ends in `.records`: the printed
lines, the line count, and `t.out.error` — `none` for `Ok`, `some kind` for a reported error -/
theorem runLowered_records_total (F : Facts) (hT : F.eval.Total) (defs query : LStmt) (fmt : Print.Format) (single : Bool)
    (files : List (List Nat)) (tables : List Table) (stmt : Stmt) (fromTable : String) (join : Option LJoin) (t : TraceOut)
    (ht : addTables defs = some tables) (hs : stmtOf query = some (stmt, fromTable, join))
    (hr : runStatement F tables stmt fromTable join files = some t) (hc : realsCover F t.calls = true) :
    runLowered F defs query fmt single files =
      .records t.out.error t.out.totalLines
        ((Print.printAll (realOracle F) fmt true (printCalls single t.calls)).map Print.Line.bytes) := by
  rw [runLowered_eq F defs query fmt single files tables stmt fromTable join t ht hs hr]
  exact answerOf_records F fmt single t (runStatement_no_panic F tables stmt fromTable join files t hr)
    (runStatement_aligned F tables stmt fromTable join files t hr)
    (runStatement_not_skipped_total F hT tables stmt fromTable join files t hr) hc

/-- **an aggregate statement that a TEXT lowers to has at least one select-list item** — `result_rows_by_column[0]`
(aggregate_execution.rs:276) is in range for every accepted statement (`Props/C09.aggregate_statement_has_items`, from
the first stage of `runText`) -/
theorem parseText_aggregate_has_items (lo : Lex.Oracles) (rv : List Char → Bool) (text : List Char) (a : AggStmt)
    (t : String) (f : Option String) (j : Option LJoin) (h : parseText lo rv text = .stmt (.aggregate a t f j)) :
    a.items ≠ [] := by
  obtain ⟨ts, op, -, hp, hl⟩ := parseText_stmt_inv h
  exact Props.C09.aggregate_statement_has_items PrecTables.code _ ts op rv a t f j hp hl

/-- **engine rows and indices are in range.** Let the definitions text lower to `defs` (so the tables are what
`lowerCreate` produced) and let the run be prepared (`prepare`: the FROM table, and with a JOIN the joined table and the
joined file, exist, and the facts about the lines were shipped — in every other branch of `runStatement` the engine is
handed no line at all: the input is empty or the join set-up reports its error before the first line). Then the engine
run of the end-to-end model is `runBatchT … p.qy (some p.joined) p.files`, and

* every admitted row (`anyResult`: the only rows `executeLine` / `loadJoin` look at, `not_admitted_row_is_not_indexed`)
  of every input file has exactly `p.qy.table.columns.length` cells, so every index of a column name of the queried
  table — in particular the join key index `ki` of `lineEnvs` — is a position of the row and `getD ki NULL` is the cell;
* every admitted row of the joined file has exactly `j.joined.columns.length` cells, so the joined key index `ki` of
  `loadJoin` is a position of the row;
* every partner row `lineEnvs` finds in the join index has `j.joined.columns.length` cells (it is an admitted row of
  the joined file), so `joinedMapping` pairs every joined column with its cell.
`lineEnv_binds_every_column` / `columns_zip_full` (Lemmas/RowIndexPipeline.lean) draw the consequence for
`columnsMapping`: with such a row the zip of names and cells drops nothing and every column name is bound. -/
theorem engine_rows_and_indices_in_range (lo : Lex.Oracles) (rv : List Char → Bool) (defsText : List Char) (defs : LStmt)
    (tables : List Table) (F : Facts) (stmt : Stmt) (fromTable : String) (join : Option LJoin) (files : List (List Nat))
    (p : Prepared)
    (hd : parseText lo rv defsText = .stmt defs) (ht : addTables defs = some tables)
    (hp : prepare F tables stmt fromTable join files = some p) :
    runStatement F tables stmt fromTable join files = some (runBatchT F.eval p.qy (some p.joined) p.files) ∧
    (∀ f ∈ p.files, ∀ fl ∈ f, anyResult fl.line.row = true →
      fl.line.row.length = p.qy.table.columns.length ∧
      ∀ name i, indexOf? p.qy.table.columns name = some i →
        i < fl.line.row.length ∧ ∃ v, fl.line.row[i]? = some v ∧ fl.line.row.getD i .null = v) ∧
    (∀ j, p.qy.join = some j → ∀ fl ∈ p.joined, anyResult fl.line.row = true →
      fl.line.row.length = j.joined.columns.length ∧
      ∀ name i, indexOf? j.joined.columns name = some i →
        i < fl.line.row.length ∧ ∃ v, fl.line.row[i]? = some v ∧ fl.line.row.getD i .null = v) ∧
    (∀ j idx, p.qy.join = some j → loadJoin j (p.joined.map (·.line)) = .ok idx →
      ∀ key partners, joinIndexGet idx key = some partners → ∀ r ∈ partners, r.length = j.joined.columns.length) := by
  have hal := parseText_tables_aligned lo rv defsText defs tables hd ht
  obtain ⟨hfiles, hjoined⟩ := prepare_rows_full F tables stmt fromTable join files p hal hp
  have inRange : ∀ (names : List String) (row : List Value), row.length = names.length → ∀ name i,
      indexOf? names name = some i → i < row.length ∧ ∃ v, row[i]? = some v ∧ row.getD i .null = v := by
    intro names row hlen name i hi
    obtain ⟨v, hv, hg⟩ := row_index_in_range names row hlen name i hi
    exact ⟨(List.getElem?_eq_some_iff.1 hv).1, v, hv, hg⟩
  refine ⟨(runStatement_of_prepare F tables stmt fromTable join files p hp).1, ?_, ?_, ?_⟩
  · intro f hf fl hfl ha
    have hlen := hfiles f hf fl hfl ha
    exact ⟨hlen, inRange _ _ hlen⟩
  · intro j hj fl hfl ha
    have hlen := hjoined j hj fl hfl ha
    exact ⟨hlen, inRange _ _ hlen⟩
  · intro j idx hj hl key partners hget
    refine join_partners_full j _ idx ?_ hl key partners hget
    intro l hl' ha
    obtain ⟨fl, hfl, e⟩ := List.mem_map.1 hl'
    subst e
    exact hjoined j hj fl hfl ha

/-- … hence the evaluator environment of every admitted input line binds every column of the queried table: a column
reference that names a column of the table is never `ColumnNotFound` for want of a cell -/
theorem engine_env_binds_every_column (lo : Lex.Oracles) (rv : List Char → Bool) (defsText : List Char) (defs : LStmt)
    (tables : List Table) (F : Facts) (stmt : Stmt) (fromTable : String) (join : Option LJoin) (files : List (List Nat))
    (p : Prepared)
    (hd : parseText lo rv defsText = .stmt defs) (ht : addTables defs = some tables)
    (hp : prepare F tables stmt fromTable join files = some p) :
    ∀ f ∈ p.files, ∀ fl ∈ f, anyResult fl.line.row = true → ∀ name i, indexOf? p.qy.table.columns name = some i →
      ∃ v, (envOfInsertions (columnsMapping p.qy.table fl.line.row fl.line.text)).get .table name = some v := by
  intro f hf fl hfl ha name i hi
  have h := (engine_rows_and_indices_in_range lo rv defsText defs tables F stmt fromTable join files p hd ht hp).2.1 f hf fl hfl ha
  exact lineEnv_binds_every_column p.qy.table fl.line.row fl.line.text h.1 name i hi

/-! ### non-vacuity: a real CREATE TABLE text and a real SELECT text through every stage (kernel-evaluated) -/

/-- what the `regex` crate says about the four input lines under the table's pattern -/
def exFacts : Facts :=
  { regexValid := [("^([0-9]+);([a-z]+)$".toList, true)]
    lines := [(strBytes "1;x", { captures := [(strBytes "^([0-9]+);([a-z]+)$", some [some (strBytes "1;x"), some (strBytes "1"), some (strBytes "x")])] }),
              (strBytes "2;y", { captures := [(strBytes "^([0-9]+);([a-z]+)$", some [some (strBytes "2;y"), some (strBytes "2"), some (strBytes "y")])] }),
              (strBytes "3;z", { captures := [(strBytes "^([0-9]+);([a-z]+)$", some [some (strBytes "3;z"), some (strBytes "3"), some (strBytes "z")])] }),
              (strBytes "???", { captures := [(strBytes "^([0-9]+);([a-z]+)$", none)] })] }

def exDefs : List Char := "CREATE TABLE t (line = '^([0-9]+);([a-z]+)$', line[1] => a INT, line[2] => b TEXT);".toList
def exQuery : List Char := "SELECT b FROM t WHERE a > 1".toList
def exFile : List Nat := strBytes "1;x\n2;y\n???\n3;z\n"

/-- all hypotheses of `runText_records` and of `engine_rows_and_indices_in_range` hold together on the example: both
texts lower, the query is fact-free, the table exists, the line facts are there (`prepare` answers), no REAL is
printed -/
def exHyps (F : Facts) (defsText queryText : List Char) (files : List (List Nat)) : Bool :=
  classesCover F defsText && classesCover F queryText &&
  match parseText (lexOracles F) (regexValidFn F) defsText, parseText (lexOracles F) (regexValidFn F) queryText with
  | .stmt defs, .stmt query =>
    (createPatterns defs).all (fun re => ((Utf8.decode re).bind (regexValidOf F)).isSome) && queryFactFree query &&
    match addTables defs, stmtOf query with
    | some tables, some (stmt, fromTable, join) =>
      stmt.factFree && (prepare F tables stmt fromTable join files).isSome &&
      (match runStatement F tables stmt fromTable join files with
        | some t => realsCover F t.calls
        | none => false)
    | _, _ => false
  | _, _ => false

example : exHyps exFacts exDefs exQuery [exFile] = true := by
  unfold exDefs exQuery; rw [String.toList_ofList, String.toList_ofList, exHyps, parseText_eq_K, parseText_eq_K]; decide +kernel

/-- the conclusion of `runText_records` on it: `Ok`, four lines consumed, two records -/
example : Props.Pipeline.recordsOf (runText exFacts exDefs exQuery .text false [exFile]) =
    some (none, 4, [strBytes "b: 'y'", strBytes "b: 'z'"]) := by
  unfold exDefs exQuery; rw [String.toList_ofList, String.toList_ofList, runText_eq_K]; decide +kernel

/-- the rows the engine is handed for the example (with `any_result` of each), and the column names it indexes them by -/
def exEngineInput (F : Facts) (defsText queryText : List Char) (files : List (List Nat)) :
    Option (List String × List (List String × Bool)) :=
  match parseText (lexOracles F) (regexValidFn F) defsText, parseText (lexOracles F) (regexValidFn F) queryText with
  | .stmt defs, .stmt query =>
    match addTables defs, stmtOf query with
    | some tables, some (stmt, fromTable, join) =>
      (prepare F tables stmt fromTable join files).map (fun p => (p.qy.table.columns, p.files.flatten.map (fun fl => (fl.line.row.map display, anyResult fl.line.row))))
    | _, _ => none
  | _, _ => none

/-- the conclusion of `engine_rows_and_indices_in_range` on it: columns `a`, `b`; three admitted rows with two cells
each (cells shown as `Display` prints them); the line that does not match gives a row that is not admitted (all NULL) -/
example : exEngineInput exFacts exDefs exQuery [exFile] =
    some (["a", "b"], [(["1", "'x'"], true), (["2", "'y'"], true), (["NULL", "NULL"], false), (["3", "'z'"], true)]) := by
  unfold exDefs exQuery; rw [String.toList_ofList, String.toList_ofList, exEngineInput, parseText_eq_K, parseText_eq_K]
  decide +kernel

/-- a query that is NOT fact-free: `now()` makes the run of the model a skip, whatever was shipped -/
example : (match runText exFacts exDefs "SELECT now() FROM t".toList .text false [exFile] with
    | .skip w => some w
    | _ => none) = some "now" := by
  generalize h : runText _ _ _ _ _ _ = r
  unfold exDefs at h; rw [String.toList_ofList, String.toList_ofList, runText_eq_K] at h; subst h; decide +kernel

/-- … but under a total evaluator oracle (`runLowered_total_of_total_oracles`) the same text ends with records: four
lines consumed, one record per admitted row -/
def exFactsTotal : Facts := { exFacts with eval := Props.C09.exTotal.oracles }
example : exFactsTotal.eval.Total := ⟨Props.C09.exTotal, rfl⟩
example : (match runText exFactsTotal exDefs "SELECT now() FROM t".toList .text false [exFile] with
    | .records e n ls => some (e, n, ls.length)
    | _ => none) = some (none, 4, 3) := by
  generalize h : runText _ _ _ _ _ _ = r
  unfold exDefs at h; rw [String.toList_ofList, String.toList_ofList, runText_eq_K] at h; subst h; decide +kernel

/-- `parseText_aggregate_has_items` is not vacuous: an aggregate text lowers to an aggregate statement (two items) -/
example : (match parseText (lexOracles exFacts) (regexValidFn exFacts) "SELECT b, COUNT(*) FROM t GROUP BY b".toList with
    | .stmt (.aggregate a _ _ _) => some a.items.length
    | _ => none) = some 2 := by
  generalize h : parseText _ _ _ = p
  rw [String.toList_ofList, parseText_eq_K] at h; subst h; decide +kernel

/-! … and with a JOIN: two CREATE TABLE statements in the definitions text, the joined file `j.log` -/

def capFact (l a b : String) : Text × LineFacts :=
  (strBytes l, { captures := [(strBytes "^([0-9]+);([a-z]+)$", some [some (strBytes l), some (strBytes a), some (strBytes b)])] })

def exFactsJ : Facts :=
  { exFacts with lines := exFacts.lines ++ [capFact "2;q" "2" "q", capFact "3;r" "3" "r", capFact "3;s" "3" "s"]
                 fs := [("j.log", strBytes "2;q\n3;r\n3;s\n")] }

def exDefsJ : List Char :=
  ("CREATE TABLE t (line = '^([0-9]+);([a-z]+)$', line[1] => a INT, line[2] => b TEXT); " ++
   "CREATE TABLE u (line = '^([0-9]+);([a-z]+)$', line[1] => c INT, line[2] => d TEXT);").toList

def exQueryJ : List Char := "SELECT b, d FROM t INNER JOIN u::'j.log' ON t.a = u.c".toList

example : exHyps exFactsJ exDefsJ exQueryJ [exFile] = true := by
  unfold exDefsJ exQueryJ
  rw [String.toList_append, String.toList_ofList, String.toList_ofList, String.toList_ofList, exHyps, parseText_eq_K, parseText_eq_K]
  decide +kernel

example : Props.Pipeline.recordsOf (runText exFactsJ exDefsJ exQueryJ .text false [exFile]) =
    some (none, 4, [strBytes "b: 'y', d: 'q'", strBytes "b: 'z', d: 'r'", strBytes "b: 'z', d: 's'", []]) := by
  unfold exDefsJ exQueryJ
  rw [String.toList_append, String.toList_ofList, String.toList_ofList, String.toList_ofList, runText_eq_K]; decide +kernel

/-- the joined rows the engine is handed, with the joined table's column names and the two key columns -/
def exJoinedInput (F : Facts) (defsText queryText : List Char) (files : List (List Nat)) :
    Option ((String × String) × List String × List (List String × Bool)) :=
  match parseText (lexOracles F) (regexValidFn F) defsText, parseText (lexOracles F) (regexValidFn F) queryText with
  | .stmt defs, .stmt query =>
    match addTables defs, stmtOf query with
    | some tables, some (stmt, fromTable, join) =>
      (prepare F tables stmt fromTable join files).bind (fun p => p.qy.join.map (fun j =>
        ((j.joinerColumn, j.joinedColumn), j.joined.columns,
          p.joined.map (fun fl => (fl.line.row.map display, anyResult fl.line.row)))))
    | _, _ => none
  | _, _ => none

example : exJoinedInput exFactsJ exDefsJ exQueryJ [exFile] =
    some (("a", "c"), ["c", "d"], [(["2", "'q'"], true), (["3", "'r'"], true), (["3", "'s'"], true)]) := by
  unfold exDefsJ exQueryJ
  rw [String.toList_append, String.toList_ofList, String.toList_ofList, String.toList_ofList, exJoinedInput, parseText_eq_K,
    parseText_eq_K]
  decide +kernel

end Sqlgrep.Props.C09Pipeline
