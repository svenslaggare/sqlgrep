import SqlgrepModel.Model.ParseStmt
import SqlgrepModel.Lemmas.SimpAttr
/-
The parser of `Model/ParseExpr.lean` and `Model/ParseStmt.lean` propagates a failed sub-parse by a written-out
`match x with | .err e s => .err e s | .fuel => .fuel | .ok a s => f a s`, as the Rust code does with `?`. Every such match is
`x.bind f`; Lean compiles one matcher per result type and order of alternatives, hence one equation per matcher.
`simp only [parse_bind]` brings a function body into `bind` form, in which each invariant of the parser needs one rule for
`bind`.

Which equations a new model function `f` needs: `set_option pp.match false in #print f` shows its matchers `f.match_1`, `f.match_2`, …; those whose
discriminant is a `PRes` and whose `.err` / `.fuel` alternatives hand the failure on belong here (`#check @f.match_k` gives the
order of the alternatives; a matcher of the same shape made for an earlier function of the same file is reused under that
function's name). The numbers change when a `match` is added to `f`. A missing equation fails nowhere in this file: `simp only
[parse_bind]` leaves the raw matcher in the body and every walker stops in front of it.
-/
namespace Sqlgrep.Parse
variable {β : Type}

@[parse_bind] theorem clauseLoop.match_1_eq_bind (x : PRes (Clauses × Bool)) (f : Clauses × Bool → PSt → PRes β) :
    clauseLoop.match_1 (fun _ => PRes β) x f (fun e s => .err e s) (fun _ => .fuel) = x.bind f := by cases x <;> rfl
@[parse_bind] theorem clauseTurn.match_1_eq_bind (x : PRes PJoin) (f : PJoin → PSt → PRes β) :
    clauseTurn.match_1 (fun _ => PRes β) x f (fun e s => .err e s) (fun _ => .fuel) = x.bind f := by cases x <;> rfl
@[parse_bind] theorem clauseTurn.match_3_eq_bind (x : PRes (List PExpr)) (f : List PExpr → PSt → PRes β) :
    clauseTurn.match_3 (fun _ => PRes β) x f (fun e s => .err e s) (fun _ => .fuel) = x.bind f := by cases x <;> rfl
@[parse_bind] theorem clauseTurn.match_5_eq_bind (x : PRes Int) (f : Int → PSt → PRes β) :
    clauseTurn.match_5 (fun _ => PRes β) x f (fun e s => .err e s) (fun _ => .fuel) = x.bind f := by cases x <;> rfl
@[parse_bind] theorem colItem.match_1_eq_bind (x : PRes PRegexMode) (f : PRegexMode → PSt → PRes β) :
    colItem.match_1 (fun _ => PRes β) x f (fun e s => .err e s) (fun _ => .fuel) = x.bind f := by cases x <;> rfl
@[parse_bind] theorem colItem.match_3_eq_bind (x : PRes PColDef) (f : PColDef → PSt → PRes β) :
    colItem.match_3 (fun _ => PRes β) x f (fun e s => .err e s) (fun _ => .fuel) = x.bind f := by cases x <;> rfl
@[parse_bind] theorem colItem.match_5_eq_bind (x : PRes (List PRegexRef)) (f : List PRegexRef → PSt → PRes β) :
    colItem.match_5 (fun _ => PRes β) x f (fun e s => .err e s) (fun _ => .fuel) = x.bind f := by cases x <;> rfl
@[parse_bind] theorem colItem.match_7_eq_bind (x : PRes (List PJsonStep)) (f : List PJsonStep → PSt → PRes β) :
    colItem.match_7 (fun _ => PRes β) x f (fun e s => .err e s) (fun _ => .fuel) = x.bind f := by cases x <;> rfl
@[parse_bind] theorem colLoop.match_3_eq_bind (x : PRes (Option (Patterns × List PColDef))) (f : Option (Patterns × List PColDef) → PSt → PRes β) :
    colLoop.match_3 (fun _ => PRes β) x f (fun e s => .err e s) (fun _ => .fuel) = x.bind f := by cases x <;> rfl
@[parse_bind] theorem multiCreateLoop.match_1_eq_bind (x : PRes PCreate) (f : PCreate → PSt → PRes β) :
    multiCreateLoop.match_1 (fun _ => PRes β) x f (fun e s => .err e s) (fun _ => .fuel) = x.bind f := by cases x <;> rfl
@[parse_bind] theorem parseCreateTable.match_1_eq_bind (x : PRes (Patterns × List PColDef)) (f : Patterns × List PColDef → PSt → PRes β) :
    parseCreateTable.match_1 (fun _ => PRes β) x f (fun e s => .err e s) (fun _ => .fuel) = x.bind f := by cases x <;> rfl
@[parse_bind] theorem parseDefineColumn.match_8_eq_bind (x : PRes VType) (f : VType → PSt → PRes β) :
    parseDefineColumn.match_8 (fun _ => PRes β) x f (fun e s => .err e s) (fun _ => .fuel) = x.bind f := by cases x <;> rfl
@[parse_bind] theorem parseExpr.match_1_eq_bind (x : PRes PExpr) (f : PExpr → PSt → PRes β) :
    parseExpr.match_1 (fun _ => PRes β) x f (fun e s => .err e s) (fun _ => .fuel) = x.bind f := by cases x <;> rfl
@[parse_bind] theorem parseJoin.match_1_eq_bind (x : PRes (List Char)) (f : List Char → PSt → PRes β) :
    parseJoin.match_1 (fun _ => PRes β) x f (fun e s => .err e s) (fun _ => .fuel) = x.bind f := by cases x <;> rfl
@[parse_bind] theorem parseJoin.match_3_eq_bind (x : PRes Unit) (f : Unit → PSt → PRes β) :
    parseJoin.match_3 (fun _ => PRes β) x f (fun e s => .err e s) (fun _ => .fuel) = x.bind f := by cases x <;> rfl
@[parse_bind] theorem parsePrimary.match_3_eq_bind (x : PRes (List Char)) (f : List Char → PSt → PRes β) :
    parsePrimary.match_3 (fun _ => PRes β) x (fun e s => .err e s) (fun _ => .fuel) f = x.bind f := by cases x <;> rfl
@[parse_bind] theorem parseRhs.match_1_eq_bind (x : PRes Unit) (f : Unit → PSt → PRes β) :
    parseRhs.match_1 (fun _ => PRes β) x (fun e s => .err e s) (fun _ => .fuel) f = x.bind f := by cases x <;> rfl
@[parse_bind] theorem parseRhs.match_3_eq_bind (x : PRes PExpr) (f : PExpr → PSt → PRes β) :
    parseRhs.match_3 (fun _ => PRes β) x (fun e s => .err e s) (fun _ => .fuel) f = x.bind f := by cases x <;> rfl
@[parse_bind] theorem parseRhs.match_5_eq_bind (x : PRes (List PExpr)) (f : List PExpr → PSt → PRes β) :
    parseRhs.match_5 (fun _ => PRes β) x (fun e s => .err e s) (fun _ => .fuel) f = x.bind f := by cases x <;> rfl
@[parse_bind] theorem parseRhs.match_9_eq_bind (x : PRes Int) (f : Int → PSt → PRes β) :
    parseRhs.match_9 (fun _ => PRes β) x (fun e s => .err e s) (fun _ => .fuel) f = x.bind f := by cases x <;> rfl
@[parse_bind] theorem parseSelect.match_1_eq_bind (x : PRes Clauses) (f : Clauses → PSt → PRes β) :
    parseSelect.match_1 (fun _ => PRes β) x f (fun e s => .err e s) (fun _ => .fuel) = x.bind f := by cases x <;> rfl
@[parse_bind] theorem parseSelect.match_3_eq_bind (x : PRes (List (Option (List Char) × PExpr))) (f : List (Option (List Char) × PExpr) → PSt → PRes β) :
    parseSelect.match_3 (fun _ => PRes β) x f (fun e s => .err e s) (fun _ => .fuel) = x.bind f := by cases x <;> rfl
@[parse_bind] theorem parseSelect.match_5_eq_bind (x : PRes Bool) (f : Bool → PSt → PRes β) :
    parseSelect.match_5 (fun _ => PRes β) x f (fun e s => .err e s) (fun _ => .fuel) = x.bind f := by cases x <;> rfl
@[parse_bind] theorem parseType.match_3_eq_bind (x : PRes Nat) (f : Nat → PSt → PRes β) :
    parseType.match_3 (fun _ => PRes β) x f (fun e s => .err e s) (fun _ => .fuel) = x.bind f := by cases x <;> rfl
@[parse_bind] theorem projLoop.match_1_eq_bind (x : PRes (Option (List Char))) (f : Option (List Char) → PSt → PRes β) :
    projLoop.match_1 (fun _ => PRes β) x f (fun e s => .err e s) (fun _ => .fuel) = x.bind f := by cases x <;> rfl
@[parse_bind] theorem projLoop.match_3_eq_bind (x : PRes PExpr) (f : PExpr → PSt → PRes β) :
    projLoop.match_3 (fun _ => PRes β) x f (fun e s => .err e s) (fun _ => .fuel) = x.bind f := by cases x <;> rfl

variable {α γ : Type}

theorem bind_assoc (x : PRes α) (K : α → PSt → PRes β) (K2 : β → PSt → PRes γ) :
    (x.bind K).bind K2 = x.bind fun a s => (K a s).bind K2 := by
  cases x <;> rfl

theorem bind_eq_ok {x : PRes α} {K : α → PSt → PRes β} {r : β} {s' : PSt} (h : x.bind K = .ok r s') :
    ∃ a s, x = .ok a s ∧ K a s = .ok r s' := by
  cases x with
  | ok a s => exact ⟨a, s, rfl, h⟩
  | err e s => cases h
  | fuel => cases h

end Sqlgrep.Parse
